import CedarVerif.Lemmas.LevelFaithful
import CedarVerif.Lemmas.TpeDecision
import CedarVerif.Lemmas.TypecheckJudgment
/-
C14 / C15 bridge to C03: the typed expression the TPE model receives is `te.erase` for the typed AST `te = annotate e caps`
the typechecker hands back (Cedar/Validation/Level.lean; harness/src/c14.rs `typed_conditions` serialises
`typed.into_expr()`, Driver/Ops/Tpe.lean decodes it as `TPolicy.typed`).  By induction on the typing derivation (`HasType`), in a
world that satisfies the C03 premises: the residual `try_from_typed_expr` starts from is `TypeSafe`.  The shape conditions are read
off "the node evaluates to a value of its static type or fails with an entity / overflow / extension error" (`Good`, C03's
soundness at the node) and `Level.annot_res`'s faithfulness for the node.
-/
namespace Cedar.Tpe.Valid
open Cedar Cedar.Tpe Cedar.C03
open Cedar.Level (TExpr annotate annotateList annotateKVs eraseList eraseKVs)

variable {m : ValidationMode} {s : Schema} {env : RequestEnv} {w : World}

theorem good_not_type {e : Expr} {τ : CedarType} {c : Capabilities} (g : Good w e τ c) {R : Residual}
    (evN : R.eval w.q w.es = w.eval e) {x : Result Value} (hx : R.eval w.q w.es = x) : x ≠ .error .type := by
  rw [← hx, evN]
  rcases g.1 with ⟨err, he, hp⟩ | ⟨v, hv, _, _⟩
  · rw [he]
    rcases hp with rfl | rfl | rfl <;> simp
  · rw [hv]; simp

theorem typeErr_bind {α β γ} {x : Result α} {f : α → Result β} {g : α → Result γ}
    (h : ∀ a, g a = .error .type → f a = .error .type) (hx : (x >>= g) = .error .type) : (x >>= f) = .error .type := by
  cases x with
  | error e => cases hx; rfl
  | ok a => exact h a hx

/-- whether a binary application is a type error does not depend on the store: the operand shapes are checked before
the store is consulted -/
theorem applyBinary_type_store (es : Entities) (op : BinaryOp) (v1 v2 : Value)
    (h : applyBinary [] op v1 v2 = .error .type) : applyBinary es op v1 v2 = .error .type := by
  cases op with
  | mem =>
    refine typeErr_bind (fun u => ?_) h
    cases v2 with
    | prim p => cases p <;> first | exact id | exact nofun
    | set vs => exact typeErr_bind fun _ => nofun
    | _ => exact id
  -- over the empty store the lookup fails with an entity error (`getTag`) or answers `false` (`hasTag`)
  | getTag => exact typeErr_bind (fun u => typeErr_bind fun t h' => nomatch (show Except.error ErrClass.entity = _ from h')) h
  | hasTag => exact typeErr_bind (fun u => typeErr_bind fun t h' => nomatch (show Except.ok _ = _ from h')) h
  | _ => exact h

theorem hasAttrV_type_store (es : Entities) (a : String) (v : Value)
    (h : hasAttrV [] a v = .error .type) : hasAttrV es a v = .error .type := by
  cases v with
  | prim p => cases p <;> first | exact h | exact nomatch h
  | record kvs => exact nomatch h
  | _ => exact h

/-- what C03 (`soundM`) and C16's faithfulness (`annot_res`) give for one typed node: the residual the TPE starts from
evaluates like the node, and the node is `Good` -/
theorem node_of (hWF : SchemaWF2 s) (henv : EnvMatches s env w.q) (hs : Sem s env w) (hsl : w.sl = [])
    {e : Expr} (hf : InFragmentM m env e = true) {caps : Capabilities} {τ : CedarType} {c' : Capabilities}
    (ht : typeOf m s env e caps = .ok (τ, c')) {te : TExpr} (ha : annotate m s env e caps = .ok te)
    (hc : CapsHold w caps) {R : Residual} (hR : Residual.ofExpr te.erase = some R) :
    R.eval w.q w.es = w.eval e ∧ Good w e τ c' := by
  have hfa := (Level.annot_res (n := 0) hWF henv hs e hf caps te ha hc).faithful
  rw [hsl] at hfa
  refine ⟨?_, (Level.good_of hWF henv hs hf ht hc).2⟩
  rw [ofExpr_eval te.erase R hR, hfa]
  show evaluate w.q w.es [] e = evaluate w.q w.es w.sl e
  rw [hsl]

theorem isBoolR_of_good {e : Expr} {τ : CedarType} {c : Capabilities} (g : Good w e τ c) (hb : Boolish τ) {R : Residual}
    (hR : R.eval w.q w.es = w.eval e) : IsBoolR w.q w.es R := by
  intro v hv
  rw [hR] at hv
  rcases g.1.bool_cases hb with ⟨err, he, _⟩ | ⟨b, hb', _, _⟩
  · rw [he] at hv; cases hv
  · rw [hb'] at hv; cases hv; exact ⟨b, rfl⟩

theorem evB_eval {e : Expr} {R : Residual} (hR : R.eval w.q w.es = w.eval e) {b : Bool} (h : EvB w.q w.es R b) :
    evaluate w.q w.es w.sl e = .ok (.prim (.bool b)) := by
  have : w.eval e = evaluate w.q w.es w.sl e := rfl
  rw [← this, ← hR]; exact h

theorem annot_typeSafeList_of (es : List Expr) (caps : Capabilities)
    (ih : ∀ x, x ∈ es → ∀ τx cx, typeOf m s env x caps = .ok (τx, cx) → InFragmentM m env x = true →
      ∀ (te : TExpr), annotate m s env x caps = .ok te → CapsHold w caps →
      ∀ (R : Residual), Residual.ofExpr te.erase = some R → TypeSafe w.q w.es R) :
    InFragmentMList m env es = true → ∀ (τs : List CedarType),
      typeOfList m s env es caps = .ok τs → ∀ (ts : List TExpr), annotateList m s env es caps = .ok ts → CapsHold w caps →
      ∀ (rs : List Residual), Residual.ofExprList (eraseList ts) = some rs → ∀ r, r ∈ rs → TypeSafe w.q w.es r := by
  induction es with
  | nil =>
    intro _ τs _ ts ha _ rs hR
    cases ha; cases hR
    exact fun r hr => nomatch hr
  | cons e es ihes =>
    intro hf τs ht ts ha hc rs hR
    simp only [InFragmentMList, Bool.and_eq_true] at hf
    obtain ⟨τ, c, τs', h1, h2, _⟩ := typeOfList_cons ht
    obtain ⟨t, ts', ha1, ha2, rfl⟩ := Level.annotateList_cons_ok ha
    simp only [eraseList, Residual.ofExprList] at hR
    cases hr1 : Residual.ofExpr t.erase <;> cases hr2 : Residual.ofExprList (eraseList ts') <;> simp [hr1, hr2] at hR
    subst hR
    rename_i r1 rs'
    intro r hr
    rcases List.mem_cons.mp hr with rfl | hr
    · exact ih e List.mem_cons_self _ _ h1 hf.1 t ha1 hc _ hr1
    · exact ihes (fun y hy => ih y (List.mem_cons_of_mem _ hy)) hf.2 τs' h2 ts' ha2 hc rs' hr2 r hr

theorem annot_typeSafeKVs_of (es : List (String × Expr)) (caps : Capabilities)
    (ih : ∀ kx, kx ∈ es → ∀ τx cx, typeOf m s env kx.2 caps = .ok (τx, cx) → InFragmentM m env kx.2 = true →
      ∀ (te : TExpr), annotate m s env kx.2 caps = .ok te → CapsHold w caps →
      ∀ (R : Residual), Residual.ofExpr te.erase = some R → TypeSafe w.q w.es R) :
    InFragmentMKVs m env es = true → ∀ (attrs : Attrs),
      typeOfKVs m s env es caps = .ok attrs → ∀ (ts : List (String × TExpr)), annotateKVs m s env es caps = .ok ts →
      CapsHold w caps → ∀ (rs : List (String × Residual)), Residual.ofExprKVs (eraseKVs ts) = some rs →
      ∀ kv, kv ∈ rs → TypeSafe w.q w.es kv.2 := by
  induction es with
  | nil =>
    intro _ attrs _ ts ha _ rs hR
    cases ha; cases hR
    exact fun r hr => nomatch hr
  | cons ke es ihes =>
    obtain ⟨k, e⟩ := ke
    intro hf attrs ht ts ha hc rs hR
    simp only [InFragmentMKVs, Bool.and_eq_true] at hf
    obtain ⟨τ, c, attrs', h1, h2, _⟩ := typeOfKVs_cons ht
    obtain ⟨t, ts', ha1, ha2, rfl⟩ := Level.annotateKVs_cons_ok ha
    simp only [eraseKVs, Residual.ofExprKVs] at hR
    cases hr1 : Residual.ofExpr t.erase <;> cases hr2 : Residual.ofExprKVs (eraseKVs ts') <;> simp [hr1, hr2] at hR
    subst hR
    rename_i r1 rs'
    intro r hr
    rcases List.mem_cons.mp hr with rfl | hr
    · exact ih (k, e) List.mem_cons_self _ _ h1 hf.1 t ha1 hc _ hr1
    · exact ihes (fun y hy => ih y (List.mem_cons_of_mem _ hy)) hf.2 attrs' h2 ts' ha2 hc rs' hr2 r hr

theorem annot_typeSafe_of (hWF : SchemaWF2 s) (henv : EnvMatches s env w.q) (hs : Sem s env w) (hsl : w.sl = [])
    {e : Expr} {caps : Capabilities} {τ : CedarType} {c : Capabilities} (d : HasType m s env e caps τ c) :
    InFragmentM m env e = true → ∀ (te : TExpr), annotate m s env e caps = .ok te → CapsHold w caps →
      ∀ (R : Residual), Residual.ofExpr te.erase = some R → TypeSafe w.q w.es R := by
  induction d with
  | lit _ => intro _ te ha _ R hR; cases ha; cases hR; exact .concrete _ _
  | var _ => intro _ te ha _ R hR; cases ha; cases hR; exact .var _ _
  | slot _ => intro _ te ha _ R hR; cases ha; cases hR
  | iteTrue dc _ ihc iht =>
    intro hf te ha hc R hR
    simp only [InFragmentM, Bool.and_eq_true] at hf
    obtain ⟨tc, tt, hac, hat, rfl⟩ := Level.annotate_iteTrue_inv dc.typeOf_eq ha
    simp only [TExpr.erase, Residual.ofExpr] at hR
    cases hrc : Residual.ofExpr tc.erase <;> cases hrt : Residual.ofExpr tt.erase <;> simp [hrc, hrt] at hR
    subst hR
    rename_i rc rt
    obtain ⟨evc, gc⟩ := node_of hWF henv hs hsl hf.1.1.1 dc.typeOf_eq hac hc hrc
    obtain ⟨hcv, hcc⟩ := Level.tt_cases gc
    exact .ite (ihc hf.1.1.1 tc hac hc rc hrc) (isBoolR_of_good gc (Or.inr ⟨_, rfl⟩) evc)
      (fun _ => iht hf.1.1.2 tt hat (capsHold_union.mpr ⟨hc, hcc⟩) rt hrt)
      (fun hff => (Level.not_false_of hcv (evB_eval evc hff)).elim)
  | iteFalse dc _ ihc ihe =>
    intro hf te ha hc R hR
    simp only [InFragmentM, Bool.and_eq_true] at hf
    obtain ⟨tc, te', hac, hae, rfl⟩ := Level.annotate_iteFalse_inv dc.typeOf_eq ha
    simp only [TExpr.erase, Residual.ofExpr] at hR
    cases hrc : Residual.ofExpr tc.erase <;> cases hre : Residual.ofExpr te'.erase <;> simp [hrc, hre] at hR
    subst hR
    rename_i rc re
    obtain ⟨evc, gc⟩ := node_of hWF henv hs hsl hf.1.1.1 dc.typeOf_eq hac hc hrc
    have hcv := Level.ff_cases gc
    exact .ite (ihc hf.1.1.1 tc hac hc rc hrc) (isBoolR_of_good gc (Or.inr ⟨_, rfl⟩) evc)
      (fun htt => (Level.not_true_of hcv (evB_eval evc htt)).elim) (fun _ => ihe hf.1.2 te' hae hc re hre)
  | ite dc hsc hT hF _ _ _ ihc iht ihe =>
    intro hf te ha hc R hR
    simp only [InFragmentM, Bool.and_eq_true] at hf
    obtain ⟨tc, tt, te', hac, hat, hae, rfl⟩ := Level.annotate_ite_inv dc.typeOf_eq hT hF ha
    simp only [TExpr.erase, Residual.ofExpr] at hR
    cases hrc : Residual.ofExpr tc.erase <;> cases hrt : Residual.ofExpr tt.erase <;>
      cases hre : Residual.ofExpr te'.erase <;> simp [hrc, hrt, hre] at hR
    subst hR
    rename_i rc rt re
    obtain ⟨evc, gc⟩ := node_of hWF henv hs hsl hf.1.1.1 dc.typeOf_eq hac hc hrc
    exact .ite (ihc hf.1.1.1 tc hac hc rc hrc) (isBoolR_of_good gc hsc evc)
      (fun htt => iht hf.1.1.2 tt hat (capsHold_union.mpr ⟨hc, Level.caps_of_true gc (evB_eval evc htt)⟩) rt hrt)
      (fun _ => ihe hf.1.2 te' hae hc re hre)
  | andFalse da iha =>
    intro hf te ha hc R hR
    simp only [InFragmentM, Bool.and_eq_true] at hf
    exact iha hf.1 te (Level.annotate_andFalse_inv da.typeOf_eq ha) hc R hR
  | and da hsa hF db hsb iha ihb =>
    intro hf te ha hc R hR
    simp only [InFragmentM, Bool.and_eq_true] at hf
    obtain ⟨ta, tb, haa, hab, rfl⟩ := Level.annotate_and_inv da.typeOf_eq hF ha
    simp only [TExpr.erase, Residual.ofExpr] at hR
    cases hra : Residual.ofExpr ta.erase <;> cases hrb : Residual.ofExpr tb.erase <;> simp [hra, hrb] at hR
    subst hR
    rename_i ra rb
    obtain ⟨eva, ga⟩ := node_of hWF henv hs hsl hf.1 da.typeOf_eq haa hc hra
    have hb : EvB w.q w.es ra true → TypeSafe w.q w.es rb ∧ IsBoolR w.q w.es rb := by
      intro htt
      have hc' := capsHold_union.mpr ⟨hc, Level.caps_of_true ga (evB_eval eva htt)⟩
      obtain ⟨evb, gb⟩ := node_of hWF henv hs hsl hf.2 db.typeOf_eq hab hc' hrb
      exact ⟨ihb hf.2 tb hab hc' rb hrb, isBoolR_of_good gb hsb evb⟩
    exact .and (iha hf.1 ta haa hc ra hra) (isBoolR_of_good ga hsa eva) (fun h => (hb h).1) (fun h => (hb h).2)
  | orTrue da iha =>
    intro hf te ha hc R hR
    simp only [InFragmentM, Bool.and_eq_true] at hf
    exact iha hf.1 te (Level.annotate_orTrue_inv da.typeOf_eq ha) hc R hR
  | or da hsa hT db hsb iha ihb =>
    intro hf te ha hc R hR
    simp only [InFragmentM, Bool.and_eq_true] at hf
    obtain ⟨ta, tb, haa, hab, rfl⟩ := Level.annotate_or_inv da.typeOf_eq hT ha
    simp only [TExpr.erase, Residual.ofExpr] at hR
    cases hra : Residual.ofExpr ta.erase <;> cases hrb : Residual.ofExpr tb.erase <;> simp [hra, hrb] at hR
    subst hR
    rename_i ra rb
    obtain ⟨eva, ga⟩ := node_of hWF henv hs hsl hf.1 da.typeOf_eq haa hc hra
    obtain ⟨evb, gb⟩ := node_of hWF henv hs hsl hf.2 db.typeOf_eq hab hc hrb
    exact .or (iha hf.1 ta haa hc ra hra) (isBoolR_of_good ga hsa eva)
      (fun _ => ihb hf.2 tb hab hc rb hrb) (fun _ => isBoolR_of_good gb hsb evb)
  | unary da hr iha =>
    intro hf te ha hc R hR
    obtain ⟨evN, gN⟩ := node_of hWF henv hs hsl hf (HasType.unary da hr).typeOf_eq ha hc hR
    simp only [InFragmentM] at hf
    obtain ⟨ta, haa, rfl⟩ := Level.annotate_unary_ok ha
    simp only [TExpr.erase, Residual.ofExpr, Option.map_eq_some_iff] at hR
    obtain ⟨ra, hra, rfl⟩ := hR
    exact .unary (iha hf ta haa hc ra hra) (fun v hv => good_not_type gN evN (by simp only [Residual.eval, RKind.eval, hv, bindR]))
  | binary da db hr iha ihb =>
    intro hf te ha hc R hR
    obtain ⟨evN, gN⟩ := node_of hWF henv hs hsl hf (HasType.binary da db hr).typeOf_eq ha hc hR
    simp only [InFragmentM, Bool.and_eq_true] at hf
    obtain ⟨ta, tb, haa, hab, rfl⟩ := Level.annotate_binary_ok ha
    simp only [TExpr.erase, Residual.ofExpr] at hR
    cases hra : Residual.ofExpr ta.erase <;> cases hrb : Residual.ofExpr tb.erase <;> simp [hra, hrb] at hR
    subst hR
    rename_i ra rb
    exact .binary (iha hf.1.2 ta haa hc ra hra) (ihb hf.2 tb hab hc rb hrb)
      (fun v1 v2 h1 h2 hbad => good_not_type gN evN (by simp only [Residual.eval, RKind.eval, h1, h2, bindR])
        (applyBinary_type_store w.es _ v1 v2 hbad))
  | getAttr _ _ ihe =>
    intro hf te ha hc R hR
    simp only [InFragmentM] at hf
    obtain ⟨τe, ce, te', hte, hae, rfl⟩ := Level.annotate_getAttr_ok ha
    simp only [TExpr.erase, Residual.ofExpr, Option.map_eq_some_iff] at hR
    obtain ⟨re, hre, rfl⟩ := hR
    exact .getAttr (ihe hf te' hae hc re hre)
  | hasAttr de hr ihe =>
    intro hf te ha hc R hR
    obtain ⟨evN, gN⟩ := node_of hWF henv hs hsl hf (HasType.hasAttr de hr).typeOf_eq ha hc hR
    simp only [InFragmentM] at hf
    obtain ⟨τe, ce, te', hte, hae, rfl⟩ := Level.annotate_hasAttr_ok ha
    simp only [TExpr.erase, Residual.ofExpr, Option.map_eq_some_iff] at hR
    obtain ⟨re, hre, rfl⟩ := hR
    exact .hasAttr (ihe hf te' hae hc re hre) (fun v hv hbad =>
      good_not_type gN evN (by simp only [Residual.eval, RKind.eval, hv, bindR]) (hasAttrV_type_store w.es _ v hbad))
  | like de hse ihe =>
    intro hf te ha hc R hR
    obtain ⟨evN, gN⟩ := node_of hWF henv hs hsl hf (HasType.like de hse).typeOf_eq ha hc hR
    simp only [InFragmentM] at hf
    obtain ⟨te', hae, rfl⟩ := Level.annotate_like_ok ha
    simp only [TExpr.erase, Residual.ofExpr, Option.map_eq_some_iff] at hR
    obtain ⟨re, hre, rfl⟩ := hR
    exact .like (ihe hf te' hae hc re hre) (fun v hv => good_not_type gN evN (by simp only [Residual.eval, RKind.eval, hv, bindR]))
  | is de hr ihe =>
    intro hf te ha hc R hR
    obtain ⟨evN, gN⟩ := node_of hWF henv hs hsl hf (HasType.is de hr).typeOf_eq ha hc hR
    simp only [InFragmentM] at hf
    obtain ⟨te', hae, rfl⟩ := Level.annotate_is_ok ha
    simp only [TExpr.erase, Residual.ofExpr, Option.map_eq_some_iff] at hR
    obtain ⟨re, hre, rfl⟩ := hR
    exact .is (ihe hf te' hae hc re hre) (fun v hv => good_not_type gN evN (by simp only [Residual.eval, RKind.eval, hv, bindR]))
  | call _ hL _ ih =>
    intro hf te ha hc R hR
    simp only [InFragmentM] at hf
    obtain ⟨ts, hl, rfl⟩ := Level.annotate_call_ok ha
    simp only [TExpr.erase, Residual.ofExpr, Option.map_eq_some_iff] at hR
    obtain ⟨rs, hrs, rfl⟩ := hR
    exact .call (annot_typeSafeList_of _ _ ih hf _ hL ts hl hc rs hrs)
  | set _ hL _ _ ih =>
    intro hf te ha hc R hR
    simp only [InFragmentM, Bool.and_eq_true] at hf
    obtain ⟨ts, hl, rfl⟩ := Level.annotate_set_ok ha
    simp only [TExpr.erase, Residual.ofExpr, Option.map_eq_some_iff] at hR
    obtain ⟨rs, hrs, rfl⟩ := hR
    exact .set (annot_typeSafeList_of _ _ ih hf.1 _ hL ts hl hc rs hrs)
  | record _ hL ih =>
    intro hf te ha hc R hR
    simp only [InFragmentM, Bool.and_eq_true] at hf
    obtain ⟨ts, hl, rfl⟩ := Level.annotate_record_ok ha
    simp only [TExpr.erase, Residual.ofExpr, Option.map_eq_some_iff] at hR
    obtain ⟨rs, hrs, rfl⟩ := hR
    exact .record (annot_typeSafeKVs_of _ _ ih hf.1 _ hL ts hl hc rs hrs)

theorem annot_typeSafe (hWF : SchemaWF2 s) (henv : EnvMatches s env w.q) (hs : Sem s env w) (hsl : w.sl = []) :
    ∀ (e : Expr), InFragmentM m env e = true → ∀ (caps : Capabilities) (x : CedarType × Capabilities),
      typeOf m s env e caps = .ok x → ∀ (te : TExpr), annotate m s env e caps = .ok te → CapsHold w caps →
      ∀ (R : Residual), Residual.ofExpr te.erase = some R → TypeSafe w.q w.es R :=
  fun e hf caps x ht => annot_typeSafe_of hWF henv hs hsl (typeOf_hasType e caps x.1 x.2 ht) hf

theorem annot_typeSafeList (hWF : SchemaWF2 s) (henv : EnvMatches s env w.q) (hs : Sem s env w) (hsl : w.sl = []) :
    ∀ (es : List Expr), InFragmentMList m env es = true → ∀ (caps : Capabilities) (τs : List CedarType),
      typeOfList m s env es caps = .ok τs → ∀ (ts : List TExpr), annotateList m s env es caps = .ok ts → CapsHold w caps →
      ∀ (rs : List Residual), Residual.ofExprList (eraseList ts) = some rs → ∀ r, r ∈ rs → TypeSafe w.q w.es r :=
  fun es hf caps => annot_typeSafeList_of es caps
    (fun x _ τx cx hx => annot_typeSafe_of hWF henv hs hsl (typeOf_hasType x caps τx cx hx)) hf

theorem annot_typeSafeKVs (hWF : SchemaWF2 s) (henv : EnvMatches s env w.q) (hs : Sem s env w) (hsl : w.sl = []) :
    ∀ (es : List (String × Expr)), InFragmentMKVs m env es = true → ∀ (caps : Capabilities) (attrs : Attrs),
      typeOfKVs m s env es caps = .ok attrs → ∀ (ts : List (String × TExpr)), annotateKVs m s env es caps = .ok ts →
      CapsHold w caps → ∀ (rs : List (String × Residual)), Residual.ofExprKVs (eraseKVs ts) = some rs →
      ∀ kv, kv ∈ rs → TypeSafe w.q w.es kv.2 :=
  fun es hf caps => annot_typeSafeKVs_of es caps
    (fun kx _ τx cx hx => annot_typeSafe_of hWF henv hs hsl (typeOf_hasType kx.2 caps τx cx hx)) hf

end Cedar.Tpe.Valid
