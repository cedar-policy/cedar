import CedarVerif.Lemmas.ExtRenderDigits
import CedarVerif.Lemmas.ExtIPReject
/-
C10 / C07, ip literals.  The outer structure of `IPAddr.parse` on canonical `addr/prefix` text: ASCII byte length, the prefix-length
reader on `decDigits`, and `parse_text_prefix` for any address text `parseAddr` reads (IPv6: `ExtRenderV6`).  IPv4: the dotted quad
written with `decDigits` (= `toString`, no leading zeros), which is what `Display` of an IPv4 `IPAddr` prints.
-/
namespace Cedar
namespace CJson
open Ext Ext.IPAddr

theorem byteLen_ascii (s : List Char) (h : ∀ c, c ∈ s → c.toNat < 128) : byteLen s = s.length := by
  have hfold : ∀ (s : List Char) (acc : Nat), (∀ c, c ∈ s → c.toNat < 128) →
      s.foldl (fun acc c => acc + utf8Len c) acc = acc + s.length := by
    intro s
    induction s with
    | nil => intro acc _; rfl
    | cons c cs ih =>
      intro acc h
      have hc : utf8Len c = 1 := by simp [utf8Len, h c (List.mem_cons_self ..)]
      rw [List.foldl_cons, hc, ih _ (fun c hc => h c (List.mem_cons_of_mem _ hc)), List.length_cons]
      omega
  simp [byteLen, hfold s 0 h]

theorem digit_ascii {c : Char} (h : isDigit c = true) : c.toNat < 128 := by
  have := (isDigit_iff c).mp h
  omega

theorem countChar_zero (c : Char) (s : List Char) (h : c ∉ s) : countChar c s = 0 := by
  simp only [countChar, List.length_eq_zero_iff, List.filter_eq_nil_iff, beq_iff_eq]
  intro a ha he
  exact h (he ▸ ha)

theorem parsePrefix_decDigits (p max maxLen : Nat) (hp : p ≤ max) (hmax : max ≤ 255) (hlen : 0 < maxLen)
    (hfit : max < 10 ^ maxLen) : parsePrefix (decDigits p) max maxLen = some p := by
  obtain ⟨_, hdig, hval⟩ := decDigits_spec p
  obtain ⟨h4, h3, _⟩ := decDigits_head_ok p
  have hlen' : (decDigits p).length ≤ maxLen := decDigits_length_le p maxLen hlen (by omega)
  have hb : byteLen (decDigits p) = (decDigits p).length := byteLen_ascii _ (fun c hc => digit_ascii (hdig c hc))
  have h1 : ¬ byteLen (decDigits p) > maxLen := by omega
  have h2 : (decDigits p).any (fun c => !isDigit c) = false := by
    rw [List.any_eq_false]
    intro c hc
    simp [hdig c hc]
  have h5 : ¬ p > 255 := by omega
  have h6 : ¬ p > max := by omega
  simp only [parsePrefix, h1, h2, h3, h4, hval, h5, h6, if_false, Bool.false_eq_true]

theorem parse_addr_prefix (a p : List Char) (v6 : Bool) (addr pl : Nat)
    (hlen : byteLen (a ++ '/' :: p) ≤ 43) (hcd : containsColonsAndDots (a ++ '/' :: p) = false) (hs : '/' ∉ a)
    (ha : parseAddr a = some (v6, addr))
    (hp : (if v6 then parsePrefix p 128 3 else parsePrefix p 32 2) = some pl) :
    IPAddr.parse (String.ofList (a ++ '/' :: p)) = some (.ipaddr v6 addr pl) := by
  have h1 : ¬ byteLen (a ++ '/' :: p) > 43 := by omega
  simp only [IPAddr.parse, String.toList_ofList, h1, if_false, hcd, Bool.false_eq_true,
    splitOnceSlash_append a p hs, ha, hp]

theorem parse_text_prefix (t : List Char) (v6 : Bool) (addr p : Nat)
    (hch : ∀ c, c ∈ t → c.toNat < 128 ∧ c ≠ '/') (hfree : ':' ∉ t ∨ '.' ∉ t) (hlen : t.length ≤ 39)
    (ha : parseAddr t = some (v6, addr)) (hp : p ≤ if v6 then 128 else 32) :
    IPAddr.parse (String.ofList (t ++ '/' :: decDigits p)) = some (.ipaddr v6 addr p) := by
  obtain ⟨_, hdig, _⟩ := decDigits_spec p
  have hp128 : p ≤ 128 := by cases v6 <;> simp at hp <;> omega
  have hplen : (decDigits p).length ≤ 3 := decDigits_length_le p 3 (by decide) (by omega)
  -- the tail `/prefix` is ASCII and has neither ':' nor '.'
  have htail : ∀ c, c ∈ '/' :: decDigits p → c.toNat < 128 ∧ c ≠ ':' ∧ c ≠ '.' := by
    intro c hc
    rcases List.mem_cons.mp hc with rfl | hc
    · decide
    · have hd := hdig c hc
      exact ⟨digit_ascii hd, by intro e; subst e; revert hd; decide, by intro e; subst e; revert hd; decide⟩
  have hbl : byteLen (t ++ '/' :: decDigits p) ≤ 43 := by
    rw [byteLen_ascii _ (fun c hc => (List.mem_append.mp hc).elim (fun h => (hch c h).1) (fun h => (htail c h).1))]
    simp only [List.length_append, List.length_cons]
    omega
  have hcd : containsColonsAndDots (t ++ '/' :: decDigits p) = false := by
    rcases hfree with h | h
    · have : countChar ':' (t ++ '/' :: decDigits p) = 0 :=
        countChar_zero _ _ (fun hc => (List.mem_append.mp hc).elim h (fun h' => (htail _ h').2.1 rfl))
      simp [containsColonsAndDots, this]
    · have : countChar '.' (t ++ '/' :: decDigits p) = 0 :=
        countChar_zero _ _ (fun hc => (List.mem_append.mp hc).elim h (fun h' => (htail _ h').2.2 rfl))
      simp [containsColonsAndDots, this]
  refine parse_addr_prefix t (decDigits p) v6 addr p hbl hcd (fun h => (hch _ h).2 rfl) ha ?_
  cases v6
  · exact parsePrefix_decDigits p 32 2 hp (by decide) (by decide) (by decide)
  · exact parsePrefix_decDigits p 128 3 hp (by decide) (by decide) (by decide)

theorem readOctet_decDigits (o : Nat) (rest : List Char) (ho : o < 256) (hr : noDigitHead rest) :
    readOctet (decDigits o ++ rest) = some (o, rest) := by
  obtain ⟨_, _, hval⟩ := decDigits_spec o
  obtain ⟨hem, _, h2⟩ := decDigits_head_ok o
  have hsp := spanDigits_append (decDigits o) rest (decDigits_allDigits o) hr
  have hlen : (decDigits o).length ≤ 3 := decDigits_length_le o 3 (by decide) (by omega)
  have h1 : ((decDigits o).isEmpty || decide ((decDigits o).length > 3)) = false := by
    simp [hem]; omega
  have h3 : ¬ o > 255 := by omega
  simp only [readOctet, hsp, h1, h2, hval, h3, if_false, Bool.false_eq_true]

theorem slash_not_digit : isDigit '/' = false := by decide

theorem readV4_dotted (o1 o2 o3 o4 : Nat) (rest : List Char) (h1 : o1 < 256) (h2 : o2 < 256) (h3 : o3 < 256)
    (h4 : o4 < 256) (hr : ∀ c r, rest = c :: r → isDigit c = false) :
    readV4 (decDigits o1 ++ '.' :: (decDigits o2 ++ '.' :: (decDigits o3 ++ '.' :: (decDigits o4 ++ rest)))) =
      some (((o1 * 256 + o2) * 256 + o3) * 256 + o4, rest) := by
  have hd : ∀ (t : List Char) c r, '.' :: t = c :: r → isDigit c = false := by
    intro t c r h; cases h; decide
  exact readV4_eq_some.mpr ⟨o1, _, o2, _, o3, _, o4, readOctet_decDigits o1 _ h1 (hd _), readOctet_decDigits o2 _ h2 (hd _),
    readOctet_decDigits o3 _ h3 (hd _), readOctet_decDigits o4 rest h4 hr, rfl⟩

def v4Text (o1 o2 o3 o4 : Nat) : List Char :=
  decDigits o1 ++ '.' :: (decDigits o2 ++ '.' :: (decDigits o3 ++ '.' :: decDigits o4))

theorem v4Text_chars (o1 o2 o3 o4 : Nat) (c : Char) (hc : c ∈ v4Text o1 o2 o3 o4) : isDigit c = true ∨ c = '.' := by
  simp only [v4Text, List.mem_append, List.mem_cons] at hc
  rcases hc with h | rfl | h | rfl | h | rfl | h
  · exact Or.inl ((decDigits_spec o1).2.1 c h)
  · exact Or.inr rfl
  · exact Or.inl ((decDigits_spec o2).2.1 c h)
  · exact Or.inr rfl
  · exact Or.inl ((decDigits_spec o3).2.1 c h)
  · exact Or.inr rfl
  · exact Or.inl ((decDigits_spec o4).2.1 c h)

theorem v4Text_length (o1 o2 o3 o4 : Nat) (h1 : o1 < 256) (h2 : o2 < 256) (h3 : o3 < 256) (h4 : o4 < 256) :
    (v4Text o1 o2 o3 o4).length ≤ 15 := by
  have l1 := decDigits_length_le o1 3 (by decide) (by omega)
  have l2 := decDigits_length_le o2 3 (by decide) (by omega)
  have l3 := decDigits_length_le o3 3 (by decide) (by omega)
  have l4 := decDigits_length_le o4 3 (by decide) (by omega)
  simp only [v4Text, List.length_append, List.length_cons]
  omega

theorem parse_v4Text_prefix (o1 o2 o3 o4 p : Nat) (h1 : o1 < 256) (h2 : o2 < 256) (h3 : o3 < 256) (h4 : o4 < 256)
    (hp : p ≤ 32) :
    IPAddr.parse (String.ofList (v4Text o1 o2 o3 o4 ++ '/' :: decDigits p)) =
      some (.ipaddr false (((o1 * 256 + o2) * 256 + o3) * 256 + o4) p) := by
  have hch := v4Text_chars o1 o2 o3 o4
  have hrd := readV4_dotted o1 o2 o3 o4 [] h1 h2 h3 h4 noDigitHead_nil
  simp only [List.append_nil] at hrd
  have hpa : parseAddr (v4Text o1 o2 o3 o4) = some (false, ((o1 * 256 + o2) * 256 + o3) * 256 + o4) := by
    simp only [parseAddr, v4Text, hrd]
  refine parse_text_prefix _ false _ p ?_ (Or.inl ?_) ?_ hpa hp
  · intro c hc
    rcases hch c hc with h | rfl
    · exact ⟨digit_ascii h, by intro e; subst e; revert h; decide⟩
    · decide
  · intro hc
    rcases hch _ hc with h | h <;> revert h <;> decide
  · have := v4Text_length o1 o2 o3 o4 h1 h2 h3 h4
    omega

theorem parse_renderIp_v4 (a p : Nat) (ha : a < 2 ^ 32) (hp : p ≤ 32) :
    IPAddr.parse (String.ofList (renderIp false a p)) = some (.ipaddr false a p) := by
  have h := parse_v4Text_prefix (a / 16777216 % 256) (a / 65536 % 256) (a / 256 % 256) (a % 256) p
    (Nat.mod_lt _ (by decide)) (Nat.mod_lt _ (by decide)) (Nat.mod_lt _ (by decide)) (Nat.mod_lt _ (by decide)) hp
  -- the top octet is the whole quotient, and each step undoes one division by 256
  have e : ((a / 16777216 % 256 * 256 + a / 65536 % 256) * 256 + a / 256 % 256) * 256 + a % 256 = a := by
    have htop : a / 16777216 % 256 = a / 16777216 :=
      Nat.mod_eq_of_lt (Nat.div_lt_of_lt_mul ((by decide : (2 : Nat) ^ 32 = 16777216 * 256) ▸ ha))
    have d3 : a / 16777216 = a / 65536 / 256 := (Nat.div_div_eq_div_mul a 65536 256).symm
    have d2 : a / 65536 = a / 256 / 256 := (Nat.div_div_eq_div_mul a 256 256).symm
    rw [htop, d3, Nat.div_add_mod', d2, Nat.div_add_mod', Nat.div_add_mod']
  rw [e] at h
  simpa [renderIp, renderV4, joinWith, v4Text] using h

example : IPAddr.parse (String.ofList (renderIp false 0xc0a80001 24)) = some (.ipaddr false 0xc0a80001 24) :=
  parse_renderIp_v4 _ _ (by decide) (by decide)
example : String.ofList (renderIp false 0xc0a80001 24) = "192.168.0.1/24" := by decide +kernel

end CJson
end Cedar
