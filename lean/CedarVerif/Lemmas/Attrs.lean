import CedarVerif.Cedar.Validation.Types
import CedarVerif.Lemmas.Data
/-
Attribute lists of record and entity types are association lists: `Attrs.find?` and `SchemaAttrs.find?` are `lookupKV`
(Cedar/Data.lean), so what Lemmas/Data.lean says of `lookupKV` holds of them; predicates that ask something of every attribute
type (`monoAttrs`, `ndAttrs`, `attrsSchematic`, …) are characterised once (`attrsAll_iff`).
-/
namespace Cedar

theorem Attrs.find?_eq_lookupKV : ∀ (attrs : Attrs) (k : String), Attrs.find? attrs k = lookupKV attrs k
  | [], _ => rfl
  | (k', qt) :: rest, k => by simp only [Attrs.find?, lookupKV, Attrs.find?_eq_lookupKV rest k]

theorem SchemaAttrs.find?_eq_lookupKV : ∀ (attrs : SchemaAttrs) (k : String), SchemaAttrs.find? attrs k = lookupKV attrs k
  | [], _ => rfl
  | (k', qt) :: rest, k => by simp only [SchemaAttrs.find?, lookupKV, SchemaAttrs.find?_eq_lookupKV rest k]

theorem find_mem {attrs : Attrs} {k : String} {r : Bool} {t : CedarType} (h : Attrs.find? attrs k = some (r, t)) : (k, r, t) ∈ attrs :=
  lookupKV_mem (Attrs.find?_eq_lookupKV attrs k ▸ h)

/-- a Boolean predicate on attribute lists that is the conjunction of a predicate on the attribute types -/
theorem attrsAll_iff {f : CedarType → Bool} {fa : Attrs → Bool} (h0 : fa [] = true)
    (h1 : ∀ k r t rest, fa ((k, r, t) :: rest) = (f t && fa rest)) :
    ∀ {attrs : Attrs}, fa attrs = true ↔ ∀ k r t, (k, r, t) ∈ attrs → f t = true
  | [] => by simp [h0]
  | (k, r, t) :: rest => by
    simp only [h1, Bool.and_eq_true, attrsAll_iff h0 h1 (attrs := rest), List.mem_cons, Prod.mk.injEq]
    exact ⟨fun ⟨h, hr⟩ k' r' t' hm => hm.elim (fun e => e.2.2 ▸ h) (hr k' r' t'),
      fun h => ⟨h k r t (Or.inl ⟨rfl, rfl, rfl⟩), fun k' r' t' hm => h k' r' t' (Or.inr hm)⟩⟩

end Cedar

namespace Cedar.C03

open Cedar

theorem find_none_iff {attrs : Attrs} {k : String} : Attrs.find? attrs k = none ↔ k ∉ attrs.map (·.1) :=
  Attrs.find?_eq_lookupKV attrs k ▸ lookupKV_none_iff

theorem find_some_key {attrs : Attrs} {k : String} {q : Bool × CedarType} (h : Attrs.find? attrs k = some q) :
    k ∈ attrs.map (·.1) := by
  rw [Attrs.find?_eq_lookupKV, lookupKV_eq_assoc] at h
  exact assoc?_isSome_iff.mp (h ▸ rfl)

theorem find_of_nodup {attrs : Attrs} {k : String} {r : Bool} {t : CedarType} (hn : (attrs.map (·.1)).Nodup)
    (h : (k, r, t) ∈ attrs) : Attrs.find? attrs k = some (r, t) :=
  Attrs.find?_eq_lookupKV attrs k ▸ lookupKV_of_mem_nodup hn h

end Cedar.C03
