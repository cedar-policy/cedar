import CedarVerif.Lemmas.TCRepair
/-
C04: COMPLETENESS of the cycle detection of `repair_tc` (no acyclicity assumed).
`addAnc_cspec`: on any parent graph, with enough fuel, a call of `add_ancestors(x, seen)`
  * leaves every node of `seen` other than `x` untouched (`frame`),
  * puts every direct parent of `x` and of every newly seen node into `seen` (`par`, `closed`),
  * propagates the out-edges of every newly seen node up to `x` (`up`),
hence every node reachable from `x` along a path whose intermediate nodes were not in `seen` ends up as an
out-edge of `x` (`wreach_out`). So the first node lying on a cycle that is visited gets an edge to itself
(`cyc`, under the hypothesis that no node seen before the call, other than `x`, lies on a cycle — the cycle through the first such
node then is a white path): either some record has a self-edge afterwards, or no node on a cycle has been seen or started.
`repairTc_complete`: if the untouched records are complete and have no self-edge, a cyclic parent graph
is rejected.
-/
namespace Cedar.TC
set_option linter.unusedSectionVars false

variable {α : Type} [DecidableEq α]

def InU (U : List α) (s : Store α) : Prop := ∀ x n, get s x = some n → ∀ y, y ∈ n.out → y ∈ U

def SelfE (s : Store α) : Prop := ∃ c n, get s c = some n ∧ c ∈ n.out

theorem SelfE.mono {s s' : Store α} (he : Ext s s') (h : SelfE s) : SelfE s' := by
  obtain ⟨c, n, hc, hn⟩ := h
  obtain ⟨n', hn', _, ho, _, _⟩ := he.1 c n hc
  exact ⟨c, n', hn', ho c hn⟩

/-- reachability along a "white" path: one whose intermediate nodes avoid `S` -/
inductive WReach (P : α → Option (List α)) (S : List α) : α → α → Prop
  | edge {x y ps} : P x = some ps → y ∈ ps → WReach P S x y
  | step {x y z ps} : P x = some ps → z ∈ ps → z ∉ S → WReach P S z y → WReach P S x y

theorem parent_mem_ancestors {P : α → Option (List α)} {s : Store α} (hs : ShapeIs P s) {x y : α} {ps : List α}
    (hp : P x = some ps) (hy : y ∈ ps) : y ∈ ancestors s x := by
  have := hs x
  rw [hp] at this
  cases hg : get s x with
  | none => rw [hg] at this; cases this
  | some n =>
    rw [hg] at this
    simp only [Option.map_some, Option.some.injEq] at this
    rw [ancestors_some hg]
    unfold Node.out
    exact List.mem_append_left _ (this ▸ hy)

/-- a cycle through `a`, none of whose other nodes is in `S`, is a white path from `a` to `a` -/
theorem cyc_wreach {P : α → Option (List α)} {S : List α} {a : α} (hS : ∀ c, c ∈ S → Reach P c c → c = a) :
    ∀ x y, Reach P x y → y = a → (x = a ∨ Reach P a x) → WReach P S x a := by
  intro x y hr
  induction hr with
  | edge hp hy => intro e _; subst e; exact WReach.edge hp hy
  | @step x' y' z ps hp hz hzy ih =>
    intro e hx
    subst e
    by_cases hza : z = y'
    · exact WReach.edge hp (hza ▸ hz)
    · have haz : Reach P y' z := by
        rcases hx with rfl | hx
        · exact Reach.edge hp hz
        · exact hx.trans (Reach.edge hp hz)
      have hzS : z ∉ S := fun h => hza (hS z h (hzy.trans haz))
      exact WReach.step hp hz hzS (ih rfl (Or.inr haz))

/-- the white-path property follows from the three closure facts of a finished call -/
theorem wreach_out {P : α → Option (List α)} {s' : Store α} {S S' : List α} {a : α} (hs : ShapeIs P s')
    (par : ∀ ps, P a = some ps → ∀ w, w ∈ ps → w ∈ S')
    (closed : ∀ v, v ∈ S' → v ∉ S → ∀ ps, P v = some ps → ∀ w, w ∈ ps → w ∈ S')
    (up : ∀ v, v ∈ S' → v ∉ S → ∀ y, y ∈ ancestors s' v → y ∈ ancestors s' a) :
    ∀ y, WReach P S a y → y ∈ ancestors s' a := by
  have aux : ∀ z y, WReach P S z y → z ∈ S' → z ∉ S → y ∈ ancestors s' a := by
    intro z y hw
    induction hw with
    | edge hp hy => intro h1 h2; exact up _ h1 h2 _ (parent_mem_ancestors hs hp hy)
    | step hp hz hzS _ ih => intro h1 h2; exact ih (closed _ h1 h2 _ hp _ hz) hzS
  intro y hw
  cases hw with
  | edge hp hy => exact parent_mem_ancestors hs hp hy
  | step hp hz hzS hzy => exact aux _ _ hzy (par _ hp _ hz) hzS

structure CPost (P : α → Option (List α)) (U : List α) (x : α) (s : Store α) (seen : List α)
    (r : Store α × List α) : Prop where
  ext : Ext s r.1
  inU : InU U r.1
  sub : ∀ a, a ∈ seen → a ∈ r.2
  frame : ∀ v, v ∈ seen → v ≠ x → get r.1 v = get s v
  par : ∀ ps, P x = some ps → ∀ w, w ∈ ps → w ∈ r.2
  closed : ∀ v, v ∈ r.2 → v ∉ seen → ∀ ps, P v = some ps → ∀ w, w ∈ ps → w ∈ r.2
  up : ∀ v, v ∈ r.2 → v ∉ seen → ∀ y, y ∈ ancestors r.1 v → y ∈ ancestors r.1 x
  cyc : (∀ c, c ∈ seen → Reach P c c → c = x) →
    SelfE r.1 ∨ ((∀ c, c ∈ r.2 → ¬ Reach P c c) ∧ ¬ Reach P x x)

def CSpec (P : α → Option (List α)) (U : List α) (rec : α → Store α → List α → Store α × List α) (f : Nat) : Prop :=
  ∀ x s seen, InU U s → ShapeIs P s → unseen U seen < f → CPost P U x s seen (rec x s seen)

structure CLI (P : α → Option (List α)) (U : List α) (x : α) (s0 : Store α) (seen0 : List α)
    (done : List α) (st : LoopSt α) : Prop where
  ext : Ext s0 st.s
  inU : InU U st.s
  sub : ∀ a, a ∈ seen0 → a ∈ st.seen
  frame : ∀ v, v ∈ seen0 → get st.s v = get s0 v
  doneSeen : ∀ a, a ∈ done → a ∈ st.seen
  expl : ∀ a, a ∈ st.explored ↔ a ∈ done
  closed : ∀ v, v ∈ st.seen → v ∉ seen0 → ∀ ps, P v = some ps → ∀ w, w ∈ ps → w ∈ st.seen
  up : ∀ v, v ∈ st.seen → v ∉ seen0 → ∀ y, y ∈ ancestors st.s v → y ∈ st.acc
  accU : ∀ y, y ∈ st.acc → y ∈ U
  cyc : (∀ c, c ∈ seen0 → Reach P c c → c = x) → ¬ Reach P x x →
    SelfE st.s ∨ (∀ c, c ∈ st.seen → ¬ Reach P c c)

theorem ancestors_inU {U : List α} {s : Store α} (h : InU U s) (a : α) : ∀ y, y ∈ ancestors s a → y ∈ U := by
  intro y hy
  unfold ancestors at hy
  cases hg : get s a with
  | none => rw [hg] at hy; cases hy
  | some n => rw [hg] at hy; exact h a n hg y hy

theorem loopStep_CLI (P : α → Option (List α)) (U : List α)
    (rec : α → Store α → List α → Store α × List α) (f : Nat) (hrec : CSpec P U rec f)
    (x : α) (s0 : Store α) (seen0 : List α) (hshape : ShapeIs P s0) (hfuel : unseen U seen0 < f + 1)
    (done : List α) (st : LoopSt α) (a : α) (haU : a ∈ U)
    (h : CLI P U x s0 seen0 done st) :
    CLI P U x s0 seen0 (done ++ [a]) (loopStep rec st a) := by
  have key : Ext st.s (loopCall rec st a).1 ∧ InU U (loopCall rec st a).1 ∧
      (∀ b, b ∈ st.seen → b ∈ (loopCall rec st a).2) ∧ a ∈ (loopCall rec st a).2 ∧
      (∀ v, v ∈ st.seen → get (loopCall rec st a).1 v = get st.s v) ∧
      (∀ v, v ∈ (loopCall rec st a).2 → v ∉ st.seen → a ∉ st.seen ∧
        (∀ ps, P v = some ps → ∀ w, w ∈ ps → w ∈ (loopCall rec st a).2) ∧
        (∀ y, y ∈ ancestors (loopCall rec st a).1 v → y ∈ ancestors (loopCall rec st a).1 a)) ∧
      ((∀ c, c ∈ st.seen → ¬ Reach P c c) →
        SelfE (loopCall rec st a).1 ∨ (∀ c, c ∈ (loopCall rec st a).2 → ¬ Reach P c c)) := by
    unfold loopCall
    by_cases hin : a ∈ st.seen
    · rw [if_pos hin]
      exact ⟨Ext.refl _, h.inU, fun _ hb => hb, hin, fun _ _ => rfl, fun v hv hv' => absurd hv hv', Or.inr⟩
    · rw [if_neg hin]
      have hpost := hrec a st.s (a :: st.seen) h.inU (hshape.ext h.ext) (unseen_cons_lt_fuel h.sub haU hin hfuel)
      refine ⟨hpost.ext, hpost.inU, fun b hb => hpost.sub b (List.mem_cons_of_mem _ hb),
        hpost.sub a List.mem_cons_self,
        fun v hv => hpost.frame v (List.mem_cons_of_mem _ hv) (fun e => hin (e ▸ hv)), ?_, ?_⟩
      · intro v hv hv'
        by_cases hva : v = a
        · subst hva
          exact ⟨hin, hpost.par, fun y hy => hy⟩
        · have hv'' : v ∉ a :: st.seen := fun hm => (List.mem_cons.mp hm).elim hva hv'
          exact ⟨hin, hpost.closed v hv hv'', hpost.up v hv hv''⟩
      · intro hc
        have hpre : ∀ c, c ∈ a :: st.seen → Reach P c c → c = a := by
          intro c hcm hcc
          rcases List.mem_cons.mp hcm with rfl | hcm
          · rfl
          · exact absurd hcc (hc c hcm)
        exact (hpost.cyc hpre).imp_right And.left
  rw [loopStep_eq]
  generalize loopCall rec st a = r at key
  obtain ⟨hext, hinU, hsub, haseen, hframe, hnew, hcyc⟩ := key
  refine ⟨h.ext.trans hext, hinU, fun b hb => hsub b (h.sub b hb), ?_, ?_, ?_, ?_, ?_, ?_, ?_⟩
  · intro v hv; rw [hframe v (h.sub v hv)]; exact h.frame v hv
  · intro b hb
    rcases List.mem_append.mp hb with hb | hb
    · exact hsub b (h.doneSeen b hb)
    · exact List.mem_singleton.mp hb ▸ haseen
  · intro b
    dsimp only
    rw [mem_ite_cons, h.expl, List.mem_append, List.mem_singleton, or_comm]
  · intro v hv hv0 ps hp w hw
    by_cases hvs : v ∈ st.seen
    · exact hsub w (h.closed v hvs hv0 ps hp w hw)
    · exact (hnew v hv hvs).2.1 ps hp w hw
  · intro v hv hv0 y hy
    dsimp only
    by_cases hvs : v ∈ st.seen
    · have hy' : y ∈ st.acc := by
        apply h.up v hvs hv0
        unfold ancestors at hy ⊢
        rwa [hframe v hvs] at hy
      split
      · exact hy'
      · exact List.mem_append_left _ hy'
    · obtain ⟨hna, _, hup⟩ := hnew v hv hvs
      split
      · exact absurd (h.doneSeen a ((h.expl a).mp ‹_›)) hna
      · exact List.mem_append_right _ (hup y hy)
  · intro y hy
    dsimp only at hy
    split at hy
    · exact h.accU y hy
    · rcases List.mem_append.mp hy with hy | hy
      · exact h.accU y hy
      · exact ancestors_inU hinU a y hy
  · intro h1 h2
    rcases h.cyc h1 h2 with h' | h'
    · exact Or.inl (h'.mono hext)
    · exact hcyc h'

theorem addAnc_cspec (P : α → Option (List α)) (U : List α) : ∀ f, CSpec P U (addAnc f) f := by
  intro f
  induction f with
  | zero => intro x s seen _ _ hf; exact absurd hf (Nat.not_lt_zero _)
  | succ f ih =>
    intro x s seen hinU hshp hf
    cases hgx : get s x with
    | none =>
      rw [addAnc_none hgx]
      have hPx : P x = none := by rw [← hshp x, hgx]; rfl
      have hnc : ¬ Reach P x x := Reach.of_none hPx
      refine ⟨Ext.refl _, hinU, fun _ h => h, fun _ _ _ => rfl, ?_, fun v hv hv' => absurd hv hv',
        fun v hv hv' => absurd hv hv', ?_⟩
      · intro ps hp; rw [hPx] at hp; cases hp
      · intro hpre
        exact Or.inr ⟨fun c hc hcc => hnc (hpre c hc hcc ▸ hcc), hnc⟩
    | some nx =>
      have hPx : P x = some nx.parents := by rw [← hshp x, hgx]; rfl
      have hinit : CLI P U x s seen [] { s := s, seen := seen, acc := [], explored := [] } := by
        refine ⟨Ext.refl _, hinU, fun _ h => h, fun _ _ => rfl, fun a ha => (by cases ha), (by intro a; simp),
          fun v hv hv' => absurd hv hv', fun v hv hv' => absurd hv hv', (by intro y hy; cases hy), ?_⟩
        intro hpre hnc
        exact Or.inr (fun c hc hcc => hnc (hpre c hc hcc ▸ hcc))
      have hli := foldl_inv (I := CLI P U x s seen) (loopStep (addAnc f)) nx.out [] _
        (fun done st a ha => loopStep_CLI P U (addAnc f) f ih x s seen hshp hf done st a (hinU x nx hgx a ha)) hinit
      rw [List.nil_append] at hli
      generalize hst : nx.out.foldl (loopStep (addAnc f)) { s := s, seen := seen, acc := [], explored := [] } = st
        at hli
      obtain ⟨nx', hgx', _, he⟩ := addAnc_succ hgx hst hli.ext
      rw [he]
      have hE := Ext_set_addEdges st.s x nx' st.acc hgx'
      have hget : get (set st.s x (nx'.addEdges st.acc)) x = some (nx'.addEdges st.acc) :=
        get_set_self _ _ _ _ hgx'
      have hpar : ∀ ps, P x = some ps → ∀ w, w ∈ ps → w ∈ st.seen := by
        intro ps hp w hw
        rw [hPx] at hp; cases hp
        exact hli.doneSeen w (mem_out.mpr (Or.inl hw))
      have hupx : ∀ v, v ∈ st.seen → v ∉ seen → ∀ y, y ∈ ancestors (set st.s x (nx'.addEdges st.acc)) v →
          y ∈ ancestors (set st.s x (nx'.addEdges st.acc)) x := by
        intro v hv hv' y hy
        by_cases hvx : v = x
        · subst hvx; exact hy
        · unfold ancestors at hy
          rw [get_set_other _ _ _ _ hvx] at hy
          rw [ancestors_some hget]
          exact (mem_addEdges_out _ _ _).mpr (Or.inr (hli.up v hv hv' y hy))
      refine ⟨hli.ext.trans hE, edges_set_addEdges hli.inU hgx' hli.accU, hli.sub, ?_, hpar, hli.closed, hupx, ?_⟩
      · intro v hv hvx
        rw [get_set_other _ _ _ _ hvx]
        exact hli.frame v hv
      · intro hpre
        by_cases hc : Reach P x x
        · -- the cycle through `x` is a white path, so `x` ends up among its own ancestors
          have := wreach_out (hshp.ext (hli.ext.trans hE)) hpar hli.closed hupx x
            (cyc_wreach hpre x x hc rfl (Or.inl rfl))
          rw [ancestors_some hget] at this
          exact Or.inl ⟨x, _, hget, this⟩
        · rcases hli.cyc hpre hc with h' | h'
          · exact Or.inl (h'.mono hE)
          · exact Or.inr ⟨h', hc⟩

theorem repairLoop_cspec (P : α → Option (List α)) (U : List α) (fuel : Nat) (seen0 : List α)
    (t : List α) (s : Store α) (seen : List α) (hinU : InU U s) (hs : ShapeIs P s) (hf : unseen U seen < fuel)
    (hsub : ∀ a, a ∈ seen0 → a ∈ seen) (hnt : ∀ v, v ∈ seen0 → v ∉ t) :
    Ext s (repairLoop fuel t s seen).1 ∧
    (∀ v, v ∈ seen0 → get (repairLoop fuel t s seen).1 v = get s v) ∧
    (SelfE s ∨ (∀ c, c ∈ seen → ¬ Reach P c c) →
      SelfE (repairLoop fuel t s seen).1 ∨ (∀ x, x ∈ t → ¬ Reach P x x)) := by
  -- some record has a self-edge, or no node seen or started so far lies on a cycle
  have h := foldl_inv (I := fun done st => Ext s st.1 ∧ InU U st.1 ∧ unseen U st.2 < fuel ∧
      (∀ a, a ∈ seen0 → a ∈ st.2) ∧ (∀ v, v ∈ seen0 → get st.1 v = get s v) ∧
      (SelfE s ∨ (∀ c, c ∈ seen → ¬ Reach P c c) →
        SelfE st.1 ∨ ((∀ c, c ∈ st.2 → ¬ Reach P c c) ∧ ∀ x, x ∈ done → ¬ Reach P x x)))
    (fun (st : Store α × List α) x => addAnc fuel x st.1 st.2) t [] (s, seen) ?_
    ⟨Ext.refl _, hinU, hf, hsub, fun _ _ => rfl, fun h => h.imp_right fun h => ⟨h, fun _ hx => nomatch hx⟩⟩
  · exact ⟨h.1, h.2.2.2.2.1, fun h0 => (h.2.2.2.2.2 h0).imp_right And.right⟩
  rintro done st x hx ⟨he, hinU, hf, hsub, hfr, hcyc⟩
  have hpost := addAnc_cspec P U fuel x st.1 st.2 hinU (hs.ext he) hf
  refine ⟨he.trans hpost.ext, hpost.inU, Nat.lt_of_le_of_lt (unseen_mono U st.2 _ hpost.sub) hf,
    fun a ha => hpost.sub a (hsub a ha), fun v hv => ?_, fun h0 => ?_⟩
  · rw [hpost.frame v (hsub v hv) (fun e' => hnt v hv (e' ▸ hx))]
    exact hfr v hv
  · rcases hcyc h0 with hself | ⟨hc, hd⟩
    · exact Or.inl (hself.mono hpost.ext)
    · refine (hpost.cyc fun c hcm hcc => absurd hcc (hc c hcm)).imp_right fun ⟨h1, h2⟩ => ⟨h1, fun y hy => ?_⟩
      rcases List.mem_append.mp hy with hy | hy
      · exact hd y hy
      · exact List.mem_singleton.mp hy ▸ h2

theorem repairTc_cycle_rejected (s : Store α) (t : List α)
    (hcyc : ∀ c, Reach (shape s) c c → c ∈ t)
    (hnoself : ∀ k n, get s k = some n → k ∉ t → k ∉ n.out)
    (hex : ∃ x, Reach (shape s) x x) : repairTc t s = .error .cycle := by
  have hnt : ∀ v, v ∈ (keys s).filter (fun k => decide (k ∉ t)) → v ∉ t := fun v hv => (mem_untouched.mp hv).2
  obtain ⟨h1, h2, h3⟩ := repairLoop_cspec (shape s) (uidsOf s) (fuelOf s)
    ((keys s).filter (fun k => decide (k ∉ t))) t s _ (fun _ _ hx _ hy => mem_uidsOf hx hy) (shapeIs_shape s) (unseen_lt_fuelOf s _)
    (fun _ h => h) hnt
  have hself : SelfE (repairLoop (fuelOf s) t s ((keys s).filter (fun k => decide (k ∉ t)))).1 := by
    rcases h3 (Or.inr (fun c hc hcc => hnt c hc (hcyc c hcc))) with h' | h'
    · exact h'
    · obtain ⟨x, hx⟩ := hex
      exact absurd hx (h' x (hcyc x hx))
  obtain ⟨c, n, hgc, hcn⟩ := hself
  have hct : c ∈ t := by
    apply Classical.byContradiction
    intro hct
    cases hg0 : get s c with
    | none => rw [h1.2 c hg0] at hgc; cases hgc
    | some n0 =>
      rw [h2 c (mem_untouched.mpr ⟨get_some_mem_keys hg0, hct⟩), hg0] at hgc
      cases hgc
      exact hnoself c _ hg0 hct hcn
  unfold repairTc
  rw [if_neg fun hd => enforceDagFor_iff.mp hd c hct n hgc hcn]

/-- `repairTc_cycle_rejected` with the precondition the callers establish: untouched records are complete (with respect
    to the parent graph handed to `repair_tc`) and have no self-edge -/
theorem repairTc_complete (s : Store α) (t : List α)
    (hun : ∀ k, k ∈ keys s → k ∉ t → Complete (shape s) s k)
    (hnoself : ∀ k n, get s k = some n → k ∉ t → k ∉ n.out) :
    (∃ x, Reach (shape s) x x) → repairTc t s = .error .cycle := by
  apply repairTc_cycle_rejected s t ?_ hnoself
  intro c hc
  apply Classical.byContradiction
  intro hct
  obtain ⟨ps, hps⟩ := hc.src_some
  obtain ⟨n, hn, _⟩ := shape_some_inv hps
  exact hnoself c n hn hct (hun c (get_some_mem_keys hn) hct n hn c hc)

end Cedar.TC
