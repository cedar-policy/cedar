import CedarVerif.Cedar.NoPanic.Unescape
/-
C20 mirror of `remove_empty_lines` (cedar-policy-formatter/src/pprint/utils.rs, `pub fn remove_empty_lines(text: &str)`),
the post-pass of the formatter over the pretty-printed text:

```
let mut index = 0;
while index < text.len() {
    let comment_match = regex_constants::COMMENT.find_at(text, index);      // r"//[^\n\r]*"
    let string_match  = regex_constants::STRING.find_at(text, index);       // r#""(\\.|[^"\\])*""#
    match (comment_match, string_match) {
        (Some(m1), Some(m2)) => { let m = std::cmp::min_by_key(m1, m2, |m| m.start());
            final_text.push_str(&remove_empty_interior_lines(&text[index..m.start()]));
            final_text.push_str(m.as_str()); index = m.end(); }
        (Some(m), None) | (None, Some(m)) => { … the same three statements … }
        (None, None) => { final_text.push_str(&remove_empty_interior_lines(&text[index..])); break; }
    }
}
```

The text is a `&str` in the byte-level model of `Utf8.lean` (`bytes`, `sliceFrom`) and `Unescape.lean` (`sliceRange`); `none` = the slice panics
(out of range, inverted, or an end inside a multi-byte char).  The two regex searches are ORACLES `Nat → Option RMatch` (the
regex engine is not modelled); what the loop relies on is stated as the hypothesis `Contract` in
`Lemmas/NoPanicRemoveEmptyLines.lean`.  Sites kept explicit: `Regex::find_at` ("panics if `start > haystack.len()`"),
`&text[index..m.start()]`, `m.as_str()` (= `&haystack[start..end]` inside the regex crate), `&text[index..]`; the loop is by
fuel (`.fuel` = it would not have terminated within `fuel` iterations).  `remove_empty_interior_lines` and the final
`trim()` only use iterator adaptors (`split_inclusive`, `filter`, `join`): no panic site, not modelled — the mirror
records the PIECES pushed, tagged by whether they go through `remove_empty_interior_lines`.  The two `Some` arms of the
Rust `match` have identical bodies and are merged via `pick`.  Imports only model files.
-/
namespace Cedar
namespace NoPanic
namespace Rel

/-- a `regex::Match`: byte offsets `start()`, `end()` into the haystack -/
structure RMatch where
  start : Nat
  stop : Nat
deriving Repr, DecidableEq

/-- `re.find_at(text, index)` as an oracle in `index` (the haystack is fixed) -/
abbrev FindAt := Nat → Option RMatch

inductive Piece where
  /-- `&text[a..b]`, pushed through `remove_empty_interior_lines` -/
  | outside (s : List Char)
  /-- `m.as_str()`, pushed verbatim (a string literal or a comment) -/
  | verbatim (s : List Char)
deriving Repr, DecidableEq

def Piece.text : Piece → List Char
  | .outside s => s
  | .verbatim s => s

/-- concatenation of the slices, before `remove_empty_interior_lines` -/
def flat : List Piece → List Char
  | [] => []
  | p :: ps => p.text ++ flat ps

inductive Outcome where
  | done (pieces : List Piece)
  | panic (site : String)
  | fuel
deriving Repr, DecidableEq

/-- `n` is a char boundary of `s` (`str::is_char_boundary`: `0`, `len`, or the first byte of a char) -/
def isBoundary (s : List Char) (n : Nat) : Bool := (sliceFrom s n).isSome

/-- `(Some(m1), Some(m2)) => min_by_key(m1, m2, |m| m.start())` (returns `m1` on a tie), `(Some(m), None) | (None, Some(m)) => m` -/
def pick : Option RMatch → Option RMatch → Option RMatch
  | some m1, some m2 => if m1.start ≤ m2.start then some m1 else some m2
  | some m, none => some m
  | none, some m => some m
  | none, none => none

/-- the `while` loop: `loop text comment string fuel index` -/
def loop (text : List Char) (comment string : FindAt) : Nat → Nat → Outcome
  | 0, _ => .fuel
  | n + 1, index =>
    if index < bytes text then
      -- `Regex::find_at`: "Panics when `start >= haystack.len() + 1`"
      if bytes text < index then .panic "find_at(text, index): start > haystack.len()"
      else
        match pick (comment index) (string index) with
        | none =>
          match sliceFrom text index with
          | none => .panic "&text[index..]"
          | some rest => .done [.outside rest]          -- `break`
        | some m =>
          match sliceRange text index m.start with
          | none => .panic "&text[index..m.start()]"
          | some out =>
            match sliceRange text m.start m.stop with
            | none => .panic "m.as_str()"
            | some lit =>
              match loop text comment string n m.stop with  -- `index = m.end()`
              | .done ps => .done (.outside out :: .verbatim lit :: ps)
              | other => other
    else .done []

/-- `remove_empty_lines(text)`: `index = 0`, fuel `text.len() + 1` -/
def removeEmptyLines (text : List Char) (comment string : FindAt) : Outcome :=
  loop text comment string (bytes text + 1) 0

/-! a concrete, executable instance of the two oracles (leftmost match of `//[^\n\r]*` resp. `"(\\.|[^"\\])*"` at or after
byte offset `index`), used for the non-vacuity examples only — the theorems quantify over ALL oracles satisfying the contract -/

/-- the comment body `[^\n\r]*` -/
def commentBody : List Char → List Char
  | [] => []
  | c :: cs => if c = '\n' ∨ c = '\r' then [] else c :: commentBody cs

/-- after the opening quote: the chars up to and including the closing quote, `none` if unterminated -/
def stringBody : List Char → Option (List Char)
  | [] => none
  | '"' :: _ => some ['"']
  | '\\' :: c :: cs => if c = '\n' then none else (stringBody cs).map ('\\' :: c :: ·)
  | '\\' :: [] => none
  | c :: cs => (stringBody cs).map (c :: ·)

/-- scan `s` (which starts at byte offset `off`), reporting the first match starting at an offset `≥ index` -/
def scanComment (index : Nat) : Nat → List Char → Option RMatch
  | _, [] => none
  | off, c :: cs =>
    match c, cs with
    | '/', '/' :: r =>
      if index ≤ off then some ⟨off, off + 2 + bytes (commentBody r)⟩ else scanComment index (off + Cedar.Ext.IPAddr.utf8Len c) cs
    | _, _ => scanComment index (off + Cedar.Ext.IPAddr.utf8Len c) cs

def scanString (index : Nat) : Nat → List Char → Option RMatch
  | _, [] => none
  | off, c :: cs =>
    if c = '"' ∧ index ≤ off then
      match stringBody cs with
      | some b => some ⟨off, off + 1 + bytes b⟩
      | none => scanString index (off + Cedar.Ext.IPAddr.utf8Len c) cs
    else scanString index (off + Cedar.Ext.IPAddr.utf8Len c) cs

def commentOracle (text : List Char) : FindAt := fun index => scanComment index 0 text
def stringOracle (text : List Char) : FindAt := fun index => scanString index 0 text

end Rel
end NoPanic
end Cedar
