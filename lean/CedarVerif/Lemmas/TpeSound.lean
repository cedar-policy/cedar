import CedarVerif.Cedar.Tpe
import CedarVerif.Lemmas.Data
import CedarVerif.Lemmas.EvalStore
import CedarVerif.Lemmas.EvalArms
/- C14: what a residual evaluates to on a concrete request / store (`Residual.eval`: a `Concrete` residual is its value, an
   `Error` residual errors, a `Partial` one is evaluated like the expression it stands for), and the vocabulary of the soundness
   statements: agreement of results up to the error class, completions of partial inputs. -/
namespace Cedar.Tpe
open Cedar

mutual
def Residual.eval (req : Request) (es : Entities) : Residual → Result Value
  | .concrete v _ => .ok v
  | .error _ => .error .ext
  | .part k _ => k.eval req es
def RKind.eval (req : Request) (es : Entities) : RKind → Result Value
  | .var .principal => .ok (.prim (.entityUID req.principal))
  | .var .action => .ok (.prim (.entityUID req.action))
  | .var .resource => .ok (.prim (.entityUID req.resource))
  | .var .context => .ok (.record req.context)
  | .ite c t e => iteR (c.eval req es) (t.eval req es) (e.eval req es)
  | .and a b => andR (a.eval req es) (b.eval req es)
  | .or a b => orR (a.eval req es) (b.eval req es)
  | .unaryApp op a => bindR (a.eval req es) (applyUnary op)
  | .binaryApp op a b => bindR (a.eval req es) (fun v1 => bindR (b.eval req es) (fun v2 => applyBinary es op v1 v2))
  | .call fn args => (match Residual.evalList req es args with | .error e => .error e | .ok vs => callExt fn vs)
  | .getAttr e a => bindR (e.eval req es) (getAttrV es a)
  | .hasAttr e a => bindR (e.eval req es) (hasAttrV es a)
  | .like e p => bindR (e.eval req es) (likeV p)
  | .is e ty => bindR (e.eval req es) (isV ty)
  | .set xs => (match Residual.evalList req es xs with | .error e => .error e | .ok vs => .ok (.set (Value.mkSet vs)))
  | .record kvs => (match Residual.evalKVs req es kvs with
      | .error e => .error e
      | .ok vs => .ok (.record (vs.foldl (fun acc kv => insertKV kv.1 kv.2 acc) [])))
def Residual.evalList (req : Request) (es : Entities) : List Residual → Result (List Value)
  | [] => .ok []
  | r :: rs => (match r.eval req es with
      | .error e => .error e
      | .ok v => match Residual.evalList req es rs with
        | .error e => .error e
        | .ok vs => .ok (v :: vs))
def Residual.evalKVs (req : Request) (es : Entities) : List (String × Residual) → Result (List (String × Value))
  | [] => .ok []
  | (k, r) :: rs => (match r.eval req es with
      | .error e => .error e
      | .ok v => match Residual.evalKVs req es rs with
        | .error e => .error e
        | .ok vs => .ok ((k, v) :: vs))
end

theorem evalList_cons (req : Request) (es : Entities) (r : Residual) (rs : List Residual) :
    Residual.evalList req es (r :: rs) = consR (r.eval req es) (Residual.evalList req es rs) := by
  rw [Residual.evalList]
  cases r.eval req es with
  | error _ => rfl
  | ok v => cases Residual.evalList req es rs <;> rfl

theorem evalKVs_cons (req : Request) (es : Entities) (k : String) (r : Residual) (rs : List (String × Residual)) :
    Residual.evalKVs req es ((k, r) :: rs) = consR ((r.eval req es).map (Prod.mk k)) (Residual.evalKVs req es rs) := by
  rw [Residual.evalKVs]
  cases r.eval req es with
  | error _ => rfl
  | ok v => cases Residual.evalKVs req es rs <;> rfl

/-- equal values, or both errors (error classes are not compared: the property says "erroring") -/
def Agree (x y : Result Value) : Prop :=
  match x, y with
  | .ok v, .ok w => v = w
  | .error _, .error _ => True
  | _, _ => False

theorem Agree.rfl' (x : Result Value) : Agree x x := by cases x <;> simp [Agree]

theorem agree_ok_left {v : Value} {y : Result Value} (h : Agree (.ok v) y) : y = .ok v := by
  cases y <;> simp_all [Agree]

theorem agree_err_left {e : ErrClass} {y : Result Value} (h : Agree (.error e) y) : ∃ e', y = .error e' := by
  cases y <;> simp_all [Agree]

theorem agree_cases {x y : Result Value} (h : Agree x y) : (∃ v, x = .ok v ∧ y = .ok v) ∨ (∃ e e', x = .error e ∧ y = .error e') := by
  cases x <;> cases y <;> simp_all [Agree]

theorem Agree.outcomes {x y : Result Value} (h : Agree x y) :
    (∀ b, x = .ok (.prim (.bool b)) ↔ y = .ok (.prim (.bool b))) ∧ ((∃ e, x = .error e) ↔ ∃ e, y = .error e) := by
  rcases agree_cases h with ⟨v, rfl, rfl⟩ | ⟨e, e', rfl, rfl⟩ <;> simp

theorem asBool_bool (b : Bool) : (Value.prim (.bool b)).asBool = .ok b := rfl

theorem agree_iff {x y : Result Value} : Agree x y ↔ RRel (fun _ _ => True) Eq x y := by
  cases x <;> cases y <;> exact Iff.rfl

theorem agree_trans {x y z : Result Value} (h1 : Agree x y) (h2 : Agree y z) : Agree x z :=
  agree_iff.2 ((agree_iff.1 h1).trans (agree_iff.1 h2) (fun _ _ _ _ _ => trivial) fun _ _ _ => Eq.trans)

theorem Agree.sameBool {x y : Result Value} (h : Agree x y) : RRel (fun _ _ => True) SameBool x y :=
  (agree_iff.mp h).mono fun _ _ h => congrArg Value.asBool h

theorem andR_congr' {x x' y y' : Result Value} (hx : Agree x x') (hy : x' = .ok (.prim (.bool true)) → Agree y y') :
    Agree (andR x y) (andR x' y') :=
  agree_iff.mpr (andR_rel (fun _ => True.intro) (fun _ => rfl) hx.sameBool fun _ h => (hy h).sameBool)

theorem orR_congr' {x x' y y' : Result Value} (hx : Agree x x') (hy : x' = .ok (.prim (.bool false)) → Agree y y') :
    Agree (orR x y) (orR x' y') :=
  agree_iff.mpr (orR_rel (fun _ => True.intro) (fun _ => rfl) hx.sameBool fun _ h => (hy h).sameBool)

theorem iteR_congr' {c c' t t' e e' : Result Value} (hc : Agree c c') (ht : c' = .ok (.prim (.bool true)) → Agree t t')
    (he : c' = .ok (.prim (.bool false)) → Agree e e') : Agree (iteR c t e) (iteR c' t' e') :=
  agree_iff.mpr (iteR_rel (fun _ => True.intro) hc.sameBool (fun _ h => agree_iff.mp (ht h)) fun _ h => agree_iff.mp (he h))

theorem andR_congr {x x' y y' : Result Value} (hx : Agree x x') (hy : Agree y y') : Agree (andR x y) (andR x' y') :=
  andR_congr' hx fun _ => hy

theorem orR_congr {x x' y y' : Result Value} (hx : Agree x x') (hy : Agree y y') : Agree (orR x y) (orR x' y') :=
  orR_congr' hx fun _ => hy

theorem iteR_congr {c c' t t' e e' : Result Value} (hc : Agree c c') (ht : Agree t t') (he : Agree e e') :
    Agree (iteR c t e) (iteR c' t' e') :=
  iteR_congr' hc (fun _ => ht) fun _ => he

theorem bindR_congr' {x x' : Result Value} (f g : Value → Result Value) (hfg : ∀ a, Agree (f a) (g a)) (hx : Agree x x') :
    Agree (bindR x f) (bindR x' g) :=
  agree_iff.mpr (bindR_rel (agree_iff.mp hx) fun a _ _ _ h => h ▸ agree_iff.mp (hfg a))

theorem bindR_congr {x x' : Result Value} (f : Value → Result Value) (hx : Agree x x') : Agree (bindR x f) (bindR x' f) :=
  bindR_congr' f f (fun _ => Agree.rfl' _) hx

theorem bindR_congr2' {x x' y y' : Result Value} (f g : Value → Value → Result Value) (hfg : ∀ a b, Agree (f a b) (g a b))
    (hx : Agree x x') (hy : Agree y y') :
    Agree (bindR x (fun a => bindR y (f a))) (bindR x' (fun a => bindR y' (g a))) :=
  bindR_congr' _ _ (fun a => bindR_congr' (f a) (g a) (hfg a) hy) hx

theorem bindR_congr2 {x x' y y' : Result Value} (f : Value → Value → Result Value) (hx : Agree x x') (hy : Agree y y') :
    Agree (bindR x (fun a => bindR y (f a))) (bindR x' (fun a => bindR y' (f a))) :=
  bindR_congr2' f f (fun _ _ => Agree.rfl' _) hx hy

theorem agree_bind {α} {x : Result α} {f g : α → Result Value} (h : ∀ a, Agree (f a) (g a)) :
    Agree (x >>= f) (x >>= g) := by
  cases x with
  | error e => exact True.intro
  | ok a => exact h a

theorem agree_ofResult (ty : Ty) (req : Request) (es : Entities) (x : Result Value) : Agree ((ofResult ty x).eval req es) x := by
  cases x <;> simp [ofResult, Residual.eval, Agree]

section
variable {req : Request} {es : Entities}

def AgreeL {α} (x y : Result (List α)) : Prop :=
  match x, y with
  | .ok v, .ok w => v = w
  | .error _, .error _ => True
  | _, _ => False

theorem AgreeL.rfl' {α} (x : Result (List α)) : AgreeL x x := by cases x <;> simp [AgreeL]

theorem agreeL_iff {α} {x y : Result (List α)} : AgreeL x y ↔ RRel (fun _ _ => True) Eq x y := by
  cases x <;> cases y <;> exact Iff.rfl

theorem evalList_cons_congr {es' : Entities} {a b : Residual} {as bs : List Residual}
    (h : Agree (a.eval req es) (b.eval req es')) (ht : AgreeL (Residual.evalList req es as) (Residual.evalList req es' bs)) :
    AgreeL (Residual.evalList req es (a :: as)) (Residual.evalList req es' (b :: bs)) := by
  rw [evalList_cons, evalList_cons]
  exact agreeL_iff.mpr (consR_rel (agree_iff.mp h) (agreeL_iff.mp ht) fun _ _ _ _ h1 h2 => by rw [h1, h2])

theorem evalKVs_cons_congr {es' : Entities} {k : String} {a b : Residual} {as bs : List (String × Residual)}
    (h : Agree (a.eval req es) (b.eval req es')) (ht : AgreeL (Residual.evalKVs req es as) (Residual.evalKVs req es' bs)) :
    AgreeL (Residual.evalKVs req es ((k, a) :: as)) (Residual.evalKVs req es' ((k, b) :: bs)) := by
  rw [evalKVs_cons, evalKVs_cons]
  refine agreeL_iff.mpr (consR_rel (Rv := Eq) ?_ (agreeL_iff.mp ht) fun _ _ _ _ h1 h2 => by rw [h1, h2])
  rcases agree_cases h with ⟨v, h1, h2⟩ | ⟨e, e', h1, h2⟩ <;> rw [h1, h2] <;> first | rfl | exact True.intro

theorem listR_congr {α} {X Y : Result (List α)} (f : List α → Result Value) (h : AgreeL X Y) : Agree (listR X f) (listR Y f) :=
  agree_iff.mpr (listR_rel (agreeL_iff.mp h) fun _ _ _ _ h => h ▸ agree_iff.mp (Agree.rfl' _))

theorem eval_call (fn : String) (rs : List Residual) :
    (RKind.call fn rs).eval req es = listR (Residual.evalList req es rs) (callExt fn) := by
  cases h : Residual.evalList req es rs <;> simp only [RKind.eval, listR, h]

theorem eval_set (rs : List Residual) :
    (RKind.set rs).eval req es = listR (Residual.evalList req es rs) (fun vs => .ok (.set (Value.mkSet vs))) := by
  cases h : Residual.evalList req es rs <;> simp only [RKind.eval, listR, h]

theorem eval_record (rs : List (String × Residual)) :
    (RKind.record rs).eval req es = listR (Residual.evalKVs req es rs) (fun vs => .ok (recordOfKVs vs)) := by
  cases h : Residual.evalKVs req es rs <;> simp only [RKind.eval, listR, recordOfKVs, h]

end

section
variable (req : Request) (es : Entities)

def IsBoolR (r : Residual) : Prop := ∀ v, r.eval req es = .ok v → ∃ b, v = .prim (.bool b)

def EvB (r : Residual) (b : Bool) : Prop := r.eval req es = .ok (.prim (.bool b))

end

/-- a concrete request / store is a completion of the partial ones: known parts are equal, an entity with a known component
    exists, known ancestor sets are equal as sets.  This is the relation the theorems speak of; the mirror of `check_consistency`
    is `PRequest.consistent` / `PEntities.consistent`, which compares values with `Value.beq` (a set written in another order
    passes there and is no completion here) and asks every entity of the partial store to exist. -/
structure Completes (preq : PRequest) (pes : PEntities) (req : Request) (es : Entities) : Prop where
  principal : ∀ u, preq.principal.uid? = some u → req.principal = u
  resource : ∀ u, preq.resource.uid? = some u → req.resource = u
  ptype : req.principal.ty = preq.principal.ty
  rtype : req.resource.ty = preq.resource.ty
  action : req.action = preq.action
  context : ∀ c, preq.context = some c → req.context = c
  attrs : ∀ u a, pes.attrs? u = some a → ∃ d, es.find? u = some d ∧ d.attrs = a
  ancestors : ∀ u n, pes.ancestors? u = some n → ∃ d, es.find? u = some d ∧ ∀ x, n.contains x = d.ancestors.contains x
  tags : ∀ u t, pes.tags? u = some t → ∃ d, es.find? u = some d ∧ d.tags = t

section
variable (preq : PRequest) (pes : PEntities) (req : Request) (es : Entities)

/-- an operand of `&&` / `||` is a boolean whenever it evaluates (validation: the operands have type Bool) -/
def OpBool (r : Residual) : Prop := ∀ v, (interpret preq pes r).eval req es = .ok v → ∃ b, v = .prim (.bool b)

/-- a residual that `can_error_assuming_well_formed` declares error-free does not error on the completion (this is where TPE
    leans on validation) -/
def ErrFreeSound (r : Residual) : Prop := (interpret preq pes r).canError = false → ∃ v, (interpret preq pes r).eval req es = .ok v

/-- every constructor is admitted; the side conditions sit on the `&&` / `||` nodes alone and speak about the residuals `interpret`
    PRODUCES (`TypeSafe` asks of the input instead) -/
inductive Frag : Residual → Prop
  | concrete (v ty) : Frag (.concrete v ty)
  | error (ty) : Frag (.error ty)
  | var (x ty) : Frag (.part (.var x) ty)
  | and {l r ty} : Frag l → Frag r → OpBool preq pes req es l → OpBool preq pes req es r → ErrFreeSound preq pes req es l →
      Frag (.part (.and l r) ty)
  | or {l r ty} : Frag l → Frag r → OpBool preq pes req es l → OpBool preq pes req es r → ErrFreeSound preq pes req es l →
      Frag (.part (.or l r) ty)
  | ite {c t e ty} : Frag c → Frag t → Frag e → Frag (.part (.ite c t e) ty)
  | unary {op a ty} : Frag a → Frag (.part (.unaryApp op a) ty)
  | binary {op a b ty} : Frag a → Frag b → Frag (.part (.binaryApp op a b) ty)
  | call {fn args ty} : (∀ r, r ∈ args → Frag r) → Frag (.part (.call fn args) ty)
  | set {xs ty} : (∀ r, r ∈ xs → Frag r) → Frag (.part (.set xs) ty)
  | record {kvs ty} : (∀ kv, kv ∈ kvs → Frag kv.2) → Frag (.part (.record kvs) ty)
  | getAttr {e a ty} : Frag e → Frag (.part (.getAttr e a) ty)
  | hasAttr {e a ty} : Frag e → Frag (.part (.hasAttr e a) ty)
  | like {e p ty} : Frag e → Frag (.part (.like e p) ty)
  | is {e ety ty} : Frag e → Frag (.part (.is e ety) ty)

end
end Cedar.Tpe
