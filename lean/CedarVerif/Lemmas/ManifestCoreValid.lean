import CedarVerif.Lemmas.ManifestSim
import CedarVerif.Lemmas.ManifestLitValid
/-
The core fragment (`FragE`, `Sim`) as a part of the fragment with literals (`FragL`, `SimL`).  A typed derivation of an
expression without literals whose typed AST satisfies `NoRecOps` is a core derivation (`sim_of_typed`: the annotated type
of an operand of `==` / of the element of `contains` is not a record type, so the operand is not a record), hence
C03 typing ⇒ `Sim` (`sim_typed`) from C03 typing ⇒ `SimL` (`sim_typedL`).
-/
namespace Cedar.Manifest
open Cedar Cedar.C03

theorem nonRec_of_scalarRes {r : Result Value} (h : ScalarRes r) : NonRec r := fun kvs e => by
  have := h _ e
  simp [Scalar] at this

theorem nonRec_of_typedRes {r : Result Value} {ty : Option CedarType} (h : TypedRes r ty) (hr : RecFree ty) : NonRec r := by
  obtain ⟨τ, rfl, _, htyp⟩ := h
  intro kvs e
  cases htyp _ e
  simp [RecFree, CedarType.isRecord] at hr

theorem sim_of_typed {req : Request} {es : Entities} {e : Expr} {te : TExpr} (h : SimG req es .typed e te) :
    FragE e → NoRecOps te → Sim req es e te := by
  induction h with
  | lit p => exact fun _ _ => .lit p
  | var x => exact fun _ _ => .var x
  | ite _ _ _ ihc iht ihe =>
    exact fun hf hn => .ite (ihc hf.1 hn.1) (fun hv => iht hv hf.2.1 hn.2.1) (fun hv => ihe hv hf.2.2 hn.2.2)
  | iteTrue _ ht _ ihc iht => exact fun hf hn => .iteTrue (ihc hf.1 hn.1) ht (fun hv => iht hv hf.2.1 hn.2.1)
  | iteFalse _ hfl _ ihc ihe => exact fun hf hn => .iteFalse (ihc hf.1 hn.1) hfl (fun hv => ihe hv hf.2.2 hn.2.1)
  | and _ _ iha ihb => exact fun hf hn => .and (iha hf.1 hn.1) (fun hv => ihb hv hf.2 hn.2)
  | andFalse _ hfl iha => exact fun hf hn => .andFalse (iha hf.1 hn) hfl
  | or _ _ iha ihb => exact fun hf hn => .or (iha hf.1 hn.1) (fun hv => ihb hv hf.2 hn.2)
  | orTrue _ ht iha => exact fun hf hn => .orTrue (iha hf.1 hn) ht
  | unary op ty _ _ iha => exact fun hf hn => .unary op ty (iha hf hn) fun _ => trivial
  | arith op ty1 ty2 hop _ _ hsa hsb iha ihb =>
    exact fun hf hn => .arith op ty1 ty2 hop (iha hf.2.1 hn.2.2.1) (ihb hf.2.2 hn.2.2.2) (nonRec_of_scalarRes hsa)
      (nonRec_of_scalarRes hsb)
  | full op ty1 ty2 hop _ _ hty iha ihb =>
    exact fun hf hn => .full op ty1 ty2 hop (iha hf.2.1 hn.2.2.1) (ihb hf.2.2 hn.2.2.2)
      ⟨fun e => ⟨nonRec_of_typedRes hty.1 (hn.1 e).1, nonRec_of_typedRes hty.2 (hn.1 e).2⟩,
        fun e => nonRec_of_typedRes hty.2 (hn.2.1 e)⟩
  | getAttr a _ ih => exact fun hf hn => .getAttr a (ih hf hn)
  | hasAttr a _ ih => exact fun hf hn => .hasAttr a (ih hf hn)
  | like p _ ih => exact fun hf hn => .like p (ih hf hn)
  | is ty _ ih => exact fun hf hn => .is ty (ih hf hn)
  | call1 fn _ hna hs iha => exact fun hf hn => .call1 fn (iha hf.1 hn.1) (nonRec_of_scalarRes hna) hs
  | call2 fn _ _ hna hnb hs iha ihb =>
    exact fun hf hn => .call2 fn (iha hf.1 hn.1) (ihb hf.2.1 hn.2.1) (nonRec_of_scalarRes hna) (nonRec_of_scalarRes hnb) hs
  | set _ _ _ _ => exact fun hf => hf.elim
  | record _ _ _ _ _ => exact fun hf => hf.elim

theorem sim_typed {s : Schema} {env : RequestEnv} {req : Request} {es : Entities} (hWF : SchemaWF3 s)
    (henv : EnvMatches s env req) (hsem : Sem s env ⟨req, es, []⟩) (e : Expr) (hf : FragE e) (caps : Capabilities)
    (τ : CedarType) (c' : Capabilities) (h : typeOf .strict s env e caps = .ok (τ, c')) (hc : CapsHold ⟨req, es, []⟩ caps)
    (hn : NoRecOps (typedAst s env e caps)) : Sim req es e (typedAst s env e caps) :=
  sim_of_typed (simG_of_simL (sim_typedL hWF henv hsem e (fragE_fragL e hf) caps τ c' h hc)) hf hn

theorem fragEList_inFragment2 (env : RequestEnv) : ∀ (es : List Expr), FragEList es → InFragment2List env es = true :=
  fun es h => fragLList_inFragment2 env es (fragEList_fragL es h)

section uk
variable {s : Schema} {env : RequestEnv} {q : Request} (hWF : SchemaWF3 s) (henv : EnvMatches s env q)
include hWF henv

theorem typesUK_typed : ∀ (e : Expr), FragE e → ∀ (caps : Capabilities), TypesUK (typedAst s env e caps) :=
  fun e h caps => typesUK_typedL hWF henv e (fragE_fragL e h) caps

theorem typesUKList_typed : ∀ (es : List Expr), FragEList es → ∀ (caps : Capabilities), TypesUKList (typedAstList s env es caps) :=
  fun es h caps => typesUKList_typedL hWF henv es (fragEList_fragL es h) caps

end uk

end Cedar.Manifest
