import CedarVerif.Lemmas.EstTreesPolicyDefs
import CedarVerif.Lemmas.Est
/-
Round trips through the PST and protobuf tree models, expression level: decoding the total translation `ofAstT` of a well-formed
expression gives it back and never meets the failure marker (`ofAstT_ok`), and the encoders `ofAst` are `ofAstT` where it has no marker.
-/
namespace Cedar.Pst
open Cedar Cedar.Est

theorem mkCall_cases (fn : String) (as : List PExpr) :
    mkCall fn as = .badCall fn as ∨ (∃ a, as = [a] ∧ mkCall fn as = .unary (.ext fn) a)
      ∨ (∃ a b, as = [a, b] ∧ mkCall fn as = .binary (.ext fn) a b) := by
  unfold mkCall
  split
  · split
    · exact .inr (.inl ⟨_, rfl, rfl⟩)
    · exact .inl rfl
  · split
    · exact .inr (.inr ⟨_, _, rfl, rfl⟩)
    · exact .inl rfl
  · exact .inl rfl

theorem toAst_call (fn : String) (as : List PExpr) : toAst (mkCall fn as) = .call fn (toAsts as) := by
  rcases mkCall_cases fn as with h | ⟨a, rfl, h⟩ | ⟨a, b, rfl, h⟩ <;> simp [h, toAst, toAsts]

theorem hasUnknown_mkCall (fn : String) (as : List PExpr) :
    (mkCall fn as).hasUnknown = PExpr.hasUnknownList as := by
  rcases mkCall_cases fn as with h | ⟨a, rfl, h⟩ | ⟨a, b, rfl, h⟩ <;> simp [h, PExpr.hasUnknown, PExpr.hasUnknownList]

/-- Of `WF` the induction uses two clauses: no `Unknown` node, and `&&` / `||` never over two Boolean literals (so that `mkAnd` /
`mkOr` on the way back do not fold). -/
theorem ofAstT_ok : (∀ e, WF e → toAst (ofAstT e) = e ∧ (ofAstT e).hasUnknown = false)
    ∧ (∀ kvs, WFKVs kvs → toAstKVs (ofAstTKVs kvs) = kvs ∧ PExpr.hasUnknownKVs (ofAstTKVs kvs) = false)
    ∧ (∀ es, WFs es → toAsts (ofAstTs es) = es ∧ PExpr.hasUnknownList (ofAstTs es) = false) := by
  apply WF.mutual_induct <;> intros <;>
    simp_all only [WF, WFKVs, WFs, ofAstT, ofAstTKVs, ofAstTs, toAst, toAstKVs, toAsts, toAst_call, mkAnd_of_not_lits,
      mkOr_of_not_lits, extendedHas, extHasFold, PExpr.hasUnknown, PExpr.hasUnknownKVs, PExpr.hasUnknownList,
      hasUnknown_mkCall, Bool.or_self, and_self]

theorem toAst_ofAstT : (e : Expr) → WF e → toAst (ofAstT e) = e := fun e h => (ofAstT_ok.1 e h).1
theorem toAsts_ofAstTs : (es : List Expr) → WFs es → toAsts (ofAstTs es) = es := fun es h => (ofAstT_ok.2.2 es h).1
theorem toAstKVs_ofAstTKVs : (kvs : List (String × Expr)) → WFKVs kvs → toAstKVs (ofAstTKVs kvs) = kvs :=
  fun kvs h => (ofAstT_ok.2.1 kvs h).1

theorem ofAst_ok_iff (e : Expr) (p : PExpr) : ofAst e = .ok p ↔ ofAstT e = p ∧ (ofAstT e).hasBad = false := by
  unfold ofAst
  cases h : (ofAstT e).hasBad <;> simp [h]

theorem hasSlot_mkCall (fn : String) (as : List PExpr) : (mkCall fn as).hasSlot = PExpr.hasSlotList as := by
  rcases mkCall_cases fn as with h | ⟨a, rfl, h⟩ | ⟨a, b, rfl, h⟩ <;> simp [h, PExpr.hasSlot, PExpr.hasSlotList]

/-- slots need no `WF` (and `hasSlotList_ofAstTs` must hold of every list): an induction of its own, along `exprHasSlot` -/
theorem hasSlot_ofAstT_all : (∀ e, (ofAstT e).hasSlot = exprHasSlot e)
    ∧ (∀ kvs, PExpr.hasSlotKVs (ofAstTKVs kvs) = exprHasSlotKVs kvs)
    ∧ (∀ es, PExpr.hasSlotList (ofAstTs es) = exprHasSlotList es) := by
  apply exprHasSlot.mutual_induct <;> intros <;>
    simp_all only [ofAstT, ofAstTKVs, ofAstTs, PExpr.hasSlot, PExpr.hasSlotKVs, PExpr.hasSlotList, exprHasSlot, exprHasSlotKVs,
      exprHasSlotList, hasSlot_mkCall]

theorem hasSlot_ofAstT : (e : Expr) → (ofAstT e).hasSlot = exprHasSlot e := hasSlot_ofAstT_all.1
theorem hasSlotList_ofAstTs : (es : List Expr) → PExpr.hasSlotList (ofAstTs es) = exprHasSlotList es :=
  hasSlot_ofAstT_all.2.2
theorem hasSlotKVs_ofAstTKVs : (kvs : List (String × Expr)) →
    PExpr.hasSlotKVs (ofAstTKVs kvs) = exprHasSlotKVs kvs := hasSlot_ofAstT_all.2.1

theorem hasUnknown_ofAstT : (e : Expr) → WF e → (ofAstT e).hasUnknown = false := fun e h => (ofAstT_ok.1 e h).2
theorem hasUnknownList_ofAstTs : (es : List Expr) → WFs es → PExpr.hasUnknownList (ofAstTs es) = false :=
  fun es h => (ofAstT_ok.2.2 es h).2
theorem hasUnknownKVs_ofAstTKVs : (kvs : List (String × Expr)) → WFKVs kvs →
    PExpr.hasUnknownKVs (ofAstTKVs kvs) = false := fun kvs h => (ofAstT_ok.2.1 kvs h).2

end Cedar.Pst

namespace Cedar.Proto
open Cedar Cedar.Est

/-- Of `WF` the induction uses the same two clauses as for PST and, for record literals, the sorted keys (`recordOf_map_ok`: the
decoder rebuilds a `BTreeMap`). -/
theorem ofAstT_ok : (∀ e, WF e → (ofAstT e).hasPanic = false ∧ toAst (ofAstT e) = .ok e)
    ∧ (∀ kvs, WFKVs kvs → Msg.hasPanicKVs (ofAstTKVs kvs) = false ∧
        toAstFields (ofAstTKVs kvs) = kvs.map (fun p => (p.1, (Except.ok p.2 : R Expr))))
    ∧ (∀ es, WFs es → Msg.hasPanicList (ofAstTs es) = false ∧ toAsts (ofAstTs es) = .ok es) := by
  apply WF.mutual_induct <;> intros <;>
    simp_all only [WF, WFKVs, WFs, ofAstT, ofAstTKVs, ofAstTs, toAst, toAstFields, toAsts, bind, Except.bind,
      mkAnd_of_not_lits, mkOr_of_not_lits, recordOf_map_ok, List.map_nil, List.map_cons, Msg.hasPanic, Msg.hasPanicKVs,
      Msg.hasPanicList, Bool.or_self, and_self]

theorem toAst_ofAstT : (e : Expr) → WF e → toAst (ofAstT e) = .ok e := fun e h => (ofAstT_ok.1 e h).2
theorem toAsts_ofAstTs : (es : List Expr) → WFs es → toAsts (ofAstTs es) = .ok es := fun es h => (ofAstT_ok.2.2 es h).2
theorem toAstFields_ofAstTKVs : (kvs : List (String × Expr)) → WFKVs kvs →
    toAstFields (ofAstTKVs kvs) = kvs.map (fun p => (p.1, (Except.ok p.2 : R Expr))) := fun kvs h => (ofAstT_ok.2.1 kvs h).2

theorem noPanic : (e : Expr) → WF e → (ofAstT e).hasPanic = false := fun e h => (ofAstT_ok.1 e h).1
theorem noPanics : (es : List Expr) → WFs es → Msg.hasPanicList (ofAstTs es) = false := fun es h => (ofAstT_ok.2.2 es h).1
theorem noPanicKVs : (kvs : List (String × Expr)) → WFKVs kvs → Msg.hasPanicKVs (ofAstTKVs kvs) = false :=
  fun kvs h => (ofAstT_ok.2.1 kvs h).1

theorem ofAst_eq_some (e : Expr) (h : WF e) : ofAst e = some (ofAstT e) := by
  simp [ofAst, noPanic e h]

end Cedar.Proto
