import CedarVerif.Cedar.SymCompile
/-
Set terms of the symbolic compiler model (`Cedar.SymC`, third fragment): the canonical form `setOf` (= collecting into a
BTreeSet) keeps exactly the members of the input list; on literal set terms `factory::set_member / set_subset / set_inter /
set_is_empty` fold to `contains` / `all … contains` / the common members / `isEmpty` of the element lists, hence on canonical
sets to the same questions about the ORIGINAL lists.  (Everything about the ORDER of the canonical form — sortedness,
extensionality — is not needed for these.)
-/
namespace Cedar.SymC

theorem setInsert_mem (x y : Term) : ∀ (l : List Term), y ∈ setInsert x l ↔ (y = x ∨ y ∈ l)
  | [] => by simp [setInsert]
  | z :: zs => by
    unfold setInsert
    by_cases h1 : (x == z) = true
    · have : x = z := by simpa using h1
      subst this
      simp
    · simp only [h1]
      by_cases h2 : termLt x z = true
      · simp [h2]
      · simp only [h2, Bool.false_eq_true, if_false, List.mem_cons, setInsert_mem x y zs]
        exact or_left_comm

theorem foldl_setInsert_mem (y : Term) : ∀ (ts acc : List Term),
    y ∈ ts.foldl (fun acc t => setInsert t acc) acc ↔ (y ∈ ts ∨ y ∈ acc)
  | [], acc => by simp
  | t :: ts, acc => by
    simp only [List.foldl_cons, foldl_setInsert_mem y ts, setInsert_mem, List.mem_cons]
    exact or_left_comm.trans or_assoc.symm

theorem setElts_setMk (ty : TermType) : ∀ (l : List Term), setElts (setMk ty l) = l
  | [] => rfl
  | t :: ts => by simp [setMk, setElts, setElts_setMk ty ts]

theorem isSet_setMk (ty : TermType) : ∀ (l : List Term), (setMk ty l).isSet = true
  | [] => rfl
  | t :: ts => by simp [setMk, Term.isSet, isSet_setMk ty ts]

theorem typeOf_setMk (ty : TermType) : ∀ (l : List Term), (setMk ty l).typeOf = .set ty
  | [] => rfl
  | t :: ts => by simp [setMk, Term.typeOf, typeOf_setMk ty ts]

theorem isLiteral_setMk (ty : TermType) : ∀ (l : List Term), (∀ x, x ∈ l → x.isLiteral = true) → (setMk ty l).isLiteral = true
  | [], _ => rfl
  | t :: ts, h => by
    simp only [setMk, Term.isLiteral, Bool.and_eq_true]
    exact ⟨h t (by simp), isLiteral_setMk ty ts (fun x hx => h x (by simp [hx]))⟩

theorem setOf_mem (ts : List Term) (ty : TermType) (y : Term) : y ∈ setElts (setOf ts ty) ↔ y ∈ ts := by
  simp [setOf, setElts_setMk, foldl_setInsert_mem]

theorem setOf_typeOf (ts : List Term) (ty : TermType) : (setOf ts ty).typeOf = .set ty := typeOf_setMk ty _

theorem setOf_isSet (ts : List Term) (ty : TermType) : (setOf ts ty).isSet = true := isSet_setMk ty _

theorem setOf_isLiteral (ts : List Term) (ty : TermType) (h : ∀ x, x ∈ ts → x.isLiteral = true) :
    (setOf ts ty).isLiteral = true :=
  isLiteral_setMk ty _ (fun x hx => h x ((foldl_setInsert_mem x ts []).mp hx |>.resolve_right (by simp)))

theorem setMember_lit {x s : Term} (hs : s.isSet = true) (hx : x.isLiteral = true) (hl : s.isLiteral = true) :
    setMember x s = .prim (.bool ((setElts s).contains x)) := by
  unfold setMember
  rw [if_pos hs, hx, hl]
  cases setElts s <;> rfl

theorem setSubset_lit {a b : Term} (ha : a.isSet = true) (hb : b.isSet = true) (hla : a.isLiteral = true)
    (hlb : b.isLiteral = true) :
    setSubset a b = .prim (.bool ((setElts a).all (fun x => (setElts b).contains x))) := by
  unfold setSubset
  by_cases he : (a == b) = true
  · rw [if_pos he]
    obtain rfl : a = b := by simpa using he
    have : (setElts a).all (fun x => (setElts a).contains x) = true := by simp [List.all_eq_true]
    rw [this]
  · rw [if_neg he, ha, hb, hla, hlb]
    cases setElts a <;> rfl

theorem setInter_lit {a b : Term} (ha : a.isSet = true) (hb : b.isSet = true) (hla : a.isLiteral = true)
    (hlb : b.isLiteral = true) :
    (setInter a b).isSet = true ∧ ∀ y, y ∈ setElts (setInter a b) ↔ (y ∈ setElts a ∧ y ∈ setElts b) := by
  unfold setInter
  by_cases he : (a == b) = true
  · rw [if_pos he]
    obtain rfl : a = b := by simpa using he
    exact ⟨ha, fun y => (and_self_iff).symm⟩
  · rw [if_neg he, ha, hb, hla, hlb]
    cases h1 : setElts a with
    | nil => exact ⟨ha, fun y => by simp [h1]⟩
    | cons e es =>
      cases h2 : setElts b with
      | nil => exact ⟨hb, fun y => by simp [h2]⟩
      | cons e' es' =>
        refine ⟨isSet_setMk _ _, fun y => ?_⟩
        simp only [Bool.and_self, List.isEmpty_cons, Bool.and_false, Bool.false_eq_true, if_false, if_true,
          setElts_setMk, List.mem_filter, List.contains_iff_mem]

theorem setIsEmpty_isSet {s : Term} (h : s.isSet = true) : setIsEmpty s = .prim (.bool (setElts s).isEmpty) := by
  simp [setIsEmpty, h]

end Cedar.SymC
