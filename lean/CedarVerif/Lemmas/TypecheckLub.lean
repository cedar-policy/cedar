import CedarVerif.Lemmas.TypecheckSub
/-
C03: least upper bounds, both modes.  Every fact about the bound is an application of `lub_rule`, rule induction over the rows of
`lub m` that can be reached, with `AttrsJoin` for what the two attribute-list bounds do with the left list.  In permissive mode the
bound is an upper bound on the LEFT only given distinct record keys (`ndTy`): a dropped entry may uncover a later one of the same key.
-/
namespace Cedar.C03

open Cedar

-- record keys are distinct, everywhere inside the type
mutual
def ndTy : CedarType → Bool
  | .set (some t) => ndTy t
  | .record attrs _ => ndAttrs attrs && decide ((attrs.map (·.1)).Nodup)
  | _ => true
def ndAttrs : List (String × Bool × CedarType) → Bool
  | [] => true
  | (_, _, t) :: rest => ndTy t && ndAttrs rest
end

theorem ndAttrs_iff {attrs : Attrs} : ndAttrs attrs = true ↔ ∀ k r t, (k, r, t) ∈ attrs → ndTy t = true :=
  attrsAll_iff rfl (fun _ _ _ _ => rfl)

theorem ndTy_record {attrs : Attrs} {o : Bool} (h : ndTy (.record attrs o) = true) :
    (attrs.map (·.1)).Nodup ∧ ∀ k r t, (k, r, t) ∈ attrs → ndTy t = true := by
  simp only [ndTy, Bool.and_eq_true, decide_eq_true_eq] at h
  exact ⟨h.2, ndAttrs_iff.mp h.1⟩

def isNeverB : CedarType → Bool
  | .never => true
  | _ => false

-- `Never` occurs inside the type only as the element type of a set (`Set<Never>`, the type of `[]`)
mutual
def nnTy : CedarType → Bool
  | .never => false
  | .set (some t) => isNeverB t || nnTy t
  | .record attrs _ => nnAttrs attrs
  | _ => true
def nnAttrs : List (String × Bool × CedarType) → Bool
  | [] => true
  | (_, _, t) :: rest => nnTy t && nnAttrs rest
end

def nqTy (t : CedarType) : Bool := isNeverB t || nnTy t

theorem nnAttrs_iff {attrs : Attrs} : nnAttrs attrs = true ↔ ∀ k r t, (k, r, t) ∈ attrs → nnTy t = true :=
  attrsAll_iff rfl (fun _ _ _ _ => rfl)

theorem nn_ne_never {τ : CedarType} (h : nnTy τ = true) : τ ≠ .never := by
  intro h'; rw [h'] at h; simp [nnTy] at h

theorem nn_nq {τ : CedarType} (h : nnTy τ = true) : nqTy τ = true := by simp [nqTy, h]

theorem isNeverB_eq {t : CedarType} (h : isNeverB t = true) : t = .never := by
  cases t <;> simp [isNeverB] at h ⊢

theorem subtype_never_r {a : CedarType} (ha : a ≠ .never) : isSubtype .permissive a .never = false := by
  cases a <;> simp [isSubtype] at ha ⊢

theorem mem_insertSortedTy_self (x : EntityType) : ∀ (l : List EntityType), x ∈ insertSortedTy x l
  | [] => by simp [insertSortedTy]
  | y :: ys => by
    simp only [insertSortedTy]
    split
    · exact List.mem_cons_self
    · split
      · rename_i h; simp only [beq_iff_eq] at h; subst h; exact List.mem_cons_self
      · exact List.mem_cons_of_mem _ (mem_insertSortedTy_self x ys)

theorem mem_insertSortedTy_of_mem (x : EntityType) {z : EntityType} : ∀ (l : List EntityType), z ∈ l → z ∈ insertSortedTy x l
  | [], h => by cases h
  | y :: ys, h => by
    simp only [insertSortedTy]
    split
    · exact List.mem_cons_of_mem _ h
    · split
      · exact h
      · rcases List.mem_cons.mp h with rfl | h
        · exact List.mem_cons_self
        · exact List.mem_cons_of_mem _ (mem_insertSortedTy_of_mem x ys h)

theorem mem_lubUnion_r {z : EntityType} : ∀ (a b : List EntityType), z ∈ b → z ∈ lubUnion a b
  | [], b, h => h
  | x :: a, b, h => by
    unfold lubUnion
    simp only [List.foldl_cons]
    exact mem_lubUnion_r a _ (mem_insertSortedTy_of_mem x b h)

theorem mem_lubUnion_l {z : EntityType} : ∀ (a b : List EntityType), z ∈ a → z ∈ lubUnion a b
  | [], b, h => by cases h
  | x :: a, b, h => by
    unfold lubUnion
    simp only [List.foldl_cons]
    rcases List.mem_cons.mp h with rfl | h
    · exact mem_lubUnion_r a _ (mem_insertSortedTy_self z b)
    · exact mem_lubUnion_l a _ h

theorem all_keys_false {a : Attrs} {keys : List String} {k : String} (hk : k ∈ a.map (·.1)) (hn : k ∉ keys) :
    a.all (fun x => keys.contains x.1) = false := by
  rw [Bool.eq_false_iff]
  intro h
  rw [List.all_eq_true] at h
  obtain ⟨x, hx, rfl⟩ := List.mem_map.mp hk
  have := h x hx
  simp only [List.contains_iff_mem] at this
  exact hn this

theorem subtype_mono {a b : CedarType} (hs : isSubtype .strict a b = true) (ha : a.mono = true) : b ≠ .never := by
  intro hb; subst hb
  cases a <;> simp [isSubtype, CedarType.mono] at hs ha

/-- what `lubAttrsStrict` / `lubAttrsPermissive` do with the left attribute list: an entry is joined with the entry `a1` has
under its key, or (permissive mode only) dropped; `P` holds of every join of attribute types -/
inductive AttrsJoin (m : ValidationMode) (P : CedarType → CedarType → CedarType → Prop) (a1 : Attrs) : Attrs → Attrs → Prop
  | nil : AttrsJoin m P a1 [] []
  | keep {k r0 t0 r1 t1 t rest rest'} : Attrs.find? a1 k = some (r1, t1) → lub m t0 t1 = some t → P t0 t1 t →
      (m = .strict → r0 = r1) → AttrsJoin m P a1 rest rest' →
      AttrsJoin m P a1 ((k, r0, t0) :: rest) ((k, r0 && r1, t) :: rest')
  | drop {k r0 t0 rest rest'} : m = .permissive → AttrsJoin m P a1 rest rest' → AttrsJoin m P a1 ((k, r0, t0) :: rest) rest'

section
variable {m : ValidationMode} {P : CedarType → CedarType → CedarType → Prop} {a0 a1 attrs : Attrs}

theorem AttrsJoin.mem (h : AttrsJoin m P a1 a0 attrs) : ∀ k r t, (k, r, t) ∈ attrs →
    ∃ r0 t0 r1 t1, (k, r0, t0) ∈ a0 ∧ Attrs.find? a1 k = some (r1, t1) ∧ r = (r0 && r1) ∧ (m = .strict → r0 = r1) ∧ P t0 t1 t := by
  induction h with
  | nil => intro k r t hm; cases hm
  | keep hf _ hp hr _ ih =>
    intro k r t hm
    rcases List.mem_cons.mp hm with heq | hm
    · cases heq; exact ⟨_, _, _, _, List.mem_cons_self, hf, rfl, hr, hp⟩
    · obtain ⟨r0, t0, r1, t1, h1, h2⟩ := ih k r t hm
      exact ⟨r0, t0, r1, t1, List.mem_cons_of_mem _ h1, h2⟩
  | drop _ _ ih =>
    intro k r t hm
    obtain ⟨r0, t0, r1, t1, h1, h2⟩ := ih k r t hm
    exact ⟨r0, t0, r1, t1, List.mem_cons_of_mem _ h1, h2⟩

theorem AttrsJoin.sublist (h : AttrsJoin m P a1 a0 attrs) : (attrs.map (·.1)).Sublist (a0.map (·.1)) := by
  induction h with
  | nil => exact .slnil
  | keep _ _ _ _ _ ih => exact ih.cons_cons _
  | drop _ _ ih => exact ih.cons _

theorem AttrsJoin.keys (h : AttrsJoin m P a1 a0 attrs) (hm : m = .strict) : attrs.map (·.1) = a0.map (·.1) := by
  induction h with
  | nil => rfl
  | keep _ _ _ _ _ ih => simp only [List.map_cons, ih]
  | drop hp _ _ => rw [hm] at hp; cases hp

/-- the entry the bound has under a key joins the entries both arguments have under it — when nothing was dropped (strict
mode) or the left keys are distinct: otherwise the bound may keep a later entry of a duplicated key -/
theorem AttrsJoin.find (h : AttrsJoin m P a1 a0 attrs) (hk : m = .strict ∨ (a0.map (·.1)).Nodup) : ∀ k r t,
    Attrs.find? attrs k = some (r, t) →
    ∃ r0 t0 r1 t1, Attrs.find? a0 k = some (r0, t0) ∧ Attrs.find? a1 k = some (r1, t1) ∧ r = (r0 && r1) ∧ P t0 t1 t := by
  induction h with
  | nil => intro k r t hf; cases hf
  | @keep k0 r0 t0 r1 t1 t' rest rest' hf _ hp _ _ ih =>
    intro k r t hfk
    have hk' : m = .strict ∨ (rest.map (·.1)).Nodup := hk.imp_right (fun hn => (List.nodup_cons.mp hn).2)
    simp only [Attrs.find?] at hfk ⊢
    split at hfk
    · rename_i heq
      cases hfk
      rw [beq_iff_eq] at heq
      subst heq
      exact ⟨r0, t0, r1, t1, by simp, hf, rfl, hp⟩
    · rename_i hne
      rw [if_neg hne]
      exact ih hk' k r t hfk
  | @drop k0 r0 t0 rest rest' hperm _ ih =>
    intro k r t hfk
    have hn : ((k0 :: rest.map (·.1))).Nodup := hk.resolve_left (fun hs => by rw [hs] at hperm; cases hperm)
    obtain ⟨r0', t0', r1, t1, h0, h1⟩ := ih (Or.inr (List.nodup_cons.mp hn).2) k r t hfk
    refine ⟨r0', t0', r1, t1, ?_, h1⟩
    have hne : (k0 == k) = false := by
      rw [beq_eq_false_iff_ne]
      rintro rfl
      exact (List.nodup_cons.mp hn).1 (find_some_key h0)
    simp only [Attrs.find?, hne, Bool.false_eq_true, if_false]
    exact h0

theorem lubAttrsStrict_join {a1 : Attrs} : ∀ {a0 attrs : Attrs},
    (∀ k r0 t0, (k, r0, t0) ∈ a0 → ∀ t1 t, lub m t0 t1 = some t → P t0 t1 t) →
    lubAttrsStrict m a0 a1 = some attrs → AttrsJoin m P a1 a0 attrs
  | [], attrs, _, h => by
    simp only [lubAttrsStrict, Option.some.injEq] at h
    subst h; exact .nil
  | (k, r0, t0) :: rest, attrs, ih, h => by
    simp only [lubAttrsStrict] at h
    split at h
    · cases h
    · rename_i r1 t1 hf
      split at h
      · rename_i t rest' hl hr
        split at h
        · rename_i hreq
          cases h
          exact .keep hf hl (ih k r0 t0 List.mem_cons_self t1 t hl) (fun _ => by simpa using hreq)
            (lubAttrsStrict_join (fun k' r' t' hm => ih k' r' t' (List.mem_cons_of_mem _ hm)) hr)
        · cases h
      · cases h

theorem lubAttrsPermissive_join {a1 : Attrs} (hm : m = .permissive) : ∀ {a0 : Attrs},
    (∀ k r0 t0, (k, r0, t0) ∈ a0 → ∀ t1 t, lub m t0 t1 = some t → P t0 t1 t) →
    AttrsJoin m P a1 a0 (lubAttrsPermissive m a0 a1)
  | [], _ => by simp only [lubAttrsPermissive]; exact .nil
  | (k, r0, t0) :: rest, ih => by
    have tail := lubAttrsPermissive_join (a1 := a1) hm (fun k' r' t' hm => ih k' r' t' (List.mem_cons_of_mem _ hm))
    simp only [lubAttrsPermissive]
    split
    · exact .drop hm tail
    · rename_i r1 t1 hf
      split
      · rename_i t hl
        exact .keep hf hl (ih k r0 t0 List.mem_cons_self t1 t hl) (fun hs => by rw [hs] at hm; cases hm) tail
      · exact .drop hm tail

theorem lubAttrsPerm_key {a0 a1 : Attrs} {k : String} (h : k ∈ (lubAttrsPermissive .permissive a0 a1).map (·.1)) :
    k ∈ a0.map (·.1) ∧ k ∈ a1.map (·.1) := by
  obtain ⟨⟨k', r, t⟩, hx, rfl⟩ := List.mem_map.mp h
  obtain ⟨r0, t0, r1, t1, h1, h2, _⟩ :=
    (lubAttrsPermissive_join (P := fun _ _ _ => True) rfl (fun _ _ _ _ _ _ _ => trivial)).mem k' r t hx
  exact ⟨List.mem_map.mpr ⟨_, h1, rfl⟩, find_some_key h2⟩

def Incomparable (m : ValidationMode) (a b : CedarType) : Prop := isSubtype m a b = false ∧ isSubtype m b a = false

/-- rule induction for `lub m`: the rows of `Type::least_upper_bound` that can be reached, the recursive calls as premises
(the rows with `Set { None }` or `AnyEntity` on one side are shadowed by the two subtype tests) -/
theorem lub_rule_aux
    (sub_l : ∀ {a b}, isSubtype m a b = true → P a b b)
    (sub_r : ∀ {a b}, isSubtype m a b = false → isSubtype m b a = true → P a b a)
    (bool : ∀ {x y}, Incomparable m (.bool x) (.bool y) → P (.bool x) (.bool y) (.bool .anyBool))
    (set : ∀ {e0 e1 t}, Incomparable m (.set (some e0)) (.set (some e1)) → lub m e0 e1 = some t → P e0 e1 t → P (.set (some e0)) (.set (some e1)) (.set (some t)))
    (record : ∀ {a0 o0 a1 o1 attrs}, Incomparable m (.record a0 o0) (.record a1 o1) → (m = .strict → sameKeys a0 a1 = true) → AttrsJoin m P a1 a0 attrs →
      P (.record a0 o0) (.record a1 o1) (.record attrs (o0 || o1 ||
        !(a0.all (fun a => (attrs.map (·.1)).contains a.1) && a1.all (fun a => (attrs.map (·.1)).contains a.1)))))
    (entity : ∀ {l0 l1}, Incomparable m (.entity l0) (.entity l1) → m = .permissive → P (.entity l0) (.entity l1) (.entity (lubUnion l0 l1))) :
    ∀ (n : Nat) {a b c : CedarType}, sizeOf a < n → lub m a b = some c → P a b c := by
  intro n
  induction n with
  | zero => intro a b c hn; omega
  | succ n ih =>
    intro a b c hn h
    rw [lub.eq_def] at h
    simp only at h
    split at h
    · rename_i hs; cases h; exact sub_l hs
    · split at h
      · rename_i hn hs; cases h; exact sub_r (by simpa using hn) hs
      · rename_i hnl hnr
        have hinc : Incomparable m a b := ⟨by simpa using hnl, by simpa using hnr⟩
        split at h
        · cases h; exact bool hinc
        · simp [isSubtype] at hnr
        · simp [isSubtype] at hnl
        · rename_i e0 e1
          cases hl : lub m e0 e1 with
          | none => rw [hl] at h; cases h
          | some t => rw [hl] at h; cases h; exact set hinc hl (ih (by simp at hn; omega) hl)
        · rename_i a0 o0 a1 o1
          have iha : ∀ k r0 t0, (k, r0, t0) ∈ a0 → ∀ t1 t, lub m t0 t1 = some t → P t0 t1 t := by
            intro k r0 t0 hm t1 t hl
            refine ih ?_ hl
            have := List.sizeOf_lt_of_mem hm
            simp at this hn
            omega
          cases m with
          | strict =>
            simp only [ValidationMode.isStrict, if_true] at h
            split at h
            · rename_i hk
              cases hl : lubAttrsStrict .strict a0 a1 with
              | none => rw [hl] at h; cases h
              | some attrs => rw [hl] at h; cases h; exact record hinc (fun _ => hk) (lubAttrsStrict_join iha hl)
            · cases h
          | permissive =>
            simp only [ValidationMode.isStrict, Bool.false_eq_true, if_false, Option.map_some] at h
            cases h
            exact record hinc (fun hs => by cases hs) (lubAttrsPermissive_join rfl iha)
        · split at h
          · cases h
          · rename_i hs
            cases h
            exact entity hinc (by cases m <;> simp [ValidationMode.isStrict] at hs ⊢)
        · split at h
          · cases h
          · rename_i hs; cases m <;> simp [ValidationMode.isStrict, isSubtype] at hs hnr
        · split at h
          · cases h
          · rename_i hs; cases m <;> simp [ValidationMode.isStrict, isSubtype] at hs hnl
        · cases h

theorem lub_rule
    (sub_l : ∀ {a b}, isSubtype m a b = true → P a b b)
    (sub_r : ∀ {a b}, isSubtype m b a = true → P a b a)
    (bool : ∀ {x y}, P (.bool x) (.bool y) (.bool .anyBool))
    (set : ∀ {e0 e1 t}, lub m e0 e1 = some t → P e0 e1 t → P (.set (some e0)) (.set (some e1)) (.set (some t)))
    (record : ∀ {a0 o0 a1 o1 attrs}, (m = .strict → sameKeys a0 a1 = true) → AttrsJoin m P a1 a0 attrs →
      P (.record a0 o0) (.record a1 o1) (.record attrs (o0 || o1 ||
        !(a0.all (fun a => (attrs.map (·.1)).contains a.1) && a1.all (fun a => (attrs.map (·.1)).contains a.1)))))
    (entity : ∀ {l0 l1}, m = .permissive → P (.entity l0) (.entity l1) (.entity (lubUnion l0 l1)))
    {a b c : CedarType} (h : lub m a b = some c) : P a b c :=
  lub_rule_aux sub_l (fun _ => sub_r) (fun _ => bool) (fun _ => set) (fun _ => record) (fun _ => entity) (sizeOf a + 1)
    (Nat.lt_succ_self _) h

/-- a record value is a value of a record bound with attributes `attrs`: a field the bound does not declare is
undeclared in an open argument, or was lost from one of the arguments — either way the bound is open -/
theorem inst_record_bound {kvs : List (String × Value)} {a0 a1 attrs : Attrs} {o0 o1 : Bool}
    (h1 : ∀ k v, (k, v) ∈ kvs → ∀ r t, Attrs.find? attrs k = some (r, t) → InstanceOfType v t)
    (h2 : ∀ k v, (k, v) ∈ kvs → (Attrs.find? a0 k = none → o0 = true) ∨ (Attrs.find? a1 k = none → o1 = true))
    (h3 : ∀ k t, (k, true, t) ∈ attrs → ∃ v, (k, v) ∈ kvs) :
    InstanceOfType (.record kvs) (.record attrs (o0 || o1 ||
      !(a0.all (fun a => (attrs.map (·.1)).contains a.1) && a1.all (fun a => (attrs.map (·.1)).contains a.1)))) := by
  refine .record kvs _ _ h1 ?_ h3
  intro k v hkv hf
  rw [find_none_iff] at hf
  rcases h2 k v hkv with h | h
  · cases hf0 : Attrs.find? a0 k with
    | none => rw [h hf0]; rfl
    | some q => rw [all_keys_false (find_some_key hf0) hf, Bool.false_and]; exact Bool.or_true _
  · cases hf1 : Attrs.find? a1 k with
    | none => rw [h hf1, Bool.or_true]; rfl
    | some q => rw [all_keys_false (find_some_key hf1) hf, Bool.and_false]; exact Bool.or_true _

theorem lub_inst {a b c : CedarType} (h : lub m a b = some c) :
    (m = .strict ∨ ndTy a = true → Below a c) ∧ Below b c := by
  refine lub_rule (P := fun a b c => (m = .strict ∨ ndTy a = true → Below a c) ∧ Below b c) ?_ ?_ ?_ ?_ ?_ ?_ h
  · exact fun hs => ⟨fun _ => isSubtype_below hs, .refl _⟩
  · exact fun hs => ⟨fun _ => .refl _, isSubtype_below hs⟩
  · exact ⟨fun _ v hv => by cases hv <;> exact .anyBool _, fun v hv => by cases hv <;> exact .anyBool _⟩
  · intro e0 e1 t _ ih
    refine ⟨fun hnd v hv => ?_, fun v hv => ?_⟩
    · cases hv with | set vs _ hall => exact .set vs _ (fun v' hv' => ih.1 hnd v' (hall v' hv'))
    · cases hv with | set vs _ hall => exact .set vs _ (fun v' hv' => ih.2 v' (hall v' hv'))
  · intro a0 o0 a1 o1 attrs _ hj
    refine ⟨fun hnd v hv => ?_, fun v hv => ?_⟩
    · cases hv with
      | record kvs _ _ h1 h2 h3 =>
        refine inst_record_bound (fun k v hkv r t hf => ?_) (fun k v hkv => Or.inl (h2 k v hkv)) (fun k t hm => ?_)
        · obtain ⟨r0, t0, r1, t1, hf0, _, _, ih⟩ := hj.find (hnd.imp_right (fun h => (ndTy_record h).1)) k r t hf
          exact ih.1 (hnd.imp_right (fun h => (ndTy_record h).2 _ _ _ (find_mem hf0))) v (h1 k v hkv r0 t0 hf0)
        · obtain ⟨r0, t0, r1, t1, hm0, _, hr, _⟩ := hj.mem k true t hm
          obtain ⟨rfl, _⟩ := Bool.and_eq_true_iff.mp hr.symm
          exact h3 k t0 hm0
    · cases hv with
      | record kvs _ _ h1 h2 h3 =>
        refine inst_record_bound (fun k v hkv r t hf => ?_) (fun k v hkv => Or.inr (h2 k v hkv)) (fun k t hm => ?_)
        · obtain ⟨r0, t0, r1, t1, _, hf1, _, _, ih⟩ := hj.mem k r t (find_mem hf)
          exact ih.2 v (h1 k v hkv r1 t1 hf1)
        · obtain ⟨r0, t0, r1, t1, _, hf1, hr, _⟩ := hj.mem k true t hm
          obtain ⟨_, rfl⟩ := Bool.and_eq_true_iff.mp hr.symm
          exact h3 k t1 (find_mem hf1)
  · intro l0 l1 _
    exact ⟨fun _ v hv => by cases hv with | entity u _ hm => exact .entity u _ (mem_lubUnion_l _ _ hm),
      fun v hv => by cases hv with | entity u _ hm => exact .entity u _ (mem_lubUnion_r _ _ hm)⟩

theorem lub_mono {a b c : CedarType} (h : lub .strict a b = some c) : a.mono = true → b.mono = true → c.mono = true := by
  refine lub_rule (P := fun a b c => a.mono = true → b.mono = true → c.mono = true) ?_ ?_ ?_ ?_ ?_ ?_ h
  · exact fun _ _ hb => hb
  · exact fun _ ha _ => ha
  · exact fun _ _ => rfl
  · exact fun _ ih => ih
  · intro a0 o0 a1 o1 attrs _ hj ha hb
    simp only [CedarType.mono] at ha hb ⊢
    rw [monoAttrs_iff] at ha hb ⊢
    intro k r t hm
    obtain ⟨r0, t0, r1, t1, hm0, hf1, _, _, ih⟩ := hj.mem k r t hm
    exact ih (ha k r0 t0 hm0) (hb k r1 t1 (find_mem hf1))
  · intro _ _ hp; cases hp

theorem lub_nd {a b c : CedarType} (h : lub m a b = some c) : ndTy a = true → ndTy b = true → ndTy c = true := by
  refine lub_rule (P := fun a b c => ndTy a = true → ndTy b = true → ndTy c = true) ?_ ?_ ?_ ?_ ?_ ?_ h
  · exact fun _ _ hb => hb
  · exact fun _ ha _ => ha
  · exact fun _ _ => rfl
  · exact fun _ ih => ih
  · intro a0 o0 a1 o1 attrs _ hj ha hb
    obtain ⟨hn0, ht0⟩ := ndTy_record ha
    obtain ⟨_, ht1⟩ := ndTy_record hb
    simp only [ndTy, Bool.and_eq_true, decide_eq_true_eq]
    refine ⟨ndAttrs_iff.mpr (fun k r t hm => ?_), hn0.sublist hj.sublist⟩
    obtain ⟨r0, t0, r1, t1, hm0, hf1, _, _, ih⟩ := hj.mem k r t hm
    exact ih (ht0 k r0 t0 hm0) (ht1 k r1 t1 (find_mem hf1))
  · exact fun _ _ _ => rfl

theorem lub_flat {a b c : CedarType} (h : lub m a b = some c) (hf : a.flat = true ∨ b.flat = true) :
    Below a c ∧ Below b c ∧ (c = a ∨ c = b ∨ c = .bool .anyBool) := by
  refine lub_rule (P := fun a b c => a.flat = true ∨ b.flat = true →
    Below a c ∧ Below b c ∧ (c = a ∨ c = b ∨ c = .bool .anyBool)) ?_ ?_ ?_ ?_ ?_ ?_ h hf
  · exact fun hs _ => ⟨isSubtype_below hs, .refl _, Or.inr (Or.inl rfl)⟩
  · exact fun hs _ => ⟨.refl _, isSubtype_below hs, Or.inl rfl⟩
  · exact fun _ => ⟨fun v hi => by cases hi <;> constructor, fun v hi => by cases hi <;> constructor, Or.inr (Or.inr rfl)⟩
  -- with a flat side only the row of two boolean types applies
  all_goals
    intros
    rename_i hf
    rcases hf with hf | hf <;> cases hf

theorem lub_never_left (m : ValidationMode) (t : CedarType) : lub m .never t = some t := by
  rw [lub.eq_def]; simp [isSubtype]

theorem lub_of_sub_l {a b : CedarType} (h : isSubtype m a b = true) : lub m a b = some b := by
  rw [lub.eq_def]; simp only [h, if_true]

theorem lub_of_sub_r {a b : CedarType} (hn : isSubtype m a b = false) (h : isSubtype m b a = true) : lub m a b = some a := by
  rw [lub.eq_def]; simp only [hn, h, Bool.false_eq_true, if_false, if_true]

theorem lub_bool {x y : BoolType} (h1 : isSubtype m (.bool x) (.bool y) = false) (h2 : isSubtype m (.bool y) (.bool x) = false) :
    lub m (.bool x) (.bool y) = some (.bool .anyBool) := by
  rw [lub.eq_def]; simp only [h1, h2, Bool.false_eq_true, if_false]

theorem lub_set {e0 e1 : CedarType} (h1 : isSubtype m (.set (some e0)) (.set (some e1)) = false)
    (h2 : isSubtype m (.set (some e1)) (.set (some e0)) = false) :
    lub m (.set (some e0)) (.set (some e1)) = (lub m e0 e1).map (fun t => .set (some t)) := by
  rw [lub.eq_def]; simp only [h1, h2, Bool.false_eq_true, if_false]

theorem lub_record_perm {a0 a1 : Attrs} {o0 o1 : Bool} (h1 : isSubtype .permissive (.record a0 o0) (.record a1 o1) = false)
    (h2 : isSubtype .permissive (.record a1 o1) (.record a0 o0) = false) :
    lub .permissive (.record a0 o0) (.record a1 o1) = some (.record (lubAttrsPermissive .permissive a0 a1) (o0 || o1 ||
      !(a0.all (fun a => ((lubAttrsPermissive .permissive a0 a1).map (·.1)).contains a.1) &&
        a1.all (fun a => ((lubAttrsPermissive .permissive a0 a1).map (·.1)).contains a.1)))) := by
  rw [lub.eq_def]; simp only [h1, h2, Bool.false_eq_true, if_false, ValidationMode.isStrict, Option.map_some]

theorem foldl_lub_none {m : ValidationMode} (ts : List CedarType) :
    ts.foldl (fun acc t => acc.bind (fun a => lub m a t)) none = none :=
  List.foldlRecOn (motive := (· = none)) ts _ rfl fun _ h _ _ => by rw [h]; rfl

/-- the fold starts at `Never`, which every first element absorbs -/
theorem lubAll_cons (m : ValidationMode) (t : CedarType) (ts : List CedarType) :
    lubAll m (t :: ts) = ts.foldl (fun acc t => acc.bind (fun a => lub m a t)) (some t) := by
  simp only [lubAll, List.foldl_cons, Option.bind_some, lub_never_left]

theorem foldl_lub_inv {I Q : CedarType → Prop}
    (step : ∀ {a t c}, I a → Q t → lub m a t = some c → I c ∧ Below a c ∧ Below t c) :
    ∀ (ts : List CedarType) {acc τ : CedarType}, ts.foldl (fun acc t => acc.bind (fun a => lub m a t)) (some acc) = some τ →
      I acc → (∀ t, t ∈ ts → Q t) → I τ ∧ Below acc τ ∧ ∀ t, t ∈ ts → Below t τ
  | [], acc, τ, h, ha, _ => by
    cases h
    exact ⟨ha, .refl _, fun t ht => by cases ht⟩
  | t :: ts, acc, τ, h, ha, hall => by
    simp only [List.foldl_cons, Option.bind_some] at h
    cases hl : lub m acc t with
    | none => rw [hl, foldl_lub_none] at h; cases h
    | some acc' =>
      rw [hl] at h
      obtain ⟨hi, hba, hbt⟩ := step ha (hall t List.mem_cons_self) hl
      obtain ⟨h1, h2, h3⟩ := foldl_lub_inv step ts h hi (fun t' ht' => hall t' (List.mem_cons_of_mem _ ht'))
      refine ⟨h1, hba.trans h2, fun t' ht' => ?_⟩
      rcases List.mem_cons.mp ht' with rfl | ht'
      · exact hbt.trans h2
      · exact h3 t' ht'

theorem lubAll_perm_spec {ts : List CedarType} {τ : CedarType} (h : lubAll .permissive ts = some τ)
    (hall : ∀ t, t ∈ ts → ndTy t = true) :
    (∀ t, t ∈ ts → Below t τ) ∧ ndTy τ = true := by
  obtain ⟨h1, _, h3⟩ := foldl_lub_inv (I := fun a => ndTy a = true) (Q := fun t => ndTy t = true)
    (fun ha ht hl => ⟨lub_nd hl ha ht, (lub_inst hl).1 (Or.inr ha), (lub_inst hl).2⟩) ts h rfl hall
  exact ⟨h3, h1⟩

theorem lubAll_spec {ts : List CedarType} {τ : CedarType} (h : lubAll .strict ts = some τ) (hne : ts ≠ []) :
    (∀ t, t ∈ ts → Below t τ) ∧ ((∀ t, t ∈ ts → t.mono = true) → τ.mono = true) := by
  cases ts with
  | nil => exact (hne rfl).elim
  | cons t ts =>
    rw [lubAll_cons] at h
    have hb := foldl_lub_inv (I := fun _ => True) (Q := fun _ => True)
      (fun _ _ hl => ⟨trivial, (lub_inst hl).1 (Or.inl rfl), (lub_inst hl).2⟩) ts h trivial (fun _ _ => trivial)
    refine ⟨fun t' ht' => (List.mem_cons.mp ht').elim (fun e => e ▸ hb.2.1) (hb.2.2 t'), fun hall => ?_⟩
    exact (foldl_lub_inv (I := fun a => a.mono = true) (Q := fun t => t.mono = true)
      (fun ha ht hl => ⟨lub_mono hl ha ht, (lub_inst hl).1 (Or.inl rfl), (lub_inst hl).2⟩) ts h
      (hall t List.mem_cons_self) (fun t' ht' => hall t' (List.mem_cons_of_mem _ ht'))).1

theorem lub_nq {a b c : CedarType} (h : lub .permissive a b = some c) :
    nqTy a = true → nqTy b = true → nqTy c = true ∧ (nnTy b = true → nnTy c = true) := by
  refine lub_rule (P := fun a b c => nqTy a = true → nqTy b = true → nqTy c = true ∧ (nnTy b = true → nnTy c = true))
    ?_ ?_ ?_ ?_ ?_ ?_ h
  · exact fun _ _ hb => ⟨hb, id⟩
  · intro a b hs ha _
    refine ⟨ha, fun hnb => ?_⟩
    rcases (Bool.or_eq_true _ _).mp ha with h0 | h0
    · rw [isNeverB_eq h0, subtype_never_r (nn_ne_never hnb)] at hs; cases hs
    · exact h0
  · exact fun _ _ => ⟨rfl, fun _ => rfl⟩
  · exact fun _ ih ha hb => ⟨(ih ha hb).1, fun _ => (ih ha hb).1⟩
  · intro a0 o0 a1 o1 attrs _ hj ha hb
    have hnn : nnAttrs attrs = true := by
      refine nnAttrs_iff.mpr (fun k r t hm => ?_)
      obtain ⟨r0, t0, r1, t1, hm0, hf1, _, _, ih⟩ := hj.mem k r t hm
      have h1 := nnAttrs_iff.mp hb k r1 t1 (find_mem hf1)
      exact (ih (nn_nq (nnAttrs_iff.mp ha k r0 t0 hm0)) (nn_nq h1)).2 h1
    exact ⟨hnn, fun _ => hnn⟩
  · exact fun _ _ _ => ⟨rfl, fun _ => rfl⟩

theorem lub_nq_nn {a b c : CedarType} (h : lub .permissive a b = some c) (ha : nqTy a = true) (hb : nnTy b = true) :
    nnTy c = true := (lub_nq h ha (nn_nq hb)).2 hb

theorem lub_tt {a b : CedarType} (h : lub m a b = some (.bool .tt)) :
    (a = .bool .tt ∨ a = .never) ∧ (b = .bool .tt ∨ b = .never) := by
  refine lub_rule (P := fun a b c => c = .bool .tt → (a = .bool .tt ∨ a = .never) ∧ (b = .bool .tt ∨ b = .never))
    ?_ ?_ ?_ ?_ ?_ ?_ h rfl
  · exact fun hs hc => ⟨subtype_tt (hc ▸ hs), Or.inl hc⟩
  · exact fun hs hc => ⟨Or.inl hc, subtype_tt (hc ▸ hs)⟩
  all_goals exact fun {_ _} => nofun

theorem lub_ne_never {a b c : CedarType} (h : lub m a b = some c) (ha : a ≠ .never) (hb : b ≠ .never) : c ≠ .never := by
  refine lub_rule (P := fun a b c => a ≠ .never → b ≠ .never → c ≠ .never) ?_ ?_ ?_ ?_ ?_ ?_ h ha hb
  · exact fun _ _ hb => hb
  · exact fun _ ha _ => ha
  all_goals intros; exact nofun

end

end Cedar.C03
