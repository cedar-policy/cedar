import CedarVerif.Lemmas.PartialPolicyLevel
/-
The restricted evaluator (`RestrictedEvaluator::partial_interpret`, model `rinterp`) is sound for `evaluate`; hence what
`Context::substitute` and `concretize_request` compute is the relation the soundness theorems assume (`CtxCompletes`,
`Concretizes2`).  Also the reading of literal `unknown("s")` calls and the scenario of `second_round_needed` (Thm/C13.lean).
-/
namespace Cedar
namespace PS

theorem splitPV_inl_values {pvs : List PartialValue} {vs : List Value} (h : splitPV pvs = .inl vs) :
    pvs = vs.map PartialValue.value := splitPV_inl h

theorem ofCollect_ne_val {f : Expr → PRes} {xs : List Expr} {k : List Value → PRes} {g : List Expr → PRes}
    (hk : ∀ vs v, k vs ≠ .val v) (hg : ∀ rs v, g rs ≠ .val v) : ∀ v, PRes.ofCollect (collectPV f xs) k g ≠ .val v := by
  induction xs generalizing k g with
  | nil => exact hk []
  | cons x xs ih =>
    rw [ofCollect_cons]
    cases f x with
    | val v0 => exact ih (fun vs => hk _) fun rs => hg _
    | res e => exact ih (fun vs => hg _) fun rs => hg _
    | _ => nofun

theorem ofCollect_val {f : Expr → PRes} {yx : Expr → Result Value} {xs : List Expr}
    (h : ∀ x, x ∈ xs → ∀ v, f x = .val v → yx x = .ok v)
    {k : List Value → PRes} {g : List Expr → PRes} {k' : List Value → Result Value}
    (hk : ∀ vs v, k vs = .val v → k' vs = .ok v) (hg : ∀ rs v, g rs ≠ .val v) :
    ∀ v, PRes.ofCollect (collectPV f xs) k g = .val v → listR (collectR yx xs) k' = .ok v := by
  induction xs generalizing k g k' with
  | nil => exact hk []
  | cons x xs ih =>
    intro v hv
    rw [ofCollect_cons] at hv
    cases hfx : f x with
    | val v0 =>
      rw [hfx] at hv
      have := ih (fun y hy => h y (List.mem_cons_of_mem _ hy)) (k' := fun vs => k' (v0 :: vs)) (fun vs => hk _) (fun rs => hg _) v hv
      rw [collectR, h x (List.mem_cons_self ..) v0 hfx]
      cases hc : collectR yx xs with
      | error c => rw [hc] at this; cases this
      | ok vs => rw [hc] at this; exact this
    | res e => rw [hfx] at hv; exact (ofCollect_ne_val (fun vs => hg _) (fun rs => hg _) v hv).elim
    | err c => rw [hfx] at hv; cases hv
    | fuel => rw [hfx] at hv; cases hv
    | panic => rw [hfx] at hv; cases hv

section
variable (req : Request) (es : Entities) (env : SlotEnv)

theorem rinterp_sound : ∀ (n : Nat) (e : Expr) (v : Value), rinterp n e = .val v → evaluate req es env e = .ok v := by
  intro n
  induction n with
  | zero => nofun
  | succ n ih =>
    intro e v h
    have ih' : ∀ xs : List Expr, ∀ x, x ∈ xs → ∀ v, rinterp n x = .val v → evaluate req es env x = .ok v :=
      fun _ x _ => ih x
    unfold rinterp at h
    split at h
    · cases h; rw [evaluate]
    · cases h
    · rw [evaluate_set, evaluateList_eq_collectR]
      exact ofCollect_val (ih' _) (fun vs v h => by cases h; rfl) (by nofun) v h
    · rename_i kvs
      rw [evaluate_record_unzip, evaluateList_eq_collectR]
      exact ofCollect_val (ih' _) (fun vs v h => by cases h; rfl) (by nofun) v
        ((ofCollect_kvs (rinterp n) kvs
          (fun ks vs => .val (.record ((ks.zip vs).foldl (fun acc kv => insertKV kv.1 kv.2 acc) [])))
          (fun ks rs => .res (.record (ks.zip rs)))).symm.trans h)
    · rename_i fn args
      rw [evaluate_call, evaluateList_eq_collectR]
      refine ofCollect_val (ih' _) (fun vs v h => ?_) (by nofun) v h
      unfold pcallExt at h
      split at h
      · split at h
        · split at h <;> cases h
        · cases h
      · cases hc : callExt fn vs with
        | error c => rw [hc] at h; cases h
        | ok w => rw [hc] at h; cases h; rfl
    · cases h

end

theorem conc_of_concretize {σ : Mapper} {en : UidEntry} {key : String} {uid : EntityUID}
    (h : en.concretize key σ = .ok (.known uid)) : en.Conc σ key uid := by
  unfold UidEntry.concretize at h
  cases hl : lookupKV σ key with
  | none =>
    rw [hl] at h
    simp only [Except.ok.injEq] at h
    subst h
    rfl
  | some val =>
    rw [hl] at h
    simp only at h
    cases ha : val.asEntity with
    | error c => rw [ha] at h; simp at h
    | ok uid' =>
      rw [ha] at h
      have hv := asEntity_ok ha
      subst hv
      cases en with
      | known u => simp at h
      | unknown ty =>
        cases ty with
        | none =>
          simp only [Except.ok.injEq, UidEntry.known.injEq] at h
          subst h
          exact hl
        | some t =>
          simp only at h
          split at h
          · rename_i ht
            simp only [Except.ok.injEq, UidEntry.known.injEq] at h
            subst h
            exact ⟨hl, by simpa using (beq_iff_eq.mp ht).symm⟩
          · simp at h

/-- `Context::substitute`: the restricted evaluator run on the substituted residual record -/
theorem ctxCompletes_of_substitute (σ : Mapper) (es : Entities) {kvs : List (String × Expr)} {ctx : List (String × Value)}
    (hf : Frag2 σ (.record kvs)) (h : (PContext.residual kvs).substitute σ = .ok (.value ctx)) :
    CtxCompletes σ es (some (.residual kvs)) ctx := by
  unfold PContext.substitute at h
  simp only at h
  cases hr : rinterp defaultFuel (Expr.substUnk σ (.record kvs)) with
  | val v =>
    rw [hr] at h
    cases v with
    | record r =>
      simp only [Except.ok.injEq, PContext.value.injEq] at h
      subst h
      exact ⟨hf, fun req env => rinterp_sound req es env _ _ _ hr⟩
    | prim p => simp at h
    | set vs => simp at h
    | ext x => simp at h
  | res r =>
    rw [hr] at h
    cases r <;> simp at h
  | err c => rw [hr] at h; simp at h
  | fuel => rw [hr] at h; simp at h
  | panic => rw [hr] at h; simp at h

theorem isAuthorizedCore_request (m : Mapper) (preq : PRequest) (pes : PEntities) (ps : List Policy) :
    (isAuthorizedCore m preq pes ps).request = preq := by
  unfold isAuthorizedCore
  rw [fold_request]

def CtxFrag (σ : Mapper) (pc : Option PContext) : Prop :=
  ∀ kvs, pc = some (.residual kvs) → Frag2 σ (.record kvs)

theorem substitute_value (kvs : List (String × Value)) (σ : Mapper) :
    (PContext.value kvs).substitute σ = .ok (.value kvs) := rfl

theorem concretizes2_of_concretizeRequest (pr : PartialResponse) (σ : Mapper) (es : Entities) (req : Request)
    (hf : CtxFrag σ pr.request.context)
    (h : pr.concretizeRequest σ = .ok (.ofConcrete req)) : Concretizes2 σ es pr.request req := by
  unfold PartialResponse.concretizeRequest at h
  cases hp : pr.request.principal.concretize "principal" σ with
  | error e => rw [hp] at h; cases h
  | ok p' =>
  cases ha : pr.request.action.concretize "action" σ with
  | error e => rw [hp, ha] at h; cases h
  | ok a' =>
  cases hr : pr.request.resource.concretize "resource" σ with
  | error e => rw [hp, ha, hr] at h; cases h
  | ok r' =>
  rw [hp, ha, hr] at h
  simp only [bind, Except.bind] at h
  cases hl : lookupKV σ "context" with
  | none =>
    rw [hl] at h
    simp only [pure, Except.pure] at h
    cases hc : pr.request.context with
    | none => rw [hc] at h; simp [PRequest.ofConcrete] at h
    | some c =>
      rw [hc] at h
      simp only at h
      cases hs : c.substitute σ with
      | error e => rw [hs] at h; simp [Except.map] at h
      | ok c' =>
        rw [hs] at h
        simp only [Except.map, Except.ok.injEq, PRequest.ofConcrete, PRequest.mk.injEq, Option.some.injEq] at h
        obtain ⟨h1, h2, h3, h4⟩ := h
        subst h1 h2 h3 h4
        refine ⟨conc_of_concretize hp, conc_of_concretize ha, conc_of_concretize hr, ?_⟩
        rw [hc]
        cases c with
        | value kvs =>
          rw [substitute_value] at hs
          simp only [Except.ok.injEq, PContext.value.injEq] at hs
          exact hs
        | residual kvs => exact ctxCompletes_of_substitute σ es (hf kvs hc) hs
  | some val =>
    rw [hl] at h
    cases val with
    | record attrs =>
      simp only at h
      cases hc : pr.request.context with
      | some c => rw [hc] at h; simp [throw, throwThe, MonadExceptOf.throw] at h
      | none =>
        rw [hc] at h
        simp only [pure, Except.pure, substitute_value, Except.map, Except.ok.injEq, PRequest.ofConcrete, PRequest.mk.injEq,
          Option.some.injEq, PContext.value.injEq] at h
        obtain ⟨h1, h2, h3, h4⟩ := h
        subst h1 h2 h3 h4
        refine ⟨conc_of_concretize hp, conc_of_concretize ha, conc_of_concretize hr, ?_⟩
        rw [hc]
        exact hl
    | prim p => simp [throw, throwThe, MonadExceptOf.throw] at h
    | set vs => simp [throw, throwThe, MonadExceptOf.throw] at h
    | ext x => simp [throw, throwThe, MonadExceptOf.throw] at h

/-- recognises a literal `unknown("s")` call.  `desugarUnk` reads such a call as the untyped unknown node it creates
    (`create_new_unknown`) and leaves everything else unchanged: the only reading under which such a policy has a concrete
    counterpart, since `Expr::substitute` replaces unknown *nodes*, never the call. -/
def isUnkCall (fn : String) (args : List Expr) : Option String :=
  if fn = "unknown" then
    match args with
    | [.lit (.string s)] => some s
    | _ => none
  else none

mutual
def desugarUnk : Expr → Expr
  | .lit p => .lit p
  | .var v => .var v
  | .slot s => .slot s
  | .unknown n ty => .unknown n ty
  | .ite c t e => .ite (desugarUnk c) (desugarUnk t) (desugarUnk e)
  | .and a b => .and (desugarUnk a) (desugarUnk b)
  | .or a b => .or (desugarUnk a) (desugarUnk b)
  | .unaryApp op a => .unaryApp op (desugarUnk a)
  | .binaryApp op a b => .binaryApp op (desugarUnk a) (desugarUnk b)
  | .call fn args => match isUnkCall fn args with
    | some s => .unknown s none
    | none => .call fn (desugarUnkList args)
  | .getAttr e a => .getAttr (desugarUnk e) a
  | .hasAttr e a => .hasAttr (desugarUnk e) a
  | .like e p => .like (desugarUnk e) p
  | .is e ty => .is (desugarUnk e) ty
  | .set xs => .set (desugarUnkList xs)
  | .record kvs => .record (desugarUnkKVs kvs)
def desugarUnkList : List Expr → List Expr
  | [] => []
  | x :: xs => desugarUnk x :: desugarUnkList xs
def desugarUnkKVs : List (String × Expr) → List (String × Expr)
  | [] => []
  | (k, x) :: xs => (k, desugarUnk x) :: desugarUnkKVs xs
end

/-- the first pass turns a literal `unknown("s")` call into the untyped unknown node, for every mapper, request, store and
    budget ≥ 2 — WITHOUT consulting the mapper (`efunc.call` returns the residual directly) -/
theorem pinterp_unknownCall (m : Mapper) (preq : PRequest) (pes : PEntities) (env : SlotEnv) (n : Nat) (s : String) :
    pinterp m preq pes env (n + 2) (.call "unknown" [.lit (.string s)]) = .res (.unknown s none) := by
  simp [pinterp, collectPV, splitPV, pcallExt, Value.asString, Except.map]

/-- the store of `second_round_needed`: `User::"a"` with `info = {x: unknown("u")}` (an unknown *nested* in an attribute
    value), `level = unknown("u")` (a *direct* unknown attribute) and the tag `t = unknown("u")` -/
def srPes : PEntities := ⟨[(⟨"User", "a"⟩, ⟨[("info", .residual (.record [("x", .unknown "u" none)])),
  ("level", .residual (.unknown "u" none))], [], [("t", .residual (.unknown "u" none))]⟩)], false⟩
/-- … and its completion under `u ↦ 1` -/
def srEs : Entities := [(⟨"User", "a"⟩, ⟨[("info", .record [("x", .prim (.int 1))]), ("level", .prim (.int 1))], [],
  [("t", .prim (.int 1))]⟩)]
def srSigma : Mapper := [("principal", .prim (.entityUID ⟨"User", "a"⟩)), ("u", .prim (.int 1))]
def srPreq : PRequest := ⟨.unknown (some "User"), .known ⟨"A", "x"⟩, .known ⟨"R", "r"⟩, some (.value [])⟩
def srReq : Request := ⟨⟨"User", "a"⟩, ⟨"A", "x"⟩, ⟨"R", "r"⟩, []⟩
def srNested : Policy := ⟨"nested", .permit, .binaryApp .eq (.getAttr (.var .principal) "info") (.record [("x", .lit (.int 1))]), []⟩
def srDirect : Policy := ⟨"direct", .permit, .binaryApp .eq (.getAttr (.var .principal) "level") (.lit (.int 1)), []⟩
def srTag : Policy := ⟨"tag", .permit, .binaryApp .eq (.binaryApp .getTag (.var .principal) (.lit (.string "t"))) (.lit (.int 1)), []⟩

theorem sr_storeCompletes : StoreCompletes srSigma srPes srEs ∧ Concretizes2 srSigma srEs srPreq srReq := by
  have hu : UnkOK srSigma "u" none := ⟨_, rfl, trivial, by intro t ht; cases ht⟩
  have hcan : (Value.record [("x", .prim (.int 1))]).Canon := ⟨⟨(by intro k' h; cases h), trivial⟩, trivial, trivial⟩
  refine ⟨?_, ⟨rfl, rfl⟩, rfl, rfl, rfl⟩
  refine storeCompletes_single _ _ _ rfl
    (attrsComplete_cons "info" (show AttrCompletes _ _ (.residual _) _ from ⟨.record (by decide) ?_, hcan, fun _ _ => rfl⟩)
      (attrsComplete_cons "level" (show AttrCompletes _ _ (.residual _) (.prim (.int 1)) from ⟨.unknown _ _ hu, trivial, fun _ _ => rfl⟩)
        attrsComplete_nil))
    (attrsComplete_cons "t" (show AttrCompletes _ _ (.residual _) (.prim (.int 1)) from ⟨.unknown _ _ hu, trivial, fun _ _ => rfl⟩)
      attrsComplete_nil)
  intro kv hkv; simp only [List.mem_cons, List.not_mem_nil, or_false] at hkv; subst hkv; exact .unknown _ _ hu

end PS
end Cedar
