import CedarVerif.Lemmas.LevelMono
import CedarVerif.Lemmas.LevelSlice
import CedarVerif.Lemmas.Data
import CedarVerif.Lemmas.EvalArms
import CedarVerif.Lemmas.EvalStore
/-
The value-level side of the soundness of level validation: `Kinds` (the kind annotations of the typed AST agree with the
run-time values), `Within` (all uids of a value, projected along an access path, are within k hops), and that `.`, `has` and the
operators that dereference read the slice as they read the store at an entity within reach.
-/
namespace Cedar.Level
open Cedar Cedar.Slice

/-- the kind annotation of a `GetAttr`/`HasAttr` target describes the value: `entity` an entity uid, `record` a record
(`other` is never consulted: the checker reports an internal error) -/
def TKind.matches : TKind → Value → Bool
  | .entity, .prim (.entityUID _) => true
  | .record, .record _ => true
  | .other, _ => true
  | _, _ => false

-- every kind annotation in the typed expression agrees with the value its target evaluates to (if it evaluates);
-- only along evaluated positions: the `then` branch when the test is true, the right operand of `&&` when the left is
-- true, … (an unevaluated operand is typed under capabilities that need not hold at run time)
mutual
def Kinds (req : Request) (es : Entities) (sl : SlotEnv) : TExpr → Prop
  | .lit _ => True
  | .var _ => True
  | .slot _ => True
  | .unknown _ _ => True
  | .ite c t e =>
    Kinds req es sl c ∧ (evaluate req es sl c.erase = .ok (.prim (.bool true)) → Kinds req es sl t) ∧
      (evaluate req es sl c.erase = .ok (.prim (.bool false)) → Kinds req es sl e)
  | .and a b => Kinds req es sl a ∧ (evaluate req es sl a.erase = .ok (.prim (.bool true)) → Kinds req es sl b)
  | .or a b => Kinds req es sl a ∧ (evaluate req es sl a.erase = .ok (.prim (.bool false)) → Kinds req es sl b)
  | .unaryApp _ a => Kinds req es sl a
  | .binaryApp _ a b => Kinds req es sl a ∧ Kinds req es sl b
  | .call _ args => KindsList req es sl args
  | .getAttr k e _ => Kinds req es sl e ∧ ∀ v, evaluate req es sl e.erase = .ok v → k.matches v = true
  | .hasAttr k e _ => Kinds req es sl e ∧ ∀ v, evaluate req es sl e.erase = .ok v → k.matches v = true
  | .like e _ => Kinds req es sl e
  | .is e _ => Kinds req es sl e
  | .set xs => KindsList req es sl xs
  | .record kvs => KindsKVs req es sl kvs
def KindsList (req : Request) (es : Entities) (sl : SlotEnv) : List TExpr → Prop
  | [] => True
  | e :: xs => Kinds req es sl e ∧ KindsList req es sl xs
def KindsKVs (req : Request) (es : Entities) (sl : SlotEnv) : List (String × TExpr) → Prop
  | [] => True
  | (_, e) :: xs => Kinds req es sl e ∧ KindsKVs req es sl xs
end

theorem TKind.matches_entity {v : Value} (h : TKind.entity.matches v = true) : ∃ u, v = .prim (.entityUID u) := by
  cases v with
  | prim p => cases p <;> first | exact ⟨_, rfl⟩ | cases h
  | _ => cases h

theorem TKind.matches_record {v : Value} (h : TKind.record.matches v = true) : ∃ kvs, v = .record kvs := by
  cases v <;> first | exact ⟨_, rfl⟩ | cases h

/-- projection along an access path (head = first field taken); a non-record value is its own projection -/
def projL : Value → List String → Value
  | v, [] => v
  | .record kvs, a :: p =>
    match lookupKV kvs a with
    | some x => projL x p
    | none => .record []
  | .prim x, _ :: _ => .prim x
  | .set x, _ :: _ => .set x
  | .ext x, _ :: _ => .ext x

theorem projL_prim (x : Prim) (p : List String) : projL (.prim x) p = .prim x := by
  cases p <;> simp [projL]

theorem uidsOf_projL : ∀ (p : List String) (v : Value) (u : EntityUID), u ∈ uidsOf (projL v p) → u ∈ uidsOf v
  | [], v, u => by simp [projL]
  | a :: p, v, u => by
      cases v with
      | prim x => simp [projL]
      | set x => simp [projL]
      | ext x => simp [projL]
      | record kvs =>
        simp only [projL]
        cases h : lookupKV kvs a with
        | none => simp [uidsOf, uidsOfKVs]
        | some x =>
          simp only
          intro hu
          simp only [uidsOf]
          exact uidsOf_lookupKV h (uidsOf_projL p x u hu)

def Within (req : Request) (es : Entities) (k : Nat) (v : Value) : Prop := ∀ u ∈ uidsOf v, u ∈ reach es req k

theorem Within.mono {req : Request} {es : Entities} {k m : Nat} {v : Value} (h : Within req es k v) (hkm : k ≤ m) :
    Within req es m v := fun u hu => reach_mono hkm (h u hu)

theorem Within.entity {req : Request} {es : Entities} {k : Nat} {u : EntityUID} {p : List String}
    (h : Within req es k (projL (.prim (.entityUID u)) p)) : u ∈ reach es req k :=
  h u (by simp [projL_prim, uidsOf])

theorem within_var (req : Request) (es : Entities) (sl : SlotEnv) (x : Var) (p : List String) {v : Value}
    (h : evaluate req es sl (.var x) = .ok v) : Within req es 0 (projL v p) := by
  intro u hu
  have hu' := uidsOf_projL p v u hu
  cases x <;> cases h <;> simp only [uidsOf, List.mem_singleton] at hu' <;> simp [reach, roots, hu']

def getAttrV (es : Entities) (v : Value) (attr : String) : Result Value :=
  match v with
  | .record kvs => match lookupKV kvs attr with
    | some v => .ok v
    | none => .error .attr
  | .prim (.entityUID u) => match es.find? u with
    | none => .error .entity
    | some d => match lookupKV d.attrs attr with
      | some v => .ok v
      | none => .error .attr
  | _ => .error .type

def hasAttrV (es : Entities) (v : Value) (attr : String) : Result Value :=
  match v with
  | .record kvs => .ok (.prim (.bool (lookupKV kvs attr).isSome))
  | .prim (.entityUID u) => match es.find? u with
    | none => .ok (.prim (.bool false))
    | some d => .ok (.prim (.bool (lookupKV d.attrs attr).isSome))
  | _ => .error .type

theorem getAttrV_record (es₁ es₂ : Entities) (kvs : List (String × Value)) (attr : String) :
    getAttrV es₁ (.record kvs) attr = getAttrV es₂ (.record kvs) attr := rfl
theorem hasAttrV_record (es₁ es₂ : Entities) (kvs : List (String × Value)) (attr : String) :
    hasAttrV es₁ (.record kvs) attr = hasAttrV es₂ (.record kvs) attr := rfl

def EntityWithin (req : Request) (es : Entities) (n : Nat) (v : Value) : Prop :=
  ∀ u, v = .prim (.entityUID u) → u ∈ reach es req n

theorem getAttrV_atLevel {req : Request} {es : Entities} {n : Nat} {v : Value} (h : EntityWithin req es n v) (attr : String) :
    Tpe.getAttrV (atLevel n req es) attr v = Tpe.getAttrV es attr v := by
  cases v with
  | prim p =>
    cases p with
    | entityUID u => simp only [Tpe.getAttrV, find?_atLevel_of_mem (h u rfl)]
    | _ => rfl
  | _ => rfl

theorem hasAttrV_atLevel {req : Request} {es : Entities} {n : Nat} {v : Value} (h : EntityWithin req es n v) (attr : String) :
    Tpe.hasAttrV (atLevel n req es) attr v = Tpe.hasAttrV es attr v := by
  cases v with
  | prim p =>
    cases p with
    | entityUID u => simp only [Tpe.hasAttrV, find?_atLevel_of_mem (h u rfl)]
    | _ => rfl
  | _ => rfl

theorem within_getAttrV {req : Request} {es : Entities} {k : Nat} {u : EntityUID} (hu : u ∈ reach es req k) {attr : String}
    {v : Value} (h : Tpe.getAttrV es attr (.prim (.entityUID u)) = .ok v) (p : List String) :
    Within req es (k + 1) (projL v p) := by
  simp only [Tpe.getAttrV] at h
  cases hd : es.find? u with
  | none => simp [hd] at h
  | some d =>
    cases hlk : lookupKV d.attrs attr with
    | none => simp [hd, hlk] at h
    | some x =>
      simp only [hd, hlk, Except.ok.injEq] at h
      subst h
      exact fun w hw => reach_step hu (successors_attr hd hlk (uidsOf_projL p _ w hw))

theorem projL_getAttrV_record {es : Entities} {kvs : List (String × Value)} {attr : String} {v : Value}
    (h : Tpe.getAttrV es attr (.record kvs) = .ok v) (p : List String) : projL (.record kvs) (attr :: p) = projL v p := by
  simp only [Tpe.getAttrV] at h
  cases hlk : lookupKV kvs attr with
  | none => simp [hlk] at h
  | some x =>
    simp only [hlk, Except.ok.injEq] at h
    subst h
    simp only [projL, hlk]

theorem applyBinary_noDeref {op : BinaryOp} (hop : isDerefOp op = false) (es₁ es₂ : Entities) (v1 v2 : Value) :
    applyBinary es₁ op v1 v2 = applyBinary es₂ op v1 v2 :=
  applyBinary_storeFree (by cases op <;> first | rfl | cases hop) es₁ es₂ v1 v2

theorem applyBinary_deref {req : Request} {es : Entities} {n : Nat} {op : BinaryOp} {v1 : Value}
    (h : EntityWithin req es n v1) (v2 : Value) :
    applyBinary (atLevel n req es) op v1 v2 = applyBinary es op v1 v2 :=
  applyBinary_store _ _ (fun _ u hu => find?_atLevel_of_mem (h u (asEntity_ok hu))) v2

theorem within_getTag {req : Request} {es : Entities} {k : Nat} {v1 v2 v : Value}
    (hv : ∀ u, v1 = .prim (.entityUID u) → u ∈ reach es req k) (h : applyBinary es .getTag v1 v2 = .ok v) (p : List String) :
    Within req es (k + 1) (projL v p) := by
  simp only [applyBinary, bind, Except.bind] at h
  cases h1 : v1.asEntity with
  | error _ => simp [h1] at h
  | ok u =>
    cases h2 : v2.asString with
    | error _ => simp [h1, h2] at h
    | ok t =>
      cases hd : es.find? u with
      | none => simp [h1, h2, hd] at h
      | some d =>
        cases hlk : lookupKV d.tags t with
        | none => simp [h1, h2, hd, hlk] at h
        | some x =>
          simp only [h1, h2, hd, hlk, Except.ok.injEq] at h
          subst h
          exact fun w hw => reach_step (hv u (asEntity_ok h1)) (successors_tag hd hlk (uidsOf_projL p _ w hw))

def lastKV (a : String) : List (String × Value) → Option Value
  | [] => none
  | (k, v) :: rest =>
    match lastKV a rest with
    | some x => some x
    | none => if k == a then some v else none

theorem lookupKV_foldl_insertKV (a : String) :
    ∀ (vs acc : List (String × Value)),
      lookupKV (vs.foldl (fun acc kv => insertKV kv.1 kv.2 acc) acc) a =
        match lastKV a vs with
        | some x => some x
        | none => lookupKV acc a
  | [], acc => by simp [lastKV]
  | (k, v) :: rest, acc => by
      simp only [List.foldl_cons, lookupKV_foldl_insertKV a rest, lastKV]
      cases lastKV a rest with
      | some x => rfl
      | none =>
        simp only [lookupKV_insertKV]
        split <;> rfl

theorem evaluateKVs_cons_ok {req : Request} {es : Entities} {sl : SlotEnv} {k : String} {x : Expr} {xs : List (String × Expr)}
    {vs : List (String × Value)} (h : evaluateKVs req es sl ((k, x) :: xs) = .ok vs) :
    ∃ v vs', evaluate req es sl x = .ok v ∧ evaluateKVs req es sl xs = .ok vs' ∧ vs = (k, v) :: vs' := by
  simp only [evaluateKVs] at h
  cases hv : evaluate req es sl x with
  | error _ => simp [hv] at h
  | ok v =>
    cases hvs : evaluateKVs req es sl xs with
    | error _ => simp [hv, hvs] at h
    | ok vs' =>
      simp only [hv, hvs, Except.ok.injEq] at h
      exact ⟨v, vs', rfl, rfl, h.symm⟩

theorem hasKey_cons (a k : String) (e : TExpr) (rest : List (String × TExpr)) :
    hasKey a ((k, e) :: rest) = ((k == a) || hasKey a rest) := by
  simp [hasKey]

theorem derefLevelKVs_none_iff (act : EntityUID) (a : String) (p : List String) :
    ∀ (kvs : List (String × TExpr)), derefLevelKVs act a p kvs = none ↔ hasKey a kvs = false
  | [] => by simp [derefLevelKVs, hasKey]
  | (k, e) :: rest => by
      have ih := derefLevelKVs_none_iff act a p rest
      simp only [derefLevelKVs, hasKey_cons]
      cases hr : derefLevelKVs act a p rest with
      | some l =>
        have : hasKey a rest = true := by
          cases hh : hasKey a rest with
          | true => rfl
          | false => rw [ih.mpr hh] at hr; cases hr
        simp [this]
      | none =>
        have := ih.mp hr
        by_cases hk : (k == a) = true <;> simp [hk, this]

theorem derefErrsKVs_noKey (n : Nat) (act : EntityUID) (a : String) (p : List String) :
    ∀ (kvs : List (String × TExpr)), hasKey a kvs = false → derefErrsKVs n act a p kvs = checkKVs n act kvs
  | [] => by simp [derefErrsKVs, checkKVs]
  | (k, e) :: rest => by
      intro h
      rw [hasKey_cons] at h
      have h1 : (k == a) = false := by
        cases hk : (k == a) with
        | true => simp [hk] at h
        | false => rfl
      have h2 : hasKey a rest = false := by
        cases hk : hasKey a rest with
        | true => simp [hk] at h
        | false => rfl
      simp [derefErrsKVs, checkKVs, h1, derefErrsKVs_noKey n act a p rest h2]

theorem lastKV_isSome {req : Request} {es : Entities} {sl : SlotEnv} (a : String) :
    ∀ (kvs : List (String × TExpr)) (vs : List (String × Value)),
      evaluateKVs req es sl (eraseKVs kvs) = .ok vs → (lastKV a vs).isSome = hasKey a kvs
  | [], vs => by
      intro h
      simp only [eraseKVs, evaluateKVs, Except.ok.injEq] at h
      subst h; rfl
  | (k, e) :: rest, vs => by
      intro h
      simp only [eraseKVs] at h
      obtain ⟨v, vs', _, h2, rfl⟩ := evaluateKVs_cons_ok h
      rw [hasKey_cons, ← lastKV_isSome a rest vs' h2, lastKV]
      cases lastKV a vs' <;> cases (k == a) <;> rfl

end Cedar.Level
