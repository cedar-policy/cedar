import CedarVerif.Lemmas.PolicySetApi
/-
C08: refinement of the abstract specification `Spec`. `PolicySet.AbsRel ps sp` = "`sp` has exactly the statics /
templates / links that `ps` stores" (membership, stated through `get?`); `ps.abs` is such an `sp` on a well-formed set;
every non-merge operation of the core set maps related states to related states with the same verdict: the abstract
guard, read on the set, is what the call needs to find (`AbsRel.apply_isSome_iff`), and the abstract result is related
to the edit the call makes at its key (`AbsRel.apply_edit`); the same for every call of the public API (whose guards are
the specification's); histories.
-/
namespace Cedar
open LHM

/-- `sp` lists exactly what `ps` stores: static policies = links without link id (with their body), templates =
entries of `templates` that are not policy ids, links = links with a link id (with template id and slot values) -/
structure PolicySet.AbsRel (ps : PolicySet) (sp : Spec) : Prop where
  statics : ∀ k b, (k, b) ∈ sp.statics ↔ ∃ p, ps.links.get? k = some p ∧ p.link = none ∧ p.template.body = b
  templates : ∀ k t, (k, t) ∈ sp.templates ↔ ps.templates.get? k = some t ∧ ps.links.get? k = none
  links : ∀ k tid vals, (k, (tid, vals)) ∈ sp.links ↔
    ∃ p, ps.links.get? k = some p ∧ p.link ≠ none ∧ p.template.id = tid ∧ p.values = vals

theorem TPolicy.isStatic_iff (p : TPolicy) : p.isStatic = true ↔ p.link = none := by
  unfold TPolicy.isStatic; cases p.link <;> simp

theorem PolicySet.absRel_abs (ps : PolicySet) (tnd : ps.templates.keys.Nodup) (lnd : ps.links.keys.Nodup) :
    ps.AbsRel ps.abs := by
  constructor
  · intro k b
    unfold PolicySet.abs
    simp only [List.mem_filterMap]
    constructor
    · rintro ⟨⟨k', p⟩, hm, he⟩
      by_cases hs : p.isStatic = true
      · simp only [hs, if_true, Option.some.injEq, Prod.mk.injEq] at he
        obtain ⟨rfl, rfl⟩ := he
        exact ⟨p, get?_of_mem lnd hm, (TPolicy.isStatic_iff p).mp hs, rfl⟩
      · simp [hs] at he
    · rintro ⟨p, hp, hl, hb⟩
      refine ⟨(k, p), mem_of_get? hp, ?_⟩
      simp [(TPolicy.isStatic_iff p).mpr hl, hb]
  · intro k t
    unfold PolicySet.abs
    simp only [List.mem_filter, Bool.not_eq_true', contains_false]
    rw [mem_iff_get? _ tnd]
  · intro k tid vals
    unfold PolicySet.abs
    simp only [List.mem_filterMap]
    constructor
    · rintro ⟨⟨k', p⟩, hm, he⟩
      by_cases hs : p.isStatic = true
      · simp [hs] at he
      · simp only [hs, Bool.false_eq_true, if_false, Option.some.injEq, Prod.mk.injEq] at he
        obtain ⟨rfl, rfl, rfl⟩ := he
        exact ⟨p, get?_of_mem lnd hm, fun h => hs ((TPolicy.isStatic_iff p).mpr h), rfl, rfl⟩
    · rintro ⟨p, hp, hl, ht, hv⟩
      refine ⟨(k, p), mem_of_get? hp, ?_⟩
      have : ¬ p.isStatic = true := fun h => hl ((TPolicy.isStatic_iff p).mp h)
      simp [this, ht, hv]

theorem PolicySet.AbsRel.same {ps : PolicySet} {sp sp' : Spec} (h : ps.AbsRel sp) (h' : ps.AbsRel sp') :
    (∀ x, x ∈ sp.statics ↔ x ∈ sp'.statics) ∧ (∀ x, x ∈ sp.templates ↔ x ∈ sp'.templates) ∧
    (∀ x, x ∈ sp.links ↔ x ∈ sp'.links) := by
  refine ⟨?_, ?_, ?_⟩
  · rintro ⟨k, b⟩; rw [h.statics, h'.statics]
  · rintro ⟨k, t⟩; rw [h.templates, h'.templates]
  · rintro ⟨k, tid, vals⟩; rw [h.links, h'.links]

theorem PolicySet.AbsRel.of_sameMaps {a b : PolicySet} {sp : Spec} (h : b.AbsRel sp) (hs : a.sameMaps b) : a.AbsRel sp := by
  obtain ⟨ht, _, hl, _⟩ := hs
  constructor
  · intro k x; rw [h.statics, hl]
  · intro k x; rw [h.templates, hl, ht]
  · intro k x y; rw [h.links, hl]

theorem any_fst_eq {β} (l : List (String × β)) (id : String) :
    l.any (fun e => e.1 == id) = true ↔ ∃ v, (id, v) ∈ l := by
  simp only [List.any_eq_true, beq_iff_eq]
  constructor
  · rintro ⟨⟨k, v⟩, hm, rfl⟩; exact ⟨v, hm⟩
  · rintro ⟨v, hm⟩; exact ⟨(id, v), hm, rfl⟩

theorem PolicySet.AbsRel.static_iff {ps : PolicySet} {sp : Spec} (R : ps.AbsRel sp) (id : String) :
    sp.statics.any (fun e => e.1 == id) = true ↔ ∃ p, ps.links.get? id = some p ∧ p.link = none := by
  rw [any_fst_eq]
  constructor
  · rintro ⟨b, hb⟩
    obtain ⟨p, hp, hl, _⟩ := (R.statics id b).mp hb
    exact ⟨p, hp, hl⟩
  · rintro ⟨p, hp, hl⟩
    exact ⟨p.template.body, (R.statics id _).mpr ⟨p, hp, hl, rfl⟩⟩

theorem PolicySet.AbsRel.link_iff {ps : PolicySet} {sp : Spec} (R : ps.AbsRel sp) (id : String) :
    sp.links.any (fun e => e.1 == id) = true ↔ ∃ p, ps.links.get? id = some p ∧ p.link ≠ none := by
  rw [any_fst_eq]
  constructor
  · rintro ⟨⟨tid, vals⟩, hb⟩
    obtain ⟨p, hp, hl, _⟩ := (R.links id tid vals).mp hb
    exact ⟨p, hp, hl⟩
  · rintro ⟨p, hp, hl⟩
    exact ⟨(p.template.id, p.values), (R.links id _ _).mpr ⟨p, hp, hl, rfl, rfl⟩⟩

theorem PolicySet.AbsRel.template_iff {ps : PolicySet} {sp : Spec} (R : ps.AbsRel sp) (id : String) :
    sp.templates.any (fun e => e.1 == id) = true ↔ (ps.templates.get? id).isSome = true ∧ ps.links.get? id = none := by
  rw [any_fst_eq]
  constructor
  · rintro ⟨t, ht⟩
    obtain ⟨h1, h2⟩ := (R.templates id t).mp ht
    exact ⟨by simp [h1], h2⟩
  · rintro ⟨h1, h2⟩
    cases ht : ps.templates.get? id with
    | none => rw [ht] at h1; cases h1
    | some t => exact ⟨t, (R.templates id t).mpr ⟨ht, h2⟩⟩

theorem PolicySet.AbsRel.hasId_iff {ps : PolicySet} {sp : Spec} (R : ps.AbsRel sp) (id : String) :
    sp.hasId id = true ↔ (ps.links.get? id).isSome = true ∨ (ps.templates.get? id).isSome = true := by
  unfold Spec.hasId
  simp only [Bool.or_eq_true]
  rw [R.static_iff, R.link_iff, R.template_iff]
  constructor
  · rintro ((⟨p, hp, _⟩ | ⟨h, _⟩) | ⟨p, hp, _⟩)
    · exact Or.inl (by simp [hp])
    · exact Or.inr h
    · exact Or.inl (by simp [hp])
  · rintro (h | h)
    · cases hp : ps.links.get? id with
      | none => rw [hp] at h; cases h
      | some p =>
        by_cases hl : p.link = none
        · exact Or.inl (Or.inl ⟨p, rfl, hl⟩)
        · exact Or.inr ⟨p, rfl, hl⟩
    · cases hp : ps.links.get? id with
      | none => exact Or.inl (Or.inr ⟨h, rfl⟩)
      | some p =>
        by_cases hl : p.link = none
        · exact Or.inl (Or.inl ⟨p, rfl, hl⟩)
        · exact Or.inr ⟨p, rfl, hl⟩

theorem PolicySet.AbsRel.hasId_false {ps : PolicySet} {sp : Spec} (R : ps.AbsRel sp) (id : String) :
    sp.hasId id = false ↔ ps.links.get? id = none ∧ ps.templates.get? id = none := by
  rw [← Bool.not_eq_true, R.hasId_iff]
  cases ps.links.get? id <;> cases ps.templates.get? id <;> simp

theorem PolicySet.AbsRel.getTemplate {ps : PolicySet} {sp : Spec} (R : ps.AbsRel sp) (id : String) :
    sp.getTemplate id = if ps.links.get? id = none then ps.templates.get? id else none := by
  unfold Spec.getTemplate
  cases hg : LHM.get? sp.templates id with
  | some t =>
    obtain ⟨h1, h2⟩ := (R.templates id t).mp (mem_of_get? hg)
    simp [h1, h2]
  | none =>
    by_cases hl : ps.links.get? id = none
    · simp only [hl, if_true]
      cases ht : ps.templates.get? id with
      | none => rfl
      | some t =>
        have := get?_isSome_of_mem ((R.templates id t).mpr ⟨ht, hl⟩)
        rw [hg] at this
        cases this
    · simp [hl]

def CoreOp.toSpec : CoreOp → Spec.Op
  | .addStatic b => .add b
  | .addTemplate t => .addTemplate t
  | .link tid newId vals => .link tid newId vals
  | .unlink id => .unlink id
  | .removeStatic id => .removeStatic id
  | .removeTemplate id => .removeTemplate id

/-- A successful call changes the lookups at one key `id`, and the abstract operation changes the abstract state at that
key only: the relation has to be re-established at `id` alone, for what the call stores there. -/
theorem PolicySet.AbsRel.frame {ps ps' : PolicySet} {sp sp' : Spec} {id : String} {T : Option Template}
    {L : Option TPolicy} (R : ps.AbsRel sp) (e : ps.EditAt ps' id T L)
    (hs : ∀ k b, k ≠ id → ((k, b) ∈ sp'.statics ↔ (k, b) ∈ sp.statics))
    (ht : ∀ k t, k ≠ id → ((k, t) ∈ sp'.templates ↔ (k, t) ∈ sp.templates))
    (hl : ∀ k x, k ≠ id → ((k, x) ∈ sp'.links ↔ (k, x) ∈ sp.links))
    (is : ∀ b, (id, b) ∈ sp'.statics ↔ ∃ p, L = some p ∧ p.link = none ∧ p.template.body = b)
    (it : ∀ t, (id, t) ∈ sp'.templates ↔ T = some t ∧ L = none)
    (il : ∀ tid vals, (id, (tid, vals)) ∈ sp'.links ↔
      ∃ p, L = some p ∧ p.link ≠ none ∧ p.template.id = tid ∧ p.values = vals) : ps'.AbsRel sp' := by
  constructor
  · intro k b
    rw [e.links]
    by_cases hk : k = id
    · rw [if_pos hk, hk]; exact is b
    · rw [if_neg hk, hs k b hk, R.statics]
  · intro k t
    rw [e.links, e.templates]
    by_cases hk : k = id
    · rw [if_pos hk, if_pos hk, hk]; exact it t
    · rw [if_neg hk, if_neg hk, ht k t hk, R.templates]
  · intro k tid vals
    rw [e.links]
    by_cases hk : k = id
    · rw [if_pos hk, hk]; exact il tid vals
    · rw [if_neg hk, hl k _ hk, R.links]

theorem mem_snoc_ne {β} {l : List (String × β)} {k id : String} {x a : β} (h : k ≠ id) :
    (k, x) ∈ l ++ [(id, a)] ↔ (k, x) ∈ l := by
  simp [h]

theorem mem_eraseKey_ne {β} {l : List (String × β)} {k id : String} {x : β} (h : k ≠ id) :
    (k, x) ∈ l.filter (fun e => !(e.1 == id)) ↔ (k, x) ∈ l := by
  simp [h]

theorem PolicySet.WF.nonstatic_iff {ps : PolicySet} (wf : ps.WF) (id : String) :
    (∃ p, ps.links.get? id = some p ∧ p.link ≠ none) ↔
      ps.templates.get? id = none ∧ (ps.links.get? id).isSome = true := by
  constructor
  · rintro ⟨p, hp, hn⟩
    refine ⟨?_, by simp [hp]⟩
    cases ht : ps.templates.get? id with
    | none => rfl
    | some t => exact absurd (wf.shared id p hp (by simp [ht])) hn
  · rintro ⟨ht, hl⟩
    cases hp : ps.links.get? id with
    | none => rw [hp] at hl; cases hl
    | some p =>
      refine ⟨p, rfl, ?_⟩
      intro hn
      have h1 := wf.lKey id p hp
      unfold TPolicy.id at h1
      simp only [hn] at h1
      have h2 := wf.lTemplate id p hp
      rw [h1, ht] at h2; cases h2

theorem PolicySet.WF.static_iff {ps : PolicySet} (wf : ps.WF) (id : String) :
    (∃ p, ps.links.get? id = some p ∧ p.link = none) ↔
      (ps.links.get? id).isSome = true ∧ (ps.templates.get? id).isSome = true := by
  constructor
  · rintro ⟨p, hp, hn⟩
    refine ⟨by simp [hp], ?_⟩
    have h1 := wf.lKey id p hp
    unfold TPolicy.id at h1
    simp only [hn] at h1
    have h2 := wf.lTemplate id p hp
    rw [h1] at h2; simp [h2]
  · rintro ⟨hl, ht⟩
    cases hp : ps.links.get? id with
    | none => rw [hp] at hl; cases hl
    | some p => exact ⟨p, rfl, wf.shared id p hp ht⟩

theorem any_snd_fst_eq {β} (l : List (String × String × β)) (id : String) :
    l.any (fun e => e.2.1 == id) = true ↔ ∃ k v, (k, (id, v)) ∈ l := by
  simp only [List.any_eq_true, beq_iff_eq]
  constructor
  · rintro ⟨⟨k, t, v⟩, hm, rfl⟩; exact ⟨k, v, hm⟩
  · rintro ⟨k, v, hm⟩; exact ⟨(k, id, v), hm, rfl⟩

theorem isSome_ite_none {α} (c : Bool) (x : α) : (if c = true then none else some x).isSome = true ↔ c = false := by
  cases c <;> simp

theorem isSome_ite_some {α} (c : Bool) (x : α) : (if c = true then some x else none).isSome = true ↔ c = true := by
  cases c <;> simp

theorem eq_of_ite_none_eq_some {α} {c : Prop} [Decidable c] {x y : α} (h : (if c then none else some x) = some y) :
    x = y := by
  split at h
  · cases h
  · exact Option.some.inj h

theorem eq_of_ite_some_eq_some {α} {c : Prop} [Decidable c] {x y : α} (h : (if c then some x else none) = some y) :
    x = y := by
  split at h
  · exact Option.some.inj h
  · cases h

/-! `add_static` needs no invariant: guard, effect and refinement on any related set. -/

theorem PolicySet.AbsRel.add_isSome_iff {ps : PolicySet} {sp : Spec} (R : ps.AbsRel sp) (b : TemplateBody) :
    (sp.apply (.add b)).isSome = true ↔ (CoreOp.addStatic b).ok ps :=
  (isSome_ite_none _ _).trans ((R.hasId_false b.id).trans and_comm)

theorem PolicySet.AbsRel.add_edit {ps ps' : PolicySet} {sp sp' : Spec} (R : ps.AbsRel sp) (b : TemplateBody)
    (ok : (CoreOp.addStatic b).ok ps)
    (e : ps.EditAt ps' (CoreOp.addStatic b).key ((CoreOp.addStatic b).stores ps).1 ((CoreOp.addStatic b).stores ps).2)
    (hs : sp.apply (.add b) = some sp') : ps'.AbsRel sp' := by
  obtain ⟨ht, hl⟩ := ok
  cases eq_of_ite_none_eq_some hs
  refine R.frame e (fun _ _ => mem_snoc_ne) (fun _ _ _ => Iff.rfl) (fun _ _ _ => Iff.rfl) ?_ ?_ ?_
  · intro b'; simp [R.statics, hl, CoreOp.stores, CoreOp.key, linkStaticPolicy, eq_comm]
  · intro t; simp [R.templates, ht, CoreOp.stores, CoreOp.key]
  · intro tid vals; simp [R.links, hl, CoreOp.stores, CoreOp.key, linkStaticPolicy]

theorem PolicySet.addStatic_refines (ps : PolicySet) (b : TemplateBody) (sp : Spec) (R : ps.AbsRel sp) :
    match sp.apply (.add b) with
    | none => (ps.addStatic b).err ≠ none
    | some sp' => (ps.addStatic b).err = none ∧ (ps.addStatic b).ps.AbsRel sp' := by
  have hg := R.add_isSome_iff b
  cases hs : sp.apply (.add b) with
  | none =>
    rw [hs] at hg
    exact fun h => nomatch hg.mpr (PolicySet.applyOp_editAt ps (.addStatic b) h).1
  | some sp' =>
    rw [hs] at hg
    have herr := PolicySet.addStatic_err_none (hg.mp rfl)
    exact ⟨herr, R.add_edit b (hg.mp rfl) (PolicySet.applyOp_editAt ps (.addStatic b) herr).2 hs⟩

theorem PolicySet.AbsRel.apply_isSome_iff {ps : PolicySet} {sp : Spec} (R : ps.AbsRel sp) (op : CoreOp)
    (wf : ps.WF) (adm : op.admissible ps) : (sp.apply op.toSpec).isSome = true ↔ op.ok ps := by
  cases op with
  | addStatic b => exact R.add_isSome_iff b
  | addTemplate t => exact (isSome_ite_none _ _).trans ((R.hasId_false t.id).trans and_comm)
  | unlink id => exact (isSome_ite_some _ _).trans ((R.link_iff id).trans (wf.nonstatic_iff id))
  | removeStatic id =>
    exact (isSome_ite_some _ _).trans ((R.static_iff id).trans ((wf.static_iff id).trans and_comm))
  | link tid newId vals =>
    show (match sp.getTemplate tid with
      | none => none
      | some t => if !(t.checkBinding vals) then none else if sp.hasId newId then none else some _).isSome = true ↔ _
    rw [R.getTemplate, if_pos ((contains_false _ _).mp adm)]
    cases ht : ps.templates.get? tid with
    | none => exact ⟨nofun, fun h => by obtain ⟨_, _, t, h', _⟩ := h; rw [ht] at h'; cases h'⟩
    | some t =>
      dsimp only
      cases hb : t.checkBinding vals with
      | false =>
        refine ⟨fun h => (nomatch h), fun h => ?_⟩
        obtain ⟨_, _, t', h', hb'⟩ := h
        rw [ht] at h'; cases h'; rw [hb] at hb'; cases hb'
      | true =>
        rw [if_neg (by decide)]
        refine (isSome_ite_none _ _).trans ((R.hasId_false newId).trans ?_)
        exact ⟨fun h => ⟨h.2, h.1, t, ht, hb⟩, fun h => ⟨h.2.1, h.1⟩⟩
  | removeTemplate id =>
    refine (isSome_ite_some _ _).trans ?_
    simp only [Bool.and_eq_true, Bool.not_eq_true', ← Bool.not_eq_true]
    rw [R.template_iff, any_snd_fst_eq]
    constructor
    · rintro ⟨⟨ht, hl⟩, hno⟩
      refine ⟨ht, hl, ?_⟩
      have hm := wf.mKeys id
      rw [ht] at hm
      cases hs : ps.t2l.get? id with
      | none => rw [hs] at hm; cases hm
      | some s =>
        cases s with
        | nil => rfl
        | cons a s =>
          -- a member of the link set is a link to `id` with a link id: the abstract state has a link to `id`
          exfalso
          obtain ⟨p, hp, hpt⟩ := (wf.mExact id _ hs a).mp (by simp)
          apply hno
          refine ⟨a, p.values, (R.links a id p.values).mpr ⟨p, hp, ?_, hpt, rfl⟩⟩
          intro hn
          have h1 := wf.static_template_id hp hn
          rw [← h1, hpt, hl] at hp; cases hp
    · rintro ⟨ht, hl, hs⟩
      refine ⟨⟨ht, hl⟩, ?_⟩
      rintro ⟨k, v, hm⟩
      obtain ⟨p, hp, _, hpt, _⟩ := (R.links k id v).mp hm
      exact nomatch (wf.mExact id [] hs k).mpr ⟨p, hp, hpt⟩

theorem PolicySet.AbsRel.apply_edit {ps ps' : PolicySet} {sp sp' : Spec} (R : ps.AbsRel sp) (op : CoreOp)
    (wf : ps.WF) (ok : op.ok ps) (e : ps.EditAt ps' op.key (op.stores ps).1 (op.stores ps).2)
    (hs : sp.apply op.toSpec = some sp') : ps'.AbsRel sp' := by
  cases op with
  | addStatic b => exact R.add_edit b ok e hs
  | addTemplate t =>
    obtain ⟨ht, hl⟩ := ok
    cases eq_of_ite_none_eq_some hs
    refine R.frame e (fun _ _ _ => Iff.rfl) (fun _ _ => mem_snoc_ne) (fun _ _ _ => Iff.rfl) ?_ ?_ ?_
    · intro b'; simp [R.statics, hl, CoreOp.stores, CoreOp.key]
    · intro t'; simp [R.templates, ht, CoreOp.stores, CoreOp.key, eq_comm]
    · intro tid vals; simp [R.links, hl, CoreOp.stores, CoreOp.key]
  | link tid newId vals =>
    obtain ⟨hnt, hl, t, ht, hb⟩ := ok
    have htid : t.id = tid := wf.tKey tid t ht
    have hsp : { sp with links := sp.links ++ [(newId, (tid, vals))] } = sp' := by
      simp only [CoreOp.toSpec, Spec.apply] at hs
      split at hs
      · cases hs
      · split at hs
        · cases hs
        · exact eq_of_ite_none_eq_some hs
    cases hsp
    refine R.frame e (fun _ _ _ => Iff.rfl) (fun _ _ _ => Iff.rfl) (fun _ _ => mem_snoc_ne) ?_ ?_ ?_
    · intro b; simp [R.statics, hl, CoreOp.stores, CoreOp.key, ht]
    · intro t'; simp [R.templates, hnt, CoreOp.stores, CoreOp.key]
    · intro tid' vals'; simp [R.links, hl, CoreOp.stores, CoreOp.key, ht, htid, eq_comm]
  | unlink id =>
    obtain ⟨hnt, hl⟩ := ok
    obtain ⟨p, hp, hn⟩ := (wf.nonstatic_iff id).mpr ⟨hnt, hl⟩
    cases eq_of_ite_some_eq_some hs
    refine R.frame e (fun _ _ _ => Iff.rfl) (fun _ _ _ => Iff.rfl) (fun _ _ => mem_eraseKey_ne) ?_ ?_ ?_
    · intro b; simp [R.statics, hp, hn, CoreOp.stores, CoreOp.key]
    · intro t; simp [R.templates, hnt, CoreOp.stores, CoreOp.key]
    · intro tid vals; simp [CoreOp.stores, CoreOp.key]
  | removeStatic id =>
    obtain ⟨ht, hl⟩ := ok
    obtain ⟨p, hp, hn⟩ := (wf.static_iff id).mpr ⟨hl, ht⟩
    cases eq_of_ite_some_eq_some hs
    refine R.frame e (fun _ _ => mem_eraseKey_ne) (fun _ _ _ => Iff.rfl) (fun _ _ _ => Iff.rfl) ?_ ?_ ?_
    · intro b; simp [CoreOp.stores, CoreOp.key]
    · intro t; simp [R.templates, hp, CoreOp.stores, CoreOp.key]
    · intro tid vals; simp [R.links, hp, hn, CoreOp.stores, CoreOp.key]
  | removeTemplate id =>
    obtain ⟨ht, hl, _⟩ := ok
    cases eq_of_ite_some_eq_some hs
    refine R.frame e (fun _ _ _ => Iff.rfl) (fun _ _ => mem_eraseKey_ne) (fun _ _ _ => Iff.rfl) ?_ ?_ ?_
    · intro b; simp [R.statics, hl, CoreOp.stores, CoreOp.key]
    · intro t; simp [CoreOp.stores, CoreOp.key]
    · intro tid vals; simp [R.links, hl, CoreOp.stores, CoreOp.key]

def Spec.step (sp : Spec) (op : Spec.Op) : Spec :=
  match sp.apply op with
  | some sp' => sp'
  | none => sp

def Spec.run (sp : Spec) : List Spec.Op → Spec
  | [] => sp
  | op :: ops => Spec.run (sp.step op) ops

/-- Refinement, one step: same guard (`apply_isSome_iff`, `applyOp_ok_iff`), same effect at the key (`apply_edit`); after a
failure the set is still related to `sp` (`core_fail_frame`). -/
theorem PolicySet.applyOp_refines (ps : PolicySet) (op : CoreOp) (sp : Spec) (wf : ps.WF) (adm : op.admissible ps)
    (R : ps.AbsRel sp) :
    match sp.apply op.toSpec with
    | none => (ps.applyOp op).err ≠ none ∧ (ps.applyOp op).ps.AbsRel sp
    | some sp' => (ps.applyOp op).err = none ∧ (ps.applyOp op).ps.AbsRel sp' := by
  have hg := R.apply_isSome_iff op wf adm
  cases hs : sp.apply op.toSpec with
  | some sp' =>
    rw [hs] at hg
    have herr := (PolicySet.applyOp_ok_iff ps op wf).mpr (hg.mp rfl)
    exact ⟨herr, R.apply_edit op wf (hg.mp rfl) (PolicySet.applyOp_editAt ps op herr).2 hs⟩
  | none =>
    rw [hs] at hg
    cases herr : (ps.applyOp op).err with
    | none => exact nomatch hg.mpr ((PolicySet.applyOp_ok_iff ps op wf).mp herr)
    | some e => exact ⟨nofun, R.of_sameMaps (core_fail_frame ps op wf e herr)⟩

theorem PolicySet.applyOp_refines_step (ps : PolicySet) (op : CoreOp) (sp : Spec) (wf : ps.WF) (adm : op.admissible ps)
    (R : ps.AbsRel sp) : (ps.applyOp op).ps.AbsRel (sp.step op.toSpec) := by
  have h := PolicySet.applyOp_refines ps op sp wf adm R
  unfold Spec.step
  cases hs : sp.apply op.toSpec with
  | some sp' => rw [hs] at h; exact h.2
  | none => rw [hs] at h; exact h.2

theorem PolicySet.run_refines (ops : List CoreOp) : ∀ (ps : PolicySet) (sp : Spec), ps.WF → ps.admissibleHist ops →
    ps.AbsRel sp → (ps.run ops).AbsRel (sp.run (ops.map CoreOp.toSpec)) := by
  induction ops with
  | nil => intro ps sp _ _ R; exact R
  | cons op ops ih =>
    intro ps sp wf adm R
    exact ih _ _ (PolicySet.applyOp_wf ps op wf adm.1) adm.2 (PolicySet.applyOp_refines_step ps op sp wf adm.1 R)

theorem PolicySet.absRel_empty : PolicySet.AbsRel {} {} := by
  constructor <;> intros <;> simp

def ApiOp.toSpec : ApiOp → Spec.Op
  | .add b => .add b
  | .addTemplate t => .addTemplate t
  | .link tid newId vals => .link tid newId vals
  | .unlink id => .unlink id
  | .removeStatic id => .removeStatic id
  | .removeTemplate id => .removeTemplate id

/-- the API's guard fails only where the specification's does: on projections of the core set, a missing key of
the API's maps is a missing static policy, link or template of the abstract state -/
theorem ApiOp.spec_of_not_guard {s : ApiPolicySet} {op : ApiOp} {sp : Spec} (pr : s.Proj) (R : s.ast.AbsRel sp)
    (h : op.guard s = false) : sp.apply op.toSpec = none := by
  have hnt : ∀ id, s.templates.contains id = false → ¬ sp.templates.any (fun e => e.1 == id) = true := by
    intro id h
    rw [R.template_iff]
    rintro ⟨h1, h2⟩
    obtain ⟨t, ht⟩ := Option.isSome_iff_exists.mp h1
    rw [contains_false, (pr.tmpl id t).mpr ⟨ht, h2⟩] at h
    cases h
  have hnp : ∀ id, s.policies.contains id = false → s.ast.links.get? id = none := by
    intro id h
    rw [← pr.pol]; exact (contains_false _ _).mp h
  cases op with
  | add b => cases h
  | addTemplate t => cases h
  | link tid newId vals =>
    show sp.apply (.link tid newId vals) = none
    simp only [Spec.apply]
    replace h : s.templates.contains tid = false := h
    have : sp.getTemplate tid = none := by
      rw [R.getTemplate]
      split
      · rename_i hl
        cases ht : s.ast.templates.get? tid with
        | none => rfl
        | some t => rw [contains_false, (pr.tmpl tid t).mpr ⟨ht, hl⟩] at h; cases h
      · rfl
    rw [this]
  | unlink id =>
    show sp.apply (.unlink id) = none
    simp only [Spec.apply]
    rw [if_neg]
    rw [R.link_iff]
    rintro ⟨p, hp, _⟩
    rw [hnp id h] at hp; cases hp
  | removeStatic id =>
    show sp.apply (.removeStatic id) = none
    simp only [Spec.apply]
    rw [if_neg]
    rw [R.static_iff]
    rintro ⟨p, hp, _⟩
    rw [hnp id h] at hp; cases hp
  | removeTemplate id =>
    show sp.apply (.removeTemplate id) = none
    simp only [Spec.apply]
    rw [if_neg]
    rw [Bool.and_eq_true]
    exact fun hh => hnt id h hh.1

theorem ApiPolicySet.applyOp_refines (s : ApiPolicySet) (op : ApiOp) (sp : Spec) (wf : s.WF) (pr : s.Proj)
    (R : s.ast.AbsRel sp) :
    match sp.apply op.toSpec with
    | none => (s.applyOp op).err ≠ none ∧ (s.applyOp op).ps.ast.AbsRel sp
    | some sp' => (s.applyOp op).err = none ∧ (s.applyOp op).ps.ast.AbsRel sp' := by
  cases hg : op.guard s with
  | false =>
    obtain ⟨h1, h2⟩ := ApiPolicySet.applyOp_of_not_guard s op hg
    rw [ApiOp.spec_of_not_guard pr R hg, h1]
    exact ⟨h2, R⟩
  | true =>
    obtain ⟨hast, herr, _⟩ := ApiPolicySet.applyOp_of_guard s op wf hg
    have h := PolicySet.applyOp_refines s.ast op.toCore sp wf.ast (ApiOp.toCore_admissible wf hg) R
    rw [show op.toCore.toSpec = op.toSpec by cases op <;> rfl] at h
    rw [hast]
    cases hs : sp.apply op.toSpec with
    | none => rw [hs] at h; exact ⟨fun e => h.1 (herr.mp e), h.2⟩
    | some sp' => rw [hs] at h; exact ⟨herr.mpr h.1, h.2⟩

theorem ApiPolicySet.applyOp_refines_step (s : ApiPolicySet) (op : ApiOp) (sp : Spec) (wf : s.WF) (pr : s.Proj)
    (R : s.ast.AbsRel sp) : (s.applyOp op).ps.ast.AbsRel (sp.step op.toSpec) := by
  have h := ApiPolicySet.applyOp_refines s op sp wf pr R
  unfold Spec.step
  cases hs : sp.apply op.toSpec with
  | some sp' => rw [hs] at h; exact h.2
  | none => rw [hs] at h; exact h.2

theorem ApiPolicySet.run_refines (ops : List ApiOp) : ∀ (s : ApiPolicySet) (sp : Spec), s.WF → s.Proj →
    (∀ op, op ∈ ops → op.wellTyped) → s.ast.AbsRel sp →
    (s.run ops).ast.AbsRel (sp.run (ops.map ApiOp.toSpec)) := by
  induction ops with
  | nil => intro s sp _ _ _ R; exact R
  | cons op ops ih =>
    intro s sp wf pr wt R
    exact ih _ _ (ApiPolicySet.applyOp_wf s op wf (wt op (by simp))) (ApiPolicySet.applyOp_proj s op wf pr)
      (fun o ho => wt o (by simp [ho])) (ApiPolicySet.applyOp_refines_step s op sp wf pr R)

end Cedar
