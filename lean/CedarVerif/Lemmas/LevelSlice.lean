import CedarVerif.Cedar.Slice
import CedarVerif.Cedar.Eval
import CedarVerif.Lemmas.ValueUids
import CedarVerif.Lemmas.Data
/-
The level-n slice `atLevel`: lookups in it, monotonicity of `reach`, closure under one attribute/tag hop.
-/
namespace Cedar.Slice
open Cedar

theorem find?_atLevel (n : Nat) (req : Request) (es : Entities) (u : EntityUID) :
    (atLevel n req es).find? u = if (reach es req n).contains u then es.find? u else none := by
  unfold atLevel
  rw [Entities.find?_eq_assoc, assoc?_filter (fun u => (reach es req n).contains u), ← Entities.find?_eq_assoc]

theorem find?_atLevel_of_mem {n : Nat} {req : Request} {es : Entities} {u : EntityUID}
    (h : u ∈ reach es req n) : (atLevel n req es).find? u = es.find? u := by
  rw [find?_atLevel]
  have : (reach es req n).contains u = true := by simpa using h
  rw [this]; rfl

theorem reach_succ_mem {es : Entities} {req : Request} {n : Nat} {u : EntityUID}
    (h : u ∈ reach es req n) : u ∈ reach es req (n + 1) := by
  simp only [reach, List.mem_append]; exact Or.inl h

theorem reach_mono {es : Entities} {req : Request} {n m : Nat} (hnm : n ≤ m) {u : EntityUID}
    (h : u ∈ reach es req n) : u ∈ reach es req m := by
  induction hnm with
  | refl => exact h
  | step _ ih => exact reach_succ_mem ih

theorem reach_step {es : Entities} {req : Request} {n : Nat} {u w : EntityUID}
    (h : u ∈ reach es req n) (hw : w ∈ successors es u) : w ∈ reach es req (n + 1) := by
  simp only [reach, List.mem_append, List.mem_flatMap]
  exact Or.inr ⟨u, h, hw⟩

theorem successors_attr {es : Entities} {u : EntityUID} {d : EntityData} (hd : es.find? u = some d)
    {a : String} {x : Value} (h : lookupKV d.attrs a = some x) {w : EntityUID} (hw : w ∈ uidsOf x) :
    w ∈ successors es u := by
  simp only [successors, hd, List.mem_append]
  exact Or.inl (uidsOf_lookupKV h hw)

theorem successors_tag {es : Entities} {u : EntityUID} {d : EntityData} (hd : es.find? u = some d)
    {a : String} {x : Value} (h : lookupKV d.tags a = some x) {w : EntityUID} (hw : w ∈ uidsOf x) :
    w ∈ successors es u := by
  simp only [successors, hd, List.mem_append]
  exact Or.inr (uidsOf_lookupKV h hw)

theorem mem_atLevel {n : Nat} {req : Request} {es : Entities} {p : EntityUID × EntityData} :
    p ∈ atLevel n req es ↔ p ∈ es ∧ p.1 ∈ reach es req n := by
  simp [atLevel, List.mem_filter]

end Cedar.Slice
