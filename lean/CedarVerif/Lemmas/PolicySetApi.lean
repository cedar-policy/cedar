import CedarVerif.Lemmas.PolicySetEdit
/-
C08: the public API layer. The general core `add` on a static policy is `add_static` on sets without slot-less bare
templates; each API call is a guard on the API's own maps followed by one admissible core call with the same verdict,
after which the API's own map concerned holds, at the key of the call, what the core map now holds there
(`applyOp_of_not_guard`, `applyOp_of_guard`: the only places where the API operations are unfolded); from this the API's
invariant, its `policies` / `templates` maps as exact projections of the core set (`Proj`), and the invariant `Strict` of the
core sets it builds (the hypothesis under which `merge_policyset` keeps `WF`).
-/
namespace Cedar
open LHM

/-- every entry of `templates` that is not the body of a static policy has at least one slot
(`Template::parse` rejects slot-less templates, so sets built through the public API satisfy this) -/
def PolicySet.NoBareStatic (ps : PolicySet) : Prop :=
  ∀ k t, ps.templates.get? k = some t → ps.links.get? k = none → t.slots ≠ []

theorem PolicySet.add_static_eq_addStatic (ps : PolicySet) (b : TemplateBody) (nb : ps.NoBareStatic) :
    ps.add (linkStaticPolicy b).2 = ps.addStatic b := by
  unfold PolicySet.add PolicySet.addStatic linkStaticPolicy
  simp only [TPolicy.id, Template.id]
  cases ht : ps.templates.get? b.id with
  | none =>
    have hc : ps.templates.contains b.id = false := by rw [contains_eq, ht]; rfl
    simp only [hc, Bool.false_eq_true, if_false]
    by_cases hl : ps.links.contains b.id = true
    · simp [hl]
    · simp [hl]
  | some t' =>
    have hc : ps.templates.contains b.id = true := by rw [contains_eq, ht]; rfl
    simp only [hc, if_true]
    by_cases hb : t'.beq { body := b, slots := [] } = true
    · simp only [hb, Bool.not_true, Bool.false_eq_true, if_false]
      by_cases hl : ps.links.contains b.id = true
      · simp [hl]
      · exfalso
        simp only [Bool.not_eq_true] at hl
        have := nb b.id t' ht ((contains_false _ _).mp hl)
        unfold Template.beq at hb
        rw [Bool.and_eq_true, beq_iff_eq] at hb
        exact this hb.2
    · simp [hb]

/-- the API layer calls the core `link` only on ids of its `templates` map; when that map is the projection
"templates that are not policy ids", the call is admissible -/
theorem ApiPolicySet.link_admissible (s : ApiPolicySet)
    (proj : ∀ k t, s.templates.get? k = some t → s.ast.links.get? k = none)
    (tid newId : String) (vals : SlotVals) (t : Template) (h : s.templates.get? tid = some t) :
    (CoreOp.link tid newId vals).admissible s.ast := by
  unfold CoreOp.admissible
  exact (contains_false _ _).mpr (proj tid t h)

/-- the operations of `cedar_policy::PolicySet` (merge treated separately); `add` takes a static policy
(`Policy::parse` yields `link_static_policy` of a static body) -/
inductive ApiOp where
  | add (b : TemplateBody)
  | addTemplate (t : Template)
  | link (tid newId : String) (vals : SlotVals)
  | unlink (id : String)
  | removeStatic (id : String)
  | removeTemplate (id : String)
deriving Repr

def ApiPolicySet.applyOp (s : ApiPolicySet) : ApiOp → Step ApiPolicySet
  | .add b => s.add (linkStaticPolicy b).2
  | .addTemplate t => s.addTemplate t
  | .link tid newId vals => s.link tid newId vals
  | .unlink id => s.unlink id
  | .removeStatic id => s.removeStatic id
  | .removeTemplate id => s.removeTemplate id

/-- what the types of the public API guarantee about the arguments: a `Template` has at least one slot -/
def ApiOp.wellTyped : ApiOp → Prop
  | .addTemplate t => t.slots ≠ []
  | _ => True

structure ApiPolicySet.WF (s : ApiPolicySet) : Prop where
  ast : s.ast.WF
  nb : s.ast.NoBareStatic
  projT : ∀ k, (s.templates.get? k).isSome = true → s.ast.links.get? k = none ∧ (s.ast.templates.get? k).isSome = true

theorem ApiPolicySet.wf_empty : ApiPolicySet.WF {} := by
  constructor
  · exact PolicySet.wf_empty
  · intro k t h; simp at h
  · intro k h; simp at h

/-- the core call an API call makes once its guard has passed (`add`: on sets without slot-less bare templates) -/
def ApiOp.toCore : ApiOp → CoreOp
  | .add b => .addStatic b
  | .addTemplate t => .addTemplate t
  | .link tid newId vals => .link tid newId vals
  | .unlink id => .unlink id
  | .removeStatic id => .removeStatic id
  | .removeTemplate id => .removeTemplate id

def ApiOp.guard (s : ApiPolicySet) : ApiOp → Bool
  | .link tid _ _ => s.templates.contains tid
  | .removeTemplate id => s.templates.contains id
  | .unlink id => s.policies.contains id
  | .removeStatic id => s.policies.contains id
  | _ => true

def ApiOp.onTemplates : ApiOp → Bool
  | .addTemplate _ | .removeTemplate _ => true
  | _ => false

theorem ApiPolicySet.applyOp_of_not_guard (s : ApiPolicySet) (op : ApiOp) (h : op.guard s = false) :
    (s.applyOp op).ps = s ∧ (s.applyOp op).err ≠ none := by
  cases op with
  | add b => cases h
  | addTemplate t => cases h
  | link tid newId vals =>
    show (s.link tid newId vals).ps = s ∧ (s.link tid newId vals).err ≠ none
    unfold ApiPolicySet.link
    rw [(contains_false _ _).mp h]
    dsimp only
    split <;> exact ⟨rfl, nofun⟩
  | unlink id =>
    show (s.unlink id).ps = s ∧ (s.unlink id).err ≠ none
    unfold ApiPolicySet.unlink
    rw [(contains_false _ _).mp h]
    exact ⟨rfl, nofun⟩
  | removeStatic id =>
    show (s.removeStatic id).ps = s ∧ (s.removeStatic id).err ≠ none
    unfold ApiPolicySet.removeStatic
    rw [(contains_false _ _).mp h]
    exact ⟨rfl, nofun⟩
  | removeTemplate id =>
    show (s.removeTemplate id).ps = s ∧ (s.removeTemplate id).err ≠ none
    unfold ApiPolicySet.removeTemplate
    rw [(contains_false _ _).mp h]
    exact ⟨rfl, nofun⟩

theorem ApiOp.toCore_admissible {s : ApiPolicySet} (wf : s.WF) {op : ApiOp} (h : op.guard s = true) :
    op.toCore.admissible s.ast := by
  cases op with
  | link tid newId vals => exact (contains_false _ _).mpr (wf.projT tid h).1
  | _ => trivial

/-- Past the guard: the core set after the call is the result of the core call, with the same verdict; when the core
call succeeds, the API map concerned is edited at the key of the call, to what the core map now holds there, and the other
is as it was; when it fails, both are, as maps, what they were (an entry removed before the core call is put back; the
arms that do not put it back belong to core errors that `WF`, resp. `policies` = `links`, exclude). -/
theorem ApiPolicySet.applyOp_of_guard (s : ApiPolicySet) (op : ApiOp) (wf : s.WF) (h : op.guard s = true) :
    (s.applyOp op).ps.ast = (s.ast.applyOp op.toCore).ps ∧
    ((s.applyOp op).err = none ↔ (s.ast.applyOp op.toCore).err = none) ∧
    ((s.ast.applyOp op.toCore).err = none →
      (op.onTemplates = false →
        (∀ k, (s.applyOp op).ps.policies.get? k =
          if k = op.toCore.key then (s.ast.applyOp op.toCore).ps.links.get? k else s.policies.get? k) ∧
        (∀ k, (s.applyOp op).ps.templates.get? k = s.templates.get? k)) ∧
      (op.onTemplates = true →
        (∀ k, (s.applyOp op).ps.templates.get? k =
          if k = op.toCore.key then (s.ast.applyOp op.toCore).ps.templates.get? k else s.templates.get? k) ∧
        (∀ k, (s.applyOp op).ps.policies.get? k = s.policies.get? k))) ∧
    (∀ e, (s.ast.applyOp op.toCore).err = some e →
      (∀ k, (s.applyOp op).ps.templates.get? k = s.templates.get? k) ∧
      ((∀ k, s.policies.get? k = s.ast.links.get? k) → ∀ k, (s.applyOp op).ps.policies.get? k = s.policies.get? k)) := by
  have edit := fun h => (PolicySet.applyOp_editAt s.ast op.toCore h).2
  have np := PolicySet.applyOp_no_panic s.ast op.toCore wf.ast
  cases op with
  | add b =>
    dsimp only [ApiPolicySet.applyOp, ApiOp.toCore, PolicySet.applyOp, ApiOp.onTemplates, CoreOp.key] at edit np ⊢
    unfold ApiPolicySet.add
    rw [if_pos (show (linkStaticPolicy b).2.isStatic = true from rfl), PolicySet.add_static_eq_addStatic s.ast b wf.nb]
    dsimp only
    cases herr : (s.ast.addStatic b).err with
    | some e =>
      dsimp only
      exact ⟨rfl, ⟨nofun, nofun⟩, nofun, fun _ _ => ⟨fun _ => rfl, fun _ _ => rfl⟩⟩
    | none =>
      dsimp only
      refine ⟨rfl, Iff.rfl, fun _ => ⟨fun _ => ⟨fun k => ?_, fun _ => rfl⟩, nofun⟩, nofun⟩
      show LHM.get? (s.policies.insert b.id _) k = if k = b.id then (s.ast.addStatic b).ps.links.get? k else _
      rw [get?_insert, (edit herr).links]
      split <;> rfl
  | addTemplate t =>
    dsimp only [ApiPolicySet.applyOp, ApiOp.toCore, PolicySet.applyOp, ApiOp.onTemplates, CoreOp.key] at edit np ⊢
    unfold ApiPolicySet.addTemplate
    dsimp only
    cases herr : (s.ast.addTemplate t).err with
    | some e =>
      dsimp only
      exact ⟨rfl, ⟨nofun, nofun⟩, nofun, fun _ _ => ⟨fun _ => rfl, fun _ _ => rfl⟩⟩
    | none =>
      dsimp only
      refine ⟨rfl, Iff.rfl, fun _ => ⟨nofun, fun _ => ⟨fun k => ?_, fun _ => rfl⟩⟩, nofun⟩
      show LHM.get? (s.templates.insert t.id t) k = if k = t.id then (s.ast.addTemplate t).ps.templates.get? k else _
      rw [get?_insert, (edit herr).templates]
      split <;> rfl
  | link tid newId vals =>
    obtain ⟨t0, hT⟩ := isSome_of_contains h
    dsimp only [ApiPolicySet.applyOp, ApiOp.toCore, PolicySet.applyOp, ApiOp.onTemplates, CoreOp.key] at edit np ⊢
    unfold ApiPolicySet.link
    rw [hT]
    dsimp only
    cases herr : (s.ast.link tid newId vals).err with
    | some e =>
      dsimp only
      exact ⟨rfl, ⟨nofun, nofun⟩, nofun, fun _ _ => ⟨fun _ => rfl, fun _ _ => rfl⟩⟩
    | none =>
      obtain ⟨t, ht, _⟩ := PolicySet.link_ok s.ast tid newId vals herr
      have hnew : (s.ast.link tid newId vals).ps.links.get? newId =
          some { template := t, link := some newId, values := vals } := by
        rw [(edit herr).links, if_pos rfl]
        show (s.ast.templates.get? tid).map _ = _
        rw [ht]; rfl
      dsimp only
      rw [hnew]
      refine ⟨rfl, Iff.rfl, fun _ => ⟨fun _ => ⟨fun k => ?_, fun _ => rfl⟩, nofun⟩, nofun⟩
      show LHM.get? (s.policies.insert newId _) k = if k = newId then (s.ast.link tid newId vals).ps.links.get? k else _
      rw [get?_insert]
      split
      · rename_i hk; rw [hk, hnew]
      · rfl
  | unlink id =>
    obtain ⟨p, hP⟩ := isSome_of_contains h
    dsimp only [ApiPolicySet.applyOp, ApiOp.toCore, PolicySet.applyOp, ApiOp.onTemplates, CoreOp.key] at edit np ⊢
    unfold ApiPolicySet.unlink
    rw [hP]
    dsimp only
    cases herr : (s.ast.unlink id).err with
    | none =>
      dsimp only
      refine ⟨rfl, Iff.rfl, fun _ => ⟨fun _ => ⟨fun k => ?_, fun _ => rfl⟩, nofun⟩, nofun⟩
      show LHM.get? (s.policies.erase id) k = if k = id then (s.ast.unlink id).ps.links.get? k else _
      rw [get?_erase, (edit herr).links]
      split <;> rfl
    | some e =>
      rcases PolicySet.unlink_fail herr with ⟨rfl | ⟨rfl, hn⟩, _⟩ | ⟨m, _, rfl, _⟩
      · exact ⟨rfl, ⟨nofun, nofun⟩, nofun, fun _ _ => ⟨fun _ => rfl, fun _ => get?_erase_insert_self _ _ _ hP⟩⟩
      · exact ⟨rfl, ⟨nofun, nofun⟩, nofun, fun _ _ => ⟨fun _ => rfl, fun hp => by rw [← hp, hP] at hn; cases hn⟩⟩
      · exact absurd herr (np m)
  | removeStatic id =>
    obtain ⟨p, hP⟩ := isSome_of_contains h
    dsimp only [ApiPolicySet.applyOp, ApiOp.toCore, PolicySet.applyOp, ApiOp.onTemplates, CoreOp.key] at edit np ⊢
    unfold ApiPolicySet.removeStatic
    rw [hP]
    dsimp only
    cases herr : (s.ast.removeStatic id).err with
    | none =>
      dsimp only
      refine ⟨rfl, Iff.rfl, fun _ => ⟨fun _ => ⟨fun k => ?_, fun _ => rfl⟩, nofun⟩, nofun⟩
      show LHM.get? (s.policies.erase id) k = if k = id then (s.ast.removeStatic id).ps.links.get? k else _
      rw [get?_erase, (edit herr).links]
      split <;> rfl
    | some e =>
      dsimp only
      exact ⟨rfl, ⟨nofun, nofun⟩, nofun, fun _ _ => ⟨fun _ => rfl, fun _ => get?_erase_insert_self _ _ _ hP⟩⟩
  | removeTemplate id =>
    obtain ⟨t0, hT⟩ := isSome_of_contains h
    dsimp only [ApiPolicySet.applyOp, ApiOp.toCore, PolicySet.applyOp, ApiOp.onTemplates, CoreOp.key] at edit np ⊢
    unfold ApiPolicySet.removeTemplate
    rw [hT]
    dsimp only
    cases herr : (s.ast.removeTemplate id).err with
    | none =>
      dsimp only
      refine ⟨rfl, Iff.rfl, fun _ => ⟨nofun, fun _ => ⟨fun k => ?_, fun _ => rfl⟩⟩, nofun⟩
      show LHM.get? (s.templates.erase id) k = if k = id then (s.ast.removeTemplate id).ps.templates.get? k else _
      rw [get?_erase, (edit herr).templates]
      split <;> rfl
    | some e =>
      rcases PolicySet.removeTemplate_fail herr with ⟨rfl | ⟨_, hn⟩ | rfl, _⟩ | ⟨m, rfl, _⟩
      · exact ⟨rfl, ⟨nofun, nofun⟩, nofun, fun _ _ => ⟨get?_erase_insert_self _ _ _ hT, fun _ _ => rfl⟩⟩
      · have := wf.ast.mKeys id
        rw [hn, (wf.projT id (by rw [hT]; rfl)).2] at this
        cases this
      · exact ⟨rfl, ⟨nofun, nofun⟩, nofun, fun _ _ => ⟨get?_erase_insert_self _ _ _ hT, fun _ _ => rfl⟩⟩
      · exact absurd herr (np m)

theorem PolicySet.applyOp_nb (ps : PolicySet) (op : CoreOp) (wf : ps.WF) (nb : ps.NoBareStatic)
    (wt : ∀ t, op = .addTemplate t → t.slots ≠ []) : (ps.applyOp op).ps.NoBareStatic := by
  refine fun k t => PolicySet.applyOp_pointwise ps op wf (fun T L => ∀ t, T = some t → L = none → t.slots ≠ [])
    (fun k t => nb k t) (fun _ => ?_) k t
  cases op with
  | addTemplate t => exact fun _ e _ => Option.some.inj e ▸ wt t rfl
  | addStatic b => exact fun _ _ e => nomatch e
  | link tid newId vals => exact fun _ e => nomatch e
  | unlink id => exact fun _ e => nomatch e
  | removeStatic id => exact fun _ e => nomatch e
  | removeTemplate id => exact fun _ e => nomatch e

/-- the two kinds of API call at their key: a template call finds and leaves no policy there; a policy call finds no bare
template there (no template, or a policy) and leaves none -/
theorem ApiOp.at_key (op : ApiOp) (ps : PolicySet) (ok : op.toCore.ok ps) :
    (op.onTemplates = true → ps.links.get? op.toCore.key = none ∧ (op.toCore.stores ps).2 = none) ∧
    (op.onTemplates = false →
      (ps.templates.get? op.toCore.key = none ∨ (ps.links.get? op.toCore.key).isSome = true) ∧
      ((op.toCore.stores ps).1 = none ∨ (op.toCore.stores ps).2.isSome = true)) := by
  cases op with
  | add b => exact ⟨nofun, fun _ => ⟨.inl ok.1, .inr rfl⟩⟩
  | addTemplate t => exact ⟨fun _ => ⟨ok.2, rfl⟩, nofun⟩
  | link tid newId vals => exact ⟨nofun, fun _ => ⟨.inl ok.1, .inl rfl⟩⟩
  | unlink id => exact ⟨nofun, fun _ => ⟨.inr ok.2, .inl rfl⟩⟩
  | removeStatic id => exact ⟨nofun, fun _ => ⟨.inr ok.2, .inl rfl⟩⟩
  | removeTemplate id => exact ⟨fun _ => ⟨ok.2.1, rfl⟩, nofun⟩

theorem ApiPolicySet.applyOp_wf (s : ApiPolicySet) (op : ApiOp) (wf : s.WF) (wt : op.wellTyped) :
    (s.applyOp op).ps.WF := by
  cases hg : op.guard s with
  | false => rw [(ApiPolicySet.applyOp_of_not_guard s op hg).1]; exact wf
  | true =>
    obtain ⟨hast, _, hok, hfail⟩ := ApiPolicySet.applyOp_of_guard s op wf hg
    have hwt : ∀ t, op.toCore = .addTemplate t → t.slots ≠ [] := by
      intro t e
      cases op <;> cases e
      exact wt
    refine ⟨hast ▸ PolicySet.applyOp_wf s.ast _ wf.ast (ApiOp.toCore_admissible wf hg),
      hast ▸ PolicySet.applyOp_nb s.ast _ wf.ast wf.nb hwt, ?_⟩
    intro k hk
    rw [hast]
    cases herr : (s.ast.applyOp op.toCore).err with
    | some e =>
      obtain ⟨h1, _, h3, _⟩ := core_fail_frame _ _ wf.ast e herr
      rw [(hfail e herr).1] at hk
      rw [h3, h1]; exact wf.projT k hk
    | none =>
      obtain ⟨ok, e⟩ := PolicySet.applyOp_editAt s.ast op.toCore herr
      obtain ⟨atT, atP⟩ := op.at_key s.ast ok
      rw [e.links, e.templates]
      cases hop : op.onTemplates with
      | true =>
        rw [((hok herr).2 hop).1] at hk
        by_cases hkk : k = op.toCore.key
        · rw [if_pos hkk, e.templates, if_pos hkk] at hk
          rw [if_pos hkk, if_pos hkk]
          exact ⟨(atT hop).2, hk⟩
        · rw [if_neg hkk] at hk
          rw [if_neg hkk, if_neg hkk]
          exact wf.projT k hk
      | false =>
        rw [((hok herr).1 hop).2] at hk
        obtain ⟨hl, ht⟩ := wf.projT k hk
        have hkk : k ≠ op.toCore.key := by
          intro hkk
          rw [hkk] at hl ht
          rcases (atP hop).1 with h | h
          · rw [h] at ht; cases ht
          · rw [hl] at h; cases h
        rw [if_neg hkk, if_neg hkk]
        exact ⟨hl, ht⟩

def ApiPolicySet.run (s : ApiPolicySet) : List ApiOp → ApiPolicySet
  | [] => s
  | op :: ops => ApiPolicySet.run (s.applyOp op).ps ops

theorem ApiPolicySet.run_wf (ops : List ApiOp) : ∀ (s : ApiPolicySet), s.WF → (∀ op, op ∈ ops → op.wellTyped) → (s.run ops).WF := by
  induction ops with
  | nil => intro s wf _; exact wf
  | cons op ops ih =>
    intro s wf wt
    exact ih _ (ApiPolicySet.applyOp_wf s op wf (wt op (by simp))) (fun o ho => wt o (by simp [ho]))

structure ApiPolicySet.Proj (s : ApiPolicySet) : Prop where
  pol : ∀ k, s.policies.get? k = s.ast.links.get? k
  tmpl : ∀ k t, s.templates.get? k = some t ↔ (s.ast.templates.get? k = some t ∧ s.ast.links.get? k = none)

theorem ApiPolicySet.proj_empty : ApiPolicySet.Proj {} := by
  constructor <;> intros <;> simp

theorem ApiPolicySet.applyOp_proj (s : ApiPolicySet) (op : ApiOp) (wf : s.WF) (pr : s.Proj) :
    (s.applyOp op).ps.Proj := by
  cases hg : op.guard s with
  | false => rw [(ApiPolicySet.applyOp_of_not_guard s op hg).1]; exact pr
  | true =>
    obtain ⟨hast, _, hok, hfail⟩ := ApiPolicySet.applyOp_of_guard s op wf hg
    cases herr : (s.ast.applyOp op.toCore).err with
    | some e =>
      obtain ⟨hT, hP⟩ := hfail e herr
      obtain ⟨h1, _, h3, _⟩ := core_fail_frame s.ast op.toCore wf.ast e herr
      exact ⟨fun k => by rw [hP pr.pol, hast, h3, pr.pol], fun k t => by rw [hT, hast, h3, h1, pr.tmpl]⟩
    | none =>
      obtain ⟨ok, e⟩ := PolicySet.applyOp_editAt s.ast op.toCore herr
      obtain ⟨atT, atP⟩ := op.at_key s.ast ok
      cases hop : op.onTemplates with
      | false =>
        obtain ⟨hP, hT⟩ := (hok herr).1 hop
        refine ⟨fun k => ?_, fun k t => ?_⟩
        · rw [hP, hast]
          by_cases hk : k = op.toCore.key
          · rw [if_pos hk]
          · rw [if_neg hk, e.links, if_neg hk]; exact pr.pol k
        · rw [hT, hast, e.templates, e.links]
          by_cases hk : k = op.toCore.key
          · -- no bare template at the key, before or after
            rw [if_pos hk, if_pos hk, hk]
            constructor
            · intro ht
              obtain ⟨h1, h2⟩ := (pr.tmpl _ t).mp ht
              rcases (atP hop).1 with h0 | h0
              · rw [h0] at h1; cases h1
              · rw [h2] at h0; cases h0
            · intro ht
              rcases (atP hop).2 with h0 | h0
              · rw [h0] at ht; cases ht.1
              · rw [ht.2] at h0; cases h0
          · rw [if_neg hk, if_neg hk]; exact pr.tmpl k t
      | true =>
        obtain ⟨hT, hP⟩ := (hok herr).2 hop
        refine ⟨fun k => ?_, fun k t => ?_⟩
        · rw [hP, hast, e.links]
          by_cases hk : k = op.toCore.key
          · rw [if_pos hk, hk, pr.pol, (atT hop).1, (atT hop).2]
          · rw [if_neg hk]; exact pr.pol k
        · rw [hT, hast, e.links]
          by_cases hk : k = op.toCore.key
          · rw [if_pos hk, if_pos hk]; exact ⟨fun h => ⟨h, (atT hop).2⟩, fun h => h.1⟩
          · rw [if_neg hk, if_neg hk, e.templates, if_neg hk]; exact pr.tmpl k t

theorem ApiPolicySet.run_proj (ops : List ApiOp) : ∀ (s : ApiPolicySet), s.WF → s.Proj →
    (∀ op, op ∈ ops → op.wellTyped) → (s.run ops).WF ∧ (s.run ops).Proj := by
  induction ops with
  | nil => intro s wf pr _; exact ⟨wf, pr⟩
  | cons op ops ih =>
    intro s wf pr wt
    exact ih _ (ApiPolicySet.applyOp_wf s op wf (wt op (by simp))) (ApiPolicySet.applyOp_proj s op wf pr)
      (fun o ho => wt o (by simp [ho]))

namespace PolicySet

/-- the invariant of sets built through the public API -/
structure Strict (ps : PolicySet) : Prop where
  wf : ps.WF
  nb : ps.NoBareStatic
  ss : ∀ k p, ps.links.get? k = some p → p.link = none → p.template.slots = []

def StaticSlotless (ps : PolicySet) : Prop :=
  ∀ k p, ps.links.get? k = some p → p.link = none → p.template.slots = []

theorem applyOp_staticSlotless (ps : PolicySet) (op : CoreOp) (wf : ps.WF) (h : ps.StaticSlotless) :
    (ps.applyOp op).ps.StaticSlotless := by
  refine fun k p => PolicySet.applyOp_pointwise ps op wf
    (fun _ L => ∀ p, L = some p → p.link = none → p.template.slots = []) (fun k p => h k p) (fun ok => ?_) k p
  cases op with
  | addStatic b => exact fun _ e _ => Option.some.inj e ▸ rfl
  | link tid newId vals =>
    obtain ⟨_, _, t, ht, _⟩ := ok
    show ∀ p, (ps.templates.get? tid).map _ = some p → _
    rw [ht]
    exact fun _ e hn => nomatch (Option.some.inj e).symm ▸ hn
  | addTemplate t => exact fun _ e => nomatch e
  | unlink id => exact fun _ e => nomatch e
  | removeStatic id => exact fun _ e => nomatch e
  | removeTemplate id => exact fun _ e => nomatch e

end PolicySet

theorem ApiPolicySet.applyOp_staticSlotless (s : ApiPolicySet) (op : ApiOp) (wf : s.WF)
    (h : s.ast.StaticSlotless) : (s.applyOp op).ps.ast.StaticSlotless := by
  cases hg : op.guard s with
  | false => rw [(ApiPolicySet.applyOp_of_not_guard s op hg).1]; exact h
  | true =>
    rw [(ApiPolicySet.applyOp_of_guard s op wf hg).1]
    exact PolicySet.applyOp_staticSlotless s.ast _ wf.ast h

theorem ApiPolicySet.run_strict (ops : List ApiOp) : ∀ (s : ApiPolicySet), s.WF → s.ast.StaticSlotless →
    (∀ op, op ∈ ops → op.wellTyped) → (s.run ops).ast.Strict := by
  induction ops with
  | nil => intro s wf h _; exact ⟨wf.ast, wf.nb, h⟩
  | cons op ops ih =>
    intro s wf h wt
    exact ih _ (ApiPolicySet.applyOp_wf s op wf (wt op (by simp)))
      (ApiPolicySet.applyOp_staticSlotless s op wf h) (fun o ho => wt o (by simp [ho]))

end Cedar
