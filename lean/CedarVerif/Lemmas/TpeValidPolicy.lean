import CedarVerif.Lemmas.TpeValid
import CedarVerif.Lemmas.TypecheckPolicy
/-
C14 / C15 bridge to C03, policy level: for STRICTLY VALID static policies (C03 model: `checkPolicy .strict` accepts the
condition in every request environment) whose typed conditions are what the typechecker returns for the request environment
(`IsTypedFor`: `tp.typed = (annotate .strict s env cond []).erase` — the expression `typed.into_expr()` the harness hands to
the model), on a conformant request and store (C11 / C03 premises), the three semantic hypotheses of C14 / C15 HOLD
(`TypedSafe`, `TypedAgrees`, `CondsBool`).
-/
namespace Cedar.Tpe.Valid
open Cedar Cedar.Tpe Cedar.C03
open Cedar.Level (TExpr annotate)

/-- a strictly valid static policy, in the vocabulary of the C03 model: no slot environment, condition inside the strict
fragment for every environment (= record literals have distinct keys and no slot occurs: `inFragment2_of`), accepted by
the strict typechecker in every request environment of the schema -/
structure ValidStatic (s : Schema) (p : Policy) : Prop where
  static : p.env = []
  frag : ∀ env, InFragment2 env p.condition = true
  accepted : ∃ vs, checkPolicy .strict s .absent .absent p.condition = some vs ∧ accepted vs = true

/-- `tp.typed` is the typed condition the strict typechecker hands back for the policy's condition in `env`
(`PolicyCheck::Success(e) | Irrelevant([], e)`, then `into_expr`) -/
def IsTypedFor (s : Schema) (env : RequestEnv) (tp : TPolicy) : Prop :=
  ∃ te, annotate .strict s env tp.policy.condition [] = .ok te ∧ tp.typed = te.erase

/-- the function behind `IsTypedFor` (what `policy_residual_map` computes per policy before `try_from_typed_expr`) -/
def typedPolicy (s : Schema) (env : RequestEnv) (p : Policy) : Option TPolicy :=
  match annotate .strict s env p.condition [] with
  | .ok te => some ⟨p, te.erase⟩
  | .error _ => none

theorem typedPolicy_isTypedFor {s : Schema} {env : RequestEnv} {p : Policy} {tp : TPolicy} (h : typedPolicy s env p = some tp) :
    tp.policy = p ∧ IsTypedFor s env tp := by
  unfold typedPolicy at h
  cases ha : annotate .strict s env p.condition [] with
  | error err => simp [ha] at h
  | ok te =>
    simp only [ha, Option.some.injEq] at h; subst h
    exact ⟨rfl, te, ha, rfl⟩

structure Conformant (s : Schema) (q : Request) (es : Entities) : Prop where
  req : ConformsRequest s q
  store : StoreConforms s es
  actions : ActionsPresent s es

structure EnvOfPartial (s : Schema) (env : RequestEnv) (preq : PRequest) : Prop where
  principal : env.principal = preq.principal.ty
  action : env.action = preq.action
  resource : env.resource = preq.resource.ty
  context : ∃ a, s.action? preq.action = some a ∧ env.context = a.context
  pslot : env.principalSlot = none
  rslot : env.resourceSlot = none

structure EnvOf (s : Schema) (env : RequestEnv) (q : Request) : Prop where
  envMatches : EnvMatches s env q
  pslot : env.principalSlot = none
  rslot : env.resourceSlot = none

theorem EnvOfPartial.envOf_types {s : Schema} {env : RequestEnv} {preq : PRequest} {q : Request} (h : EnvOfPartial s env preq)
    (hp : q.principal.ty = preq.principal.ty) (ha : q.action = preq.action) (hr : q.resource.ty = preq.resource.ty) :
    EnvOf s env q := by
  obtain ⟨a, hact, hctx⟩ := h.context
  refine ⟨⟨?_, ?_, ?_, a, ?_, hctx⟩, h.pslot, h.rslot⟩
  · rw [h.principal, hp]
  · rw [h.action, ha]
  · rw [h.resource, hr]
  · rw [ha]; exact hact

theorem EnvOfPartial.envOf {s : Schema} {env : RequestEnv} {preq : PRequest} {pes : PEntities} {q : Request} {es : Entities}
    (h : EnvOfPartial s env preq) (hC : Completes preq pes q es) : EnvOf s env q :=
  h.envOf_types hC.ptype hC.action hC.rtype

theorem EnvOf.mem {s : Schema} {env : RequestEnv} {q : Request} (h : EnvOf s env q) (hreq : ConformsRequest s q) :
    env ∈ s.envs .absent .absent := by
  obtain ⟨env', hmem, henv', hp', hr'⟩ := conformant_request_env hreq
  obtain ⟨⟨h1, h2, h3, a, ha, h4⟩, hp, hr⟩ := h
  obtain ⟨g1, g2, g3, a', ha', g4⟩ := henv'
  have : env = env' := by
    rw [ha] at ha'; cases ha'
    cases env; cases env'
    simp only at h1 h2 h3 h4 hp hr g1 g2 g3 g4 hp' hr'
    subst h1 h2 h3 h4 hp hr g1 g2 g3 g4 hp' hr'
    rfl
  rw [this]; exact hmem

theorem ValidStatic.typed {s : Schema} {p : Policy} (hv : ValidStatic s p) {env : RequestEnv} {q : Request}
    (he : EnvOf s env q) (hreq : ConformsRequest s q) :
    ∃ τ c, typeOf .strict s env p.condition [] = .ok (τ, c) ∧ Boolish τ :=
  let ⟨_, hcp, hacc⟩ := hv.accepted
  checkPolicy_typed hcp hacc (he.mem hreq)

/-- the typed condition exists (`policy_residual_map` does not fail at the typechecking step) -/
theorem ValidStatic.typedPolicy_some {s : Schema} {p : Policy} (hv : ValidStatic s p) {env : RequestEnv} {q : Request}
    (he : EnvOf s env q) (hreq : ConformsRequest s q) : ∃ tp, typedPolicy s env p = some tp := by
  obtain ⟨τ, c, ht, _⟩ := hv.typed he hreq
  obtain ⟨te, hte⟩ := Level.annotate_total p.condition [] _ ht
  exact ⟨⟨p, te.erase⟩, by simp [typedPolicy, hte]⟩

theorem valid_policy {s : Schema} (hWF : SchemaWF2 s) {tp : TPolicy} (hv : ValidStatic s tp.policy) {env : RequestEnv}
    (hty : IsTypedFor s env tp) {q : Request} {es : Entities} (hq : Conformant s q es) (he : EnvOf s env q) :
    (∀ r0, Residual.ofExpr tp.typed = some r0 → TypeSafe q es r0) ∧
    evaluate q es [] tp.typed = evaluate q es tp.policy.env tp.policy.condition ∧
    (∀ v, evaluate q es tp.policy.env tp.policy.condition = .ok v → ∃ b, v = .prim (.bool b)) := by
  obtain ⟨te, hte, htyped⟩ := hty
  obtain ⟨τ, c, ht, hb⟩ := hv.typed he hq.req
  let w : World := ⟨q, es, []⟩
  have hs : Sem s env w :=
    ⟨hq.req, hq.store, ⟨fun t h => (by rw [he.pslot] at h; cases h), fun t h => (by rw [he.rslot] at h; cases h)⟩, hq.actions⟩
  have henv : EnvMatches s env w.q := he.envMatches
  have hf := hv.frag env
  refine ⟨?_, ?_, ?_⟩
  · intro r0 hr0
    rw [htyped] at hr0
    exact annot_typeSafe (w := w) hWF henv hs rfl tp.policy.condition hf [] _ ht te hte (capsHold_nil w) r0 hr0
  · rw [htyped, hv.static]
    exact (Level.annot_res (n := 0) (w := w) hWF henv hs tp.policy.condition hf [] te hte (capsHold_nil w)).faithful
  · intro v hv'
    rw [hv.static] at hv'
    have g := (Level.good_of (w := w) hWF henv hs hf ht (capsHold_nil w)).2
    rcases g.1.bool_cases hb with ⟨err, herr, _⟩ | ⟨b, hb', _, _⟩
    · have : w.eval tp.policy.condition = evaluate q es [] tp.policy.condition := rfl
      rw [this, hv'] at herr; cases herr
    · have : w.eval tp.policy.condition = evaluate q es [] tp.policy.condition := rfl
      rw [this, hv'] at hb'; cases hb'; exact ⟨b, rfl⟩

structure ValidTyped (s : Schema) (env : RequestEnv) (tps : List TPolicy) : Prop where
  valid : ∀ tp, tp ∈ tps → ValidStatic s tp.policy
  typed : ∀ tp, tp ∈ tps → IsTypedFor s env tp

theorem valid_typedSafe {s : Schema} (hWF : SchemaWF2 s) {env : RequestEnv} {tps : List TPolicy} (hV : ValidTyped s env tps)
    {q : Request} {es : Entities} (hq : Conformant s q es) (he : EnvOf s env q) : TypedSafe q es tps :=
  fun tp htp => (valid_policy hWF (hV.valid tp htp) (hV.typed tp htp) hq he).1

theorem valid_typedAgrees {s : Schema} (hWF : SchemaWF2 s) {env : RequestEnv} {tps : List TPolicy} (hV : ValidTyped s env tps)
    {q : Request} {es : Entities} (hq : Conformant s q es) (he : EnvOf s env q) : TypedAgrees q es tps :=
  fun tp htp => by
    rw [(valid_policy hWF (hV.valid tp htp) (hV.typed tp htp) hq he).2.1]
    exact Agree.rfl' _

theorem valid_condsBool {s : Schema} (hWF : SchemaWF2 s) {env : RequestEnv} {tps : List TPolicy} (hV : ValidTyped s env tps)
    {q : Request} {es : Entities} (hq : Conformant s q es) (he : EnvOf s env q) : Batched.CondsBool q es tps :=
  fun tp htp => (valid_policy hWF (hV.valid tp htp) (hV.typed tp htp) hq he).2.2

theorem validTyped_of_mapM {s : Schema} {env : RequestEnv} {ps : List Policy} {tps : List TPolicy}
    (hv : ∀ p, p ∈ ps → ValidStatic s p) (h : mapM? (typedPolicy s env) ps = some tps) :
    ValidTyped s env tps ∧ tps.map (·.policy) = ps := by
  induction ps generalizing tps with
  | nil =>
    simp only [mapM?, Option.some.injEq] at h; subst h
    exact ⟨⟨fun _ h => (by cases h), fun _ h => (by cases h)⟩, rfl⟩
  | cons p ps ih =>
    simp only [mapM?] at h
    cases h1 : typedPolicy s env p with
    | none => simp [h1] at h
    | some tp =>
      cases h2 : mapM? (typedPolicy s env) ps with
      | none => simp [h1, h2] at h
      | some tps' =>
        simp only [h1, h2, Option.some.injEq] at h; subst h
        obtain ⟨hp, hty⟩ := typedPolicy_isTypedFor h1
        obtain ⟨⟨iv, it⟩, im⟩ := ih (fun p hp => hv p (List.mem_cons_of_mem _ hp)) h2
        refine ⟨⟨?_, ?_⟩, by simp [hp, im]⟩
        · intro x hx
          rcases List.mem_cons.mp hx with rfl | hx
          · rw [hp]; exact hv p List.mem_cons_self
          · exact iv x hx
        · intro x hx
          rcases List.mem_cons.mp hx with rfl | hx
          · exact hty
          · exact it x hx

end Cedar.Tpe.Valid
