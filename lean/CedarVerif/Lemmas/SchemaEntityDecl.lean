import CedarVerif.Cedar.SchemaDecl2
import CedarVerif.Lemmas.SchemaSyntax
/-
The parser of entity declarations inverts the printer: the standard form (`Cedar/SchemaDecl.lean`) and, under the look-ahead
of `parseEntityAny`, the enum form (`Cedar/SchemaDecl2.lean`).
-/
namespace Cedar.SchemaSyntax

/-- well-formed declaration: at least one name, every name / path component an identifier the grammar's `Ident` accepts, no
declared name is the reserved `__cedar` -/
def WFD (d : EntityDecl) : Prop :=
  d.names ≠ [] ∧ (∀ n ∈ d.names, validId n = true ∧ n ≠ "__cedar") ∧ (∀ q ∈ d.memberOf, ∀ c ∈ q.comps, validId c = true) ∧
  WFA d.attrs ∧ (∀ t, d.tags = some t → WFC t)

theorem parseIdents_one (s : String) (rest : List Tok) (hs : validId s = true) (hr : NoComma rest) :
    parseIdents (.id s :: rest) = some ([s], rest) := by
  unfold parseIdents
  split
  · rename_i heq
    obtain ⟨-, rfl⟩ := List.cons.inj heq
    exact hr.elim
  · rename_i heq
    obtain ⟨h1, rfl⟩ := List.cons.inj heq
    cases h1
    simp [hs]
  · rename_i h1 h2
    exact (h2 s rest rfl).elim

theorem parseIdents_print (ns : List String) (rest : List Tok) (hne : ns ≠ []) (hv : ∀ n ∈ ns, validId n = true)
    (hr : NoComma rest) : parseIdents (printIdents ns ++ rest) = some (ns, rest) := by
  induction ns with
  | nil => exact absurd rfl hne
  | cons s ns ih =>
    have hs : validId s = true := hv s (List.mem_cons_self ..)
    cases ns with
    | nil => exact parseIdents_one s rest hs hr
    | cons s2 more =>
      have ih := ih (List.cons_ne_nil _ _) (fun n hn => hv n (List.mem_cons_of_mem _ hn))
      simp only [printIdents, List.cons_append] at ih ⊢
      simp only [parseIdents, hs, if_true]
      rw [ih]

theorem parsePathsTail_print (qs : List QName) (fuel : Nat) (rest : List Tok) (hne : qs ≠ []) (hf : qs.length ≤ fuel)
    (hv : ∀ q ∈ qs, ∀ c ∈ q.comps, validId c = true) :
    parsePathsTail fuel (printNames qs ++ tRbrack :: rest) = some (qs, rest) := by
  induction qs generalizing fuel with
  | nil => exact absurd rfl hne
  | cons q qs ih =>
    cases fuel with
    | zero => exact absurd hf (Nat.not_succ_le_zero _)
    | succ fuel =>
      cases qs with
      | nil =>
        obtain ⟨s, tl, h1, h2⟩ := parsePath_print q (tRbrack :: rest) (hv q (List.mem_cons_self ..)) trivial
        simp only [printNames]
        rw [h1]
        simp [parsePathsTail, h2, tRbrack]
      | cons q2 more =>
        have ih := ih fuel (List.cons_ne_nil _ _) (Nat.le_of_succ_le_succ hf) (fun x hx => hv x (List.mem_cons_of_mem _ hx))
        obtain ⟨s, tl, h1, h2⟩ := parsePath_print q (.comma :: (printNames (q2 :: more) ++ tRbrack :: rest))
          (hv q (List.mem_cons_self ..)) trivial
        simp only [printNames, List.append_assoc, List.cons_append]
        rw [h1]
        simp only [parsePathsTail, h2, ih]

theorem printNames_head (qs : List QName) (hne : qs ≠ []) : ∃ s tl, printNames qs = .id s :: tl := by
  rcases qs with _ | ⟨q, _ | ⟨q2, more⟩⟩
  · exact absurd rfl hne
  · exact printName_head q
  · obtain ⟨s, tl, h⟩ := printName_head q
    exact ⟨s, tl ++ .comma :: printNames (q2 :: more), by simp [printNames, h]⟩

theorem parseTagsPart_print (tags : Option TyCedar) (fuel : Nat) (rest : List Tok)
    (hw : ∀ t, tags = some t → WFC t) (hf : ∀ t, tags = some t → sizeC t ≤ fuel) :
    parseTagsPart fuel (printTagsPart tags ++ tSemi :: rest) = some (tags, tSemi :: rest) := by
  cases tags with
  | none => simp [printTagsPart, parseTagsPart, tSemi]
  | some t =>
    have := parseC_print t (hw t rfl) fuel (tSemi :: rest) (hf t rfl) trivial
    simp [printTagsPart, parseTagsPart, this]

theorem startsWith_tags (tags : Option TyCedar) (rest : List Tok) :
    StartsWith [.id "tags", tSemi] (printTagsPart tags ++ tSemi :: rest) := by
  cases tags with
  | none => exact ⟨tSemi, rest, rfl, List.mem_cons_of_mem _ (List.mem_cons_self ..)⟩
  | some t => exact ⟨.id "tags", _, rfl, List.mem_cons_self ..⟩

theorem parseShapePart_print (as : AttrsC) (fuel : Nat) (R : List Tok) (hw : WFA as) (hf : sizeC (.record as) ≤ fuel)
    (hR : StartsWith [.id "tags", tSemi] R) :
    parseShapePart fuel (printShapePart as ++ R) = some (as, R) := by
  cases as with
  | nil =>
    obtain ⟨t, tl, rfl, ht⟩ := hR
    simp only [printShapePart, List.nil_append]
    simp only [List.mem_cons, List.not_mem_nil, or_false] at ht
    rcases ht with rfl | rfl <;> simp [parseShapePart, tSemi]
  | cons n req t more =>
    have := parseC_print (.record (.cons n req t more)) (by simpa [WFC] using hw) fuel _ hf (hR.okRest (by decide) (by decide))
    simp only [printShapePart, List.cons_append]
    simp only [printC, List.cons_append] at this ⊢
    simp only [parseShapePart, tEq, this]

theorem startsWith_shape (as : AttrsC) (tags : Option TyCedar) (rest : List Tok) :
    StartsWith [tEq, .id "tags", tSemi] (printShapePart as ++ (printTagsPart tags ++ tSemi :: rest)) := by
  cases as with
  | nil => exact (startsWith_tags tags rest).mono (List.subset_cons_self ..)
  | cons n req t more => exact ⟨tEq, _, rfl, List.mem_cons_self ..⟩

theorem parseEntTypes_list (qs : List QName) (fuel : Nat) (rest : List Tok) (hne : qs ≠ []) (hf : qs.length ≤ fuel)
    (hv : ∀ q ∈ qs, ∀ c ∈ q.comps, validId c = true) :
    parseEntTypes fuel (tLbrack :: (printNames qs ++ tRbrack :: rest)) = some (qs, rest) := by
  obtain ⟨s, tl, hh⟩ := printNames_head qs hne
  have hp := parsePathsTail_print qs fuel rest hne hf hv
  rw [hh] at hp ⊢
  simp only [List.cons_append, tLbrack] at hp ⊢
  simp only [parseEntTypes]
  exact hp

theorem parseInPart_print (ms : List QName) (R : List Tok) (fuel : Nat)
    (hv : ∀ q ∈ ms, ∀ c ∈ q.comps, validId c = true) (hf : ms.length ≤ fuel)
    (hR : StartsWith [tEq, .id "tags", tSemi] R) :
    parseInPart fuel (printInPart ms ++ R) = some (ms, R) := by
  cases ms with
  | nil =>
    obtain ⟨t, tl, rfl, ht⟩ := hR
    simp only [List.mem_cons, List.not_mem_nil, or_false] at ht
    rcases ht with rfl | rfl | rfl <;> simp [printInPart, parseInPart, tEq, tSemi]
  | cons q qs =>
    simp only [printInPart, List.cons_append, List.append_assoc, List.nil_append, parseInPart]
    exact parseEntTypes_list (q :: qs) fuel R (List.cons_ne_nil _ _) hf hv

theorem startsWith_in (ms : List QName) (R : List Tok) (hR : StartsWith [tEq, .id "tags", tSemi] R) :
    StartsWith [.id "in", tEq, .id "tags", tSemi] (printInPart ms ++ R) := by
  cases ms with
  | nil => exact hR.mono (List.subset_cons_self ..)
  | cons q qs => exact ⟨.id "in", _, rfl, List.mem_cons_self ..⟩

def declFuel (d : EntityDecl) : Nat :=
  d.memberOf.length + sizeC (.record d.attrs) + (match d.tags with | some t => sizeC t | none => 0)

theorem parseEntity_print (d : EntityDecl) (h : WFD d) (fuel : Nat) (hf : declFuel d ≤ fuel) (rest : List Tok) :
    parseEntity fuel (printEntity d ++ rest) = some (d, rest) := by
  obtain ⟨names, memberOf, attrs, tags⟩ := d
  obtain ⟨hne, hvn, hvm, hwa, hwt⟩ := h
  simp only [declFuel] at hf
  have hf1 : memberOf.length ≤ fuel := by omega
  have hf2 : sizeC (.record attrs) ≤ fuel := by omega
  have hf3 : ∀ t, tags = some t → sizeC t ≤ fuel := by
    intro t ht; subst ht; simp only at hf; omega
  have hR2 := startsWith_shape attrs tags rest
  simp only [printEntity, List.cons_append, List.append_assoc, List.nil_append]
  have hres : ¬ "__cedar" ∈ names := fun hm => (hvn _ hm).2 rfl
  simp only [parseEntity, parseIdents_print names _ hne (fun n hn => (hvn n hn).1) ((startsWith_in memberOf _ hR2).noComma (by decide)),
    parseInPart_print memberOf _ fuel hvm hf1 hR2, parseShapePart_print attrs fuel _ hwa hf2 (startsWith_tags tags rest),
    parseTagsPart_print tags fuel rest hwt hf3]
  simp [tSemi, hres]

theorem printNames_length (qs : List QName) : qs.length ≤ (printNames qs).length := by
  induction qs with
  | nil => exact Nat.zero_le _
  | cons q qs ih =>
    have := printName_length q
    cases qs with
    | nil => simpa [printNames] using this
    | cons q2 more =>
      simp only [printNames, List.length_append, List.length_cons] at ih ⊢
      omega

theorem declFuel_le_length (d : EntityDecl) : declFuel d ≤ (printEntity d).length + 1 := by
  obtain ⟨names, memberOf, attrs, tags⟩ := d
  have h1 : memberOf.length ≤ (printInPart memberOf).length := by
    cases memberOf with
    | nil => simp [printInPart]
    | cons q qs =>
      have := printNames_length (q :: qs)
      simp only [printInPart, List.length_cons, List.length_append] at this ⊢
      omega
  have h2 : sizeC (.record attrs) ≤ (printShapePart attrs).length + 1 := by
    cases attrs with
    | nil => simp [sizeC, sizeA, printShapePart]
    | cons n req t more =>
      have := sizeC_le_length (.record (.cons n req t more))
      simp only [printShapePart, List.length_cons]
      omega
  have h3 : (match tags with | some t => sizeC t | none => 0) ≤ (printTagsPart tags).length := by
    cases tags with
    | none => simp
    | some t =>
      have := sizeC_le_length t
      simp only [printTagsPart, List.length_cons]
      omega
  simp only [declFuel, printEntity, List.length_cons, List.length_append]
  omega

theorem parseEidsTail_print (cs : List String) (rest : List Tok) (h : cs ≠ []) :
    parseEidsTail (printStrs cs ++ tRbrack :: rest) = some (cs, rest) := by
  induction cs with
  | nil => exact absurd rfl h
  | cons s cs ih =>
    cases cs with
    | nil => simp [printStrs, parseEidsTail, tRbrack]
    | cons s2 more =>
      have ih := ih (by simp)
      simp only [printStrs, List.cons_append] at ih ⊢
      simp only [parseEidsTail, ih]

theorem parseEntityAny_enum (name : String) (cs : List String) (fuel : Nat) (rest : List Tok)
    (hn : validId name = true) (hr : name ≠ "__cedar") (hc : cs ≠ []) :
    parseEntityAny fuel (printEnumJ name cs ++ rest) = some (.enum [name] cs, rest) := by
  have h := parseEidsTail_print cs (tSemi :: rest) hc
  simp only [printEnumJ, List.cons_append, List.append_assoc, parseEntityAny, parseIdents, hn, if_true, tLbrack]
  simp only [List.nil_append] at h ⊢
  rw [h]
  simp [tSemi, Ne.symm hr]

theorem parseEntityAny_standard (d : EntityDecl) (h : WFD d) (fuel : Nat) (hf : declFuel d ≤ fuel) (rest : List Tok) :
    parseEntityAny fuel (printEntity d ++ rest) = some (.standard d, rest) := by
  have hp := parseEntity_print d h fuel hf rest
  obtain ⟨names, memberOf, attrs, tags⟩ := d
  obtain ⟨hne, hvn, hvm, hwa, hwt⟩ := h
  have hc := startsWith_in memberOf _ (startsWith_shape attrs tags rest)
  have hid := parseIdents_print names _ hne (fun n hn => (hvn n hn).1) (hc.noComma (by decide))
  simp only [printEntity, List.cons_append, List.append_assoc, List.nil_append] at hp hid ⊢
  simp only [parseEntityAny]
  rw [hid]
  split
  · -- what follows the names is not `enum`
    rename_i heq
    obtain ⟨t, tl, h, ht⟩ := hc
    rw [h] at heq
    simp only [Option.some.injEq, Prod.mk.injEq, List.cons.injEq] at heq
    exact absurd (heq.2.1 ▸ ht) (by decide)
  · rw [hp]

end Cedar.SchemaSyntax
