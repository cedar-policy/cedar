import CedarVerif.Lemmas.LevelOkInv
/-
Soundness of the level checker on the typed AST, in two independent inductions.
  `within_deref` : THE INVARIANT, about the full store only: a dereference target without level errors evaluates to a value
                   whose entity uids (projected along the access path) are within `derefLevel` hops of the request.  It
                   follows the targets alone (`if` branches, the target of `.`, the first operand of `getTag`, the accessed
                   binding of a record literal) and knows nothing of the maximum level or of the slice.
  `slice_of_ok`  : an expression the checker accepted in either role (`Ok`) evaluates over the level-n slice as over the
                   store: each construct once, its children `Ok` by the inversions of LevelOkInv, a dereferenced entity in the
                   slice by the invariant.
Hypotheses: `Kinds` (the kind annotations agree with the run-time values — what typechecker soundness provides) and
`req.action = act` (the request is for the environment's action: the action-literal exception).
-/
namespace Cedar.Level
open Cedar Cedar.Slice

variable {req : Request} {es : Entities} {sl : SlotEnv} {n : Nat} {act : EntityUID}

mutual
theorem within_deref (hact : req.action = act) :
    ∀ (te : TExpr) (p : List String), Kinds req es sl te → derefErrs n act te p = [] →
      ∀ v, evaluate req es sl te.erase = .ok v → Within req es (derefLevel act te p) (projL v p)
  | .var x, p => fun _ _ v hv => within_var req es sl x p hv
  | .lit l, p => by
      intro _ hc v hv
      cases l with
      | entityUID u =>
        -- the only literal that may be dereferenced is the action of the environment, i.e. of the request
        unfold derefErrs at hc
        have hua : u = act := by
          by_cases h : (u == act) = true
          · exact eq_of_beq h
          · simp [h] at hc
        rw [hua, ← hact] at hv
        exact within_var req es sl .action p hv
      | _ => simp [derefErrs] at hc
  | .ite c t e, p => by
      intro hk hc v hv
      unfold Kinds at hk
      simp only [derefErrs, List.append_eq_nil_iff] at hc
      unfold derefLevel
      rcases iteR_ok (evaluate_ite .. ▸ hv) with ⟨h, hv'⟩ | ⟨h, hv'⟩
      · exact (within_deref hact t p (hk.2.1 h) hc.2.1 v hv').mono (Nat.le_max_left _ _)
      · exact (within_deref hact e p (hk.2.2 h) hc.2.2 v hv').mono (Nat.le_max_right _ _)
  | .getAttr k e attr, p => by
      intro hk hc w hw
      unfold Kinds at hk
      obtain ⟨v, hv, hw⟩ := bindR_ok.mp (evaluate_getAttr .. ▸ hw)
      cases k with
      | entity =>
        simp only [derefErrs] at hc
        simp only [derefLevel]
        obtain ⟨u, rfl⟩ := TKind.matches_entity (hk.2 v hv)
        exact within_getAttrV (within_deref hact e p hk.1 hc _ hv).entity hw p
      | record =>
        simp only [derefErrs] at hc
        simp only [derefLevel]
        obtain ⟨kvs, rfl⟩ := TKind.matches_record (hk.2 v hv)
        rw [← projL_getAttrV_record hw p]
        exact within_deref hact e (attr :: p) hk.1 hc _ hv
      | other => simp [derefErrs] at hc
  | .binaryApp op a b, p => by
      intro hk hc w hw
      unfold Kinds at hk
      cases op with
      | getTag =>
        simp only [derefErrs, List.append_eq_nil_iff] at hc
        simp only [derefLevel]
        obtain ⟨v1, hv1, hw⟩ := bindR_ok.mp (evaluate_binary .. ▸ hw)
        obtain ⟨v2, _, hw⟩ := bindR_ok.mp hw
        exact within_getTag (fun u hu => (hu ▸ within_deref hact a p hk.1 hc.1 v1 hv1).entity) hw p
      | _ => simp [derefErrs] at hc
  | .record kvs, p => by
      intro hk hc val hval
      unfold Kinds at hk
      cases p with
      | nil => simp [derefErrs] at hc
      | cons a p' =>
        unfold derefErrs at hc
        cases hkey : hasKey a kvs with
        | false => simp [hkey] at hc
        | true =>
          simp only [hkey, if_true] at hc
          simp only [TExpr.erase, evaluate] at hval
          cases hvs : evaluateKVs req es sl (eraseKVs kvs) with
          | error _ => simp [hvs] at hval
          | ok vs =>
            simp only [hvs, Except.ok.injEq] at hval
            subst hval
            -- the record's field `a` is the last binding of `a` among the evaluated bindings
            simp only [projL, lookupKV_foldl_insertKV]
            cases hlast : lastKV a vs with
            | none => rw [← lastKV_isSome a kvs vs hvs, hlast] at hkey; cases hkey
            | some x =>
              cases hlv : derefLevelKVs act a p' kvs with
              | none => rw [(derefLevelKVs_none_iff act a p' kvs).mp hlv] at hkey; cases hkey
              | some l =>
                simp only [derefLevel, hlv]
                exact within_derefKVs hact a p' kvs hk hc l hlv vs hvs x hlast
  | .slot _, _ => by intro _ hc; simp [derefErrs] at hc
  | .unknown _ _, _ => by intro _ hc; simp [derefErrs] at hc
  | .and _ _, _ => by intro _ hc; simp [derefErrs] at hc
  | .or _ _, _ => by intro _ hc; simp [derefErrs] at hc
  | .unaryApp _ _, _ => by intro _ hc; simp [derefErrs] at hc
  | .call _ _, _ => by intro _ hc; simp [derefErrs] at hc
  | .hasAttr _ _ _, _ => by intro _ hc; simp [derefErrs] at hc
  | .like _ _, _ => by intro _ hc; simp [derefErrs] at hc
  | .is _ _, _ => by intro _ hc; simp [derefErrs] at hc
  | .set _, _ => by intro _ hc; simp [derefErrs] at hc
theorem within_derefKVs (hact : req.action = act) (a : String) (p : List String) :
    ∀ (kvs : List (String × TExpr)), KindsKVs req es sl kvs → derefErrsKVs n act a p kvs = [] →
      ∀ l, derefLevelKVs act a p kvs = some l →
      ∀ vs, evaluateKVs req es sl (eraseKVs kvs) = .ok vs → ∀ x, lastKV a vs = some x → Within req es l (projL x p)
  | [] => by intro _ _ l hl; cases hl
  | (k, e) :: rest => by
      intro hk hc l hlv vs hvs x hx
      unfold KindsKVs at hk
      simp only [derefErrsKVs, List.append_eq_nil_iff] at hc
      obtain ⟨v, vs', h1, h2, rfl⟩ := evaluateKVs_cons_ok hvs
      have hs := lastKV_isSome a rest vs' h2
      simp only [derefLevelKVs] at hlv
      simp only [lastKV] at hx
      cases hr : derefLevelKVs act a p rest with
      | some l' =>
        -- the accessed binding is further right
        have hkey : hasKey a rest = true := by
          cases hh : hasKey a rest with
          | true => rfl
          | false => rw [(derefLevelKVs_none_iff act a p rest).mpr hh] at hr; cases hr
        rw [hkey, Option.isSome_iff_exists] at hs
        obtain ⟨x', hx'⟩ := hs
        simp only [hr, Option.some.injEq] at hlv
        simp only [hx', Option.some.injEq] at hx
        subst hlv hx
        exact within_derefKVs hact a p rest hk.2 hc.2 _ hr vs' h2 _ hx'
      | none =>
        have hkey := (derefLevelKVs_none_iff act a p rest).mp hr
        rw [hkey, Option.isSome_eq_false_iff, Option.isNone_iff_eq_none] at hs
        have hka : (k == a) = true := by
          by_cases h : (k == a) = true
          · exact h
          · simp [hr, h] at hlv
        simp only [hr, hka, if_true, Option.some.injEq] at hlv
        simp only [hs, hka, if_true, Option.some.injEq] at hx
        subst hlv hx
        simp only [hka, hkey, Bool.not_false, Bool.and_self, if_true] at hc
        exact within_deref hact e p hk.1 hc.1 _ h1
end

theorem entityWithin_of_within {v : Value} {k : Nat} {p : List String} (h : Within req es k (projL v p)) (hk : k ≤ n) :
    EntityWithin req es n v := by
  intro u hu
  subst hu
  exact reach_mono hk h.entity

theorem DerefOk.entityWithin (hact : req.action = act) {te : TExpr} (h : DerefOk n act te) (hk : Kinds req es sl te)
    {v : Value} (hv : evaluate req es sl te.erase = .ok v) : EntityWithin req es n v := by
  obtain ⟨p, hc, hl⟩ := h
  exact entityWithin_of_within (within_deref hact te p hk hc v hv) (Nat.le_of_lt hl)

/-- the value of a `.`/`has` target the checker accepted: an entity within `n` hops, or (kind `record`) no entity at all -/
theorem OkTarget.entityWithin (hact : req.action = act) {k : TKind} {te : TExpr} (h : OkTarget n act k te)
    (hk : Kinds req es sl te) {v : Value} (hv : evaluate req es sl te.erase = .ok v) (hm : k.matches v = true) :
    EntityWithin req es n v := by
  cases k with
  | entity => exact DerefOk.entityWithin hact h hk hv
  | record =>
    obtain ⟨kvs, rfl⟩ := TKind.matches_record hm
    intro u hu
    cases hu
  | other => exact h.elim

mutual
theorem slice_of_ok (hact : req.action = act) :
    ∀ (te : TExpr), Kinds req es sl te → Ok n act te →
      evaluate req (atLevel n req es) sl te.erase = evaluate req es sl te.erase
  | .lit _ => fun _ _ => rfl
  | .var v => by intro _ _; cases v <;> rfl
  | .slot _ => fun _ _ => rfl
  | .unknown _ _ => fun _ _ => rfl
  | .ite c t e => by
      intro hk hok
      unfold Kinds at hk
      exact eval_ite_congr (slice_of_ok hact c hk.1 hok.ite.1) (fun h => slice_of_ok hact t (hk.2.1 h) hok.ite.2.1)
        (fun h => slice_of_ok hact e (hk.2.2 h) hok.ite.2.2)
  | .and a b => by
      intro hk hok
      unfold Kinds at hk
      exact eval_and_congr (slice_of_ok hact a hk.1 hok.and.1) (fun h => slice_of_ok hact b (hk.2 h) hok.and.2)
  | .or a b => by
      intro hk hok
      unfold Kinds at hk
      exact eval_or_congr (slice_of_ok hact a hk.1 hok.or.1) (fun h => slice_of_ok hact b (hk.2 h) hok.or.2)
  | .unaryApp _ a => by
      intro hk hok
      unfold Kinds at hk
      exact eval_unary_congr (slice_of_ok hact a hk hok.unary)
  | .binaryApp op a b => by
      intro hk hok
      unfold Kinds at hk
      refine eval_binary_congr (slice_of_ok hact a hk.1 hok.binary.1) (slice_of_ok hact b hk.2 hok.binary.2)
        (fun v1 v2 hv => ?_)
      have ha := hok.binaryArgs.1
      split at ha
      · exact applyBinary_deref (ha.entityWithin hact hk.1 hv) v2
      · exact applyBinary_noDeref (Bool.eq_false_iff.mpr ‹_›) _ _ v1 v2
  | .call _ args => by
      intro hk hok
      unfold Kinds at hk
      exact eval_call_congr (sliceList_of_ok hact args hk hok.call)
  | .getAttr k e attr => by
      intro hk hok
      unfold Kinds at hk
      exact eval_getAttr_congr (slice_of_ok hact e hk.1 hok.getAttr)
        (fun v hv => getAttrV_atLevel (hok.getAttrTarget.entityWithin hact hk.1 hv (hk.2 v hv)) attr)
  | .hasAttr k e attr => by
      intro hk hok
      unfold Kinds at hk
      exact eval_hasAttr_congr (slice_of_ok hact e hk.1 hok.hasAttr)
        (fun v hv => hasAttrV_atLevel (hok.hasAttrTarget.entityWithin hact hk.1 hv (hk.2 v hv)) attr)
  | .like e _ => by
      intro hk hok
      unfold Kinds at hk
      exact eval_like_congr (slice_of_ok hact e hk hok.like)
  | .is e _ => by
      intro hk hok
      unfold Kinds at hk
      exact eval_is_congr (slice_of_ok hact e hk hok.is)
  | .set xs => by
      intro hk hok
      unfold Kinds at hk
      exact eval_set_congr (sliceList_of_ok hact xs hk hok.set)
  | .record kvs => by
      intro hk hok
      unfold Kinds at hk
      exact eval_record_congr (sliceKVs_of_ok hact kvs hk hok.record)
theorem sliceList_of_ok (hact : req.action = act) :
    ∀ (xs : List TExpr), KindsList req es sl xs → OkList n act xs →
      evaluateList req (atLevel n req es) sl (eraseList xs) = evaluateList req es sl (eraseList xs)
  | [] => fun _ _ => rfl
  | e :: xs => by
      intro hk hok
      unfold KindsList at hk
      exact evaluateList_cons_congr (slice_of_ok hact e hk.1 hok.cons.1) (sliceList_of_ok hact xs hk.2 hok.cons.2)
theorem sliceKVs_of_ok (hact : req.action = act) :
    ∀ (kvs : List (String × TExpr)), KindsKVs req es sl kvs → OkKVs n act kvs →
      evaluateKVs req (atLevel n req es) sl (eraseKVs kvs) = evaluateKVs req es sl (eraseKVs kvs)
  | [] => fun _ _ => rfl
  | (k, e) :: xs => by
      intro hk hok
      unfold KindsKVs at hk
      exact evaluateKVs_cons_congr (slice_of_ok hact e hk.1 hok.cons.1) (sliceKVs_of_ok hact xs hk.2 hok.cons.2)
end

theorem check_sound (hact : req.action = act) :
    ∀ (te : TExpr), Kinds req es sl te → checkExpr n act te = [] →
      evaluate req (atLevel n req es) sl te.erase = evaluate req es sl te.erase :=
  fun te hk hc => slice_of_ok hact te hk (Or.inl hc)

theorem checkList_sound (hact : req.action = act) :
    ∀ (xs : List TExpr), KindsList req es sl xs → checkList n act xs = [] →
      evaluateList req (atLevel n req es) sl (eraseList xs) = evaluateList req es sl (eraseList xs) :=
  fun xs hk hc => sliceList_of_ok hact xs hk (okList_of_checkList hc)

theorem checkKVs_sound (hact : req.action = act) :
    ∀ (kvs : List (String × TExpr)), KindsKVs req es sl kvs → checkKVs n act kvs = [] →
      evaluateKVs req (atLevel n req es) sl (eraseKVs kvs) = evaluateKVs req es sl (eraseKVs kvs) :=
  fun kvs hk hc => sliceKVs_of_ok hact kvs hk (okKVs_of_checkKVs hc)

theorem derefKVs_sound (hact : req.action = act) (a : String) (p : List String) :
    ∀ (kvs : List (String × TExpr)), KindsKVs req es sl kvs → derefErrsKVs n act a p kvs = [] →
      ∀ l, derefLevelKVs act a p kvs = some l → l < n →
      evaluateKVs req (atLevel n req es) sl (eraseKVs kvs) = evaluateKVs req es sl (eraseKVs kvs) ∧
      ∀ vs, evaluateKVs req es sl (eraseKVs kvs) = .ok vs → ∀ x, lastKV a vs = some x → Within req es l (projL x p) :=
  fun kvs hk hc l hlv hl =>
    ⟨sliceKVs_of_ok hact kvs hk (okKVs_of_derefErrsKVs a p hc (fun _ h' => Option.some.inj (hlv ▸ h') ▸ hl)),
      within_derefKVs hact a p kvs hk hc l hlv⟩

end Cedar.Level
