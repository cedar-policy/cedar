import CedarVerif.Lemmas.Auth
import CedarVerif.Lemmas.EvalStore
/-
C01 — Authorization: default-deny, forbid-overrides, skip-on-error, pure function.
All statements are about `Cedar.isAuthorized`, the mirror of `is_authorized_core_internal` + `From<PartialResponse> for Response`,
for arbitrary policy lists, requests and stores.
-/
namespace Cedar.C01
open Cedar

variable (req : Request) (es : Entities)

/-- C01: allow iff some permit is satisfied and no forbid is. -/
theorem allow_iff (ps : List Policy) :
    (isAuthorized req es ps).decision = .allow ↔
      (∃ p, p ∈ ps ∧ p.effect = .permit ∧ Sat req es p) ∧
      ¬ (∃ p, p ∈ ps ∧ p.effect = .forbid ∧ Sat req es p) :=
  isAuthorized_allow_iff req es ps

/-- C01: the errors are exactly the erroring policies. -/
theorem errors_exact (ps : List Policy) (id : String) :
    id ∈ (isAuthorized req es ps).errors ↔ ∃ p, p ∈ ps ∧ id = p.id ∧ Errs req es p := by
  unfold isAuthorized Buckets.concretize
  simp only
  rw [mem_errors]; simp

/-- C01: reasons = satisfied forbids if any, else satisfied permits. -/
theorem reasons_exact (ps : List Policy) (id : String) :
    ((∃ p, p ∈ ps ∧ p.effect = .forbid ∧ Sat req es p) →
      (id ∈ (isAuthorized req es ps).reasons ↔ ∃ p, p ∈ ps ∧ id = p.id ∧ p.effect = .forbid ∧ Sat req es p)) ∧
    ((¬ ∃ p, p ∈ ps ∧ p.effect = .forbid ∧ Sat req es p) →
      (id ∈ (isAuthorized req es ps).reasons ↔ ∃ p, p ∈ ps ∧ id = p.id ∧ p.effect = .permit ∧ Sat req es p)) := by
  unfold isAuthorized Buckets.concretize
  refine ⟨fun hex => ?_, fun hex => ?_⟩
  · have hne : (ps.foldl (Buckets.step req es) {}).satForbids.isEmpty = false := by
      rw [← Bool.not_eq_true, satForbids_isEmpty]; exact not_not_intro hex
    simp only [hne, Bool.false_eq_true, if_false]
    rw [mem_satForbids]; simp
  · simp only [(satForbids_isEmpty req es ps).mpr hex, if_true]
    rw [mem_satPermits]; simp

/-- C01: independent of policy order. -/
theorem perm_invariant (ps₁ ps₂ : List Policy) (h : ps₁.Perm ps₂) :
    (isAuthorized req es ps₁).decision = (isAuthorized req es ps₂).decision ∧
    (∀ id, id ∈ (isAuthorized req es ps₁).reasons ↔ id ∈ (isAuthorized req es ps₂).reasons) ∧
    (∀ id, id ∈ (isAuthorized req es ps₁).errors ↔ id ∈ (isAuthorized req es ps₂).errors) := by
  have hm : ∀ p, p ∈ ps₁ ↔ p ∈ ps₂ := fun p => h.mem_iff
  refine ⟨?_, ?_, ?_⟩
  · have key : (isAuthorized req es ps₁).decision = .allow ↔ (isAuthorized req es ps₂).decision = .allow := by
      rw [allow_iff, allow_iff]; simp only [hm]
    cases h1 : (isAuthorized req es ps₁).decision <;> cases h2 : (isAuthorized req es ps₂).decision <;>
      simp [h1, h2] at key ⊢
  · intro id
    have r1 := reasons_exact req es ps₁ id
    have r2 := reasons_exact req es ps₂ id
    simp only [hm] at r1
    by_cases hex : ∃ p, p ∈ ps₂ ∧ p.effect = .forbid ∧ Sat req es p
    · rw [r1.1 hex, r2.1 hex]
    · rw [r1.2 hex, r2.2 hex]
  · intro id
    rw [errors_exact, errors_exact]; simp only [hm]

/-- C01: Deny otherwise (default deny; forbid overrides). -/
theorem deny_otherwise (ps : List Policy) :
    (isAuthorized req es ps).decision = .deny ↔
      (¬ ∃ p, p ∈ ps ∧ p.effect = .permit ∧ Sat req es p) ∨
      (∃ p, p ∈ ps ∧ p.effect = .forbid ∧ Sat req es p) := by
  have h := allow_iff req es ps
  cases hd : (isAuthorized req es ps).decision
  · simp only [hd, true_iff] at h
    simp only [reduceCtorEq, false_iff, not_or, Classical.not_not]
    exact h
  · simp only [hd, reduceCtorEq, false_iff] at h
    simp only [true_iff]
    by_cases hp : ∃ p, p ∈ ps ∧ p.effect = .permit ∧ Sat req es p
    · right
      exact Classical.not_not.mp (fun hf => h ⟨hp, hf⟩)
    · left; exact hp

/-- C01: a policy whose evaluation errors is not satisfied (so it can never be a reason). -/
theorem erroring_not_satisfied (p : Policy) : Errs req es p → ¬ Sat req es p := by
  unfold Errs Sat; intro h; rw [h]; simp

/-- C01: stores with the same lookup function give the same response — the response does not depend on entity
    insertion order, duplicates shadowed by earlier entries, or any other representation detail of the store. -/
theorem store_extensional (es₁ es₂ : Entities) (h : ∀ u, es₁.find? u = es₂.find? u) (ps : List Policy) :
    isAuthorized req es₁ ps = isAuthorized req es₂ ps :=
  isAuthorized_congr_store req es₂ es₁ ps fun p _ => by rw [outcome_eq, outcome_eq, evaluate_ext req p.env es₁ es₂ h]

def Policy.rename (ρ : String → String) (p : Policy) : Policy := { p with id := ρ p.id }

def Buckets.rename (ρ : String → String) (b : Buckets) : Buckets :=
  { satPermits := b.satPermits.map ρ,
    falsePermits := b.falsePermits.map (fun x => (ρ x.1, x.2)),
    satForbids := b.satForbids.map ρ,
    falseForbids := b.falseForbids.map (fun x => (ρ x.1, x.2)),
    errors := b.errors.map ρ }

def Response.rename (ρ : String → String) (r : Response) : Response :=
  { decision := r.decision, reasons := r.reasons.map ρ, errors := r.errors.map ρ }

theorem step_rename (ρ : String → String) (b : Buckets) (p : Policy) :
    Buckets.step req es (Buckets.rename ρ b) (Policy.rename ρ p) = Buckets.rename ρ (Buckets.step req es b p) := by
  have ho : (Policy.rename ρ p).outcome req es = p.outcome req es := rfl
  have he : (Policy.rename ρ p).effect = p.effect := rfl
  simp only [Buckets.step, ho, he]
  cases p.outcome req es <;> cases p.effect <;> simp [Buckets.rename, Policy.rename]

theorem foldl_rename (ρ : String → String) (ps : List Policy) (b : Buckets) :
    (ps.map (Policy.rename ρ)).foldl (Buckets.step req es) (Buckets.rename ρ b) =
      Buckets.rename ρ (ps.foldl (Buckets.step req es) b) := by
  induction ps generalizing b with
  | nil => rfl
  | cons p ps ih => simp only [List.map_cons, List.foldl_cons, step_rename, ih]

theorem concretize_rename (ρ : String → String) (b : Buckets) :
    (Buckets.rename ρ b).concretize = Response.rename ρ b.concretize := by
  simp only [Buckets.concretize, Buckets.rename, Response.rename, List.isEmpty_map]
  cases hf : b.satForbids.isEmpty <;> cases hp : b.satPermits.isEmpty <;> simp

/-- C01: the response does not depend on how policy ids are spelled: renaming every id by any function `ρ`
    renames the ids in the response and changes nothing else (decision included). -/
theorem rename_equivariant (ρ : String → String) (ps : List Policy) :
    isAuthorized req es (ps.map (Policy.rename ρ)) = Response.rename ρ (isAuthorized req es ps) := by
  have h := foldl_rename req es ρ ps {}
  have h0 : Buckets.rename ρ {} = ({} : Buckets) := rfl
  rw [h0] at h
  unfold isAuthorized
  rw [h, concretize_rename]

/-- C01 (mirror = spec): the whole response, stated declaratively. -/
theorem mirror_eq_spec (ps : List Policy) :
    let r := isAuthorized req es ps
    let satisfied (eff : Effect) := ps.filter (fun p => p.effect == eff && p.outcome req es == .sat)
    r.decision = (if !(satisfied .permit).isEmpty && (satisfied .forbid).isEmpty then .allow else .deny) ∧
    r.reasons = (if (satisfied .forbid).isEmpty then (satisfied .permit).map (·.id) else (satisfied .forbid).map (·.id)) ∧
    r.errors = (ps.filter (fun p => p.outcome req es == .err)).map (·.id) := by
  obtain ⟨h1, h2, h3⟩ := foldl_step_buckets req es ps {}
  simp only [isAuthorized, Buckets.concretize, h1, h2, h3, List.nil_append, List.isEmpty_map]
  simp

/-- non-vacuity: a concrete set with a satisfied permit, an erroring permit and a satisfied forbid -/
example :
    let req : Request := ⟨⟨"U", "a"⟩, ⟨"A", "x"⟩, ⟨"R", "r"⟩, []⟩
    let p1 : Policy := ⟨"p1", .permit, .lit (.bool true), []⟩
    let p2 : Policy := ⟨"p2", .permit, .getAttr (.var .context) "nosuch", []⟩
    let p3 : Policy := ⟨"p3", .forbid, .lit (.bool true), []⟩
    (isAuthorized req [] [p1, p2]).decision = .allow ∧ (isAuthorized req [] [p1, p2]).errors = ["p2"] ∧
    (isAuthorized req [] [p1, p2, p3]).decision = .deny ∧ (isAuthorized req [] [p1, p2, p3]).reasons = ["p3"] := by
  decide

end Cedar.C01
