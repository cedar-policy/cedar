import CedarVerif.Lemmas.PolicySetRenaming
import CedarVerif.Lemmas.PolicySetUnion
/-
C08, `merge_policyset`: the merged set is `A.union (other.renameBy ren)` (`merge_eq`; the `unwrap` is unreachable, a failed merge
changes nothing). The invariant of API-built sets does not depend on the names of the ids (`Strict.renameBy`); a renaming with
`RenOK` makes the renamed `other` compatible with `A` (`RenOK.compat`: what an API-built set holds under a bound id is one of
three kinds, and of the nine combinations on an id that is not renamed six are conflicts, the other three agree); so the merged
set satisfies the invariant again (`PolicySetUnion`), and key by key it holds what `A` holds or what `other` holds under the old
name, renamed (`merged_at`). Without the API envelope `merge` does not preserve `WF`: `cexA`, `cexB`, `cex_not_wf` at the end.
-/
namespace Cedar
open LHM

namespace PolicySet

/-- a template of `other` as stored by the merge -/
def tren (ren : LHM String) (k : String) (t : Template) : Template :=
  match ren.get? k with
  | some n => t.newId n
  | none => t

/-- a policy of `other` as stored by the merge (the total version of `mergeLink`) -/
def pren (ren : LHM String) (pid : String) (p : TPolicy) : TPolicy :=
  let p1 := match ren.get? pid with
    | some n => p.newId n
    | none => p
  match ren.get? p1.template.id with
  | some ntid => if !p1.isStatic then { template := p1.template.newId ntid, link := p1.link, values := p1.values } else p1
  | none => p1

/-- the `unwrap` of `new_template_id` in `merge_policyset` is unreachable: unconditionally -/
theorem mergeLink_eq (ren : LHM String) (pid : String) (p : TPolicy) :
    mergeLink ren pid p = some (renamed ren pid, pren ren pid p) := by
  unfold mergeLink pren renamed
  cases h1 : ren.get? pid with
  | none =>
    simp only
    cases h2 : ren.get? p.template.id with
    | none => rfl
    | some ntid =>
      simp only
      cases hl : p.link with
      | none => simp [TPolicy.isStatic, hl]
      | some l => simp [TPolicy.isStatic, TPolicy.newTemplateId, hl]
  | some n =>
    simp only
    cases h2 : ren.get? (p.newId n).template.id with
    | none => rfl
    | some ntid =>
      simp only
      cases hl : (p.newId n).link with
      | none => simp [TPolicy.isStatic, hl]
      | some l => simp [TPolicy.isStatic, TPolicy.newTemplateId, hl]

def renameBy (ren : LHM String) (B : PolicySet) : PolicySet :=
  { templates := B.templates.mapKV (renamed ren) (tren ren),
    links := B.links.mapKV (renamed ren) (pren ren),
    t2l := B.t2l.mapKV (renamed ren) fun _ s => s.map (renamed ren) }

structure Renames (B : PolicySet) (ren : LHM String) : Prop where
  inj : ∀ k k', B.isBound k → B.isBound k' → renamed ren k = renamed ren k' → k = k'
  idem : ∀ k n, ren.get? k = some n → ren.get? n = none

section
variable {A B : PolicySet} {ren : LHM String}

theorem RenOK.renames (ok : RenOK A B ren) : Renames B ren :=
  ⟨fun _ _ => ok.rho_inj, fun k n h => ok.none_of_not_boundB (ok.freshB k n h)⟩

theorem tren_none {k : String} (t : Template) (h : ren.get? k = none) : tren ren k t = t := by
  unfold tren; rw [h]

theorem tren_id (ren : LHM String) (k : String) (t : Template) (h : t.id = k) : (tren ren k t).id = renamed ren k := by
  unfold tren renamed
  cases ren.get? k with
  | none => exact h
  | some n => rfl

theorem tren_slots (ren : LHM String) (k : String) (t : Template) : (tren ren k t).slots = t.slots := by
  unfold tren
  cases ren.get? k <;> rfl

theorem pren_spec (r : Renames B ren) (wfB : B.WF) {k : String} {p : TPolicy}
    (hp : B.links.get? k = some p) :
    pren ren k p = { template := tren ren p.template.id p.template, link := p.link.map (fun _ => renamed ren k),
                     values := p.values } := by
  have hid := wfB.lKey k p hp
  unfold TPolicy.id at hid
  obtain ⟨tm, lk, vals⟩ := p
  cases lk with
  | none =>
    simp only at hid
    subst hid
    unfold pren tren
    cases hr : ren.get? tm.id with
    | none => simp [hr]
    | some n =>
      have hn : ren.get? n = none := r.idem _ n hr
      have hid2 : (tm.newId n).id = n := rfl
      simp [TPolicy.newId, hid2, hn]
  | some l =>
    simp only at hid
    subst hid
    unfold pren tren renamed
    cases hr : ren.get? l with
    | none =>
      cases ht : ren.get? tm.id with
      | none => simp [ht]
      | some nt => simp [ht, TPolicy.isStatic]
    | some n =>
      cases ht : ren.get? tm.id with
      | none => simp [ht, TPolicy.newId]
      | some nt => simp [ht, TPolicy.newId, TPolicy.isStatic]

theorem pren_link_none (r : Renames B ren) (wfB : B.WF) {k : String} {p0 : TPolicy}
    (hb : B.links.get? k = some p0) : (pren ren k p0).link = none ↔ p0.link = none := by
  rw [pren_spec r wfB hb]
  cases p0.link <;> simp

theorem pren_template (r : Renames B ren) (wfB : B.WF) {k : String} {p0 : TPolicy}
    (hb : B.links.get? k = some p0) : (pren ren k p0).template = tren ren p0.template.id p0.template := by
  rw [pren_spec r wfB hb]

theorem pren_values (r : Renames B ren) (wfB : B.WF) {k : String} {p0 : TPolicy}
    (hb : B.links.get? k = some p0) : (pren ren k p0).values = p0.values := by
  rw [pren_spec r wfB hb]

theorem pren_template_id (r : Renames B ren) (wfB : B.WF) {k : String} {p0 : TPolicy}
    (hb : B.links.get? k = some p0) : (pren ren k p0).template.id = renamed ren p0.template.id := by
  rw [pren_template r wfB hb]; exact tren_id ren _ _ rfl

theorem pren_id (r : Renames B ren) (wfB : B.WF) {k : String} {p0 : TPolicy}
    (hb : B.links.get? k = some p0) : (pren ren k p0).id = renamed ren k := by
  have hid := wfB.lKey k p0 hb
  have hti := pren_template_id r wfB hb
  rw [pren_spec r wfB hb] at hti ⊢
  unfold TPolicy.id at hid ⊢
  cases hl : p0.link with
  | none =>
    rw [hl] at hid
    simp only [Option.map_none]
    simp only at hti hid
    rw [hti, hid]
  | some l => simp

theorem checkBinding_congr {t t' : Template} (h : t.slots = t'.slots) (v : SlotVals) :
    t.checkBinding v = t'.checkBinding v := by
  unfold Template.checkBinding; rw [h]

theorem boundB_of_t2l (wfB : B.WF) {k : String} (h : (B.t2l.get? k).isSome = true) : B.isBound k :=
  Or.inl (by rw [← wfB.mKeys]; exact h)

theorem renameBy_templates (r : Renames B ren) (wfB : B.WF) (x : String) (t : Template) :
    (B.renameBy ren).templates.get? x = some t ↔
      ∃ k t0, B.templates.get? k = some t0 ∧ renamed ren k = x ∧ t = tren ren k t0 :=
  get?_mapKV _ _ _ wfB.tNodup B.isBound (fun _ => Or.inl) r.inj x t

theorem renameBy_links (r : Renames B ren) (wfB : B.WF) (x : String) (p : TPolicy) :
    (B.renameBy ren).links.get? x = some p ↔
      ∃ k p0, B.links.get? k = some p0 ∧ renamed ren k = x ∧ p = pren ren k p0 :=
  get?_mapKV _ _ _ wfB.lNodup B.isBound (fun _ => Or.inr) r.inj x p

theorem renameBy_t2l (r : Renames B ren) (wfB : B.WF) (x : String) (s : List String) :
    (B.renameBy ren).t2l.get? x = some s ↔
      ∃ k s0, B.t2l.get? k = some s0 ∧ renamed ren k = x ∧ s = s0.map (renamed ren) :=
  get?_mapKV (renamed ren) (fun _ (s : List String) => s.map (renamed ren)) _ wfB.mNodup
    B.isBound (fun _ => boundB_of_t2l wfB) r.inj x s

theorem renameBy_isBound (r : Renames B ren) (wfB : B.WF) (x : String) :
    (B.renameBy ren).isBound x ↔ ∃ k, B.isBound k ∧ renamed ren k = x := by
  unfold isBound
  simp only [Option.isSome_iff_exists, renameBy_templates r wfB, renameBy_links r wfB]
  constructor
  · rintro (⟨_, k, t0, hk, he, _⟩ | ⟨_, k, p0, hk, he, _⟩)
    · exact ⟨k, Or.inl ⟨t0, hk⟩, he⟩
    · exact ⟨k, Or.inr ⟨p0, hk⟩, he⟩
  · rintro ⟨k, ⟨t0, hk⟩ | ⟨p0, hk⟩, he⟩
    · exact Or.inl ⟨_, k, t0, hk, he, rfl⟩
    · exact Or.inr ⟨_, k, p0, hk, he, rfl⟩

theorem Strict.renameBy (sB : B.Strict) (r : Renames B ren) : (B.renameBy ren).Strict := by
  have wfB := sB.wf
  have RT := renameBy_templates r wfB
  have RL := renameBy_links r wfB
  have RM := renameBy_t2l r wfB
  refine ⟨⟨nodup_mapKV _ _ _ wfB.tNodup B.isBound (fun _ => Or.inl) r.inj,
    nodup_mapKV _ _ _ wfB.lNodup B.isBound (fun _ => Or.inr) r.inj,
    nodup_mapKV (renamed ren) (fun _ (s : List String) => s.map (renamed ren)) _ wfB.mNodup
      B.isBound (fun _ => boundB_of_t2l wfB) r.inj,
    ?_, ?_, ?_, ?_, ?_, ?_, ?_, ?_⟩, ?_, ?_⟩
  · intro x t ht
    obtain ⟨k, t0, hb, rfl, rfl⟩ := (RT x t).mp ht
    exact tren_id ren k t0 (wfB.tKey k t0 hb)
  · intro x p hp
    obtain ⟨k, p0, hb, rfl, rfl⟩ := (RL x p).mp hp
    exact pren_id r wfB hb
  · intro x
    rw [Bool.eq_iff_iff]
    simp only [Option.isSome_iff_exists, RT, RM]
    constructor
    · rintro ⟨_, k, s0, hk, he, _⟩
      obtain ⟨t0, ht0⟩ := Option.isSome_iff_exists.mp ((wfB.mKeys k).symm.trans (by rw [hk]; rfl))
      exact ⟨_, k, t0, ht0, he, rfl⟩
    · rintro ⟨_, k, t0, hk, he, _⟩
      obtain ⟨s0, hs0⟩ := Option.isSome_iff_exists.mp ((wfB.mKeys k).trans (by rw [hk]; rfl))
      exact ⟨_, k, s0, hs0, he, rfl⟩
  · intro x p hp
    obtain ⟨k, p0, hb, rfl, rfl⟩ := (RL x p).mp hp
    rw [pren_template_id r wfB hb, pren_template r wfB hb]
    exact (RT _ _).mpr ⟨_, _, wfB.lTemplate k p0 hb, rfl, rfl⟩
  · intro x s hs id
    obtain ⟨k, s0, hk, rfl, rfl⟩ := (RM x s).mp hs
    rw [List.mem_map]
    constructor
    · rintro ⟨y, hy, rfl⟩
      obtain ⟨p0, hp0, hpt⟩ := (wfB.mExact k s0 hk y).mp hy
      exact ⟨_, (RL _ _).mpr ⟨y, p0, hp0, rfl, rfl⟩, by rw [pren_template_id r wfB hp0, hpt]⟩
    · rintro ⟨p, hp, hpt⟩
      obtain ⟨y, p0, hy, rfl, rfl⟩ := (RL id p).mp hp
      rw [pren_template_id r wfB hy] at hpt
      have := r.inj _ _ (Or.inl (by rw [wfB.lTemplate y p0 hy]; rfl)) (boundB_of_t2l wfB (by rw [hk]; rfl)) hpt
      exact ⟨y, (wfB.mExact k s0 hk y).mpr ⟨p0, hy, this⟩, rfl⟩
  · intro x p hp ht
    obtain ⟨k, p0, hb, rfl, rfl⟩ := (RL x p).mp hp
    obtain ⟨t, ht⟩ := Option.isSome_iff_exists.mp ht
    obtain ⟨k', t0, hb', he, _⟩ := (RT _ t).mp ht
    have := r.inj _ _ (Or.inl (by rw [hb']; rfl)) (Or.inr (by rw [hb]; rfl)) he
    subst this
    rw [pren_link_none r wfB hb]
    exact wfB.shared k' p0 hb (by rw [hb']; rfl)
  · intro x p hp hn
    obtain ⟨k, p0, hb, rfl, rfl⟩ := (RL x p).mp hp
    have hl : p0.link ≠ none := fun e => hn ((pren_link_none r wfB hb).mpr e)
    rw [pren_template_id r wfB hb]
    cases hq : (B.renameBy ren).links.get? (renamed ren p0.template.id) with
    | none => rfl
    | some q =>
      obtain ⟨k', q0, hb', he, _⟩ := (RL _ q).mp hq
      have := r.inj _ _ (Or.inr (by rw [hb']; rfl)) (Or.inl (by rw [wfB.lTemplate k p0 hb]; rfl)) he
      subst this
      rw [wfB.staticOne k p0 hb hl] at hb'
      cases hb'
  · intro x p hp
    obtain ⟨k, p0, hb, rfl, rfl⟩ := (RL x p).mp hp
    rw [pren_values r wfB hb, pren_template r wfB hb, checkBinding_congr (tren_slots ren _ _)]
    exact wfB.bound k p0 hb
  · intro x t ht hl
    obtain ⟨k, t0, hb, rfl, rfl⟩ := (RT x t).mp ht
    rw [tren_slots]
    apply sB.nb k t0 hb
    cases hq : B.links.get? k with
    | none => rfl
    | some q => rw [(RL _ _).mpr ⟨k, q, hq, rfl, rfl⟩] at hl; cases hl
  · intro x p hp hl
    obtain ⟨k, p0, hb, rfl, rfl⟩ := (RL x p).mp hp
    rw [pren_template r wfB hb, tren_slots]
    exact sB.ss k p0 hb ((pren_link_none r wfB hb).mp hl)

theorem pren_unrenamed (ok : RenOK A B ren) (wfA : A.WF) (wfB : B.WF) {k : String} {p : TPolicy}
    (hb : B.links.get? k = some p) (ha : A.links.get? k = some p) (hr : ren.get? k = none) : pren ren k p = p := by
  rw [pren_spec ok.renames wfB hb, renamed_none hr]
  have hid := wfB.lKey k p hb
  unfold TPolicy.id at hid
  obtain ⟨tm, lk, vals⟩ := p
  cases lk with
  | none =>
    simp only at hid
    subst hid
    simp [tren_none _ hr]
  | some l =>
    simp only at hid
    subst hid
    have htn : ren.get? tm.id = none := by
      cases hg : ren.get? tm.id with
      | none => rfl
      | some n =>
        exfalso
        have hBT := wfB.lTemplate l _ hb
        have hAT := wfA.lTemplate l _ ha
        have hBL := wfB.staticOne l _ hb (by simp)
        have hAL := wfA.staticOne l _ ha (by simp)
        simp only at hBT hAT hBL hAL
        rcases (ok.trig tm.id).mpr (by simp [hg]) with ⟨t, t', h1, h2, h3⟩ | ⟨q, q', h1, _⟩ | ⟨t, _, _, h3⟩ | ⟨q, h1, _⟩
        · rw [hBT] at h1; rw [hAT] at h2; cases h1; cases h2
          rw [Template.beq_refl] at h3; cases h3
        · rw [hBL] at h1; cases h1
        · rw [hAL] at h3; cases h3
        · rw [hBL] at h1; cases h1
    simp [tren_none _ htn]

/-- an id of `other` that is bound in both sets and not renamed names the same template and the same policy in both:
anything else is one of the four conflicts -/
theorem RenOK.agree (ok : RenOK A B ren) (sA : A.Strict) (sB : B.Strict) {k : String}
    (hr : ren.get? k = none) (ha : A.isBound k) (hb : B.isBound k) :
    A.templates.get? k = B.templates.get? k ∧ A.links.get? k = B.links.get? k := by
  rcases sA.kind ha with ⟨t', p', hT', hL', hn', hs'⟩ | ⟨t', hT', hL', hs'⟩ | ⟨p', hT', hL', hn'⟩ <;>
    rcases sB.kind hb with ⟨t, p, hT, hL, hn, hs⟩ | ⟨t, hT, hL, hs⟩ | ⟨p, hT, hL, hn⟩
  · rw [hT', hL', hT, hL, ok.template_eq hT hT' hr, ok.link_eq hL hL' hr]; exact ⟨rfl, rfl⟩
  · exact absurd (ok.template_eq hT hT' hr ▸ hs') hs
  · exact absurd hr (ok.link_vs_template hL hn (by rw [hT']; rfl))
  · exact absurd (ok.template_eq hT hT' hr ▸ hs) hs'
  · rw [hT', hL', hT, hL, ok.template_eq hT hT' hr]; exact ⟨rfl, rfl⟩
  · exact absurd hr (ok.link_vs_template hL hn (by rw [hT']; rfl))
  · exact absurd (ok.link_eq hL hL' hr ▸ hn) hn'
  · exact absurd hr (ok.template_vs_link hT hs (by rw [hL']; rfl))
  · rw [hT', hL', hT, hL, ok.link_eq hL hL' hr]; exact ⟨rfl, rfl⟩

theorem RenOK.compat (ok : RenOK A B ren) (sA : A.Strict) (sB : B.Strict) :
    Compat A (B.renameBy ren) := by
  have wfB := sB.wf
  intro x ha hb
  obtain ⟨k, hk, rfl⟩ := (renameBy_isBound ok.renames wfB _).mp hb
  have hr := ok.none_of_boundA ha
  have hT : (B.renameBy ren).templates.get? (renamed ren k) = _ :=
    get?_mapKV_at _ _ _ wfB.tNodup B.isBound (fun _ => Or.inl) ok.renames.inj hk
  have hL : (B.renameBy ren).links.get? (renamed ren k) = _ :=
    get?_mapKV_at _ _ _ wfB.lNodup B.isBound (fun _ => Or.inr) ok.renames.inj hk
  rw [hT, hL]
  rw [renamed_none hr] at ha ⊢
  obtain ⟨e1, e2⟩ := ok.agree sA sB hr ha hk
  rw [e1, e2]
  constructor
  · cases B.templates.get? k with
    | none => rfl
    | some t => exact congrArg some (tren_none t hr).symm
  · cases hp : B.links.get? k with
    | none => rfl
    | some p => exact congrArg some (pren_unrenamed ok sA.wf wfB hp (e2.trans hp) hr).symm

theorem merged_at (sA : A.Strict) (sB : B.Strict) (ok : RenOK A B ren) (x : String) :
    (∃ k, B.isBound k ∧ renamed ren k = x ∧
      (A.union (B.renameBy ren)).templates.get? x = (B.templates.get? k).map (tren ren k) ∧
      (A.union (B.renameBy ren)).links.get? x = (B.links.get? k).map (pren ren k)) ∨
    ((∀ k, B.isBound k → renamed ren k ≠ x) ∧
      (A.union (B.renameBy ren)).templates.get? x = A.templates.get? x ∧
      (A.union (B.renameBy ren)).links.get? x = A.links.get? x) := by
  have wfB := sB.wf
  have at_ := union_at (ok.compat sA sB) (sB.renameBy ok.renames).wf x
  by_cases hb : (B.renameBy ren).isBound x
  · obtain ⟨k, hk, rfl⟩ := (renameBy_isBound ok.renames wfB x).mp hb
    obtain ⟨h1, h2⟩ := at_.1 hb
    refine Or.inl ⟨k, hk, rfl, h1.trans ?_, h2.trans ?_⟩
    · exact get?_mapKV_at _ _ _ wfB.tNodup B.isBound (fun _ => Or.inl) ok.renames.inj hk
    · exact get?_mapKV_at _ _ _ wfB.lNodup B.isBound (fun _ => Or.inr) ok.renames.inj hk
  · exact Or.inr ⟨fun k hk e => hb ((renameBy_isBound ok.renames wfB x).mpr ⟨k, hk, e⟩), at_.2 hb⟩

end

theorem foldl_opt_some {α β} (g : β → α → β) (F : Option β → α → Option β)
    (hF : ∀ acc e, F acc e = match acc with | none => none | some m => some (g m e)) (l : List α) :
    ∀ (m0 : β), l.foldl F (some m0) = some (l.foldl g m0) := by
  induction l with
  | nil => intro m0; rfl
  | cons e rest ih =>
    intro m0
    simp only [List.foldl_cons]
    rw [hF]
    exact ih _

theorem merge_eq (ps other : PolicySet) (rd : Bool) :
    ps.merge other rd =
      if !rd && !(mergeRenaming ps other).isEmpty then { ps := ps, err := some .occupied }
      else { ps := ps.union (other.renameBy (mergeRenaming ps other)), rename := mergeRenaming ps other } := by
  unfold merge
  simp only
  generalize mergeRenaming ps other = ren
  rw [foldl_opt_some (fun (m : LHM TPolicy) (e : String × TPolicy) => m.insert (renamed ren e.1) (pren ren e.1 e.2))]
  · by_cases hc : (!rd && !ren.isEmpty) = true
    · simp only [hc, if_true]
    · simp only [hc]
      unfold union renameBy mergeWith mapKV
      simp only [List.foldl_map]
      rw [foldl_congr' _ (fun (m : LHM Template) (e : String × Template) => m.insert (renamed ren e.1) (tren ren e.1 e.2)) ?_
            other.templates,
          foldl_congr' _ (fun (m : LHM (List String)) (e : String × List String) =>
            m.insert (renamed ren e.1) (lhsUnion (e.2.map (renamed ren)) (m.get? (renamed ren e.1)))) ?_ other.t2l]
      · intro m e
        unfold lhsUnion
        rw [List.foldl_map]
        cases m.get? (renamed ren e.1) <;> rfl
      · intro m e
        unfold renamed tren
        cases LHM.get? ren e.1 <;> rfl
  · intro acc e
    cases acc with
    | none => rfl
    | some m => simp only [mergeLink_eq]

theorem merge_no_panic (ps other : PolicySet) (rd : Bool) (m : String) :
    (ps.merge other rd).err ≠ some (.panic m) := by
  rw [merge_eq]
  split <;> simp

theorem merge_fail_unchanged (ps other : PolicySet) (rd : Bool) (h : (ps.merge other rd).err ≠ none) :
    (ps.merge other rd).ps = ps ∧ (ps.merge other rd).err = some .occupied := by
  rw [merge_eq] at h ⊢
  split
  · exact ⟨rfl, rfl⟩
  · rename_i hc; simp [hc] at h

theorem merge_ok_iff (ps other : PolicySet) (rd : Bool) :
    (ps.merge other rd).err = none ↔ (rd = true ∨ mergeRenaming ps other = []) := by
  rw [merge_eq]
  cases rd <;> cases h : mergeRenaming ps other <;> simp

theorem merge_ok (ps other : PolicySet) (rd : Bool) (h : (ps.merge other rd).err = none) :
    (ps.merge other rd).ps = ps.union (other.renameBy (mergeRenaming ps other)) ∧
    (ps.merge other rd).rename = mergeRenaming ps other := by
  rw [merge_eq] at h ⊢
  split
  · rename_i hc; simp [hc] at h
  · exact ⟨rfl, rfl⟩

theorem merge_strict (ps other : PolicySet) (rd : Bool) (hs : ps.Strict) (ho : other.Strict) :
    (ps.merge other rd).ps.Strict := by
  cases herr : (ps.merge other rd).err with
  | some e => rw [(merge_fail_unchanged ps other rd (by simp [herr])).1]; exact hs
  | none =>
    rw [(merge_ok ps other rd herr).1]
    have ok := mergeRenaming_ok ps other ho.wf.tNodup ho.wf.lNodup
    exact hs.union (ho.renameBy ok.renames) (ok.compat hs ho)

end PolicySet
end Cedar

namespace Cedar.PolicySet


def cexBody : TemplateBody :=
  { id := "a", annotations := [], effect := .permit, principalC := .any, actionC := .any, resourceC := .any, nonScope := none }

/-- core-only: `add_template` of a slot-less template, then a link to it -/
def cexA : PolicySet := PolicySet.run {} [.addTemplate { body := cexBody, slots := [] }, .link "a" "l" {}]

def cexB : PolicySet := PolicySet.run {} [.addStatic cexBody]

theorem cex_wf : cexA.WF ∧ cexB.WF :=
  ⟨PolicySet.run_wf _ {} PolicySet.wf_empty (by decide +kernel), PolicySet.run_wf _ {} PolicySet.wf_empty (by decide +kernel)⟩

theorem cex_not_wf (rd : Bool) : ¬ (cexA.merge cexB rd).ps.WF := by
  intro wf
  have key : (match (cexA.merge cexB rd).ps.links.get? "l" with
      | some p => p.link.isSome && ((cexA.merge cexB rd).ps.links.get? p.template.id).isSome
      | none => false) = true := by
    cases rd <;> decide +kernel
  cases h : (cexA.merge cexB rd).ps.links.get? "l" with
  | none => rw [h] at key; cases key
  | some p =>
    rw [h] at key
    simp only [Bool.and_eq_true] at key
    have hn : p.link ≠ none := by intro e; rw [e] at key; exact absurd key.1 (by simp)
    have := wf.staticOne "l" p h hn
    rw [this] at key
    exact absurd key.2 (by simp)

end Cedar.PolicySet
