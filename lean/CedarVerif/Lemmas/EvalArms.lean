import CedarVerif.Cedar.Eval
import CedarVerif.Lemmas.Data
/- `evaluate` one constructor at a time: the result of a node is a function of the results of its children (`andR`, `orR`,
   `iteR`, `bindR`, `listR`), the skipped operand of `&&`, `||`, `if` being an argument the function ignores (the leaves have no
   children: `rw [evaluate]`). What these functions do to related arguments (`RRel`) is proved about results, with no expression in
   sight; for the relation `=` this gives the congruences of `evaluate` over two stores and two expressions.
   `andR` … `isV` stand in `Cedar.Tpe`, where the statements about `Residual.eval` (C14, C15) name them: `open Cedar.Tpe`.
   `Manifest.ResRel R` abbreviates `RRel Eq R`; `Tpe.Agree`, `Tpe.AgreeL`, `PS.Agree` are `RRel (fun _ _ => True) Eq` (`…agree_iff`).
   `evaluate` speaks for the Rust evaluator only on inputs as Rust's maps give them: record-literal fields, context, attribute and
   tag lists in strictly increasing key order (a literal is evaluated in list order, `lookupKV` takes the first binding,
   `Value.beqKVs` compares positionally); no statement below assumes it. -/
namespace Cedar.Tpe
open Cedar

def andR (x y : Result Value) : Result Value :=
  match x with
  | .error e => .error e
  | .ok v => match v.asBool with
    | .error e => .error e
    | .ok false => .ok (.prim (.bool false))
    | .ok true => match y with
      | .error e => .error e
      | .ok w => match w.asBool with
        | .error e => .error e
        | .ok b => .ok (.prim (.bool b))
def orR (x y : Result Value) : Result Value :=
  match x with
  | .error e => .error e
  | .ok v => match v.asBool with
    | .error e => .error e
    | .ok true => .ok (.prim (.bool true))
    | .ok false => match y with
      | .error e => .error e
      | .ok w => match w.asBool with
        | .error e => .error e
        | .ok b => .ok (.prim (.bool b))
def iteR (c t e : Result Value) : Result Value :=
  match c with
  | .error err => .error err
  | .ok v => match v.asBool with
    | .error err => .error err
    | .ok true => t
    | .ok false => e
def bindR (x : Result Value) (f : Value → Result Value) : Result Value :=
  match x with
  | .error e => .error e
  | .ok v => f v
def getAttrV (es : Entities) (attr : String) : Value → Result Value
  | .record kvs => (match lookupKV kvs attr with | some v => .ok v | none => .error .attr)
  | .prim (.entityUID u) => (match es.find? u with
      | none => .error .entity
      | some d => match lookupKV d.attrs attr with
        | some v => .ok v
        | none => .error .attr)
  | _ => .error .type
def hasAttrV (es : Entities) (attr : String) : Value → Result Value
  | .record kvs => .ok (.prim (.bool (lookupKV kvs attr).isSome))
  | .prim (.entityUID u) => (match es.find? u with
      | none => .ok (.prim (.bool false))
      | some d => .ok (.prim (.bool (lookupKV d.attrs attr).isSome)))
  | _ => .error .type
def likeV (p : Pattern) (v : Value) : Result Value :=
  match v.asString with
  | .error e => .error e
  | .ok s => .ok (.prim (.bool (wm p s.toList)))
def isV (ty : EntityType) (v : Value) : Result Value :=
  match v.asEntity with
  | .error e => .error e
  | .ok u => .ok (.prim (.bool (u.ty == ty)))

end Cedar.Tpe

namespace Cedar
open Cedar.Tpe

def listR {α : Type} (xs : Result (List α)) (f : List α → Result Value) : Result Value :=
  match xs with
  | .error e => .error e
  | .ok vs => f vs

def consR {α : Type} (x : Result α) (xs : Result (List α)) : Result (List α) :=
  match x with
  | .error e => .error e
  | .ok v => match xs with
    | .error e => .error e
    | .ok vs => .ok (v :: vs)

/-- the cast `&&` and `||` put on their right operand -/
def boolV (w : Value) : Result Value :=
  match w.asBool with
  | .error e => .error e
  | .ok b => .ok (.prim (.bool b))

def recordOfKVs (vs : List (String × Value)) : Value := .record (vs.foldl (fun acc kv => insertKV kv.1 kv.2 acc) [])

/-- what `if`, `&&`, `||` do with the value of their first operand: the Boolean branch -/
def iteV (t e : Result Value) (v : Value) : Result Value :=
  match v.asBool with
  | .error err => .error err
  | .ok true => t
  | .ok false => e

theorem bindR_eq_bind (x : Result Value) (f : Value → Result Value) : bindR x f = x.bind f := by
  cases x <;> rfl

/- `if`, `&&`, `||` are strict in the first operand like every other arm: `bindR` with the branch `iteV` as continuation. -/

theorem iteR_eq (c t e : Result Value) : iteR c t e = bindR c (iteV t e) := by
  cases c <;> rfl

theorem andR_eq (x y : Result Value) : andR x y = bindR x (iteV (bindR y boolV) (.ok (.prim (.bool false)))) := by
  cases x with
  | error _ => rfl
  | ok v =>
    simp only [andR, bindR, iteV]
    cases v.asBool with
    | error _ => rfl
    | ok b => cases b <;> cases y <;> rfl

theorem orR_eq (x y : Result Value) : orR x y = bindR x (iteV (.ok (.prim (.bool true))) (bindR y boolV)) := by
  cases x with
  | error _ => rfl
  | ok v =>
    simp only [orR, bindR, iteV]
    cases v.asBool with
    | error _ => rfl
    | ok b => cases b <;> cases y <;> rfl

section equations
variable (req : Request) (es : Entities) (env : SlotEnv)

theorem evaluate_and (a b : Expr) :
    evaluate req es env (.and a b) = andR (evaluate req es env a) (evaluate req es env b) := by
  rw [evaluate]; rfl

theorem evaluate_or (a b : Expr) :
    evaluate req es env (.or a b) = orR (evaluate req es env a) (evaluate req es env b) := by
  rw [evaluate]; rfl

theorem evaluate_ite (c t e : Expr) :
    evaluate req es env (.ite c t e) = iteR (evaluate req es env c) (evaluate req es env t) (evaluate req es env e) := by
  rw [evaluate]; rfl

theorem evaluate_unary (op : UnaryOp) (a : Expr) :
    evaluate req es env (.unaryApp op a) = bindR (evaluate req es env a) (applyUnary op) := by
  rw [evaluate]; rfl

theorem evaluate_binary (op : BinaryOp) (a b : Expr) :
    evaluate req es env (.binaryApp op a b) =
      bindR (evaluate req es env a) fun v1 => bindR (evaluate req es env b) fun v2 => applyBinary es op v1 v2 := by
  rw [evaluate]; rfl

theorem evaluate_getAttr (e : Expr) (a : String) :
    evaluate req es env (.getAttr e a) = bindR (evaluate req es env e) (getAttrV es a) := by
  rw [evaluate]
  cases evaluate req es env e with
  | error _ => rfl
  | ok v =>
    cases v with
    | prim p => cases p <;> rfl
    | _ => rfl

theorem evaluate_hasAttr (e : Expr) (a : String) :
    evaluate req es env (.hasAttr e a) = bindR (evaluate req es env e) (hasAttrV es a) := by
  rw [evaluate]
  cases evaluate req es env e with
  | error _ => rfl
  | ok v =>
    cases v with
    | prim p => cases p <;> rfl
    | _ => rfl

theorem evaluate_like (e : Expr) (p : Pattern) :
    evaluate req es env (.like e p) = bindR (evaluate req es env e) (likeV p) := by
  rw [evaluate]; rfl

theorem evaluate_is (e : Expr) (ty : EntityType) :
    evaluate req es env (.is e ty) = bindR (evaluate req es env e) (isV ty) := by
  rw [evaluate]; rfl

theorem evaluate_call (fn : String) (args : List Expr) :
    evaluate req es env (.call fn args) = listR (evaluateList req es env args) (callExt fn) := by
  rw [evaluate]; cases evaluateList req es env args <;> rfl

theorem evaluate_set (xs : List Expr) :
    evaluate req es env (.set xs) = listR (evaluateList req es env xs) fun vs => .ok (.set (Value.mkSet vs)) := by
  rw [evaluate]; cases evaluateList req es env xs <;> rfl

theorem evaluate_record (kvs : List (String × Expr)) :
    evaluate req es env (.record kvs) = listR (evaluateKVs req es env kvs) fun vs => .ok (recordOfKVs vs) := by
  rw [evaluate]; cases evaluateKVs req es env kvs <;> rfl

theorem evaluateList_cons (x : Expr) (xs : List Expr) :
    evaluateList req es env (x :: xs) = consR (evaluate req es env x) (evaluateList req es env xs) := by
  rw [evaluateList]
  cases evaluate req es env x with
  | error _ => rfl
  | ok v => cases evaluateList req es env xs <;> rfl

theorem evaluateKVs_cons (k : String) (x : Expr) (xs : List (String × Expr)) :
    evaluateKVs req es env ((k, x) :: xs) =
      consR ((evaluate req es env x).map (Prod.mk k)) (evaluateKVs req es env xs) := by
  rw [evaluateKVs]
  cases evaluate req es env x with
  | error _ => rfl
  | ok v => cases evaluateKVs req es env xs <;> rfl

end equations

/-- results alike up to a relation on values and one on error classes: `RRel Eq Eq` is equality, `RRel Eq R` "same error, or values
related by `R`", `RRel (fun _ _ => True) Eq` "same value, or both errors" -/
def RRel {α β : Type} (E : ErrClass → ErrClass → Prop) (R : α → β → Prop) : Result α → Result β → Prop
  | .ok v, .ok w => R v w
  | .error e, .error e' => E e e'
  | _, _ => False

/-- the two values are the same Boolean, or neither is one -/
def SameBool (v w : Value) : Prop := v.asBool = w.asBool

section rrel
variable {α β : Type} {E : ErrClass → ErrClass → Prop}

theorem rrel_eq {x y : Result α} : RRel Eq Eq x y ↔ x = y := by
  cases x <;> cases y <;> simp [RRel]

theorem RRel.refl (hE : ∀ e, E e e) {R : α → α → Prop} {x : Result α} (h : ∀ v, x = .ok v → R v v) : RRel E R x x := by
  cases x with
  | error e => exact hE e
  | ok v => exact h v rfl

theorem RRel.mono {R Q : α → β → Prop} {x : Result α} {y : Result β} (h : RRel E R x y)
    (hrq : ∀ v w, R v w → Q v w) : RRel E Q x y := by
  cases x <;> cases y <;> first | exact h | exact hrq _ _ h

theorem RRel.trans {γ : Type} {R : α → β → Prop} {S : β → γ → Prop} {T : α → γ → Prop} {x : Result α} {y : Result β}
    {z : Result γ} (h1 : RRel E R x y) (h2 : RRel E S y z) (hE : ∀ a b c, E a b → E b c → E a c)
    (hT : ∀ a b c, R a b → S b c → T a c) : RRel E T x z := by
  cases x <;> cases y <;> cases z <;> first | exact h1.elim | exact h2.elim | exact hE _ _ _ h1 h2 | exact hT _ _ _ h1 h2

theorem RRel.error_left {R : α → β → Prop} {e : ErrClass} {y : Result β} (h : RRel Eq R (.error e) y) : y = .error e := by
  cases y with
  | error e' => exact congrArg _ (Eq.symm h)
  | ok _ => exact h.elim

theorem RRel.ok_left {R : α → β → Prop} {v : α} {y : Result β} (h : RRel E R (.ok v) y) : ∃ w, y = .ok w ∧ R v w := by
  cases y with
  | error _ => exact h.elim
  | ok w => exact ⟨w, rfl, h⟩

theorem RRel.eq_of {R : α → α → Prop} {x y : Result α} (h : RRel Eq R x y)
    (heq : ∀ v w, x = .ok v → R v w → w = v) : y = x := by
  cases x <;> cases y <;> first | exact h.elim | exact congrArg _ (Eq.symm h) | exact congrArg _ (heq _ _ rfl h)

theorem RRel.cases {R : α → β → Prop} {x : Result α} {y : Result β} (h : RRel E R x y) :
    (∃ e e', x = .error e ∧ y = .error e' ∧ E e e') ∨ ∃ v w, x = .ok v ∧ y = .ok w ∧ R v w := by
  cases x <;> cases y <;> first | exact h.elim | exact .inl ⟨_, _, rfl, rfl, h⟩ | exact .inr ⟨_, _, rfl, rfl, h⟩

variable {Ra R : Value → Value → Prop} {x x' y y' : Result Value}

theorem bindR_rel {f f' : Value → Result Value} (hx : RRel E Ra x x')
    (hf : ∀ v v', x = .ok v → x' = .ok v' → Ra v v' → RRel E R (f v) (f' v')) : RRel E R (bindR x f) (bindR x' f') := by
  rcases hx.cases with ⟨e, e', rfl, rfl, h⟩ | ⟨v, v', rfl, rfl, h⟩
  · exact h
  · exact hf v v' rfl rfl h

theorem listR_rel {Rl : List α → List β → Prop} {xs : Result (List α)} {xs' : Result (List β)}
    {f : List α → Result Value} {f' : List β → Result Value} (hx : RRel E Rl xs xs')
    (hf : ∀ vs vs', xs = .ok vs → xs' = .ok vs' → Rl vs vs' → RRel E R (f vs) (f' vs')) :
    RRel E R (listR xs f) (listR xs' f') := by
  rcases hx.cases with ⟨e, e', rfl, rfl, h⟩ | ⟨v, v', rfl, rfl, h⟩
  · exact h
  · exact hf v v' rfl rfl h

theorem consR_rel {Rv : α → β → Prop} {Rl : List α → List β → Prop} {Rc : List α → List β → Prop}
    {a : Result α} {a' : Result β} {xs : Result (List α)} {xs' : Result (List β)}
    (ha : RRel E Rv a a') (hxs : RRel E Rl xs xs') (hc : ∀ v w vs ws, Rv v w → Rl vs ws → Rc (v :: vs) (w :: ws)) :
    RRel E Rc (consR a xs) (consR a' xs') := by
  rcases ha.cases with ⟨e, e', rfl, rfl, h⟩ | ⟨v, v', rfl, rfl, h⟩
  · exact h
  rcases hxs.cases with ⟨e, e', rfl, rfl, hl⟩ | ⟨vs, vs', rfl, rfl, hl⟩
  · exact hl
  · exact hc _ _ _ _ h hl

/-- the branches need only be alike where they run -/
theorem iteR_rel (hE : ∀ e, E e e) {c c' t t' e e' : Result Value} (hc : RRel E SameBool c c')
    (ht : c = .ok (.prim (.bool true)) → c' = .ok (.prim (.bool true)) → RRel E R t t')
    (he : c = .ok (.prim (.bool false)) → c' = .ok (.prim (.bool false)) → RRel E R e e') :
    RRel E R (iteR c t e) (iteR c' t' e') := by
  rcases hc.cases with ⟨_, _, rfl, rfl, h⟩ | ⟨v, v', rfl, rfl, h⟩
  · exact h
  simp only [iteR, ← show v.asBool = v'.asBool from h]
  cases hb : v.asBool with
  | error _ => exact hE _
  | ok b =>
    obtain rfl := asBool_ok hb
    obtain rfl := asBool_ok (h ▸ hb)
    cases b
    · exact he rfl rfl
    · exact ht rfl rfl

theorem andR_eq_iteR (x y : Result Value) : andR x y = iteR x (bindR y boolV) (.ok (.prim (.bool false))) := by
  cases x with
  | error _ => rfl
  | ok v =>
    simp only [andR, iteR]
    cases v.asBool with
    | error _ => rfl
    | ok b => cases b <;> first | rfl | (cases y <;> rfl)

theorem orR_eq_iteR (x y : Result Value) : orR x y = iteR x (.ok (.prim (.bool true))) (bindR y boolV) := by
  cases x with
  | error _ => rfl
  | ok v =>
    simp only [orR, iteR]
    cases v.asBool with
    | error _ => rfl
    | ok b => cases b <;> first | rfl | (cases y <;> rfl)

theorem boolV_rel (hE : ∀ e, E e e) (hR : ∀ b : Bool, R (.prim (.bool b)) (.prim (.bool b))) {v w : Value}
    (h : SameBool v w) : RRel E R (boolV v) (boolV w) := by
  simp only [boolV, ← show v.asBool = w.asBool from h]
  cases v.asBool with
  | error _ => exact hE _
  | ok b => exact hR b

theorem andR_rel (hE : ∀ e, E e e) (hR : ∀ b : Bool, R (.prim (.bool b)) (.prim (.bool b))) (hx : RRel E SameBool x x')
    (hy : x = .ok (.prim (.bool true)) → x' = .ok (.prim (.bool true)) → RRel E SameBool y y') :
    RRel E R (andR x y) (andR x' y') := by
  rw [andR_eq_iteR, andR_eq_iteR]
  exact iteR_rel hE hx (fun h h' => bindR_rel (hy h h') fun _ _ _ _ => boolV_rel hE hR) fun _ _ => hR false

theorem orR_rel (hE : ∀ e, E e e) (hR : ∀ b : Bool, R (.prim (.bool b)) (.prim (.bool b))) (hx : RRel E SameBool x x')
    (hy : x = .ok (.prim (.bool false)) → x' = .ok (.prim (.bool false)) → RRel E SameBool y y') :
    RRel E R (orR x y) (orR x' y') := by
  rw [orR_eq_iteR, orR_eq_iteR]
  exact iteR_rel hE hx (fun _ _ => hR true) fun h h' => bindR_rel (hy h h') fun _ _ _ _ => boolV_rel hE hR

end rrel

section eq
variable {x x' y y' : Result Value}

theorem bindR_eq_of {f f' : Value → Result Value} (hx : x = x') (hf : ∀ v, x' = .ok v → f v = f' v) :
    bindR x f = bindR x' f' := by
  subst hx
  cases x with
  | error _ => rfl
  | ok v => exact hf v rfl

theorem iteR_eq_of {c c' t t' e e' : Result Value} (hc : c = c') (ht : c' = .ok (.prim (.bool true)) → t = t')
    (he : c' = .ok (.prim (.bool false)) → e = e') : iteR c t e = iteR c' t' e' :=
  rrel_eq.mp (iteR_rel (fun _ => rfl) (hc ▸ .refl (fun _ => rfl) fun _ _ => rfl) (fun _ h => rrel_eq.mpr (ht h))
    fun _ h => rrel_eq.mpr (he h))

theorem andR_eq_of (hx : x = x') (hy : x' = .ok (.prim (.bool true)) → y = y') : andR x y = andR x' y' := by
  rw [andR_eq_iteR, andR_eq_iteR]
  exact iteR_eq_of hx (fun h => by rw [hy h]) fun _ => rfl

theorem orR_eq_of (hx : x = x') (hy : x' = .ok (.prim (.bool false)) → y = y') : orR x y = orR x' y' := by
  rw [orR_eq_iteR, orR_eq_iteR]
  exact iteR_eq_of hx (fun _ => rfl) fun h => by rw [hy h]

end eq

section congr
variable {req : Request} {sl : SlotEnv} {X₁ X₂ : Entities}

theorem eval_and_congr {a₁ a₂ b₁ b₂ : Expr}
    (ha : evaluate req X₁ sl a₁ = evaluate req X₂ sl a₂)
    (hb : evaluate req X₂ sl a₂ = .ok (.prim (.bool true)) → evaluate req X₁ sl b₁ = evaluate req X₂ sl b₂) :
    evaluate req X₁ sl (.and a₁ b₁) = evaluate req X₂ sl (.and a₂ b₂) := by
  rw [evaluate_and, evaluate_and]
  exact andR_eq_of ha hb

theorem eval_or_congr {a₁ a₂ b₁ b₂ : Expr}
    (ha : evaluate req X₁ sl a₁ = evaluate req X₂ sl a₂)
    (hb : evaluate req X₂ sl a₂ = .ok (.prim (.bool false)) → evaluate req X₁ sl b₁ = evaluate req X₂ sl b₂) :
    evaluate req X₁ sl (.or a₁ b₁) = evaluate req X₂ sl (.or a₂ b₂) := by
  rw [evaluate_or, evaluate_or]
  exact orR_eq_of ha hb

theorem eval_ite_congr {c₁ c₂ t₁ t₂ e₁ e₂ : Expr}
    (hc : evaluate req X₁ sl c₁ = evaluate req X₂ sl c₂)
    (ht : evaluate req X₂ sl c₂ = .ok (.prim (.bool true)) → evaluate req X₁ sl t₁ = evaluate req X₂ sl t₂)
    (he : evaluate req X₂ sl c₂ = .ok (.prim (.bool false)) → evaluate req X₁ sl e₁ = evaluate req X₂ sl e₂) :
    evaluate req X₁ sl (.ite c₁ t₁ e₁) = evaluate req X₂ sl (.ite c₂ t₂ e₂) := by
  rw [evaluate_ite, evaluate_ite]
  exact iteR_eq_of hc ht he

theorem eval_unary_congr {op : UnaryOp} {a₁ a₂ : Expr}
    (h : evaluate req X₁ sl a₁ = evaluate req X₂ sl a₂) :
    evaluate req X₁ sl (.unaryApp op a₁) = evaluate req X₂ sl (.unaryApp op a₂) := by
  unfold evaluate; rw [h]

theorem eval_like_congr {pat : Pattern} {a₁ a₂ : Expr}
    (h : evaluate req X₁ sl a₁ = evaluate req X₂ sl a₂) :
    evaluate req X₁ sl (.like a₁ pat) = evaluate req X₂ sl (.like a₂ pat) := by
  unfold evaluate; rw [h]

theorem eval_is_congr {ty : EntityType} {a₁ a₂ : Expr}
    (h : evaluate req X₁ sl a₁ = evaluate req X₂ sl a₂) :
    evaluate req X₁ sl (.is a₁ ty) = evaluate req X₂ sl (.is a₂ ty) := by
  unfold evaluate; rw [h]

theorem eval_call_congr {fn : String} {xs₁ xs₂ : List Expr}
    (h : evaluateList req X₁ sl xs₁ = evaluateList req X₂ sl xs₂) :
    evaluate req X₁ sl (.call fn xs₁) = evaluate req X₂ sl (.call fn xs₂) := by
  unfold evaluate; rw [h]

theorem eval_set_congr {xs₁ xs₂ : List Expr}
    (h : evaluateList req X₁ sl xs₁ = evaluateList req X₂ sl xs₂) :
    evaluate req X₁ sl (.set xs₁) = evaluate req X₂ sl (.set xs₂) := by
  unfold evaluate; rw [h]

theorem eval_record_congr {kvs₁ kvs₂ : List (String × Expr)}
    (h : evaluateKVs req X₁ sl kvs₁ = evaluateKVs req X₂ sl kvs₂) :
    evaluate req X₁ sl (.record kvs₁) = evaluate req X₂ sl (.record kvs₂) := by
  unfold evaluate; rw [h]

theorem evaluateList_cons_congr {x₁ x₂ : Expr} {xs₁ xs₂ : List Expr}
    (h : evaluate req X₁ sl x₁ = evaluate req X₂ sl x₂) (hs : evaluateList req X₁ sl xs₁ = evaluateList req X₂ sl xs₂) :
    evaluateList req X₁ sl (x₁ :: xs₁) = evaluateList req X₂ sl (x₂ :: xs₂) := by
  unfold evaluateList; rw [h, hs]

theorem evaluateKVs_cons_congr {k : String} {x₁ x₂ : Expr} {xs₁ xs₂ : List (String × Expr)}
    (h : evaluate req X₁ sl x₁ = evaluate req X₂ sl x₂) (hs : evaluateKVs req X₁ sl xs₁ = evaluateKVs req X₂ sl xs₂) :
    evaluateKVs req X₁ sl ((k, x₁) :: xs₁) = evaluateKVs req X₂ sl ((k, x₂) :: xs₂) := by
  unfold evaluateKVs; rw [h, hs]

theorem eval_binary_congr {op : BinaryOp} {a₁ a₂ b₁ b₂ : Expr}
    (ha : evaluate req X₁ sl a₁ = evaluate req X₂ sl a₂) (hb : evaluate req X₁ sl b₁ = evaluate req X₂ sl b₂)
    (hop : ∀ v1 v2, evaluate req X₂ sl a₂ = .ok v1 → applyBinary X₁ op v1 v2 = applyBinary X₂ op v1 v2) :
    evaluate req X₁ sl (.binaryApp op a₁ b₁) = evaluate req X₂ sl (.binaryApp op a₂ b₂) := by
  rw [evaluate_binary, evaluate_binary, hb]
  exact bindR_eq_of ha fun v1 h1 => bindR_eq_of rfl fun v2 _ => hop v1 v2 h1

theorem eval_getAttr_congr {e₁ e₂ : Expr} {attr : String} (he : evaluate req X₁ sl e₁ = evaluate req X₂ sl e₂)
    (hv : ∀ v, evaluate req X₂ sl e₂ = .ok v → getAttrV X₁ attr v = getAttrV X₂ attr v) :
    evaluate req X₁ sl (.getAttr e₁ attr) = evaluate req X₂ sl (.getAttr e₂ attr) := by
  rw [evaluate_getAttr, evaluate_getAttr]
  exact bindR_eq_of he hv

theorem eval_hasAttr_congr {e₁ e₂ : Expr} {attr : String} (he : evaluate req X₁ sl e₁ = evaluate req X₂ sl e₂)
    (hv : ∀ v, evaluate req X₂ sl e₂ = .ok v → hasAttrV X₁ attr v = hasAttrV X₂ attr v) :
    evaluate req X₁ sl (.hasAttr e₁ attr) = evaluate req X₂ sl (.hasAttr e₂ attr) := by
  rw [evaluate_hasAttr, evaluate_hasAttr]
  exact bindR_eq_of he hv

end congr

theorem bindR_ok {x : Result Value} {f : Value → Result Value} {w : Value} :
    bindR x f = .ok w ↔ ∃ v, x = .ok v ∧ f v = .ok w :=
  bindR_eq_bind x f ▸ bind_ok

theorem iteR_ok {c t e : Result Value} {w : Value} (h : iteR c t e = .ok w) :
    (c = .ok (.prim (.bool true)) ∧ t = .ok w) ∨ (c = .ok (.prim (.bool false)) ∧ e = .ok w) := by
  cases c with
  | error _ => cases h
  | ok v =>
    simp only [iteR] at h
    cases hb : v.asBool with
    | error _ => rw [hb] at h; cases h
    | ok b =>
      rw [asBool_ok hb]
      cases b <;> simp only [hb] at h
      · exact .inr ⟨rfl, h⟩
      · exact .inl ⟨rfl, h⟩

theorem eval_and_left {req : Request} {sl : SlotEnv} {X : Entities} {a b : Expr}
    (h : evaluate req X sl a = .ok (.prim (.bool false)) ∨ ∃ err, evaluate req X sl a = .error err) :
    evaluate req X sl (.and a b) = evaluate req X sl a := by
  rw [evaluate_and]
  rcases h with h | ⟨err, h⟩ <;> rw [h] <;> rfl

theorem eval_or_left {req : Request} {sl : SlotEnv} {X : Entities} {a b : Expr}
    (h : evaluate req X sl a = .ok (.prim (.bool true)) ∨ ∃ err, evaluate req X sl a = .error err) :
    evaluate req X sl (.or a b) = evaluate req X sl a := by
  rw [evaluate_or]
  rcases h with h | ⟨err, h⟩ <;> rw [h] <;> rfl

end Cedar
