import CedarVerif.Lemmas.PolicySetApi
/-
C08: the union of two policy sets.
`A.union B` inserts the entries of `B` into `A` (`merge_policyset` is `A.union` of the renamed `other`, see `PolicySetMerge`).
`Compat A B`: under every id that both sets bind they hold the same template and the same policy. Then, key by key, the PAIR
of lookups (`templates.get? x`, `links.get? x`) of the union is the pair of ONE of the two sets (`union_at`), so whatever holds key
by key of both holds of the union (`union_pointwise`); the clauses of `WF` that look at a second key or at `t2l` are carried
over once, in `WF.union`, which needs nothing beyond `WF` of both sets and `Compat`.
Without `Compat` well-formedness is lost: a slot-less template "a" with a link to it, and the static policy "a" with the same
body, are both well-formed, but one holds no policy under "a" and the other does; in their union the link points to the body of a
static policy (`PolicySet.cex_not_wf` in `PolicySetMerge`, stated for the `merge` of the two, which renames nothing).
-/
namespace Cedar
open LHM

namespace PolicySet

def lhsUnion (s : List String) (cur : Option (List String)) : List String := s.foldl lhsInsert (cur.getD [])

def union (A B : PolicySet) : PolicySet :=
  { templates := mergeWith (fun t _ => t) A.templates B.templates,
    links := mergeWith (fun p _ => p) A.links B.links,
    t2l := mergeWith lhsUnion A.t2l B.t2l }

def Compat (A B : PolicySet) : Prop :=
  ∀ x, A.isBound x → B.isBound x → A.templates.get? x = B.templates.get? x ∧ A.links.get? x = B.links.get? x

theorem mem_lhsUnion (s : List String) (cur : Option (List String)) (x : String) :
    x ∈ lhsUnion s cur ↔ (∃ s0, cur = some s0 ∧ x ∈ s0) ∨ x ∈ s := by
  unfold lhsUnion
  have gen : ∀ (s acc : List String), x ∈ s.foldl lhsInsert acc ↔ x ∈ acc ∨ x ∈ s := by
    intro s
    induction s with
    | nil => intro acc; simp
    | cons a rest ih =>
      intro acc
      rw [List.foldl_cons, ih, mem_lhsInsert, List.mem_cons, or_assoc]
  rw [gen]
  cases cur <;> simp

section
variable {A B : PolicySet}

theorem union_at (c : Compat A B) (wfB : B.WF) (x : String) :
    (B.isBound x → (A.union B).templates.get? x = B.templates.get? x ∧ (A.union B).links.get? x = B.links.get? x) ∧
    (¬ B.isBound x → (A.union B).templates.get? x = A.templates.get? x ∧ (A.union B).links.get? x = A.links.get? x) := by
  rw [show (A.union B).templates.get? x = _ from
      get?_mergeWith (fun (t : Template) (_ : Option Template) => t) _ wfB.tNodup A.templates x,
    show (A.union B).links.get? x = _ from
      get?_mergeWith (fun (p : TPolicy) (_ : Option TPolicy) => p) _ wfB.lNodup A.links x]
  refine ⟨fun hb => ?_, fun hb => ?_⟩
  · by_cases ha : A.isBound x
    · obtain ⟨e1, e2⟩ := c x ha hb
      rw [e1, e2]
      cases B.templates.get? x <;> cases B.links.get? x <;> exact ⟨rfl, rfl⟩
    · obtain ⟨e1, e2⟩ := not_isBound ha
      rw [e1, e2]
      cases B.templates.get? x <;> cases B.links.get? x <;> exact ⟨rfl, rfl⟩
  · obtain ⟨e1, e2⟩ := not_isBound hb
    rw [e1, e2]
    exact ⟨rfl, rfl⟩

theorem union_at_left (c : Compat A B) (wfB : B.WF) {x : String} (ha : A.isBound x) :
    (A.union B).templates.get? x = A.templates.get? x ∧ (A.union B).links.get? x = A.links.get? x := by
  by_cases hb : B.isBound x
  · obtain ⟨e1, e2⟩ := c x ha hb
    rw [e1, e2]; exact (union_at c wfB x).1 hb
  · exact (union_at c wfB x).2 hb

theorem union_pointwise (c : Compat A B) (wfB : B.WF) (P : String → Option Template → Option TPolicy → Prop)
    (hA : ∀ x, P x (A.templates.get? x) (A.links.get? x)) (hB : ∀ x, P x (B.templates.get? x) (B.links.get? x))
    (x : String) : P x ((A.union B).templates.get? x) ((A.union B).links.get? x) := by
  by_cases hb : B.isBound x
  · obtain ⟨h1, h2⟩ := (union_at c wfB x).1 hb
    rw [h1, h2]; exact hB x
  · obtain ⟨h1, h2⟩ := (union_at c wfB x).2 hb
    rw [h1, h2]; exact hA x

theorem union_templates (c : Compat A B) (wfB : B.WF) (x : String) (t : Template) :
    (A.union B).templates.get? x = some t ↔ A.templates.get? x = some t ∨ B.templates.get? x = some t := by
  by_cases hb : B.isBound x
  · rw [((union_at c wfB x).1 hb).1]
    exact ⟨Or.inr, fun h => h.elim (fun h => (c x (Or.inl (by rw [h]; rfl)) hb).1 ▸ h) id⟩
  · rw [((union_at c wfB x).2 hb).1, (not_isBound hb).1]
    exact ⟨Or.inl, fun h => h.elim id nofun⟩

theorem union_links (c : Compat A B) (wfB : B.WF) (x : String) (p : TPolicy) :
    (A.union B).links.get? x = some p ↔ A.links.get? x = some p ∨ B.links.get? x = some p := by
  by_cases hb : B.isBound x
  · rw [((union_at c wfB x).1 hb).2]
    exact ⟨Or.inr, fun h => h.elim (fun h => (c x (Or.inr (by rw [h]; rfl)) hb).2 ▸ h) id⟩
  · rw [((union_at c wfB x).2 hb).2, (not_isBound hb).2]
    exact ⟨Or.inl, fun h => h.elim id nofun⟩

theorem union_t2l (wfB : B.WF) (t : String) :
    ((A.union B).t2l.get? t).isSome = ((A.t2l.get? t).isSome || (B.t2l.get? t).isSome) ∧
    ∀ x, (A.union B).linked t x ↔ A.linked t x ∨ B.linked t x := by
  unfold linked
  rw [show (A.union B).t2l.get? t = _ from get?_mergeWith lhsUnion _ wfB.mNodup A.t2l t]
  cases hb : B.t2l.get? t with
  | none => exact ⟨(Bool.or_false _).symm, fun x => ⟨Or.inl, fun h => h.elim id (fun ⟨_, h0, _⟩ => nomatch h0)⟩⟩
  | some sB =>
    refine ⟨(Bool.or_true _).symm, fun x => ⟨?_, fun h => ?_⟩⟩
    · rintro ⟨_, e, h⟩
      cases e
      exact ((mem_lhsUnion _ _ _).mp h).imp id fun h => ⟨sB, rfl, h⟩
    · exact ⟨_, rfl, (mem_lhsUnion _ _ _).mpr (h.imp id fun ⟨_, e, h⟩ => Option.some.inj e ▸ h)⟩

/-- what a set built through the API holds under a bound id: a static policy with its slot-less body, a template with
slots and no policy, or a template-linked policy and no template -/
theorem Strict.kind {S : PolicySet} (s : S.Strict) {k : String} (h : S.isBound k) :
    (∃ t p, S.templates.get? k = some t ∧ S.links.get? k = some p ∧ p.link = none ∧ t.slots = []) ∨
    (∃ t, S.templates.get? k = some t ∧ S.links.get? k = none ∧ t.slots ≠ []) ∨
    (∃ p, S.templates.get? k = none ∧ S.links.get? k = some p ∧ p.link ≠ none) := by
  cases hl : S.links.get? k with
  | none =>
    cases ht : S.templates.get? k with
    | none => exact absurd h (by unfold isBound; simp [hl, ht])
    | some t => exact Or.inr (Or.inl ⟨t, rfl, rfl, s.nb k t ht hl⟩)
  | some p =>
    by_cases hn : p.link = none
    · have ht := s.wf.lTemplate k p hl
      rw [s.wf.static_template_id hl hn] at ht
      exact Or.inl ⟨_, p, ht, rfl, hn, s.ss k p hl hn⟩
    · cases ht : S.templates.get? k with
      | none => exact Or.inr (Or.inr ⟨p, rfl, rfl, hn⟩)
      | some t => exact absurd (s.wf.shared k p hl (by rw [ht]; rfl)) hn

theorem WF.union (wfA : A.WF) (wfB : B.WF) (c : Compat A B) : (A.union B).WF := by
  have UT := union_templates c wfB
  have UL := union_links c wfB
  have pw := union_pointwise c wfB
  refine ⟨nodup_mergeWith (fun (t : Template) (_ : Option Template) => t) _ _ wfA.tNodup,
    nodup_mergeWith (fun (p : TPolicy) (_ : Option TPolicy) => p) _ _ wfA.lNodup, nodup_mergeWith lhsUnion _ _ wfA.mNodup,
    fun k t => pw (fun k T _ => ∀ t, T = some t → t.id = k) wfA.tKey wfB.tKey k t,
    fun k p => pw (fun k _ L => ∀ p, L = some p → p.id = k) wfA.lKey wfB.lKey k p,
    ?_, ?_, WF.mExact_of_linked fun t x => ?_,
    fun k p => pw (fun _ T L => ∀ p, L = some p → T.isSome = true → p.link = none) wfA.shared wfB.shared k p,
    ?_,
    fun k p => pw (fun _ _ L => ∀ p, L = some p → p.template.checkBinding p.values = true) wfA.bound wfB.bound k p⟩
  · -- mKeys
    intro x
    rw [(union_t2l wfB x).1, wfA.mKeys, wfB.mKeys]
    by_cases hb : B.isBound x
    · rw [((union_at c wfB x).1 hb).1]
      by_cases ha : A.isBound x
      · rw [(c x ha hb).1, Bool.or_self]
      · rw [(not_isBound ha).1]; rfl
    · rw [((union_at c wfB x).2 hb).1, (not_isBound hb).1]; simp
  · -- lTemplate
    intro x p hp
    rcases (UL x p).mp hp with h | h
    · exact (UT _ _).mpr (Or.inl (wfA.lTemplate x p h))
    · exact (UT _ _).mpr (Or.inr (wfB.lTemplate x p h))
  · -- mExact
    rw [(union_t2l wfB t).2 x, wfA.linked_iff, wfB.linked_iff]
    constructor
    · rintro (⟨p, hp, hpt⟩ | ⟨p, hp, hpt⟩)
      · exact ⟨p, (UL _ _).mpr (Or.inl hp), hpt⟩
      · exact ⟨p, (UL _ _).mpr (Or.inr hp), hpt⟩
    · rintro ⟨p, hp, hpt⟩
      exact ((UL x p).mp hp).imp (fun h => ⟨p, h, hpt⟩) (fun h => ⟨p, h, hpt⟩)
  · -- staticOne: a policy of the other set under the template id would be shared
    intro x p hp hn
    cases hq : (A.union B).links.get? p.template.id with
    | none => rfl
    | some q =>
      exfalso
      rcases (UL x p).mp hp with h | h <;> rcases (UL _ q).mp hq with h2 | h2
      · rw [wfA.staticOne x p h hn] at h2; cases h2
      · have := (c _ (Or.inl (by rw [wfA.lTemplate x p h]; rfl)) (Or.inr (by rw [h2]; rfl))).2
        rw [wfA.staticOne x p h hn, h2] at this; cases this
      · have := (c _ (Or.inr (by rw [h2]; rfl)) (Or.inl (by rw [wfB.lTemplate x p h]; rfl))).2
        rw [wfB.staticOne x p h hn, h2] at this; cases this
      · rw [wfB.staticOne x p h hn] at h2; cases h2

theorem Strict.union (sA : A.Strict) (sB : B.Strict) (c : Compat A B) : (A.union B).Strict :=
  ⟨sA.wf.union sB.wf c,
   fun k t => union_pointwise c sB.wf (fun _ T L => ∀ t, T = some t → L = none → t.slots ≠ []) sA.nb sB.nb k t,
   fun k p => union_pointwise c sB.wf (fun _ _ L => ∀ p, L = some p → p.link = none → p.template.slots = []) sA.ss sB.ss k p⟩

end

end PolicySet
end Cedar
