import CedarVerif.Cedar.Slice
import CedarVerif.Cedar.Tpe
import CedarVerif.Lemmas.EvalStore
import CedarVerif.Lemmas.ExtTable
/- The entity ids a value mentions (`all_literal_uids`) are modelled three times: `Tpe.valueUids` (C13–C15), `Slice.uidsOf` (C16) and
   `Value.euids` (C11, `Cedar/Validation/Conformance.lean`; nothing relates it to the others). The first two are one function. What every
   cluster needs of it: a value found under a key, a set and a record built from values mention ids of their parts only; the operators and
   the extension functions (through `ExtTable`) answer values without ids. -/
namespace Cedar

mutual
theorem Tpe.valueUids_eq : ∀ v : Value, Tpe.valueUids v = Slice.uidsOf v
  | .prim p => by cases p <;> rfl
  | .ext _ => rfl
  | .set vs => by rw [Tpe.valueUids, Slice.uidsOf, Tpe.valueUidsList_eq vs]
  | .record kvs => by rw [Tpe.valueUids, Slice.uidsOf, Tpe.valueUidsKVs_eq kvs]
theorem Tpe.valueUidsList_eq : ∀ vs : List Value, Tpe.valueUidsList vs = Slice.uidsOfList vs
  | [] => rfl
  | v :: vs => by rw [Tpe.valueUidsList, Slice.uidsOfList, Tpe.valueUids_eq v, Tpe.valueUidsList_eq vs]
theorem Tpe.valueUidsKVs_eq : ∀ kvs : List (String × Value), Tpe.valueUidsKVs kvs = Slice.uidsOfKVs kvs
  | [] => rfl
  | (_, v) :: kvs => by rw [Tpe.valueUidsKVs, Slice.uidsOfKVs, Tpe.valueUids_eq v, Tpe.valueUidsKVs_eq kvs]
end

theorem Tpe.mem_valueUidsList {u : EntityUID} : ∀ {vs : List Value}, u ∈ Tpe.valueUidsList vs ↔ ∃ v, v ∈ vs ∧ u ∈ Tpe.valueUids v
  | [] => by simp [Tpe.valueUidsList]
  | v :: vs => by simp only [Tpe.valueUidsList, List.mem_append, Tpe.mem_valueUidsList (vs := vs), List.mem_cons, or_and_right, exists_or,
      exists_eq_left]

theorem Tpe.mem_valueUidsKVs {u : EntityUID} : ∀ {kvs : List (String × Value)},
    u ∈ Tpe.valueUidsKVs kvs ↔ ∃ p, p ∈ kvs ∧ u ∈ Tpe.valueUids p.2
  | [] => by simp [Tpe.valueUidsKVs]
  | (k, v) :: kvs => by simp only [Tpe.valueUidsKVs, List.mem_append, Tpe.mem_valueUidsKVs (kvs := kvs), List.mem_cons, or_and_right, exists_or,
      exists_eq_left]

theorem Tpe.mem_valueUidsKVs_of_lookupKV {kvs : List (String × Value)} {a : String} {x : Value}
    (h : lookupKV kvs a = some x) {u : EntityUID} (hu : u ∈ Tpe.valueUids x) : u ∈ Tpe.valueUidsKVs kvs :=
  Tpe.mem_valueUidsKVs.2 ⟨(a, x), lookupKV_mem h, hu⟩

theorem Slice.uidsOf_lookupKV {kvs : List (String × Value)} {a : String} {x : Value}
    (h : lookupKV kvs a = some x) {u : EntityUID} (hu : u ∈ Slice.uidsOf x) : u ∈ Slice.uidsOfKVs kvs := by
  rw [← Tpe.valueUids_eq] at hu
  rw [← Tpe.valueUidsKVs_eq]
  exact Tpe.mem_valueUidsKVs_of_lookupKV h hu

end Cedar

namespace Cedar.Tpe
open Cedar

theorem toValue_noUids : ∀ (t : ExtTy) (x : t.Val), valueUids (t.toValue x) = []
  | .string, _ | .bool, _ | .long, _ | .decimal, _ | .ipaddr, (_, _, _) | .datetime, _ | .duration, _ => rfl

-- every extension function answers an extension value, a Bool or a Long
theorem callExt_noUids {fn : String} {args : List Value} {w : Value} (h : callExt fn args = .ok w) : valueUids w = [] := by
  obtain ⟨impl, _, hr⟩ := callExt_ok h
  cases hr <;> exact toValue_noUids _ _

theorem applyUnary_noUids {op : UnaryOp} {v w : Value} (h : applyUnary op v = .ok w) : valueUids w = [] :=
  applyUnary_out (G := fun w => valueUids w = []) (fun _ => rfl) (fun _ => rfl) h

theorem applyBinary_noUids {op : BinaryOp} (hop : op.storeFree = true) {v1 v2 w : Value}
    (h : applyBinary [] op v1 v2 = .ok w) : valueUids w = [] :=
  applyBinary_out (G := fun w => valueUids w = []) (fun _ => rfl) (fun _ => rfl) (fun h => by rw [h] at hop; cases hop) h

theorem mkSet_sub (vs : List Value) : ∀ u, u ∈ valueUidsList (Value.mkSet vs) → u ∈ valueUidsList vs := fun _ hu =>
  let ⟨v, hv, h⟩ := mem_valueUidsList.1 hu
  mem_valueUidsList.2 ⟨v, mem_mkSet hv, h⟩

theorem insertKV_sub (k : String) (v : Value) (kvs : List (String × Value)) :
    ∀ u, u ∈ valueUidsKVs (insertKV k v kvs) → u ∈ valueUids v ∨ u ∈ valueUidsKVs kvs := fun _ hu =>
  let ⟨p, hp, h⟩ := mem_valueUidsKVs.1 hu
  (mem_insertKV hp).elim (fun e => .inl (by rw [e] at h; exact h)) fun hm => .inr (mem_valueUidsKVs.2 ⟨p, hm, h⟩)

theorem foldl_insertKV_sub (vals acc : List (String × Value)) :
    ∀ u, u ∈ valueUidsKVs (vals.foldl (fun acc kv => insertKV kv.1 kv.2 acc) acc) →
      u ∈ valueUidsKVs vals ∨ u ∈ valueUidsKVs acc := fun _ hu =>
  let ⟨p, hp, h⟩ := mem_valueUidsKVs.1 hu
  (foldl_insertKV_mem vals acc p hp).symm.imp (fun hm => mem_valueUidsKVs.2 ⟨p, hm, h⟩) fun hm => mem_valueUidsKVs.2 ⟨p, hm, h⟩

end Cedar.Tpe
