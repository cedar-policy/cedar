import CedarVerif.Lemmas.TpeValidPolicy
import CedarVerif.Cedar.Batched
/-
C14 / C15 bridge to C03: `try_from_typed_expr` does not fail on the typed AST of a static policy — `annotate` answers only
where no `unknown` occurs, and an expression of the fragment of an UNLINKED environment contains no slot — so
`tpe::is_authorized` / `policy_residual_map` (`isAuthorized`, `initState`) succeed on validated static policies.
-/
namespace Cedar.Tpe.Valid
open Cedar Cedar.Tpe Cedar.C03
open Cedar.Level (TExpr annotate annotateList annotateKVs eraseList eraseKVs)

variable {m : ValidationMode} {s : Schema} {env : RequestEnv}

theorem annot_ofExprList_some_of (es : List Expr)
    (ih : ∀ x, x ∈ es → InFragmentM m env x = true → ∀ (caps : Capabilities) (te : TExpr), annotate m s env x caps = .ok te →
      ∃ R, Residual.ofExpr te.erase = some R) :
    InFragmentMList m env es = true → ∀ (caps : Capabilities) (ts : List TExpr),
      annotateList m s env es caps = .ok ts → ∃ rs, Residual.ofExprList (eraseList ts) = some rs := by
  induction es with
  | nil =>
    intro _ caps ts ha
    cases ha
    exact ⟨[], rfl⟩
  | cons e es ihes =>
    intro hf caps ts ha
    simp only [InFragmentMList, Bool.and_eq_true] at hf
    obtain ⟨t, ts', ha1, ha2, rfl⟩ := Level.annotateList_cons_ok ha
    obtain ⟨r, hr1⟩ := ih e List.mem_cons_self hf.1 caps t ha1
    obtain ⟨rs, hr2⟩ := ihes (fun y hy => ih y (List.mem_cons_of_mem _ hy)) hf.2 caps ts' ha2
    exact ⟨r :: rs, by simp only [eraseList, Residual.ofExprList, hr1, hr2]⟩

theorem annot_ofExprKVs_some_of (es : List (String × Expr))
    (ih : ∀ kv, kv ∈ es → InFragmentM m env kv.2 = true → ∀ (caps : Capabilities) (te : TExpr),
      annotate m s env kv.2 caps = .ok te → ∃ R, Residual.ofExpr te.erase = some R) :
    InFragmentMKVs m env es = true → ∀ (caps : Capabilities) (ts : List (String × TExpr)),
      annotateKVs m s env es caps = .ok ts → ∃ rs, Residual.ofExprKVs (eraseKVs ts) = some rs := by
  induction es with
  | nil =>
    intro _ caps ts ha
    cases ha
    exact ⟨[], rfl⟩
  | cons ke es ihes =>
    obtain ⟨k, e⟩ := ke
    intro hf caps ts ha
    simp only [InFragmentMKVs, Bool.and_eq_true] at hf
    obtain ⟨t, ts', ha1, ha2, rfl⟩ := Level.annotateKVs_cons_ok ha
    obtain ⟨r, hr1⟩ := ih (k, e) List.mem_cons_self hf.1 caps t ha1
    obtain ⟨rs, hr2⟩ := ihes (fun y hy => ih y (List.mem_cons_of_mem _ hy)) hf.2 caps ts' ha2
    exact ⟨(k, r) :: rs, by simp only [eraseKVs, Residual.ofExprKVs, hr1, hr2]⟩

theorem annot_ofExpr_some (hp : env.principalSlot = none) (hr : env.resourceSlot = none) :
    ∀ (e : Expr), InFragmentM m env e = true → ∀ (caps : Capabilities) (te : TExpr), annotate m s env e caps = .ok te →
      ∃ R, Residual.ofExpr te.erase = some R := by
  intro e
  induction e using Expr.induct with
  | lit p => intro _ caps te ha; cases ha; exact ⟨_, rfl⟩
  | var v => intro _ caps te ha; cases ha; exact ⟨_, rfl⟩
  | slot sid => intro hf; cases sid <;> simp [InFragmentM, hp, hr] at hf
  | unknown _ _ => intro _ caps te ha; cases ha
  | ite c t e ihc iht ihe =>
    intro hf caps te ha
    simp only [InFragmentM, Bool.and_eq_true] at hf
    obtain ⟨⟨⟨hfc, hft⟩, hfe⟩, _⟩ := hf
    obtain ⟨τc, cc, tc, _, hac, h⟩ := Level.annotate_ite_ok ha
    obtain ⟨rc, hrc⟩ := ihc hfc caps tc hac
    rcases h with ⟨_, tt, hat, rfl⟩ | ⟨_, _, te', hae, rfl⟩ | ⟨_, _, tt, te', hat, hae, rfl⟩
    · obtain ⟨rt, hrt⟩ := iht hft _ tt hat
      exact ⟨_, by simp only [TExpr.erase, Residual.ofExpr, hrc, hrt]; rfl⟩
    · obtain ⟨re, hre⟩ := ihe hfe _ te' hae
      exact ⟨_, by simp only [TExpr.erase, Residual.ofExpr, hrc, hre]; rfl⟩
    · obtain ⟨rt, hrt⟩ := iht hft _ tt hat
      obtain ⟨re, hre⟩ := ihe hfe _ te' hae
      exact ⟨_, by simp only [TExpr.erase, Residual.ofExpr, hrc, hrt, hre]; rfl⟩
  | and a b iha ihb =>
    intro hf caps te ha
    simp only [InFragmentM, Bool.and_eq_true] at hf
    obtain ⟨τa, ca, ta, _, haa, h⟩ := Level.annotate_and_ok ha
    obtain ⟨ra, hra⟩ := iha hf.1 caps ta haa
    rcases h with ⟨_, rfl⟩ | ⟨_, tb, hab, rfl⟩
    · exact ⟨ra, hra⟩
    · obtain ⟨rb, hrb⟩ := ihb hf.2 _ tb hab
      exact ⟨_, by simp only [TExpr.erase, Residual.ofExpr, hra, hrb]; rfl⟩
  | or a b iha ihb =>
    intro hf caps te ha
    simp only [InFragmentM, Bool.and_eq_true] at hf
    obtain ⟨τa, ca, ta, _, haa, h⟩ := Level.annotate_or_ok ha
    obtain ⟨ra, hra⟩ := iha hf.1 caps ta haa
    rcases h with ⟨_, rfl⟩ | ⟨_, tb, hab, rfl⟩
    · exact ⟨ra, hra⟩
    · obtain ⟨rb, hrb⟩ := ihb hf.2 _ tb hab
      exact ⟨_, by simp only [TExpr.erase, Residual.ofExpr, hra, hrb]; rfl⟩
  | unaryApp op a iha =>
    intro hf caps te ha
    obtain ⟨ta, haa, rfl⟩ := Level.annotate_unary_ok ha
    obtain ⟨ra, hra⟩ := iha hf caps ta haa
    exact ⟨_, by simp only [TExpr.erase, Residual.ofExpr, hra, Option.map_some]; rfl⟩
  | binaryApp op a b iha ihb =>
    intro hf caps te ha
    simp only [InFragmentM, Bool.and_eq_true] at hf
    obtain ⟨ta, tb, haa, hab, rfl⟩ := Level.annotate_binary_ok ha
    obtain ⟨ra, hra⟩ := iha hf.1.2 caps ta haa
    obtain ⟨rb, hrb⟩ := ihb hf.2 caps tb hab
    exact ⟨_, by simp only [TExpr.erase, Residual.ofExpr, hra, hrb]; rfl⟩
  | call fn args ih =>
    intro hf caps te ha
    obtain ⟨ts, hl, rfl⟩ := Level.annotate_call_ok ha
    obtain ⟨rs, hrs⟩ := annot_ofExprList_some_of args ih hf caps ts hl
    exact ⟨_, by simp only [TExpr.erase, Residual.ofExpr, hrs, Option.map_some]; rfl⟩
  | getAttr e a ihe =>
    intro hf caps te ha
    obtain ⟨_, _, te', _, hae, rfl⟩ := Level.annotate_getAttr_ok ha
    obtain ⟨re, hre⟩ := ihe hf caps te' hae
    exact ⟨_, by simp only [TExpr.erase, Residual.ofExpr, hre, Option.map_some]; rfl⟩
  | hasAttr e a ihe =>
    intro hf caps te ha
    obtain ⟨_, _, te', _, hae, rfl⟩ := Level.annotate_hasAttr_ok ha
    obtain ⟨re, hre⟩ := ihe hf caps te' hae
    exact ⟨_, by simp only [TExpr.erase, Residual.ofExpr, hre, Option.map_some]; rfl⟩
  | like e p ihe =>
    intro hf caps te ha
    obtain ⟨te', hae, rfl⟩ := Level.annotate_like_ok ha
    obtain ⟨re, hre⟩ := ihe hf caps te' hae
    exact ⟨_, by simp only [TExpr.erase, Residual.ofExpr, hre, Option.map_some]; rfl⟩
  | is e ty ihe =>
    intro hf caps te ha
    obtain ⟨te', hae, rfl⟩ := Level.annotate_is_ok ha
    obtain ⟨re, hre⟩ := ihe hf caps te' hae
    exact ⟨_, by simp only [TExpr.erase, Residual.ofExpr, hre, Option.map_some]; rfl⟩
  | set xs ih =>
    intro hf caps te ha
    simp only [InFragmentM, Bool.and_eq_true] at hf
    obtain ⟨ts, hl, rfl⟩ := Level.annotate_set_ok ha
    obtain ⟨rs, hrs⟩ := annot_ofExprList_some_of xs ih hf.1 caps ts hl
    exact ⟨_, by simp only [TExpr.erase, Residual.ofExpr, hrs, Option.map_some]; rfl⟩
  | record kvs ih =>
    intro hf caps te ha
    simp only [InFragmentM, Bool.and_eq_true] at hf
    obtain ⟨ts, hl, rfl⟩ := Level.annotate_record_ok ha
    obtain ⟨rs, hrs⟩ := annot_ofExprKVs_some_of kvs ih hf.1 caps ts hl
    exact ⟨_, by simp only [TExpr.erase, Residual.ofExpr, hrs, Option.map_some]; rfl⟩

theorem annot_ofExprList_some (hp : env.principalSlot = none) (hr : env.resourceSlot = none) :
    ∀ (es : List Expr), InFragmentMList m env es = true → ∀ (caps : Capabilities) (ts : List TExpr),
      annotateList m s env es caps = .ok ts → ∃ rs, Residual.ofExprList (eraseList ts) = some rs :=
  fun es => annot_ofExprList_some_of es fun x _ => annot_ofExpr_some hp hr x

theorem annot_ofExprKVs_some (hp : env.principalSlot = none) (hr : env.resourceSlot = none) :
    ∀ (es : List (String × Expr)), InFragmentMKVs m env es = true → ∀ (caps : Capabilities) (ts : List (String × TExpr)),
      annotateKVs m s env es caps = .ok ts → ∃ rs, Residual.ofExprKVs (eraseKVs ts) = some rs :=
  fun es => annot_ofExprKVs_some_of es fun kv _ => annot_ofExpr_some hp hr kv.2

/-- **`tpe::is_authorized` does not fail on validated static policies** (no `TpeError`) -/
theorem valid_isAuthorized_some {s : Schema} {env : RequestEnv} {tps : List TPolicy} (hV : ValidTyped s env tps)
    (hp : env.principalSlot = none) (hr : env.resourceSlot = none) (preq : PRequest) (pes : PEntities) :
    ∃ resp, isAuthorized preq pes tps = some resp := by
  obtain ⟨rs, hrs⟩ := mapM?_some (f := residualPolicyOf preq pes) tps (by
    intro tp htp
    obtain ⟨te, hte, hty⟩ := hV.typed tp htp
    obtain ⟨R, hR⟩ := annot_ofExpr_some hp hr tp.policy.condition ((hV.valid tp htp).frag env) [] te hte
    exact ⟨_, by simp only [residualPolicyOf, hty, hR, Option.map_some] <;> rfl⟩)
  exact ⟨_, by simp only [isAuthorized, hrs, Option.map_some] <;> rfl⟩

/-- `policy_residual_map` of the batched evaluator does not fail on validated static policies -/
theorem valid_initState_some {s : Schema} {env : RequestEnv} {tps : List TPolicy} (hV : ValidTyped s env tps)
    (hp : env.principalSlot = none) (hr : env.resourceSlot = none) (preq : PRequest) :
    ∃ st0, Batched.initState preq tps = some st0 := by
  obtain ⟨resp, h⟩ := valid_isAuthorized_some hV hp hr preq []
  unfold isAuthorized at h
  cases hm : mapM? (residualPolicyOf preq ([] : PEntities)) tps with
  | none => simp [hm] at h
  | some rs => exact ⟨_, by simp only [Batched.initState, hm, Option.map_some] <;> rfl⟩

theorem EnvOf.ofPrequest {s : Schema} {env : RequestEnv} {q : Request} (h : EnvOf s env q) :
    EnvOfPartial s env (Batched.prequestOf q) := by
  obtain ⟨⟨h1, h2, h3, a, ha, h4⟩, hp, hr⟩ := h
  exact ⟨h1, h2, h3, ⟨a, ha, h4⟩, hp, hr⟩

/-- `ValidStatic` from the premises in C03's vocabulary: distinct record keys (Rust's `ExprKind::Record` is a map), no slot
(`SlotsLinked` in an environment without slot types), accepted by the strict typechecker -/
theorem validStatic_of {s : Schema} {p : Policy} (hst : p.env = []) (hk : RecordKeysDistinct p.condition = true)
    (hsl : ∀ env, SlotsLinked env p.condition = true) {vs : List (RequestEnv × Verdict)}
    (hcp : checkPolicy .strict s .absent .absent p.condition = some vs) (hacc : accepted vs = true) : ValidStatic s p :=
  ⟨hst, fun env => inFragment2_of env p.condition hk (hsl env), ⟨vs, hcp, hacc⟩⟩

end Cedar.Tpe.Valid
