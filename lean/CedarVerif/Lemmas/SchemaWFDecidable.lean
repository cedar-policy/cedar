import CedarVerif.Lemmas.SchemaAnnot
/- The well-formedness predicates are decidable: for a concrete schema they are checked by evaluation. -/
namespace Cedar.SchemaSyntax

@[instance_reducible] def decOptionAll {α : Type} (o : Option α) (P : α → Prop) [∀ a, Decidable (P a)] :
    Decidable (∀ a, o = some a → P a) :=
  match o with
  | none => isTrue (fun _ h => nomatch h)
  | some a => decidable_of_iff (P a) ⟨fun h _ e => Option.some.inj e ▸ h, fun h => h a rfl⟩
attribute [scoped instance] decOptionAll

mutual
def decWFC : (c : TyCedar) → Decidable (WFC c)
  | .ident p => inferInstanceAs (Decidable (∀ c ∈ p.comps, validId c = true))
  | .set e => decWFC e
  | .record attrs => decWFA attrs
def decWFA : (a : AttrsC) → Decidable (WFA a)
  | .nil => isTrue trivial
  | .cons _ _ t rest => @instDecidableAnd _ _ (decWFC t) (decWFA rest)
end
instance (c : TyCedar) : Decidable (WFC c) := decWFC c
instance (a : AttrsC) : Decidable (WFA a) := decWFA a

mutual
def decWFJ : (τ : TyJson) → Decidable (WFJ τ)
  | .bool | .long | .string => isTrue trivial
  | .ext n => inferInstanceAs (Decidable (validId n = true))
  | .entity n | .entityOrCommon n | .commonRef n => inferInstanceAs (Decidable (∀ c ∈ n.comps, validId c = true))
  | .set e => decWFJ e
  | .record attrs => decWFAJ attrs
def decWFAJ : (a : AttrsJ) → Decidable (WFAJ a)
  | .nil => isTrue trivial
  | .cons _ _ t rest => @instDecidableAnd _ _ (decWFJ t) (decWFAJ rest)
end
instance (τ : TyJson) : Decidable (WFJ τ) := decWFJ τ
instance (a : AttrsJ) : Decidable (WFAJ a) := decWFAJ a

mutual
def decSortedT : (τ : TyJson) → Decidable (SortedT τ)
  | .set e => decSortedT e
  | .record attrs => decSortedA attrs
  | .bool | .long | .string | .ext _ | .entity _ | .entityOrCommon _ | .commonRef _ => isTrue trivial
def decSortedA : (a : AttrsJ) → Decidable (SortedA a)
  | .nil => isTrue trivial
  | .cons n _ t rest =>
    @instDecidableAnd _ _ (inferInstanceAs (Decidable (∀ k ∈ keysJ rest, n < k)))
      (@instDecidableAnd _ _ (decSortedT t) (decSortedA rest))
end
instance (τ : TyJson) : Decidable (SortedT τ) := decSortedT τ
instance (a : AttrsJ) : Decidable (SortedA a) := decSortedA a

instance (d : EntityDecl) : Decidable (WFD d) := by unfold WFD; infer_instance
instance (r : ActRef) : Decidable (WFRef r) := by unfold WFRef; infer_instance
instance (t : TyJson) : Decidable (CtxOK t) :=
  match t with
  | .set e => isFalse (fun h => h e rfl)
  | .record _ | .bool | .long | .string | .ext _ | .entity _ | .entityOrCommon _ | .commonRef _ =>
    isTrue (fun _ h => nomatch h)

instance (s : ApplySpecJ) : Decidable (WFSpec s) := by unfold WFSpec; infer_instance
instance (a : ActionJ) : Decidable (WFAct a) := by unfold WFAct; infer_instance
instance (n : String) (k : EntityKindJ) : Decidable (WFEntJ n k) := by cases k <;> (unfold WFEntJ; infer_instance)
instance (d : NamespaceJ) : Decidable (WFNs d) := by unfold WFNs; infer_instance
instance (l : List (QName × NamespaceJ)) : Decidable (WFNamed l) := by unfold WFNamed; infer_instance
instance (f : FragmentJ) : Decidable (WFFrag f) := by unfold WFFrag; infer_instance
instance (k : EntityKindJ) : Decidable (SortedEnt k) := by cases k <;> (unfold SortedEnt; infer_instance)
instance (d : NamespaceJ) : Decidable (SortedNs d) := by unfold SortedNs; infer_instance
instance (f : FragmentJ) : Decidable (SortedFrag f) := by unfold SortedFrag; infer_instance
instance {α : Type} (l : List (String × α)) : Decidable (KeysSorted l) := by unfold KeysSorted; infer_instance
instance (d : NamespaceJ) : Decidable (NsKeysOK d) := by unfold NsKeysOK; infer_instance
instance (f : FragmentJ) : Decidable (FragKeysOK f) := by unfold FragKeysOK; infer_instance
instance (a : AnnsJ) : Decidable (WFAnns a) := by unfold WFAnns; infer_instance
instance (d : NamespaceA) : Decidable (AnnsOKNs d) := by unfold AnnsOKNs; infer_instance
instance (l : List (QName × AnnsJ × NamespaceA)) : Decidable (WFNamedA l) := by unfold WFNamedA; infer_instance
instance (f : FragmentA) : Decidable (WFFragA f) := by unfold WFFragA; infer_instance

end Cedar.SchemaSyntax
