import CedarVerif.Lemmas.TypecheckPolicy
import CedarVerif.Lemmas.TypecheckSIP
/-
C03: what the verdicts of `checkEnv` and `checkPolicy` say about evaluation, given that evaluation respects the type
computed for the condition (`TySound`, from whichever soundness theorem applies).
-/
namespace Cedar.C03

open Cedar

variable {m : ValidationMode} {s : Schema} {env : RequestEnv} {w : World} {e : Expr}

theorem checkEnv_accepted (hsound : ∀ τ c', typeOf m s env e [] = .ok (τ, c') → TySound w e τ c') {v : Verdict}
    (hv : checkEnv m s env e = some v) (hne : v ≠ .fail) :
    (∃ b, w.eval e = .ok (.prim (.bool b))) ∨ (∃ err, w.eval e = .error err ∧ Permitted err) := by
  obtain ⟨τ, c', _, ht, hb, _⟩ := checkEnv_typed hv hne
  rcases (hsound τ c' ht).bool_cases hb with he | ⟨b, hb, _, _⟩
  · exact Or.inr he
  · exact Or.inl ⟨b, hb⟩

theorem checkEnv_ff (hsound : ∀ τ c', typeOf m s env e [] = .ok (τ, c') → TySound w e τ c')
    (hv : checkEnv m s env e = some .ff) : w.eval e ≠ .ok (.prim (.bool true)) := by
  obtain ⟨τ, c', _, ht, _, hτ⟩ := checkEnv_typed hv (by decide)
  obtain rfl := hτ rfl
  intro htrue
  rcases hsound _ c' ht with ⟨err, he, _⟩ | ⟨v, hv', hi, _⟩
  · rw [htrue] at he; cases he
  · rw [htrue] at hv'; cases hv'; cases hi

theorem checkEnv_transfers {m' : ValidationMode} (ht : Transfers (typeOf m s env e []) (typeOf m' s env e [])) {v : Verdict}
    (hv : checkEnv m s env e = some v) (hne : v ≠ .fail) : checkEnv m' s env e = some v := by
  obtain ⟨τ, c, hE, _⟩ := checkEnv_typed hv hne
  unfold checkEnv at hv ⊢
  rw [hE] at hv
  rw [ht.expect _ _ hE]
  exact hv

variable {pu ru : SlotUse} {vs : List (RequestEnv × Verdict)}

/-- acceptance by `checkPolicy` as one Boolean fact (decidable by evaluation, whatever the environments are) -/
theorem checkPolicy_accepted_of (h : (checkPolicy m s pu ru e).map accepted = some true) :
    ∃ vs, checkPolicy m s pu ru e = some vs ∧ accepted vs = true := by
  cases hc : checkPolicy m s pu ru e with
  | none => rw [hc] at h; cases h
  | some vs => rw [hc] at h; exact ⟨vs, rfl, Option.some.inj h⟩

theorem checkPolicy_impossible (hcp : checkPolicy m s pu ru e = some vs) (himp : impossible vs = true)
    (hmem : env ∈ s.envs pu ru) : checkEnv m s env e = some .ff := by
  obtain ⟨v, hv, hvm⟩ := checkPolicy_mem hcp hmem
  have hff : v = .ff := by simpa using List.all_eq_true.mp himp _ hvm
  rw [hv, hff]

theorem impossible_mem (hvs : vs.all (fun p => checkEnv m s p.1 e == some p.2) = true) (himp : impossible vs = true)
    {v : Verdict} (hm : (env, v) ∈ vs) : checkEnv m s env e = some .ff := by
  have h1 := List.all_eq_true.mp hvs _ hm
  have h2 := List.all_eq_true.mp himp _ hm
  simp only [beq_iff_eq] at h1 h2
  rw [h1, h2]

end Cedar.C03
