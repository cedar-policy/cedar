import CedarVerif.Cedar.ExprBeq
/-
Syntactic operations on expressions used by the C08 model: slot substitution, the slots occurring in an expression
(structural equality, Rust's derived `PartialEq` ignoring source locations, is `Expr.beq` of ExprBeq.lean).  Import-free.
-/
namespace Cedar

-- structural equality `Expr.beq` is defined in ExprBeq.lean (shared with the typechecker model)

/-! ### substitution (the static policy obtained by writing the linked entity in place of each slot) -/

mutual
def Expr.subst (env : SlotEnv) : Expr → Expr
  | .slot s => match env.lookup s with
    | some u => .lit (.entityUID u)
    | none => .slot s
  | .lit p => .lit p
  | .var v => .var v
  | .unknown n t => .unknown n t
  | .ite c t e => .ite (Expr.subst env c) (Expr.subst env t) (Expr.subst env e)
  | .and a b => .and (Expr.subst env a) (Expr.subst env b)
  | .or a b => .or (Expr.subst env a) (Expr.subst env b)
  | .unaryApp o a => .unaryApp o (Expr.subst env a)
  | .binaryApp o a b => .binaryApp o (Expr.subst env a) (Expr.subst env b)
  | .call f xs => .call f (Expr.substList env xs)
  | .getAttr a k => .getAttr (Expr.subst env a) k
  | .hasAttr a k => .hasAttr (Expr.subst env a) k
  | .like a p => .like (Expr.subst env a) p
  | .is a t => .is (Expr.subst env a) t
  | .set xs => .set (Expr.substList env xs)
  | .record kvs => .record (Expr.substKVs env kvs)
def Expr.substList (env : SlotEnv) : List Expr → List Expr
  | [] => []
  | x :: xs => Expr.subst env x :: Expr.substList env xs
def Expr.substKVs (env : SlotEnv) : List (String × Expr) → List (String × Expr)
  | [] => []
  | (k, x) :: xs => (k, Expr.subst env x) :: Expr.substKVs env xs
end

-- slots occurring in an expression
mutual
def Expr.slots : Expr → List SlotId
  | .slot s => [s]
  | .lit _ => []
  | .var _ => []
  | .unknown _ _ => []
  | .ite c t e => Expr.slots c ++ Expr.slots t ++ Expr.slots e
  | .and a b => Expr.slots a ++ Expr.slots b
  | .or a b => Expr.slots a ++ Expr.slots b
  | .unaryApp _ a => Expr.slots a
  | .binaryApp _ a b => Expr.slots a ++ Expr.slots b
  | .call _ xs => Expr.slotsList xs
  | .getAttr a _ => Expr.slots a
  | .hasAttr a _ => Expr.slots a
  | .like a _ => Expr.slots a
  | .is a _ => Expr.slots a
  | .set xs => Expr.slotsList xs
  | .record kvs => Expr.slotsKVs kvs
def Expr.slotsList : List Expr → List SlotId
  | [] => []
  | x :: xs => Expr.slots x ++ Expr.slotsList xs
def Expr.slotsKVs : List (String × Expr) → List SlotId
  | [] => []
  | (_, x) :: xs => Expr.slots x ++ Expr.slotsKVs xs
end


end Cedar
