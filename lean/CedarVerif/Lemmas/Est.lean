import CedarVerif.Cedar.Est.Policy
/-
JSON policy format, expression level: well-formedness of expressions (the invariants every Rust `ast::Expr` obtained from
Cedar text satisfies) and the round trip `toExpr (ofExpr e) = ok e`.
-/
namespace Cedar.Est
open Cedar

def isBoolLit : Expr → Bool
  | .lit (.bool _) => true
  | _ => false

/- Invariants of a Rust `ast::Expr` that came out of the Cedar parser (or any builder-made tree that is
expressible in Cedar text):
 * `Long`s are `i64`; entity types and `is` types are valid (normalised) names;
 * no `Unknown` node (not expressible in text);
 * extension calls name a known extension function (the parser rejects others);
 * `&&` / `||` never have two Boolean literals as children (`ExprBuilder::and/or` fold them);
 * record literals are key-sorted without duplicates (`BTreeMap`). -/
mutual
def WF : Expr → Prop
  | .lit (.int i) => inI64 i = true
  | .lit (.entityUID u) => validName u.ty = true
  | .lit (.bool _) => True
  | .lit (.string _) => True
  | .var _ => True
  | .slot _ => True
  | .unknown _ _ => False
  | .ite c t e => WF c ∧ WF t ∧ WF e
  | .and a b => WF a ∧ WF b ∧ (isBoolLit a && isBoolLit b) = false
  | .or a b => WF a ∧ WF b ∧ (isBoolLit a && isBoolLit b) = false
  | .unaryApp _ a => WF a
  | .binaryApp _ a b => WF a ∧ WF b
  | .call fn args => isKnownExt fn = true ∧ WFs args
  | .getAttr e _ => WF e
  | .hasAttr e _ => WF e
  | .like e _ => WF e
  | .is e ty => WF e ∧ validName ty = true
  | .set es => WFs es
  | .record kvs => WFKVs kvs ∧ SortedKeys kvs
def WFs : List Expr → Prop
  | [] => True
  | e :: es => WF e ∧ WFs es
def WFKVs : List (String × Expr) → Prop
  | [] => True
  | (_, e) :: kvs => WF e ∧ WFKVs kvs
end

theorem mkAnd_of_not_lits (a b : Expr) (h : (isBoolLit a && isBoolLit b) = false) : mkAnd a b = .and a b := by
  unfold mkAnd
  split
  · simp [isBoolLit] at h
  · rfl

theorem mkOr_of_not_lits (a b : Expr) (h : (isBoolLit a && isBoolLit b) = false) : mkOr a b = .or a b := by
  unfold mkOr
  split
  · simp [isBoolLit] at h
  · rfl

theorem seqKVs_map_ok {α} (kvs : List (String × α)) :
    seqKVs (kvs.map (fun p => (p.1, (Except.ok p.2 : R α)))) = .ok kvs := by
  induction kvs with
  | nil => rfl
  | cons p rest ih =>
    obtain ⟨k, v⟩ := p
    simp [seqKVs, ih, bind, Except.bind]

theorem sortKVs_sorted {α} : (kvs : List (String × α)) → SortedKeys kvs → sortKVs kvs = some kvs
  | [], _ => rfl
  | [(k, v)], _ => by simp [sortKVs, insertSortedKV]
  | (k, v) :: (k', v') :: rest, h => by
    have h' : k < k' ∧ SortedKeys ((k', v') :: rest) := h
    have ih := sortKVs_sorted ((k', v') :: rest) h'.2
    simp only [sortKVs] at ih ⊢
    rw [ih]
    simp [insertSortedKV, h'.1]

theorem recordOf_map_ok (kvs : List (String × Expr)) (hs : SortedKeys kvs) :
    recordOf (kvs.map (fun p => (p.1, (Except.ok p.2 : R Expr)))) = .ok (.record kvs) := by
  simp [recordOf, seqKVs_map_ok, bind, Except.bind, sortKVs_sorted kvs hs]

theorem readPattern_map (p : Pattern) : readPattern (p.map patElemJson) = .ok p := by
  induction p with
  | nil => rfl
  | cons x xs ih => cases x <;> simp [readPattern, patElemJson, readPatElem, ih, bind, Except.bind]

/-- a key whose object body `toExprNode` hands to `nodeOfFields` -/
def isOpKey (k : String) : Bool := !isKnownExt k && !["Value", "Var", "Slot", "Record"].contains k

theorem notKnown_of_opKey {k : String} (h : isOpKey k = true) : isKnownExt k = false := by
  simp only [isOpKey, Bool.and_eq_true, Bool.not_eq_true'] at h
  exact h.1

theorem toExprNode_opKey {k : String} (h : isOpKey k = true) (fields : List (String × Json)) :
    toExprNode (.obj fields) k = nodeOfFields k fields (toExprFields fields) := by
  simp only [isOpKey, Bool.and_eq_true, Bool.not_eq_true', List.contains_cons, List.contains_nil, Bool.or_false,
    Bool.or_eq_false_iff] at h
  simp only [toExprNode, h, Bool.false_eq_true, if_false]

/-- The keys `ofExpr` writes.  One evaluation for all of them: within one declaration the kernel converts the
23 function names once. -/
theorem opKeys :
    (isKnownExt "Value" = false ∧ isKnownExt "Var" = false ∧ isKnownExt "Slot" = false ∧ isKnownExt "Set" = false
      ∧ isKnownExt "Record" = false)
    ∧ isOpKey "if-then-else" = true ∧ isOpKey "&&" = true ∧ isOpKey "||" = true ∧ isOpKey "." = true
    ∧ isOpKey "has" = true ∧ isOpKey "like" = true ∧ isOpKey "is" = true
    ∧ isOpKey "!" = true ∧ isOpKey "neg" = true ∧ isOpKey "isEmpty" = true
    ∧ isOpKey "==" = true ∧ isOpKey "<" = true ∧ isOpKey "<=" = true ∧ isOpKey "+" = true ∧ isOpKey "-" = true
    ∧ isOpKey "*" = true ∧ isOpKey "in" = true ∧ isOpKey "contains" = true ∧ isOpKey "containsAll" = true
    ∧ isOpKey "containsAny" = true ∧ isOpKey "getTag" = true ∧ isOpKey "hasTag" = true := by
  decide +kernel

theorem opKey_unKey (op : UnaryOp) : isOpKey (unKey op) = true := by cases op <;> simp only [unKey, opKeys]
theorem opKey_binKey (op : BinaryOp) : isOpKey (binKey op) = true := by cases op <;> simp only [binKey, opKeys]

theorem notKnown_unKey (op : UnaryOp) : isKnownExt (unKey op) = false := notKnown_of_opKey (opKey_unKey op)
theorem notKnown_binKey (op : BinaryOp) : isKnownExt (binKey op) = false := notKnown_of_opKey (opKey_binKey op)

-- `rw` picks the equation of the literal key; unfolding the 25-way match decides a string equality per earlier alternative
theorem nodeOfFields_unKey (op : UnaryOp) (fields : List (String × Json)) (fs : List (String × R Expr)) :
    nodeOfFields (unKey op) fields fs = readArg fields fs (.unaryApp op) := by
  cases op <;> rw [unKey, nodeOfFields]

theorem nodeOfFields_binKey (op : BinaryOp) (fields : List (String × Json)) (fs : List (String × R Expr)) :
    nodeOfFields (binKey op) fields fs = readLR fields fs (.binaryApp op) := by
  cases op <;> rw [binKey, nodeOfFields]

theorem toExpr_jobj1 (k : String) (v : Json) : toExpr (jobj1 k v) = toExprNode v k := by
  simp only [jobj1, toExpr, toExprObj]

theorem readVar_varName (v : Var) : readVar (.str (varName v)) = .ok v := by cases v <;> rw [varName, readVar]

theorem readSlot_slotName (s : SlotId) : readSlot (.str (slotName s)) = .ok s := by cases s <;> rw [slotName, readSlot]

theorem readLR_ok (f : Expr → Expr → Expr) (l r : Json) (a b : Expr) :
    readLR [("left", l), ("right", r)] [("left", .ok a), ("right", .ok b)] f = .ok (f a b) := by
  simp [readLR, exactKeys, hasKey, getR, bind, Except.bind]

mutual
theorem toExpr_ofExpr : (e : Expr) → WF e → toExpr (ofExpr e) = .ok e
  | .lit (.bool _), _ | .lit (.string _), _ => by simp [ofExpr, toExpr_jobj1, primJson, toExprNode, opKeys, valueToExpr]
  | .lit (.int i), h => by
    simp [ofExpr, toExpr_jobj1, primJson, toExprNode, opKeys, valueToExpr, show inI64 i = true from h]
  | .lit (.entityUID u), h => by
    simp [ofExpr, toExpr_jobj1, primJson, uidJson, toExprNode, opKeys, valueToExpr, valueObj,
      escapeOf, jlookup, noDupKeys, hasKey, uidOf, show validName u.ty = true from h, Except.map]
  | .var v, _ => by simp [ofExpr, toExpr_jobj1, toExprNode, opKeys, readVar_varName, Except.map]
  | .slot s, _ => by simp [ofExpr, toExpr_jobj1, toExprNode, opKeys, readSlot_slotName, Except.map]
  | .unknown _ _, h => h.elim
  | .ite c t e, h => by
    simp only [ofExpr, toExpr_jobj1, toExprNode_opKey, opKeys]
    rw [nodeOfFields]
    simp [exactKeys, hasKey, toExprFields, getR, toExpr_ofExpr c h.1, toExpr_ofExpr t h.2.1, toExpr_ofExpr e h.2.2,
      bind, Except.bind]
  | .and a b, h | .or a b, h => by
    simp only [ofExpr, jLR, toExpr_jobj1, toExprNode_opKey, opKeys]
    rw [nodeOfFields]
    simp [toExprFields, toExpr_ofExpr a h.1, toExpr_ofExpr b h.2.1, readLR_ok, mkAnd_of_not_lits a b h.2.2,
      mkOr_of_not_lits a b h.2.2]
  | .unaryApp op a, h => by
    rw [ofExpr, jArg, toExpr_jobj1, toExprNode_opKey (opKey_unKey op), nodeOfFields_unKey]
    simp [toExprFields, toExpr_ofExpr a h, readArg, exactKeys, hasKey, getR, Except.map]
  | .binaryApp op a b, h => by
    rw [ofExpr, jLR, toExpr_jobj1, toExprNode_opKey (opKey_binKey op), nodeOfFields_binKey]
    simp only [toExprFields, toExpr_ofExpr a h.1, toExpr_ofExpr b h.2, readLR_ok]
  | .call fn args, h => by
    simp [ofExpr, toExpr_jobj1, toExprNode, h.1, toExprs_ofExprs args h.2, Except.map]
  | .getAttr e a, h => by
    simp only [ofExpr, toExpr_jobj1, toExprNode_opKey, opKeys]
    rw [nodeOfFields]
    simp [exactKeys, hasKey, toExprFields, getR, getS, jlookup, toExpr_ofExpr e h, bind, Except.bind]
  | .hasAttr e a, h => by
    simp only [ofExpr, toExpr_jobj1, toExprNode_opKey, opKeys]
    rw [nodeOfFields]
    simp [noDupKeys, hasKey, toExprFields, getR, jlookup, toExpr_ofExpr e h, Except.map]
  | .like e p, h => by
    simp only [ofExpr, toExpr_jobj1, toExprNode_opKey, opKeys]
    rw [nodeOfFields]
    simp [exactKeys, hasKey, toExprFields, getR, jlookup, toExpr_ofExpr e h, bind, Except.bind, readPattern_map]
  | .is e ty, h => by
    simp only [ofExpr, toExpr_jobj1, toExprNode_opKey, opKeys]
    rw [nodeOfFields]
    simp [exactKeys, hasKey, toExprFields, getR, getS, jlookup, toExpr_ofExpr e h.1, bind, Except.bind, h.2]
  | .set es, h => by
    simp [ofExpr, toExpr_jobj1, toExprNode, opKeys, toExprs_ofExprs es h, Except.map]
  | .record kvs, h => by
    simp [ofExpr, toExpr_jobj1, toExprNode, opKeys, toExprFields_ofExprKVs kvs h.1, recordOf_map_ok kvs h.2]
theorem toExprs_ofExprs : (es : List Expr) → WFs es → toExprs (ofExprs es) = .ok es
  | [], _ => by simp [ofExprs, toExprs]
  | e :: es, h => by
    simp [ofExprs, toExprs, toExpr_ofExpr e h.1, toExprs_ofExprs es h.2, bind, Except.bind]
theorem toExprFields_ofExprKVs : (kvs : List (String × Expr)) → WFKVs kvs →
    toExprFields (ofExprKVs kvs) = kvs.map (fun p => (p.1, (Except.ok p.2 : R Expr)))
  | [], _ => by simp [ofExprKVs, toExprFields]
  | (k, e) :: kvs, h => by
    simp [ofExprKVs, toExprFields, toExpr_ofExpr e h.1, toExprFields_ofExprKVs kvs h.2]
end

end Cedar.Est
