import CedarVerif.Cedar.Fmt
/- For C12.  `bestWith_spec`: every layout of a worklist carries its atoms, and shows them all to a lexer when the worklist is
   comment-safe.  `Emits` packs the atoms of a document with a run of the comment-safety machine `docSafe` (one lemma per
   document-building function of the mirror of doc.rs).  `AtomsRel`: the flags of `cstAtomsW` matter at trailing commas only. -/
namespace Cedar.Fmt

@[simp] theorem doc_append (a b : Doc) : a ++ b = Doc.cat a b := rfl

theorem itemsVisible_of_pending {xs : List Item} {as : List Atom} (h : itemsVisible true xs = some as) :
    itemsVisible false xs = some as := by
  induction xs with
  | nil => exact h
  | cons x xs ih =>
    cases x with
    | atom a => cases a <;> simp [itemsVisible] at h
    | sp => exact ih h
    | nl j => exact h

theorem bestWith_spec (ch : Nat → List Cmd → Bool) (col : Nat) (cs : List Cmd) :
    itemsAtoms (bestWith ch col cs) = cmdsAtoms cs ∧
    ∀ (p q : Bool), cmdsSafe p cs = some q → itemsVisible p (bestWith ch col cs) = some (cmdsAtoms cs) := by
  -- the cases are the arms of `bestWith` in order: 1 `[]`, 2 `nil`, 3 `text`, 4 `space`, 5/6 `line` flat/broken,
  -- 7/8 `softline` flat/broken, 9 `hardline`, 10 `nest`, 11/12 `group` flat/undecided, 13 `cat`
  fun_induction bestWith ch col cs with
  | case1 => exact ⟨rfl, fun _ _ _ => rfl⟩
  | case3 col i m a r ih =>
    refine ⟨congrArg (a :: ·) ih.1, fun p q h => ?_⟩
    -- an atom behind a pending comment is refused by `docSafe`; otherwise a token leaves nothing pending, a comment does
    cases p with
    | true => cases a <;> simp [cmdsSafe, docSafe] at h
    | false =>
      cases a with
      | tok t => simp [itemsVisible, cmdsAtoms, docAtoms, ih.2 false q (by simpa [cmdsSafe, docSafe] using h)]
      | com c => simp [itemsVisible, cmdsAtoms, docAtoms, ih.2 true q (by simpa [cmdsSafe, docSafe] using h)]
  -- a `line` or `softline` laid out as a newline
  | case6 col i r ih | case8 col i r ih =>
    refine ⟨ih.1, fun p q h => ?_⟩
    cases p
    · exact ih.2 false q h
    · exact itemsVisible_of_pending (ih.2 true q h)
  -- a `hardline` is a newline in every layout: whatever was pending is discharged
  | case9 col i m r ih => exact ⟨ih.1, fun _ q h => ih.2 false q h⟩
  | case13 col i m a b r ih =>
    refine ⟨ih.1.trans (List.append_assoc ..).symm, fun p q h => ?_⟩
    have h' : cmdsSafe p ((i, m, a) :: (i, m, b) :: r) = some q := by
      simp only [cmdsSafe, docSafe] at h ⊢
      cases ha : docSafe p a with
      | none => simp [ha] at h
      | some p1 => simpa [ha] using h
    simpa [cmdsAtoms, docAtoms] using ih.2 p q h'
  -- the other heads emit no atom: both sides unfold to the hypothesis
  | case2 _ _ _ _ ih | case4 _ _ _ _ ih | case5 _ _ _ ih | case7 _ _ _ ih | case10 _ _ _ _ _ _ ih | case11 _ _ _ _ ih
  | case12 _ _ _ _ ih => exact ih

theorem bestWith_tokens (ch : Nat → List Cmd → Bool) (col : Nat) (cs : List Cmd) :
    itemsAtoms (bestWith ch col cs) = cmdsAtoms cs :=
  (bestWith_spec ch col cs).1

theorem bestWith_safe (ch : Nat → List Cmd → Bool) (col : Nat) (cs : List Cmd) :
    ∀ (p q : Bool), cmdsSafe p cs = some q → itemsVisible p (bestWith ch col cs) = some (cmdsAtoms cs) :=
  (bestWith_spec ch col cs).2

/-- Entered with `p` (a comment is pending on the current line), `d` puts no token behind a comment and leaves `q`
    pending (`docSafe`), and carries the atoms `as`. Only a comment leaves `true`, only a `hardline` clears it. -/
structure Emits (p : Bool) (d : Doc) (as : List Atom) (q : Bool) : Prop where
  atoms : docAtoms d = as
  safe : docSafe p d = some q

namespace Emits
variable {p q r : Bool} {d a b : Doc} {as bs : List Atom} {i : Nat}

theorem nil : Emits p .nil [] p := ⟨rfl, rfl⟩
theorem space : Emits p .space [] p := ⟨rfl, rfl⟩
theorem line : Emits p .line [] p := ⟨rfl, rfl⟩
theorem softline : Emits p .softline [] p := ⟨rfl, rfl⟩
theorem hardline : Emits p .hardline [] false := ⟨rfl, rfl⟩
theorem tok (s : List Char) : Emits false (.text (.tok s)) [.tok s] false := ⟨rfl, rfl⟩
theorem com (c : List Char) : Emits false (.text (.com c)) [.com c] true := ⟨rfl, rfl⟩
theorem nest (h : Emits p d as q) : Emits p (.nest i d) as q := ⟨h.atoms, h.safe⟩
theorem group (h : Emits p d as q) : Emits p (.group d) as q := ⟨h.atoms, h.safe⟩

theorem cat (ha : Emits p a as q) (hb : Emits q b bs r) : Emits p (a ++ b) (as ++ bs) r :=
  ⟨by rw [doc_append, docAtoms, ha.atoms, hb.atoms], by rw [doc_append, docSafe, ha.safe]; exact hb.safe⟩

/-- the atoms come out nested as the document is; the source-order functions nest to the left -/
theorem of_eq (h : Emits p d as q) (e : as = bs) : Emits p d bs q := e ▸ h

protected theorem hardSep (c : List Char) (cs : List (List Char)) :
    Emits false (hardSep (c :: cs)) ((c :: cs).map .com) true := by
  induction cs generalizing c with
  | nil => exact .com c
  | cons c' cs ih => exact .cat (.com c) (.cat .hardline (ih c'))

protected theorem leadingDoc : (cs : List (List Char)) → Emits false (leadingDoc cs) (cs.map .com) false
  | [] => .nil
  | c :: cs => .of_eq (.cat .hardline (.cat (.hardSep c cs) .hardline)) (by simp)

protected theorem trailingDoc (t : List Char) {next : Doc} (hn : Emits false next [] false) :
    Emits false (trailingDoc t next) (if t.isEmpty then [] else [.com t]) false := by
  unfold Fmt.trailingDoc
  split
  · exact hn
  · exact .cat .space (.cat (.com t) .hardline)

protected theorem addComment (lead : List (List Char)) (trail : List Char) {next : Doc}
    (hd : Emits false d as false) (hn : Emits false next [] false) :
    Emits false (addComment d lead trail next)
      (lead.map .com ++ as ++ (if trail.isEmpty then [] else [.com trail])) false :=
  .of_eq (.cat (.leadingDoc lead) (.cat hd (.trailingDoc trail hn))) (List.append_assoc ..).symm

protected theorem tokDoc (t : WTok) {next : Doc} (hn : Emits false next [] false) :
    Emits false (tokDoc t next) (wtokAtoms t) false :=
  .addComment _ _ (.tok _) hn

protected theorem commentsOnlyDoc (t : WTok) : Emits false (commentsOnlyDoc t) (wtokComments t) false :=
  .of_eq (.addComment _ _ .nil .nil) (by simp [wtokComments])

protected theorem opsDoc : (ops : List WTok) → Emits false (opsDoc ops) (opsAtoms ops) false
  | [] => .nil
  | t :: ts => .cat (.tokDoc t .nil) (Emits.opsDoc ts)

protected theorem trailingCommaDoc : (fixed : Bool) → (tc : Option WTok) →
    Emits false (trailingCommaDoc fixed tc) (trailingCommaAtoms false fixed tc) false
  | _, none => .nil
  | false, some _ => .nil
  | true, some t => .commentsOnlyDoc t

protected theorem accSep : (r : Accs) → Emits false (accSep r) [] false
  | .nil => .nil
  | .field .. | .call .. | .index .. => .softline

protected theorem callArgsDoc {kt kc : Bool} (iw : Nat) : (args : Args) →
    Emits false d (argsAtomsW kt kc args) false →
    Emits false (callArgsDoc iw args.isNil d) (argsAtomsW kt kc args) false
  | .nil, _ => .nil
  | .last .., h | .cons .., h => .of_eq (.cat (.nest (.cat .softline h)) .softline) (by simp)

end Emits

section
variable (fixed : Bool) (iw : Nat)

mutual
theorem toDocW_emits : ∀ c : Cst, Emits false (toDocW fixed iw c) (cstAtomsW false fixed c) false
  | .leaf t => .tokDoc t .nil
  | .paren l e r =>
    .of_eq (.group (.cat (.tokDoc l .nil) (.cat (.nest (toDocW_emits e)) (.tokDoc r .nil)))) (by simp [cstAtomsW])
  | .unary ops e => .cat (.opsDoc ops) (toDocW_emits e)
  | .chain .or first rest | .chain .and first rest | .chain .path first rest =>
    .cat (toDocW_emits first) (chainDocW_emits _ rest)
  | .chain .add first rest | .chain .mult first rest =>
    .group (.cat (toDocW_emits first) (chainDocW_emits _ rest))
  | .rel a op b =>
    .of_eq (.cat (toDocW_emits a) (.cat .space (.cat (.tokDoc op .nil) (.cat .space (toDocW_emits b)))))
      (by simp [cstAtomsW])
  | .isIn a isT ty inT e =>
    .of_eq (.group (.cat (toDocW_emits a) (.cat .space (.cat (.tokDoc isT .nil) (.cat .space
        (.cat (.nest (toDocW_emits ty)) (.cat .line (.cat (.tokDoc inT .nil) (.cat .space
          (.nest (toDocW_emits e)))))))))))
      (by simp [cstAtomsW])
  | .ite i c t a e b =>
    .of_eq (.group (.cat (.cat (.tokDoc i .nil) (.nest (.cat .line (toDocW_emits c)))) (.cat .line
        (.cat (.cat (.tokDoc t .nil) (.nest (.cat .line (toDocW_emits a)))) (.cat .line
          (.cat (.tokDoc e .nil) (.nest (.cat .line (toDocW_emits b)))))))))
      (by simp [cstAtomsW])
  | .brack l args r =>
    .of_eq (.cat (.tokDoc l .nil) (.cat (.nest (argsDocW_emits args)) (.tokDoc r .nil))) (by simp [cstAtomsW])
  | .recInit k colon v =>
    .of_eq (.cat (toDocW_emits k) (.cat (.tokDoc colon .nil) (.cat .space (toDocW_emits v))))
      (by simp [cstAtomsW])
  | .member item accs => .group (.cat (toDocW_emits item) (.nest (accsDocW_emits accs)))
theorem argsDocW_emits : ∀ a : Args, Emits false (argsDocW fixed iw a) (argsAtomsW false fixed a) false
  | .nil => .nil
  | .last e tc => .cat (toDocW_emits e) (.trailingCommaDoc fixed tc)
  | .cons e comma rest =>
    .of_eq (.cat (toDocW_emits e) (.cat (.tokDoc comma .nil) (.cat .line (argsDocW_emits rest))))
      (by simp [argsAtomsW])
theorem chainDocW_emits (k : ChainKind) : ∀ c : Chain,
    Emits false (chainDocW fixed iw k c) (chainAtomsW false fixed c) false
  | .nil => .nil
  | .cons op e rest => by
    have hr := (toDocW_emits e).cat (chainDocW_emits k rest)
    cases k
    case or | and => exact .of_eq (.cat .space (.cat (.tokDoc op .line) hr)) (by simp [chainAtomsW])
    case add | mult => exact .of_eq (.cat .space (.cat (.tokDoc op .nil) (.cat .line hr))) (by simp [chainAtomsW])
    case path => exact .of_eq (.cat (.tokDoc op .nil) hr) (by simp [chainAtomsW])
theorem accsDocW_emits : ∀ a : Accs, Emits false (accsDocW fixed iw a) (accsAtomsW false fixed a) false
  | .nil => .nil
  | .field dot name rest =>
    .of_eq (.cat (.tokDoc dot .nil) (.cat (.tokDoc name .nil) (.cat (.accSep rest) (accsDocW_emits rest))))
      (by simp [accsAtomsW])
  | .call l args r rest =>
    .of_eq (.cat (.tokDoc l .nil) (.cat (.callArgsDoc iw args (argsDocW_emits args)) (.cat (.tokDoc r .nil)
        (.cat (.accSep rest) (accsDocW_emits rest)))))
      (by simp [accsAtomsW])
  | .index l e r rest =>
    .of_eq (.cat (.tokDoc l .nil) (.cat (toDocW_emits e) (.cat (.tokDoc r .nil)
        (.cat (.accSep rest) (accsDocW_emits rest)))))
      (by simp [accsAtomsW])
end

end

theorem argsDocW_atoms (fixed : Bool) (iw : Nat) : ∀ a : Args, docAtoms (argsDocW fixed iw a) = argsAtomsW false fixed a :=
  fun a => (argsDocW_emits fixed iw a).atoms
theorem chainDocW_atoms (fixed : Bool) (iw : Nat) (k : ChainKind) : ∀ c : Chain, docAtoms (chainDocW fixed iw k c) = chainAtomsW false fixed c :=
  fun c => (chainDocW_emits fixed iw k c).atoms
theorem accsDocW_atoms (fixed : Bool) (iw : Nat) : ∀ a : Accs, docAtoms (accsDocW fixed iw a) = accsAtomsW false fixed a :=
  fun a => (accsDocW_emits fixed iw a).atoms
theorem argsDocW_safe (fixed : Bool) (iw : Nat) : ∀ a : Args, docSafe false (argsDocW fixed iw a) = some false :=
  fun a => (argsDocW_emits fixed iw a).safe
theorem chainDocW_safe (fixed : Bool) (iw : Nat) (k : ChainKind) : ∀ c : Chain, docSafe false (chainDocW fixed iw k c) = some false :=
  fun c => (chainDocW_emits fixed iw k c).safe
theorem accsDocW_safe (fixed : Bool) (iw : Nat) : ∀ a : Accs, docSafe false (accsDocW fixed iw a) = some false :=
  fun a => (accsDocW_emits fixed iw a).safe

theorem wtokAtoms_noLead (t : WTok) : wtokAtoms t = t.leading.map Atom.com ++ wtokAtoms t.noLead := by
  simp [wtokAtoms, WTok.noLead]

theorem opsAtoms_cons (t : WTok) (ts : List WTok) : opsAtoms (t :: ts) = wtokAtoms t ++ opsAtoms ts := rfl

theorem cstAtomsW_clearFirst (kt kc : Bool) : ∀ c : Cst,
    cstAtomsW kt kc c = (firstLeading c).map Atom.com ++ cstAtomsW kt kc (clearFirstLeading c)
  | .leaf t => wtokAtoms_noLead t
  | .paren l e r => by simp [firstLeading, clearFirstLeading, cstAtomsW, wtokAtoms_noLead l]
  | .unary [] e => cstAtomsW_clearFirst kt kc e
  | .unary (t :: ts) e => by simp [firstLeading, clearFirstLeading, cstAtomsW, opsAtoms, wtokAtoms_noLead t]
  | .chain k first rest => by simp [firstLeading, clearFirstLeading, cstAtomsW, cstAtomsW_clearFirst kt kc first]
  | .rel a op b => by simp [firstLeading, clearFirstLeading, cstAtomsW, cstAtomsW_clearFirst kt kc a]
  | .isIn a isT ty inT e => by simp [firstLeading, clearFirstLeading, cstAtomsW, cstAtomsW_clearFirst kt kc a]
  | .ite i c t a e b => by simp [firstLeading, clearFirstLeading, cstAtomsW, wtokAtoms_noLead i]
  | .brack l args r => by simp [firstLeading, clearFirstLeading, cstAtomsW, wtokAtoms_noLead l]
  | .recInit k colon v => by simp [firstLeading, clearFirstLeading, cstAtomsW, cstAtomsW_clearFirst kt kc k]
  | .member item accs => by simp [firstLeading, clearFirstLeading, cstAtomsW, cstAtomsW_clearFirst kt kc item]

namespace Emits

protected theorem annotDoc : (a : AnnotCst) → Emits false (annotDoc a) (annotAtoms a) false
  | ⟨atT, key, none⟩ => .of_eq (.cat (.tokDoc atT .nil) (.cat (.tokDoc key .nil) .hardline)) (by simp [annotAtoms])
  | ⟨atT, key, some (l, v, r)⟩ =>
    .of_eq (.cat (.tokDoc atT .nil) (.cat (.tokDoc key .nil) (.cat (.tokDoc l .nil) (.cat (.tokDoc v .nil) (.tokDoc r .hardline)))))
      (by simp [annotAtoms])

protected theorem annotsDoc : (as : List AnnotCst) → Emits false (annotsDoc as) (annotsAtoms as) false
  | [] => .nil
  | a :: as => .cat (.annotDoc a) (Emits.annotsDoc as)

protected theorem isPartDoc (iw : Nat) : (x : Option (WTok × Cst)) →
    Emits false (isPartDoc iw x) (match x with | none => [] | some (isT, ty) => wtokAtoms isT ++ cstAtomsW false true ty) false
  | none => .nil
  | some (isT, ty) =>
    .of_eq (.group (.nest (.cat (.group (.cat .line (.tokDoc isT .nil)))
      (.cat .line (.addComment _ _ (toDocW_emits true iw ty) .nil))))) (by simp)

protected theorem varDefDoc (iw : Nat) : (v : VarDefCst) → Emits false (varDefDoc iw v) (varDefAtomsW false true v) false
  | ⟨var, isPart, none⟩ => .of_eq (.cat (.tokDoc var .nil) (.isPartDoc iw isPart)) (by cases isPart <;> simp [varDefAtomsW])
  | ⟨var, isPart, some (op, rhs)⟩ =>
    .of_eq (.cat (.leadingDoc _) (.group (.cat
        (.group (.cat (.tok _) (.cat (.trailingDoc _ .nil) (.cat (.isPartDoc iw isPart) (.cat .line (.tokDoc op .nil))))))
        (.nest (.cat .line (toDocW_emits true iw rhs))))))
      (by cases isPart <;> simp [varDefAtomsW, wtokAtoms])

/-- the hoisted leading comments of the body are put back by `cstAtomsW_clearFirst` -/
protected theorem condDoc (iw : Nat) : (c : CondCst) → Emits false (condDoc iw c) (condAtomsW false true c) false
  | ⟨kw, lb, none, rb⟩ =>
    .of_eq (.cat (.leadingDoc _) (.group (.cat (.addComment _ _ (.tok _) .nil) (.cat (.trailingDoc _ .line)
        (.cat (.leadingDoc _) (.group (.cat (.tok _) (.cat (.trailingDoc _ .line) (.tokDoc rb .nil)))))))))
      (by simp [condAtomsW, wtokAtoms])
  | ⟨kw, lb, some e, rb⟩ =>
    .of_eq (.cat (.leadingDoc _) (.group (.cat (.addComment _ _ (.tok _) .nil) (.cat (.trailingDoc _ .line)
        (.cat (.leadingDoc _) (.cat (.tok _) (.group (.cat
          (.nest (.cat (.trailingDoc _ .line) (.cat (.leadingDoc _) (.group (toDocW_emits true iw _)))))
          (.cat .line (.tokDoc rb .nil))))))))))
      (by simp [condAtomsW, wtokAtoms, cstAtomsW_clearFirst false true e])

protected theorem condsDoc (iw : Nat) : (cs : List CondCst) → Emits false (condsDoc iw cs) (condsAtomsW false true cs) false
  | [] => .nil
  | [c] => .of_eq (.condDoc iw c) (by simp [condsAtomsW])
  | c :: c' :: cs => .of_eq (.cat (.condDoc iw c) (.cat .hardline (Emits.condsDoc iw (c' :: cs)))) (by simp [condsAtomsW])

protected theorem droppedCommaDoc : (tc : Option WTok) → Emits false (droppedCommaDoc tc) (trailingCommaAtoms false true tc) false
  | none => .addComment _ _ .nil .nil
  | some t => .commentsOnlyDoc t

protected theorem scopeDoc (iw : Nat) (p : PolicyCst) :
    Emits false (scopeDoc iw p) (varDefAtomsW false true p.principal ++ wtokAtoms p.comma1 ++
      varDefAtomsW false true p.action ++ wtokAtoms p.comma2 ++
      varDefAtomsW false true p.resource ++ trailingCommaAtoms false true p.trailingComma) false := by
  have vars {sep : Doc} (hs : Emits false sep [] false) := Emits.cat (.varDefDoc iw p.principal) (.cat (.tokDoc p.comma1 hs)
    (.cat (.varDefDoc iw p.action) (.cat (.tokDoc p.comma2 hs) (.cat (.varDefDoc iw p.resource) (.droppedCommaDoc p.trailingComma)))))
  unfold Fmt.scopeDoc
  split
  · exact .of_eq (.group (.nest (vars .space))) (by simp)
  · exact .of_eq (.cat (.nest (.cat .hardline (vars .hardline))) .hardline) (by simp)

protected theorem policyToDoc (iw : Nat) (p : PolicyCst) : Emits false (policyToDoc iw p) (policyAtomsW false true p) false :=
  have hrp : Emits false (if p.conds.isEmpty then .nil else .hardline) [] false := by split; exact .nil; exact .hardline
  .of_eq (.cat (.annotsDoc _) (.cat
      (.cat (.leadingDoc _) (.group (.cat (.tokDoc p.effect.noLead .nil) (.cat .line (.tokDoc p.lp .nil)))))
      (.cat (.scopeDoc iw p) (.cat (.tokDoc p.rp hrp) (.cat (.condsDoc iw _) (.tokDoc p.semi .nil))))))
    (by simp [policyAtomsW, wtokAtoms_noLead p.effect])

protected theorem policiesToDoc (iw : Nat) : (ps : List PolicyCst) → Emits false (policiesToDoc iw ps) (policiesAtomsW false true ps) false
  | [] => .nil
  | [p] => .of_eq (.policyToDoc iw p) (by simp [policiesAtomsW])
  | p :: p' :: ps =>
    .of_eq (.cat (.policyToDoc iw p) (.cat .hardline (.cat .hardline (Emits.policiesToDoc iw (p' :: ps))))) (by simp [policiesAtomsW])

end Emits

/-- `R` is reflexive, respects `++`, and relates what the two flag settings keep of a trailing comma: then it relates
    them on every syntax tree. -/
structure AtomsRel (R : List Atom → List Atom → Prop) (kt kc kt' kc' : Bool) : Prop where
  refl : ∀ as, R as as
  append : ∀ {as as' bs bs'}, R as as' → R bs bs' → R (as ++ bs) (as' ++ bs')
  comma : ∀ tc, R (trailingCommaAtoms kt kc tc) (trailingCommaAtoms kt' kc' tc)

namespace AtomsRel
variable {R : List Atom → List Atom → Prop} {kt kc kt' kc' : Bool} (H : AtomsRel R kt kc kt' kc')
include H

theorem left (as : List Atom) {bs bs'} (h : R bs bs') : R (as ++ bs) (as ++ bs') := H.append (H.refl as) h
theorem right {as as'} (h : R as as') (bs : List Atom) : R (as ++ bs) (as' ++ bs) := H.append h (H.refl bs)

mutual
theorem cst : ∀ c : Cst, R (cstAtomsW kt kc c) (cstAtomsW kt' kc' c)
  | .leaf _ => H.refl _
  | .paren _ e _ => H.right (H.left _ (cst e)) _
  | .unary _ e => H.left _ (cst e)
  | .chain _ first rest => H.append (cst first) (chain rest)
  | .rel a _ b => H.append (H.right (cst a) _) (cst b)
  | .isIn a _ ty _ e => H.append (H.right (H.append (H.right (cst a) _) (cst ty)) _) (cst e)
  | .ite _ c _ a _ b => H.append (H.right (H.append (H.right (H.left _ (cst c)) _) (cst a)) _) (cst b)
  | .brack _ as _ => H.right (H.left _ (args as)) _
  | .recInit k _ v => H.append (H.right (cst k) _) (cst v)
  | .member item as => H.append (cst item) (accs as)
theorem args : ∀ a : Args, R (argsAtomsW kt kc a) (argsAtomsW kt' kc' a)
  | .nil => H.refl _
  | .last e tc => H.append (cst e) (H.comma tc)
  | .cons e _ rest => H.append (H.right (cst e) _) (args rest)
theorem chain : ∀ c : Chain, R (chainAtomsW kt kc c) (chainAtomsW kt' kc' c)
  | .nil => H.refl _
  | .cons _ e rest => H.append (H.left _ (cst e)) (chain rest)
theorem accs : ∀ a : Accs, R (accsAtomsW kt kc a) (accsAtomsW kt' kc' a)
  | .nil => H.refl _
  | .field _ _ rest => H.left _ (accs rest)
  | .call _ as _ rest => H.append (H.right (H.left _ (args as)) _) (accs rest)
  | .index _ e _ rest => H.append (H.right (H.left _ (cst e)) _) (accs rest)
end

theorem varDef (v : VarDefCst) : R (varDefAtomsW kt kc v) (varDefAtomsW kt' kc' v) :=
  H.append
    (H.left _ (match v.isPart with | none => H.refl _ | some (_, ty) => H.left _ (H.cst ty)))
    (match v.ineq with | none => H.refl _ | some (_, rhs) => H.left _ (H.cst rhs))

theorem conds : ∀ cs : List CondCst, R (condsAtomsW kt kc cs) (condsAtomsW kt' kc' cs)
  | [] => H.refl _
  | ⟨_, _, none, _⟩ :: cs => H.left _ (conds cs)
  | ⟨_, _, some e, _⟩ :: cs => H.append (H.right (H.left _ (H.cst e)) _) (conds cs)

theorem policy (p : PolicyCst) : R (policyAtomsW kt kc p) (policyAtomsW kt' kc' p) :=
  H.right (H.append (H.right (H.append (H.append (H.right (H.append (H.right (H.left _
    (H.varDef p.principal)) _) (H.varDef p.action)) _) (H.varDef p.resource)) (H.comma p.trailingComma)) _)
    (H.conds p.conds)) _

theorem policies : ∀ ps : List PolicyCst, R (policiesAtomsW kt kc ps) (policiesAtomsW kt' kc' ps)
  | [] => H.refl _
  | p :: ps => H.append (H.policy p) (policies ps)

end AtomsRel

theorem commentsOf_append (a b : List Atom) : commentsOf (a ++ b) = commentsOf a ++ commentsOf b :=
  List.filter_append ..

/-- dropping the trailing `,` tokens (and nothing else) loses no comment -/
theorem commentsKept : AtomsRel (fun as bs => commentsOf as = commentsOf bs) false true true true where
  refl _ := rfl
  append h h' := by rw [commentsOf_append, commentsOf_append, h, h']
  comma
    | none => rfl
    | some t => by simp [trailingCommaAtoms, wtokComments, wtokAtoms, commentsOf, List.filter_append, isCom]

/-- dropping the trailing `,` tokens leaves a subsequence of the source -/
theorem sublistOfSource : AtomsRel List.Sublist false true true true where
  refl := .refl
  append := .append
  comma
    | none => .refl _
    | some _ => (List.sublist_append_left _ _).append (.refl _)

theorem cst_comments_kept : ∀ c : Cst, commentsOf (cstAtomsW false true c) = commentsOf (cstAtomsW true true c) :=
  commentsKept.cst
theorem args_comments_kept : ∀ a : Args, commentsOf (argsAtomsW false true a) = commentsOf (argsAtomsW true true a) :=
  commentsKept.args
theorem chain_comments_kept : ∀ c : Chain, commentsOf (chainAtomsW false true c) = commentsOf (chainAtomsW true true c) :=
  commentsKept.chain
theorem accs_comments_kept : ∀ a : Accs, commentsOf (accsAtomsW false true a) = commentsOf (accsAtomsW true true a) :=
  commentsKept.accs

theorem args_sublist : ∀ a : Args, (argsAtomsW false true a).Sublist (argsAtomsW true true a) :=
  sublistOfSource.args
theorem chain_sublist : ∀ c : Chain, (chainAtomsW false true c).Sublist (chainAtomsW true true c) :=
  sublistOfSource.chain
theorem accs_sublist : ∀ a : Accs, (accsAtomsW false true a).Sublist (accsAtomsW true true a) :=
  sublistOfSource.accs

theorem trailingComma_noComment (tc : Option WTok)
    (h : ∀ t, tc = some t → t.leading.isEmpty = true ∧ t.trailing.isEmpty = true) :
    trailingCommaAtoms false false tc = trailingCommaAtoms false true tc := by
  cases tc with
  | none => rfl
  | some t =>
    obtain ⟨h1, h2⟩ := h t rfl
    simp [List.isEmpty_iff] at h1 h2
    simp [trailingCommaAtoms, wtokComments, h1, h2]

mutual
theorem cst_noCTC : ∀ c : Cst, noCommentedTrailingComma c = true → cstAtomsW false false c = cstAtomsW false true c
  | .leaf t, _ => by simp [cstAtomsW]
  | .paren l e r, h => by simp [noCommentedTrailingComma] at h; simp [cstAtomsW, cst_noCTC e h]
  | .unary ops e, h => by simp [noCommentedTrailingComma] at h; simp [cstAtomsW, cst_noCTC e h]
  | .chain k first rest, h => by simp [noCommentedTrailingComma] at h; simp [cstAtomsW, cst_noCTC first h.1, chain_noCTC rest h.2]
  | .rel a op b, h => by simp [noCommentedTrailingComma] at h; simp [cstAtomsW, cst_noCTC a h.1, cst_noCTC b h.2]
  | .isIn a isT ty inT e, h => by
    simp [noCommentedTrailingComma] at h; simp [cstAtomsW, cst_noCTC a h.1.1, cst_noCTC ty h.1.2, cst_noCTC e h.2]
  | .ite i c t a e b, h => by
    simp [noCommentedTrailingComma] at h; simp [cstAtomsW, cst_noCTC c h.1.1, cst_noCTC a h.1.2, cst_noCTC b h.2]
  | .brack l args r, h => by simp [noCommentedTrailingComma] at h; simp [cstAtomsW, args_noCTC args h]
  | .recInit k colon v, h => by simp [noCommentedTrailingComma] at h; simp [cstAtomsW, cst_noCTC k h.1, cst_noCTC v h.2]
  | .member item accs, h => by simp [noCommentedTrailingComma] at h; simp [cstAtomsW, cst_noCTC item h.1, accs_noCTC accs h.2]
theorem args_noCTC : ∀ a : Args, argsNoCTC a = true → argsAtomsW false false a = argsAtomsW false true a
  | .nil, _ => by simp [argsAtomsW]
  | .last e none, h => by simp [argsNoCTC] at h; simp [argsAtomsW, cst_noCTC e h, trailingCommaAtoms]
  | .last e (some t), h => by
    simp only [argsNoCTC, Bool.and_eq_true] at h
    have ht := trailingComma_noComment (some t) (fun t' e' => Option.some.inj e' ▸ ⟨h.1.2, h.2⟩)
    simp only [argsAtomsW, cst_noCTC e h.1.1, ht]
  | .cons e comma rest, h => by simp [argsNoCTC] at h; simp [argsAtomsW, cst_noCTC e h.1, args_noCTC rest h.2]
theorem chain_noCTC : ∀ c : Chain, chainNoCTC c = true → chainAtomsW false false c = chainAtomsW false true c
  | .nil, _ => by simp [chainAtomsW]
  | .cons op e rest, h => by simp [chainNoCTC] at h; simp [chainAtomsW, cst_noCTC e h.1, chain_noCTC rest h.2]
theorem accs_noCTC : ∀ a : Accs, accsNoCTC a = true → accsAtomsW false false a = accsAtomsW false true a
  | .nil, _ => by simp [accsAtomsW]
  | .field dot name rest, h => by simp [accsNoCTC] at h; simp [accsAtomsW, accs_noCTC rest h]
  | .call l args r rest, h => by simp [accsNoCTC] at h; simp [accsAtomsW, args_noCTC args h.1, accs_noCTC rest h.2]
  | .index l e r rest, h => by simp [accsNoCTC] at h; simp [accsAtomsW, cst_noCTC e h.1, accs_noCTC rest h.2]
end

theorem Emits.visible {d : Doc} {as : List Atom} {q : Bool} (h : Emits false d as q) (ch : Nat → List Cmd → Bool)
    (col i : Nat) (m : Bool) : itemsVisible false (bestWith ch col [(i, m, d)]) = some as := by
  have := bestWith_safe ch col [(i, m, d)] false q (by simp [cmdsSafe, h.safe])
  simpa [cmdsAtoms, h.atoms] using this

theorem itemsVisible_atoms {xs : List Item} {p : Bool} {as : List Atom} (h : itemsVisible p xs = some as) :
    itemsAtoms xs = as := by
  induction xs generalizing p as with
  | nil => simpa [itemsVisible, itemsAtoms] using h
  | cons x xs ih =>
    cases x with
    | atom a =>
      -- an atom while a comment is pending would have been swallowed (`h` is absurd); otherwise peel it off
      cases a <;> cases p <;> simp [itemsVisible] at h
      all_goals
        obtain ⟨as', h1, rfl⟩ := h
        simp [itemsAtoms, ih h1]
    | sp => exact ih h
    | nl j => exact ih h

theorem itemsVisible_append_nl {a b : List Item} {as bs : List Atom} {i : Nat} {p : Bool}
    (ha : itemsVisible p a = some as) (hb : itemsVisible false b = some bs) :
    itemsVisible p (a ++ (.nl i :: b)) = some (as ++ bs) := by
  induction a generalizing as p with
  | nil => simp [itemsVisible] at ha; subst ha; simpa [itemsVisible] using hb
  | cons x a ih =>
    cases x with
    | atom a =>
      cases a <;> cases p <;> simp [itemsVisible] at ha
      all_goals
        obtain ⟨as', h1, rfl⟩ := ha
        simp [itemsVisible, ih h1]
    | sp => exact ih ha
    | nl j => exact ih ha

theorem itemsVisible_eofItems (eof : List (List Char)) : itemsVisible false (eofItems eof) = some (eof.map Atom.com) := by
  induction eof with
  | nil => simp [eofItems, itemsVisible]
  | cons c cs ih => simp [eofItems, itemsVisible, ih]

/-- Deciding equality of the characters is much less work for the kernel than deciding equality of two `String`s
    (UTF-8 byte arrays); `with_reducible rfl` proves `hs` for a literal `s` by reading its characters off. -/
theorem itemsToString_eq {xs : List Item} {cs : List Char} {s : String} (hs : String.ofList cs = s)
    (h : xs.flatMap Item.chars = cs) : itemsToString xs = s :=
  hs ▸ congrArg String.ofList h

theorem itemsVisible_joinPolicies {f : PolicyCst → List Item} {kt kc : Bool}
    (h : ∀ p, itemsVisible false (f p) = some (policyAtomsW kt kc p)) :
    ∀ ps, itemsVisible false (joinPolicies (ps.map f)) = some (policiesAtomsW kt kc ps)
  | [] => rfl
  | [p] => by simpa [joinPolicies, policiesAtomsW] using h p
  | p :: p' :: ps => itemsVisible_append_nl (h p) (itemsVisible_joinPolicies h (p' :: ps))

theorem renderPoliciesWith_visible (ch : Nat → List Cmd → Bool) (iw : Nat) (ps : List PolicyCst) (eof : List (List Char)) :
    itemsVisible false (renderPoliciesWith ch iw ps eof) = some (policySetAtomsW false true ps eof) :=
  itemsVisible_append_nl (itemsVisible_joinPolicies (fun p => (Emits.policyToDoc iw p).visible ch 0 0 false) ps)
    (itemsVisible_eofItems eof)

end Cedar.Fmt
