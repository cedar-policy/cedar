import CedarVerif.Lemmas.PartialConcretize
import CedarVerif.Cedar.ExprBeq
/-
C13 — partial evaluation with unknowns is sound.  Model: Cedar/Partial.lean (`pinterp`, `PartialResponse`, `reauthorize`);
lemmas: Lemmas/Partial*.lean.  The statement is proved in two forms — the substitution form (`evaluate ∘ substUnk`) and the
`reauthorize` form — on the fragments `Frag` and `Frag2 σ`, for concrete and partial stores, and lifted to policy sets; the
kernel-checked counterexamples show which hypotheses cannot be dropped.
`Frag` and `Frag2 σ` are formally incomparable: `Frag2.record` asks for pairwise distinct keys (what the parser and
`Expr::record` guarantee; without it `get_attr`'s projection — first binding — and record evaluation — last binding — differ
in the model), and the theorems on `Frag` assume `DRT` of the stored values and allow any first-pass mapper, those on
`Frag2 σ` assume `Value.Canon` (which implies `DRT`: `drt_of_canon`) and a first-pass mapper that is part of σ.
Left out w.r.t. `PinterpSoundFull`:
  * `U` over-approximates the dereferenced uids (a mentioned uid that is never dereferenced must still be present or bound);
  * `StoreCompletes` is stated through `evaluate ∘ substUnk` of a residual attribute, not through `RestrictedEvaluator`
    (`rinterp`); for the request this link is proved (`concretize_request_sound`), for attribute values of the store it is
    not (the Rust API takes the substituted store as an input, there is no `Entities::substitute` to mirror);
  * `UnknownCallSoundFull`: the congruence "first pass of `e` = first pass of `desugarUnk e` up to desugaring of residuals"
    through all arms of `partial_interpret`; calls `unknown(e)` with a computed name have no static desugaring at all.
-/
namespace Cedar.C13
open Cedar

/-- **table_sound** (full, combinatorial).  For every completion `out` of the policies to final outcomes that is
consistent with what partial evaluation established (satisfied / false / errored stay so, residuals arbitrary):
a definite partial decision is the concrete decision; `must ⊆ determining ⊆ may`; the definite buckets keep
their outcome.  Holds for arbitrary policy lists, partial requests, stores and mappers. -/
theorem table_sound (m : Mapper) (req : PRequest) (es : PEntities) (ps : List Policy) (out : Policy → Outcome)
    (hc : ∀ p, p ∈ ps → Consistent (partialEvaluate m req es p) (out p)) :
    let pr := isAuthorizedCore m req es ps
    (∀ d, pr.decision = some d → concreteDecision ps out = d) ∧
    (∀ id, id ∈ pr.mustBeDetermining → id ∈ determining ps out) ∧
    (∀ id, id ∈ determining ps out → id ∈ pr.mayBeDetermining) ∧
    (∀ id, id ∈ pr.definitelySatisfied → ∃ p, p ∈ ps ∧ p.id = id ∧ out p = .sat) ∧
    (∀ id, id ∈ pr.definitelyErrored → ∃ p, p ∈ ps ∧ p.id = id ∧ out p = .err) ∧
    (∀ id, id ∈ pr.definitelyFalse → ∃ p, p ∈ ps ∧ p.id = id ∧ out p = .unsat) := by
  intro pr
  obtain ⟨h1, h2, h3⟩ := table_sound_core m req es ps out hc
  obtain ⟨h4, h5, h6⟩ := definite_sound_core m req es ps out hc
  exact ⟨h1, h2, h3, h4, h5, h6⟩

/-- non-vacuity of `table_sound`: unknown principal; a satisfied permit, a residual permit, an errored forbid.
    The partial decision is `allow`, must = {p1}, may = {p1, p2}. -/
example :
    let req : PRequest := ⟨.unknown (some "U"), .known ⟨"A", "x"⟩, .known ⟨"R", "r"⟩, some (.value [])⟩
    let es : PEntities := ⟨[], false⟩
    let p1 : Policy := ⟨"p1", .permit, .lit (.bool true), []⟩
    let p2 : Policy := ⟨"p2", .permit, .binaryApp .eq (.var .principal) (.lit (.entityUID ⟨"U", "a"⟩)), []⟩
    let p3 : Policy := ⟨"p3", .forbid, .getAttr (.var .context) "nosuch", []⟩
    let pr := isAuthorizedCore [] req es [p1, p2, p3]
    pr.decision = some .allow ∧ pr.mustBeDetermining = ["p1"] ∧ pr.mayBeDetermining = ["p1", "p2"] ∧
    pr.definitelyErrored = ["p3"] := by
  decide +kernel


/-- **Full statement of `pinterp_sound`** (DESIGN.md §6 C13), kept visible; FALSE as written
(`pinterpSoundFull_needs_cover` below: σ must also define every unknown node).
For every substitution σ respecting the type annotations, every concretisation of the request and every
completion of the store: substituting σ into what partial interpretation returned evaluates like the substituted
original expression (equal values modulo `Value.beq`, or both errors), and a definite error of partial
interpretation means the concrete evaluation errors.  All expression forms, residual contexts, unknown attribute
values and `.partial()` stores are included. -/
def PinterpSoundFull : Prop :=
  ∀ (σ : Mapper) (preq : PRequest) (pes : PEntities) (req : Request) (es : Entities) (env : SlotEnv) (e : Expr) (n : Nat),
    ConcretizesFull σ preq req → StoreCompletes σ pes es →
    RespectsTypes σ (e.unknowns ++ preq.unknowns ++ pes.unknowns) →
    match pinterp [] preq pes env n e with
    | .val v => ResultAgree (evaluate req es env (v.toExpr.substUnk σ)) (evaluate req es env (e.substUnk σ))
    | .res r => ResultAgree (evaluate req es env (r.substUnk σ)) (evaluate req es env (e.substUnk σ))
    | .err _ => ∃ c, evaluate req es env (e.substUnk σ) = .error c
    | .fuel => True
    | .panic => True

/-- **the full statement needs a covering substitution** (observation about the *statement*, not about the code):
`PinterpSoundFull` as written only asks σ to respect the annotations of the unknowns it defines.  The typed-unknown short
circuits (`unknown(x: A) == B::"b"` is `false`, `… is A` is `true`) answer for every later value of the declared type,
whereas evaluating the substituted expression with `x` still unknown is an error; so for σ = ∅ the statement fails.
`pinterp_sound_subst` therefore requires σ to define every unknown node (`UnkOK` in `Frag2.unknown`) — the same
reading as "for every substitution *of the unknowns*" in DESIGN.md. -/
theorem pinterpSoundFull_needs_cover : ¬ PinterpSoundFull := by
  intro h
  let preq : PRequest := ⟨.known ⟨"U", "a"⟩, .known ⟨"A", "x"⟩, .known ⟨"R", "r"⟩, some (.value [])⟩
  let req : Request := ⟨⟨"U", "a"⟩, ⟨"A", "x"⟩, ⟨"R", "r"⟩, []⟩
  let e : Expr := .binaryApp .eq (.unknown "x" (some (.entity "A"))) (.lit (.entityUID ⟨"B", "b"⟩))
  have hC : ConcretizesFull [] preq req := ⟨rfl, rfl, rfl, rfl⟩
  have hS : StoreCompletes [] ⟨[], false⟩ [] := by intro u; rfl
  have hR : RespectsTypes [] (e.unknowns ++ preq.unknowns ++ (⟨[], false⟩ : PEntities).unknowns) := by
    intro n t v _ hl; simp [lookupKV] at hl
  have := h [] preq ⟨[], false⟩ req [] [] e 3 hC hS hR
  have hx : pinterp [] preq ⟨[], false⟩ [] 3 e = .val (.prim (.bool false)) := rfl
  rw [hx] at this
  rcases this with ⟨v, w, _, h2, _⟩ | ⟨c, c', h1, _⟩
  · simp [e, Expr.substUnk, lookupKV, evaluate] at h2
  · simp [Value.toExpr, Expr.substUnk, evaluate] at h1

/-- **pinterp_sound_partial**: `PinterpSoundFull` restricted to the fragment `Frag` — every expression form except unknown
nodes and `.`/`has` applied directly to a record constructor or an `if` with such a branch (`NR`) —, a concrete store, and
context / attribute / tag values that survive `Value.toExpr` (`DRT`).  The residual is evaluated the way `reauthorize` does it
(same interpreter, mapper σ, concretised request); `Sem` = equal values, or both errors (error classes may differ).
Missing w.r.t. the full statement: the `NR` cases, unknowns in the policy text, residual contexts, unknown attribute
values, `.partial()` stores, and the `subst`-form. -/
theorem pinterp_sound_partial (σ : Mapper) (req : Request) (es : Entities) (env : SlotEnv)
    (hctx : (Value.record req.context).DRT) (hstore : StoreDRT es) {e : Expr} (hf : Frag e)
    (m0 : Mapper) (preq : PRequest) (n : Nat) (hC : Concretizes σ preq req) :
    match pinterp m0 preq (.ofConcrete es) env n e with
    | .val v => evaluate req es env e = .ok v
    | .err _ => ∃ c, evaluate req es env e = .error c
    | .res r => ∀ n', Sem (pinterp σ (.ofConcrete req) (.ofConcrete es) env n' r) (evaluate req es env e)
    | .fuel => True
    | .panic => True := by
  have h := pinterp_sound_frag σ req es env hctx hstore hf m0 preq n hC
  cases hx : pinterp m0 preq (.ofConcrete es) env n e with
  | val v => rw [hx] at h; exact h.1
  | err c => rw [hx] at h; exact h
  | res r => rw [hx] at h; exact h.2.2
  | fuel => trivial
  | panic => trivial

/-- non-vacuity of `pinterp_sound_partial`: `principal == U::"a" && !(context has x)` with a typed unknown
    principal leaves a residual; the hypotheses are satisfiable and the conclusion is about that residual. -/
example :
    let σ : Mapper := [("principal", .prim (.entityUID ⟨"U", "a"⟩))]
    let req : Request := ⟨⟨"U", "a"⟩, ⟨"A", "x"⟩, ⟨"R", "r"⟩, []⟩
    let preq : PRequest := ⟨.unknown (some "U"), .known ⟨"A", "x"⟩, .known ⟨"R", "r"⟩, some (.value [])⟩
    let e : Expr := .and (.binaryApp .eq (.var .principal) (.lit (.entityUID ⟨"U", "a"⟩)))
                         (.unaryApp .not (.hasAttr (.var .context) "x"))
    (∃ r, pinterp [] preq (.ofConcrete []) [] 10 e = .res r) ∧
    ∀ n', Sem (pinterp σ (.ofConcrete req) (.ofConcrete []) [] n'
        (.and (.binaryApp .eq (.unknown "principal" (some (.entity "U"))) (.lit (.entityUID ⟨"U", "a"⟩))) (.lit (.bool true))))
      (evaluate req [] [] e) := by
  intro σ req preq e
  have hf : Frag e := .and (.binaryApp .eq (.var _) (.lit _)) (.unaryApp .not (.hasAttr "x" trivial (.var _)))
  have hC : Concretizes σ preq req := ⟨⟨rfl, rfl⟩, rfl, rfl, rfl⟩
  have hctx : (Value.record req.context).DRT := ⟨RT_emptyRecord, trivial⟩
  have hst : StoreDRT [] := by intro u d h; cases h
  have h := pinterp_sound_partial σ req [] [] hctx hst hf [] preq 10 hC
  exact ⟨⟨_, rfl⟩, h⟩

/-- non-vacuity for the constructors and the store-dependent operators: `[principal, User::"b"].contains(resource.owner)
    && context.d.lessThan(context.lim) && principal in Group::"g"` with an unknown principal is in the fragment and leaves
    a residual containing a residual set and a residual `in`. -/
example :
    let e : Expr := .and (.binaryApp .contains (.set [.var .principal, .lit (.entityUID ⟨"User", "b"⟩)]) (.getAttr (.var .resource) "owner"))
                     (.and (.call "lessThan" [.getAttr (.var .context) "d", .getAttr (.var .context) "lim"])
                           (.binaryApp .mem (.var .principal) (.lit (.entityUID ⟨"Group", "g"⟩))))
    let preq : PRequest := ⟨.unknown (some "User"), .known ⟨"A", "x"⟩, .known ⟨"R", "r"⟩,
      some (.value [("d", .ext (.decimal 10000)), ("lim", .ext (.decimal 20000))])⟩
    Frag e ∧ ∃ r, pinterp [] preq (.ofConcrete [(⟨"R", "r"⟩, ⟨[("owner", .prim (.entityUID ⟨"User", "b"⟩))], [], []⟩)]) [] 10 e = .res r := by
  intro e preq
  refine ⟨?_, _, rfl⟩
  refine .and (.binaryApp .contains (.set ?_) (.getAttr "owner" trivial (.var _)))
    (.and (.call "lessThan" (by decide) (callDRT_decimalCmp _ (Or.inl rfl)) ?_) (.binaryApp .mem (.var _) (.lit _)))
  · intro x hx
    simp only [List.mem_cons, List.not_mem_nil, or_false] at hx
    rcases hx with rfl | rfl
    · exact .var _
    · exact .lit _
  · intro x hx
    simp only [List.mem_cons, List.not_mem_nil, or_false] at hx
    rcases hx with rfl | rfl
    · exact .getAttr "d" trivial (.var _)
    · exact .getAttr "lim" trivial (.var _)

/-- … and for record constructors: `{a: principal, b: 1} == context.r` with an unknown principal leaves the residual
    `{a: unknown(principal), b: 1} == {a: User::"u", b: 1}` (the record value converted back by `Value.toExpr`). -/
example :
    let e : Expr := .binaryApp .eq (.record [("a", .var .principal), ("b", .lit (.int 1))]) (.getAttr (.var .context) "r")
    let preq : PRequest := ⟨.unknown (some "User"), .known ⟨"A", "x"⟩, .known ⟨"R", "r"⟩,
      some (.value [("r", .record [("a", .prim (.entityUID ⟨"User", "u"⟩)), ("b", .prim (.int 1))])])⟩
    Frag e ∧ pinterp [] preq (.ofConcrete []) [] 10 e =
      .res (.binaryApp .eq (.record [("a", .unknown "principal" (some (.entity "User"))), ("b", .lit (.int 1))])
                           (.record [("a", .lit (.entityUID ⟨"User", "u"⟩)), ("b", .lit (.int 1))])) := by
  intro e preq
  refine ⟨.binaryApp .eq (.record ?_) (.getAttr "r" trivial (.var _)), rfl⟩
  intro kv hkv
  simp only [List.mem_cons, List.not_mem_nil, or_false] at hkv
  rcases hkv with rfl | rfl
  · exact .var _
  · exact .lit _

/-- **reauthorize_eq_fresh** (given soundness of the residuals at policy level).  If the substitution concretises
the partial request to `req'`, no residual kept a template slot (otherwise `reauthorize` panics — the recorded
finding), and every policy's residual policy — re-evaluated with the mapper σ on the concretised request and
store, exactly as `reauthorize` does — is satisfied iff the policy is satisfied concretely (`PolicyAgrees`, the
policy-level consequence of `pinterp_sound`), then `reauthorize` succeeds and yields the decision and the
determining policies of the fresh concrete authorization `isAuthorized req' es' ps`. -/
theorem reauthorize_eq_fresh (σ : Mapper) (preq : PRequest) (pes : PEntities) (ps : List Policy)
    (req' : Request) (es' : Entities)
    (hreq : (isAuthorizedCore [] preq pes ps).concretizeRequest σ = .ok (.ofConcrete req'))
    (hslot : (isAuthorizedCore [] preq pes ps).residualPoliciesPanic = false)
    (hsound : ∀ p, p ∈ ps → PolicyAgrees σ preq pes req' es' p) :
    ∃ pr2, (isAuthorizedCore [] preq pes ps).reauthorize σ (.ofConcrete es') = .ok pr2 ∧
      pr2.decision = some (isAuthorized req' es' ps).decision ∧
      pr2.concretize.decision = (isAuthorized req' es' ps).decision ∧
      (∀ id, id ∈ pr2.concretize.reasons ↔ id ∈ (isAuthorized req' es' ps).reasons) :=
  reauthorize_core_on (.ofConcrete es') σ preq pes ps req' es' hreq hslot hsound

/-- non-vacuity of `reauthorize_eq_fresh`: unknown typed principal, one residual permit, one unsatisfied forbid
    guarded by the context; all hypotheses hold for the substitution principal ↦ U::"a". -/
example :
    let σ : Mapper := [("principal", .prim (.entityUID ⟨"U", "a"⟩))]
    let req' : Request := ⟨⟨"U", "a"⟩, ⟨"A", "x"⟩, ⟨"R", "r"⟩, []⟩
    let preq : PRequest := ⟨.unknown (some "U"), .known ⟨"A", "x"⟩, .known ⟨"R", "r"⟩, some (.value [])⟩
    let p1 : Policy := ⟨"p1", .permit, .unaryApp .not (.hasAttr (.var .principal) "blocked"), []⟩
    let p2 : Policy := ⟨"p2", .forbid, .hasAttr (.var .context) "x", []⟩
    (isAuthorizedCore [] preq ⟨[], false⟩ [p1, p2]).concretizeRequest σ = .ok (.ofConcrete req') ∧
    (isAuthorizedCore [] preq ⟨[], false⟩ [p1, p2]).residualPoliciesPanic = false ∧
    PolicyAgrees σ preq ⟨[], false⟩ req' [] p1 ∧ PolicyAgrees σ preq ⟨[], false⟩ req' [] p2 ∧
    (isAuthorizedCore [] preq ⟨[], false⟩ [p1, p2]).decision = none ∧
    (isAuthorized req' [] [p1, p2]).decision = .allow := by
  intro σ req' preq p1 p2
  refine ⟨rfl, rfl, ⟨_, rfl, ?_⟩, ⟨_, rfl, ?_⟩, rfl, ?_⟩
  · show p1.outcome req' [] = .sat
    rfl
  · show p2.outcome req' [] ≠ .sat
    decide
  · rfl


/-- **reauthorize_eq_fresh_frag**: the two results composed, without a soundness hypothesis.  For static policies
whose conditions lie in the fragment of `pinterp_sound_partial`, a concrete store and a substitution σ that
concretises the partial request: `reauthorize σ` returns the decision and determining policies of the fresh
concrete authorization.  (`hfuel*`: neither pass exhausts the model's recursion budget — an outcome the driver
reports explicitly; `hslot`: see the recorded finding.) -/
theorem reauthorize_eq_fresh_frag (σ : Mapper) (req : Request) (es : Entities) (preq : PRequest) (ps : List Policy)
    (hctx : (Value.record req.context).DRT) (hstore : StoreDRT es) (hC : Concretizes σ preq req)
    (hfrag : ∀ p, p ∈ ps → p.env = [] ∧ Frag p.condition)
    (hreq : (isAuthorizedCore [] preq (.ofConcrete es) ps).concretizeRequest σ = .ok (.ofConcrete req))
    (hslot : (isAuthorizedCore [] preq (.ofConcrete es) ps).residualPoliciesPanic = false)
    (hfuel1 : ∀ p, p ∈ ps → partialEvaluate [] preq (.ofConcrete es) p ≠ .stuck)
    (hfuel2 : ∀ p, p ∈ ps → ∀ q, residualPolicy (partialEvaluate [] preq (.ofConcrete es) p) p = some q →
      partialEvaluate σ (.ofConcrete req) (.ofConcrete es) q ≠ .stuck) :
    ∃ pr2, (isAuthorizedCore [] preq (.ofConcrete es) ps).reauthorize σ (.ofConcrete es) = .ok pr2 ∧
      pr2.decision = some (isAuthorized req es ps).decision ∧
      pr2.concretize.decision = (isAuthorized req es ps).decision ∧
      (∀ id, id ∈ pr2.concretize.reasons ↔ id ∈ (isAuthorized req es ps).reasons) :=
  reauthorize_core_on (.ofConcrete es) σ preq (.ofConcrete es) ps req es hreq hslot
    (fun p hp => policyAgrees_of_frag σ req es hctx hstore preq hC p (hfrag p hp).1 (hfrag p hp).2 (hfuel2 p hp) (hfuel1 p hp))

/-- **callDRT_every**: the side condition `CallDRT` of `Frag.call` holds for *every* extension function — constructors
(`decimal`, `ip`, `datetime`, `duration`), `offset`, `durationSince`, `toDate`, `toTime` included: what they return lies in
the value range of the Rust types (i64 payloads, u32/u128 addresses with prefix ≤ 32/128 — proved from the parsers and
the checked arithmetic), and on that range the canonical constructor call `Ext.toExpr` parses back to the value (decimal,
duration, datetime, IPv4: the renderings coincide with the JSON canonical renderings of C10 and `extRoundTrip_*`'s
parse lemmas are reused; IPv6: the model renders the eight groups uncompressed, so IPv4-mapped addresses round-trip too). -/
theorem callDRT_every (fn : String) : CallDRT fn := callDRT_all fn

/-- values as Rust holds them (`Value.Canon`: canonical sets, key-sorted records, extension payloads in range) satisfy
the round-trip hypothesis `DRT` of `pinterp_sound_partial` (for `StoreDRT`: `storeDRT_of_canon`). -/
theorem drt_of_canon (v : Value) (h : v.Canon) : v.DRT := DRT_of_canon v h

example : CallDRT "ip" ∧ (Value.ext (.ipaddr true 0xffff01020304 128)).DRT ∧ (Value.ext (.decimal (-15000))).DRT :=
  ⟨callDRT_every _, drt_of_canon _ (show _ ∧ _ from ⟨by decide, by decide⟩), drt_of_canon _ (show inI64 (-15000) = true by decide)⟩

/-- **pinterp_sound_subst** — `PinterpSoundFull` (the `evaluate ∘ substUnk` form) on the fragment `Frag2 σ`, a concrete
store and a value-or-missing context.  `Frag2 σ`: every expression form — literals, variables, slots, **unknown nodes**
(σ must define them, with a canonical value of the annotated type), `&&`, `||`, `if`, all unary and binary operators,
`.`/`has` on anything (**including record constructors**: `get_attr`'s projection arm, which re-interprets a component of
the residual record, and the non-projectable arm), `like`, `is`, sets, records with pairwise distinct keys, **every
extension function** except the `unknown` function itself.  Hypotheses: the first-pass mapper is part of σ (`MapLE`; `[]`
in `is_authorized_core`), σ concretises the request, context / attribute / tag values are values as Rust holds them
(`Value.Canon`).  Conclusion: a value is the value of the substituted expression (and converting it back evaluates to
it); an error means the substituted expression errors; a residual, substituted, evaluates like the substituted
expression (equal values — strict equality, stronger than `Value.beq` — or both errors). -/
theorem pinterp_sound_subst (σ : Mapper) (req : Request) (es : Entities) (env : SlotEnv)
    (hctx : (Value.record req.context).Canon) (hstore : PS.StoreCanon es) {e : Expr} (hf : PS.Frag2 σ e)
    (m0 : Mapper) (preq : PRequest) (n : Nat) (hm : PS.MapLE m0 σ) (hC : Concretizes σ preq req) :
    match pinterp m0 preq (.ofConcrete es) env n e with
    | .val v => evaluate req es env (v.toExpr.substUnk σ) = .ok v ∧ evaluate req es env (e.substUnk σ) = .ok v
    | .err _ => ∃ c, evaluate req es env (e.substUnk σ) = .error c
    | .res r => PS.Agree (evaluate req es env (r.substUnk σ)) (evaluate req es env (e.substUnk σ))
    | .fuel => True
    | .panic => True :=
  (PS.pinterp_sound_concrete σ req es env hctx hstore m0 preq hm hC n e hf).substForm

/-- **pinterp_sound_partial2** — the `reauthorize` form on `Frag2 σ`: the residual, re-interpreted the way `reauthorize`
does it (same interpreter, mapper σ, concretised request and store), agrees with the concrete evaluation of the
substituted expression.  Obtained from `pinterp_sound_subst` and the bridge "with a mapper that defines every unknown,
partial interpretation on a concrete request and store leaves no residual and computes `evaluate ∘ substUnk σ`". -/
theorem pinterp_sound_partial2 (σ : Mapper) (req : Request) (es : Entities) (env : SlotEnv)
    (hctx : (Value.record req.context).Canon) (hstore : PS.StoreCanon es) {e : Expr} (hf : PS.Frag2 σ e)
    (m0 : Mapper) (preq : PRequest) (n : Nat) (hm : PS.MapLE m0 σ) (hC : Concretizes σ preq req) :
    match pinterp m0 preq (.ofConcrete es) env n e with
    | .val v => evaluate req es env (e.substUnk σ) = .ok v
    | .err _ => ∃ c, evaluate req es env (e.substUnk σ) = .error c
    | .res r => ∀ n', Sem (pinterp σ (.ofConcrete req) (.ofConcrete es) env n' r) (evaluate req es env (e.substUnk σ))
    | .fuel => True
    | .panic => True :=
  PS.Sound2.reauthForm (fun _ hfr => PS.bridge σ req es env hctx hstore hfr)
    (PS.pinterp_sound_concrete σ req es env hctx hstore m0 preq hm hC n e hf)

/-- non-vacuity (a): `!({a: principal, b: 1}.a in Group::"g")` with a typed unknown principal — the record constructor
    leaves a projectable residual record, `get_attr` projects into it and re-interprets the component; the residual is
    `!(unknown(principal) in Group::"g")`. -/
example :
    let σ : Mapper := [("principal", .prim (.entityUID ⟨"User", "u"⟩))]
    let req : Request := ⟨⟨"User", "u"⟩, ⟨"A", "x"⟩, ⟨"R", "r"⟩, []⟩
    let preq : PRequest := ⟨.unknown (some "User"), .known ⟨"A", "x"⟩, .known ⟨"R", "r"⟩, some (.value [])⟩
    let e : Expr := .unaryApp .not (.binaryApp .mem (.getAttr (.record [("a", .var .principal), ("b", .lit (.int 1))]) "a")
                      (.lit (.entityUID ⟨"Group", "g"⟩)))
    let r : Expr := .unaryApp .not (.binaryApp .mem (.unknown "principal" (some (.entity "User"))) (.lit (.entityUID ⟨"Group", "g"⟩)))
    pinterp [] preq (.ofConcrete []) [] 10 e = .res r ∧
    PS.Agree (evaluate req [] [] (r.substUnk σ)) (evaluate req [] [] (e.substUnk σ)) ∧
    (⟨"q", .permit, e.substUnk σ, []⟩ : Policy).outcome req [] = .sat := by
  intro σ req preq e r
  have hf : PS.Frag2 σ e := by
    refine .unaryApp .not (.binaryApp .mem (.getAttr "a" (.record (by decide) ?_)) (.lit _))
    intro kv hkv
    simp only [List.mem_cons, List.not_mem_nil, or_false] at hkv
    rcases hkv with rfl | rfl
    · exact .var _
    · exact .lit _
  have hC : Concretizes σ preq req := ⟨⟨rfl, rfl⟩, rfl, rfl, rfl⟩
  have hctx : (Value.record req.context).Canon := ⟨trivial, trivial⟩
  have hst : PS.StoreCanon [] := by intro u d h; cases h
  have hx : pinterp [] preq (.ofConcrete []) [] 10 e = .res r := rfl
  have h := pinterp_sound_subst σ req [] [] hctx hst hf [] preq 10 (PS.MapLE.nil σ) hC
  rw [hx] at h
  exact ⟨hx, h, by decide +kernel⟩

/-- non-vacuity (b), (c): an unknown node in the expression and a constructor call — `unknown(x: long) < 5 &&
    context.lim.lessThan(decimal("1.5"))` with a missing context; σ maps `x` and `context`. -/
example :
    let σ : Mapper := [("x", .prim (.int 3)), ("context", .record [("lim", .ext (.decimal 10000))])]
    let req : Request := ⟨⟨"User", "u"⟩, ⟨"A", "x"⟩, ⟨"R", "r"⟩, [("lim", .ext (.decimal 10000))]⟩
    let preq : PRequest := ⟨.known ⟨"User", "u"⟩, .known ⟨"A", "x"⟩, .known ⟨"R", "r"⟩, none⟩
    let e : Expr := .and (.binaryApp .less (.unknown "x" (some .long)) (.lit (.int 5)))
                      (.call "lessThan" [.getAttr (.var .context) "lim", .call "decimal" [.lit (.string "1.5")]])
    PS.Frag2 σ e ∧ Concretizes σ preq req ∧ (∃ r, pinterp [] preq (.ofConcrete []) [] 10 e = .res r) ∧
    (⟨"q", .permit, e.substUnk σ, []⟩ : Policy).outcome req [] = .sat := by
  intro σ req preq e
  refine ⟨?_, ⟨rfl, rfl, rfl, rfl⟩, ⟨_, rfl⟩, by decide +kernel⟩
  refine .and (.binaryApp .less (.unknown "x" _ ⟨_, rfl, trivial, ?_⟩) (.lit _)) (.call "lessThan" (by decide) ?_)
  · intro t ht; cases ht; rfl
  · intro x hx
    simp only [List.mem_cons, List.not_mem_nil, or_false] at hx
    rcases hx with rfl | rfl
    · exact .getAttr "lim" (.var _)
    · refine .call "decimal" (by decide) ?_
      intro y hy
      simp only [List.mem_cons, List.not_mem_nil, or_false] at hy
      subst hy; exact .lit _

/-- **reauthorize_eq_fresh_frag2**: `reauthorize_eq_fresh` without a soundness hypothesis on the larger fragment: static
policies without unknown nodes in their text (what the parser produces; `unknown("x")` *calls* are excluded from `Frag2`)
whose conditions lie in `Frag2 σ`, a concrete store and a request with canonical values, σ concretising the partial
request: `reauthorize σ` returns the decision and determining policies of the fresh concrete authorization. -/
theorem reauthorize_eq_fresh_frag2 (σ : Mapper) (req : Request) (es : Entities) (preq : PRequest) (ps : List Policy)
    (hctx : (Value.record req.context).Canon) (hstore : PS.StoreCanon es) (hC : Concretizes σ preq req)
    (hfrag : ∀ p, p ∈ ps → p.env = [] ∧ PS.Frag2 σ p.condition ∧ p.condition.unknowns = [])
    (hreq : (isAuthorizedCore [] preq (.ofConcrete es) ps).concretizeRequest σ = .ok (.ofConcrete req))
    (hslot : (isAuthorizedCore [] preq (.ofConcrete es) ps).residualPoliciesPanic = false)
    (hfuel1 : ∀ p, p ∈ ps → partialEvaluate [] preq (.ofConcrete es) p ≠ .stuck)
    (hfuel2 : ∀ p, p ∈ ps → ∀ q, residualPolicy (partialEvaluate [] preq (.ofConcrete es) p) p = some q →
      partialEvaluate σ (.ofConcrete req) (.ofConcrete es) q ≠ .stuck) :
    ∃ pr2, (isAuthorizedCore [] preq (.ofConcrete es) ps).reauthorize σ (.ofConcrete es) = .ok pr2 ∧
      pr2.decision = some (isAuthorized req es ps).decision ∧
      pr2.concretize.decision = (isAuthorized req es ps).decision ∧
      (∀ id, id ∈ pr2.concretize.reasons ↔ id ∈ (isAuthorized req es ps).reasons) :=
  (PS.authorization_sound_of σ req es (.ofConcrete es) (fun _ hf n => PS.bridge σ req es [] hctx hstore hf n) preq _ ps
    (fun p hp => PS.pinterp_sound_concrete σ req es p.env hctx hstore [] preq (PS.MapLE.nil σ) hC defaultFuel p.condition (hfrag p hp).2.1)
    (fun p hp => (hfrag p hp).2.2) hreq hslot hfuel1 hfuel2).1

/-- non-vacuity of `reauthorize_eq_fresh_frag2`: a permit whose condition projects out of a record constructor holding
    the unknown principal; all hypotheses hold and the residual re-evaluates. -/
example :
    let σ : Mapper := [("principal", .prim (.entityUID ⟨"User", "u"⟩))]
    let req : Request := ⟨⟨"User", "u"⟩, ⟨"A", "x"⟩, ⟨"R", "r"⟩, []⟩
    let preq : PRequest := ⟨.unknown (some "User"), .known ⟨"A", "x"⟩, .known ⟨"R", "r"⟩, some (.value [])⟩
    let p1 : Policy := ⟨"p1", .permit, .unaryApp .not (.binaryApp .mem (.getAttr (.record [("a", .var .principal), ("b", .lit (.int 1))]) "a")
                      (.lit (.entityUID ⟨"Group", "g"⟩))), []⟩
    (isAuthorizedCore [] preq (.ofConcrete []) [p1]).decision = none ∧
    ∃ pr2, (isAuthorizedCore [] preq (.ofConcrete []) [p1]).reauthorize σ (.ofConcrete []) = .ok pr2 ∧
      pr2.decision = some (isAuthorized req [] [p1]).decision ∧ (isAuthorized req [] [p1]).decision = .allow := by
  intro σ req preq p1
  have hf : PS.Frag2 σ p1.condition := by
    refine .unaryApp .not (.binaryApp .mem (.getAttr "a" (.record (by decide) ?_)) (.lit _))
    intro kv hkv
    simp only [List.mem_cons, List.not_mem_nil, or_false] at hkv
    rcases hkv with rfl | rfl
    · exact .var _
    · exact .lit _
  have hC : Concretizes σ preq req := ⟨⟨rfl, rfl⟩, rfl, rfl, rfl⟩
  have hctx : (Value.record req.context).Canon := ⟨trivial, trivial⟩
  have hst : PS.StoreCanon [] := by intro u d h; cases h
  obtain ⟨pr2, h1, h2, _, _⟩ := reauthorize_eq_fresh_frag2 σ req [] preq [p1] hctx hst hC
    (by intro p hp; simp only [List.mem_cons, List.not_mem_nil, or_false] at hp; subst hp; exact ⟨rfl, hf, rfl⟩)
    rfl rfl
    (by intro p hp; simp only [List.mem_cons, List.not_mem_nil, or_false] at hp; subst hp
        have h0 : partialEvaluate [] preq (.ofConcrete []) p1 = .residual (.unaryApp .not (.binaryApp .mem (.unknown "principal" (some (.entity "User"))) (.lit (.entityUID ⟨"Group", "g"⟩)))) := rfl
        rw [h0]; intro h; cases h)
    (by intro p hp q hq; simp only [List.mem_cons, List.not_mem_nil, or_false] at hp; subst hp
        have h0 : residualPolicy (partialEvaluate [] preq (.ofConcrete []) p1) p1 = some ⟨"p1", .permit, residualCondition (.unaryApp .not (.binaryApp .mem (.unknown "principal" (some (.entity "User"))) (.lit (.entityUID ⟨"Group", "g"⟩)))), []⟩ := rfl
        rw [h0] at hq; cases hq
        have h1 : partialEvaluate σ (.ofConcrete req) (.ofConcrete []) ⟨"p1", .permit, residualCondition (.unaryApp .not (.binaryApp .mem (.unknown "principal" (some (.entity "User"))) (.lit (.entityUID ⟨"Group", "g"⟩)))), []⟩ = .sat := rfl
        rw [h1]; intro h; cases h)
  exact ⟨rfl, pr2, h1, h2, by decide +kernel⟩


/-- **pinterp_sound_store_on** — `pinterp_sound_store` with the hypothesis on entities missing from a `.partial()` store
relativised: `PS.StoreCompletesOn U` asks the uid-named unknown of a missing entity to be bound (to the entity itself) only
for uids of the FINITE list `U = PS.mentioned m0 preq pes env e` — the literal uids of `e`, the known request entries, the
uids in the context, in the values of the mapper `m0`, in the slot environment and in the (known or residual) attribute / tag
values of `pes`.  Closed world (`PS.pinterp_in`): every value and every residual the first pass produces mentions only
such uids, so these are the only uids it can pass to `Entities::entity`.  What the completed store `es` holds for other
uids, and for the missing ones, is arbitrary.  (`U` over-approximates "dereferenced": a mentioned uid that is never
dereferenced still has to be present or bound.) -/
theorem pinterp_sound_store_on (σ : Mapper) (req : Request) (es : Entities) (env : SlotEnv)
    (hctx : (Value.record req.context).Canon) {e : Expr} (hf : PS.Frag2 σ e)
    (m0 : Mapper) (preq : PRequest) (pes : PEntities) (n : Nat) (hm : PS.MapLE m0 σ)
    (hS : PS.StoreCompletesOn (fun u => u ∈ PS.mentioned m0 preq pes env e) σ pes es) (hC : PS.Concretizes2 σ es preq req) :
    match pinterp m0 preq pes env n e with
    | .val v => evaluate req es env (v.toExpr.substUnk σ) = .ok v ∧ evaluate req es env (e.substUnk σ) = .ok v
    | .err _ => ∃ c, evaluate req es env (e.substUnk σ) = .error c
    | .res r => PS.Agree (evaluate req es env (r.substUnk σ)) (evaluate req es env (e.substUnk σ))
    | .fuel => True
    | .panic => True :=
  (PS.pinterp_sound_mentioned σ req es env hctx m0 preq pes n e hS hm hC hf).substForm

/-- **pinterp_sound_store_reauth_on** — the `reauthorize` form (second pass on the substituted store), relativised likewise. -/
theorem pinterp_sound_store_reauth_on (σ : Mapper) (req : Request) (es : Entities) (env : SlotEnv)
    (hctx : (Value.record req.context).Canon) (hstore : PS.StoreCanon es) {e : Expr} (hf : PS.Frag2 σ e)
    (m0 : Mapper) (preq : PRequest) (pes : PEntities) (n : Nat) (hm : PS.MapLE m0 σ)
    (hS : PS.StoreCompletesOn (fun u => u ∈ PS.mentioned m0 preq pes env e) σ pes es) (hC : PS.Concretizes2 σ es preq req) :
    match pinterp m0 preq pes env n e with
    | .val v => evaluate req es env (e.substUnk σ) = .ok v
    | .err _ => ∃ c, evaluate req es env (e.substUnk σ) = .error c
    | .res r => ∀ n', Sem (pinterp σ (.ofConcrete req) (.ofConcrete es) env n' r) (evaluate req es env (e.substUnk σ))
    | .fuel => True
    | .panic => True :=
  PS.Sound2.reauthForm (fun _ hfr => PS.bridge σ req es env hctx hstore hfr)
    (PS.pinterp_sound_mentioned σ req es env hctx m0 preq pes n e hS hm hC hf)

/-- **partial_definite_sound_on** — `partial_definite_sound` with `StoreCompletes` relativised to
`PS.mentionedPolicies preq pes ps` (the union of `PS.mentioned [] preq pes p.env p.condition` over the policies). -/
theorem partial_definite_sound_on (σ : Mapper) (req : Request) (es : Entities) (preq : PRequest) (pes : PEntities)
    (ps : List Policy) (hctx : (Value.record req.context).Canon)
    (hS : PS.StoreCompletesOn (fun u => u ∈ PS.mentionedPolicies preq pes ps) σ pes es) (hC : PS.Concretizes2 σ es preq req)
    (hfrag : ∀ p, p ∈ ps → PS.Frag2 σ p.condition ∧ p.condition.unknowns = [])
    (hfuel1 : ∀ p, p ∈ ps → partialEvaluate [] preq pes p ≠ .stuck) :
    let pr := isAuthorizedCore [] preq pes ps
    (∀ d, pr.decision = some d → (isAuthorized req es ps).decision = d) ∧
    (∀ id, id ∈ pr.mustBeDetermining → id ∈ (isAuthorized req es ps).reasons) ∧
    (∀ id, id ∈ (isAuthorized req es ps).reasons → id ∈ pr.mayBeDetermining) ∧
    (∀ id, id ∈ pr.definitelySatisfied → ∃ p, p ∈ ps ∧ p.id = id ∧ p.outcome req es = .sat) ∧
    (∀ id, id ∈ pr.definitelyErrored → ∃ p, p ∈ ps ∧ p.id = id ∧ p.outcome req es = .err) ∧
    (∀ id, id ∈ pr.definitelyFalse → ∃ p, p ∈ ps ∧ p.id = id ∧ p.outcome req es = .unsat) :=
  PS.definite_of_consistent req es preq pes ps fun p hp =>
    PS.consistent_of_sound σ req es preq pes p
      (PS.sound_of_mentioned σ req es hctx preq pes hS hC p
        (fun _ hu => List.mem_flatMap.mpr ⟨p, hp, hu⟩) (hfrag p hp).1)
      (PS.substUnk_of_noUnk σ _ (hfrag p hp).2) (hfuel1 p hp)

/-- **partial_authorization_sound_on** — `partial_authorization_sound` for `.partial()` stores in the relativised form: an
entity missing from the partial store has to be bound by σ only if its uid is mentioned by a policy of the set, the request
or an attribute / tag value of the store (`PS.mentionedPolicies`).  Conclusions as in `partial_authorization_sound`. -/
theorem partial_authorization_sound_on (σ : Mapper) (req : Request) (es : Entities) (preq : PRequest) (pes : PEntities)
    (ps : List Policy) (hctx : (Value.record req.context).Canon) (hstore : PS.StoreCanon es)
    (hS : PS.StoreCompletesOn (fun u => u ∈ PS.mentionedPolicies preq pes ps) σ pes es) (hC : PS.Concretizes2 σ es preq req)
    (hfrag : ∀ p, p ∈ ps → PS.Frag2 σ p.condition ∧ p.condition.unknowns = [])
    (hreq : (isAuthorizedCore [] preq pes ps).concretizeRequest σ = .ok (.ofConcrete req))
    (hslot : (isAuthorizedCore [] preq pes ps).residualPoliciesPanic = false)
    (hfuel1 : ∀ p, p ∈ ps → partialEvaluate [] preq pes p ≠ .stuck)
    (hfuel2 : ∀ p, p ∈ ps → ∀ q, residualPolicy (partialEvaluate [] preq pes p) p = some q →
      partialEvaluate σ (.ofConcrete req) (.ofConcrete es) q ≠ .stuck) :
    let pr := isAuthorizedCore [] preq pes ps
    (∃ pr2, pr.reauthorize σ (.ofConcrete es) = .ok pr2 ∧
      pr2.decision = some (isAuthorized req es ps).decision ∧
      pr2.concretize.decision = (isAuthorized req es ps).decision ∧
      (∀ id, id ∈ pr2.concretize.reasons ↔ id ∈ (isAuthorized req es ps).reasons)) ∧
    (∀ d, pr.decision = some d → (isAuthorized req es ps).decision = d) ∧
    (∀ id, id ∈ pr.mustBeDetermining → id ∈ (isAuthorized req es ps).reasons) ∧
    (∀ id, id ∈ (isAuthorized req es ps).reasons → id ∈ pr.mayBeDetermining) :=
  PS.authorization_sound_of σ req es (.ofConcrete es) (fun _ hf n => PS.bridge σ req es [] hctx hstore hf n) preq pes ps
    (fun p hp => PS.sound_of_mentioned σ req es hctx preq pes hS hC p
      (fun _ hu => List.mem_flatMap.mpr ⟨p, hp, hu⟩) (hfrag p hp).1)
    (fun p hp => (hfrag p hp).2) hreq hslot hfuel1 hfuel2

/-- non-vacuity of the `…_on` theorems: a **`.partial()` store that really lacks an entity the policy dereferences**.
    `resource.owner.name == "alice"`; the partial store holds `File::"f"` with `owner = User::"o"` but not `User::"o"`; σ binds
    the request entities and `User::"o"` (all the mentioned uids that are missing), nothing else — `PS.StoreCompletes` is
    false for this σ (`File::"zz"` is missing and unbound), `PS.StoreCompletesOn` holds.  The first pass leaves
    `unknown(User::"o").name == "alice"`; its substitution evaluates to the concrete `true` on the completed store; ONE
    `reauthorize` round on the substituted store gives `Allow`; on the unsubstituted `.partial()` store the second pass
    maps the unknown to `User::"o"`, dereferences it, finds it missing again and returns the same residual (no number of
    rounds resolves it). -/
example :
    let f : EntityUID := ⟨"File", "f"⟩
    let o : EntityUID := ⟨"User", "o"⟩
    let σ : Mapper := [("User::\"p\"", .prim (.entityUID ⟨"User", "p"⟩)), ("A::\"x\"", .prim (.entityUID ⟨"A", "x"⟩)),
      ("User::\"o\"", .prim (.entityUID o))]
    let req : Request := ⟨⟨"User", "p"⟩, ⟨"A", "x"⟩, f, []⟩
    let pes : PEntities := ⟨[(f, ⟨[("owner", .value (.prim (.entityUID o)))], [], []⟩)], true⟩
    let es : Entities := [(f, ⟨[("owner", .prim (.entityUID o))], [], []⟩), (o, ⟨[("name", .prim (.string "alice"))], [], []⟩)]
    let e : Expr := .binaryApp .eq (.getAttr (.getAttr (.var .resource) "owner") "name") (.lit (.string "alice"))
    let r : Expr := .binaryApp .eq (.getAttr (.unknown "User::\"o\"" (some (.entity "User"))) "name") (.lit (.string "alice"))
    let p : Policy := ⟨"owner", .permit, e, []⟩
    PS.Frag2 σ e ∧ ¬ PS.StoreCompletes σ pes es ∧
    PS.StoreCompletesOn (fun u => u ∈ PS.mentionedPolicies (.ofConcrete req) pes [p]) σ pes es ∧
    pinterp [] (.ofConcrete req) pes [] 10 e = .res r ∧
    (⟨"q", .permit, r.substUnk σ, []⟩ : Policy).outcome req es = .sat ∧ p.outcome req es = .sat ∧
    (match pinterp σ (.ofConcrete req) (.ofConcrete es) [] 10 r with | .val (.prim (.bool true)) => true | _ => false) = true ∧
    (match pinterp σ (.ofConcrete req) pes [] 10 r with | .res r' => Expr.beq r' r | _ => false) = true ∧
    (isAuthorizedCore [] (.ofConcrete req) pes [p]).decision = none ∧
    ∃ pr2, (isAuthorizedCore [] (.ofConcrete req) pes [p]).reauthorize σ (.ofConcrete es) = .ok pr2 ∧
      pr2.decision = some (isAuthorized req es [p]).decision ∧ (isAuthorized req es [p]).decision = .allow := by
  intro f o σ req pes es e r p
  have hfrag : PS.Frag2 σ e := .binaryApp .eq (.getAttr "name" (.getAttr "owner" (.var _))) (.lit _)
  have hment : PS.mentionedPolicies (.ofConcrete req) pes [p] = [⟨"User", "p"⟩, ⟨"A", "x"⟩, f, o] := by decide +kernel
  have hSon : PS.StoreCompletesOn (fun u => u ∈ PS.mentionedPolicies (.ofConcrete req) pes [p]) σ pes es := by
    intro u
    rw [hment]
    simp only [pes, PEntities.find?]
    by_cases hk : (f == u) = true
    · simp only [hk, if_true]
      refine ⟨⟨[("owner", .prim (.entityUID o))], [], []⟩, by simp [es, Entities.find?, hk], rfl, ?_, PS.attrsComplete_nil⟩
      exact PS.attrsComplete_cons "owner" (show PS.AttrCompletes _ _ (.value (.prim (.entityUID o))) (.prim (.entityUID o)) from ⟨rfl, trivial⟩) PS.attrsComplete_nil
    · simp only [hk, Bool.false_eq_true, if_false, if_true]
      intro hu
      simp only [List.mem_cons, List.not_mem_nil, or_false] at hu
      rcases hu with rfl | rfl | rfl | rfl
      · rfl
      · rfl
      · exact absurd (by decide) hk
      · rfl
  have hnot : ¬ PS.StoreCompletes σ pes es := by
    intro h
    have hb := h ⟨"File", "zz"⟩
    simp only [pes, PEntities.find?, show (f == (⟨"File", "zz"⟩ : EntityUID)) = false from by decide, Bool.false_eq_true,
      if_false, if_true] at hb
    unfold PS.Bound at hb
    have hn : lookupKV σ (uidName ⟨"File", "zz"⟩) = none := rfl
    rw [hn] at hb
    cases hb
  have hstore : PS.StoreCanon es := by
    intro u d h
    simp only [es, Entities.find?] at h
    split at h
    · cases h; repeat' constructor
    · split at h
      · cases h; repeat' constructor
      · cases h
  have hfr : ∀ q, q ∈ [p] → PS.Frag2 σ q.condition ∧ q.condition.unknowns = [] := by
    intro q hq; simp only [List.mem_cons, List.not_mem_nil, or_false] at hq; subst hq; exact ⟨hfrag, rfl⟩
  obtain ⟨hf1, hf2⟩ := PS.fuelOK_spec (σ := σ) (req := req) (es := es) (preq := .ofConcrete req) (pes := pes) (ps := [p])
    (by decide +kernel)
  obtain ⟨⟨pr2, h1, h2, _, _⟩, _⟩ := partial_authorization_sound_on σ req es (.ofConcrete req) pes [p] ⟨trivial, trivial⟩ hstore
    hSon (PS.concretizes2_ofConcrete σ es req) hfr rfl (by decide +kernel) hf1 hf2
  exact ⟨hfrag, hnot, hSon, rfl, by decide +kernel, by decide +kernel, by decide +kernel, by decide +kernel, by decide +kernel, pr2, h1, h2,
    by decide +kernel⟩

/-- **pinterp_sound_store** — `pinterp_sound_subst` for a *partial* store `pes` completed by `es` under σ
(`PS.StoreCompletes`) and a possibly *residual* context (`PS.Concretizes2`), for the first pass on `pes` with any mapper
`m0 ⊆ σ`.  It holds for direct `Unknown` attributes (passed through the mapper by `get_attr`) and for unknowns nested inside
attribute / tag values alike: the substitution form does not depend on when an unknown is discovered.
Caveat for `.partial()` stores: a finite σ binds finitely many uid-named unknowns, so for `partialMode = true`
`StoreCompletes` (which asks `Bound` for *every* missing uid) is only satisfiable over a finite uid universe; the version
relativised to the entities the first pass can dereference is `pinterp_sound_store_on`
(`missing_unbound_counterexample`: without the binding the residuals do not agree). -/
theorem pinterp_sound_store (σ : Mapper) (req : Request) (es : Entities) (env : SlotEnv)
    (hctx : (Value.record req.context).Canon) {e : Expr} (hf : PS.Frag2 σ e)
    (m0 : Mapper) (preq : PRequest) (pes : PEntities) (n : Nat) (hm : PS.MapLE m0 σ)
    (hS : PS.StoreCompletes σ pes es) (hC : PS.Concretizes2 σ es preq req) :
    match pinterp m0 preq pes env n e with
    | .val v => evaluate req es env (v.toExpr.substUnk σ) = .ok v ∧ evaluate req es env (e.substUnk σ) = .ok v
    | .err _ => ∃ c, evaluate req es env (e.substUnk σ) = .error c
    | .res r => PS.Agree (evaluate req es env (r.substUnk σ)) (evaluate req es env (e.substUnk σ))
    | .fuel => True
    | .panic => True :=
  pinterp_sound_store_on σ req es env hctx hf m0 preq pes n hm (PS.storeCompletesOn_of hS) hC

/-- **pinterp_sound_store_reauth** — the `reauthorize` form for partial stores: the residual of the first pass on `pes`,
re-interpreted with the mapper σ on the concretised request **and the substituted store `es`** (what the documentation of
`reauthorize` asks for: "entities … with the unknowns substituted"), agrees with the concrete evaluation; in particular
no residual is left after this one round.  The hypothesis "second pass on the substituted store" is needed:
`second_round_needed`. -/
theorem pinterp_sound_store_reauth (σ : Mapper) (req : Request) (es : Entities) (env : SlotEnv)
    (hctx : (Value.record req.context).Canon) (hstore : PS.StoreCanon es) {e : Expr} (hf : PS.Frag2 σ e)
    (m0 : Mapper) (preq : PRequest) (pes : PEntities) (n : Nat) (hm : PS.MapLE m0 σ)
    (hS : PS.StoreCompletes σ pes es) (hC : PS.Concretizes2 σ es preq req) :
    match pinterp m0 preq pes env n e with
    | .val v => evaluate req es env (e.substUnk σ) = .ok v
    | .err _ => ∃ c, evaluate req es env (e.substUnk σ) = .error c
    | .res r => ∀ n', Sem (pinterp σ (.ofConcrete req) (.ofConcrete es) env n' r) (evaluate req es env (e.substUnk σ))
    | .fuel => True
    | .panic => True :=
  pinterp_sound_store_reauth_on σ req es env hctx hstore hf m0 preq pes n hm (PS.storeCompletesOn_of hS) hC

/-- non-vacuity of `pinterp_sound_store`: a residual context `{lim: unknown("l")}`, an entity with a *direct* unknown
    attribute (`level`) and an attribute with a *nested* unknown (`info = {x: unknown("u")}`), an unknown principal;
    `principal.info == {x: 1} && resource.level < context.lim`.  All hypotheses hold; the first pass leaves a residual. -/
example :
    let σ : Mapper := [("principal", .prim (.entityUID ⟨"User", "a"⟩)), ("u", .prim (.int 1)), ("l", .prim (.int 7))]
    let req : Request := ⟨⟨"User", "a"⟩, ⟨"A", "x"⟩, ⟨"User", "a"⟩, [("lim", .prim (.int 7))]⟩
    let preq : PRequest := ⟨.unknown (some "User"), .known ⟨"A", "x"⟩, .known ⟨"User", "a"⟩,
      some (.residual [("lim", .unknown "l" (some .long))])⟩
    let pes : PEntities := ⟨[(⟨"User", "a"⟩, ⟨[("info", .residual (.record [("x", .unknown "u" none)])),
      ("level", .residual (.unknown "u" (some .long)))], [], []⟩)], false⟩
    let es : Entities := [(⟨"User", "a"⟩, ⟨[("info", .record [("x", .prim (.int 1))]), ("level", .prim (.int 1))], [], []⟩)]
    let e : Expr := .and (.binaryApp .eq (.getAttr (.var .principal) "info") (.record [("x", .lit (.int 1))]))
                         (.binaryApp .less (.getAttr (.var .resource) "level") (.getAttr (.var .context) "lim"))
    PS.Frag2 σ e ∧ PS.StoreCompletes σ pes es ∧ PS.Concretizes2 σ es preq req ∧
    (∃ r, pinterp [] preq pes [] 10 e = .res r) ∧ (⟨"q", .permit, e.substUnk σ, []⟩ : Policy).outcome req es = .sat := by
  intro σ req preq pes es e
  have hu : PS.UnkOK σ "u" none := ⟨_, rfl, trivial, by intro t ht; cases ht⟩
  have hul : PS.UnkOK σ "u" (some .long) := ⟨_, rfl, trivial, by intro t ht; cases ht; rfl⟩
  have hl : PS.UnkOK σ "l" (some .long) := ⟨_, rfl, trivial, by intro t ht; cases ht; rfl⟩
  have hrec1 : PS.Frag2 σ (.record [("x", .unknown "u" none)]) := by
    refine .record (by decide) ?_
    intro kv hkv; simp only [List.mem_cons, List.not_mem_nil, or_false] at hkv; subst hkv; exact .unknown _ _ hu
  have hrecL : PS.Frag2 σ (.record [("lim", .unknown "l" (some .long))]) := by
    refine .record (by decide) ?_
    intro kv hkv; simp only [List.mem_cons, List.not_mem_nil, or_false] at hkv; subst hkv; exact .unknown _ _ hl
  have hcan : (Value.record [("x", .prim (.int 1))]).Canon := ⟨⟨(by intro k' h; cases h), trivial⟩, trivial, trivial⟩
  refine ⟨?_, ?_, ⟨⟨rfl, rfl⟩, rfl, rfl, ⟨hrecL, fun _ _ => rfl⟩⟩, ⟨_, rfl⟩, by decide +kernel⟩
  · refine .and (.binaryApp .eq (.getAttr "info" (.var _)) (.record (by decide) ?_))
      (.binaryApp .less (.getAttr "level" (.var _)) (.getAttr "lim" (.var _)))
    intro kv hkv; simp only [List.mem_cons, List.not_mem_nil, or_false] at hkv; subst hkv; exact .lit _
  · exact PS.storeCompletes_single _ _ _ rfl
      (PS.attrsComplete_cons "info" (show PS.AttrCompletes _ _ (.residual _) _ from ⟨hrec1, hcan, fun _ _ => rfl⟩)
        (PS.attrsComplete_cons "level" (show PS.AttrCompletes _ _ (.residual _) (.prim (.int 1)) from ⟨.unknown _ _ hul, trivial, fun _ _ => rfl⟩)
          PS.attrsComplete_nil))
      PS.attrsComplete_nil

/-- **second_round_needed** (kernel-checked; the model reproduces the harness observation
`undiscovered_nested_unknown_second_round`).  Entity `User::"a"` has `info = {x: unknown("u")}` (an unknown *nested* in an
attribute value); the principal is unknown; σ = {principal ↦ User::"a", u ↦ 1}.  For the policy `principal.info == {x: 1}`
(concretely: `Allow`):
  * `reauthorize σ` on the **unsubstituted** store (unknown attributes kept) still leaves the policy residual — `get_attr`
    maps only a direct `Unknown` through the mapper, any other residual attribute is returned unchanged — so the decision
    is still undetermined although σ defines every unknown;
  * a **second** `reauthorize` round (same σ minus the request variables, now concrete) resolves it to `Allow`;
  * `reauthorize σ` on the **substituted** store gives `Allow` at once (this is `partial_authorization_sound`). -/
theorem second_round_needed :
    (isAuthorized PS.srReq PS.srEs [PS.srNested]).decision = .allow ∧
    (∃ pr2, (isAuthorizedCore [] PS.srPreq PS.srPes [PS.srNested]).reauthorize PS.srSigma PS.srPes = .ok pr2 ∧ pr2.decision = none ∧
      pr2.residualPermits = [("nested", .and (.lit (.bool true)) (.and (.lit (.bool true)) (.and (.lit (.bool true))
        (.binaryApp .eq (.record [("x", .unknown "u" none)]) (.record [("x", .lit (.int 1))])))))] ∧
      ∃ pr3, pr2.reauthorize [("u", .prim (.int 1))] PS.srPes = .ok pr3 ∧ pr3.decision = some .allow) ∧
    (∃ pr2, (isAuthorizedCore [] PS.srPreq PS.srPes [PS.srNested]).reauthorize PS.srSigma (.ofConcrete PS.srEs) = .ok pr2 ∧
      pr2.decision = some .allow) :=
  ⟨by decide +kernel, ⟨_, rfl, by decide +kernel, rfl, _, rfl, by decide +kernel⟩, ⟨_, rfl, by decide +kernel⟩⟩

/-- **direct_unknown_one_round** (kernel-checked): for an attribute that is a *direct* `Unknown` (`principal.level == 1`)
one `reauthorize` round on the unsubstituted store suffices (`get_attr` passes it through the mapper); for a *tag* that is
a direct unknown it does not (`getTag` returns the stored partial value as it is) — on the substituted store both are
resolved. -/
theorem direct_unknown_one_round :
    (∃ pr2, (isAuthorizedCore [] PS.srPreq PS.srPes [PS.srDirect]).reauthorize PS.srSigma PS.srPes = .ok pr2 ∧ pr2.decision = some .allow) ∧
    (∃ pr2, (isAuthorizedCore [] PS.srPreq PS.srPes [PS.srTag]).reauthorize PS.srSigma PS.srPes = .ok pr2 ∧ pr2.decision = none) ∧
    (∃ pr2, (isAuthorizedCore [] PS.srPreq PS.srPes [PS.srTag]).reauthorize PS.srSigma (.ofConcrete PS.srEs) = .ok pr2 ∧
      pr2.decision = some .allow) :=
  ⟨⟨_, rfl, by decide +kernel⟩, ⟨_, rfl, by decide +kernel⟩, ⟨_, rfl, by decide +kernel⟩⟩

/-- **pinterp_sound_store_reauth_direct** — "for direct-`Unknown` attributes exactly": when every residual attribute
value of the (concrete-mode) partial store is a *direct* `Unknown` and no tag value is residual (`PS.DirectUnk`), ONE second
pass on the **unsubstituted** store `pes` — mapper σ, concretised request — leaves no residual and agrees with the concrete
evaluation: `get_attr` passes exactly the direct `Unknown`s through the mapper.  (`second_round_needed`,
`direct_unknown_one_round`: neither "direct" nor "no residual tag" can be dropped.) -/
theorem pinterp_sound_store_reauth_direct (σ : Mapper) (req : Request) (es : Entities) (env : SlotEnv)
    (hctx : (Value.record req.context).Canon) {e : Expr} (hf : PS.Frag2 σ e)
    (m0 : Mapper) (preq : PRequest) (pes : PEntities) (n : Nat) (hm : PS.MapLE m0 σ)
    (hS : PS.StoreCompletes σ pes es) (hC : PS.Concretizes2 σ es preq req) (hD : PS.DirectUnk pes) :
    match pinterp m0 preq pes env n e with
    | .val v => evaluate req es env (e.substUnk σ) = .ok v
    | .err _ => ∃ c, evaluate req es env (e.substUnk σ) = .error c
    | .res r => ∀ n', Sem (pinterp σ (.ofConcrete req) pes env n' r) (evaluate req es env (e.substUnk σ))
    | .fuel => True
    | .panic => True :=
  PS.Sound2.reauthForm (fun _ hfr => PS.bridge_direct σ req es env hctx pes (PS.storeCompletes_iff_on.mp hS) hD hfr)
    (PS.pinterp_sound_mentioned σ req es env hctx m0 preq pes n e (PS.storeCompletesOn_of hS) hm hC hf)

/-- non-vacuity of `pinterp_sound_store_reauth_direct`: `User::"a"` with `level = unknown("u")`, unknown principal,
    `principal.level == 1`: the first pass leaves `unknown(principal).level == 1`; the hypotheses hold. -/
example :
    let σ : Mapper := [("principal", .prim (.entityUID ⟨"User", "a"⟩)), ("u", .prim (.int 1))]
    let req : Request := ⟨⟨"User", "a"⟩, ⟨"A", "x"⟩, ⟨"R", "r"⟩, []⟩
    let preq : PRequest := ⟨.unknown (some "User"), .known ⟨"A", "x"⟩, .known ⟨"R", "r"⟩, some (.value [])⟩
    let pes : PEntities := ⟨[(⟨"User", "a"⟩, ⟨[("level", .residual (.unknown "u" none))], [], []⟩)], false⟩
    let es : Entities := [(⟨"User", "a"⟩, ⟨[("level", .prim (.int 1))], [], []⟩)]
    let e : Expr := .binaryApp .eq (.getAttr (.var .principal) "level") (.lit (.int 1))
    PS.Frag2 σ e ∧ PS.StoreCompletes σ pes es ∧ PS.Concretizes2 σ es preq req ∧ PS.DirectUnk pes ∧
    pinterp [] preq pes [] 10 e = .res (.binaryApp .eq (.getAttr (.unknown "principal" (some (.entity "User"))) "level") (.lit (.int 1))) ∧
    (match pinterp σ (.ofConcrete req) pes [] 10
        (.binaryApp .eq (.getAttr (.unknown "principal" (some (.entity "User"))) "level") (.lit (.int 1))) with
      | .val (.prim (.bool b)) => b
      | _ => false) = true := by
  intro σ req preq pes es e
  have hu : PS.UnkOK σ "u" none := ⟨_, rfl, trivial, by intro t ht; cases ht⟩
  refine ⟨.binaryApp .eq (.getAttr "level" (.var _)) (.lit _), ?_, ⟨⟨rfl, rfl⟩, rfl, rfl, rfl⟩, ⟨rfl, ?_⟩, rfl, by decide +kernel⟩
  · exact PS.storeCompletes_single _ _ _ rfl
      (PS.attrsComplete_cons "level" (show PS.AttrCompletes _ _ (.residual _) (.prim (.int 1)) from ⟨.unknown _ _ hu, trivial, fun _ _ => rfl⟩)
        PS.attrsComplete_nil)
      PS.attrsComplete_nil
  · intro u d hfd
    simp only [pes, PEntities.find?] at hfd
    split at hfd
    · cases hfd
      constructor
      · intro a r hl
        simp only [lookupKV] at hl
        split at hl
        · cases hl; exact ⟨_, _, rfl⟩
        · cases hl
      · intro a r hl; simp [lookupKV] at hl
    · cases hfd

/-- **missing_unbound_counterexample** (kernel-checked): for an entity missing from a `.partial()` store it is *not*
enough that it is absent from the completed store — σ has to bind the unknown named by its uid (to the entity itself).
`User::"a" has x` on the empty partial store leaves `unknown(User::"a") has x`; with σ = ∅ and the empty concrete store the
concrete result is `false`, the substituted residual is an error. -/
theorem missing_unbound_counterexample :
    let e : Expr := .hasAttr (.lit (.entityUID ⟨"User", "a"⟩)) "x"
    let r : Expr := .hasAttr (.unknown "User::\"a\"" (some (.entity "User"))) "x"
    let req : Request := ⟨⟨"User", "b"⟩, ⟨"A", "x"⟩, ⟨"R", "r"⟩, []⟩
    pinterp [] (.ofConcrete req) ⟨[], true⟩ [] 5 e = .res r ∧
    evaluate req [] [] (e.substUnk []) = .ok (.prim (.bool false)) ∧
    evaluate req [] [] (r.substUnk []) = .error .residual ∧
    -- bound to itself, the residual agrees
    evaluate req [] [] (r.substUnk [("User::\"a\"", .prim (.entityUID ⟨"User", "a"⟩))]) = .ok (.prim (.bool false)) := by
  intro e r req
  exact ⟨rfl, rfl, rfl, rfl⟩

/-- **partial_definite_sound** — "any definite decision of the partial response is the decision obtained for every
substitution", with explicit, validation-free hypotheses: for a policy set (static or template-linked policies, any slot
environments) whose conditions lie in `Frag2 σ` and contain no unknown nodes, a partial store completed by `es` under σ, a
partial request (possibly with a residual context) concretised by σ to `req`: a definite `decision()` of
`is_authorized_core` is the decision of the concrete authorizer on `(req, es)`; `must_be_determining ⊆` the concrete
determining policies `⊆ may_be_determining`; and the definitely satisfied / errored / false policies are so concretely
(`table_sound` with its `Consistent` hypothesis discharged by `pinterp_sound_store`). -/
theorem partial_definite_sound (σ : Mapper) (req : Request) (es : Entities) (preq : PRequest) (pes : PEntities)
    (ps : List Policy) (hctx : (Value.record req.context).Canon)
    (hS : PS.StoreCompletes σ pes es) (hC : PS.Concretizes2 σ es preq req)
    (hfrag : ∀ p, p ∈ ps → PS.Frag2 σ p.condition ∧ p.condition.unknowns = [])
    (hfuel1 : ∀ p, p ∈ ps → partialEvaluate [] preq pes p ≠ .stuck) :
    let pr := isAuthorizedCore [] preq pes ps
    (∀ d, pr.decision = some d → (isAuthorized req es ps).decision = d) ∧
    (∀ id, id ∈ pr.mustBeDetermining → id ∈ (isAuthorized req es ps).reasons) ∧
    (∀ id, id ∈ (isAuthorized req es ps).reasons → id ∈ pr.mayBeDetermining) ∧
    (∀ id, id ∈ pr.definitelySatisfied → ∃ p, p ∈ ps ∧ p.id = id ∧ p.outcome req es = .sat) ∧
    (∀ id, id ∈ pr.definitelyErrored → ∃ p, p ∈ ps ∧ p.id = id ∧ p.outcome req es = .err) ∧
    (∀ id, id ∈ pr.definitelyFalse → ∃ p, p ∈ ps ∧ p.id = id ∧ p.outcome req es = .unsat) :=
  partial_definite_sound_on σ req es preq pes ps hctx (PS.storeCompletesOn_of hS) hC hfrag hfuel1

/-- **partial_authorization_sound** — the statement of the property at the level of the whole authorizer.  Policy set:
static and template-linked policies (arbitrary slot environments) whose conditions lie in `Frag2 σ` and contain no unknown
nodes; partial store `pes` (unknown attribute / tag values, direct or nested) completed by `es` under σ; partial request
(unknown principal / action / resource, missing or residual context) concretised by σ to `req`; no residual kept a slot
(`residualPoliciesPanic = false`: otherwise `reauthorize` panics — the recorded finding); `concretize_request` succeeds;
neither pass exhausts the model's recursion budget.  Then
  (1) re-authorizing the partial response with σ **on the substituted store** succeeds in ONE round and gives the decision
      and the determining policies of authorizing the fully concrete request from scratch;
  (2) any definite decision of the partial response already is that decision, and
      `must_be_determining ⊆ determining ⊆ may_be_determining`.
One round suffices because the second pass reads the substituted store; on the unsubstituted store a nested unknown needs
a second round (`second_round_needed`). -/
theorem partial_authorization_sound (σ : Mapper) (req : Request) (es : Entities) (preq : PRequest) (pes : PEntities)
    (ps : List Policy) (hctx : (Value.record req.context).Canon) (hstore : PS.StoreCanon es)
    (hS : PS.StoreCompletes σ pes es) (hC : PS.Concretizes2 σ es preq req)
    (hfrag : ∀ p, p ∈ ps → PS.Frag2 σ p.condition ∧ p.condition.unknowns = [])
    (hreq : (isAuthorizedCore [] preq pes ps).concretizeRequest σ = .ok (.ofConcrete req))
    (hslot : (isAuthorizedCore [] preq pes ps).residualPoliciesPanic = false)
    (hfuel1 : ∀ p, p ∈ ps → partialEvaluate [] preq pes p ≠ .stuck)
    (hfuel2 : ∀ p, p ∈ ps → ∀ q, residualPolicy (partialEvaluate [] preq pes p) p = some q →
      partialEvaluate σ (.ofConcrete req) (.ofConcrete es) q ≠ .stuck) :
    let pr := isAuthorizedCore [] preq pes ps
    (∃ pr2, pr.reauthorize σ (.ofConcrete es) = .ok pr2 ∧
      pr2.decision = some (isAuthorized req es ps).decision ∧
      pr2.concretize.decision = (isAuthorized req es ps).decision ∧
      (∀ id, id ∈ pr2.concretize.reasons ↔ id ∈ (isAuthorized req es ps).reasons)) ∧
    (∀ d, pr.decision = some d → (isAuthorized req es ps).decision = d) ∧
    (∀ id, id ∈ pr.mustBeDetermining → id ∈ (isAuthorized req es ps).reasons) ∧
    (∀ id, id ∈ (isAuthorized req es ps).reasons → id ∈ pr.mayBeDetermining) :=
  partial_authorization_sound_on σ req es preq pes ps hctx hstore (PS.storeCompletesOn_of hS) hC hfrag hreq hslot hfuel1 hfuel2

/-- non-vacuity of `partial_authorization_sound` / `partial_definite_sound`: the scenario of `second_round_needed` (unknown
    principal, an entity with nested and direct unknown attributes) with a **template-linked** forbid
    (`principal == ?principal`, linked to `User::"z"`) next to the nested-unknown permit.  All hypotheses are discharged;
    the partial decision is undetermined, one `reauthorize` round on the substituted store gives the concrete `Allow`. -/
example :
    let linked : Policy := ⟨"linked", .forbid, .binaryApp .eq (.var .principal) (.slot .principal), [(.principal, ⟨"User", "z"⟩)]⟩
    let ps := [PS.srNested, linked]
    (isAuthorizedCore [] PS.srPreq PS.srPes ps).decision = none ∧ (isAuthorized PS.srReq PS.srEs ps).decision = .allow ∧
    ∃ pr2, (isAuthorizedCore [] PS.srPreq PS.srPes ps).reauthorize PS.srSigma (.ofConcrete PS.srEs) = .ok pr2 ∧
      pr2.decision = some (isAuthorized PS.srReq PS.srEs ps).decision ∧
      (∀ id, id ∈ pr2.concretize.reasons ↔ id ∈ (isAuthorized PS.srReq PS.srEs ps).reasons) := by
  intro linked ps
  have hcan : (Value.record [("x", .prim (.int 1))]).Canon := ⟨⟨(by intro k' h; cases h), trivial⟩, trivial, trivial⟩
  have hstore : PS.StoreCanon PS.srEs := by
    intro u d h
    simp only [PS.srEs, Entities.find?] at h
    split at h
    · cases h; exact ⟨⟨hcan, trivial, trivial⟩, trivial, trivial⟩
    · cases h
  have hfrag : ∀ p, p ∈ ps → PS.Frag2 PS.srSigma p.condition ∧ p.condition.unknowns = [] := by
    intro p hp
    simp only [ps, List.mem_cons, List.not_mem_nil, or_false] at hp
    rcases hp with rfl | rfl
    · refine ⟨.binaryApp .eq (.getAttr "info" (.var _)) (.record (by decide) ?_), rfl⟩
      intro kv hkv; simp only [List.mem_cons, List.not_mem_nil, or_false] at hkv; subst hkv; exact .lit _
    · exact ⟨.binaryApp .eq (.var _) (.slot _), rfl⟩
  obtain ⟨hf1, hf2⟩ := PS.fuelOK_spec (σ := PS.srSigma) (req := PS.srReq) (es := PS.srEs) (preq := PS.srPreq) (pes := PS.srPes) (ps := ps)
    (by decide +kernel)
  obtain ⟨⟨pr2, h1, h2, _, h4⟩, _⟩ := partial_authorization_sound PS.srSigma PS.srReq PS.srEs PS.srPreq PS.srPes ps ⟨trivial, trivial⟩ hstore
    PS.sr_storeCompletes.1 PS.sr_storeCompletes.2 hfrag rfl (by decide +kernel) hf1 hf2
  exact ⟨by decide +kernel, by decide +kernel, pr2, h1, h2, h4⟩

/-- **restricted_eval_sound** — the restricted evaluator (`RestrictedEvaluator::partial_interpret`, which evaluates
contexts and attribute values) is sound for the evaluator: a *value* it returns is the value of the expression for every
request, store and slot environment.  Consequently the hypotheses `PS.Concretizes2` of the theorems above are what
`concretize_request` computes: `concretize_entry_gives_conc` for principal / action / resource,
`context_substitute_gives_completes` for a residual context (`Context::substitute`). -/
theorem restricted_eval_sound (req : Request) (es : Entities) (env : SlotEnv) (n : Nat) (e : Expr) (v : Value)
    (h : rinterp n e = .val v) : evaluate req es env e = .ok v :=
  PS.rinterp_sound req es env n e v h

theorem concretize_entry_gives_conc {σ : Mapper} {en : UidEntry} {key : String} {uid : EntityUID}
    (h : en.concretize key σ = .ok (.known uid)) : en.Conc σ key uid :=
  PS.conc_of_concretize h

theorem context_substitute_gives_completes (σ : Mapper) (es : Entities) {kvs : List (String × Expr)} {ctx : List (String × Value)}
    (hf : PS.Frag2 σ (.record kvs)) (h : (PContext.residual kvs).substitute σ = .ok (.value ctx)) :
    PS.CtxCompletes σ es (some (.residual kvs)) ctx :=
  PS.ctxCompletes_of_substitute σ es hf h

/-- non-vacuity: the residual context `{lim: unknown("l": long)}` under `l ↦ 7` -/
example :
    let σ : Mapper := [("l", .prim (.int 7))]
    (PContext.residual [("lim", .unknown "l" (some .long))]).substitute σ = .ok (.value [("lim", .prim (.int 7))]) ∧
    PS.CtxCompletes σ [] (some (.residual [("lim", .unknown "l" (some .long))])) [("lim", .prim (.int 7))] := by
  intro σ
  have hl : PS.UnkOK σ "l" (some .long) := ⟨_, rfl, trivial, by intro t ht; cases ht; rfl⟩
  have hf : PS.Frag2 σ (.record [("lim", .unknown "l" (some .long))]) := by
    refine .record (by decide) ?_
    intro kv hkv; simp only [List.mem_cons, List.not_mem_nil, or_false] at hkv; subst hkv; exact .unknown _ _ hl
  exact ⟨rfl, context_substitute_gives_completes σ [] hf rfl⟩

/-- **reauthorize_eq_fresh_on** — `reauthorize_eq_fresh` for an arbitrary second-pass store `pes2` (the `entities` argument
of `PartialResponse::reauthorize`): given policy-level agreement of the residual policies re-evaluated on `pes2`
(`PolicyAgreesOn pes2`), `reauthorize σ pes2` yields decision and determining policies of the fresh concrete authorization
on `(req', es')`.  `reauthorize_eq_fresh` is the instance `pes2 = .ofConcrete es'`. -/
theorem reauthorize_eq_fresh_on (pes2 : PEntities) (σ : Mapper) (preq : PRequest) (pes : PEntities) (ps : List Policy)
    (req' : Request) (es' : Entities)
    (hreq : (isAuthorizedCore [] preq pes ps).concretizeRequest σ = .ok (.ofConcrete req'))
    (hslot : (isAuthorizedCore [] preq pes ps).residualPoliciesPanic = false)
    (hsound : ∀ p, p ∈ ps → PolicyAgreesOn pes2 σ preq pes req' es' p) :
    ∃ pr2, (isAuthorizedCore [] preq pes ps).reauthorize σ pes2 = .ok pr2 ∧
      pr2.decision = some (isAuthorized req' es' ps).decision ∧
      pr2.concretize.decision = (isAuthorized req' es' ps).decision ∧
      (∀ id, id ∈ pr2.concretize.reasons ↔ id ∈ (isAuthorized req' es' ps).reasons) :=
  reauthorize_core_on pes2 σ preq pes ps req' es' hreq hslot hsound

/-- **partial_authorization_sound_direct** — `partial_authorization_sound` with the second pass on the **unsubstituted**
store: when every residual attribute value of the (concrete-mode) partial store `pes` is a direct `Unknown` and no tag value
is residual (`PS.DirectUnk pes`), `reauthorize σ pes` — re-authorizing against the very store the caller still holds, the way
`PartialResponse::reauthorize(mapping, auth, entities)` is typically called — succeeds in ONE round and gives the decision
and the determining policies of authorizing the fully concrete request on the completed store `es` from scratch.  No
canonicity hypothesis on `es` beyond `StoreCompletes` is needed (the second pass never reads `es`).  Neither "direct" nor
"no residual tag" can be dropped (`second_round_needed`, `direct_unknown_one_round`).  `hfuel2` is about the pass that is
actually run (on `pes`). -/
theorem partial_authorization_sound_direct (σ : Mapper) (req : Request) (es : Entities) (preq : PRequest) (pes : PEntities)
    (ps : List Policy) (hctx : (Value.record req.context).Canon)
    (hS : PS.StoreCompletes σ pes es) (hD : PS.DirectUnk pes) (hC : PS.Concretizes2 σ es preq req)
    (hfrag : ∀ p, p ∈ ps → PS.Frag2 σ p.condition ∧ p.condition.unknowns = [])
    (hreq : (isAuthorizedCore [] preq pes ps).concretizeRequest σ = .ok (.ofConcrete req))
    (hslot : (isAuthorizedCore [] preq pes ps).residualPoliciesPanic = false)
    (hfuel1 : ∀ p, p ∈ ps → partialEvaluate [] preq pes p ≠ .stuck)
    (hfuel2 : ∀ p, p ∈ ps → ∀ q, residualPolicy (partialEvaluate [] preq pes p) p = some q →
      partialEvaluate σ (.ofConcrete req) pes q ≠ .stuck) :
    let pr := isAuthorizedCore [] preq pes ps
    (∃ pr2, pr.reauthorize σ pes = .ok pr2 ∧
      pr2.decision = some (isAuthorized req es ps).decision ∧
      pr2.concretize.decision = (isAuthorized req es ps).decision ∧
      (∀ id, id ∈ pr2.concretize.reasons ↔ id ∈ (isAuthorized req es ps).reasons)) ∧
    (∀ d, pr.decision = some d → (isAuthorized req es ps).decision = d) ∧
    (∀ id, id ∈ pr.mustBeDetermining → id ∈ (isAuthorized req es ps).reasons) ∧
    (∀ id, id ∈ (isAuthorized req es ps).reasons → id ∈ pr.mayBeDetermining) :=
  PS.authorization_sound_of σ req es pes (fun _ hf n => PS.bridge_direct σ req es [] hctx pes (PS.storeCompletes_iff_on.mp hS) hD hf n)
    preq pes ps
    (fun p hp => PS.sound_of_mentioned σ req es hctx preq pes (PS.storeCompletesOn_of hS) hC p (fun _ _ => trivial) (hfrag p hp).1)
    (fun p hp => (hfrag p hp).2) hreq hslot hfuel1 hfuel2

/-- non-vacuity of `partial_authorization_sound_direct`: `User::"a"` with the direct unknown attribute `level = unknown("u")`,
    unknown principal; a permit `principal.level == 1`, a forbid `principal.level < 0` and a template-linked forbid
    `principal == ?principal` (linked to `User::"z"`).  All hypotheses hold; the partial decision is undetermined (three
    residuals); ONE `reauthorize` round on the *unsubstituted* store `pes` gives the concrete `Allow`. -/
example :
    let σ : Mapper := [("principal", .prim (.entityUID ⟨"User", "a"⟩)), ("u", .prim (.int 1))]
    let req : Request := ⟨⟨"User", "a"⟩, ⟨"A", "x"⟩, ⟨"R", "r"⟩, []⟩
    let preq : PRequest := ⟨.unknown (some "User"), .known ⟨"A", "x"⟩, .known ⟨"R", "r"⟩, some (.value [])⟩
    let pes : PEntities := ⟨[(⟨"User", "a"⟩, ⟨[("level", .residual (.unknown "u" none))], [], []⟩)], false⟩
    let es : Entities := [(⟨"User", "a"⟩, ⟨[("level", .prim (.int 1))], [], []⟩)]
    let p1 : Policy := ⟨"p1", .permit, .binaryApp .eq (.getAttr (.var .principal) "level") (.lit (.int 1)), []⟩
    let p2 : Policy := ⟨"p2", .forbid, .binaryApp .less (.getAttr (.var .principal) "level") (.lit (.int 0)), []⟩
    let p3 : Policy := ⟨"p3", .forbid, .binaryApp .eq (.var .principal) (.slot .principal), [(.principal, ⟨"User", "z"⟩)]⟩
    let ps := [p1, p2, p3]
    PS.DirectUnk pes ∧ (isAuthorizedCore [] preq pes ps).decision = none ∧
    (isAuthorizedCore [] preq pes ps).residualForbids.length = 2 ∧ (isAuthorized req es ps).decision = .allow ∧
    ∃ pr2, (isAuthorizedCore [] preq pes ps).reauthorize σ pes = .ok pr2 ∧
      pr2.decision = some (isAuthorized req es ps).decision ∧
      (∀ id, id ∈ pr2.concretize.reasons ↔ id ∈ (isAuthorized req es ps).reasons) := by
  intro σ req preq pes es p1 p2 p3 ps
  have hu : PS.UnkOK σ "u" none := ⟨_, rfl, trivial, by intro t ht; cases ht⟩
  have hS : PS.StoreCompletes σ pes es :=
    PS.storeCompletes_single _ _ _ rfl
      (PS.attrsComplete_cons "level" (show PS.AttrCompletes _ _ (.residual _) (.prim (.int 1)) from ⟨.unknown _ _ hu, trivial, fun _ _ => rfl⟩)
        PS.attrsComplete_nil)
      PS.attrsComplete_nil
  have hD : PS.DirectUnk pes := by
    refine ⟨rfl, ?_⟩
    intro u d hfd
    simp only [pes, PEntities.find?] at hfd
    split at hfd
    · cases hfd
      constructor
      · intro a r hl
        simp only [lookupKV] at hl
        split at hl
        · cases hl; exact ⟨_, _, rfl⟩
        · cases hl
      · intro a r hl; simp [lookupKV] at hl
    · cases hfd
  have hfrag : ∀ p, p ∈ ps → PS.Frag2 σ p.condition ∧ p.condition.unknowns = [] := by
    intro p hp
    simp only [ps, List.mem_cons, List.not_mem_nil, or_false] at hp
    rcases hp with rfl | rfl | rfl
    · exact ⟨.binaryApp .eq (.getAttr "level" (.var _)) (.lit _), rfl⟩
    · exact ⟨.binaryApp .less (.getAttr "level" (.var _)) (.lit _), rfl⟩
    · exact ⟨.binaryApp .eq (.var _) (.slot _), rfl⟩
  obtain ⟨hf1, hf2⟩ := PS.fuelOKOn_spec (pes2 := pes) (σ := σ) (req := req) (preq := preq) (pes := pes) (ps := ps) (by decide +kernel)
  obtain ⟨⟨pr2, h1, h2, _, h4⟩, _⟩ := partial_authorization_sound_direct σ req es preq pes ps ⟨trivial, trivial⟩
    hS hD ⟨⟨rfl, rfl⟩, rfl, rfl, rfl⟩ hfrag rfl (by decide +kernel) hf1 hf2
  exact ⟨hD, by decide +kernel, by decide +kernel, by decide +kernel, pr2, h1, h2, h4⟩

/-- **concretize_request_sound** — what `PartialResponse::concretize_request` computes is the relation the soundness
theorems assume.  If the model's `concretizeRequest σ` (the do-block mirroring the Rust function: principal / action /
resource through `EntityUIDEntry::concretize` — σ's value must be an entity, a known entry must not be re-bound, a typed
unknown must receive an entity of that type —; a missing context replaced by σ's `context` record, a present one conflicting
with it; then `Context::substitute` = substitution + restricted evaluation) returns the **concrete** request `req`, then
`PS.Concretizes2 σ es preq req` for every store `es`.  Side condition on the input: a residual context lies in the fragment
(`PS.CtxFrag`: σ defines its unknowns with canonical values of the annotated types; distinct keys).  Built from
`concretize_entry_gives_conc`, `context_substitute_gives_completes`, `restricted_eval_sound`. -/
theorem concretize_request_sound (σ : Mapper) (preq : PRequest) (pes : PEntities) (ps : List Policy) (es : Entities)
    (req : Request) (hcf : PS.CtxFrag σ preq.context)
    (hreq : (isAuthorizedCore [] preq pes ps).concretizeRequest σ = .ok (.ofConcrete req)) :
    PS.Concretizes2 σ es preq req := by
  have h := PS.concretizes2_of_concretizeRequest (isAuthorizedCore [] preq pes ps) σ es req
    (by rw [PS.isAuthorizedCore_request]; exact hcf) hreq
  rw [PS.isAuthorizedCore_request] at h
  exact h

/-- **partial_authorization_sound_req** — `partial_authorization_sound` with the request hypotheses reduced to ONE:
`concretize_request σ` succeeds with the concrete request `req` (`PS.Concretizes2` is derived by `concretize_request_sound`).
Remaining hypotheses: the store (`StoreCompletes`, canonical values), the policies and a residual context lie in the
fragment, no residual keeps a slot, fuel. -/
theorem partial_authorization_sound_req (σ : Mapper) (req : Request) (es : Entities) (preq : PRequest) (pes : PEntities)
    (ps : List Policy) (hctx : (Value.record req.context).Canon) (hstore : PS.StoreCanon es)
    (hS : PS.StoreCompletes σ pes es)
    (hfrag : ∀ p, p ∈ ps → PS.Frag2 σ p.condition ∧ p.condition.unknowns = [])
    (hcf : PS.CtxFrag σ preq.context)
    (hreq : (isAuthorizedCore [] preq pes ps).concretizeRequest σ = .ok (.ofConcrete req))
    (hslot : (isAuthorizedCore [] preq pes ps).residualPoliciesPanic = false)
    (hfuel1 : ∀ p, p ∈ ps → partialEvaluate [] preq pes p ≠ .stuck)
    (hfuel2 : ∀ p, p ∈ ps → ∀ q, residualPolicy (partialEvaluate [] preq pes p) p = some q →
      partialEvaluate σ (.ofConcrete req) (.ofConcrete es) q ≠ .stuck) :
    let pr := isAuthorizedCore [] preq pes ps
    (∃ pr2, pr.reauthorize σ (.ofConcrete es) = .ok pr2 ∧
      pr2.decision = some (isAuthorized req es ps).decision ∧
      pr2.concretize.decision = (isAuthorized req es ps).decision ∧
      (∀ id, id ∈ pr2.concretize.reasons ↔ id ∈ (isAuthorized req es ps).reasons)) ∧
    (∀ d, pr.decision = some d → (isAuthorized req es ps).decision = d) ∧
    (∀ id, id ∈ pr.mustBeDetermining → id ∈ (isAuthorized req es ps).reasons) ∧
    (∀ id, id ∈ (isAuthorized req es ps).reasons → id ∈ pr.mayBeDetermining) :=
  partial_authorization_sound σ req es preq pes ps hctx hstore hS
    (concretize_request_sound σ preq pes ps es req hcf hreq) hfrag hreq hslot hfuel1 hfuel2

/-- … and the one-round statement on the unsubstituted store, likewise. -/
theorem partial_authorization_sound_direct_req (σ : Mapper) (req : Request) (es : Entities) (preq : PRequest) (pes : PEntities)
    (ps : List Policy) (hctx : (Value.record req.context).Canon)
    (hS : PS.StoreCompletes σ pes es) (hD : PS.DirectUnk pes)
    (hfrag : ∀ p, p ∈ ps → PS.Frag2 σ p.condition ∧ p.condition.unknowns = [])
    (hcf : PS.CtxFrag σ preq.context)
    (hreq : (isAuthorizedCore [] preq pes ps).concretizeRequest σ = .ok (.ofConcrete req))
    (hslot : (isAuthorizedCore [] preq pes ps).residualPoliciesPanic = false)
    (hfuel1 : ∀ p, p ∈ ps → partialEvaluate [] preq pes p ≠ .stuck)
    (hfuel2 : ∀ p, p ∈ ps → ∀ q, residualPolicy (partialEvaluate [] preq pes p) p = some q →
      partialEvaluate σ (.ofConcrete req) pes q ≠ .stuck) :
    let pr := isAuthorizedCore [] preq pes ps
    (∃ pr2, pr.reauthorize σ pes = .ok pr2 ∧
      pr2.decision = some (isAuthorized req es ps).decision ∧
      pr2.concretize.decision = (isAuthorized req es ps).decision ∧
      (∀ id, id ∈ pr2.concretize.reasons ↔ id ∈ (isAuthorized req es ps).reasons)) ∧
    (∀ d, pr.decision = some d → (isAuthorized req es ps).decision = d) ∧
    (∀ id, id ∈ pr.mustBeDetermining → id ∈ (isAuthorized req es ps).reasons) ∧
    (∀ id, id ∈ (isAuthorized req es ps).reasons → id ∈ pr.mayBeDetermining) :=
  partial_authorization_sound_direct σ req es preq pes ps hctx hS hD
    (concretize_request_sound σ preq pes ps es req hcf hreq) hfrag hreq hslot hfuel1 hfuel2

/-- non-vacuity of `concretize_request_sound` / `partial_authorization_sound_req`: typed unknown principal, **residual
    context** `{lim: unknown("l": long)}`, the store of `second_round_needed` (nested and direct unknown attributes);
    `principal.level < context.lim`.  `concretize_request` computes the concrete request (kernel-checked `rfl`), from which
    `Concretizes2` follows; one round on the substituted store gives the concrete `Allow`.  Rejections of
    `concretize_request`: a non-entity value for `principal`, an entity of the wrong type, re-binding the known action. -/
example :
    let σ : Mapper := [("principal", .prim (.entityUID ⟨"User", "a"⟩)), ("u", .prim (.int 1)), ("l", .prim (.int 7))]
    let req : Request := ⟨⟨"User", "a"⟩, ⟨"A", "x"⟩, ⟨"R", "r"⟩, [("lim", .prim (.int 7))]⟩
    let preq : PRequest := ⟨.unknown (some "User"), .known ⟨"A", "x"⟩, .known ⟨"R", "r"⟩,
      some (.residual [("lim", .unknown "l" (some .long))])⟩
    let p : Policy := ⟨"lt", .permit, .binaryApp .less (.getAttr (.var .principal) "level") (.getAttr (.var .context) "lim"), []⟩
    (isAuthorizedCore [] preq PS.srPes [p]).concretizeRequest σ = .ok (.ofConcrete req) ∧
    PS.Concretizes2 σ PS.srEs preq req ∧
    (isAuthorizedCore [] preq PS.srPes [p]).decision = none ∧
    (∃ pr2, (isAuthorizedCore [] preq PS.srPes [p]).reauthorize σ (.ofConcrete PS.srEs) = .ok pr2 ∧
      pr2.decision = some (isAuthorized req PS.srEs [p]).decision ∧ (isAuthorized req PS.srEs [p]).decision = .allow) ∧
    (isAuthorizedCore [] preq PS.srPes [p]).concretizeRequest [("principal", .prim (.int 3))] = .error .concretization ∧
    (isAuthorizedCore [] preq PS.srPes [p]).concretizeRequest [("principal", .prim (.entityUID ⟨"Group", "g"⟩))] = .error .concretization ∧
    (isAuthorizedCore [] preq PS.srPes [p]).concretizeRequest [("action", .prim (.entityUID ⟨"A", "x"⟩))] = .error .concretization := by
  intro σ req preq p
  have hl : PS.UnkOK σ "l" (some .long) := ⟨_, rfl, trivial, by intro t ht; cases ht; rfl⟩
  have hu : PS.UnkOK σ "u" none := ⟨_, rfl, trivial, by intro t ht; cases ht⟩
  have hcf : PS.CtxFrag σ preq.context := by
    intro kvs hk
    cases hk
    refine .record (by decide) ?_
    intro kv hkv; simp only [List.mem_cons, List.not_mem_nil, or_false] at hkv; subst hkv; exact .unknown _ _ hl
  have hreq : (isAuthorizedCore [] preq PS.srPes [p]).concretizeRequest σ = .ok (.ofConcrete req) := rfl
  have hcan : (Value.record [("x", .prim (.int 1))]).Canon := ⟨⟨(by intro k' h; cases h), trivial⟩, trivial, trivial⟩
  have hstore : PS.StoreCanon PS.srEs := by
    intro u d h
    simp only [PS.srEs, Entities.find?] at h
    split at h
    · cases h; exact ⟨⟨hcan, trivial, trivial⟩, trivial, trivial⟩
    · cases h
  have hS : PS.StoreCompletes σ PS.srPes PS.srEs := by
    refine PS.storeCompletes_single _ _ _ rfl
      (PS.attrsComplete_cons "info" (show PS.AttrCompletes _ _ (.residual _) _ from ⟨.record (by decide) ?_, hcan, fun _ _ => rfl⟩)
        (PS.attrsComplete_cons "level" (show PS.AttrCompletes _ _ (.residual _) (.prim (.int 1)) from ⟨.unknown _ _ hu, trivial, fun _ _ => rfl⟩)
          PS.attrsComplete_nil))
      (PS.attrsComplete_cons "t" (show PS.AttrCompletes _ _ (.residual _) (.prim (.int 1)) from ⟨.unknown _ _ hu, trivial, fun _ _ => rfl⟩)
        PS.attrsComplete_nil)
    intro kv hkv; simp only [List.mem_cons, List.not_mem_nil, or_false] at hkv; subst hkv; exact .unknown _ _ hu
  have hfrag : ∀ q, q ∈ [p] → PS.Frag2 σ q.condition ∧ q.condition.unknowns = [] := by
    intro q hq; simp only [List.mem_cons, List.not_mem_nil, or_false] at hq; subst hq
    exact ⟨.binaryApp .less (.getAttr "level" (.var _)) (.getAttr "lim" (.var _)), rfl⟩
  obtain ⟨hf1, hf2⟩ := PS.fuelOK_spec (σ := σ) (req := req) (es := PS.srEs) (preq := preq) (pes := PS.srPes) (ps := [p])
    (by decide +kernel)
  have hctx : (Value.record req.context).Canon := ⟨⟨(by intro k' h; cases h), trivial⟩, trivial, trivial⟩
  obtain ⟨⟨pr2, h1, h2, _, _⟩, _⟩ := partial_authorization_sound_req σ req PS.srEs preq PS.srPes [p] hctx hstore hS hfrag hcf hreq
    (by decide +kernel) hf1 hf2
  exact ⟨hreq, concretize_request_sound σ preq PS.srPes [p] PS.srEs req hcf hreq, by decide +kernel, ⟨pr2, h1, h2, by decide +kernel⟩,
    rfl, rfl, rfl⟩

/-- … the other context branch of `concretize_request`: a **missing** context supplied by σ's `context` record; a context that
    is present conflicts with it; a non-record value for `context` is rejected. -/
example :
    let σ : Mapper := [("context", .record [("lim", .prim (.int 7))])]
    let req : Request := ⟨⟨"User", "a"⟩, ⟨"A", "x"⟩, ⟨"R", "r"⟩, [("lim", .prim (.int 7))]⟩
    let preq : PRequest := ⟨.known ⟨"User", "a"⟩, .known ⟨"A", "x"⟩, .known ⟨"R", "r"⟩, none⟩
    (isAuthorizedCore [] preq ⟨[], false⟩ []).concretizeRequest σ = .ok (.ofConcrete req) ∧
    PS.Concretizes2 σ [] preq req ∧
    (isAuthorizedCore [] (.ofConcrete req) ⟨[], false⟩ []).concretizeRequest σ = .error .concretization ∧
    (isAuthorizedCore [] preq ⟨[], false⟩ []).concretizeRequest [("context", .prim (.int 1))] = .error .concretization := by
  intro σ req preq
  have hreq : (isAuthorizedCore [] preq ⟨[], false⟩ []).concretizeRequest σ = .ok (.ofConcrete req) := rfl
  exact ⟨hreq, concretize_request_sound σ preq ⟨[], false⟩ [] [] req (by intro kvs hk; cases hk) hreq, rfl, rfl⟩

/-- **unknown_call_counterexample** (kernel-checked) — the soundness statement is FALSE for policies that call the
`unknown` extension function, in both forms, so the side condition `fn ≠ "unknown"` of `Frag2.call` cannot be dropped.
Rust: in `partial_interpret` the arm `ExtensionFunctionApp` evaluates the arguments and calls `efunc.call`, which for `unknown`
(`extensions/partial_evaluation.rs: create_new_unknown`) returns `PartialValue::Residual(Expr::unknown(Unknown::new_untyped(s)))`
directly — an unknown *node*, not passed through the unknowns mapper; `Evaluator::interpret` (concrete evaluation) turns that
residual into the error `non_value`; `Expr::substitute` replaces unknown nodes only, it never touches the call.  Hence for
`permit when { unknown("x") == 1 }`, a fully concrete request, the empty store and σ = {x ↦ 1}:
  * the first pass leaves `unknown(x) == 1` (a node now) — also with a first-pass mapper that defines `x`;
  * substitution form: the substituted residual evaluates to `true`, the substituted policy text (= the policy text) is an
    error;
  * `reauthorize` form: one `reauthorize σ` round answers `Allow`, the fresh concrete authorization of the policy answers
    `Deny` (the policy errors) — although every other hypothesis of `partial_authorization_sound` holds (`unknowns = []`,
    no slot, `concretize_request` succeeds, no budget exhaustion);
  * read as the node it creates (`PS.desugarUnk`), the policy is in `Frag2 σ` and concretely `Allow`: the only concrete
    counterpart such a policy has is its (substituted) desugaring. -/
theorem unknown_call_counterexample :
    let e : Expr := .binaryApp .eq (.call "unknown" [.lit (.string "x")]) (.lit (.int 1))
    let r : Expr := .binaryApp .eq (.unknown "x" none) (.lit (.int 1))
    let σ : Mapper := [("x", .prim (.int 1))]
    let req : Request := ⟨⟨"U", "a"⟩, ⟨"A", "x"⟩, ⟨"R", "r"⟩, []⟩
    let p : Policy := ⟨"p", .permit, e, []⟩
    let p' : Policy := ⟨"p", .permit, (PS.desugarUnk e).substUnk σ, []⟩
    pinterp [] (.ofConcrete req) ⟨[], false⟩ [] 10 e = .res r ∧
    pinterp σ (.ofConcrete req) ⟨[], false⟩ [] 10 e = .res r ∧
    e.substUnk σ = e ∧ e.unknowns = [] ∧
    evaluate req [] [] (r.substUnk σ) = .ok (.prim (.bool true)) ∧
    evaluate req [] [] (e.substUnk σ) = .error .ext ∧
    ¬ PS.Agree (evaluate req [] [] (r.substUnk σ)) (evaluate req [] [] (e.substUnk σ)) ∧
    (isAuthorizedCore [] (.ofConcrete req) ⟨[], false⟩ [p]).concretizeRequest σ = .ok (.ofConcrete req) ∧
    (isAuthorizedCore [] (.ofConcrete req) ⟨[], false⟩ [p]).residualPoliciesPanic = false ∧
    PS.fuelOK σ req [] (.ofConcrete req) ⟨[], false⟩ [p] = true ∧
    (∃ pr2, (isAuthorizedCore [] (.ofConcrete req) ⟨[], false⟩ [p]).reauthorize σ (.ofConcrete []) = .ok pr2 ∧
      pr2.decision = some .allow) ∧
    (isAuthorized req [] [p]).decision = .deny ∧
    PS.desugarUnk e = r ∧ PS.Frag2 σ (PS.desugarUnk e) ∧ (isAuthorized req [] [p']).decision = .allow := by
  intro e r σ req p p'
  have h1 : evaluate req [] [] (r.substUnk σ) = .ok (.prim (.bool true)) := by with_unfolding_all rfl
  have h2 : evaluate req [] [] (e.substUnk σ) = .error .ext := by with_unfolding_all rfl
  refine ⟨rfl, rfl, rfl, rfl, h1, h2, ?_, rfl, by decide +kernel, by decide +kernel, ⟨_, rfl, by decide +kernel⟩,
    by decide +kernel, rfl, ?_, by decide +kernel⟩
  · rw [h1, h2]
    rintro (⟨v, _, hv⟩ | ⟨c, c', hc, _⟩)
    · cases hv
    · cases hc
  · exact .binaryApp .eq (.unknown "x" none ⟨_, rfl, trivial, by intro t ht; cases ht⟩) (.lit _)

/-- **Full statement for `unknown` calls**, kept visible; NOT proved.  The sound reading of a policy that calls
`unknown("s")` with a literal name is its desugaring `PS.desugarUnk` (the call replaced by the untyped unknown node it
creates): the first pass (empty mapper, as in `is_authorized_core`) on the policy text is sound for the substituted
*desugared* text; residuals are compared after desugaring too, because the best-effort fall-back (`bestEffort`) copies
original operands — calls included — into residuals.  Calls with a computed name (`unknown(context.n)`) stay outside. -/
def UnknownCallSoundFull : Prop :=
  ∀ (σ : Mapper) (req : Request) (es : Entities) (env : SlotEnv) (e : Expr) (preq : PRequest) (pes : PEntities) (n : Nat),
    (Value.record req.context).Canon → PS.Frag2 σ (PS.desugarUnk e) → PS.StoreCompletes σ pes es → PS.Concretizes2 σ es preq req →
    match pinterp [] preq pes env n e with
    | .val v => evaluate req es env ((PS.desugarUnk e).substUnk σ) = .ok v
    | .err _ => ∃ c, evaluate req es env ((PS.desugarUnk e).substUnk σ) = .error c
    | .res r => PS.Agree (evaluate req es env ((PS.desugarUnk r).substUnk σ)) (evaluate req es env ((PS.desugarUnk e).substUnk σ))
    | .fuel => True
    | .panic => True

/-- **unknown_call_sound_partial** — what is proved of `UnknownCallSoundFull`: the call itself.  For every mapper, partial
request, store and budget ≥ 2 the first pass turns `unknown("s")` into the node `unknown(s)` (never consulting the
mapper), and if σ defines `s` that residual, substituted, evaluates to σ's value — the value of the substituted desugaring.
Missing: the congruence "first pass of `e` = first pass of `desugarUnk e` up to desugaring of residuals and one unit of
budget per call" through all arms of `partial_interpret` (best-effort fall-backs, `get_attr` re-interpretation, typed-unknown
short circuits — which never fire on the untyped node a call creates). -/
theorem unknown_call_sound_partial (σ m : Mapper) (req : Request) (es : Entities) (env : SlotEnv) (preq : PRequest)
    (pes : PEntities) (n : Nat) (s : String) (hs : PS.UnkOK σ s none) :
    let e : Expr := .call "unknown" [.lit (.string s)]
    PS.desugarUnk e = .unknown s none ∧
    pinterp m preq pes env (n + 2) e = .res (PS.desugarUnk e) ∧
    ∃ v, lookupKV σ s = some v ∧ evaluate req es env ((PS.desugarUnk e).substUnk σ) = .ok v := by
  intro e
  obtain ⟨v, hl, hcan, _⟩ := hs
  have hd : PS.desugarUnk e = .unknown s none := by simp [e, PS.desugarUnk, PS.isUnkCall]
  refine ⟨hd, ?_, v, hl, ?_⟩
  · rw [hd]; exact PS.pinterp_unknownCall m preq pes env n s
  · rw [hd]; exact PS.Y_unknown σ req es env hl hcan

/-- kernel-checked instance of `UnknownCallSoundFull` beyond the bare call: unknown principal, `unknown("y") && (1 + "a" ==
    unknown("x")) || principal == unknown("z")` — the erroring right operand of `&&` is copied into the residual by the
    best-effort fall-back, call included; after desugaring, both sides evaluate to `true` under σ. -/
example :
    let σ : Mapper := [("principal", .prim (.entityUID ⟨"U", "a"⟩)), ("x", .prim (.int 1)), ("y", .prim (.bool false)),
      ("z", .prim (.entityUID ⟨"U", "a"⟩))]
    let req : Request := ⟨⟨"U", "a"⟩, ⟨"A", "x"⟩, ⟨"R", "r"⟩, []⟩
    let preq : PRequest := ⟨.unknown (some "U"), .known ⟨"A", "x"⟩, .known ⟨"R", "r"⟩, some (.value [])⟩
    let e : Expr := .or (.and (.call "unknown" [.lit (.string "y")])
        (.binaryApp .eq (.binaryApp .add (.lit (.int 1)) (.lit (.string "a"))) (.call "unknown" [.lit (.string "x")])))
      (.binaryApp .eq (.var .principal) (.call "unknown" [.lit (.string "z")]))
    let r : Expr := .or (.and (.unknown "y" none)
        (.binaryApp .eq (.binaryApp .add (.lit (.int 1)) (.lit (.string "a"))) (.call "unknown" [.lit (.string "x")])))
      (.binaryApp .eq (.unknown "principal" (some (.entity "U"))) (.unknown "z" none))
    pinterp [] preq ⟨[], false⟩ [] 10 e = .res r ∧
    evaluate req [] [] ((PS.desugarUnk r).substUnk σ) = .ok (.prim (.bool true)) ∧
    evaluate req [] [] ((PS.desugarUnk e).substUnk σ) = .ok (.prim (.bool true)) := by
  intro σ req preq e r
  exact ⟨rfl, by with_unfolding_all rfl, by with_unfolding_all rfl⟩

end Cedar.C13
