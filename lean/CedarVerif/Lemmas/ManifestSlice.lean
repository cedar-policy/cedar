import CedarVerif.Cedar.Manifest
import CedarVerif.Lemmas.Data
import CedarVerif.Lemmas.ManifestTrieMap
/-
The relations the slicing results are stated in, and what `slice_val` keeps.
On tries (smaller first).  `AccessTrie.le` finds the entries of the smaller trie in the larger by LOOKUP: the order of the reader that
overwrites (`sliceFields`, `sliceVal_mono`).  `AccessTrie.sub` (Lemmas/ManifestOrder.lean) finds them by membership: the order of the
readers that walk every entry (`ancRequest`, `Cover*`).  `AccessTrie.leA` (Lemmas/ManifestMono.lean) is `le` with agreeing
`is_entity_type` annotations: the order of the slicer as a whole.  `leA → le → sub`.
On values (smaller first).  `Trim v' v`: `v'` is `v` with record fields dropped; transitive, reflexive only where no record repeats a
key.  `Le` is the preorder it induces, carried where reflexivity is needed (the root of a walk, a store compared with itself).
On stores.  `SubStore es es'` (Lemmas/ManifestCover.lean) takes the LARGER store first; `AttrsLe m m'` and `AttrsBelow m M` (attributes
only, compared by `Le` and by `TrimKVs`) take the smaller first.
-/
namespace Cedar.Manifest
open Cedar

mutual
def AccessTrie.le : AccessTrie → AccessTrie → Prop
  | .mk c1 a1 i1 _, t2 => fieldsLe c1 t2.children ∧ rootsLe a1 t2.ancestors ∧ (i1 = true → t2.isAncestor = true)
def fieldsLe : Fields → Fields → Prop
  | [], _ => True
  | (k, t) :: rest, c2 => (∃ t2, lookupField c2 k = some t2 ∧ AccessTrie.le t t2) ∧ fieldsLe rest c2
def rootsLe : RootAccessTrie → RootAccessTrie → Prop
  | [], _ => True
  | (k, t) :: rest, c2 => (∃ t2, lookupRoot c2 k = some t2 ∧ AccessTrie.le t t2) ∧ rootsLe rest c2
end

theorem fieldsLe_iff (c1 c2 : Fields) :
    fieldsLe c1 c2 ↔ ∀ k t, (k, t) ∈ c1 → ∃ t2, lookupField c2 k = some t2 ∧ AccessTrie.le t t2 :=
  forall_mem_of_eqns (S := fun c => fieldsLe c c2) trivial (fun _ _ _ => Iff.rfl) c1

theorem rootsLe_iff (c1 c2 : RootAccessTrie) :
    rootsLe c1 c2 ↔ ∀ k t, (k, t) ∈ c1 → ∃ t2, lookupRoot c2 k = some t2 ∧ AccessTrie.le t t2 :=
  forall_mem_of_eqns (S := fun c => rootsLe c c2) trivial (fun _ _ _ => Iff.rfl) c1

theorem fieldsLe_lookup : ∀ (c1 c2 : Fields) (k : String) (t : AccessTrie),
    fieldsLe c1 c2 → lookupField c1 k = some t → ∃ t2, lookupField c2 k = some t2 ∧ AccessTrie.le t t2 :=
  fun c1 c2 k t hle h => (fieldsLe_iff c1 c2).1 hle k t (fieldsMap.mem_of_look h)

theorem rootsLe_lookup : ∀ (c1 c2 : RootAccessTrie) (k : EntityRoot) (t : AccessTrie),
    rootsLe c1 c2 → lookupRoot c1 k = some t → ∃ t2, lookupRoot c2 k = some t2 ∧ AccessTrie.le t t2 :=
  fun c1 c2 k t hle h => (rootsLe_iff c1 c2).1 hle k t (rootsMap.mem_of_look h)

mutual
def Trim : Value → Value → Prop
  | .record kvs', v => ∃ kvs, v = .record kvs ∧ TrimKVs kvs' kvs
  | .prim p, v => v = .prim p
  | .set s, v => v = .set s
  | .ext x, v => v = .ext x
def TrimKVs : List (String × Value) → List (String × Value) → Prop
  | [], _ => True
  | (k, v') :: rest, kvs => (∃ v, lookupKV kvs k = some v ∧ Trim v' v) ∧ TrimKVs rest kvs
end

theorem trim_nonrecord {v' v : Value} (h : Trim v' v) (hv : ∀ kvs, v ≠ .record kvs) : v' = v := by
  cases v' with
  | record kvs' => simp only [Trim] at h; obtain ⟨kvs, e, _⟩ := h; exact absurd e (hv kvs)
  | prim p => simp only [Trim] at h; exact h.symm
  | set s => simp only [Trim] at h; exact h.symm
  | ext x => simp only [Trim] at h; exact h.symm

theorem trimKVs_iff (kvs' kvs : List (String × Value)) :
    TrimKVs kvs' kvs ↔ ∀ k w', (k, w') ∈ kvs' → ∃ w, lookupKV kvs k = some w ∧ Trim w' w :=
  forall_mem_of_eqns (S := fun l => TrimKVs l kvs) trivial (fun _ _ _ => Iff.rfl) kvs'

theorem trimKVs_mem (kvs' kvs : List (String × Value)) : TrimKVs kvs' kvs →
    ∀ k w', (k, w') ∈ kvs' → ∃ w, lookupKV kvs k = some w ∧ Trim w' w :=
  (trimKVs_iff kvs' kvs).1

theorem trimKVs_of_lookup (kvs' kvs : List (String × Value)) :
    (∀ k w', (k, w') ∈ kvs' → ∃ w, lookupKV kvs k = some w ∧ Trim w' w) → TrimKVs kvs' kvs :=
  (trimKVs_iff kvs' kvs).2

theorem trimKVs_lookup (kvs' kvs : List (String × Value)) (k : String) (w' : Value) (ht : TrimKVs kvs' kvs)
    (h : lookupKV kvs' k = some w') : ∃ w, lookupKV kvs k = some w ∧ Trim w' w :=
  trimKVs_mem kvs' kvs ht k w' (lookupKV_mem h)

theorem trim_prim {v' : Value} {p : Prim} (h : Trim v' (.prim p)) : v' = .prim p :=
  trim_nonrecord h (by intro kvs; simp)

theorem trim_record_inv {v' : Value} {kvs : List (String × Value)} (h : Trim v' (.record kvs)) :
    ∃ kvs', v' = .record kvs' ∧ TrimKVs kvs' kvs := by
  cases v' with
  | record kvs' =>
    simp only [Trim] at h
    obtain ⟨k2, e, h⟩ := h
    cases e
    exact ⟨kvs', rfl, h⟩
  | prim p => simp [Trim] at h
  | set s => simp [Trim] at h
  | ext x => simp [Trim] at h

theorem trim_shape {v' v : Value} (h : Trim v' v) : v' = v ∨ ∃ kvs kvs', v = .record kvs ∧ v' = .record kvs' := by
  cases v with
  | record kvs => obtain ⟨kvs', e, _⟩ := trim_record_inv h; exact .inr ⟨kvs, kvs', rfl, e⟩
  | prim p => exact .inl (trim_prim h)
  | set s => exact .inl (trim_nonrecord h (by intro kvs; simp))
  | ext x => exact .inl (trim_nonrecord h (by intro kvs; simp))

theorem trimKVs_insertKV {r1 kvs : List (String × Value)} {k : String} {x w : Value}
    (h : TrimKVs r1 kvs) (hl : lookupKV kvs k = some w) (hx : Trim x w) : TrimKVs (insertKV k x r1) kvs := by
  apply trimKVs_of_lookup
  intro k' a hm
  rcases mem_insertKV hm with e | hm
  · cases e; exact ⟨w, hl, hx⟩
  · exact trimKVs_mem _ _ h k' a hm

mutual
theorem trim_trans : ∀ (a b c : Value), Trim a b → Trim b c → Trim a c
  | .record kvs' => fun b c h1 h2 => by
    simp only [Trim] at h1
    obtain ⟨kvsb, e, h1⟩ := h1
    subst e
    simp only [Trim] at h2 ⊢
    obtain ⟨kvsc, e, h2⟩ := h2
    exact ⟨kvsc, e, trimKVs_trans kvs' kvsb kvsc h1 h2⟩
  | .prim p => fun b c h1 h2 => by simp only [Trim] at h1; subst h1; exact h2
  | .set s => fun b c h1 h2 => by simp only [Trim] at h1; subst h1; exact h2
  | .ext x => fun b c h1 h2 => by simp only [Trim] at h1; subst h1; exact h2
theorem trimKVs_trans : ∀ (a b c : List (String × Value)), TrimKVs a b → TrimKVs b c → TrimKVs a c
  | [] => fun _ _ _ _ => by simp [TrimKVs]
  | (k, v') :: rest => fun b c h1 h2 => by
    simp only [TrimKVs] at h1 ⊢
    obtain ⟨⟨vb, hl, ht⟩, hr⟩ := h1
    obtain ⟨vc, hl2, ht2⟩ := trimKVs_lookup b c k vb h2 hl
    exact ⟨⟨vc, hl2, trim_trans v' vb vc ht ht2⟩, trimKVs_trans rest b c hr h2⟩
end

def Le (x y : Value) : Prop := ∀ b, Trim b x → Trim b y

theorem Le.refl (x : Value) : Le x x := fun _ h => h
theorem Le.trans {x y z : Value} (h1 : Le x y) (h2 : Le y z) : Le x z := fun b h => h2 b (h1 b h)

def botV : Value → Value
  | .record _ => .record []
  | v => v

theorem trim_botV (v : Value) : Trim (botV v) v := by
  cases v with
  | record kvs => simp [botV, Trim, TrimKVs]
  | prim p => simp [botV, Trim]
  | set s => simp [botV, Trim]
  | ext x => simp [botV, Trim]

theorem trim_single {f : String} {b x : Value} {kx : List (String × Value)} (hl : lookupKV kx f = some x) (hb : Trim b x) :
    Trim (.record [(f, b)]) (.record kx) := by
  simp only [Trim, TrimKVs, and_true]
  exact ⟨kx, rfl, x, hl, hb⟩

theorem trim_single_inv {f : String} {b y : Value} (h : Trim (.record [(f, b)]) y) :
    ∃ ky y', y = .record ky ∧ lookupKV ky f = some y' ∧ Trim b y' := by
  simp only [Trim, TrimKVs, and_true] at h
  obtain ⟨ky, e, y', h1, h2⟩ := h
  exact ⟨ky, y', e, h1, h2⟩

/-- `Le` quantifies over all trimmed copies of `x`: probing it with the copy that keeps the single field `f` (`trim_single`)
    reads off what `y` holds at `f` -/
theorem le_lookup {kx : List (String × Value)} {y : Value} {f : String} {x' : Value}
    (h : Le (.record kx) y) (hl : lookupKV kx f = some x') :
    ∃ ky y', y = .record ky ∧ lookupKV ky f = some y' ∧ Le x' y' := by
  obtain ⟨ky, y', e, h1, _⟩ := trim_single_inv (h _ (trim_single hl (trim_botV x')))
  refine ⟨ky, y', e, h1, ?_⟩
  intro b hb
  obtain ⟨ky2, y2, e2, h3, h4⟩ := trim_single_inv (h _ (trim_single hl hb))
  rw [e] at e2
  cases e2
  rw [h1] at h3
  cases h3
  exact h4

theorem le_nonrecord {x y : Value} (hx : ∀ kvs, x ≠ .record kvs) (h : Le x y) : y = x := by
  cases x with
  | record kvs => exact absurd rfl (hx kvs)
  | prim p => have := h (.prim p) (by simp [Trim]); simpa [Trim] using this
  | set s => have := h (.set s) (by simp [Trim]); simpa [Trim] using this
  | ext e => have := h (.ext e) (by simp [Trim]); simpa [Trim] using this

theorem le_record_inv {kx : List (String × Value)} {y : Value} (h : Le (.record kx) y) : ∃ ky, y = .record ky := by
  have := h (.record []) (by simp [Trim, TrimKVs])
  simp only [Trim, TrimKVs, and_true] at this
  exact this

theorem le_of_trim {x y : Value} (h : Trim x y) : Le x y := fun b hb => trim_trans b x y hb h

theorem le_record_of_kvs {r1 r2 : List (String × Value)} (h : ∀ ra, TrimKVs ra r1 → TrimKVs ra r2) :
    Le (.record r1) (.record r2) := by
  intro b hb
  obtain ⟨rb, e, hb'⟩ := trim_record_inv hb
  subst e
  simp only [Trim]
  exact ⟨_, rfl, h rb hb'⟩

theorem lookup_sliceFields : ∀ (c : Fields) (kvs : List (String × Value)) (k : String),
    lookupKV (sliceFields c kvs) k =
      match lookupField c k with
      | some t => (lookupKV kvs k).map (sliceVal t)
      | none => none
  | [], kvs, k => by simp [sliceFields, lookupKV, lookupField]
  | (f, t) :: rest, kvs, k => by
    have ih := lookup_sliceFields rest kvs k
    unfold sliceFields
    simp only [lookupField]
    cases hv : lookupKV kvs f with
    | none =>
      simp only [ih]
      by_cases e : (f == k) = true
      · have e' : f = k := by simpa using e
        subst e'
        simp only [beq_self_eq_true, if_true, hv, Option.map_none]
        cases lookupField rest f <;> simp
      · simp only [e]
        simp
    | some v =>
      simp only [lookupKV_insertKV, ih]
      by_cases e : (f == k) = true
      · have e' : f = k := by simpa using e
        subst e'
        simp [hv]
      · simp only [e]
        simp

theorem mem_sliceFields : ∀ (c : Fields) (kvs : List (String × Value)) (k : String) (w' : Value),
    (k, w') ∈ sliceFields c kvs → ∃ t v, (k, t) ∈ c ∧ lookupKV kvs k = some v ∧ w' = sliceVal t v
  | [], _, _, _, h => by simp [sliceFields] at h
  | (f, t) :: rest, kvs, k, w', h => by
    unfold sliceFields at h
    cases hv : lookupKV kvs f with
    | none =>
      simp only [hv] at h
      obtain ⟨t', v, h1, h2, h3⟩ := mem_sliceFields rest kvs k w' h
      exact ⟨t', v, by simp [h1], h2, h3⟩
    | some v =>
      simp only [hv] at h
      rcases mem_insertKV h with h | h
      · cases h
        exact ⟨t, v, by simp, hv, rfl⟩
      · obtain ⟨t', v', h1, h2, h3⟩ := mem_sliceFields rest kvs k w' h
        exact ⟨t', v', by simp [h1], h2, h3⟩

theorem sliceVal_trim : ∀ (t : AccessTrie) (v : Value), Trim (sliceVal t v) v :=
  AccessTrie.induct fun c _ _ _ hc _ v => by
    cases v with
    | record kvs =>
      simp only [sliceVal, Trim]
      refine ⟨kvs, rfl, (trimKVs_iff _ _).2 fun k w' hm => ?_⟩
      obtain ⟨t, w, h1, h2, rfl⟩ := mem_sliceFields c kvs k w' hm
      exact ⟨w, h2, hc k t h1 w⟩
    | prim p => simp [sliceVal, Trim]
    | set s => simp [sliceVal, Trim]
    | ext x => simp [sliceVal, Trim]

theorem sliceFields_trim (c : Fields) (kvs : List (String × Value)) : TrimKVs (sliceFields c kvs) kvs :=
  (trimKVs_iff _ _).2 fun k w' hm =>
    let ⟨t, w, _, h2, e⟩ := mem_sliceFields c kvs k w' hm
    ⟨w, h2, e ▸ sliceVal_trim t w⟩

theorem sliceFields_mono_of {c1 c2 : Fields} {kvs : List (String × Value)}
    (hV : ∀ k t, (k, t) ∈ c1 → ∀ t2 v, AccessTrie.le t t2 → Trim (sliceVal t v) (sliceVal t2 v)) (hle : fieldsLe c1 c2) :
    ∀ k w', (k, w') ∈ sliceFields c1 kvs → ∃ w, lookupKV (sliceFields c2 kvs) k = some w ∧ Trim w' w := fun k w' hm =>
  let ⟨t, v, h1, hv, e⟩ := mem_sliceFields c1 kvs k w' hm
  let ⟨t2, h2, h3⟩ := (fieldsLe_iff c1 c2).1 hle k t h1
  ⟨sliceVal t2 v, by rw [lookup_sliceFields, h2, hv]; rfl, e ▸ hV k t h1 t2 v h3⟩

theorem sliceVal_mono : ∀ (t1 t2 : AccessTrie) (v : Value), AccessTrie.le t1 t2 → Trim (sliceVal t1 v) (sliceVal t2 v) :=
  AccessTrie.induct fun c1 _ _ _ hc _ t2 v hle => by
    obtain ⟨c2, a2, i2, e2⟩ := t2
    cases v with
    | record kvs =>
      simp only [sliceVal, Trim]
      exact ⟨_, rfl, (trimKVs_iff _ _).2 (sliceFields_mono_of hc hle.1)⟩
    | prim p => simp [sliceVal, Trim]
    | set s => simp [sliceVal, Trim]
    | ext x => simp [sliceVal, Trim]

theorem sliceFields_mono (c1 c2 : Fields) (kvs : List (String × Value)) : fieldsLe c1 c2 →
    ∀ k w', (k, w') ∈ sliceFields c1 kvs → ∃ w, lookupKV (sliceFields c2 kvs) k = some w ∧ Trim w' w :=
  sliceFields_mono_of fun _ t _ t2 v => sliceVal_mono t t2 v

def subtrie : AccessTrie → List String → Option AccessTrie
  | t, [] => some t
  | t, f :: fs =>
    match lookupField t.children f with
    | some t' => subtrie t' fs
    | none => none

def project : Value → List String → Option Value
  | v, [] => some v
  | .record kvs, f :: fs =>
    match lookupKV kvs f with
    | some w => project w fs
    | none => none
  | _, _ :: _ => none

theorem project_sliceVal : ∀ (fs : List String) (t t' : AccessTrie) (v : Value), subtrie t fs = some t' →
    project (sliceVal t v) fs = (project v fs).map (sliceVal t')
  | [], t, t', v, h => by
    simp only [subtrie, Option.some.injEq] at h
    subst h
    simp [project]
  | f :: fs, .mk c a i e, t', v, h => by
    simp only [subtrie, AccessTrie.children] at h
    cases hl : lookupField c f with
    | none => simp [hl] at h
    | some t1 =>
      simp only [hl] at h
      cases v with
      | record kvs =>
        simp only [sliceVal, project, lookup_sliceFields, hl]
        cases hk : lookupKV kvs f with
        | none => simp
        | some w => simpa using project_sliceVal fs t1 t' w h
      | prim p => simp [sliceVal, project]
      | set s => simp [sliceVal, project]
      | ext x => simp [sliceVal, project]

theorem sliceVal_nonrecord (t : AccessTrie) (v : Value) (h : ∀ kvs, v ≠ .record kvs) : sliceVal t v = v := by
  obtain ⟨c, a, i, e⟩ := t
  cases v with
  | record kvs => exact absurd rfl (h kvs)
  | prim p => rfl
  | set s => rfl
  | ext x => rfl

theorem sliceStore_ok {t : RootAccessTrie} {req : Request} {es es' : Entities} (h : sliceStore (some t) req es = .ok es') :
    es' = sliceStorePure t req es := by
  simp only [sliceStore] at h
  split at h
  · cases h
  · exact (Except.ok.inj h).symm

end Cedar.Manifest
