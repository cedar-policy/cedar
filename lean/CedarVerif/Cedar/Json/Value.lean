import CedarVerif.Cedar.Json.Json
import CedarVerif.Cedar.Json.SchemaType
import CedarVerif.Cedar.Eval
/-
Cedar values / entities <-> JSON.  Mirrors cedar-policy-core/src/entities/json/{value,entities,context}.rs:

* `CJ`                 = `CedarValueJson` (the escape-aware JSON shape), `CJ.ofRaw` = its `Deserialize` impl
                         (`RawCedarValueJson` + `From<RawCedarValueJson>`), `CJ.toJson` = its `Serialize` impl
* `CJ.intoExpr`        = `CedarValueJson::into_expr` / `FnAndArgs::into_expr` (result: a restricted `Expr`)
* `fromExpr/fromValueWith` = `CedarValueJson::from_expr` / `from_value` (`check_for_reserved_keys`)
* `typed`              = `ValueParser::val_into_restricted_expr` (expected-type directed; `EntityUidJson`,
                         `ExtnValueJson` untagged deserialisation)
* `evalR`              = `RestrictedEvaluator::interpret` (the evaluator model on a restricted expression)
* `toJson / ofJson / ofJsonTyped`, entity and store level.

An extension value in Rust remembers the call that produced it (`RepresentableExtensionValue{func,args}`);
the model's `Ext` is the represented value only, so serialisation is parametrised by a rendering
`ρ : Ext → String × List Expr`; `canonRepr` is Rust's `canonical_repr` (decimal with 4 fraction digits,
`ip("addr/prefix")`, `duration("<n>ms")`, `offset(datetime("1970-01-01"), duration("<n>ms"))`).
Declared fragment: the `unknown` extension function (partial evaluation) is outside the model (`JErr.outside`).
Import-free (model files only).  Total.
-/
namespace Cedar
namespace CJson

inductive JErr where
  | serde            -- serde: the JSON did not match the expected shape (`JsonDeserializationError::Serde`)
  | null             -- `Null`
  | exprTag          -- `ExprTag` (the removed `__expr` escape)
  | escape           -- `ParseEscape` (type / function name is not a normalised `Name`)
  | entityRef        -- `ExpectedLiteralEntityRef`
  | missingCtor      -- `MissingImpliedConstructor`
  | arity            -- `IncorrectNumOfArguments`
  | extLookup        -- `FailedExtensionFunctionLookup`
  | dupKey           -- `DuplicateKey`
  | unexpectedAttr   -- `UnexpectedRecordAttr`
  | missingAttr      -- `MissingRequiredRecordAttr`
  | typeMismatch     -- `TypeMismatch`
  | eval (c : ErrClass) -- evaluation of the restricted expression failed
  | notRecord        -- `ContextCreationError::NotARecord`
  | actionParent     -- `ActionParentIsNotAction`
  | reserved         -- `JsonSerializationError::ReservedKey`
  | call0            -- `JsonSerializationError::ExtnCall0Arguments`
  | exprKind         -- `JsonSerializationError::UnexpectedRestrictedExprKind`
  | fuel             -- the fuel of `typed` ran out (`exprOfJsonTyped` supplies `2 * j.size + 2`)
  | outside          -- outside the declared fragment
deriving Repr, DecidableEq, Inhabited

abbrev R (α) := Except JErr α

/-! ## text renderings used by the canonical representations -/

def digitChar (n : Nat) : Char := Char.ofNat (48 + n)

def decDigitsAux : Nat → Nat → List Char → List Char
  | 0, _, acc => acc
  | fuel + 1, n, acc =>
    let acc := digitChar (n % 10) :: acc
    if n / 10 = 0 then acc else decDigitsAux fuel (n / 10) acc

/-- decimal digits of a natural number, no leading zeros (`0` ↦ "0") -/
def decDigits (n : Nat) : List Char := decDigitsAux (n + 1) n []

/-- `i64`'s `Display` -/
def intDigits (i : Int) : List Char :=
  if i < 0 then '-' :: decDigits i.natAbs else decDigits i.natAbs

def pad4 (n : Nat) : List Char :=
  [digitChar (n / 1000 % 10), digitChar (n / 100 % 10), digitChar (n / 10 % 10), digitChar (n % 10)]

/-- `Display for Decimal`: `-?{abs / 10^4}.{abs % 10^4 :04}` -/
def renderDecimal (v : Int) : List Char :=
  (if v < 0 then ['-'] else []) ++ decDigits (v.natAbs / 10000) ++ ['.'] ++ pad4 (v.natAbs % 10000)

/-- `Display for Duration`: `{ms}ms` -/
def renderDuration (ms : Int) : List Char := intDigits ms ++ ['m', 's']

def hexChar (n : Nat) : Char := if n < 10 then Char.ofNat (48 + n) else Char.ofNat (87 + n)

def hexDigitsAux : Nat → Nat → List Char → List Char
  | 0, _, acc => acc
  | fuel + 1, n, acc =>
    let acc := hexChar (n % 16) :: acc
    if n / 16 = 0 then acc else hexDigitsAux fuel (n / 16) acc

/-- `{:x}` -/
def hexDigits (n : Nat) : List Char := hexDigitsAux (n + 1) n []

def joinWith (sep : Char) : List (List Char) → List Char
  | [] => []
  | [x] => x
  | x :: xs => x ++ sep :: joinWith sep xs

/-- `Display for Ipv4Addr` -/
def renderV4 (a : Nat) : List Char :=
  joinWith '.' [decDigits (a / 16777216 % 256), decDigits (a / 65536 % 256), decDigits (a / 256 % 256), decDigits (a % 256)]

def v6Segments (a : Nat) : List Nat :=
  [a / 65536 ^ 7 % 65536, a / 65536 ^ 6 % 65536, a / 65536 ^ 5 % 65536, a / 65536 ^ 4 % 65536,
   a / 65536 ^ 3 % 65536, a / 65536 ^ 2 % 65536, a / 65536 % 65536, a % 65536]

/-- the longest run of zero segments, first one on ties: (start, length) — the loop of `Display for Ipv6Addr` -/
def zeroRun (segs : List Nat) : Nat × Nat :=
  let step := fun (st : Nat × Nat × Nat × Nat × Nat) (seg : Nat) =>
    let (i, ls, ll, cs, cl) := st
    if seg = 0 then
      let cs := if cl = 0 then i else cs
      let cl := cl + 1
      if cl > ll then (i + 1, cs, cl, cs, cl) else (i + 1, ls, ll, cs, cl)
    else (i + 1, ls, ll, 0, 0)
  let (_, ls, ll, _, _) := segs.foldl step (0, 0, 0, 0, 0)
  (ls, ll)

/-- `Display for Ipv6Addr`: IPv4-mapped addresses in dotted form, otherwise `::` compression of the longest
    zero run of length ≥ 2, lower-case hex groups without leading zeros -/
def renderV6 (a : Nat) : List Char :=
  let segs := v6Segments a
  if segs.take 5 == [0, 0, 0, 0, 0] && (segs.drop 5).head? == some 65535 then
    "::ffff:".toList ++ renderV4 (a % 4294967296)
  else
    let (start, len) := zeroRun segs
    if len > 1 then
      joinWith ':' ((segs.take start).map hexDigits) ++ [':', ':'] ++ joinWith ':' ((segs.drop (start + len)).map hexDigits)
    else joinWith ':' (segs.map hexDigits)

/-- `Display for IPAddr`: `{addr}/{prefix}` -/
def renderIp (v6 : Bool) (addr pl : Nat) : List Char :=
  (if v6 then renderV6 addr else renderV4 addr) ++ '/' :: decDigits pl

/-! ## names -/

def isIdStart (c : Char) : Bool :=
  c == '_' || (decide ('a' ≤ c) && decide (c ≤ 'z')) || (decide ('A' ≤ c) && decide (c ≤ 'Z'))
def isIdCont (c : Char) : Bool := isIdStart c || Ext.isDigit c

def isIdent : List Char → Bool
  | [] => false
  | c :: r => isIdStart c && r.all isIdCont

/-- `str::split("::")` -/
def splitColons : List Char → List Char → List (List Char)
  | [], cur => [cur.reverse]
  | ':' :: ':' :: r, cur => cur.reverse :: splitColons r []
  | c :: r, cur => splitColons r (c :: cur)

def reservedIds : List String := ["true", "false", "if", "then", "else", "in", "is", "like", "has", "__cedar"]

/-- `Name::from_normalized_str` succeeds: `^ID(::ID)*$` and no component is a reserved identifier -/
def validName (s : String) : Bool :=
  (splitColons s.toList []).all (fun p => isIdent p && !reservedIds.contains (String.ofList p))

/-! ## `CedarValueJson` -/

inductive CJ where
  | exprEscape (s : String)
  | entityEscape (ty id : String)
  | extnSingle (fn : String) (arg : CJ)
  | extnMulti (fn : String) (args : List CJ)
  | bool (b : Bool)
  | long (i : Int)
  | str (s : String)
  | set (xs : List CJ)
  | record (kvs : List (String × CJ))
  | null
deriving Repr, Inhabited

def hasDup : List String → Bool
  | [] => false
  | k :: rest => rest.contains k || hasDup rest

/-- collecting into a `BTreeMap` (later bindings replace earlier ones) -/
def sortKVs {α} (kvs : List (String × α)) : List (String × α) :=
  kvs.foldl (fun acc kv => insertKV kv.1 kv.2 acc) []

mutual
/-- `RawCedarValueJson::deserialize` succeeds on the whole document: every number is an i64, no object
    binds a key twice (`MapPreventDuplicates`) -/
def rawOk : Json → Bool
  | .null => true
  | .bool _ => true
  | .int i => inI64 i
  | .num _ => false
  | .str _ => true
  | .arr xs => rawOkList xs
  | .obj kvs => rawOkKVs kvs && !hasDup (kvs.map Prod.fst)
def rawOkList : List Json → Bool
  | [] => true
  | x :: xs => rawOk x && rawOkList xs
def rawOkKVs : List (String × Json) → Bool
  | [] => true
  | (_, x) :: kvs => rawOk x && rawOkKVs kvs
end

/-- `From<RawCedarValueJson> for CedarValueJson` on a record (`kvs` is the key-sorted `BTreeMap`): a single-key
    object is an escape when its payload has the right shape, otherwise an ordinary record -/
def CJ.mkRecord (kvs : List (String × CJ)) : CJ :=
  match kvs with
  | [(k, .record r)] =>
    if k == "__extn" && decide (r.length ≥ 2) then
      match lookupKV r "fn" with
      | some (.str f) =>
        match lookupKV r "arg" with
        | some a => .extnSingle f a
        | none =>
          match lookupKV r "args" with
          | some (.set as) => .extnMulti f as
          | _ => .record kvs
      | _ => .record kvs
    else if k == "__entity" && decide (r.length ≥ 2) then
      match lookupKV r "type", lookupKV r "id" with
      | some (.str ty), some (.str id) => .entityEscape ty id
      | _, _ => .record kvs
    else .record kvs
  | [(k, .str s)] => if k == "__expr" then .exprEscape s else .record kvs
  | _ => .record kvs

mutual
/-- `CedarValueJson::deserialize` (on a document for which `rawOk` holds) -/
def CJ.ofRaw : Json → CJ
  | .null => .null
  | .bool b => .bool b
  | .int i => .long i
  | .num _ => .null
  | .str s => .str s
  | .arr xs => .set (CJ.ofRawList xs)
  | .obj kvs => CJ.mkRecord (sortKVs (CJ.ofRawKVs kvs))
def CJ.ofRawList : List Json → List CJ
  | [] => []
  | x :: xs => CJ.ofRaw x :: CJ.ofRawList xs
def CJ.ofRawKVs : List (String × Json) → List (String × CJ)
  | [] => []
  | (k, x) :: kvs => (k, CJ.ofRaw x) :: CJ.ofRawKVs kvs
end

def CJ.ofJson (j : Json) : R CJ := if rawOk j then .ok (CJ.ofRaw j) else .error .serde

mutual
/-- `Serialize for CedarValueJson` (untagged) -/
def CJ.toJson : CJ → Json
  | .exprEscape s => .obj [("__expr", .str s)]
  | .entityEscape ty id => .obj [("__entity", .obj [("type", .str ty), ("id", .str id)])]
  | .extnSingle fn arg => .obj [("__extn", .obj [("fn", .str fn), ("arg", CJ.toJson arg)])]
  | .extnMulti fn args => .obj [("__extn", .obj [("fn", .str fn), ("args", .arr (CJ.toJsonList args))])]
  | .bool b => .bool b
  | .long i => .int i
  | .str s => .str s
  | .set xs => .arr (CJ.toJsonList xs)
  | .record kvs => .obj (CJ.toJsonKVs kvs)
  | .null => .null
def CJ.toJsonList : List CJ → List Json
  | [] => []
  | x :: xs => CJ.toJson x :: CJ.toJsonList xs
def CJ.toJsonKVs : List (String × CJ) → List (String × Json)
  | [] => []
  | (k, x) :: kvs => (k, CJ.toJson x) :: CJ.toJsonKVs kvs
end

mutual
/-- `CedarValueJson::into_expr`; the result uses only `lit`, `set`, `record`, `call` (a restricted expression) -/
def CJ.intoExpr : CJ → R Expr
  | .bool b => .ok (.lit (.bool b))
  | .long i => .ok (.lit (.int i))
  | .str s => .ok (.lit (.string s))
  | .set xs => do let es ← CJ.intoExprList xs; .ok (.set es)
  | .record kvs => do let es ← CJ.intoExprKVs kvs; .ok (.record es)
  | .entityEscape ty id => if validName ty then .ok (.lit (.entityUID ⟨ty, id⟩)) else .error .escape
  | .extnSingle fn arg =>
    if validName fn then do let e ← CJ.intoExpr arg; .ok (.call fn [e]) else .error .escape
  | .extnMulti fn args =>
    if validName fn then do let es ← CJ.intoExprList args; .ok (.call fn es) else .error .escape
  | .exprEscape _ => .error .exprTag
  | .null => .error .null
def CJ.intoExprList : List CJ → R (List Expr)
  | [] => .ok []
  | x :: xs => do let e ← CJ.intoExpr x; let es ← CJ.intoExprList xs; .ok (e :: es)
def CJ.intoExprKVs : List (String × CJ) → R (List (String × Expr))
  | [] => .ok []
  | (k, x) :: kvs => do let e ← CJ.intoExpr x; let es ← CJ.intoExprKVs kvs; .ok ((k, e) :: es)
end

/-! ## serialisation: `from_expr`, `from_value` -/

def reservedKeys : List String := ["__entity", "__extn", "__expr"]

/-- `check_for_reserved_keys` -/
def hasReservedKey {α} (kvs : List (String × α)) : Bool := kvs.any (fun kv => reservedKeys.contains kv.1)

def CJ.ofPrim : Prim → CJ
  | .bool b => .bool b
  | .int i => .long i
  | .string s => .str s
  | .entityUID u => .entityEscape u.ty u.eid

mutual
/-- `CedarValueJson::from_expr` -/
def fromExpr : Expr → R CJ
  | .lit p => .ok (CJ.ofPrim p)
  | .call fn args => do
    let cs ← fromExprList args
    match cs with
    | [] => .error .call0
    | [c] => .ok (.extnSingle fn c)
    | cs => .ok (.extnMulti fn cs)
  | .set xs => do let cs ← fromExprList xs; .ok (.set cs)
  | .record kvs =>
    if hasReservedKey kvs then .error .reserved else do let cs ← fromExprKVs kvs; .ok (.record cs)
  | .unknown n _ => .ok (.extnSingle "unknown" (.str n))
  | _ => .error .exprKind
def fromExprList : List Expr → R (List CJ)
  | [] => .ok []
  | x :: xs => do let c ← fromExpr x; let cs ← fromExprList xs; .ok (c :: cs)
def fromExprKVs : List (String × Expr) → R (List (String × CJ))
  | [] => .ok []
  | (k, x) :: kvs => do let c ← fromExpr x; let cs ← fromExprKVs kvs; .ok ((k, c) :: cs)
end

def litS (cs : List Char) : Expr := .lit (.string (String.ofList cs))

/-- `ExtensionValue::canonical_repr` of the four extension types -/
def canonRepr : Ext → String × List Expr
  | .decimal v => ("decimal", [litS (renderDecimal v)])
  | .ipaddr v6 a p => ("ip", [litS (renderIp v6 a p)])
  | .duration ms => ("duration", [litS (renderDuration ms)])
  | .datetime ms => ("offset", [.call "datetime" [.lit (.string "1970-01-01")], .call "duration" [litS (renderDuration ms)]])

mutual
/-- `CedarValueJson::from_value`, extension values rendered by `ρ` (Rust: the stored `func`/`args`) -/
def fromValueWith (ρ : Ext → String × List Expr) : Value → R CJ
  | .prim p => .ok (CJ.ofPrim p)
  | .set vs => do let cs ← fromValueListWith ρ vs; .ok (.set cs)
  | .record kvs =>
    if hasReservedKey kvs then .error .reserved else do let cs ← fromValueKVsWith ρ kvs; .ok (.record cs)
  | .ext x => do
    let cs ← fromExprList (ρ x).2
    match cs with
    | [] => .error .call0
    | [c] => .ok (.extnSingle (ρ x).1 c)
    | cs => .ok (.extnMulti (ρ x).1 cs)
def fromValueListWith (ρ : Ext → String × List Expr) : List Value → R (List CJ)
  | [] => .ok []
  | v :: vs => do let c ← fromValueWith ρ v; let cs ← fromValueListWith ρ vs; .ok (c :: cs)
def fromValueKVsWith (ρ : Ext → String × List Expr) : List (String × Value) → R (List (String × CJ))
  | [] => .ok []
  | (k, v) :: kvs => do let c ← fromValueWith ρ v; let cs ← fromValueKVsWith ρ kvs; .ok ((k, c) :: cs)
end

def toJsonWith (ρ : Ext → String × List Expr) (v : Value) : R Json :=
  match fromValueWith ρ v with
  | .ok c => .ok c.toJson
  | .error e => .error e

/-- serialise a value (`CedarValueJson::from_value` + `serde_json::to_value`), canonical extension renderings -/
def toJson (v : Value) : R Json := toJsonWith canonRepr v

/-! ## evaluation of restricted expressions -/

def dummyUid : EntityUID := ⟨"", ""⟩
def dummyReq : Request := { principal := dummyUid, action := dummyUid, resource := dummyUid, context := [] }

/-- `RestrictedEvaluator::interpret` -/
def evalR (e : Expr) : R Value :=
  match evaluate dummyReq [] [] e with
  | .ok v => .ok v
  | .error c => .error (.eval c)

mutual
/-- does the document call the `unknown` extension function (partial evaluation: outside the fragment)? -/
def CJ.callsUnknown : CJ → Bool
  | .extnSingle fn arg => fn == "unknown" || CJ.callsUnknown arg
  | .extnMulti fn args => fn == "unknown" || CJ.callsUnknownList args
  | .set xs => CJ.callsUnknownList xs
  | .record kvs => CJ.callsUnknownKVs kvs
  | _ => false
def CJ.callsUnknownList : List CJ → Bool
  | [] => false
  | x :: xs => CJ.callsUnknown x || CJ.callsUnknownList xs
def CJ.callsUnknownKVs : List (String × CJ) → Bool
  | [] => false
  | (_, x) :: kvs => CJ.callsUnknown x || CJ.callsUnknownKVs kvs
end

/-- escape-directed parsing: `val_into_restricted_expr(val, None)` -/
def exprOfJson (j : Json) : R Expr := do
  let c ← CJ.ofJson j
  if c.callsUnknown then .error .outside else c.intoExpr

/-- parse a value from JSON without a schema, then evaluate it -/
def ofJson (j : Json) : R Value := do
  let e ← exprOfJson j
  evalR e

/-! ## expected-type-directed parsing -/

/-- `ExtensionFunction::arg_types` of the functions of `Extensions::all_available()` -/
def extFnSig : String → Option (List SchemaType)
  | "decimal" | "ip" | "datetime" | "duration" => some [.string]
  | "lessThan" | "lessThanOrEqual" | "greaterThan" | "greaterThanOrEqual" => some [.ext "decimal", .ext "decimal"]
  | "isIpv4" | "isIpv6" | "isLoopback" | "isMulticast" => some [.ext "ipaddr"]
  | "isInRange" => some [.ext "ipaddr", .ext "ipaddr"]
  | "offset" => some [.ext "datetime", .ext "duration"]
  | "durationSince" => some [.ext "datetime", .ext "datetime"]
  | "toDate" | "toTime" => some [.ext "datetime"]
  | "toMilliseconds" | "toSeconds" | "toMinutes" | "toHours" | "toDays" => some [.ext "duration"]
  | _ => none

/-- `Extensions::lookup_single_arg_constructor` by extension type name -/
def singleArgCtor : String → Option String
  | "decimal" => some "decimal"
  | "ipaddr" => some "ip"
  | "datetime" => some "datetime"
  | "duration" => some "duration"
  | _ => none

/-- `TypeAndId::deserialize`: an object with string fields `type` and `id` (other fields are ignored), or
    serde's positional struct form `[type, id]`.  (The struct *variants* of the untagged enums `EntityUidJson`,
    `ExtnValueJson`, `FnAndArgs` do not accept the positional form — checked against the implementation.) -/
def typeAndId : Json → Option (String × String)
  | .obj kvs =>
    match lookupKV kvs "type", lookupKV kvs "id" with
    | some (.str ty), some (.str id) => some (ty, id)
    | _, _ => none
  | .arr [.str ty, .str id] => some (ty, id)
  | _ => none

/-- `EntityUidJson::deserialize` (untagged: `__expr`, `__entity`, implicit `{type,id}`, anything else) followed
    by `into_euid` -/
def uidOfJson (j : Json) : R EntityUID :=
  let fin (p : String × String) : R EntityUID := if validName p.1 then .ok ⟨p.1, p.2⟩ else .error .escape
  match j with
  | .obj kvs =>
    match lookupKV kvs "__expr" with
    | some (.str _) => .error .exprTag
    | _ =>
      match (lookupKV kvs "__entity").bind typeAndId with
      | some p => fin p
      | none =>
        match typeAndId j with
        | some p => fin p
        | none => .error .entityRef
  | .arr _ =>
    match typeAndId j with
    | some p => fin p
    | none => .error .entityRef
  | _ => .error .entityRef

/-- `FnAndArgs::deserialize` (untagged `Single{fn,arg}` / `Multi{fn,args}`; objects only) -/
def fnAndArgs : Json → Option (String × List CJ)
  | .obj r =>
    match lookupKV r "fn" with
    | some (.str f) =>
      match (match lookupKV r "arg" with
             | some a => if rawOk a then some (f, [CJ.ofRaw a]) else none
             | none => none) with
      | some res => some res
      | none =>
        match lookupKV r "args" with
        | some (.arr as) => if rawOkList as then some (f, CJ.ofRawList as) else none
        | _ => none
    | _ => none
  | _ => none

inductive ExtnV where
  | exprEscape
  | call (fn : String) (args : List CJ)
  | implicitCtor (c : CJ)

/-- `ExtnValueJson::deserialize` (untagged: `__expr`, `{__extn: FnAndArgs}`, `FnAndArgs`, any `CedarValueJson`) -/
def extnOfJson (j : Json) : R ExtnV :=
  let last : R ExtnV := if rawOk j then .ok (.implicitCtor (CJ.ofRaw j)) else .error .serde
  let implicit : R ExtnV := match fnAndArgs j with
    | some (f, as) => .ok (.call f as)
    | none => last
  match j with
  | .obj kvs =>
    match lookupKV kvs "__expr" with
    | some (.str _) => .ok .exprEscape
    | _ =>
      match (lookupKV kvs "__extn").bind fnAndArgs with
      | some (f, as) => .ok (.call f as)
      | none => implicit
  | _ => implicit

def mapE {α β} (f : α → R β) : List α → R (List β)
  | [] => .ok []
  | x :: xs => do let y ← f x; let ys ← mapE f xs; .ok (y :: ys)

def zipE {α β γ} (f : α → β → R γ) : List α → List β → R (List γ)
  | a :: as, b :: bs => do let y ← f a b; let ys ← zipE f as bs; .ok (y :: ys)
  | _, _ => .ok []

/-- the expected attributes of a record type, in key order: present ⇒ parse with its type, absent and
    required ⇒ error, absent and optional ⇒ skipped -/
def typedAttrs (f : SchemaType → Json → R Expr) (actual : List (String × Json)) :
    List (String × Bool × SchemaType) → R (List (String × Expr))
  | [] => .ok []
  | (k, req, ty) :: rest =>
    match lookupKV actual k with
    | some j => do let e ← f ty j; let es ← typedAttrs f actual rest; .ok ((k, e) :: es)
    | none => if req then .error .missingAttr else typedAttrs f actual rest

/-- the value is of the wrong JSON kind for a set / record type: parse it escape-directed (errors of that
    parse win), then report the type mismatch -/
def mismatch (j : Json) : R Expr := do
  let _ ← exprOfJson j
  .error .typeMismatch

/-- `parse_as_unknown` would fire: an explicit `__extn` escape calling `unknown` (outside the fragment) -/
def explicitUnknown : Json → Bool
  | .obj kvs =>
    match (lookupKV kvs "__extn").bind fnAndArgs with
    | some (f, _) => f == "unknown"
    | none => false
  | _ => false

/-- `ValueParser::val_into_restricted_expr(val, expected_ty)` -/
def typed : Nat → Option SchemaType → Json → R Expr
  | 0, _, _ => .error .fuel
  | fuel + 1, ty, j =>
    if explicitUnknown j then .error .outside else
    match ty with
    | some (.entity _) => do let u ← uidOfJson j; .ok (.lit (.entityUID u))
    | some (.ext name) => do
      let x ← extnOfJson j
      match x with
      | .exprEscape => .error .exprTag
      | .call fn args =>
        if fn == "unknown" then .error .outside else
        if !validName fn then .error .escape else
        match extFnSig fn with
        | none => .error .extLookup
        | some sig =>
          if args.length != sig.length then .error .arity else do
          let es ← zipE (fun t a => typed fuel (some t) a.toJson) sig args
          .ok (.call fn es)
      | .implicitCtor c =>
        match singleArgCtor name with
        | none => .error .missingCtor
        | some ctor => do
          let e ← typed fuel (some .string) c.toJson
          .ok (.call ctor [e])
    | some (.set elem) =>
      match j with
      | .arr xs => do let es ← mapE (typed fuel (some elem)) xs; .ok (.set es)
      | _ => mismatch j
    | some (.record attrs openAttrs) =>
      match j with
      | .obj kvs => do
        let es ← typedAttrs (fun t x => typed fuel (some t) x) kvs attrs
        if !openAttrs && kvs.any (fun kv => (lookupKV attrs kv.1).isNone) then .error .unexpectedAttr
        else .ok (.record es)
      | _ => mismatch j
    | _ => exprOfJson j

mutual
def noDupKeys : Json → Bool
  | .arr xs => noDupKeysList xs
  | .obj kvs => noDupKeysKVs kvs && !hasDup (kvs.map Prod.fst)
  | _ => true
def noDupKeysList : List Json → Bool
  | [] => true
  | x :: xs => noDupKeys x && noDupKeysList xs
def noDupKeysKVs : List (String × Json) → Bool
  | [] => true
  | (_, x) :: kvs => noDupKeys x && noDupKeysKVs kvs
end

/-- schema-directed parsing to a restricted expression (a `serde_json::Value` never binds a key twice;
    a document that does is refused as it would be at the serde level) -/
def exprOfJsonTyped (ty : Option SchemaType) (j : Json) : R Expr :=
  if !noDupKeys j then .error .serde
  else typed (2 * j.size + 2) ty j

/-- parse a value from JSON with an expected type, then evaluate it -/
def ofJsonTyped (ty : SchemaType) (j : Json) : R Value := do
  let e ← exprOfJsonTyped (some ty) j
  evalR e

/-- `ContextJsonParser::from_json_value`: the expression must be a record (`Context::from_expr`) -/
def contextOfJson (ty : Option SchemaType) (j : Json) : R (List (String × Value)) := do
  let e ← exprOfJsonTyped ty j
  match e with
  | .record _ =>
    match ← evalR e with
    | .record kvs => .ok kvs
    | _ => .error .notRecord
  | _ => .error .notRecord

/-- `Context::to_json_value`: the top-level record is checked for reserved keys like any nested record
    (since /repo commit 8968c46 `fix: Context::to_json_value refuses reserved keys at the top level`; before
    that repair only its values were checked — the defect this check found). -/
def contextToJson (ctx : List (String × Value)) : R Json :=
  if hasReservedKey ctx then .error .reserved else
  match fromValueKVsWith canonRepr ctx with
  | .ok cs => .ok (.obj (CJ.toJsonKVs cs))
  | .error e => .error e

/-! ## entities (no schema) -/

/-- `EntityJson::from_entity`: implicit `{type,id}` for uid and parents; *all* ancestors are written as parents;
    `tags` omitted when empty -/
def uidJson (u : EntityUID) : Json := .obj [("type", .str u.ty), ("id", .str u.eid)]

def entityToJson (uid : EntityUID) (d : EntityData) : R Json :=
  match fromValueKVsWith canonRepr d.attrs, fromValueKVsWith canonRepr d.tags with
  | .ok as, .ok ts =>
    .ok (.obj ([("uid", uidJson uid), ("attrs", .obj (CJ.toJsonKVs as)), ("parents", .arr (d.ancestors.map uidJson))]
               ++ (if ts.isEmpty then [] else [("tags", .obj (CJ.toJsonKVs ts))])))
  | .error e, _ => .error e
  | _, .error e => .error e

def isAction (u : EntityUID) : Bool :=
  (splitColons u.ty.toList []).getLast? == some "Action".toList

def attrsOfJson : List (String × Json) → R (List (String × Expr))
  | [] => .ok []
  | (k, j) :: rest => do let e ← exprOfJson j; let es ← attrsOfJson rest; .ok ((k, e) :: es)

def evalKVs : List (String × Expr) → R (List (String × Value))
  | [] => .ok []
  | (k, e) :: rest => do let v ← evalR e; let vs ← evalKVs rest; .ok ((k, v) :: vs)

/-- `EntityJsonParser::parse_ejson` without a schema + `Entity::new`: uid, attrs, parents, tags.
    The `ancestors` field of the result holds the parents as listed (transitive closure is `Entities`' business). -/
def entityOfJson (j : Json) : R (EntityUID × EntityData) :=
  match j with
  | .obj kvs =>
    match lookupKV kvs "uid", lookupKV kvs "attrs", lookupKV kvs "parents" with
    | some uj, some (.obj attrs), some (.arr parents) =>
      let tagsJ : Option (List (String × Json)) := match lookupKV kvs "tags" with
        | none => some []
        | some (.obj ts) => some ts
        | some _ => none
      match tagsJ with
      | none => .error .serde
      | some tags =>
        if !noDupKeys j then .error .serde else do
        let uid ← uidOfJson uj
        let as ← attrsOfJson (sortKVs attrs)
        let ts ← attrsOfJson (sortKVs tags)
        let ps ← mapE (fun p => do
          let u ← uidOfJson p
          if isAction uid && !isAction u then .error .actionParent else .ok u) parents
        let avs ← evalKVs as
        let tvs ← evalKVs ts
        .ok (uid, { attrs := avs, ancestors := ps, tags := tvs })
    | _, _, _ => .error .serde
  | _ => .error .serde

/-- a store: every entity serialised / parsed on its own (`Entities::to_json_value`, `parse_ejsons`) -/
def storeToJson (es : Entities) : R Json := do
  let js ← mapE (fun (p : EntityUID × EntityData) => entityToJson p.1 p.2) es
  .ok (.arr js)

def storeOfJson : Json → R Entities
  | .arr js => mapE entityOfJson js
  | _ => .error .serde

end CJson
end Cedar
