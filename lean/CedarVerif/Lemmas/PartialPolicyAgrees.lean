import CedarVerif.Lemmas.PartialSound
import CedarVerif.Lemmas.PartialReauth
/- From expression-level soundness of the first pass (`SoundG`, with a residual that the second pass re-interprets to the concrete
   result) to what the policy level needs: `Consistent` for the table lemma, `PolicyAgreesOn` for `reauthorize`.  Both chains of
   C13 instantiate it. -/
namespace Cedar

/-- class of a partial-interpretation outcome, as `partialEvaluate` computes it -/
def classOf (x : PRes) : PolicyResult :=
  match x with
  | .val v => match v.asBool with
    | .ok true => .sat
    | .ok false => .unsat
    | .error _ => .err
  | .res e => .residual e
  | .err _ => .err
  | .fuel => .stuck
  | .panic => .stuck

theorem partialEvaluate_eq (m : Mapper) (req : PRequest) (es : PEntities) (p : Policy) :
    partialEvaluate m req es p = classOf (pinterp m req es p.env defaultFuel p.condition) := by
  unfold partialEvaluate classOf
  cases pinterp m req es p.env defaultFuel p.condition <;> rfl

theorem asBool_bool (b : Bool) : (Value.prim (.bool b)).asBool = .ok b := rfl

/-- the scope conjuncts `true && …` that `residualCondition` puts in front do not change the outcome -/
theorem outcomeOf_andR_true (y : Result Value) : outcomeOf (Tpe.andR (.ok (.prim (.bool true))) y) = outcomeOf y := by
  cases y with
  | error c => rfl
  | ok v =>
    simp only [Tpe.andR, asBool_bool, outcomeOf]
    cases hb : v.asBool with
    | error c => rfl
    | ok b => cases b <;> simp [asBool_bool]

theorem class_of_sem {x : PRes} {y : Result Value} (h : Sem x y) (hns : classOf x ≠ .stuck) :
    SatAgrees (classOf x) (outcomeOf y) := by
  rcases h with h | h | ⟨v, h, hy⟩ | ⟨c, c', h, hy⟩
  · subst h; exact (hns rfl).elim
  · subst h; exact (hns rfl).elim
  · subst h; subst hy
    simp only [classOf, outcomeOf]
    cases hb : v.asBool with
    | error c => simp [SatAgrees]
    | ok b => cases b <;> simp [SatAgrees]
  · subst h; subst hy; simp [classOf, outcomeOf, SatAgrees]

section
variable (σ : Mapper) (req : Request) (es : Entities)

theorem agrees_wrap (pes2 : PEntities) (id : String) (eff : Effect) {X : Expr} {y : Result Value}
    (hsem : Means σ (.ofConcrete req) pes2 [] X y)
    (hns : partialEvaluate σ (.ofConcrete req) pes2
      { id := id, effect := eff, condition := residualCondition X, env := [] } ≠ .stuck) :
    SatAgrees (partialEvaluate σ (.ofConcrete req) pes2
      { id := id, effect := eff, condition := residualCondition X, env := [] }) (outcomeOf y) := by
  rw [partialEvaluate_eq] at hns ⊢
  have hl := sem_lit (.bool true) σ (.ofConcrete req) pes2 []
  have h := class_of_sem (sem_and hl (sem_and hl (sem_and hl hsem)) defaultFuel) hns
  simp only [outcomeOf_andR_true] at h
  exact h

theorem SatAgrees.transfer {c : PolicyResult} {A B : Outcome} (hAB : A = .sat ↔ B = .sat) (h : SatAgrees c A) : SatAgrees c B := by
  cases c with
  | sat => exact hAB.mp h
  | unsat => exact fun hb => h (hAB.mpr hb)
  | err => exact fun hb => h (hAB.mpr hb)
  | residual e => exact h
  | stuck => exact h

theorem classOf_residual {x : PRes} {r : Expr} (h : classOf x = .residual r) : x = .res r := by
  cases x with
  | res e => cases h; rfl
  | val v =>
    simp only [classOf] at h
    split at h <;> cases h
  | _ => cases h

/-- the hypothesis `Consistent` of `table_sound`, from first-pass soundness, whatever it says of values and residuals -/
theorem consistent_of_soundG {G : Value → Prop} {K : Expr → Result Value → Prop} (preq : PRequest) (pes : PEntities) (p : Policy)
    (hS : SoundG G K (evaluate req es p.env p.condition) (pinterp [] preq pes p.env defaultFuel p.condition))
    (hns1 : partialEvaluate [] preq pes p ≠ .stuck) :
    Consistent (partialEvaluate [] preq pes p) (p.outcome req es) := by
  rw [partialEvaluate_eq] at hns1 ⊢
  rw [outcome_eq p req es]
  cases hx : pinterp [] preq pes p.env defaultFuel p.condition with
  | fuel => rw [hx] at hns1; exact (hns1 rfl).elim
  | panic => rw [hx] at hns1; exact (hns1 rfl).elim
  | err c =>
    rw [hx] at hS
    obtain ⟨c', hc'⟩ := hS
    rw [hc']; simp [classOf, Consistent, outcomeOf]
  | res r => simp [classOf, Consistent]
  | val v =>
    rw [hx] at hS
    rw [hS.1]
    simp only [classOf, outcomeOf]
    cases hb : v.asBool with
    | error c => simp [Consistent]
    | ok b => cases b <;> simp [Consistent]

/-- policy-level agreement from first-pass soundness, for both chains.  A definite class is a literal residual policy, and
    consistency says what the policy does concretely; a residual is what `agrees_wrap` is about. -/
theorem policyAgreesOn_of_soundG (pes2 : PEntities) (preq : PRequest) (pes : PEntities) (p : Policy) {G : Value → Prop}
    (hS : SoundG G (Means σ (.ofConcrete req) pes2 []) (evaluate req es p.env p.condition)
      (pinterp [] preq pes p.env defaultFuel p.condition))
    (hns2 : ∀ q, residualPolicy (partialEvaluate [] preq pes p) p = some q →
      partialEvaluate σ (.ofConcrete req) pes2 q ≠ .stuck)
    (hns1 : partialEvaluate [] preq pes p ≠ .stuck) :
    PolicyAgreesOn pes2 σ preq pes req es p := by
  have hcons := consistent_of_soundG req es preq pes p hS hns1
  have lit : ∀ (b : Bool) (o : Outcome), (outcomeOf (.ok (.prim (.bool b))) = .sat ↔ o = .sat) →
      partialEvaluate σ (.ofConcrete req) pes2 ⟨p.id, p.effect, residualCondition (.lit (.bool b)), []⟩ ≠ .stuck →
      SatAgrees (partialEvaluate σ (.ofConcrete req) pes2 ⟨p.id, p.effect, residualCondition (.lit (.bool b)), []⟩) o :=
    fun b o ho hns => SatAgrees.transfer ho (agrees_wrap σ req pes2 p.id p.effect (sem_lit (.bool b) σ (.ofConcrete req) pes2 []) hns)
  unfold PolicyAgreesOn
  cases hc : partialEvaluate [] preq pes p with
  | stuck => exact (hns1 hc).elim
  | sat => rw [hc] at hcons hns2; exact ⟨_, rfl, lit true _ (by rw [hcons]; exact Iff.rfl) (hns2 _ rfl)⟩
  | unsat => rw [hc] at hcons hns2; exact ⟨_, rfl, lit false _ (by rw [hcons]; simp [outcomeOf, Value.asBool]) (hns2 _ rfl)⟩
  | err => rw [hc] at hcons hns2; exact ⟨_, rfl, lit false _ (by rw [hcons]; simp [outcomeOf, Value.asBool]) (hns2 _ rfl)⟩
  | residual r =>
    rw [hc] at hns2
    rw [classOf_residual ((partialEvaluate_eq [] preq pes p).symm.trans hc)] at hS
    refine ⟨_, rfl, ?_⟩
    rw [outcome_eq p req es]
    exact agrees_wrap σ req pes2 p.id p.effect hS (hns2 _ rfl)

end

end Cedar
