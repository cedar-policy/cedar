import CedarVerif.Lemmas.LevelFaithful
import CedarVerif.Lemmas.TypecheckPolicy
import CedarVerif.Lemmas.TypecheckSchemaCheck
import CedarVerif.Thm.C01
import CedarVerif.Thm.C11
/-
C16 — level validation guarantees that the level-n slice of the store suffices; raising n never rejects.

Model: `Cedar.Level` (Cedar/Validation/Level.lean) — `annotate` (the type-annotated AST that the typechecker returns,
with its short-circuit simplifications), `checkExpr`/`derefLevel`/`derefErrs` (mirror of `LevelChecker`), `levelPolicy`
(all request environments) — and `Cedar.Slice.atLevel` (Cedar/Slice.lean, the SPEC of the level-n slice).  Tied to
`Validator::validate_with_level` and to an independent slice implementation by the differential run of `./check C16`.

Soundness rests on one invariant about the full store (`Level.within_deref`: a dereference target of level k only evaluates to
entities within k hops) and, for policies, on `Kinds` (the kind annotations of the typed AST agree with the values) and `Faithful`
(the typed AST evaluates like the condition on the store AND on the slice), both derived from C03's strict soundness
(Lemmas/LevelFaithful.lean).  The slice half of `Faithful` is not an instance of the store half, because the slice lacks the
other action entities: a dropped operand is justified by level soundness of its guard.
Premises of `level_sound` beyond conformance, all C03's (see its doc comment): `SchemaWF2`, `ActionsPresent` (without it the
statement is FALSE in the model), distinct record-literal keys, no slots in a static policy.
NOT proved: permissive-mode policies outside `InFragmentM .permissive` (C03's permissive soundness gap).
-/
namespace Cedar.C16
open Cedar Cedar.Level Cedar.Slice

/-- a typed expression accepted at maximum level `n` is accepted at `n + 1` (whole checker). -/
theorem level_monotone (n : Nat) (act : EntityUID) (te : TExpr) (h : checkLevel n act te = true) :
    checkLevel (n + 1) act te = true := by
  unfold checkLevel at *
  rw [List.isEmpty_iff] at *
  exact checkExpr_mono_le (Nat.le_succ n) act te h

theorem levelPolicy_mem {n : Nat} {m : ValidationMode} {s : Schema} {pu ru : SlotUse} {cond : Expr}
    (h : levelPolicy n m s pu ru cond = some []) {env : RequestEnv} (hmem : env ∈ s.envs pu ru) :
    levelEnv n m s env cond = some [] := by
  unfold levelPolicy at h
  cases hm : (s.envs pu ru).mapM (fun env => levelEnv n m s env cond) with
  | none => simp [hm] at h
  | some rs =>
    simp only [hm, Option.map_some, Option.some.injEq] at h
    obtain ⟨y, hy, hyr⟩ := C03.option_mapM_mem hm env hmem
    rw [hy, List.flatten_eq_nil_iff.mp h y hyr]

/-- "raising n never turns acceptance into rejection", for the policy-level verdict over all request environments. -/
theorem level_monotone_policy (n : Nat) (m : ValidationMode) (s : Schema) (pu ru : SlotUse) (cond : Expr)
    (h : levelPolicy n m s pu ru cond = some []) : levelPolicy (n + 1) m s pu ru cond = some [] := by
  unfold levelPolicy at h ⊢
  cases hm : (s.envs pu ru).mapM (fun env => levelEnv n m s env cond) with
  | none => simp [hm] at h
  | some rs =>
    simp only [hm, Option.map_some, Option.some.injEq] at h
    rw [C03.option_mapM_congr (g := fun env => levelEnv (n + 1) m s env cond) hm fun env _ y hy hmem => by
      obtain rfl := List.flatten_eq_nil_iff.mp h y hmem
      exact levelEnv_mono n m s env cond hy]
    rw [Option.map_some, h]

/-- the slice grows with the level. -/
theorem slice_monotone (n : Nat) (req : Request) (es : Entities) (p : EntityUID × EntityData)
    (h : p ∈ atLevel n req es) : p ∈ atLevel (n + 1) req es := by
  rw [mem_atLevel] at *
  exact ⟨h.1, reach_succ_mem h.2⟩

/-- the slice is a sub-store of *whole* entities: what it binds, the store binds to the same data. -/
theorem slice_lookup (n : Nat) (req : Request) (es : Entities) (u : EntityUID) (d : EntityData)
    (h : (atLevel n req es).find? u = some d) : es.find? u = some d := by
  rw [find?_atLevel] at h
  split at h
  · exact h
  · cases h

/-- every entity within `n` hops that the store has is in the slice, unchanged. -/
theorem slice_complete (n : Nat) (req : Request) (es : Entities) (u : EntityUID) (h : u ∈ reach es req n) :
    (atLevel n req es).find? u = es.find? u := find?_atLevel_of_mem h

/-- key lemma (`Level.within_deref`): a dereference target of level `k` without level errors evaluates — over the full store — only to
values whose entity uids (along the access path) lie within `k` attribute/tag hops of the request. -/
theorem deref_within (req : Request) (es : Entities) (sl : SlotEnv) (n : Nat) (act : EntityUID) (hact : req.action = act)
    (te : TExpr) (p : List String) (hk : Kinds req es sl te) (hc : derefErrs n act te p = []) (hl : derefLevel act te p < n)
    (v : Value) (hv : evaluate req es sl te.erase = .ok v) : Within req es (derefLevel act te p) (projL v p) :=
  -- the bound `hl` plays no part: the invariant speaks of the full store only
  (fun _ => within_deref hact te p hk hc v hv) hl

/-- (`level_sound` on the typed AST, whole checker): if the kind annotations of `te` agree with the values (`Kinds`), the
request is for the environment's action, and the level checker reports nothing at maximum level `n`, then `te` evaluates over
the level-`n` slice exactly as over the full store (same value or same error). -/
theorem level_sound_partial (req : Request) (es : Entities) (sl : SlotEnv) (n : Nat) (act : EntityUID)
    (hact : req.action = act) (te : TExpr) (hk : Kinds req es sl te) (hc : checkLevel n act te = true) :
    evaluate req (atLevel n req es) sl te.erase = evaluate req es sl te.erase := by
  unfold checkLevel at hc
  rw [List.isEmpty_iff] at hc
  exact check_sound hact te hk hc

/-- the typed AST evaluates like the policy condition (what the typechecker's short-circuit simplifications preserve
on conformant data) -/
def Faithful (req : Request) (es : Entities) (sl : SlotEnv) (cond : Expr) (te : TExpr) : Prop :=
  evaluate req es sl te.erase = evaluate req es sl cond

/-- some typed AST is accepted at level `n` for the request's action, evaluates like the policy's condition on the store
and on the slice, and has kind annotations that agree with the values: what `levelOk_policy` derives from validation -/
def LevelOk (n : Nat) (req : Request) (es : Entities) (p : Policy) : Prop :=
  ∃ te, Faithful req es p.env p.condition te ∧ Faithful req (atLevel n req es) p.env p.condition te ∧
    Kinds req es p.env te ∧ checkLevel n req.action te = true

/-- `LevelOk` of a condition and slot values that need not belong to a policy (`LevelOk n req es p` unfolds to
`LevelOkAt n req es p.env p.condition`) -/
def LevelOkAt (n : Nat) (req : Request) (es : Entities) (sl : SlotEnv) (cond : Expr) : Prop :=
  ∃ te, Faithful req es sl cond te ∧ Faithful req (atLevel n req es) sl cond te ∧
    Kinds req es sl te ∧ checkLevel n req.action te = true

theorem LevelOkAt.eval {n : Nat} {req : Request} {es : Entities} {sl : SlotEnv} {cond : Expr}
    (h : LevelOkAt n req es sl cond) : evaluate req (atLevel n req es) sl cond = evaluate req es sl cond := by
  obtain ⟨te, f1, f2, hk, hc⟩ := h
  unfold Faithful at f1 f2
  rw [← f1, ← f2]
  exact level_sound_partial req es sl n req.action rfl te hk hc

theorem outcome_slice (n : Nat) (req : Request) (es : Entities) (p : Policy) (h : LevelOk n req es p) :
    p.outcome req (atLevel n req es) = p.outcome req es := by
  unfold Policy.outcome
  rw [LevelOkAt.eval h]

/-- authorization over the level-`n` slice gives the same response as over the full store — the same decision,
the same determining policies (`reasons`) and the same erroring policies (`errors`). -/
theorem level_sound_authorization (n : Nat) (req : Request) (es : Entities) (ps : List Policy)
    (h : ∀ p ∈ ps, LevelOk n req es p) :
    isAuthorized req (atLevel n req es) ps = isAuthorized req es ps := by
  exact isAuthorized_congr_store req es _ ps (fun p hp => outcome_slice n req es p (h p hp))

/-- … spelled out with C01's characterisations: the decision and, per policy id, being an erroring policy and being a
satisfied policy coincide on slice and store. -/
theorem level_sound_sets (n : Nat) (req : Request) (es : Entities) (ps : List Policy)
    (h : ∀ p ∈ ps, LevelOk n req es p) :
    (isAuthorized req (atLevel n req es) ps).decision = (isAuthorized req es ps).decision ∧
    (∀ id, (∃ p, p ∈ ps ∧ id = p.id ∧ Errs req (atLevel n req es) p) ↔ (∃ p, p ∈ ps ∧ id = p.id ∧ Errs req es p)) ∧
    (∀ id, id ∈ (isAuthorized req (atLevel n req es) ps).reasons ↔ id ∈ (isAuthorized req es ps).reasons) := by
  have e := level_sound_authorization n req es ps h
  refine ⟨by rw [e], ?_, by intro id; rw [e]⟩
  intro id
  rw [← C01.errors_exact, ← C01.errors_exact, e]

/-- (`level_sound`, connective-free fragment `CF` of C03's first fragment, under `SchemaWF` alone): if the typechecker
model types the expression in the environment of a conformant request, the store conforms, and the level checker accepts the
typed AST at level `n`, then the *expression itself* evaluates over the level-`n` slice as over the store. -/
theorem level_sound_fragment (n : Nat) (m : ValidationMode) (s : Schema) (env : RequestEnv) (w : World)
    (hWF : SchemaWF s) (henv : EnvMatches s env w.q) (hreq : ConformsRequest s w.q) (hst : StoreConforms s w.es)
    (e : Expr) (hf : CF e = true) (te : TExpr) (ha : annotate m s env e [] = .ok te)
    (hc : checkLevel n env.action te = true) :
    evaluate w.q (atLevel n w.q w.es) w.sl e = evaluate w.q w.es w.sl e := by
  have hfr := CF_inFragment e hf
  have r : Res n env w te e := annot_resCore true hWF henv ⟨hreq, hst, nofun, nofun, nofun⟩ e
    (inFragmentM_of_inFragment m env e hfr) (fun _ => hfr) [] te ha (capsHold_nil w)
  exact r.sliceStore henv.2.1.symm (Or.inl (List.isEmpty_iff.mp hc))

/-- For a condition that the typechecker model does not reject in the environment of a request, in a world that satisfies the
C03 premises, and whose typed AST raises no level error at `n`: the typed AST exists, is level-accepted, evaluates like the
condition over the store AND over the slice, and its kind annotations agree with the values.  Both modes (`InFragmentM`). -/
theorem levelOk_env (n : Nat) (m : ValidationMode) (s : Schema) (env : RequestEnv) (w : World)
    (hWF : C03.SchemaWF2 s) (henv : EnvMatches s env w.q) (hreq : ConformsRequest s w.q) (hst : StoreConforms s w.es)
    (hact : C03.ActionsPresent s w.es) (hsl : C03.SlotsMatch env w.sl)
    (cond : Expr) (hf : C03.InFragmentM m env cond = true) (v : Verdict) (hv : checkEnv m s env cond = some v)
    (hne : v ≠ .fail) (hl : levelEnv n m s env cond = some []) : LevelOkAt n w.q w.es w.sl cond := by
  obtain ⟨τ, c, hE, ht, _⟩ := C03.checkEnv_typed hv hne
  obtain ⟨te, hte⟩ := annotate_total cond [] _ ht
  simp only [levelEnv, hE, hte, Option.some.injEq] at hl
  have r := annot_res (n := n) hWF henv ⟨hreq, hst, hsl, hact⟩ cond hf [] te hte (capsHold_nil w)
  exact ⟨te, r.faithful, r.slice (Or.inl hl), r.kinds, by simp [checkLevel, ← henv.2.1, hl]⟩

/-- (`level_sound`, one request environment, no semantic hypothesis): a condition accepted by the typechecker model
(verdict other than `fail`) and by the level checker at `n` in the environment of a conformant request evaluates over the
level-`n` slice exactly as over the store.  Every construct in strict mode. -/
theorem level_sound_env (n : Nat) (m : ValidationMode) (s : Schema) (env : RequestEnv) (w : World)
    (hWF : C03.SchemaWF2 s) (henv : EnvMatches s env w.q) (hreq : ConformsRequest s w.q) (hst : StoreConforms s w.es)
    (hact : C03.ActionsPresent s w.es) (hsl : C03.SlotsMatch env w.sl)
    (cond : Expr) (hf : C03.InFragmentM m env cond = true) (v : Verdict) (hv : checkEnv m s env cond = some v)
    (hne : v ≠ .fail) (hl : levelEnv n m s env cond = some []) :
    evaluate w.q (atLevel n w.q w.es) w.sl cond = evaluate w.q w.es w.sl cond :=
  (levelOk_env n m s env w hWF henv hreq hst hact hsl cond hf v hv hne hl).eval

/-- Policies and linked templates: acceptance by the strict typechecker model and by `levelPolicy n` in all
request environments ⇒ `LevelOk` in every world whose request environment is one of them. -/
theorem levelOk_policy (n : Nat) (s : Schema) (pu ru : SlotUse) (p : Policy) (vs : List (RequestEnv × Verdict))
    (req : Request) (es : Entities) (env : RequestEnv)
    (hWF : C03.SchemaWF2 s) (hmem : env ∈ s.envs pu ru) (henv : EnvMatches s env req) (hreq : ConformsRequest s req)
    (hst : StoreConforms s es) (hact : C03.ActionsPresent s es) (hsl : C03.SlotsMatch env p.env)
    (hf : C03.InFragment2 env p.condition = true)
    (hcp : checkPolicy .strict s pu ru p.condition = some vs) (hacc : accepted vs = true)
    (hl : levelPolicy n .strict s pu ru p.condition = some []) : LevelOk n req es p :=
  let ⟨v, hv, hne⟩ := C03.checkPolicy_accepted hcp hacc hmem
  levelOk_env n .strict s env ⟨req, es, p.env⟩ hWF henv hreq hst hact hsl p.condition hf v hv hne (levelPolicy_mem hl hmem)

/-- (`level_sound`, policy level, templates included): the condition of a policy accepted by strict validation and by
level validation at `n` evaluates over the level-`n` slice as over the store, for every conformant request (whose
environment is among those checked, with the policy's slots bound accordingly) and conformant store. -/
theorem level_sound_policy (n : Nat) (s : Schema) (pu ru : SlotUse) (p : Policy) (vs : List (RequestEnv × Verdict))
    (req : Request) (es : Entities) (env : RequestEnv)
    (hWF : C03.SchemaWF2 s) (hmem : env ∈ s.envs pu ru) (henv : EnvMatches s env req) (hreq : ConformsRequest s req)
    (hst : StoreConforms s es) (hact : C03.ActionsPresent s es) (hsl : C03.SlotsMatch env p.env)
    (hf : C03.InFragment2 env p.condition = true)
    (hcp : checkPolicy .strict s pu ru p.condition = some vs) (hacc : accepted vs = true)
    (hl : levelPolicy n .strict s pu ru p.condition = some []) :
    evaluate req (atLevel n req es) p.env p.condition = evaluate req es p.env p.condition ∧
    p.outcome req (atLevel n req es) = p.outcome req es := by
  have hok := levelOk_policy n s pu ru p vs req es env hWF hmem henv hreq hst hact hsl hf hcp hacc hl
  exact ⟨LevelOkAt.eval hok, outcome_slice n req es p hok⟩

/-- FULL STATEMENT of C16's soundness half (static policies).  For a resolved schema, a policy set every member of which is
accepted by the strict typechecker model and by the level checker at maximum level `n` in every request environment, a
request and a store that conform to the schema: authorization over the level-`n` slice equals authorization over the store.
Premises beyond conformance (all are C03's, Thm/C03.lean): `SchemaWF2` instead of `SchemaWF` (facts true of every
schema Rust constructs), `ActionsPresent` (the store holds the schema's action entities, as `Entities::from_entities(..,
schema)` guarantees — without it `action in Action::"g"`, typed `True` from the action hierarchy and therefore dropped from
an `if`, evaluates to `false` and the un-levelled branch runs: the statement is false), record literals with distinct keys
(Rust's `ExprKind::Record` is a map) and no slots in a static policy (`SlotsLinked` in every environment). -/
def level_sound : Prop :=
  ∀ (n : Nat) (s : Schema) (ps : List Policy) (req : Request) (es : Entities),
    C03.SchemaWF2 s → ConformsRequest s req → StoreConforms s es → C03.ActionsPresent s es →
    (∀ p ∈ ps, p.env = [] ∧ C03.RecordKeysDistinct p.condition = true ∧ (∀ env, C03.SlotsLinked env p.condition = true) ∧
      (∃ vs, checkPolicy .strict s .absent .absent p.condition = some vs ∧ accepted vs = true) ∧
      levelPolicy n .strict s .absent .absent p.condition = some []) →
    isAuthorized req (atLevel n req es) ps = isAuthorized req es ps

theorem levelOk_static (n : Nat) (s : Schema) (p : Policy) (req : Request) (es : Entities)
    (hWF : C03.SchemaWF2 s) (hreq : ConformsRequest s req) (hst : StoreConforms s es) (hact : C03.ActionsPresent s es)
    (h : p.env = [] ∧ C03.RecordKeysDistinct p.condition = true ∧ (∀ env, C03.SlotsLinked env p.condition = true) ∧
      (∃ vs, checkPolicy .strict s .absent .absent p.condition = some vs ∧ accepted vs = true) ∧
      levelPolicy n .strict s .absent .absent p.condition = some []) : LevelOk n req es p := by
  obtain ⟨_, hk, hlinked, ⟨vs, hcp, hacc⟩, hl⟩ := h
  obtain ⟨env, hmem, henv, hsl⟩ := C03.static_env (w := ⟨req, es, p.env⟩) hreq
  exact levelOk_policy n s .absent .absent p vs req es env hWF hmem henv hreq hst hact hsl
    (C03.inFragment2_of env p.condition hk (hlinked env)) hcp hacc hl

/-- the full statement `level_sound` holds. -/
theorem level_sound_strict : level_sound := by
  intro n s ps req es hWF hreq hst hact h
  exact level_sound_authorization n req es ps (fun p hp => levelOk_static n s p req es hWF hreq hst hact (h p hp))

/-- (`level_sound` for policy sets that may contain LINKED TEMPLATES): every member is accepted by strict validation and
level validation at `n` for its slot uses `pu ru`, the request's environment is one of the member's linked environments and
the member's slot values have the slot types of that environment. -/
theorem level_sound_linked (n : Nat) (s : Schema) (ps : List Policy) (req : Request) (es : Entities)
    (hWF : C03.SchemaWF2 s) (hreq : ConformsRequest s req) (hst : StoreConforms s es) (hact : C03.ActionsPresent s es)
    (h : ∀ p ∈ ps, ∃ pu ru env vs, env ∈ s.envs pu ru ∧ EnvMatches s env req ∧ C03.SlotsMatch env p.env ∧
      C03.InFragment2 env p.condition = true ∧ checkPolicy .strict s pu ru p.condition = some vs ∧ accepted vs = true ∧
      levelPolicy n .strict s pu ru p.condition = some []) :
    isAuthorized req (atLevel n req es) ps = isAuthorized req es ps := by
  refine level_sound_authorization n req es ps (fun p hp => ?_)
  obtain ⟨pu, ru, env, vs, hmem, henv, hsl, hf, hcp, hacc, hl⟩ := h p hp
  exact levelOk_policy n s pu ru p vs req es env hWF hmem henv hreq hst hact hsl hf hcp hacc hl

/-- … spelled out: same decision, same erroring policies, same determining policies -/
theorem level_sound_strict_sets (n : Nat) (s : Schema) (ps : List Policy) (req : Request) (es : Entities)
    (hWF : C03.SchemaWF2 s) (hreq : ConformsRequest s req) (hst : StoreConforms s es) (hact : C03.ActionsPresent s es)
    (h : ∀ p ∈ ps, p.env = [] ∧ C03.RecordKeysDistinct p.condition = true ∧ (∀ env, C03.SlotsLinked env p.condition = true) ∧
      (∃ vs, checkPolicy .strict s .absent .absent p.condition = some vs ∧ accepted vs = true) ∧
      levelPolicy n .strict s .absent .absent p.condition = some []) :
    (isAuthorized req (atLevel n req es) ps).decision = (isAuthorized req es ps).decision ∧
    (∀ id, (∃ p, p ∈ ps ∧ id = p.id ∧ Errs req (atLevel n req es) p) ↔ (∃ p, p ∈ ps ∧ id = p.id ∧ Errs req es p)) ∧
    (∀ id, id ∈ (isAuthorized req (atLevel n req es) ps).reasons ↔ id ∈ (isAuthorized req es ps).reasons) :=
  level_sound_sets n req es ps (fun p hp => levelOk_static n s p req es hWF hreq hst hact (h p hp))

def principal : TExpr := .var .principal
/-- `principal.next.next….flag` with `k` hops -/
def chain : Nat → TExpr
  | 0 => principal
  | k + 1 => .getAttr .entity (chain k) "next"
def chainFlag (k : Nat) : TExpr := .getAttr .entity (chain k) "flag"
def act : EntityUID := ⟨"Action", "view"⟩

/-- a chain of `n` dereferences is accepted at level `n` and rejected at `n − 1` -/
example : checkLevel 3 act (chainFlag 2) = true ∧ checkLevel 2 act (chainFlag 2) = false := by decide
example : checkLevel 1 act (chainFlag 0) = true ∧ checkLevel 0 act (chainFlag 0) = false := by decide
example : checkExpr 2 act (chainFlag 4) = [.maxExceeded 5] := by decide
/-- record-literal access paths: `{foo: principal, bar: principal.next.next}.foo.flag` needs level 2 because of `bar` -/
def recPath : TExpr :=
  .getAttr .entity (.getAttr .record (.record [("bar", chain 2), ("foo", principal)]) "foo") "flag"
example : checkLevel 2 act recPath = true ∧ checkLevel 1 act recPath = false ∧ derefLevel act (.getAttr .record (.record [("bar", chain 2), ("foo", principal)]) "foo") [] = 0 := by decide
/-- entity literals cannot be dereferenced, except the environment's action -/
example : checkExpr 4 act (.getAttr .entity (.lit (.entityUID ⟨"User", "alice"⟩)) "flag") = [.litDeref] := by decide
example : checkLevel 1 act (.binaryApp .mem (.lit (.entityUID act)) (.var .action)) = true := by decide
/-- `if` as a dereference target takes the maximum of its branches -/
example : checkLevel 3 act (.getAttr .entity (.ite (.lit (.bool true)) (chain 1) (chain 2)) "flag") = true ∧
          checkLevel 2 act (.getAttr .entity (.ite (.lit (.bool true)) (chain 1) (chain 2)) "flag") = false := by decide

/-- through the typechecker model: schema `User { next: User, flag: Bool }`, action `view` on users -/
def exUser : EntityTypeEntry :=
  { attrs := [("flag", true, .bool .anyBool), ("next", true, .entity ["User"])], isOpen := false, tags := none, descendants := [], enumIds := none }
def exView : ActionEntry :=
  { principals := ["User"], resources := ["User"], context := .record [] false, descendants := [], ancestors := [], attrs := [] }
def exSchema : Schema := { ets := [("User", exUser)], acts := [(act, exView)] }
def exEnv : RequestEnv :=
  { principal := "User", action := act, resource := "User", context := exView.context, principalSlot := none, resourceSlot := none }
/-- `principal.next.flag` -/
def exCond : Expr := .getAttr (.getAttr (.var .principal) "next") "flag"
example : annotate .strict exSchema exEnv exCond [] = .ok (chainFlag 1) := by rfl
/-- the syntactic hypotheses of `level_sound_fragment` on this input (its remaining hypotheses are C03's: a well-formed
schema, a conformant request and store) -/
example : CF exCond = true ∧ annotate .strict exSchema exEnv exCond [] = .ok (chainFlag 1) ∧
    checkLevel 2 exEnv.action (chainFlag 1) = true := ⟨by decide, by rfl, by decide⟩
example : levelPolicy 2 .strict exSchema .absent .absent exCond = some [] := by decide +kernel
example : levelPolicy 1 .strict exSchema .absent .absent exCond = some [.maxExceeded 2] := by decide +kernel
/-- the typechecker's short circuit removes `principal.flag` from `true || principal.flag`: level 0 suffices -/
example : levelPolicy 0 .strict exSchema .absent .absent (.or (.lit (.bool true)) (.getAttr (.var .principal) "flag")) = some [] := by
  decide +kernel

/-- a store a → b → c (→ a) and a request by `a`: the slices at 0, 1, 2 hops are strictly increasing -/
def u (i : String) : EntityUID := ⟨"User", i⟩
def ent (i j : String) (f : Bool) : EntityUID × EntityData :=
  (u i, { attrs := [("flag", .prim (.bool f)), ("next", .prim (.entityUID (u j)))], ancestors := [], tags := [] })
def exStore : Entities := [ent "a" "b" false, ent "b" "c" true, ent "c" "a" false, ent "d" "a" true]
def exReq : Request := ⟨u "a", act, u "a", []⟩
example : (atLevel 0 exReq exStore).map (·.1) = [u "a"] := by decide +kernel
example : (atLevel 1 exReq exStore).map (·.1) = [u "a", u "b"] := by decide +kernel
example : (atLevel 2 exReq exStore).map (·.1) = [u "a", u "b", u "c"] := by decide +kernel
/-- `principal.next.flag` (level 2): same result on the 2-hop slice (in fact already on the 1-hop slice), not on the 0-hop slice -/
example : evaluate exReq (atLevel 2 exReq exStore) [] (chainFlag 1).erase = evaluate exReq exStore [] (chainFlag 1).erase ∧
          evaluate exReq exStore [] (chainFlag 1).erase = .ok (.prim (.bool true)) ∧
          evaluate exReq (atLevel 0 exReq exStore) [] (chainFlag 1).erase = .error .entity := by
  refine ⟨?_, ?_, ?_⟩ <;> rfl

/-- the hypotheses of `level_sound_partial` instantiated on this input -/
example : evaluate exReq (atLevel 2 exReq exStore) [] (chainFlag 1).erase = evaluate exReq exStore [] (chainFlag 1).erase := by
  refine level_sound_partial exReq exStore [] 2 act rfl (chainFlag 1) ?_ (by decide)
  simp only [chainFlag, chain, Kinds, principal, true_and]
  refine ⟨?_, ?_⟩
  · intro v hv
    have : evaluate exReq exStore [] (TExpr.var .principal).erase = .ok (.prim (.entityUID (u "a"))) := by rfl
    rw [this] at hv; cases hv; rfl
  · intro v hv
    have : evaluate exReq exStore [] (TExpr.getAttr .entity (.var .principal) "next").erase = .ok (.prim (.entityUID (u "b"))) := by
      rfl
    rw [this] at hv; cases hv; rfl

/-! ### non-vacuity of `level_sound_strict`: ALL its hypotheses instantiated

schema `User { next: User, flag: Bool }`, action `view` on users; the store a → b → c → a, d → a plus the action entity;
the static policy `permit when (true || principal.next.next.next.flag) && principal.next.flag`: the typechecker drops the
3-hop operand of `||` (left operand typed `True`), so level 2 suffices although the condition mentions a level-4 access. -/

def exStoreA : Entities := exStore ++ [(act, { attrs := [], ancestors := [], tags := [] })]
def exCondS : Expr :=
  .and (.or (.lit (.bool true)) (.getAttr (.getAttr (.getAttr (.getAttr (.var .principal) "next") "next") "next") "flag"))
       (.getAttr (.getAttr (.var .principal) "next") "flag")
def exPolicy : Policy := { id := "p0", effect := .permit, condition := exCondS, env := [] }

/-- the premises on the sample, evaluated together (`schemaWF2_of_check`, `conforms_of_check`, `actionsPresent_of_check`) -/
theorem ex_checked :
    C03.schemaWF2B exSchema = true ∧
    (exSchema.schematic && Manifest.isOkB (checkRequest exSchema exReq) &&
      exStoreA.all (fun p => Manifest.isOkB (checkEntity exSchema p.1 p.2))) = true ∧
    exSchema.acts.all (fun p => (exStoreA.find? p.1).isSome) = true := by
  decide +kernel

theorem ex_schemaWF : C03.SchemaWF2 exSchema := C03.schemaWF2_of_check ex_checked.1

theorem ex_request : ConformsRequest exSchema exReq := (Cedar.C11.conforms_of_check ex_checked.2.1).1

theorem ex_store : StoreConforms exSchema exStoreA := (Cedar.C11.conforms_of_check ex_checked.2.1).2

theorem ex_actions : C03.ActionsPresent exSchema exStoreA := C03.actionsPresent_of_check ex_checked.2.2

/-- the policy is strictly valid, needs level 2 (not 1), although its condition contains a level-4 access -/
example : checkPolicy .strict exSchema .absent .absent exCondS = some [(exEnv, .bool)] := rfl
example : levelPolicy 2 .strict exSchema .absent .absent exCondS = some [] := by decide +kernel
example : levelPolicy 1 .strict exSchema .absent .absent exCondS = some [.maxExceeded 2] := by decide +kernel
/-- the level-2 slice is a proper sub-store (it lacks `d`) -/
example : (atLevel 2 exReq exStoreA).map (·.1) = [u "a", u "b", u "c", act] := by decide +kernel
/-- `level_sound_strict` applies: every hypothesis holds on this input … -/
example : isAuthorized exReq (atLevel 2 exReq exStoreA) [exPolicy] = isAuthorized exReq exStoreA [exPolicy] :=
  level_sound_strict 2 exSchema [exPolicy] exReq exStoreA ex_schemaWF ex_request ex_store ex_actions (by
    intro p hp
    simp only [List.mem_singleton] at hp
    subst hp
    exact ⟨rfl, by decide, fun _ => rfl, ⟨[(exEnv, .bool)], rfl, rfl⟩, by decide +kernel⟩)
/-- … and the response is not trivial: the policy is satisfied (b.flag = true) and determines `allow` -/
example : (isAuthorized exReq exStoreA [exPolicy]).decision = .allow ∧ (isAuthorized exReq exStoreA [exPolicy]).reasons = ["p0"] := by
  decide +kernel

/-! ### why `ActionsPresent` is a premise: without the action entities the statement fails (in the model)

`action view in [read]`; `if action in Action::"read" then true else principal.next.next.flag` is typed with the test `True`
(from the schema's action hierarchy), so its typed AST is `if … then true else true`: level 1.  Over a store WITHOUT the
action entities the test evaluates to `false`, the un-levelled `else` branch runs, and the level-1 slice lacks `b`. -/
def readG : EntityUID := ⟨"Action", "read"⟩
def exViewG : ActionEntry := { exView with ancestors := [readG] }
def exReadG : ActionEntry :=
  { principals := [], resources := [], context := .record [] false, descendants := [act], ancestors := [], attrs := [] }
def exSchemaG : Schema := { ets := [("User", exUser)], acts := [(readG, exReadG), (act, exViewG)] }
def exCondG : Expr :=
  .ite (.binaryApp .mem (.var .action) (.lit (.entityUID readG))) (.lit (.bool true))
       (.getAttr (.getAttr (.getAttr (.var .principal) "next") "next") "flag")
def exPolicyG : Policy := { id := "g", effect := .permit, condition := exCondG, env := [] }
def exReqD : Request := ⟨u "d", act, u "d", []⟩
example : (checkPolicy .strict exSchemaG .absent .absent exCondG).map accepted = some true := by decide +kernel
example : levelPolicy 1 .strict exSchemaG .absent .absent exCondG = some [] := by decide +kernel
/-- `exStore` holds no action entity: slice and store disagree … -/
example : (isAuthorized exReqD (atLevel 1 exReqD exStore) [exPolicyG]).decision = .deny ∧
          (isAuthorized exReqD exStore [exPolicyG]).decision = .allow := by decide +kernel
/-- … with the action entities (as `Entities::from_entities(.., schema)` adds them) they agree, as `level_sound_strict` says -/
def exStoreG : Entities :=
  exStore ++ [(readG, { attrs := [], ancestors := [], tags := [] }), (act, { attrs := [], ancestors := [readG], tags := [] })]
example : (isAuthorized exReqD (atLevel 1 exReqD exStoreG) [exPolicyG]).decision = .allow ∧
          (isAuthorized exReqD exStoreG [exPolicyG]).decision = .allow := by decide +kernel

end Cedar.C16
