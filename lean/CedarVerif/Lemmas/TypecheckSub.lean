import CedarVerif.Lemmas.TypecheckDefs
import CedarVerif.Lemmas.Attrs
/-
C03: subtyping is sound for `InstanceOfType`, in both modes: a value of a subtype is a value of the supertype (`Below`, the order
of types by their values).
-/
namespace Cedar

theorem monoAttrs_iff {attrs : Attrs} : monoAttrs attrs = true ↔ ∀ k r t, (k, r, t) ∈ attrs → t.mono = true :=
  attrsAll_iff rfl (fun _ _ _ _ => rfl)

theorem mono_find {attrs : Attrs} {k : String} {r : Bool} {t : CedarType} (hm : monoAttrs attrs = true)
    (h : Attrs.find? attrs k = some (r, t)) : t.mono = true := monoAttrs_iff.mp hm _ _ _ (find_mem h)

theorem mono_entity {l : List EntityType} (h : (CedarType.entity l).mono = true) : ∃ T, l = [T] := by
  cases l with
  | nil => simp [CedarType.mono] at h
  | cons T r => cases r with
    | nil => exact ⟨T, rfl⟩
    | cons _ _ => simp [CedarType.mono] at h

theorem subtype_tt {m : ValidationMode} {a : CedarType} (h : isSubtype m a (.bool .tt) = true) : a = .bool .tt ∨ a = .never := by
  cases a <;> simp [isSubtype] at h
  · exact Or.inr rfl
  · exact Or.inl (by rw [h])

end Cedar

namespace Cedar.C03

open Cedar

def Below (a b : CedarType) : Prop := ∀ v, InstanceOfType v a → InstanceOfType v b

theorem Below.refl (a : CedarType) : Below a a := fun _ hv => hv

theorem Below.trans {a b c : CedarType} (h1 : Below a b) (h2 : Below b c) : Below a c := fun v hv => h2 v (h1 v hv)

theorem sameKeys_find_none {a0 a1 : Attrs} {k : String} (hs : sameKeys a0 a1 = true) :
    Attrs.find? a0 k = none ↔ Attrs.find? a1 k = none := by
  unfold sameKeys at hs
  simp only [beq_iff_eq] at hs
  rw [find_none_iff, find_none_iff, hs]

theorem attrsSubtype_mem {m : ValidationMode} {a0 : Attrs} : ∀ {a1 : Attrs}, attrsSubtype m a0 a1 = true →
    ∀ k r1 t1, (k, r1, t1) ∈ a1 → ∃ r0 t0, Attrs.find? a0 k = some (r0, t0) ∧ (r1 = true → r0 = true) ∧ isSubtype m t0 t1 = true
  | [], _, k, r1, t1, hm => by cases hm
  | (k', r', t') :: rest, h, k, r1, t1, hm => by
    simp only [attrsSubtype, Bool.and_eq_true] at h
    rcases List.mem_cons.mp hm with heq | hm'
    · simp only [Prod.mk.injEq] at heq
      obtain ⟨rfl, rfl, rfl⟩ := heq
      cases hf : Attrs.find? a0 k with
      | none => rw [hf] at h; simp at h
      | some qt =>
        obtain ⟨r0, t0⟩ := qt
        rw [hf] at h
        simp only [Bool.and_eq_true] at h
        refine ⟨r0, t0, rfl, ?_, h.1.2⟩
        intro hr; subst hr
        have h1 := h.1.1
        cases m <;> simp [ValidationMode.isStrict] at h1 <;> exact h1
    · exact attrsSubtype_mem h.2 k r1 t1 hm'

theorem isSubtype_inst {m : ValidationMode} {v : Value} {a : CedarType} (hi : InstanceOfType v a) :
    ∀ b, isSubtype m a b = true → InstanceOfType v b := by
  induction hi with
  | anyBool x =>
    intro b hs
    cases b <;> simp [isSubtype] at hs
    rcases hs with rfl | rfl <;> exact .anyBool x
  | tt =>
    intro b hs
    cases b <;> simp [isSubtype] at hs
    rcases hs with rfl | rfl
    · exact .anyBool _
    · exact .tt
  | ff =>
    intro b hs
    cases b <;> simp [isSubtype] at hs
    rcases hs with rfl | rfl
    · exact .anyBool _
    · exact .ff
  | long i => intro b hs; cases b <;> simp [isSubtype] at hs; exact .long i
  | string i => intro b hs; cases b <;> simp [isSubtype] at hs; exact .string i
  | entity u lub hm =>
    intro b hs
    cases b <;> simp only [isSubtype, Bool.false_eq_true] at hs
    · rename_i l1
      refine .entity u l1 ?_
      cases m
      · simp only [ValidationMode.isStrict, if_true, beq_iff_eq] at hs; rw [← hs]; exact hm
      · simp only [ValidationMode.isStrict, Bool.false_eq_true, if_false, lubSubset, List.all_eq_true] at hs
        simpa using hs _ hm
    · exact .anyEntity u
  | anyEntity u => intro b hs; cases b <;> simp [isSubtype] at hs; exact .anyEntity u
  | ext x =>
    intro b hs
    cases b <;> simp [isSubtype] at hs
    subst hs; exact .ext x
  | anySet vs =>
    intro b hs
    cases b <;> (try simp only [isSubtype, Bool.false_eq_true] at hs)
    rename_i e
    cases e with
    | none => exact .anySet vs
    | some e1 => simp [isSubtype] at hs
  | set vs t _ ih =>
    intro b hs
    cases b <;> (try simp only [isSubtype, Bool.false_eq_true] at hs)
    rename_i e
    cases e with
    | none => exact .anySet vs
    | some e1 =>
      exact .set vs e1 (fun v hv => ih v hv e1 hs)
  | record kvs attrs o h1 h2 h3 ih =>
    intro b hs
    cases b <;> simp only [isSubtype, Bool.false_eq_true] at hs
    rename_i a1 o1
    simp only [Bool.and_eq_true, Bool.or_eq_true, Bool.not_eq_true'] at hs
    obtain ⟨hopen, hsub⟩ := hs
    have hattrs : attrsSubtype m attrs a1 = true := by
      rcases hsub with h | h
      · exact h.2
      · exact h.2
    refine .record kvs a1 o1 ?_ ?_ ?_
    · intro k v hkv r t hf
      obtain ⟨r0, t0, hf0, _, hst⟩ := attrsSubtype_mem hattrs k r t (find_mem hf)
      exact ih k v hkv r0 t0 hf0 t hst
    · intro k v hkv hf
      cases o1 with
      | true => rfl
      | false =>
        rcases hsub with h | h
        · simp at h
        · have := (sameKeys_find_none h.1).mpr hf
          have ho := h2 k v hkv this
          subst ho
          simp at hopen
    · intro k t hm
      obtain ⟨r0, t0, hf0, hr, _⟩ := attrsSubtype_mem hattrs k true t hm
      have := hr rfl
      subst this
      exact h3 k t0 (find_mem hf0)

theorem isSubtype_below {m : ValidationMode} {a b : CedarType} (h : isSubtype m a b = true) : Below a b :=
  fun _ hv => isSubtype_inst hv _ h

end Cedar.C03
