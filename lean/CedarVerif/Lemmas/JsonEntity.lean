import CedarVerif.Lemmas.JsonRoundTrip
/-
C10, entity level: a document that passes `rawOk` has no duplicate keys; attribute / tag maps and parent lists round trip
through `EntityJson`.
-/
namespace Cedar
namespace CJson

mutual
theorem noDup_of_rawOk : ∀ (j : Json), rawOk j = true → noDupKeys j = true
  | .null, _ => rfl
  | .bool _, _ => rfl
  | .int _, _ => rfl
  | .num _, _ => rfl
  | .str _, _ => rfl
  | .arr xs, h => by simp only [rawOk] at h; simp only [noDupKeys]; exact noDupList_of_rawOk xs h
  | .obj kvs, h => by
    simp only [rawOk, Bool.and_eq_true] at h
    simp only [noDupKeys, Bool.and_eq_true]
    exact ⟨noDupKVs_of_rawOk kvs h.1, h.2⟩
theorem noDupList_of_rawOk : ∀ (xs : List Json), rawOkList xs = true → noDupKeysList xs = true
  | [], _ => rfl
  | x :: xs, h => by
    simp only [rawOkList, Bool.and_eq_true] at h
    simp only [noDupKeysList, Bool.and_eq_true]
    exact ⟨noDup_of_rawOk x h.1, noDupList_of_rawOk xs h.2⟩
theorem noDupKVs_of_rawOk : ∀ (kvs : List (String × Json)), rawOkKVs kvs = true → noDupKeysKVs kvs = true
  | [], _ => rfl
  | (_, x) :: kvs, h => by
    simp only [rawOkKVs, Bool.and_eq_true] at h
    simp only [noDupKeysKVs, Bool.and_eq_true]
    exact ⟨noDup_of_rawOk x h.1, noDupKVs_of_rawOk kvs h.2⟩
end

theorem attrsOfJson_of (cs : List (String × CJ)) : ∀ (es : List (String × Expr)),
    rawOkKVs (CJ.toJsonKVs cs) = true → CJ.ofRawKVs (CJ.toJsonKVs cs) = cs → CJ.callsUnknownKVs cs = false →
    CJ.intoExprKVs cs = .ok es → attrsOfJson (CJ.toJsonKVs cs) = .ok es := by
  induction cs with
  | nil => intro es _ _ _ h; simp [CJ.intoExprKVs] at h; subst h; rfl
  | cons p cs ih =>
    obtain ⟨k, c⟩ := p
    intro es h1 h2 h3 h4
    simp only [CJ.toJsonKVs, rawOkKVs, Bool.and_eq_true] at h1
    simp only [CJ.toJsonKVs, CJ.ofRawKVs, List.cons.injEq, Prod.mk.injEq, true_and] at h2
    simp only [CJ.callsUnknownKVs, Bool.or_eq_false_iff] at h3
    simp only [CJ.intoExprKVs, bind_ok] at h4
    obtain ⟨e, he, es', hes', hh⟩ := h4
    cases hh
    have := ih es' h1.2 h2.2 h3.2 hes'
    simp [CJ.toJsonKVs, attrsOfJson, exprOfJson, CJ.ofJson, h1.1, h2.1, h3.1, he, this, bind, Except.bind]

theorem evalKVs_of (es : List (String × Expr)) : ∀ (vs : List (String × Value)),
    evaluateKVs dummyReq [] [] es = .ok vs → evalKVs es = .ok vs := by
  induction es with
  | nil => intro vs h; simp [evaluateKVs] at h; subst h; rfl
  | cons p es ih =>
    obtain ⟨k, e⟩ := p
    intro vs h
    simp only [evaluateKVs] at h
    split at h
    · cases h
    · rename_i v hv
      split at h
      · cases h
      · rename_i vs' hvs'
        cases h
        simp [evalKVs, evalR, hv, ih vs' hvs', bind, Except.bind]

theorem kvs_roundtrip (kvs : List (String × Value)) (cs : List (String × CJ))
    (hwf : WFKVs kvs) (hs : Sorted (kvs.map Prod.fst)) (hext : AllExtKVs (LeafOK canonRepr) kvs)
    (h : fromValueKVsWith canonRepr kvs = .ok cs) :
    ∃ es vs', attrsOfJson (sortKVs (CJ.toJsonKVs cs)) = .ok es ∧ evalKVs es = .ok vs' ∧ BeqKVs kvs vs' ∧
      noDupKeysKVs (CJ.toJsonKVs cs) = true ∧ hasDup ((CJ.toJsonKVs cs).map Prod.fst) = false := by
  obtain ⟨h1, h2, h3, hk, es, h4, vs', h5, h6⟩ := rt_kvs canonRepr kvs cs hwf hext h
  have hsorted : Sorted ((CJ.toJsonKVs cs).map Prod.fst) := by rw [keys_toJsonKVs, hk]; exact hs
  refine ⟨es, vs', ?_, evalKVs_of es vs' h5, h6, noDupKVs_of_rawOk _ h1, hasDup_sorted _ hsorted⟩
  rw [sortKVs_sorted _ hsorted]
  exact attrsOfJson_of cs es h1 h2 h3 h4

/-- one parent document (`EntityUidJson::into_euid` + the action-parent check of `parse_ejson`) -/
def parentStep (uid : EntityUID) (p : Json) : R EntityUID := do
  let u ← uidOfJson p
  if isAction uid && !isAction u then .error .actionParent else .ok u

theorem parents_roundtrip (uid : EntityUID) (us : List EntityUID) (hv : ∀ u, u ∈ us → validName u.ty = true)
    (hact : isAction uid = true → ∀ u, u ∈ us → isAction u = true) :
    mapE (parentStep uid) (us.map uidJson) = .ok us := by
  induction us with
  | nil => rfl
  | cons u us ih =>
    have hu := hv u (List.mem_cons_self ..)
    have ih' := ih (fun w hw => hv w (List.mem_cons_of_mem _ hw)) (fun ha w hw => hact ha w (List.mem_cons_of_mem _ hw))
    have hcond : (isAction uid && !isAction u) = false := by
      cases ha : isAction uid with
      | false => rfl
      | true => simp [hact ha u (List.mem_cons_self ..)]
    have hstep : parentStep uid (uidJson u) = .ok u := by
      simp [parentStep, uidOfJson_uidJson u hu, hcond, bind, Except.bind]
    simp only [List.map_cons, mapE, hstep, ih', bind, Except.bind]

end CJson
end Cedar
