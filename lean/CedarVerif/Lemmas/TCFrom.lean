import CedarVerif.Lemmas.TCOps
/-
C04: `from_entities(…, ComputeNow)` on inputs without indirect ancestors.
Whatever the contract `closure` (saturation to a fixpoint, standing for `compute_tc`) returns satisfies the
store invariant: saturation keeps the direct parents, only adds edges justified by parent-reachability and
keeps parents/indirect disjoint; the final checks (`stable`, `enforceDag`) give closedness and no self-edge.
-/
namespace Cedar.TC
set_option linter.unusedSectionVars false

variable {α : Type} [DecidableEq α]

def PureStore (s : Store α) : Prop := ∀ x n, get s x = some n → n.indirect = []

theorem createLoop_eq_addLoop (es : List (α × Node α)) : ∀ (s : Store α) (t : List α),
    createLoop s es = (addLoop s t es).map (·.1) := by
  induction es with
  | nil => intro s t; rfl
  | cons e es ih =>
    intro s t
    simp only [createLoop, addLoop]
    cases updateEntityMap s e false with
    | error err => rfl
    | ok s' => exact ih s' _

theorem createEntityMap_pure (es : List (α × Node α)) (m : Store α) (h : createEntityMap es = .ok m)
    (hp : PureBatch es) : PureStore m := by
  unfold createEntityMap at h
  rw [createLoop_eq_addLoop es [] []] at h
  cases hl : addLoop [] [] es with
  | error err => rw [hl] at h; cases h
  | ok st =>
    rw [hl] at h; cases h
    intro x n hx
    exact ((addLoop_spec es [] [] st.1 st.2 hl hp).2.1 x n rfl hx).1

def stepEdges (s : Store α) (n : Node α) : List α :=
  n.out.flatMap fun a => match get s a with
    | some na => na.out
    | none => []

theorem get_closeStep (s : Store α) (x : α) :
    get (closeStep s) x = (get s x).map (fun n => n.addEdges (stepEdges s n)) := by
  unfold closeStep
  exact get_map_node s _ (fun _ n => n.addEdges (stepEdges s n)) (fun _ => rfl) x

theorem mem_stepEdges {s : Store α} {n : Node α} {y : α} (h : y ∈ stepEdges s n) :
    ∃ a na, a ∈ n.out ∧ get s a = some na ∧ y ∈ na.out := by
  unfold stepEdges at h
  rw [List.mem_flatMap] at h
  obtain ⟨a, ha, hy⟩ := h
  cases hg : get s a with
  | none => rw [hg] at hy; cases hy
  | some na => rw [hg] at hy; exact ⟨a, na, ha, hg, hy⟩

structure SatInv (P : α → Option (List α)) (s : Store α) : Prop where
  shp : ShapeIs P s
  snd : Sound P s
  dis : Disjoint s

theorem closeStep_satInv {P : α → Option (List α)} {s : Store α} (h : SatInv P s) : SatInv P (closeStep s) := by
  refine ⟨?_, ?_, ?_⟩
  · intro x
    rw [get_closeStep, ← h.shp x]
    cases get s x with
    | none => rfl
    | some n => simp [addEdges_parents]
  · intro x n' hx y hy
    rw [get_closeStep] at hx
    obtain ⟨n, hg, rfl⟩ := Option.map_eq_some_iff.mp hx
    rcases (mem_addEdges_out _ _ _).mp hy with hy | hy
    · exact h.snd x n hg y hy
    · obtain ⟨a, na, ha, hga, hya⟩ := mem_stepEdges hy
      exact (h.snd x n hg a ha).trans (h.snd a na hga y hya)
  · intro x n' hx y hyp hyi
    rw [get_closeStep] at hx
    obtain ⟨n, hg, rfl⟩ := Option.map_eq_some_iff.mp hx
    rcases addEdges_indirect n _ y hyi with h' | h'
    · rw [addEdges_parents] at hyp
      exact h.dis x n hg y hyp h'
    · exact h' hyp

theorem closeIter_satInv {P : α → Option (List α)} : ∀ (f : Nat) (s : Store α), SatInv P s → SatInv P (closeIter f s) := by
  intro f
  induction f with
  | zero => intro s h; exact h
  | succ f ih =>
    intro s h
    simp only [closeIter]
    split
    · exact h
    · exact ih _ (closeStep_satInv h)

theorem enforceTc_iff {s : Store α} : enforceTc s = true ↔
    ∀ x n, (x, n) ∈ s → ∀ p, p ∈ n.out → ∀ pn, get s p = some pn → ∀ g, g ∈ pn.out → g ∈ n.out := by
  unfold enforceTc
  simp only [List.all_eq_true, Prod.forall]
  refine forall_congr' fun x => forall_congr' fun n => forall_congr' fun _ => forall_congr' fun p =>
    forall_congr' fun _ => ?_
  cases get s p with
  | none => simp
  | some pn => simp

theorem enforceDag_iff {s : Store α} : enforceDag s = true ↔ ∀ x n, (x, n) ∈ s → x ∉ n.out := by
  unfold enforceDag
  simp only [List.all_eq_true, Prod.forall, decide_eq_true_eq]

/-- in a transitively closed store without self-edge, everything reachable through a parent function whose
    links are out-edges is an out-edge, and that parent function is acyclic -/
theorem closed_reach {P : α → Option (List α)} {s : Store α}
    (hP : ∀ x ps, P x = some ps → ∃ n, get s x = some n ∧ ∀ y, y ∈ ps → y ∈ n.out)
    (ht : enforceTc s = true) (hd : enforceDag s = true) :
    (∀ x y, Reach P x y → ∀ n, get s x = some n → y ∈ n.out) ∧ ∀ x, ¬ Reach P x x := by
  have key : ∀ x y, Reach P x y → ∀ n, get s x = some n → y ∈ n.out := by
    intro x y hr
    induction hr with
    | edge hp hy =>
      intro n hn
      obtain ⟨n', hn', hsub⟩ := hP _ _ hp
      rw [hn] at hn'; cases hn'
      exact hsub _ hy
    | step hp hz hzy ih =>
      intro n hn
      obtain ⟨n', hn', hsub⟩ := hP _ _ hp
      rw [hn] at hn'; cases hn'
      obtain ⟨pz, hpz⟩ := hzy.src_some
      obtain ⟨nz, hnz, _⟩ := hP _ _ hpz
      exact enforceTc_iff.mp ht _ n (get_some_mem hn) _ (hsub _ hz) nz hnz _ (ih nz hnz)
  refine ⟨key, fun x hr => ?_⟩
  obtain ⟨ps, hps⟩ := hr.src_some
  obtain ⟨n, hn, _⟩ := hP _ _ hps
  exact enforceDag_iff.mp hd x n (get_some_mem hn) (key x x hr n hn)

theorem storeInv_of_closed {P : α → Option (List α)} {s : Store α} (hi : SatInv P s) (ht : enforceTc s = true)
    (hd : enforceDag s = true) : StoreInv s := by
  obtain rfl : shape s = P := funext hi.shp
  obtain ⟨key, hac⟩ := closed_reach (P := shape s) (fun x ps hps => by
    obtain ⟨n, hn, hp⟩ := shape_some_inv hps
    exact ⟨n, hn, fun y hy => mem_out.mpr (Or.inl (hp ▸ hy))⟩) ht hd
  exact ⟨fun x n hx y => ⟨hi.snd x n hx y, fun hr => key x y hr n hx⟩, hac, hi.dis⟩

theorem satInv_of_pure {s : Store α} (h : PureStore s) : SatInv (shape s) s := by
  refine ⟨shapeIs_shape s, ?_, ?_⟩
  · intro x n hx y hy
    have : y ∈ n.parents := by
      unfold Node.out at hy; rw [h x n hx] at hy; simpa using hy
    exact Reach.edge (shape_some hx) this
  · intro x n hx y _ hyi
    rw [h x n hx] at hyi; cases hyi

theorem closure_storeInv (m s' : Store α) (hm : PureStore m) (h : closure m = .ok s') : StoreInv s' := by
  unfold closure at h
  simp only at h
  have hi := closeIter_satInv (P := shape m) ((uidsOf m).length * (uidsOf m).length + 1) m (satInv_of_pure hm)
  split at h
  · rename_i hst
    split at h
    · rename_i hd
      cases h
      exact storeInv_of_closed hi hst hd
    · cases h
  · cases h

theorem fromEntities_inv (es : List (α × Node α)) (s' : Store α) (hp : PureBatch es)
    (h : fromEntities .compute es = .ok s') : StoreInv s' := by
  unfold fromEntities at h
  cases hc : createEntityMap es with
  | error e => rw [hc] at h; cases h
  | ok m =>
    rw [hc] at h
    simp only at h
    exact closure_storeInv m s' (createEntityMap_pure es m hc hp) h

end Cedar.TC
