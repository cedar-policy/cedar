import CedarVerif.Cedar.Ffi
import CedarVerif.Lemmas.Assoc
/-
Spec and helper lemmas for C19 (stateful FFI cache): the abstract spec "latest acknowledged write per name",
the refinement invariant between the caches and a call history, and its preservation by every call. The lookups of `Ffi.Map` are
`assoc?` (`Assoc.lean`), `erase` a filter on keys.
-/
namespace Cedar.Ffi.Map
variable {V : Type}

theorem lookup_eq_assoc (k : String) : ∀ m : Map V, lookup k m = assoc? m k
  | [] => rfl
  | (k', v) :: m => by rw [lookup, assoc?_cons, lookup_eq_assoc k m]; simp only [beq_iff_eq]

theorem erase_eq_filter (k : String) : ∀ m : Map V, erase k m = m.filter fun p => !(p.1 == k)
  | [] => rfl
  | (k', v) :: m => by by_cases h : k' = k <;> simp [erase, h, erase_eq_filter k m]

theorem lookup_erase (k k' : String) (m : Map V) : lookup k (erase k' m) = if k = k' then none else lookup k m := by
  rw [lookup_eq_assoc, erase_eq_filter, assoc?_filter (fun x => !(x == k')), ← lookup_eq_assoc]
  by_cases h : k = k' <;> simp [h]

theorem lookup_erase_same (k : String) (m : Map V) : lookup k (erase k m) = none := by
  rw [lookup_erase, if_pos rfl]

theorem lookup_erase_other {k k' : String} (h : k' ≠ k) (m : Map V) : lookup k (erase k' m) = lookup k m := by
  rw [lookup_erase, if_neg (Ne.symm h)]

theorem lookup_insert_same (k : String) (v : V) (m : Map V) : lookup k (insert k v m) = some v := by
  simp [insert, lookup]

theorem lookup_insert_other {k k' : String} (h : k' ≠ k) (v : V) (m : Map V) :
    lookup k (insert k' v m) = lookup k m := by
  simp [insert, lookup, h, lookup_erase_other h]

/-- a cache holding the parses of the latest acknowledged documents still does after a write `(id, doc)` that is
acknowledged iff `doc` parses -/
theorem lookup_write {D V : Type} (parse : D → Option V) {m : Map V} {latest : Option D} {k : String}
    (inv : m.lookup k = latest.bind parse) (id : String) (doc : D) :
    (match parse doc with | some v => m.insert id v | none => m).lookup k =
      ((if id = k ∧ (parse doc).isSome then some doc else none).or latest).bind parse := by
  cases hd : parse doc with
  | none => simpa using inv
  | some v =>
    by_cases hk : id = k
    · subst hk
      simp [lookup_insert_same, hd]
    · simp [lookup_insert_other hk, hk, inv]

end Cedar.Ffi.Map

namespace Cedar.C19
open Cedar.Ffi

section
variable {PDoc SDoc P S R A : Type} (π : Params PDoc SDoc P S R A)

/-- the document `op` registers successfully under policy-set id `id`, if it does -/
def ackPolicies (id : String) : Op PDoc SDoc R → Option PDoc
  | .preparsePolicySet id' doc => if id' = id ∧ (π.parsePolicies doc).isSome then some doc else none
  | _ => none

def ackSchema (n : String) : Op PDoc SDoc R → Option SDoc
  | .preparseSchema n' doc => if n' = n ∧ (π.parseSchema doc).isSome then some doc else none
  | _ => none

/-- the policies document most recently registered successfully under `id` in history `h` (oldest call first) -/
def latestPolicies (h : List (Op PDoc SDoc R)) (id : String) : Option PDoc :=
  h.reverse.findSome? (ackPolicies π id)

def latestSchema (h : List (Op PDoc SDoc R)) (n : String) : Option SDoc :=
  h.reverse.findSome? (ackSchema π n)

/-- the schema argument the equivalent stateless call gets: `some none` if the stateful call names no schema;
`none` if it names one that was never registered successfully -/
def latestOptSchema (h : List (Op PDoc SDoc R)) : Option String → Option (Option SDoc)
  | none => some none
  | some n => (latestSchema π h n).map some

/-- SPEC: what a stateful call must answer after history `h` -/
def specAnswer (h : List (Op PDoc SDoc R)) (c : SCall R) : Answer A :=
  match latestOptSchema π h c.schemaName, latestPolicies π h c.policySetId with
  | some sdoc, some pdoc => statelessAuth π { schema := sdoc, policies := pdoc, rest := c.rest }
  | _, _ => .failure

/-- the caches hold exactly the parses of the latest acknowledged documents -/
def Refines (st : Store P S) (h : List (Op PDoc SDoc R)) : Prop :=
  (∀ id, st.policies.lookup id = (latestPolicies π h id).bind π.parsePolicies) ∧
  (∀ n, st.schemas.lookup n = (latestSchema π h n).bind π.parseSchema)

theorem findSome?_reverse_snoc {α β : Type} (f : α → Option β) (l : List α) (x : α) :
    (l ++ [x]).reverse.findSome? f = (f x).or (l.reverse.findSome? f) := by
  rw [List.reverse_append, List.reverse_singleton, List.singleton_append, List.findSome?_cons]
  cases f x <;> rfl

theorem latestPolicies_snoc (h : List (Op PDoc SDoc R)) (op : Op PDoc SDoc R) (id : String) :
    latestPolicies π (h ++ [op]) id = (ackPolicies π id op).or (latestPolicies π h id) :=
  findSome?_reverse_snoc _ h op

theorem latestSchema_snoc (h : List (Op PDoc SDoc R)) (op : Op PDoc SDoc R) (n : String) :
    latestSchema π (h ++ [op]) n = (ackSchema π n op).or (latestSchema π h n) :=
  findSome?_reverse_snoc _ h op

theorem refines_step (st : Store P S) (h : List (Op PDoc SDoc R)) (op : Op PDoc SDoc R)
    (inv : Refines π st h) : Refines π (step (A := A) π st op).1 (h ++ [op]) := by
  obtain ⟨hp, hs⟩ := inv
  cases op with
  | preparsePolicySet id doc =>
    constructor
    · intro k
      rw [latestPolicies_snoc]
      refine Eq.trans ?_ (Map.lookup_write π.parsePolicies (hp k) id doc)
      show (preparsePolicySet π st id doc).1.policies.lookup k = _
      unfold preparsePolicySet
      cases π.parsePolicies doc <;> rfl
    · intro n
      rw [latestSchema_snoc]
      show (preparsePolicySet π st id doc).1.schemas.lookup n = _
      unfold preparsePolicySet
      cases π.parsePolicies doc <;> exact hs n
  | preparseSchema name doc =>
    constructor
    · intro k
      rw [latestPolicies_snoc]
      show (preparseSchema π st name doc).1.policies.lookup k = _
      unfold preparseSchema
      cases π.parseSchema doc <;> exact hp k
    · intro n
      rw [latestSchema_snoc]
      refine Eq.trans ?_ (Map.lookup_write π.parseSchema (hs n) name doc)
      show (preparseSchema π st name doc).1.schemas.lookup n = _
      unfold preparseSchema
      cases π.parseSchema doc <;> rfl
  | statefulAuth c =>
    exact ⟨fun k => by rw [latestPolicies_snoc]; exact hp k, fun n => by rw [latestSchema_snoc]; exact hs n⟩

theorem refines_runFrom (ops : List (Op PDoc SDoc R)) :
    ∀ (st : Store P S) (h : List (Op PDoc SDoc R)), Refines π st h →
      Refines π (runFrom (A := A) π st ops) (h ++ ops) := by
  induction ops with
  | nil => intro st h inv; rw [List.append_nil]; exact inv
  | cons op ops ih =>
    intro st h inv
    have := ih _ _ (refines_step (A := A) π st h op inv)
    rwa [List.append_assoc] at this

theorem refines_run (h : List (Op PDoc SDoc R)) : Refines π (run (A := A) π h) h :=
  refines_runFrom (A := A) π h {} [] ⟨fun _ => rfl, fun _ => rfl⟩

theorem lookupSchema_of_refines {st : Store P S} {h : List (Op PDoc SDoc R)} (inv : Refines π st h)
    (n : Option String) : lookupSchema st n = (latestOptSchema π h n).bind (parseOptSchema π) := by
  cases n with
  | none => rfl
  | some n =>
    simp only [lookupSchema, latestOptSchema, inv.2 n]
    cases latestSchema π h n <;> rfl

theorem statefulAuth_of_refines (st : Store P S) (h : List (Op PDoc SDoc R)) (inv : Refines π st h)
    (c : SCall R) : statefulAuth π st c = specAnswer (A := A) π h c := by
  unfold statefulAuth specAnswer statelessAuth
  rw [lookupSchema_of_refines π inv, inv.1]
  cases latestOptSchema π h c.schemaName with
  | none => rfl
  | some sd =>
    cases latestPolicies π h c.policySetId with
    | some pd => rfl
    | none =>
      simp only [Option.bind_some, Option.bind_none]
      cases parseOptSchema π sd <;> rfl

theorem runFrom_append (st : Store P S) (h1 h2 : List (Op PDoc SDoc R)) :
    runFrom (A := A) π st (h1 ++ h2) = runFrom (A := A) π (runFrom (A := A) π st h1) h2 := by
  induction h1 generalizing st with
  | nil => rfl
  | cons op ops ih => exact ih _

theorem run_snoc (h : List (Op PDoc SDoc R)) (op : Op PDoc SDoc R) :
    run (A := A) π (h ++ [op]) = (step (A := A) π (run (A := A) π h) op).1 :=
  runFrom_append π {} h [op]


theorem step_statefulAuth (st : Store P S) (c : SCall R) : (step (A := A) π st (.statefulAuth c)).1 = st := rfl

theorem step_preparsePolicySet_failed (st : Store P S) (id : String) {pd : PDoc} (hp : π.parsePolicies pd = none) :
    (step (A := A) π st (.preparsePolicySet id pd)).1 = st := by
  simp only [step, preparsePolicySet, hp]

theorem step_preparseSchema_failed (st : Store P S) (name : String) {sd : SDoc} (hs : π.parseSchema sd = none) :
    (step (A := A) π st (.preparseSchema name sd)).1 = st := by
  simp only [step, preparseSchema, hs]

theorem replies_append (st : Store P S) (h1 h2 : List (Op PDoc SDoc R)) :
    replies (A := A) π st (h1 ++ h2) = replies π st h1 ++ replies π (runFrom (A := A) π st h1) h2 := by
  induction h1 generalizing st with
  | nil => rfl
  | cons op ops ih => exact congrArg (_ :: ·) (ih _)

theorem replies_length (st : Store P S) (h : List (Op PDoc SDoc R)) :
    (replies (A := A) π st h).length = h.length := by
  induction h generalizing st with
  | nil => rfl
  | cons op ops ih => exact congrArg (· + 1) (ih _)

end

end Cedar.C19
