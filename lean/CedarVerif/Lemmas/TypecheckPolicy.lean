import CedarVerif.Lemmas.TypecheckIn
import CedarVerif.Lemmas.TypecheckRules
/-
C03: from the per-environment statement to the policy-level one: the request environment of a conformant request is among
the environments `checkPolicy` typechecks, every such environment is the environment of some request (`env_of_envs`), and an
accepted policy is typed in each of them (`checkEnv_typed`, the one place that reads `checkEnv`'s verdict back into `typeOf`'s
answer).
-/
namespace Cedar.C03

open Cedar

theorem option_mapM_mem {α β : Type} {f : α → Option β} : ∀ {l : List α} {r : List β}, l.mapM f = some r →
    ∀ x, x ∈ l → ∃ y, f x = some y ∧ y ∈ r
  | [], r, _, x, hx => by cases hx
  | a :: l, r, h, x, hx => by
    simp only [List.mapM_cons, bind, Option.bind] at h
    cases hfa : f a with
    | none => rw [hfa] at h; cases h
    | some y =>
      rw [hfa] at h; simp only at h
      cases hl : l.mapM f with
      | none => rw [hl] at h; cases h
      | some ys =>
        rw [hl] at h
        simp only [pure, Option.some.injEq] at h
        subst h
        rcases List.mem_cons.mp hx with rfl | hx
        · exact ⟨y, hfa, List.mem_cons_self⟩
        · obtain ⟨y', h1, h2⟩ := option_mapM_mem hl x hx
          exact ⟨y', h1, List.mem_cons_of_mem _ h2⟩

theorem option_mapM_congr {α β : Type} {f g : α → Option β} : ∀ {l : List α} {r : List β}, l.mapM f = some r →
    (∀ x, x ∈ l → ∀ y, f x = some y → y ∈ r → g x = some y) → l.mapM g = some r
  | [], r, h, _ => by simpa using h
  | a :: l, r, h, hg => by
    simp only [List.mapM_cons, bind, Option.bind] at h ⊢
    cases hfa : f a with
    | none => rw [hfa] at h; cases h
    | some y =>
      rw [hfa] at h; simp only at h
      cases hl : l.mapM f with
      | none => rw [hl] at h; cases h
      | some ys =>
        rw [hl] at h
        simp only [pure, Option.some.injEq] at h
        subst h
        rw [hg a List.mem_cons_self y hfa List.mem_cons_self]
        simp only
        rw [option_mapM_congr hl (fun x hx y' hy' hm => hg x (List.mem_cons_of_mem _ hx) y' hy' (List.mem_cons_of_mem _ hm))]
        rfl

theorem checkPolicy_mem {m : ValidationMode} {s : Schema} {pu ru : SlotUse} {cond : Expr} {vs : List (RequestEnv × Verdict)}
    (h : checkPolicy m s pu ru cond = some vs) {env : RequestEnv} (henv : env ∈ s.envs pu ru) :
    ∃ v, checkEnv m s env cond = some v ∧ (env, v) ∈ vs := by
  unfold checkPolicy at h
  obtain ⟨y, hy, hmem⟩ := option_mapM_mem h env henv
  cases hc : checkEnv m s env cond with
  | none => rw [hc] at hy; cases hy
  | some v =>
    rw [hc] at hy
    simp only [Option.map_some, Option.some.injEq] at hy
    subst hy
    exact ⟨v, rfl, hmem⟩

variable {m : ValidationMode} {s : Schema} {env : RequestEnv} {e : Expr} {pu ru : SlotUse} {vs : List (RequestEnv × Verdict)}

theorem checkEnv_typed {v : Verdict} (hv : checkEnv m s env e = some v) (hne : v ≠ .fail) :
    ∃ τ c, expectOneOf (typeOf m s env e []) [boolT] = .ok (τ, c) ∧ typeOf m s env e [] = .ok (τ, c) ∧ Boolish τ ∧
      (v = .ff → τ = .bool .ff) := by
  unfold checkEnv at hv
  cases hE : expectOneOf (typeOf m s env e []) [boolT] with
  | error err =>
    rw [hE] at hv
    cases err <;> simp at hv
    exact (hne hv.symm).elim
  | ok p =>
    obtain ⟨τ, c⟩ := p
    obtain ⟨ht, hs⟩ := expectOneOf_ok hE
    refine ⟨τ, c, rfl, ht, subtype_bool hs, ?_⟩
    rintro rfl
    rw [hE] at hv
    rcases subtype_bool hs with rfl | ⟨bt, rfl⟩
    · simp at hv
    · cases bt <;> simp at hv
      rfl

theorem checkPolicy_accepted (hcp : checkPolicy m s pu ru e = some vs) (hacc : accepted vs = true)
    (hmem : env ∈ s.envs pu ru) : ∃ v, checkEnv m s env e = some v ∧ v ≠ .fail := by
  obtain ⟨v, hv, hvm⟩ := checkPolicy_mem hcp hmem
  exact ⟨v, hv, by simpa using List.all_eq_true.mp hacc _ hvm⟩

theorem checkPolicy_typed (hcp : checkPolicy m s pu ru e = some vs) (hacc : accepted vs = true)
    (hmem : env ∈ s.envs pu ru) : ∃ τ c, typeOf m s env e [] = .ok (τ, c) ∧ Boolish τ := by
  obtain ⟨v, hv, hne⟩ := checkPolicy_accepted hcp hacc hmem
  obtain ⟨τ, c, _, ht, hb, _⟩ := checkEnv_typed hv hne
  exact ⟨τ, c, ht, hb⟩

theorem conformant_request_env {s : Schema} {q : Request} (hreq : ConformsRequest s q) :
    ∃ env, env ∈ s.envs .absent .absent ∧ EnvMatches s env q ∧ env.principalSlot = none ∧ env.resourceSlot = none := by
  obtain ⟨_, _, _, _, ⟨a, ha, hp, hr⟩, _⟩ := hreq
  refine ⟨{ principal := q.principal.ty, action := q.action, resource := q.resource.ty, context := a.context,
            principalSlot := none, resourceSlot := none }, ?_, ⟨rfl, rfl, rfl, a, ha, rfl⟩, rfl, rfl⟩
  unfold Schema.envs Schema.unlinkedEnvs
  rw [List.mem_flatMap]
  refine ⟨{ principal := q.principal.ty, action := q.action, resource := q.resource.ty, context := a.context,
            principalSlot := none, resourceSlot := none }, ?_, ?_⟩
  · rw [List.mem_flatMap]
    refine ⟨(q.action, a), action?_mem ha, ?_⟩
    rw [List.mem_flatMap]
    refine ⟨q.principal.ty, hp, ?_⟩
    rw [List.mem_map]
    exact ⟨q.resource.ty, hr, rfl⟩
  · simp [linkEnv, possibleSlotLinks]

theorem static_env {w : World} (hreq : ConformsRequest s w.q) :
    ∃ env, env ∈ s.envs .absent .absent ∧ EnvMatches s env w.q ∧ SlotsMatch env w.sl := by
  obtain ⟨env, hmem, henv, hp, hr⟩ := conformant_request_env hreq
  exact ⟨env, hmem, henv, fun t ht => (by rw [hp] at ht; cases ht), fun t ht => (by rw [hr] at ht; cases ht)⟩

theorem env_of_envs {s : Schema} {pu ru : SlotUse} {env : RequestEnv}
    (hmap : ∀ p, p ∈ s.acts → s.action? p.1 = some p.2) (h : env ∈ s.envs pu ru) :
    ∃ q : Request, EnvMatches s env q := by
  unfold Schema.envs at h
  rw [List.mem_flatMap] at h
  obtain ⟨env0, h0, hl⟩ := h
  unfold linkEnv at hl
  rw [List.mem_flatMap] at hl
  obtain ⟨ps, _, hl⟩ := hl
  rw [List.mem_map] at hl
  obtain ⟨rs, _, rfl⟩ := hl
  unfold Schema.unlinkedEnvs at h0
  rw [List.mem_flatMap] at h0
  obtain ⟨p, hp, h0⟩ := h0
  rw [List.mem_flatMap] at h0
  obtain ⟨pt, _, h0⟩ := h0
  rw [List.mem_map] at h0
  obtain ⟨rt, _, rfl⟩ := h0
  exact ⟨{ principal := ⟨pt, ""⟩, action := p.1, resource := ⟨rt, ""⟩, context := [] },
    rfl, rfl, rfl, p.2, hmap p hp, rfl⟩

end Cedar.C03
