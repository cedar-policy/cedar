import CedarVerif.Lemmas.TCUpsert
/-
C04: the first loop of the repaired `upsert_entities` (`dedupLastAtFirstPos`, the mirror of the `batch` / `position` loop).
The index map is redundant: the loop is a fold of "replace the entry of that uid in place, else push" (`dedup_eq`), so its
result has pairwise distinct uids; and it does not change what the SPEC says about the call (`specUpsert_dedup`: last value
wins, new records appear in the order of their first occurrence).
-/
namespace Cedar.TC

variable {α : Type} [DecidableEq α]

def dstep (b : List (α × Node α)) (e : α × Node α) : List (α × Node α) :=
  match get b e.1 with
  | some _ => set b e.1 e.2
  | none => b ++ [e]

/-- the content of `position` when the batch is `b` (indices counted from `k`) -/
def posOf : List (α × Node α) → Nat → List (α × Nat)
  | [], _ => []
  | (u, _) :: rest, k => (u, k) :: posOf rest (k + 1)

omit [DecidableEq α] in
theorem posOf_append (b : List (α × Node α)) (e : α × Node α) (k : Nat) :
    posOf (b ++ [e]) k = posOf b k ++ [(e.1, k + b.length)] := by
  induction b generalizing k with
  | nil => simp [posOf]
  | cons x rest ih =>
    obtain ⟨u, n⟩ := x
    have : k + 1 + rest.length = k + (rest.length + 1) := Nat.succ_add_eq_add_succ k rest.length
    simp [posOf, ih, this]

theorem posOf_set (b : List (α × Node α)) (u : α) (n : Node α) (k : Nat) :
    posOf (set b u n) k = posOf b k := by
  induction b generalizing k with
  | nil => rfl
  | cons x rest ih =>
    obtain ⟨u0, n0⟩ := x
    by_cases h : u0 = u
    · simp [set, h, posOf]
    · simp [set, h, posOf, ih]

theorem posGet_posOf_none (b : List (α × Node α)) (u : α) (k : Nat) (h : posGet (posOf b k) u = none) :
    get b u = none := by
  induction b generalizing k with
  | nil => rfl
  | cons x rest ih =>
    obtain ⟨u0, n0⟩ := x
    by_cases hu : u0 = u
    · simp [posOf, posGet, hu] at h
    · simp only [posOf, posGet, hu, if_false] at h
      simp only [get, hu, if_false]
      exact ih _ h

/-- an occupied `position` entry is the index of the first batch element with that uid: writing the slot
    is replacing the entry of that uid -/
theorem posGet_posOf_some (b : List (α × Node α)) (u : α) (n : Node α) (k i : Nat)
    (h : posGet (posOf b k) u = some i) :
    ∃ j, i = k + j ∧ b.set j (u, n) = set b u n ∧ ∃ m, get b u = some m := by
  induction b generalizing k with
  | nil => simp [posOf, posGet] at h
  | cons x rest ih =>
    obtain ⟨u0, n0⟩ := x
    by_cases hu : u0 = u
    · simp only [posOf, posGet, hu, if_true, Option.some.injEq] at h
      refine ⟨0, h.symm, ?_, n0, by simp [get, hu]⟩
      simp [set, hu]
    · simp only [posOf, posGet, hu, if_false] at h
      obtain ⟨j, hj, hs, m, hm⟩ := ih _ h
      refine ⟨j + 1, hj.trans (Nat.succ_add_eq_add_succ k j), ?_, m, by simp [get, hu, hm]⟩
      simp [set, hu, hs]

theorem dedupStep_eq (b : List (α × Node α)) (e : α × Node α) :
    dedupStep (b, posOf b 0) e = (dstep b e, posOf (dstep b e) 0) := by
  unfold dedupStep dstep
  cases h : posGet (posOf b 0) e.1 with
  | none =>
    have hg := posGet_posOf_none b e.1 0 h
    simp [hg, posOf_append]
  | some i =>
    obtain ⟨j, hj, hs, m, hm⟩ := posGet_posOf_some b e.1 e.2 0 i h
    have hij : i = j := hj.trans (Nat.zero_add j)
    subst hij
    simp only [hm, posOf_set]
    exact congrArg (fun x => (x, posOf b 0)) hs

theorem dedup_fold (es : List (α × Node α)) : ∀ b : List (α × Node α),
    es.foldl dedupStep (b, posOf b 0) = (es.foldl dstep b, posOf (es.foldl dstep b) 0) := by
  induction es with
  | nil => intro b; rfl
  | cons e es ih =>
    intro b
    simp only [List.foldl_cons, dedupStep_eq, ih]

theorem dedup_eq (es : List (α × Node α)) : dedupLastAtFirstPos es = es.foldl dstep [] := by
  have := dedup_fold es []
  simp only [posOf] at this
  simp [dedupLastAtFirstPos, this]

theorem dstep_nodup (b : List (α × Node α)) (e : α × Node α) (h : (keys b).Nodup) : (keys (dstep b e)).Nodup := by
  unfold dstep
  cases hg : get b e.1 with
  | some m => simp only [keys_set]; exact h
  | none =>
    have : e.1 ∉ keys b := fun hm => by obtain ⟨n, hn⟩ := mem_keys_get hm; rw [hg] at hn; cases hn
    simp only [keys, List.map_append, List.map_cons, List.map_nil] at this ⊢
    rw [List.nodup_append]
    refine ⟨h, by simp, ?_⟩
    intro a ha c hc
    simp only [List.mem_singleton] at hc
    subst hc
    intro hac; subst hac; exact this ha

theorem dstep_mem (b : List (α × Node α)) (e x : α × Node α) (h : x ∈ dstep b e) : x ∈ b ∨ x = e := by
  unfold dstep at h
  cases hg : get b e.1 with
  | some m => rw [hg] at h; exact mem_set b e.1 e.2 x h
  | none =>
    rw [hg] at h
    simp only [List.mem_append, List.mem_singleton] at h
    exact h

theorem dfold_nodup (es : List (α × Node α)) (b : List (α × Node α)) (h : (keys b).Nodup) :
    (keys (es.foldl dstep b)).Nodup :=
  List.foldlRecOn (motive := fun b => (keys b).Nodup) es dstep h fun b h e _ => dstep_nodup b e h

theorem dfold_mem (es : List (α × Node α)) : ∀ (b : List (α × Node α)) (x : α × Node α),
    x ∈ es.foldl dstep b → x ∈ b ∨ x ∈ es := by
  induction es with
  | nil => intro b x h; exact Or.inl h
  | cons e es ih =>
    intro b x h
    rcases ih _ x h with h' | h'
    · rcases dstep_mem b e x h' with h'' | h''
      · exact Or.inl h''
      · exact Or.inr (h'' ▸ List.mem_cons_self)
    · exact Or.inr (List.mem_cons_of_mem _ h')

theorem dedup_nodup (es : List (α × Node α)) : ((dedupLastAtFirstPos es).map (·.1)).Nodup := by
  rw [dedup_eq]
  exact dfold_nodup es [] (by simp [keys])

theorem dedup_mem (es : List (α × Node α)) (x : α × Node α) (h : x ∈ dedupLastAtFirstPos es) : x ∈ es := by
  rw [dedup_eq] at h
  rcases dfold_mem es [] x h with h' | h'
  · cases h'
  · exact h'

theorem dedup_pure (es : List (α × Node α)) (hp : PureBatch es) : PureBatch (dedupLastAtFirstPos es) :=
  fun e he => hp e (dedup_mem es e he)

theorem dfold_of_nodup (es : List (α × Node α)) : ∀ b : List (α × Node α), (keys (b ++ es)).Nodup →
    es.foldl dstep b = b ++ es := by
  induction es with
  | nil => intro b _; simp
  | cons e es ih =>
    intro b h
    have hne : e.1 ∉ keys b := by
      simp only [keys, List.map_append, List.map_cons] at h ⊢
      rw [List.nodup_append] at h
      intro hm
      exact h.2.2 _ hm _ List.mem_cons_self rfl
    have hstep : dstep b e = b ++ [e] := by
      cases hg : get b e.1 with
      | none => simp [dstep, hg]
      | some n => exact absurd (get_some_mem_keys hg) hne
    simp only [List.foldl_cons, hstep]
    rw [ih (b ++ [e]) (by simpa using h)]
    simp

theorem dedup_of_nodup (es : List (α × Node α)) (h : (es.map (·.1)).Nodup) : dedupLastAtFirstPos es = es := by
  rw [dedup_eq, dfold_of_nodup es [] (by simpa [keys] using h)]
  simp

theorem specUpsert_append (a : List (α × Node α)) : ∀ (g : PGraph α) (b : List (α × Node α)),
    specUpsert g (a ++ b) = specUpsert (specUpsert g a) b := by
  induction a with
  | nil => intro g b; rfl
  | cons e a ih => intro g b; simp only [List.cons_append, specUpsert_cons, ih]

theorem pget_set_self (g : PGraph α) (u : α) (ps : List α) (h : (PGraph.get g u).isSome) :
    PGraph.get (PGraph.set g u ps) u = some ps := by
  induction g with
  | nil => simp [PGraph.get] at h
  | cons x rest ih =>
    obtain ⟨k, qs⟩ := x
    by_cases hk : k = u
    · simp [PGraph.set, PGraph.get, hk]
    · simp only [PGraph.get, hk, if_false] at h
      simp only [PGraph.set, PGraph.get, hk, if_false]
      exact ih h

theorem pget_set_other (g : PGraph α) (u v : α) (ps : List α) (h : v ≠ u) :
    PGraph.get (PGraph.set g u ps) v = PGraph.get g v := by
  induction g with
  | nil => rfl
  | cons x rest ih =>
    obtain ⟨k, qs⟩ := x
    by_cases hk : k = u
    · have hkv : ¬ k = v := fun h' => h (h' ▸ hk)
      simp [PGraph.set, PGraph.get, hk]
      subst hk
      simp [hkv]
    · simp only [PGraph.set, hk, if_false, PGraph.get]
      rw [ih]

theorem pget_append_some (g h : PGraph α) (v : α) (hs : (PGraph.get g v).isSome) :
    PGraph.get (g ++ h) v = PGraph.get g v := by
  rw [PGraph.get_eq_assoc] at hs
  rw [PGraph.get_eq_assoc, PGraph.get_eq_assoc, assoc?_append]
  cases hg : assoc? g v with
  | none => rw [hg] at hs; cases hs
  | some _ => rfl

theorem pget_append_none (g h : PGraph α) (v : α) (hn : PGraph.get g v = none) :
    PGraph.get (g ++ h) v = PGraph.get h v := by
  rw [PGraph.get_eq_assoc, assoc?_append, ← PGraph.get_eq_assoc, hn, PGraph.get_eq_assoc]
  rfl

theorem pset_set (g : PGraph α) (u : α) (ps qs : List α) :
    PGraph.set (PGraph.set g u ps) u qs = PGraph.set g u qs := by
  induction g with
  | nil => rfl
  | cons x rest ih =>
    obtain ⟨k, rs⟩ := x
    by_cases hk : k = u
    · simp [PGraph.set, hk]
    · simp [PGraph.set, hk, ih]

theorem pset_append_some (g h : PGraph α) (u : α) (ps : List α) (hs : (PGraph.get g u).isSome) :
    PGraph.set (g ++ h) u ps = PGraph.set g u ps ++ h := by
  induction g with
  | nil => simp [PGraph.get] at hs
  | cons x rest ih =>
    obtain ⟨k, rs⟩ := x
    by_cases hk : k = u
    · simp [PGraph.set, hk]
    · simp only [PGraph.get, hk, if_false] at hs
      simp [PGraph.set, hk, ih hs]

theorem pset_append_none (g h : PGraph α) (u : α) (ps : List α) (hn : PGraph.get g u = none) :
    PGraph.set (g ++ h) u ps = g ++ PGraph.set h u ps := by
  induction g with
  | nil => rfl
  | cons x rest ih =>
    obtain ⟨k, rs⟩ := x
    by_cases hk : k = u
    · simp [PGraph.get, hk] at hn
    · simp only [PGraph.get, hk, if_false] at hn
      simp [PGraph.set, hk, ih hn]

theorem pset_comm (g : PGraph α) (u v : α) (ps qs : List α) (h : v ≠ u) :
    PGraph.set (PGraph.set g u ps) v qs = PGraph.set (PGraph.set g v qs) u ps := by
  induction g with
  | nil => rfl
  | cons x rest ih =>
    obtain ⟨k, rs⟩ := x
    by_cases hku : k = u
    · have hkv : ¬ k = v := fun h' => h (h' ▸ hku)
      subst hku
      simp [PGraph.set, hkv]
    · by_cases hkv : k = v
      · subst hkv
        simp [PGraph.set, hku]
      · simp [PGraph.set, hku, hkv, ih]

theorem specUpsertOne_isSome (g : PGraph α) (e : α × Node α) (u : α) (h : (PGraph.get g u).isSome) :
    (PGraph.get (specUpsertOne g e) u).isSome := by
  unfold specUpsertOne
  cases hg : PGraph.get g e.1 with
  | none => simp only; rw [pget_append_some _ _ _ h]; exact h
  | some x =>
    simp only
    by_cases hu : u = e.1
    · subst hu; rw [pget_set_self _ _ _ h]; rfl
    · rw [pget_set_other _ _ _ _ hu]; exact h

theorem specUpsert_isSome (es : List (α × Node α)) : ∀ (g : PGraph α) (u : α), (PGraph.get g u).isSome →
    (PGraph.get (specUpsert g es) u).isSome := by
  induction es with
  | nil => intro g u h; exact h
  | cons e es ih =>
    intro g u h
    rw [specUpsert_cons]
    exact ih _ u (specUpsertOne_isSome g e u h)

theorem specUpsertOne_of_isSome (g : PGraph α) (e : α × Node α) (h : (PGraph.get g e.1).isSome) :
    specUpsertOne g e = PGraph.set g e.1 e.2.parents := by
  unfold specUpsertOne
  cases hg : PGraph.get g e.1 with
  | none => rw [hg] at h; cases h
  | some x => rfl

theorem specUpsertOne_set_comm (g : PGraph α) (u : α) (ps : List α) (e : α × Node α)
    (hs : (PGraph.get g u).isSome) (hne : e.1 ≠ u) :
    specUpsertOne (PGraph.set g u ps) e = PGraph.set (specUpsertOne g e) u ps := by
  unfold specUpsertOne
  rw [pget_set_other _ _ _ _ hne]
  cases hg : PGraph.get g e.1 with
  | none => simp only; rw [pset_append_some _ _ _ _ hs]
  | some x => simp only; exact pset_comm g u e.1 ps e.2.parents hne

theorem specUpsert_set_comm (rest : List (α × Node α)) : ∀ (g : PGraph α) (u : α) (ps : List α),
    (PGraph.get g u).isSome → u ∉ keys rest →
    specUpsert (PGraph.set g u ps) rest = PGraph.set (specUpsert g rest) u ps := by
  induction rest with
  | nil => intro g u ps _ _; rfl
  | cons e rest ih =>
    intro g u ps hs hn
    simp only [keys, List.map_cons, List.mem_cons, not_or] at hn
    have hne : e.1 ≠ u := fun h => hn.1 h.symm
    rw [specUpsert_cons, specUpsert_cons, specUpsertOne_set_comm g u ps e hs hne]
    exact ih _ u ps (specUpsertOne_isSome g e u hs) hn.2

theorem specUpsertOne_twice (g : PGraph α) (u : α) (n n' : Node α) :
    specUpsertOne (specUpsertOne g (u, n)) (u, n') = specUpsertOne g (u, n') := by
  unfold specUpsertOne
  cases hg : PGraph.get g u with
  | none =>
    simp only
    have h1 : PGraph.get (g ++ [(u, n.parents)]) u = some n.parents := by
      rw [pget_append_none _ _ _ hg]; simp [PGraph.get]
    rw [h1]
    simp only
    rw [pset_append_none _ _ _ _ hg]
    simp [PGraph.set]
  | some x =>
    simp only
    rw [pget_set_self _ _ _ (by rw [hg]; rfl)]
    simp only
    exact pset_set g u _ _

/-- replacing the batch entry of `u` in place is upserting `(u, n)` once more at the end: once the first upsert of `u` has
    given `u` a record, the later one commutes with the upserts of the other uids back to it (`specUpsert_set_comm`), and
    there the second value wins (`specUpsertOne_twice`) -/
theorem specUpsert_set (b : List (α × Node α)) : ∀ (g : PGraph α) (u : α) (n : Node α),
    (keys b).Nodup → (get b u).isSome →
    specUpsert g (set b u n) = specUpsertOne (specUpsert g b) (u, n) := by
  induction b with
  | nil => intro g u n _ h; simp [get] at h
  | cons x rest ih =>
    intro g u n hnd hs
    obtain ⟨k, m⟩ := x
    simp only [keys, List.map_cons, List.nodup_cons] at hnd
    by_cases hk : k = u
    · subst hk
      simp only [set, if_true]
      rw [specUpsert_cons, specUpsert_cons, ← specUpsertOne_twice g k m n]
      have h1 : (PGraph.get (specUpsertOne g (k, m)) k).isSome := by
        unfold specUpsertOne
        cases hg : PGraph.get g k with
        | none => simp only; rw [pget_append_none _ _ _ hg]; simp [PGraph.get]
        | some y => simp only; rw [pget_set_self _ _ _ (by rw [hg]; rfl)]; rfl
      rw [specUpsertOne_of_isSome _ (k, n) h1]
      rw [specUpsert_set_comm rest _ k _ h1 hnd.1]
      rw [specUpsertOne_of_isSome _ (k, n) (specUpsert_isSome rest _ k h1)]
    · simp only [get, hk, if_false] at hs
      simp only [set, hk, if_false]
      rw [specUpsert_cons, specUpsert_cons]
      exact ih _ u n hnd.2 hs

theorem specUpsert_dstep (g : PGraph α) (b : List (α × Node α)) (e : α × Node α) (hnd : (keys b).Nodup) :
    specUpsert g (dstep b e) = specUpsertOne (specUpsert g b) e := by
  unfold dstep
  cases hg : get b e.1 with
  | some m => exact specUpsert_set b g e.1 e.2 hnd (by rw [hg]; rfl)
  | none =>
    simp only
    rw [specUpsert_append, specUpsert_cons]
    rfl

theorem specUpsert_dfold (g : PGraph α) (es : List (α × Node α)) : ∀ b : List (α × Node α), (keys b).Nodup →
    specUpsert g (es.foldl dstep b) = specUpsert (specUpsert g b) es := by
  induction es with
  | nil => intro b _; rfl
  | cons e es ih =>
    intro b hnd
    simp only [List.foldl_cons]
    rw [ih _ (dstep_nodup b e hnd), specUpsert_dstep g b e hnd, specUpsert_cons]

theorem specUpsert_dedup (g : PGraph α) (es : List (α × Node α)) :
    specUpsert g (dedupLastAtFirstPos es) = specUpsert g es := by
  rw [dedup_eq, specUpsert_dfold g es [] (by simp [keys])]
  rfl

theorem upsertEntities_spec (s : Store α) (es : List (α × Node α)) (hinv : StoreInv s) (hp : PureBatch es) :
    (∀ s', upsertEntities .compute s es = .ok s' → StoreInv s' ∧ parentGraph s' = specUpsert (parentGraph s) es) ∧
    (∀ e, upsertEntities .compute s es = .error e ↔
      (e = .cycle ∧ ∃ x, Reach (PGraph.get (specUpsert (parentGraph s) es)) x x)) := by
  have h := upsertApply_spec s (dedupLastAtFirstPos es) hinv (dedup_pure es hp) (dedup_nodup es)
  rw [specUpsert_dedup] at h
  exact h

end Cedar.TC
