import CedarVerif.Cedar.Validation.Typecheck
/-
C03: the arms of `typeOf` in rule form.  Where a construct types ALL its operands, under the capabilities of the node, before it
decides anything (unary and binary operators, `.`, `has`, `is`, extension calls), its arm sequences the operands' answers (a failing
operand fails the node), checks the operand types (`expectOneOf`; `expectTy` once the check is moved into the rule) and computes the
answer from the operand TYPES: `typeOf_unary` … `typeOf_call` say that such an arm is the sequencing of its rule.
The other arms have no rule of this form: `&&`, `||`, `if` type an operand under capabilities taken from the answer for an earlier
one, or not at all; `like` is a single check; set and record literals traverse their elements.  The constructors of `HasType`
(TypecheckJudgment) give their shape.
Imports only the model.
-/
namespace Cedar

theorem expectOneOf_ok {r : TcResult} {expected : List CedarType} {τ : CedarType} {c : Capabilities}
    (h : expectOneOf r expected = .ok (τ, c)) :
    r = .ok (τ, c) ∧ expected.any (fun t => isSubtype .permissive τ t) = true := by
  unfold expectOneOf at h
  cases r with
  | error e => simp at h
  | ok p =>
    obtain ⟨τ', c''⟩ := p
    simp only at h
    split at h
    · rename_i hs
      simp only [Except.ok.injEq, Prod.mk.injEq] at h
      obtain ⟨rfl, rfl⟩ := h
      exact ⟨rfl, hs⟩
    · cases h

theorem expectOneOf_of {τ : CedarType} {c : Capabilities} {l : List CedarType}
    (h : l.any (fun t => isSubtype .permissive τ t) = true) : expectOneOf (.ok (τ, c)) l = .ok (τ, c) := by
  simp only [expectOneOf, h, if_true]

def TcResult.andThen (r : TcResult) (k : CedarType → TcResult) : TcResult :=
  match r with
  | .error err => .error err
  | .ok (τ, _) => k τ

theorem TcResult.andThen_ok {r : TcResult} {k : CedarType → TcResult} {x : CedarType × Capabilities}
    (h : r.andThen k = .ok x) : ∃ τ c, r = .ok (τ, c) ∧ k τ = .ok x := by
  cases r with
  | error err => cases h
  | ok p => exact ⟨p.1, p.2, rfl, h⟩

/-- the check of `expect_one_of_types` on an operand type, before the rule goes on with `k` -/
def expectTy (τ : CedarType) (expected : List CedarType) (k : TcResult) : TcResult :=
  if expected.any (fun t => isSubtype .permissive τ t) then k else .error .fail

theorem expectTy_ok {τ : CedarType} {l : List CedarType} {k : TcResult} {x : CedarType × Capabilities}
    (h : expectTy τ l k = .ok x) : l.any (fun t => isSubtype .permissive τ t) = true ∧ k = .ok x := by
  unfold expectTy at h
  split at h
  · exact ⟨by assumption, h⟩
  · cases h

theorem expectTy_of {τ : CedarType} {l : List CedarType} {k : TcResult}
    (h : l.any (fun t => isSubtype .permissive τ t) = true) : expectTy τ l k = k := by
  simp only [expectTy, h, if_true]

theorem expect_andThen (r : TcResult) (l : List CedarType) (k : CedarType → TcResult) :
    (expectOneOf r l).andThen k = r.andThen (fun τ => expectTy τ l (k τ)) := by
  cases r with
  | error err => rfl
  | ok p =>
    obtain ⟨τ, c⟩ := p
    by_cases h : l.any (fun t => isSubtype .permissive τ t) = true <;> simp only [expectOneOf, TcResult.andThen, expectTy, h] <;> rfl

/-- which operand's failure wins is unchanged: a type that fails its check is a `fail`, as is any other failure that is not
`outside` -/
theorem both_expect (ra rb : TcResult) (l1 l2 : List CedarType)
    (k : CedarType → Capabilities → CedarType → Capabilities → TcResult) :
    both (expectOneOf ra l1) (expectOneOf rb l2) k =
      both ra rb (fun τa ca τb cb => expectTy τa l1 (expectTy τb l2 (k τa ca τb cb))) := by
  rcases ra with ea | ⟨τa, ca⟩ <;> rcases rb with eb | ⟨τb, cb⟩
  · cases ea <;> cases eb <;> rfl
  · by_cases hb : l2.any (fun t => isSubtype .permissive τb t) = true <;> simp only [expectOneOf, hb] <;> cases ea <;> rfl
  · by_cases ha : l1.any (fun t => isSubtype .permissive τa t) = true <;> simp only [expectOneOf, ha] <;> cases eb <;> rfl
  · by_cases ha : l1.any (fun t => isSubtype .permissive τa t) = true <;>
      by_cases hb : l2.any (fun t => isSubtype .permissive τb t) = true <;> simp only [expectOneOf, both, expectTy, ha, hb] <;> rfl

theorem both_expect_left (ra rb : TcResult) (l1 : List CedarType)
    (k : CedarType → Capabilities → CedarType → Capabilities → TcResult) :
    both (expectOneOf ra l1) rb k = both ra rb (fun τa ca τb cb => expectTy τa l1 (k τa ca τb cb)) := by
  rcases ra with ea | ⟨τa, ca⟩ <;> rcases rb with eb | ⟨τb, cb⟩
  · cases ea <;> cases eb <;> rfl
  · cases ea <;> rfl
  · by_cases ha : l1.any (fun t => isSubtype .permissive τa t) = true <;> simp only [expectOneOf, ha] <;> cases eb <;> rfl
  · by_cases ha : l1.any (fun t => isSubtype .permissive τa t) = true <;> simp only [expectOneOf, both, expectTy, ha] <;> rfl

/-- the type of a literal; `none`: an entity literal that the schema does not declare (`outside`) -/
def litType (s : Schema) : Prim → Option CedarType
  | .bool true => some (.bool .tt)
  | .bool false => some (.bool .ff)
  | .int _ => some .long
  | .string _ => some .string
  | .entityUID u => euidLiteralType s u

/-- the type of a variable; `none`: the action of the environment is not declared (`fail`) -/
def varType (s : Schema) (env : RequestEnv) : Var → Option CedarType
  | .principal => some (.entity [env.principal])
  | .action => euidLiteralType s env.action
  | .resource => some (.entity [env.resource])
  | .context => some env.context

def slotType (env : RequestEnv) : SlotId → CedarType
  | .principal => match env.principalSlot with | some t => .entity [t] | none => .anyEntity
  | .resource => match env.resourceSlot with | some t => .entity [t] | none => .anyEntity

def notType : CedarType → CedarType
  | .bool .tt => .bool .ff
  | .bool .ff => .bool .tt
  | _ => boolT

def unaryRule (op : UnaryOp) (τa : CedarType) : TcResult :=
  match op with
  | .not => expectTy τa [boolT] (ok (notType τa))
  | .neg => expectTy τa [.long] (ok .long)
  | .isEmpty => expectTy τa [.set none] (ok boolT)

/-- `.` on an operand type that passed the check and is not `AnyEntity` -/
def getAttrCont (s : Schema) (e : Expr) (a : String) (caps : Capabilities) (τ : CedarType) : TcResult :=
  match lookupAttr s τ a with
  | some (req, τa) => if req || caps.has (Capability.attr e a) then ok τa else .error .fail
  | none => .error .fail

def getAttrRule (s : Schema) (e : Expr) (a : String) (caps : Capabilities) (τ : CedarType) : TcResult :=
  expectTy τ [.anyEntity, anyRecord] (match τ with
    | .anyEntity => .error .outside
    | τ => getAttrCont s e a caps τ)

/-- `has` on an operand type that passed the check and is not `AnyEntity` -/
def hasAttrCont (s : Schema) (e : Expr) (a : String) (caps : Capabilities) (τ : CedarType) : TcResult :=
  match lookupAttr s τ a with
  | some (true, _) =>
    .ok (if τ.isRecord || caps.has (Capability.attr e a) then .bool .tt else boolT, [Capability.attr e a])
  | some (false, _) =>
    .ok (if caps.has (Capability.attr e a) then .bool .tt else boolT, [Capability.attr e a])
  | none => ok (if mayHaveAttr s τ a then boolT else .bool .ff)

def hasAttrRule (s : Schema) (e : Expr) (a : String) (caps : Capabilities) (τ : CedarType) : TcResult :=
  expectTy τ [.anyEntity, anyRecord] (match τ with
    | .anyEntity => .error .outside
    | τ => hasAttrCont s e a caps τ)

def isRule (ty : EntityType) (τ : CedarType) : TcResult :=
  expectTy τ [.anyEntity] (match τ with
    | .entity lub => ok (if !lub.contains ty then .bool .ff else if lub == [ty] then .bool .tt else boolT)
    | .anyEntity => ok boolT
    | _ => .error .fail)

/-- `in` on operand types that passed their checks -/
def memCont (s : Schema) (env : RequestEnv) (a b : Expr) (τa τb : CedarType) : TcResult :=
  match asEuid env a, asEuids env b with
  | some l, some rs =>
    if isActionType l.ty then ok (typeOfActionIn s l rs)
    else typeOfInGeneral s τa τb
  | _, _ => typeOfInGeneral s τa τb

def hasTagCont (s : Schema) (a b : Expr) (caps : Capabilities) (lub : List EntityType) : TcResult :=
  let τ : CedarType :=
    if (tagTypes s lub).isEmpty then .bool .ff
    else if caps.has (Capability.tag a b) then .bool .tt
    else boolT
  .ok (τ, [Capability.tag a b])

def getTagCont (m : ValidationMode) (s : Schema) (a b : Expr) (caps : Capabilities) (lub : List EntityType) : TcResult :=
  if caps.has (Capability.tag a b) then
    match tagTypes s lub with
    | [] => .error .fail
    | ts => match lubAll m ts with
      | some τ => ok τ
      | none => .error .fail
  else .error .fail

/-- a rule that only strict mode can refuse (`enforce_strict_equality`) -/
def strictGuard (m : ValidationMode) (lhs rhs : Option CedarType) : TcResult :=
  if m.isStrict && !strictEqualityOk m boolT lhs rhs then .error .fail else ok boolT

def binaryRule (m : ValidationMode) (s : Schema) (env : RequestEnv) (op : BinaryOp) (a b : Expr) (caps : Capabilities)
    (τa τb : CedarType) : TcResult :=
  match op with
  | .eq =>
    let τ := eqType env a b τa τb
    if m.isStrict && !strictEqualityOk m τ (some τa) (some τb) then .error .fail else ok τ
  | .less | .lessEq => cmpType τa τb
  | .add | .sub | .mul => expectTy τa [.long] (expectTy τb [.long] (ok .long))
  | .mem => expectTy τa [.anyEntity] (expectTy τb [.set (some .anyEntity), .anyEntity] (memCont s env a b τa τb))
  | .contains => expectTy τa [.set none] (strictGuard m (match τa with
      | .set (some t) => some t
      | _ => none) (some τb))
  | .containsAll | .containsAny => expectTy τa [.set none] (expectTy τb [.set none] (strictGuard m (some τa) (some τb)))
  | .hasTag => expectTy τa [.anyEntity] (expectTy τb [.string] (match τa with
      | .entity lub => hasTagCont s a b caps lub
      | _ => .error .outside))
  | .getTag => expectTy τa [.anyEntity] (expectTy τb [.string] (match τa with
      | .entity lub => getTagCont m s a b caps lub
      | _ => .error .outside))

def callRule (m : ValidationMode) (fn : String) (args : List Expr) (τs : List CedarType) : TcResult :=
  match extSig fn with
  | none => .error .fail
  | some sig =>
    if args.length != sig.args.length || !constructorArgOk fn args || (m.isStrict && sig.isConstructor && !args.all isLit)
    then .error .fail
    else if (τs.zip sig.args).all (fun p => isSubtype .permissive p.1 p.2) then ok sig.ret
    else .error .fail

theorem getAttrRule_inv {s : Schema} {e : Expr} {a : String} {caps : Capabilities} {τ : CedarType} {x : CedarType × Capabilities}
    (h : getAttrRule s e a caps τ = .ok x) :
    [.anyEntity, anyRecord].any (fun t => isSubtype .permissive τ t) = true ∧ τ ≠ .anyEntity ∧ getAttrCont s e a caps τ = .ok x := by
  obtain ⟨hs, hk⟩ := expectTy_ok h
  cases τ with
  | anyEntity => cases hk
  | _ => exact ⟨hs, nofun, hk⟩

theorem hasAttrRule_inv {s : Schema} {e : Expr} {a : String} {caps : Capabilities} {τ : CedarType} {x : CedarType × Capabilities}
    (h : hasAttrRule s e a caps τ = .ok x) :
    [.anyEntity, anyRecord].any (fun t => isSubtype .permissive τ t) = true ∧ τ ≠ .anyEntity ∧ hasAttrCont s e a caps τ = .ok x := by
  obtain ⟨hs, hk⟩ := expectTy_ok h
  cases τ with
  | anyEntity => cases hk
  | _ => exact ⟨hs, nofun, hk⟩

theorem getAttrCont_ok {s : Schema} {e : Expr} {a : String} {caps : Capabilities} {τ τa : CedarType} {c : Capabilities}
    (h : getAttrCont s e a caps τ = .ok (τa, c)) :
    ∃ req, lookupAttr s τ a = some (req, τa) ∧ (req || caps.has (Capability.attr e a)) = true ∧ c = [] := by
  unfold getAttrCont at h
  split at h
  · rename_i req τa' hl
    split at h
    · cases h; exact ⟨req, hl, by assumption, rfl⟩
    · cases h
  · cases h

theorem hasAttrCont_bool {s : Schema} {e : Expr} {a : String} {caps : Capabilities} {τ τ' : CedarType} {c : Capabilities}
    (h : hasAttrCont s e a caps τ = .ok (τ', c)) : (∃ bt, τ' = .bool bt) ∧ (c = [Capability.attr e a] ∨ c = []) := by
  unfold hasAttrCont at h
  split at h <;> cases h
  · exact ⟨by split <;> exact ⟨_, rfl⟩, .inl rfl⟩
  · exact ⟨by split <;> exact ⟨_, rfl⟩, .inl rfl⟩
  · exact ⟨by split <;> exact ⟨_, rfl⟩, .inr rfl⟩

theorem strictGuard_ok {m : ValidationMode} {lhs rhs : Option CedarType} {τ : CedarType} {c : Capabilities}
    (h : strictGuard m lhs rhs = .ok (τ, c)) : τ = boolT ∧ c = [] := by
  unfold strictGuard at h
  split at h <;> cases h
  exact ⟨rfl, rfl⟩

theorem callRule_inv {m : ValidationMode} {fn : String} {args : List Expr} {τs : List CedarType} {τ : CedarType} {c : Capabilities}
    (h : callRule m fn args τs = .ok (τ, c)) :
    ∃ sig, extSig fn = some sig ∧ args.length = sig.args.length ∧
      (τs.zip sig.args).all (fun p => isSubtype .permissive p.1 p.2) = true ∧ τ = sig.ret ∧ c = [] := by
  unfold callRule at h
  cases hsig : extSig fn with
  | none => rw [hsig] at h; cases h
  | some sig =>
    rw [hsig] at h; simp only at h
    split at h
    · cases h
    · rename_i hnf
      split at h
      · rename_i hall
        simp only [ok, Except.ok.injEq, Prod.mk.injEq] at h
        simp only [Bool.or_eq_true, not_or, bne_iff_ne, ne_eq, Decidable.not_not] at hnf
        exact ⟨sig, rfl, hnf.1.1, hall, h.1.symm, h.2.symm⟩
      · cases h

variable {m : ValidationMode} {s : Schema} {env : RequestEnv}

theorem typeOf_lit (p : Prim) (caps : Capabilities) :
    typeOf m s env (.lit p) caps = match litType s p with | some τ => ok τ | none => .error .outside := by
  cases p with
  | bool b => cases b <;> rfl
  | entityUID u => simp only [typeOf, litType]; cases euidLiteralType s u <;> rfl
  | _ => rfl

theorem typeOf_var (v : Var) (caps : Capabilities) :
    typeOf m s env (.var v) caps = match varType s env v with | some τ => ok τ | none => .error .fail := by
  cases v with
  | action => simp only [typeOf, varType]; cases euidLiteralType s env.action <;> rfl
  | _ => rfl

theorem typeOf_slot (x : SlotId) (caps : Capabilities) : typeOf m s env (.slot x) caps = ok (slotType env x) := by
  cases x <;> rfl

theorem typeOf_lit_ok {p : Prim} {caps : Capabilities} {τ : CedarType} {c : Capabilities} :
    typeOf m s env (.lit p) caps = .ok (τ, c) ↔ litType s p = some τ ∧ c = [] := by
  rw [typeOf_lit]
  cases litType s p with
  | none => exact ⟨nofun, fun h => nomatch h.1⟩
  | some τ' => simp only [ok, Except.ok.injEq, Prod.mk.injEq, Option.some.injEq, eq_comm]

theorem typeOf_var_ok {v : Var} {caps : Capabilities} {τ : CedarType} {c : Capabilities} :
    typeOf m s env (.var v) caps = .ok (τ, c) ↔ varType s env v = some τ ∧ c = [] := by
  rw [typeOf_var]
  cases varType s env v with
  | none => exact ⟨nofun, fun h => nomatch h.1⟩
  | some τ' => simp only [ok, Except.ok.injEq, Prod.mk.injEq, Option.some.injEq, eq_comm]

theorem typeOf_unary (op : UnaryOp) (a : Expr) (caps : Capabilities) :
    typeOf m s env (.unaryApp op a) caps = (typeOf m s env a caps).andThen (unaryRule op) := by
  cases op <;> simp only [typeOf]
  · show _ = (typeOf m s env a caps).andThen (fun τ => expectTy τ [boolT] (ok (notType τ)))
    rw [← expect_andThen]
    generalize expectOneOf _ _ = r
    rcases r with e | ⟨τ, c⟩
    · rfl
    · rcases τ with _ | b | _ | _ | _ | _ | _ | _ | _ <;> first | rfl | (cases b <;> rfl)
  · show _ = (typeOf m s env a caps).andThen (fun τ => expectTy τ [.long] (ok .long))
    rw [← expect_andThen]
    generalize expectOneOf _ _ = r
    rcases r with e | ⟨τ, c⟩ <;> rfl
  · show _ = (typeOf m s env a caps).andThen (fun τ => expectTy τ [.set none] (ok boolT))
    rw [← expect_andThen]
    generalize expectOneOf _ _ = r
    rcases r with e | ⟨τ, c⟩ <;> rfl

theorem typeOf_binary (op : BinaryOp) (a b : Expr) (caps : Capabilities) :
    typeOf m s env (.binaryApp op a b) caps =
      both (typeOf m s env a caps) (typeOf m s env b caps) (fun τa _ τb _ => binaryRule m s env op a b caps τa τb) := by
  cases op <;> simp only [typeOf] <;> (first | rw [both_expect] | rw [both_expect_left] | skip) <;> rfl

theorem typeOf_getAttr (e : Expr) (a : String) (caps : Capabilities) :
    typeOf m s env (.getAttr e a) caps = (typeOf m s env e caps).andThen (getAttrRule s e a caps) := by
  simp only [typeOf]
  show _ = (typeOf m s env e caps).andThen (fun τ => expectTy τ [.anyEntity, anyRecord] _)
  rw [← expect_andThen]
  generalize expectOneOf _ _ = r
  rcases r with e | ⟨τ, c⟩
  · rfl
  · cases τ <;> rfl

theorem typeOf_hasAttr (e : Expr) (a : String) (caps : Capabilities) :
    typeOf m s env (.hasAttr e a) caps = (typeOf m s env e caps).andThen (hasAttrRule s e a caps) := by
  simp only [typeOf]
  show _ = (typeOf m s env e caps).andThen (fun τ => expectTy τ [.anyEntity, anyRecord] _)
  rw [← expect_andThen]
  generalize expectOneOf _ _ = r
  rcases r with e | ⟨τ, c⟩
  · rfl
  · cases τ <;> rfl

theorem typeOf_is (e : Expr) (ty : EntityType) (caps : Capabilities) :
    typeOf m s env (.is e ty) caps = (typeOf m s env e caps).andThen (isRule ty) := by
  simp only [typeOf]
  show _ = (typeOf m s env e caps).andThen (fun τ => expectTy τ [.anyEntity] _)
  rw [← expect_andThen]
  generalize expectOneOf _ _ = r
  rcases r with e | ⟨τ, c⟩
  · rfl
  · cases τ <;> rfl

theorem typeOf_call (fn : String) (args : List Expr) (caps : Capabilities) :
    typeOf m s env (.call fn args) caps =
      match typeOfList m s env args caps with
      | .error err => .error err
      | .ok τs => callRule m fn args τs := by
  simp only [typeOf, callRule]
  cases extSig fn with
  | none => rcases typeOfList m s env args caps with e | τs <;> first | rfl | (cases e <;> rfl)
  | some sig => rcases typeOfList m s env args caps with e | τs <;> rfl

theorem both_ok {ra rb : TcResult} {k : CedarType → Capabilities → CedarType → Capabilities → TcResult} {x : CedarType × Capabilities}
    (h : both ra rb k = .ok x) : ∃ τa ca τb cb, ra = .ok (τa, ca) ∧ rb = .ok (τb, cb) ∧ k τa ca τb cb = .ok x := by
  unfold both at h
  split at h
  · exact ⟨_, _, _, _, rfl, rfl, h⟩
  all_goals cases h

theorem euidLiteralType_some {s : Schema} {u : EntityUID} {τ : CedarType} (h : euidLiteralType s u = some τ) : τ = .entity [u.ty] := by
  unfold euidLiteralType at h
  split at h
  · cases ha : s.action? u <;> simp [ha] at h; exact h.symm
  · cases ha : s.entityType? u.ty <;> simp [ha] at h; exact h.symm

theorem eqType_bool (env : RequestEnv) (a b : Expr) (τa τb : CedarType) : ∃ bt, eqType env a b τa τb = .bool bt := by
  unfold eqType
  split
  · exact ⟨_, rfl⟩
  · split
    · exact ⟨_, rfl⟩
    · exact ⟨_, rfl⟩

theorem isFalse_eq {τ : CedarType} (h : τ.isFalse = true) : τ = .bool .ff := by
  cases τ <;> simp [CedarType.isFalse] at h
  rename_i b; cases b <;> simp [CedarType.isFalse] at h; rfl

theorem isTrue_eq {τ : CedarType} (h : τ.isTrue = true) : τ = .bool .tt := by
  cases τ <;> simp [CedarType.isTrue] at h
  rename_i b; cases b <;> simp [CedarType.isTrue] at h; rfl

end Cedar

namespace Cedar.C03

open Cedar

theorem typeOfList_cons {m : ValidationMode} {s : Schema} {env : RequestEnv} {e : Expr} {es : List Expr} {caps : Capabilities}
    {τs : List CedarType} (h : typeOfList m s env (e :: es) caps = .ok τs) :
    ∃ τ c τs', typeOf m s env e caps = .ok (τ, c) ∧ typeOfList m s env es caps = .ok τs' ∧ τs = τ :: τs' := by
  simp only [typeOfList] at h
  split at h <;> try (cases h)
  rename_i τ c τs' h1 h2
  exact ⟨τ, c, τs', h1, h2, rfl⟩

theorem typeOfKVs_cons {m : ValidationMode} {s : Schema} {env : RequestEnv} {k : String} {e : Expr} {es : List (String × Expr)}
    {caps : Capabilities} {attrs : Attrs} (h : typeOfKVs m s env ((k, e) :: es) caps = .ok attrs) :
    ∃ τ c attrs', typeOf m s env e caps = .ok (τ, c) ∧ typeOfKVs m s env es caps = .ok attrs' ∧ attrs = (k, true, τ) :: attrs' := by
  simp only [typeOfKVs] at h
  split at h <;> try (cases h)
  rename_i τ c attrs' h1 h2
  exact ⟨τ, c, attrs', h1, h2, rfl⟩

theorem typeOfKVs_keys {m : ValidationMode} {s : Schema} {env : RequestEnv} {caps : Capabilities} :
    ∀ {kvs : List (String × Expr)} {attrs : Attrs}, typeOfKVs m s env kvs caps = .ok attrs → attrs.map (·.1) = kvs.map (·.1)
  | [], attrs, h => by simp only [typeOfKVs, Except.ok.injEq] at h; subst h; rfl
  | (k, e) :: es, attrs, h => by
    obtain ⟨τ, c, attrs', _, h2, rfl⟩ := typeOfKVs_cons h
    simp [typeOfKVs_keys h2]

theorem typeOfList_length {m : ValidationMode} {s : Schema} {env : RequestEnv} {caps : Capabilities} :
    ∀ {es : List Expr} {τs : List CedarType}, typeOfList m s env es caps = .ok τs → τs.length = es.length
  | [], τs, h => by simp only [typeOfList, Except.ok.injEq] at h; subst h; rfl
  | e :: es, τs, h => by
    obtain ⟨τ, c, τs', _, h2, rfl⟩ := typeOfList_cons h
    simp [typeOfList_length h2]

theorem typeOfList_ne_nil {m : ValidationMode} {s : Schema} {env : RequestEnv} {caps : Capabilities} {es : List Expr}
    {τs : List CedarType} (h : typeOfList m s env es caps = .ok τs) (hne : es ≠ []) : τs ≠ [] :=
  fun h0 => hne (List.eq_nil_of_length_eq_zero (by rw [← typeOfList_length h, h0]; rfl))

theorem typeOfList_all {m : ValidationMode} {s : Schema} {env : RequestEnv} {caps : Capabilities} {P : CedarType → Prop} :
    ∀ {es : List Expr} {τs : List CedarType}, typeOfList m s env es caps = .ok τs →
      (∀ e, e ∈ es → ∀ τ c, typeOf m s env e caps = .ok (τ, c) → P τ) → ∀ t, t ∈ τs → P t
  | [], τs, h, _, t, ht => by simp only [typeOfList, Except.ok.injEq] at h; subst h; cases ht
  | e :: es, τs, h, hall, t, ht => by
    obtain ⟨τ, c, τs', h1, h2, rfl⟩ := typeOfList_cons h
    rcases List.mem_cons.mp ht with rfl | ht
    · exact hall e List.mem_cons_self _ _ h1
    · exact typeOfList_all h2 (fun e' he' => hall e' (List.mem_cons_of_mem _ he')) t ht

section
variable {s : Schema} {env : RequestEnv} {caps : Capabilities}

theorem typeOfList_modes {m m' : ValidationMode} : ∀ {es : List Expr} {τs : List CedarType}, typeOfList m s env es caps = .ok τs →
    (∀ x, x ∈ es → ∀ τx cx, typeOf m s env x caps = .ok (τx, cx) → typeOf m' s env x caps = .ok (τx, cx)) →
    typeOfList m' s env es caps = .ok τs
  | [], _, h, _ => by simp only [typeOfList] at h ⊢; exact h
  | e :: es, _, h, ih => by
    obtain ⟨τ, c, τs', h1, h2, rfl⟩ := typeOfList_cons h
    simp only [typeOfList]
    rw [ih e List.mem_cons_self τ c h1, typeOfList_modes h2 (fun x hx => ih x (List.mem_cons_of_mem _ hx))]

theorem typeOfKVs_modes {m m' : ValidationMode} : ∀ {kvs : List (String × Expr)} {attrs : Attrs},
    typeOfKVs m s env kvs caps = .ok attrs →
    (∀ kv, kv ∈ kvs → ∀ τx cx, typeOf m s env kv.2 caps = .ok (τx, cx) → typeOf m' s env kv.2 caps = .ok (τx, cx)) →
    typeOfKVs m' s env kvs caps = .ok attrs
  | [], _, h, _ => by simp only [typeOfKVs] at h ⊢; exact h
  | (k, e) :: es, _, h, ih => by
    obtain ⟨τ, c, attrs', h1, h2, rfl⟩ := typeOfKVs_cons h
    simp only [typeOfKVs]
    rw [ih (k, e) List.mem_cons_self τ c h1, typeOfKVs_modes h2 (fun x hx => ih x (List.mem_cons_of_mem _ hx))]

end

end Cedar.C03
