import CedarVerif.Cedar.NoPanic.Collections
import CedarVerif.Cedar.NoPanic.Dispatch
import CedarVerif.Lemmas.Data
import CedarVerif.Lemmas.SetRepr
import CedarVerif.Lemmas.PartialArms
/-
C20 lemmas for the evaluator's sites (`Cedar/NoPanic/Collections.lean`, `Cedar/NoPanic/Dispatch.lean`): the partition
invariant of `FromIterator<Value> for Set`, the key-uniqueness invariant behind `Expr::record(..).expect(..)`, and the
two-level operator dispatch, which computes `applyBinary` (so none of its three `unreachable!` arms is reached).
-/
namespace Cedar
namespace NoPanic

theorem elem_ne_nil {v : Value} {l : List Value} (h : Value.elem v l = true) : l ≠ [] := by
  intro hl; subst hl; simp [Value.elem] at h

/-- the mirror's closure over `literals` is `allLits?` of the set model -/
theorem litsOf_eq_allLits : ∀ l : List Value, litsOf l = allLits? l
  | [] => rfl
  | .prim p :: vs => by rw [litsOf, allLits?, litsOf_eq_allLits vs]; cases allLits? vs <;> rfl
  | .set _ :: _ | .record _ :: _ | .ext _ :: _ => by simp [litsOf, allLits?, Value.asLit?]

theorem litsOf_of_all_lit (l : List Value) (h : ∀ v ∈ l, isLit v = true) : ∃ ps, litsOf l = some ps := by
  rw [litsOf_eq_allLits]
  cases hl : allLits? l with
  | some ps => exact ⟨ps, rfl⟩
  | none =>
    obtain ⟨v, hv, hnp⟩ := allLits?_none hl
    have := h v hv
    cases v with
    | prim p => exact absurd rfl (hnp p)
    | set _ | record _ | ext _ => cases this

/-- the partition invariant: every element of `literals` matches `ValueKind::Lit` -/
theorem literals_all_lit (vs : List Value) : ∀ v ∈ Value.mkSet (vs.filter isLit), isLit v = true := by
  intro v hv
  exact (List.mem_filter.mp (mem_mkSet hv)).2

theorem nonLiterals_all_nonlit (vs : List Value) : ∀ v ∈ Value.mkSet (vs.filter (fun v => !isLit v)), isLit v = false := by
  intro v hv
  have := (List.mem_filter.mp (mem_mkSet hv)).2
  simpa using this

theorem allLits_cons_nonlit {v : Value} (h : isLit v = false) (rest : List Value) : allLits? (v :: rest) = none := by
  cases v with
  | prim p => simp [isLit] at h
  | set _ => simp [allLits?, Value.asLit?]
  | record _ => simp [allLits?, Value.asLit?]
  | ext _ => simp [allLits?, Value.asLit?]

/-- what `setFromIter` builds: from literals alone the list of their primitives with its fast copy; otherwise a list that
    starts with a non-literal, and no fast copy -/
theorem setFromIter_cases (vs : List Value) :
    (vs.all isLit = true ∧ ∃ ps, setFromIter vs = .built { authoritative := ps.map Value.prim, fast := some ps }) ∨
    (vs.all isLit = false ∧ ∃ a as, isLit a = false ∧ setFromIter vs = .built { authoritative := a :: as, fast := none }) := by
  unfold setFromIter
  simp only [mkSet_isEmpty]
  cases hf : vs.filter (fun v => !isLit v) with
  | nil =>
    refine .inl ⟨List.all_eq_true.mpr fun v hv => ?_, ?_⟩
    · have := List.filter_eq_nil_iff.mp hf v hv
      simpa using this
    · obtain ⟨ps, hps⟩ := litsOf_of_all_lit _ (literals_all_lit vs)
      exact ⟨_, by rw [List.isEmpty_nil, if_pos rfl, hps]⟩
  | cons b bs =>
    obtain ⟨hb, hnl⟩ := List.mem_filter.mp (hf ▸ List.mem_cons_self : b ∈ vs.filter (fun v => !isLit v))
    refine .inr ⟨List.all_eq_false.mpr ⟨b, hb, by simpa using hnl⟩, ?_⟩
    rw [List.isEmpty_cons, if_neg Bool.false_ne_true]
    cases hm : Value.mkSet (b :: bs) with
    | nil => have := mkSet_isEmpty (b :: bs); rw [hm] at this; cases this
    | cons a as =>
      have ha := nonLiterals_all_nonlit vs a (by rw [hf, hm]; exact List.mem_cons_self ..)
      exact ⟨a, _, ha, rfl⟩

theorem setFromIter_built (vs : List Value) : ∃ s, setFromIter vs = .built s := by
  rcases setFromIter_cases vs with ⟨_, _, h⟩ | ⟨_, _, _, _, h⟩ <;> exact ⟨_, h⟩

theorem setFromIter_fastRepr (vs : List Value) (s : SetRepr) (h : setFromIter vs = .built s) : s.FastRepr := by
  rcases setFromIter_cases vs with ⟨_, ps, e⟩ | ⟨_, a, as, ha, e⟩
  · obtain rfl := SetOutcome.built.inj (h.symm.trans e)
    exact (allLits_map_prim ps).symm
  · obtain rfl := SetOutcome.built.inj (h.symm.trans e)
    exact (allLits_cons_nonlit ha as).symm

theorem setFromIter_fast_iff (vs : List Value) (s : SetRepr) (h : setFromIter vs = .built s) :
    s.fast.isSome = vs.all isLit := by
  rcases setFromIter_cases vs with ⟨hl, _, e⟩ | ⟨hl, _, _, _, e⟩
  · obtain rfl := SetOutcome.built.inj (h.symm.trans e)
    exact hl.symm
  · obtain rfl := SetOutcome.built.inj (h.symm.trans e)
    exact hl.symm

theorem exprRecordGo_ok : ∀ (pairs map : List (String × Expr)),
    (pairs.map (·.1)).Nodup → (∀ k ∈ pairs.map (·.1), k ∉ map.map (·.1)) →
    exprRecordGo pairs map = .ok (pairs.foldl (fun acc kv => insertKV kv.1 kv.2 acc) map)
  | [], map, _, _ => rfl
  | (k, v) :: rest, map, hnd, hdis => by
    have hk : lookupKV map k = none := lookupKV_none_iff.mpr (hdis k (by simp))
    simp only [exprRecordGo, hk, List.foldl_cons]
    simp only [List.map_cons, List.nodup_cons] at hnd
    apply exprRecordGo_ok rest (insertKV k v map) hnd.2
    intro k' hk' hmem
    rcases (keys_insertKV k v map k').mp hmem with rfl | hm
    · exact hnd.1 hk'
    · exact hdis k' (List.mem_cons_of_mem _ hk') hm

theorem exprRecord_ok (pairs : List (String × Expr)) (h : (pairs.map (·.1)).Nodup) :
    exprRecord pairs = .ok (pairs.foldl (fun acc kv => insertKV kv.1 kv.2 acc) []) :=
  exprRecordGo_ok pairs [] h (by simp)

theorem exprRecordGo_dup : ∀ (pairs map : List (String × Expr)) (k : String),
    k ∈ pairs.map (·.1) → k ∈ map.map (·.1) → ∃ k', exprRecordGo pairs map = .error k'
  | [], _, _, h, _ => by simp at h
  | (k0, v) :: rest, map, k, h1, h2 => by
    simp only [exprRecordGo]
    cases hl : lookupKV map k0 with
    | some _ => exact ⟨k0, rfl⟩
    | none =>
      simp only []
      have hk0 : k0 ∉ map.map (·.1) := lookupKV_none_iff.mp hl
      simp only [List.map_cons, List.mem_cons] at h1
      rcases h1 with rfl | h1
      · exact absurd h2 hk0
      · exact exprRecordGo_dup rest _ k h1 ((keys_insertKV k0 v map k).mpr (Or.inr h2))

theorem exprRecordGo_not_nodup : ∀ (pairs map : List (String × Expr)), ¬ (pairs.map (·.1)).Nodup →
    ∃ k', exprRecordGo pairs map = .error k'
  | [], _, h => absurd List.nodup_nil h
  | (k0, v) :: rest, map, h => by
    rw [exprRecordGo]
    cases lookupKV map k0 with
    | some _ => exact ⟨k0, rfl⟩
    | none =>
      by_cases hk : k0 ∈ rest.map (·.1)
      · exact exprRecordGo_dup rest _ k0 hk ((keys_insertKV k0 v map k0).mpr (Or.inl rfl))
      · exact exprRecordGo_not_nodup rest _ fun hr => h (List.nodup_cons.mpr ⟨hk, hr⟩)

theorem zip_residual_keys {map : List (String × PartialValue)} {rs : List Expr} (hs : splitPV (map.map (·.2)) = .inr rs) :
    ((map.map (·.1)).zip rs).map (·.1) = map.map (·.1) := by
  rw [splitPV_inr hs]
  exact List.map_fst_zip (by simp)

theorem recordArm_safe (map : List (String × PartialValue)) (h : (map.map (·.1)).Nodup) :
    ∀ site, recordArm map ≠ .panic site := by
  intro site
  unfold recordArm
  simp only []
  cases hs : splitPV (map.map (·.2)) with
  | inl vs => simp
  | inr rs =>
    simp only [exprRecord_ok _ (by rw [zip_residual_keys hs]; exact h)]
    exact fun h => RecOutcome.noConfusion h

/-- the `names` the arm zips with are the keys of the record expression's `BTreeMap`, whatever the fields evaluate to -/
theorem collectPVKVs_keys (f : Expr → PRes) (kvs : List (String × Expr)) (pkvs : List (String × PartialValue))
    (h : collectPVKVs f kvs = .ok pkvs) : pkvs.map (·.1) = kvs.map (·.1) := by
  rw [collectPVKVs_eq] at h
  cases hc : collectPV f (kvs.map (·.2)) with
  | error r => rw [hc] at h; cases h
  | ok pvs =>
    rw [hc] at h
    obtain rfl := Except.ok.inj h
    exact List.map_fst_zip (by rw [collectPV_length hc, List.length_map, List.length_map]; exact Nat.le_refl _)


theorem asInt_cases (v : Value) : (∃ i, v = .prim (.int i) ∧ v.asInt = .ok i) ∨ v.asInt = .error .type := by
  cases v with
  | prim p => cases p <;> simp [Value.asInt]
  | set _ => simp [Value.asInt]
  | record _ => simp [Value.asInt]
  | ext _ => simp [Value.asInt]

theorem binaryArith_eq (es : Entities) (op : BinaryOp) (h : op = .add ∨ op = .sub ∨ op = .mul) (v1 v2 : Value) :
    binaryArith op v1 v2 = .ret (applyBinary es op v1 v2) := by
  unfold binaryArith applyBinary
  rcases h with rfl | rfl | rfl <;>
    cases v1.asInt with
    | error _ => rfl
    | ok _ => cases v2.asInt <;> rfl

theorem tagArm_eq (es : Entities) (op : BinaryOp) (h : op = .getTag ∨ op = .hasTag) (v1 v2 : Value) :
    tagArm es op v1 v2 = .ret (applyBinary es op v1 v2) := by
  unfold tagArm applyBinary
  rcases h with rfl | rfl <;>
    cases v1.asEntity with
    | error _ => rfl
    | ok _ => cases v2.asString <;> rfl

theorem binaryRelation_eq (es : Entities) (op : BinaryOp) (h : op = .eq ∨ op = .less ∨ op = .lessEq) (v1 v2 : Value) :
    binaryRelation op v1 v2 = .ret (applyBinary es op v1 v2) := by
  have hb : (BinaryOp.lessEq == BinaryOp.less) = false := by decide
  rcases h with rfl | rfl | rfl <;> simp [binaryRelation, applyBinary, hb]

theorem binaryDispatch_eq (es : Entities) (op : BinaryOp) (v1 v2 : Value) :
    binaryDispatch es op v1 v2 = .ret (applyBinary es op v1 v2) := by
  cases op
  case eq => exact binaryRelation_eq es .eq (by simp) v1 v2
  case less => exact binaryRelation_eq es .less (by simp) v1 v2
  case lessEq => exact binaryRelation_eq es .lessEq (by simp) v1 v2
  case add => exact binaryArith_eq es .add (by simp) v1 v2
  case sub => exact binaryArith_eq es .sub (by simp) v1 v2
  case mul => exact binaryArith_eq es .mul (by simp) v1 v2
  case mem => rfl
  case contains => rfl
  case containsAll => rfl
  case containsAny => rfl
  case getTag => exact tagArm_eq es .getTag (by simp) v1 v2
  case hasTag => exact tagArm_eq es .hasTag (by simp) v1 v2

end NoPanic
end Cedar
