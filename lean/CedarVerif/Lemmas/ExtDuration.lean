import CedarVerif.Lemmas.ExtDigits
/-
Duration: declarative language `-?([0-9]+d)?([0-9]+h)?([0-9]+m)?([0-9]+s)?([0-9]+ms)?` (at least one component),
syntactic split characterisation, exactness of the checked accumulation; together: which strings `parse` accepts and what it
returns (`parse_eq_some_iff`).
-/
namespace Cedar.Ext.Duration

def rc (unit : List Char) : Option (List Char) → List Char
  | none => []
  | some ds => ds ++ unit

def WFc (c : Option (List Char)) : Prop := ∀ ds, c = some ds → ds ≠ [] ∧ allDigits ds = true

theorem WFc_none : WFc none := by intro ds h; cases h

instance (c : Option (List Char)) : Decidable (WFc c) :=
  match c with
  | none => isTrue (by intro ds h; cases h)
  | some ds => if h : ds ≠ [] ∧ allDigits ds = true then isTrue (by intro ds' e; cases e; exact h)
               else isFalse (fun hw => h (hw ds rfl))

def render (neg : Bool) (D H M S MS : Option (List Char)) : List Char :=
  (if neg then ['-'] else []) ++ (rc ['d'] D ++ (rc ['h'] H ++ (rc ['m'] M ++ (rc ['s'] S ++ (rc ['m', 's'] MS ++ [])))))

def WF (D H M S MS : Option (List Char)) : Prop :=
  WFc D ∧ WFc H ∧ WFc M ∧ WFc S ∧ WFc MS ∧
  (D.isSome || H.isSome || M.isSome || S.isSome || MS.isSome) = true

instance (D H M S MS : Option (List Char)) : Decidable (WF D H M S MS) := by unfold WF; infer_instance

def cval (c : Option (List Char)) : Nat := (c.map natOfDigits).getD 0

def exact (neg : Bool) (d h m s ms : Nat) : Int :=
  (if neg then -1 else 1) *
    ((ms : Int) + (s : Int) * 1000 + (m : Int) * 60000 + (h : Int) * 3600000 + (d : Int) * 86400000)

def body (D H M S MS : Option (List Char)) : List Char :=
  rc ['d'] D ++ (rc ['h'] H ++ (rc ['m'] M ++ (rc ['s'] S ++ (rc ['m', 's'] MS ++ []))))

theorem readUnit_noDigit (u : List Char) (notS : Bool) (c : Char) (r : List Char) (h : isDigit c = false) :
    readUnit u notS (c :: r) = (none, c :: r) := by
  simp [readUnit, spanDigits, h]

theorem readUnit_take (u : List Char) (notS : Bool) (ds t : List Char) (c : Char) (u' : List Char)
    (hu : u = c :: u') (hc : isDigit c = false) (hne : ds ≠ []) (hd : allDigits ds = true)
    (hs : notS = true → t.head? ≠ some 's') :
    readUnit u notS (ds ++ u ++ t) = (some (natOfDigits ds), t) := by
  subst hu
  have e : spanDigits (ds ++ (c :: u') ++ t) = (ds, (c :: u') ++ t) := by
    rw [List.append_assoc]; exact spanDigits_append _ _ hd (noDigitHead_cons hc)
  unfold readUnit
  rw [e]
  have hemp : ds.isEmpty = false := by cases ds with | nil => exact absurd rfl hne | cons _ _ => rfl
  have hp : (c :: u').isPrefixOf ((c :: u') ++ t) = true :=
    List.isPrefixOf_iff_prefix.mpr (List.prefix_append _ _)
  simp only [hemp, Bool.false_eq_true, if_false, hp, if_true, List.drop_left]
  cases notS with
  | false => simp
  | true =>
    have := hs rfl
    simp [this]

theorem readUnit_skip (u : List Char) (notS : Bool) (ds : List Char) (c : Char) (r : List Char)
    (hc : isDigit c = false) (hd : allDigits ds = true)
    (hdiff : u.isPrefixOf (c :: r) = false ∨ (notS = true ∧ ((c :: r).drop u.length).head? = some 's')) :
    readUnit u notS (ds ++ c :: r) = (none, ds ++ c :: r) := by
  have e : spanDigits (ds ++ c :: r) = (ds, c :: r) := spanDigits_append _ _ hd (noDigitHead_cons hc)
  unfold readUnit
  rw [e]
  simp only
  split
  · rfl
  · rcases hdiff with h | ⟨h1, h2⟩
    · simp [h]
    · subst h1
      split
      · simp [h2]
      · rfl

theorem readUnit_spec (u : List Char) (notS : Bool) (s : List Char) :
    ∃ C : Option (List Char), WFc C ∧ (readUnit u notS s).1 = C.map natOfDigits ∧
      s = rc u C ++ (readUnit u notS s).2 := by
  obtain ⟨a1, a2, _⟩ := spanDigits_spec s
  unfold readUnit
  generalize spanDigits s = p at *
  obtain ⟨ds, r0⟩ := p
  dsimp only at a1 a2 ⊢
  split
  · exact ⟨none, WFc_none, rfl, rfl⟩
  · rename_i hemp
    split
    · rename_i hp
      split
      · exact ⟨none, WFc_none, rfl, rfl⟩
      · refine ⟨some ds, ?_, rfl, ?_⟩
        · intro ds' e; cases e
          exact ⟨by intro e; subst e; simp at hemp, a2⟩
        · have := List.prefix_iff_eq_append.mp (List.isPrefixOf_iff_prefix.mp hp)
          simp only [rc, List.append_assoc]; rw [this]; exact a1
    · exact ⟨none, WFc_none, rfl, rfl⟩

def splitRest (neg : Bool) (r : List Char) :
    Option (Bool × Option Nat × Option Nat × Option Nat × Option Nat × Option Nat) :=
  let (d, r) := readUnit ['d'] false r
  let (h, r) := readUnit ['h'] false r
  let (m, r) := readUnit ['m'] true r
  let (sec, r) := readUnit ['s'] false r
  let (ms, r) := readUnit ['m', 's'] false r
  if r.isEmpty then some (neg, d, h, m, sec, ms) else none

theorem split_eq (s : List Char) (h : (s.isEmpty || s == ['-']) = false) :
    split s = splitRest (stripSign s).1 (stripSign s).2 := by
  unfold split splitRest
  simp only [h, Bool.false_eq_true, if_false]
  rfl

theorem render_eq (neg : Bool) (D H M S MS : Option (List Char)) :
    render neg D H M S MS = signText neg ++ body D H M S MS := rfl

/-- `t` offers nothing to a unit whose first character is outside `cs` -/
def SkipsAll (cs : List Char) (t : List Char) : Prop :=
  ∀ (cu : Char) (u : List Char) (notS : Bool), cu ∉ cs → readUnit (cu :: u) notS t = (none, t)

theorem skipsAll_rc {cs : List Char} {t : List Char} (c : Char) (u' : List Char) (C : Option (List Char))
    (hC : WFc C) (hc : isDigit c = false) (ht : SkipsAll cs t) : SkipsAll (c :: cs) (rc (c :: u') C ++ t) := by
  intro cu u notS hcu
  cases C with
  | none => exact ht cu u notS (fun hm => hcu (List.mem_cons_of_mem _ hm))
  | some ds =>
    have hne : cu ≠ c := fun e => hcu (e ▸ List.mem_cons_self ..)
    have := readUnit_skip (cu :: u) notS ds c (u' ++ t) hc (hC ds rfl).2 (Or.inl (by simp [List.isPrefixOf, hne]))
    simpa [rc, List.append_assoc] using this

theorem readUnit_rc (u : List Char) (notS : Bool) (c : Char) (u' : List Char) (hu : u = c :: u')
    (C : Option (List Char)) (t : List Char) (hC : WFc C) (hc : isDigit c = false)
    (ht : readUnit u notS t = (none, t)) (hs : notS = true → t.head? ≠ some 's') :
    readUnit u notS (rc u C ++ t) = (C.map natOfDigits, t) := by
  cases C with
  | none => simpa [rc] using ht
  | some ds =>
    have := readUnit_take u notS ds t c u' hu hc (hC ds rfl).1 (hC ds rfl).2 hs
    simpa [rc] using this

theorem head_rc_ne_s (c : Char) (u' : List Char) (C : Option (List Char)) (t : List Char) (hC : WFc C)
    (ht : t.head? ≠ some 's') : (rc (c :: u') C ++ t).head? ≠ some 's' := by
  cases C with
  | none => simpa [rc] using ht
  | some ds =>
    obtain ⟨h1, h2⟩ := hC ds rfl
    cases ds with
    | nil => exact absurd rfl h1
    | cons a as =>
      simp only [allDigits_cons, Bool.and_eq_true] at h2
      simp only [rc, List.cons_append, List.head?_cons, ne_eq, Option.some.injEq]
      intro e; rw [e] at h2
      have : isDigit 's' = false := by decide
      simp [this] at h2

theorem nd_d : isDigit 'd' = false := by decide
theorem nd_h : isDigit 'h' = false := by decide
theorem nd_m : isDigit 'm' = false := by decide
theorem nd_s : isDigit 's' = false := by decide

theorem splitRest_render (neg : Bool) (D H M S MS : Option (List Char))
    (hD : WFc D) (hH : WFc H) (hM : WFc M) (hS : WFc S) (hMS : WFc MS) :
    splitRest neg (body D H M S MS) =
      some (neg, D.map natOfDigits, H.map natOfDigits, M.map natOfDigits, S.map natOfDigits,
            MS.map natOfDigits) := by
  have a4 := skipsAll_rc (cs := []) (t := []) 'm' ['s'] MS hMS nd_m (fun _ _ _ _ => rfl)
  have a3 := skipsAll_rc 's' [] S hS nd_s a4
  have a2 := skipsAll_rc 'm' [] M hM nd_m a3
  have a1 := skipsAll_rc 'h' [] H hH nd_h a2
  -- the `m` stage does not take the minutes' `m` from `ms`
  have sm : readUnit ['m'] true (rc ['s'] S ++ (rc ['m', 's'] MS ++ [])) =
      (none, rc ['s'] S ++ (rc ['m', 's'] MS ++ [])) := by
    have : readUnit ['m'] true (rc ['m', 's'] MS ++ []) = (none, rc ['m', 's'] MS ++ []) := by
      cases MS with
      | none => rfl
      | some ds =>
        have := readUnit_skip ['m'] true ds 'm' ['s'] nd_m (hMS ds rfl).2 (Or.inr ⟨rfl, rfl⟩)
        simpa [rc] using this
    cases S with
    | none => exact this
    | some ds =>
      have := readUnit_skip ['m'] true ds 's' (rc ['m', 's'] MS ++ []) nd_s (hS ds rfl).2 (Or.inl rfl)
      simpa [rc] using this
  have hsm : (rc ['s'] S ++ (rc ['m', 's'] MS ++ [])).head? ≠ some 's' :=
    head_rc_ne_s 's' [] S _ hS (head_rc_ne_s 'm' ['s'] MS _ hMS (by simp))
  unfold splitRest body
  rw [readUnit_rc ['d'] false 'd' [] rfl D _ hD nd_d (a1 'd' [] false (by decide)) (by intro h; cases h)]
  dsimp only
  rw [readUnit_rc ['h'] false 'h' [] rfl H _ hH nd_h (a2 'h' [] false (by decide)) (by intro h; cases h)]
  dsimp only
  rw [readUnit_rc ['m'] true 'm' [] rfl M _ hM nd_m sm (fun _ => hsm)]
  dsimp only
  rw [readUnit_rc ['s'] false 's' [] rfl S _ hS nd_s (a4 's' [] false (by decide)) (by intro h; cases h)]
  dsimp only
  rw [readUnit_rc ['m', 's'] false 'm' ['s'] rfl MS _ hMS nd_m rfl (by intro h; cases h)]
  rfl

theorem splitRest_spec (neg neg' : Bool) (r : List Char) (d h m s ms : Option Nat)
    (hsp : splitRest neg r = some (neg', d, h, m, s, ms)) :
    neg' = neg ∧ ∃ D H M S MS : Option (List Char), WFc D ∧ WFc H ∧ WFc M ∧ WFc S ∧ WFc MS ∧
      r = body D H M S MS ∧
      d = D.map natOfDigits ∧ h = H.map natOfDigits ∧ m = M.map natOfDigits ∧ s = S.map natOfDigits ∧
      ms = MS.map natOfDigits := by
  simp only [splitRest] at hsp
  obtain ⟨D, hD, v1, e1⟩ := readUnit_spec ['d'] false r
  generalize readUnit ['d'] false r = p1 at *
  obtain ⟨H, hH, v2, e2⟩ := readUnit_spec ['h'] false p1.2
  generalize readUnit ['h'] false p1.2 = p2 at *
  obtain ⟨M, hM, v3, e3⟩ := readUnit_spec ['m'] true p2.2
  generalize readUnit ['m'] true p2.2 = p3 at *
  obtain ⟨S, hS, v4, e4⟩ := readUnit_spec ['s'] false p3.2
  generalize readUnit ['s'] false p3.2 = p4 at *
  obtain ⟨MS, hMS, v5, e5⟩ := readUnit_spec ['m', 's'] false p4.2
  generalize readUnit ['m', 's'] false p4.2 = p5 at *
  split at hsp
  · rename_i hemp
    cases hsp
    rw [List.isEmpty_iff.mp hemp] at e5
    exact ⟨rfl, D, H, M, S, MS, hD, hH, hM, hS, hMS, by rw [e1, e2, e3, e4, e5]; rfl, v1, v2, v3, v4, v5⟩
  · cases hsp

theorem rc_not_headDigit (u : List Char) (C : Option (List Char)) (t : List Char) (hC : WFc C)
    (h : ¬ HeadDigit (rc u C ++ t)) : C = none ∧ ¬ HeadDigit t := by
  cases C with
  | none => exact ⟨rfl, h⟩
  | some ds =>
    obtain ⟨h1, h2⟩ := hC ds rfl
    cases ds with
    | nil => exact absurd rfl h1
    | cons a as =>
      simp only [allDigits_cons, Bool.and_eq_true] at h2
      exact absurd ⟨a, as ++ u ++ t, by simp [rc], h2.1⟩ h

theorem body_headDigit (D H M S MS : Option (List Char)) (hwf : WF D H M S MS) :
    HeadDigit (body D H M S MS) := by
  obtain ⟨hD, hH, hM, hS, hMS, hsome⟩ := hwf
  apply Classical.byContradiction
  intro hn
  obtain ⟨rfl, hn⟩ := rc_not_headDigit _ _ _ hD hn
  obtain ⟨rfl, hn⟩ := rc_not_headDigit _ _ _ hH hn
  obtain ⟨rfl, hn⟩ := rc_not_headDigit _ _ _ hM hn
  obtain ⟨rfl, hn⟩ := rc_not_headDigit _ _ _ hS hn
  obtain ⟨rfl, hn⟩ := rc_not_headDigit _ _ _ hMS hn
  cases hsome

theorem split_iff (s : List Char) (neg : Bool) (d h m sec ms : Option Nat) :
    split s = some (neg, d, h, m, sec, ms) ↔
      ∃ D H M S MS : Option (List Char), s = render neg D H M S MS ∧ WF D H M S MS ∧
        d = D.map natOfDigits ∧ h = H.map natOfDigits ∧ m = M.map natOfDigits ∧ sec = S.map natOfDigits ∧
        ms = MS.map natOfDigits := by
  constructor
  · intro hsp
    cases hg : (s.isEmpty || s == ['-']) with
    | true => unfold split at hsp; rw [if_pos hg] at hsp; cases hsp
    | false =>
      rw [split_eq s hg] at hsp
      obtain ⟨hneg, D, H, M, S, MS, hD, hH, hM, hS, hMS, hr, e1, e2, e3, e4, e5⟩ := splitRest_spec _ _ _ _ _ _ _ _ hsp
      have hs : s = render neg D H M S MS := by rw [render_eq, ← hr, hneg, stripSign_text]
      refine ⟨D, H, M, S, MS, hs, ⟨hD, hH, hM, hS, hMS, ?_⟩, e1, e2, e3, e4, e5⟩
      -- with no component present the text would be empty or `-`
      apply Classical.byContradiction
      intro hn
      simp only [Bool.or_eq_true, Option.isSome_iff_ne_none, not_or, Decidable.not_not] at hn
      obtain ⟨⟨⟨⟨rfl, rfl⟩, rfl⟩, rfl⟩, rfl⟩ := hn
      rw [hs] at hg
      cases neg <;> simp [render, rc] at hg
  · rintro ⟨D, H, M, S, MS, rfl, hwf, rfl, rfl, rfl, rfl, rfl⟩
    have hd := body_headDigit D H M S MS hwf
    -- the body starts with a digit: the text is neither empty nor `-`, and the sign is read back
    have hg : ((render neg D H M S MS).isEmpty || render neg D H M S MS == ['-']) = false := by
      obtain ⟨c, r, hb, hc⟩ := hd
      have hne : c ≠ '-' := fun e => by rw [e] at hc; revert hc; decide
      rw [render_eq, hb]
      cases neg <;> simp [signText, hne]
    rw [split_eq _ hg, render_eq, stripSign_signText neg hd]
    obtain ⟨hD, hH, hM, hS, hMS, _⟩ := hwf
    exact splitRest_render neg D H M S MS hD hH hM hS hMS

def sgn (neg : Bool) : Int := if neg then -1 else 1

theorem inI64_sgn_mono (neg : Bool) {a b : Int} (ha : 0 ≤ a) (hab : a ≤ b) (h : inI64 (sgn neg * a) = false) :
    inI64 (sgn neg * b) = false := by
  rw [inI64_false_iff] at h ⊢
  unfold sgn at h ⊢
  cases neg
  · simp only [Bool.false_eq_true, if_false] at h ⊢; omega
  · simp only [if_true] at h ⊢; omega

/-- One step on an accumulator of the literal's sign: the checks of `y` and of `y * mul` as positive i64 are implied
    by the check of the sum. For the negative sign this needs `y * mul ≠ 2^63`, the one magnitude that is out of
    range while its negation is not; a multiple of 5 is never a power of two. -/
theorem checkedOp_sgn (neg : Bool) (a : Int) (ha : 0 ≤ a) (y : Nat) (mul : Int) (hm : 0 < mul) (h5 : 5 ∣ mul) :
    checkedOp neg (sgn neg * a) y mul = checkedI64 (sgn neg * (a + y * mul)) := by
  have hp : (y : Int) * 1 ≤ y * mul := Int.mul_le_mul_of_nonneg_left hm (Int.natCast_nonneg y)
  have hp5 : 5 ∣ (y : Int) * mul := Int.dvd_trans h5 (Int.dvd_mul_left _ _)
  unfold checkedOp sgn
  simp only [Option.bind_eq_bind]
  rw [checkedI64_bind, checkedI64_bind]
  · generalize (y : Int) * mul = p at *
    cases neg
    · simp only [Bool.false_eq_true, if_false]; congr 1; omega
    · simp only [if_true]; congr 1; omega
  · generalize (y : Int) * mul = p at *
    intro hx
    rw [inI64_false_iff] at hx
    cases neg
    · simp only [Bool.false_eq_true, if_false]; apply checkedI64_none; rw [inI64_false_iff]; omega
    · simp only [if_true]; apply checkedI64_none; rw [inI64_false_iff]; omega
  · generalize (y : Int) * mul = p at *
    intro hx
    rw [inI64_false_iff] at hx
    rw [checkedI64_none (by rw [inI64_false_iff]; omega)]; rfl

theorem checkedI64_bind_checkedOp (neg : Bool) (a : Int) (ha : 0 ≤ a) (y : Nat) (mul : Int) (hm : 0 < mul)
    (h5 : 5 ∣ mul) :
    (checkedI64 (sgn neg * a)).bind (fun acc => checkedOp neg acc y mul) = checkedI64 (sgn neg * (a + y * mul)) := by
  have hp : 0 ≤ (y : Int) * mul := Int.mul_nonneg (Int.natCast_nonneg y) (Int.le_of_lt hm)
  rw [checkedI64_bind, checkedOp_sgn neg a ha y mul hm h5]
  intro hx
  rw [checkedOp_sgn neg a ha y mul hm h5]
  exact checkedI64_none (inI64_sgn_mono neg ha (by omega) hx)

theorem getNumber_bind_eq_some {α} (o : Option Nat) (k : Nat → Option α) (v : α) :
    (getNumber o).bind k = some v ↔ o.getD 0 ≤ u64Max ∧ k (o.getD 0) = some v := by
  cases o with
  | none => simp [getNumber]
  | some n =>
    simp only [getNumber, Option.getD_some]
    split
    · rename_i h; simp [h]
    · rename_i h; simp [h]

theorem le_u64Max_of_inI64_exact (neg : Bool) (D H M S MS : Nat) (h : inI64 (exact neg D H M S MS) = true) :
    D ≤ u64Max ∧ H ≤ u64Max ∧ M ≤ u64Max ∧ S ≤ u64Max ∧ MS ≤ u64Max := by
  rw [inI64_iff] at h
  unfold exact at h
  unfold u64Max
  cases neg
  · simp only [Bool.false_eq_true, if_false] at h; omega
  · simp only [if_true] at h; omega

theorem arith_eq (neg : Bool) (d h m s ms : Option Nat) :
    arith neg d h m s ms = checkedI64 (exact neg (d.getD 0) (h.getD 0) (m.getD 0) (s.getD 0) (ms.getD 0)) := by
  have chain : ∀ D H M S MS : Nat,
      (checkedI64 (if neg then -(MS : Int) else MS)).bind (fun acc =>
        (checkedOp neg acc S 1000).bind fun acc => (checkedOp neg acc M 60000).bind fun acc =>
          (checkedOp neg acc H 3600000).bind fun acc => checkedOp neg acc D 86400000) =
      checkedI64 (exact neg D H M S MS) := by
    intro D H M S MS
    have e0 : (if neg then -(MS : Int) else MS) = sgn neg * MS := by cases neg <;> simp [sgn]
    simp only [← Option.bind_assoc]
    rw [e0, checkedI64_bind_checkedOp neg _ (by omega) S 1000 (by decide) (by decide),
      checkedI64_bind_checkedOp neg _ (by omega) M 60000 (by decide) (by decide),
      checkedI64_bind_checkedOp neg _ (by omega) H 3600000 (by decide) (by decide),
      checkedI64_bind_checkedOp neg _ (by omega) D 86400000 (by decide) (by decide)]
    rfl
  apply Option.ext
  intro v
  simp only [arith, Option.bind_eq_bind, getNumber_bind_eq_some, chain]
  constructor
  · exact fun hv => hv.2.2.2.2.2
  · intro hv
    have hin := ((checkedI64_eq_some _ _).mp hv).1
    obtain ⟨h1, h2, h3, h4, h5⟩ := le_u64Max_of_inI64_exact _ _ _ _ _ _ hin
    exact ⟨h1, h2, h3, h4, h5, hv⟩

theorem parse_render (neg : Bool) (D H M S MS : Option (List Char)) (hwf : WF D H M S MS) :
    parse (String.ofList (render neg D H M S MS)) =
      if inI64 (exact neg (cval D) (cval H) (cval M) (cval S) (cval MS)) then
        some (exact neg (cval D) (cval H) (cval M) (cval S) (cval MS)) else none := by
  have hs := (split_iff (render neg D H M S MS) neg _ _ _ _ _).mpr ⟨D, H, M, S, MS, rfl, hwf, rfl, rfl, rfl, rfl, rfl⟩
  simp only [parse, String.toList_ofList, hs, arith_eq]
  rfl

theorem parse_eq_some_iff (s : String) (v : Int) :
    parse s = some v ↔
      ∃ neg D H M S MS, s.toList = render neg D H M S MS ∧ WF D H M S MS ∧
        v = exact neg (cval D) (cval H) (cval M) (cval S) (cval MS) ∧ inI64 v = true := by
  constructor
  · intro h
    unfold parse at h
    split at h
    · cases h
    · rename_i neg d hh m sec ms hs
      obtain ⟨D, H, M, S, MS, hr, hwf, rfl, rfl, rfl, rfl, rfl⟩ := (split_iff _ _ _ _ _ _ _).mp hs
      rw [arith_eq] at h
      obtain ⟨hin, rfl⟩ := (checkedI64_eq_some _ _).mp h
      exact ⟨neg, D, H, M, S, MS, hr, hwf, rfl, hin⟩
  · rintro ⟨neg, D, H, M, S, MS, hr, hwf, rfl, hin⟩
    have := parse_render neg D H M S MS hwf
    rw [← hr, String.ofList_toList, hin] at this
    simpa using this

end Cedar.Ext.Duration
