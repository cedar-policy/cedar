import CedarVerif.Lemmas.ManifestSlicer
/-
The tries the analysis computes have unique children keys (`RootsWF`), provided the record
types annotated on the typed AST have unique attribute names (`TypeUK`; they are `BTreeMap`s in Rust).
-/
namespace Cedar.Manifest
open Cedar

theorem lookupField_wf (c : Fields) (k : String) (t : AccessTrie) (hwf : fieldsWF c) (h : lookupField c k = some t) :
    AccessTrie.WF t :=
  (fieldsWF_mem c k t hwf (fieldsMap.mem_of_look h)).2

theorem lookupField_append_single (k : String) (v : AccessTrie) (k' : String) : ∀ (c : Fields),
    lookupField c k' = none → k ≠ k' → lookupField (c ++ [(k, v)]) k' = none
  | [] => fun _ hne => by
    have : (k == k') = false := by simpa using hne
    simp [lookupField, this]
  | (k0, t0) :: rest => fun h hne => by
    simp only [lookupField] at h
    by_cases e : (k0 == k') = true
    · simp [e] at h
    · simp only [e, Bool.false_eq_true, if_false] at h
      simp only [List.cons_append, lookupField, e, Bool.false_eq_true, if_false]
      exact lookupField_append_single k v k' rest h hne

theorem fieldsWF_append_single (k : String) (v : AccessTrie) (hv : AccessTrie.WF v) : ∀ (c : Fields),
    fieldsWF c → lookupField c k = none → fieldsWF (c ++ [(k, v)])
  | [] => fun _ _ => by simp [fieldsWF, lookupField, hv]
  | (k0, t0) :: rest => fun hwf h => by
    simp only [fieldsWF] at hwf
    simp only [lookupField] at h
    by_cases e : (k0 == k) = true
    · simp [e] at h
    · simp only [e, Bool.false_eq_true, if_false] at h
      simp only [List.cons_append, fieldsWF]
      refine ⟨lookupField_append_single k v k0 rest hwf.1 ?_, hwf.2.1, fieldsWF_append_single k v hv rest hwf.2.2 h⟩
      intro e'
      subst e'
      simp at e

theorem lookupField_replaceField_none (k : String) (t : AccessTrie) (k' : String) (c : Fields)
    (h : lookupField c k' = none) : lookupField (replaceField k t c) k' = none := by
  rw [show lookupField (replaceField k t c) k' = if k == k' then (lookupField c k).map (fun _ => t) else lookupField c k'
    from fieldsMap.look_repl k t k' c]
  split
  · rename_i e
    rw [beq_iff_eq.1 e, h]
    rfl
  · exact h

theorem fieldsWF_replaceField (k : String) (t : AccessTrie) (ht : AccessTrie.WF t) : ∀ (c : Fields),
    fieldsWF c → fieldsWF (replaceField k t c)
  | [] => fun _ => by simp [replaceField, fieldsWF]
  | (k0, t0) :: rest => fun hwf => by
    simp only [fieldsWF] at hwf
    simp only [replaceField]
    by_cases e2 : (k0 == k) = true
    · have : k0 = k := by simpa using e2
      subst this
      simp only [e2, if_true, fieldsWF]
      exact ⟨hwf.1, ht, hwf.2.2⟩
    · simp only [e2, Bool.false_eq_true, if_false, fieldsWF]
      exact ⟨lookupField_replaceField_none k t k0 rest hwf.1, hwf.2.1, fieldsWF_replaceField k t ht rest hwf.2.2⟩

theorem unionFields_wf_of {c2 : Fields}
    (hU : ∀ k v, (k, v) ∈ c2 → ∀ t, AccessTrie.WF t → AccessTrie.WF v → AccessTrie.WF (t.union v))
    (c1 : Fields) (h1 : fieldsWF c1) (h2 : fieldsWF c2) : fieldsWF (unionFields c1 c2) :=
  fieldsMap.uni_induct fieldsWF c2 c1 (fun k v hm c hc =>
    have hv := (fieldsWF_mem c2 k v h2 hm).2
    ⟨fieldsWF_append_single k v hv c hc,
      fun t hl => fieldsWF_replaceField k _ (hU k v hm t (lookupField_wf c k t hc hl) hv) c hc⟩) h1

theorem union_wf : ∀ (t2 t1 : AccessTrie), AccessTrie.WF t1 → AccessTrie.WF t2 → AccessTrie.WF (t1.union t2) :=
  AccessTrie.induct fun c2 _ _ _ ihc _ t1 h1 h2 => by
    obtain ⟨c1, a1, i1, e1⟩ := t1
    simp only [AccessTrie.union, AccessTrie.WF] at h1 h2 ⊢
    exact unionFields_wf_of ihc c1 h1 h2

theorem unionFields_wf : ∀ (c2 c1 : Fields), fieldsWF c1 → fieldsWF c2 → fieldsWF (unionFields c1 c2) :=
  fun _ => unionFields_wf_of fun _ v _ t => union_wf v t

theorem lookupRoot_wf (c : RootAccessTrie) (k : EntityRoot) (t : AccessTrie) (hwf : RootsWF c) (h : lookupRoot c k = some t) :
    AccessTrie.WF t :=
  (rootsWF_iff c).1 hwf k t (rootsMap.mem_of_look h)

theorem rootsWF_append : ∀ (c1 c2 : RootAccessTrie), RootsWF c1 → RootsWF c2 → RootsWF (c1 ++ c2)
  | [] => fun _ _ h2 => h2
  | (k0, t0) :: rest => fun c2 h1 h2 => by
    simp only [RootsWF] at h1
    simp only [List.cons_append, RootsWF]
    exact ⟨h1.1, rootsWF_append rest c2 h1.2 h2⟩

theorem rootsWF_replaceRoot (k : EntityRoot) (t : AccessTrie) (ht : AccessTrie.WF t) : ∀ (c : RootAccessTrie),
    RootsWF c → RootsWF (replaceRoot k t c)
  | [] => fun _ => by simp [replaceRoot, RootsWF]
  | (k0, t0) :: rest => fun hwf => by
    simp only [RootsWF] at hwf
    simp only [replaceRoot]
    by_cases e2 : (k0 == k) = true
    · simp only [e2, if_true, RootsWF]
      exact ⟨ht, hwf.2⟩
    · simp only [e2, Bool.false_eq_true, if_false, RootsWF]
      exact ⟨hwf.1, rootsWF_replaceRoot k t ht rest hwf.2⟩

theorem unionRoots_wf : ∀ (a2 a1 : RootAccessTrie), RootsWF a1 → RootsWF a2 → RootsWF (unionRoots a1 a2) :=
  fun a2 a1 h1 h2 => rootsMap.uni_induct RootsWF a2 a1 (fun k v hm c hc =>
    have hv := (rootsWF_iff a2).1 h2 k v hm
    ⟨fun _ => rootsWF_append c [(k, v)] hc ⟨hv, trivial⟩,
      fun t hl => rootsWF_replaceRoot k _ (union_wf v t (lookupRoot_wf c k t hc hl) hv) c hc⟩) h1

theorem pathTrie_wf (leaf : AccessTrie) (hl : AccessTrie.WF leaf) : ∀ fs : List String, AccessTrie.WF (pathTrie fs leaf)
  | [] => hl
  | f :: fs => by
    simp only [pathTrie, AccessTrie.WF, fieldsWF, lookupField, and_true, true_and]
    exact pathTrie_wf leaf hl fs

theorem toRootTrieWithLeaf_wf (root : EntityRoot) (fs : List String) (leaf : AccessTrie) (hl : AccessTrie.WF leaf) :
    RootsWF (toRootTrieWithLeaf root fs leaf) := by
  simp only [toRootTrieWithLeaf]
  split
  · simp [RootsWF]
  · simp only [RootsWF, and_true]
    exact pathTrie_wf leaf hl fs

mutual
def TypeUK : CedarType → Prop
  | .record attrs _ => AttrsUK attrs
  | .set (some t) => TypeUK t
  | _ => True
def AttrsUK : List (String × Bool × CedarType) → Prop
  | [] => True
  | (k, _, t) :: rest => lookupField (attrsToFields rest) k = none ∧ TypeUK t ∧ AttrsUK rest
end

theorem lookupField_attrsToFields : ∀ (attrs : List (String × Bool × CedarType)) (k : String),
    lookupField (attrsToFields attrs) k = (Attrs.find? attrs k).map (fun qt => typeToAccessTrie qt.2)
  | [], _ => by simp [attrsToFields, lookupField, Attrs.find?]
  | (k0, r, t) :: rest, k => by
    simp only [attrsToFields, lookupField, Attrs.find?]
    by_cases e : (k0 == k) = true
    · simp [e]
    · simp only [e, Bool.false_eq_true, if_false]
      exact lookupField_attrsToFields rest k

mutual
theorem typeToAccessTrie_wf : ∀ (ty : CedarType), TypeUK ty → AccessTrie.WF (typeToAccessTrie ty)
  | .record attrs o => fun h => by
    simp only [TypeUK] at h
    simp only [typeToAccessTrie, AccessTrie.WF]
    exact attrsToFields_wf attrs h
  | .never => fun _ => trivial
  | .bool _ => fun _ => trivial
  | .long => fun _ => trivial
  | .string => fun _ => trivial
  | .set _ => fun _ => trivial
  | .entity _ => fun _ => trivial
  | .anyEntity => fun _ => trivial
  | .ext _ => fun _ => trivial
theorem attrsToFields_wf : ∀ (attrs : List (String × Bool × CedarType)), AttrsUK attrs → fieldsWF (attrsToFields attrs)
  | [] => fun _ => by simp [attrsToFields, fieldsWF]
  | (k, q, t) :: rest => fun h => by
    simp only [AttrsUK] at h
    simp only [attrsToFields, fieldsWF]
    exact ⟨h.1, typeToAccessTrie_wf t h.2.1, attrsToFields_wf rest h.2.2⟩
end

mutual
theorem addWrapped_wf (isAnc : Bool) (anc : RootAccessTrie) : ∀ (p : WPaths) (g : RootAccessTrie),
    RootsWF g → RootsWF (addWrapped g isAnc anc p)
  | .path root fs => fun g h => by
    simp only [addWrapped]
    exact unionRoots_wf _ g h (toRootTrieWithLeaf_wf root fs _ (by simp [AccessTrie.WF, fieldsWF]))
  | .record kvs => fun g h => by simp only [addWrapped]; exact addWrappedKVs_wf isAnc anc kvs g h
  | .set elems => fun g h => by simp only [addWrapped]; exact addWrapped_wf isAnc anc elems g h
  | .empty => fun g h => by simpa [addWrapped] using h
  | .union a b => fun g h => by
    simp only [addWrapped]
    exact addWrapped_wf isAnc anc b _ (addWrapped_wf isAnc anc a g h)
theorem addWrappedKVs_wf (isAnc : Bool) (anc : RootAccessTrie) : ∀ (kvs : List (String × WPaths)) (g : RootAccessTrie),
    RootsWF g → RootsWF (addWrappedKVs g isAnc anc kvs)
  | [] => fun g h => by simpa [addWrappedKVs] using h
  | (k, v) :: rest => fun g h => by
    simp only [addWrappedKVs]
    exact addWrappedKVs_wf isAnc anc rest _ (addWrapped_wf isAnc anc v g h)
end

theorem fullTypeRecord_wf (fns : List (String × (CedarType → M RootAccessTrie)))
    (hf : ∀ kf, kf ∈ fns → ∀ ty r, TypeUK ty → kf.2 ty = .ok r → RootsWF r) :
    ∀ (attrs : List (String × Bool × CedarType)) (r : RootAccessTrie), AttrsUK attrs →
      fullTypeRecord fns attrs = .ok r → RootsWF r
  | [] => fun r _ h => by
    simp only [fullTypeRecord, Except.ok.injEq] at h
    subst h; simp [RootsWF]
  | (attr, q, aty) :: rest => fun r huk h => by
    simp only [AttrsUK] at huk
    simp only [fullTypeRecord] at h
    cases hfind : fns.find? (fun kf => kf.1 == attr) with
    | none => simp [hfind] at h
    | some kf =>
      simp only [hfind] at h
      obtain ⟨r1, h1, h⟩ := ok_of_match_roots h
      obtain ⟨rs, h2, h⟩ := ok_of_match_roots h
      cases h
      exact unionRoots_wf rs r1 (hf kf (List.mem_of_find?_eq_some hfind) aty r1 huk.2.1 h1)
        (fullTypeRecord_wf fns hf rest rs huk.2.2 h2)

mutual
theorem fullTypeRequired_wf : ∀ (p : WPaths) (ty : CedarType) (r : RootAccessTrie), TypeUK ty →
    p.fullTypeRequired ty = .ok r → RootsWF r
  | .path root fs => fun ty r huk h => by
    cases h
    exact toRootTrieWithLeaf_wf root fs _ (typeToAccessTrie_wf ty huk)
  | .record kvs => fun ty r huk h => by
    cases ty with
    | record attrs o => exact fullTypeRecord_wf (fullTypeFns kvs) (fullTypeFns_wf kvs) attrs r huk h
    | _ => cases h
  | .set elems => fun ty r huk h => by
    cases ty with
    | set o =>
      cases o with
      | some ety => exact fullTypeRequired_wf elems ety r huk h
      | none => cases h
    | _ => cases h
  | .empty => fun ty r _ h => by
    cases h; trivial
  | .union a b => fun ty r huk h => by
    unfold WPaths.fullTypeRequired at h
    obtain ⟨ra, h1, h⟩ := ok_of_match_roots h
    obtain ⟨rb, h2, h⟩ := ok_of_match_roots h
    cases h
    exact unionRoots_wf rb ra (fullTypeRequired_wf a ty ra huk h1) (fullTypeRequired_wf b ty rb huk h2)
theorem fullTypeFns_wf : ∀ (kvs : List (String × WPaths)) (kf : String × (CedarType → M RootAccessTrie)),
    kf ∈ fullTypeFns kvs → ∀ ty r, TypeUK ty → kf.2 ty = .ok r → RootsWF r
  | [] => fun kf hm _ _ _ _ => by simp [fullTypeFns] at hm
  | (k, v) :: rest => fun kf hm ty r huk h => by
    simp only [fullTypeFns, List.mem_cons] at hm
    rcases hm with e | hm
    · subst e
      exact fullTypeRequired_wf v ty r huk h
    · exact fullTypeFns_wf rest kf hm ty r huk h
end

def optUK : Option CedarType → Prop
  | some t => TypeUK t
  | none => True

-- all type annotations of a typed AST have unique attribute names
mutual
def TypesUK : TExpr → Prop
  | .ite c t e => TypesUK c ∧ TypesUK t ∧ TypesUK e
  | .and a b => TypesUK a ∧ TypesUK b
  | .or a b => TypesUK a ∧ TypesUK b
  | .unaryApp _ ty a => optUK ty ∧ TypesUK a
  | .binaryApp _ ty1 ty2 a b => optUK ty1 ∧ optUK ty2 ∧ TypesUK a ∧ TypesUK b
  | .call _ args => TypesUKList args
  | .getAttr e _ => TypesUK e
  | .hasAttr e _ => TypesUK e
  | .like e _ => TypesUK e
  | .is e _ => TypesUK e
  | .set es => TypesUKList es
  | .record kvs => TypesUKKVs kvs
  | _ => True
def TypesUKList : List TExpr → Prop
  | [] => True
  | x :: xs => TypesUK x ∧ TypesUKList xs
def TypesUKKVs : List (String × TExpr) → Prop
  | [] => True
  | (_, x) :: xs => TypesUK x ∧ TypesUKKVs xs
end

theorem needTy_uk {o : Option CedarType} {ty : CedarType} (h : needTy o = .ok ty) (huk : optUK o) : TypeUK ty := by
  cases o with
  | none => cases h
  | some t => cases h; exact huk

theorem res_union_wf {a b : Res} (ha : RootsWF a.global) (hb : RootsWF b.global) : RootsWF (a.union b).global :=
  unionRoots_wf _ _ ha hb

theorem res_fullType_wf {r r' : Res} {ty : CedarType} (hr : RootsWF r.global) (huk : TypeUK ty)
    (h : r.fullTypeRequired ty = .ok r') : RootsWF r'.global := by
  unfold Res.fullTypeRequired at h
  obtain ⟨t, h1, h⟩ := ok_of_match_roots h
  cases h
  exact unionRoots_wf t r.global hr (fullTypeRequired_wf _ ty t huk h1)

theorem res_getOrHas_wf {r r' : Res} {attr : String} (hr : RootsWF r.global) (h : r.getOrHasAttr attr = .ok r') :
    RootsWF r'.global := by
  unfold Res.getOrHasAttr at h
  obtain ⟨p, _, h⟩ := ok_of_match_paths h
  cases h
  exact addWrapped_wf false [] p r.global hr

theorem primPair_wf {ra rb : M Res} {r : Res} (h : primPair ra rb = .ok r)
    (ha : ∀ x, ra = .ok x → RootsWF x.global) (hb : ∀ x, rb = .ok x → RootsWF x.global) : RootsWF r.global := by
  unfold primPair at h
  obtain ⟨xa, rfl, h⟩ := ok_of_match_res h
  obtain ⟨xb, rfl, h⟩ := ok_of_match_res h
  cases h
  exact unionRoots_wf _ _ (ha xa rfl) (hb xb rfl)

theorem fromRoot_wf (root : EntityRoot) : RootsWF (Res.fromRoot root).global :=
  toRootTrieWithLeaf_wf root [] AccessTrie.new trivial

mutual
theorem manifestOfExpr_wf : ∀ (e : TExpr) (r : Res), TypesUK e → manifestOfExpr e = .ok r → RootsWF r.global
  | .slot sl => fun r _ h => by cases sl <;> (cases h; exact fromRoot_wf _)
  | .var v => fun r _ h => by cases h; exact fromRoot_wf _
  | .lit p => fun r _ h => by
    cases p with
    | entityUID u => cases h; exact fromRoot_wf _
    | _ => cases h; trivial
  | .unknown n => fun r _ h => by cases h
  | .ite c t e => fun r ⟨hc', ht', he'⟩ h => by
    unfold manifestOfExpr at h
    obtain ⟨rc, hc, h⟩ := ok_of_match_res h
    obtain ⟨rt, ht, h⟩ := ok_of_match_res h
    obtain ⟨re, he, h⟩ := ok_of_match_res h
    cases h
    exact res_union_wf (res_union_wf (manifestOfExpr_wf c rc hc' hc) (manifestOfExpr_wf t rt ht' ht))
      (manifestOfExpr_wf e re he' he)
  | .and a b => fun r ⟨ha', hb'⟩ h => by
    unfold manifestOfExpr at h
    exact primPair_wf h (fun x hx => manifestOfExpr_wf a x ha' hx) (fun x hx => manifestOfExpr_wf b x hb' hx)
  | .or a b => fun r ⟨ha', hb'⟩ h => by
    unfold manifestOfExpr at h
    exact primPair_wf h (fun x hx => manifestOfExpr_wf a x ha' hx) (fun x hx => manifestOfExpr_wf b x hb' hx)
  | .unaryApp op ty a => fun r ⟨hty', ha'⟩ h => by
    unfold manifestOfExpr at h
    cases op with
    | isEmpty =>
      dsimp only at h
      obtain ⟨ty', hty, h⟩ := ok_of_match_ty h
      obtain ⟨ra, ha, h⟩ := ok_of_match_res h
      obtain ⟨r', hf, h⟩ := ok_of_match_res h
      cases h
      exact (res_fullType_wf (manifestOfExpr_wf a ra ha' ha) (needTy_uk hty hty') hf : RootsWF r'.global)
    | _ =>
      obtain ⟨ra, ha, h⟩ := ok_of_match_res h
      cases h
      exact manifestOfExpr_wf a ra ha' ha
  | .binaryApp op ty1 ty2 a b => fun r ⟨hu1, hu2, hua, hub⟩ h => by
    unfold manifestOfExpr at h
    cases op
    case less | lessEq | add | sub | mul =>
      exact primPair_wf h (fun x hx => manifestOfExpr_wf a x hua hx) (fun x hx => manifestOfExpr_wf b x hub hx)
    case getTag | hasTag => cases h
    -- `== in contains containsAll containsAny`: the operands' full types, for `in` after the ancestors request
    all_goals
      obtain ⟨r1, ha, h⟩ := ok_of_match_res h
      obtain ⟨r2, hb, h⟩ := ok_of_match_res h
      obtain ⟨t1, ht1, h⟩ := ok_of_match_ty h
      obtain ⟨t2, ht2, h⟩ := ok_of_match_ty h
      obtain ⟨f1, hf1, h⟩ := ok_of_match_res h
      obtain ⟨f2, hf2, h⟩ := ok_of_match_res h
      cases h
      have h1wf := manifestOfExpr_wf a r1 hua ha
      refine res_union_wf (res_fullType_wf ?_ (needTy_uk ht1 hu1) hf1)
        (res_fullType_wf (manifestOfExpr_wf b r2 hub hb) (needTy_uk ht2 hu2) hf2)
      first
      | exact h1wf
      | exact addWrapped_wf _ _ _ _ h1wf
  | .call fn args => fun r huk h => by
    unfold manifestOfExpr at h
    exact manifestUnionList_wf args Res.default r huk trivial h
  | .like e p => fun r huk h => by
    unfold manifestOfExpr at h
    obtain ⟨re, he, h⟩ := ok_of_match_res h
    cases h
    exact manifestOfExpr_wf e re huk he
  | .is e ty => fun r huk h => by
    unfold manifestOfExpr at h
    obtain ⟨re, he, h⟩ := ok_of_match_res h
    cases h
    exact manifestOfExpr_wf e re huk he
  | .set es => fun r huk h => by
    unfold manifestOfExpr at h
    obtain ⟨rl, hl, h⟩ := ok_of_match_res h
    cases h
    exact manifestUnionList_wf es Res.default rl huk trivial hl
  | .record kvs => fun r huk h => by
    unfold manifestOfExpr at h
    obtain ⟨g, ps, hl, h⟩ := ok_of_match_record h
    cases h
    exact manifestRecord_wf kvs g ps huk hl
  | .getAttr e attr => fun r huk h => by
    unfold manifestOfExpr at h
    obtain ⟨re, he, h⟩ := ok_of_match_res h
    exact res_getOrHas_wf (manifestOfExpr_wf e re huk he) h
  | .hasAttr e attr => fun r huk h => by
    unfold manifestOfExpr at h
    obtain ⟨re, he, h⟩ := ok_of_match_res h
    obtain ⟨r', hg, h⟩ := ok_of_match_res h
    cases h
    exact (res_getOrHas_wf (manifestOfExpr_wf e re huk he) hg : RootsWF r'.global)
theorem manifestUnionList_wf : ∀ (xs : List TExpr) (acc r : Res), TypesUKList xs → RootsWF acc.global →
    manifestUnionList acc xs = .ok r → RootsWF r.global
  | [] => fun acc r _ hacc h => by
    cases h; exact hacc
  | x :: xs => fun acc r ⟨hx', hxs'⟩ hacc h => by
    unfold manifestUnionList at h
    obtain ⟨rx, hx, h⟩ := ok_of_match_res h
    exact manifestUnionList_wf xs _ r hxs' (res_union_wf hacc (manifestOfExpr_wf x rx hx' hx)) h
theorem manifestRecord_wf : ∀ (kvs : List (String × TExpr)) (g : RootAccessTrie) (ps : List (String × WPaths)),
    TypesUKKVs kvs → manifestRecord kvs = .ok (g, ps) → RootsWF g
  | [] => fun g ps _ h => by
    cases h; trivial
  | (k, x) :: xs => fun g ps ⟨hx', hxs'⟩ h => by
    unfold manifestRecord at h
    obtain ⟨rx, hx, h⟩ := ok_of_match_res h
    obtain ⟨g', ps', hr, h⟩ := ok_of_match_record h
    cases h
    exact unionRoots_wf _ _ (manifestOfExpr_wf x rx hx' hx) (manifestRecord_wf xs g' ps' hxs' hr)
end

end Cedar.Manifest
