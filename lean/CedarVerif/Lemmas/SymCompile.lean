import CedarVerif.Cedar.SymCompile
import CedarVerif.Cedar.Eval
import CedarVerif.Lemmas.Data
import CedarVerif.Lemmas.ExtDigits
/-
C18's compiler fragment (`Cedar.SymC`), what does not mention `compile`: the term factory on the terms a literal
environment produces — how it folds and what type its result has; the shape predicates `NoNot / Simple / NoApp3` stand in for
well-formedness of app-nodes, since `not (not a)` folds to `a` whatever `a` is — and the invariant `Rel` between an evaluation
result and a folded term.  `ctxTermOf_spec` gives two of the three clauses of `CtxOK`; `Cedar.C18.ctxTermOf_ctxOK` closes it
for a conformant context.
-/
namespace Cedar.SymC
open Cedar

theorem toInt_ofInt_of_inI64 {a : Int} (h : inI64 a = true) : (BitVec.ofInt 64 a).toInt = a := by
  rw [Ext.inI64_iff] at h
  exact BitVec.toInt_ofInt_eq_self (by decide) (by omega) (by omega)

theorem ofInt_sub64 (a b : Int) : BitVec.ofInt 64 (a - b) = BitVec.ofInt 64 a - BitVec.ofInt 64 b := by
  rw [Int.sub_eq_add_neg, BitVec.ofInt_add, BitVec.ofInt_neg, BitVec.sub_eq_add_neg]

theorem overflows_eq (i : Int) : overflows i = !inI64 i := by
  unfold overflows inI64 i64Min i64Max
  rw [Bool.eq_iff_iff]
  simp only [Bool.or_eq_true, decide_eq_true_eq, Bool.not_eq_true', Bool.and_eq_false_iff, decide_eq_false_iff_not]
  omega

theorem ofInt_inj64 {a b : Int} (ha : inI64 a = true) (hb : inI64 b = true) :
    BitVec.ofInt 64 a = BitVec.ofInt 64 b ↔ a = b := by
  constructor
  · intro h
    have := congrArg BitVec.toInt h
    rwa [toInt_ofInt_of_inI64 ha, toInt_ofInt_of_inI64 hb] at this
  · intro h; rw [h]

theorem iteSimplify_true (a b : Term) : iteSimplify tTrue a b = a := by
  simp [iteSimplify]

theorem iteSimplify_false (a b : Term) : iteSimplify tFalse a b = b := by
  unfold iteSimplify
  by_cases h : a = b
  · simp [h]
  · simp [h]

theorem fite_true (a b : Term) : fite tTrue a b = a := by
  unfold fite; split <;> simp [iteSimplify_true]

theorem fite_false (a b : Term) : fite tFalse a b = b := by
  unfold fite; split <;> simp [iteSimplify_false]

theorem isNone_none (ty : TermType) : isNone (.none ty) = tTrue := by simp [isNone]
theorem isNone_some (x : Term) : isNone (.some x) = tFalse := by simp [isNone]

theorem optionGet_some (x : Term) : optionGet (.some x) = x := by simp [optionGet]

theorem optionGet_none (ty : TermType) : optionGet (.none ty) = .app1 .optionGet (.none ty) ty := by
  simp [optionGet, Term.typeOf]

theorem eqSimplify_self (a : Term) : eqSimplify a a = tTrue := by
  unfold eqSimplify; rw [if_pos (beq_self_eq_true a)]

theorem feq_self (t : Term) : feq t t = tTrue := by
  cases t <;> exact eqSimplify_self _

theorem isRecord_typeOf : ∀ {t : Term}, t.isRecord = true → t.typeOf.isRecordType = true
  | .recNil, _ => rfl
  | .recCons _ _ _, _ => rfl
  | .prim _, h | .none _, h | .some _, h | .app1 _ _ _, h | .app2 _ _ _ _, h | .app3 _ _ _ _ _, h => by
    simp [Term.isRecord] at h

theorem tyFind_typeOf : ∀ {t : Term}, t.isRecord = true → ∀ a, tyFind? t.typeOf a = (recFind? t a).map Term.typeOf
  | .recNil, _, a => by simp [Term.typeOf, tyFind?, recFind?]
  | .recCons b ft rest, h, a => by
    have ih := tyFind_typeOf (t := rest) (by simpa [Term.isRecord] using h) a
    simp only [Term.typeOf, tyFind?, recFind?]
    split
    · rfl
    · exact ih
  | .prim _, h, _ | .none _, h, _ | .some _, h, _ | .app1 _ _ _, h, _ | .app2 _ _ _ _, h, _ | .app3 _ _ _ _ _, h, _ => by
    simp [Term.isRecord] at h

theorem isRecord_not_opt {t : Term} (h : t.isRecord = true) : (∀ x, t ≠ .some x) ∧ (∀ ty, t ≠ .none ty) ∧ (∀ p, t ≠ .prim p) := by
  cases t <;> simp [Term.isRecord] at h ⊢

theorem isRecordType_not_prim {ty : TermType} (h : ty.isRecordType = true) : ty.isPrimType = false := by
  cases ty <;> first | rfl | cases h

theorem recordGet_record {t ft : Term} {a : Attr} (h : t.isRecord = true) (hf : recFind? t a = some ft) :
    recordGet t a = ft := by
  simp only [recordGet, h, hf, if_true]

/-- the type of `option_get t` given the type of `t` -/
def getOpt : TermType → TermType
  | .option ty => ty
  | ty => ty

/-- the type of `if_some g r` given the type of `r` -/
def optTy : TermType → TermType
  | .option ty => .option ty
  | ty => .option ty

theorem optTy_idem (ty : TermType) : optTy (optTy ty) = optTy ty := by cases ty <;> rfl

theorem optTy_getOpt (ty : TermType) : .option (getOpt ty) = optTy ty := by cases ty <;> rfl

def NoNot (x : Term) : Prop := ∀ a ty, x ≠ .app1 .not a ty

/-- `option_get` of a folded term: a literal, an `option_get` application, or a record -/
def Simple (x : Term) : Prop := (∃ p, x = .prim p) ∨ (∃ y ty, x = .app1 .optionGet y ty) ∨ x.isRecord = true

theorem Simple.noNot {x : Term} (h : Simple x) : NoNot x := by
  intro a ty e
  rcases h with ⟨p, rfl⟩ | ⟨y, ty', rfl⟩ | h
  · cases e
  · cases e
  · subst e; simp [Term.isRecord] at h

theorem Simple.notOpt {x : Term} (h : Simple x) : (∀ y, x ≠ .some y) ∧ (∀ ty, x ≠ .none ty) := by
  rcases h with ⟨p, rfl⟩ | ⟨y, ty', rfl⟩ | h
  · simp
  · simp
  · exact ⟨(isRecord_not_opt h).1, (isRecord_not_opt h).2.1⟩

theorem fnot_typeOf {x : Term} (h : NoNot x) : (fnot x).typeOf = .bool := by
  unfold fnot
  split
  · rfl
  · exact absurd rfl (h _ _)
  · rfl

theorem typeOf_ite {c : Prop} [Decidable c] {a b : Term} {ty : TermType} (ha : a.typeOf = ty) (hb : b.typeOf = ty) :
    (if c then a else b).typeOf = ty := by
  split <;> assumption

theorem fand_typeOf {a b : Term} (ha : a.typeOf = .bool) (hb : b.typeOf = .bool) : (fand a b).typeOf = .bool :=
  typeOf_ite ha (typeOf_ite hb (typeOf_ite rfl rfl))

theorem for_typeOf {a b : Term} (ha : a.typeOf = .bool) (hb : b.typeOf = .bool) : (for' a b).typeOf = .bool :=
  typeOf_ite ha (typeOf_ite hb (typeOf_ite rfl rfl))

theorem iteSimplify_typeOf {g a b : Term} (hg : g.typeOf = .bool) (hn : NoNot g) (hab : a.typeOf = b.typeOf) :
    (iteSimplify g a b).typeOf = a.typeOf := by
  unfold iteSimplify
  refine typeOf_ite rfl (typeOf_ite hab.symm ?_)
  split
  · exact hg
  · rw [fnot_typeOf hn]; rfl
  · have : a.typeOf = .bool := by rw [hab]; rfl
    rw [fand_typeOf hg this, this]
  · have : b.typeOf = .bool := by rw [← hab]; rfl
    rw [for_typeOf hg this]; rfl
  · rfl

theorem fite_typeOf {g a b : Term} (hg : g.typeOf = .bool) (hn : NoNot g) (hab : a.typeOf = b.typeOf) :
    (fite g a b).typeOf = a.typeOf := by
  unfold fite
  split
  · simp only [Term.typeOf, TermType.option.injEq] at hab ⊢
    exact iteSimplify_typeOf hg hn hab
  · exact iteSimplify_typeOf hg hn hab

theorem ifFalse_typeOf (g t : Term) : (ifFalse g t).typeOf = .option t.typeOf := by
  simp only [ifFalse, noneOf, someOf, fite]
  exact typeOf_ite rfl (typeOf_ite rfl rfl)

theorem ifSome_none (ty : TermType) (r : Term) : ifSome (.none ty) r = .none (getOpt r.typeOf) := by
  unfold ifSome
  split
  · rename_i ty' h; rw [isNone_none, fite_true, h]; rfl
  · rename_i h
    unfold ifFalse
    rw [isNone_none, fite_true]
    cases hr : r.typeOf <;> first | rfl | exact absurd hr (h _)

theorem ifSome_some_opt {x r : Term} {ty : TermType} (h : r.typeOf = .option ty) : ifSome (.some x) r = r := by
  unfold ifSome
  rw [h]
  simp only [isNone_some, fite_false]

theorem ifSome_typeOf {g : Term} (hg : (∃ x, g = .some x) ∨ (∃ ty, g = .none ty)) (r : Term) :
    (ifSome g r).typeOf = optTy r.typeOf := by
  have hgn : isNone g = tTrue ∨ isNone g = tFalse := by
    rcases hg with ⟨x, rfl⟩ | ⟨ty, rfl⟩
    · right; exact isNone_some x
    · left; exact isNone_none ty
  unfold ifSome
  split
  · rename_i ty hty
    rw [hty]
    rcases hgn with h | h <;> rw [h]
    · rw [fite_true]; rfl
    · rw [fite_false]; exact hty
  · rename_i hnot
    rw [ifFalse_typeOf]
    cases hr : r.typeOf <;> simp [optTy]
    exact absurd hr (hnot _)

theorem optionGet_typeOf (t : Term) : (optionGet t).typeOf = getOpt t.typeOf := by
  unfold optionGet
  split
  · rfl
  · split
    · rename_i ty h; rw [h]; rfl
    · rename_i h
      cases ht : t.typeOf <;> simp [getOpt] <;> try rw [ht]
      exact absurd ht (h _)

/-- the three-way conditional all of `if && ||` build, on an erroring guard -/
theorem cond_none {t2 t3 : Term} (h : t2.typeOf = t3.typeOf) :
    ifSome (.none .bool) (fite (optionGet (.none .bool)) t2 t3) = .none (getOpt t2.typeOf) := by
  have hg : (optionGet (.none .bool)).typeOf = .bool ∧ NoNot (optionGet (.none .bool)) := by
    rw [optionGet_none]; exact ⟨rfl, fun a ty e => by cases e⟩
  rw [ifSome_none, fite_typeOf hg.1 hg.2 h]

theorem bvneg_typeOf {x : Term} (h : Simple x) : (bvneg x).typeOf = x.typeOf := by
  rcases h with ⟨p, rfl⟩ | ⟨y, ty', rfl⟩ | h
  · cases p <;> rfl
  · rfl
  · cases x <;> simp [Term.isRecord] at h <;> rfl

theorem bvapp_typeOf (op : Op) (f : BitVec 64 → BitVec 64 → BitVec 64) (a b : Term) : (bvapp op f a b).typeOf = a.typeOf := by
  unfold bvapp; split <;> rfl

theorem bvcmp_typeOf (op : Op) (f : BitVec 64 → BitVec 64 → Bool) (a b : Term) : (bvcmp op f a b).typeOf = .bool := by
  unfold bvcmp; split <;> rfl

theorem eqSimplify_cases (a b : Term) :
    eqSimplify a b = tTrue ∨ eqSimplify a b = tFalse ∨
    (a = tTrue ∧ b.typeOf = .bool ∧ eqSimplify a b = b) ∨ (b = tTrue ∧ a.typeOf = .bool ∧ eqSimplify a b = a) ∨
    (a = tFalse ∧ b.typeOf = .bool ∧ eqSimplify a b = fnot b) ∨
    (b = tFalse ∧ a.typeOf = .bool ∧ eqSimplify a b = fnot a) ∨
    eqSimplify a b = .app2 .eq a b .bool := by
  unfold eqSimplify
  by_cases h1 : (a == b) = true
  · rw [if_pos h1]; exact Or.inl rfl
  rw [if_neg h1]
  by_cases h2 : (a.isLiteral && b.isLiteral) = true
  · rw [if_pos h2]; exact Or.inr (Or.inl rfl)
  rw [if_neg h2]
  by_cases h3 : (a == tTrue && b.typeOf == .bool) = true
  · rw [if_pos h3]; rw [Bool.and_eq_true, beq_iff_eq, beq_iff_eq] at h3
    exact Or.inr (Or.inr (Or.inl ⟨h3.1, h3.2, rfl⟩))
  rw [if_neg h3]
  by_cases h4 : (b == tTrue && a.typeOf == .bool) = true
  · rw [if_pos h4]; rw [Bool.and_eq_true, beq_iff_eq, beq_iff_eq] at h4
    exact Or.inr (Or.inr (Or.inr (Or.inl ⟨h4.1, h4.2, rfl⟩)))
  rw [if_neg h4]
  by_cases h5 : (a == tFalse && b.typeOf == .bool) = true
  · rw [if_pos h5]; rw [Bool.and_eq_true, beq_iff_eq, beq_iff_eq] at h5
    exact Or.inr (Or.inr (Or.inr (Or.inr (Or.inl ⟨h5.1, h5.2, rfl⟩))))
  rw [if_neg h5]
  by_cases h6 : (b == tFalse && a.typeOf == .bool) = true
  · rw [if_pos h6]; rw [Bool.and_eq_true, beq_iff_eq, beq_iff_eq] at h6
    exact Or.inr (Or.inr (Or.inr (Or.inr (Or.inr (Or.inl ⟨h6.1, h6.2, rfl⟩)))))
  rw [if_neg h6]
  exact Or.inr (Or.inr (Or.inr (Or.inr (Or.inr (Or.inr rfl)))))

theorem eqSimplify_typeOf {a b : Term} (ha : NoNot a) (hb : NoNot b) : (eqSimplify a b).typeOf = .bool := by
  rcases eqSimplify_cases a b with h | h | ⟨_, hty, h⟩ | ⟨_, hty, h⟩ | ⟨_, _, h⟩ | ⟨_, _, h⟩ | h <;> rw [h]
  · rfl
  · rfl
  · exact hty
  · exact hty
  · exact fnot_typeOf hb
  · exact fnot_typeOf ha
  · rfl

theorem feq_typeOf {a b : Term} (ha : Simple a) (hb : Simple b) : (feq a b).typeOf = .bool := by
  unfold feq
  split
  · exact absurd rfl (ha.notOpt.1 _)
  · exact absurd rfl (ha.notOpt.1 _)
  · exact absurd rfl (ha.notOpt.2 _)
  · exact eqSimplify_typeOf ha.noNot hb.noNot

def NoApp3 (y : Term) : Prop := ∀ op g a b ty, y ≠ .app3 op g a b ty

/-- no field of a record operand is an `ite` node (`CtxOK` gives literals / `some` / `none`) -/
def FieldsNoApp3 (x : Term) : Prop := ∀ a ft, recFind? x a = some ft → NoApp3 ft

theorem Simple.noApp3 {x : Term} (h : Simple x) : NoApp3 x := by
  intro op g a b ty e
  rcases h with ⟨p, rfl⟩ | ⟨y, ty', rfl⟩ | h
  · cases e
  · cases e
  · subst e; simp [Term.isRecord] at h

theorem recordGet_typeOf {x : Term} {a : Attr} {fty : TermType} (h : tyFind? x.typeOf a = some fty) :
    (recordGet x a).typeOf = fty := by
  unfold recordGet
  split
  · rename_i hr
    have := tyFind_typeOf hr a
    rw [h] at this
    cases hf : recFind? x a with
    | none => simp [hf] at this
    | some ft => simp only [hf, Option.map_some, Option.some.injEq] at this; exact this.symm
  · simp [h, Term.typeOf]

theorem recordGet_cases {P : Term → Prop} {x : Term} (a : Attr) (hx : P x) (hf : ∀ ft, recFind? x a = some ft → P ft)
    (happ : ∀ ty, P (.app1 (.recordGet a) x ty)) : P (recordGet x a) := by
  unfold recordGet
  split
  · cases h : recFind? x a with
    | none => exact hx
    | some ft => exact hf ft h
  · cases tyFind? x.typeOf a with
    | none => exact hx
    | some ty => exact happ ty

theorem eqSimplify_none_noNot (t : Term) (ty : TermType) (ht : NoNot t) : NoNot (eqSimplify t (.none ty)) := by
  rcases eqSimplify_cases t (.none ty) with h | h | ⟨_, _, h⟩ | ⟨_, _, h⟩ | ⟨_, hty, _⟩ | ⟨hf, _⟩ | h
  · rw [h]; intro a ty' e; cases e
  · rw [h]; intro a ty' e; cases e
  · rw [h]; intro a ty' e; cases e
  · rw [h]; exact ht
  · cases hty
  · cases hf
  · rw [h]; intro a ty' e; cases e

theorem isNone_noNot {y : Term} (h : NoApp3 y) (hn : NoNot y) : NoNot (isNone y) := by
  have hdef : NoNot (isNoneDefault y) ∨ (∃ x, y = .some x) := by
    by_cases hs : ∃ x, y = .some x
    · exact Or.inr hs
    · left
      unfold isNoneDefault
      split
      · rename_i ty _
        have : feq y (.none ty) = eqSimplify y (.none ty) := by
          cases y with
          | some x => exact absurd ⟨x, rfl⟩ hs
          | _ => rfl
        rw [this]
        exact eqSimplify_none_noNot _ _ hn
      · intro a ty' e; cases e
  unfold isNone
  split
  · intro a ty' e; cases e
  · intro a ty' e; cases e
  · exact absurd rfl (h _ _ _ _ _)
  · rcases hdef with hd | ⟨x, rfl⟩
    · exact hd
    · rename_i hne _ ; exact absurd rfl (hne x)

/-- integers are in the i64 range (an invariant of the evaluator's values) -/
def PrimOk : Prim → Prop
  | .int i => inI64 i = true
  | _ => True

/-- a context attribute vs. its field term: required ↦ literal, optional present ↦ `some lit`, absent ↦ `none ty` -/
def FieldOK (ov : Option Value) (ft : Term) : Prop :=
  (∃ p, PrimOk p ∧ ov = some (.prim p) ∧ (ft = .prim (litPrim p) ∨ ft = .some (.prim (litPrim p)))) ∨
  (ov = none ∧ ∃ ty, ft = .none ty)

/-- the context term `t` represents the (FLAT) context `ctx`, attribute by attribute, and has no other attribute -/
def CtxOK (ctx : List (String × Value)) (t : Term) : Prop :=
  t.isRecord = true ∧ (∀ a ft, recFind? t a = some ft → FieldOK (lookupKV ctx a) ft) ∧
  (∀ a, recFind? t a = none → lookupKV ctx a = none)

/-- primitive value `v` ↦ `some (lit v)`; the context record ↦ `some ctxT`; error ↦ `none` (of some type) -/
def Rel (ctx : List (String × Value)) (ctxT : Term) (r : Result Value) (t : Term) : Prop :=
  match r with
  | .ok v => (∃ p, v = .prim p ∧ PrimOk p ∧ t = .some (.prim (litPrim p))) ∨
             (v = .record ctx ∧ t = .some ctxT ∧ CtxOK ctx ctxT)
  | .error _ => ∃ ty, t = .none ty

def RelV (ctx : List (String × Value)) (ctxT : Term) (v : Value) (x : Term) : Prop :=
  (∃ p, v = .prim p ∧ PrimOk p ∧ x = .prim (litPrim p)) ∨ (v = .record ctx ∧ x = ctxT ∧ CtxOK ctx ctxT)

section
variable {ctx : List (String × Value)} {ctxT : Term}

theorem Rel.cases {r : Result Value} {t : Term} (h : Rel ctx ctxT r t) :
    (∃ v x, r = .ok v ∧ t = .some x ∧ RelV ctx ctxT v x) ∨ (∃ err ty, r = .error err ∧ t = .none ty) := by
  cases r with
  | ok v =>
    rcases h with ⟨p, rfl, hp, rfl⟩ | ⟨rfl, rfl, hc⟩
    · exact Or.inl ⟨_, _, rfl, rfl, Or.inl ⟨p, rfl, hp, rfl⟩⟩
    · exact Or.inl ⟨_, _, rfl, rfl, Or.inr ⟨rfl, rfl, hc⟩⟩
  | error e => obtain ⟨ty, ht⟩ := h; exact Or.inr ⟨e, ty, rfl, ht⟩

theorem Rel.typeOf {r : Result Value} {t : Term} (h : Rel ctx ctxT r t) : ∃ ty, t.typeOf = .option ty := by
  rcases h.cases with ⟨_, _, _, rfl, _⟩ | ⟨_, _, _, rfl⟩ <;> exact ⟨_, rfl⟩

theorem Rel.prim {p : Prim} (hp : PrimOk p) : Rel ctx ctxT (.ok (.prim p)) (.some (.prim (litPrim p))) :=
  Or.inl ⟨p, rfl, hp, rfl⟩

theorem Rel.guard {r : Result Value} {t1 : Term} (h : Rel ctx ctxT r t1) :
    (∃ b, r = .ok (.prim (.bool b)) ∧ t1 = .some (.prim (.bool b))) ∨
    (∃ e, r = .error e ∧ t1 = .none .bool) ∨
    ((∀ b, r ≠ .ok (.prim (.bool b))) ∧ t1.typeOf ≠ .option .bool) := by
  rcases h.cases with ⟨v, x, rfl, rfl, ⟨p, rfl, _, rfl⟩ | ⟨rfl, rfl, hrec, _⟩⟩ | ⟨e, ty, rfl, rfl⟩
  · cases p with
    | bool b => exact Or.inl ⟨b, rfl, rfl⟩
    | _ => exact Or.inr (Or.inr ⟨fun b h => (by cases h), fun h => (by cases h)⟩)
  · refine Or.inr (Or.inr ⟨fun b h => (by cases h), fun h => ?_⟩)
    have hh := isRecord_typeOf hrec
    rw [Term.typeOf.eq_3, TermType.option.injEq] at h
    rw [h] at hh
    cases hh
  · by_cases hty : ty = .bool
    · subst hty; exact Or.inr (Or.inl ⟨e, rfl, rfl⟩)
    · exact Or.inr (Or.inr ⟨fun b h => (by cases h), fun h => hty (TermType.option.inj h)⟩)

theorem Rel.bool {ctx : List (String × Value)} {ctxT : Term} {r : Result Value} {t : Term} (h : Rel ctx ctxT r t)
    (hty : t.typeOf = .option .bool) :
    (∃ b, r = .ok (.prim (.bool b)) ∧ t = .some (.prim (.bool b))) ∨ (∃ e, r = .error e ∧ t = .none .bool) := by
  rcases h.guard with h | h | ⟨_, hn⟩
  · exact Or.inl h
  · exact Or.inr h
  · exact absurd hty hn

theorem Rel.opnd {ctx : List (String × Value)} {ctxT : Term} {r : Result Value} {t1 : Term} (h : Rel ctx ctxT r t1) :
    ((∃ x, t1 = .some x) ∨ (∃ ty, t1 = .none ty)) ∧ Simple (optionGet t1) ∧ FieldsNoApp3 (optionGet t1) ∧
    (∀ a ft, recFind? (optionGet t1) a = some ft → NoNot ft) := by
  rcases h.cases with ⟨_, _, _, rfl, ⟨p, _, _, rfl⟩ | ⟨_, rfl, hrec, hfld, _⟩⟩ | ⟨_, ty, _, rfl⟩
  · rw [optionGet_some]
    exact ⟨Or.inl ⟨_, rfl⟩, Or.inl ⟨_, rfl⟩, by intro a ft h; simp [recFind?] at h, by intro a ft h; simp [recFind?] at h⟩
  · rw [optionGet_some]
    refine ⟨Or.inl ⟨_, rfl⟩, Or.inr (Or.inr hrec), ?_, ?_⟩
    · intro a ft h op g x y ty e
      rcases hfld a ft h with ⟨p, _, _, rfl | rfl⟩ | ⟨_, ty', rfl⟩ <;> cases e
    · intro a ft h x ty e
      rcases hfld a ft h with ⟨p, _, _, rfl | rfl⟩ | ⟨_, ty', rfl⟩ <;> cases e
  · rw [optionGet_none]
    exact ⟨Or.inr ⟨_, rfl⟩, Or.inr (Or.inl ⟨_, _, rfl⟩), by intro a ft h; simp [recFind?] at h,
      by intro a ft h; simp [recFind?] at h⟩

end

theorem litPrim_not_record (p : Prim) : (litPrim p).typeOf.isRecordType = false := by cases p <;> rfl

theorem litPrim_typeOf_bv {p : Prim} (h : (litPrim p).typeOf = .bitvec64) : ∃ i, p = .int i := by
  cases p <;> simp [litPrim, TermPrim.typeOf] at h
  exact ⟨_, rfl⟩

theorem litPrim_beq {p q : Prim} (hp : PrimOk p) (hq : PrimOk q) : (litPrim p == litPrim q) = (p == q) := by
  rw [Bool.eq_iff_iff, beq_iff_eq, beq_iff_eq]
  cases p <;> cases q <;> simp [litPrim]
  exact ofInt_inj64 hp hq

theorem litPrim_not_option (p : Prim) : (Term.prim (litPrim p)).typeOf.isOptionType = false := by cases p <;> rfl

theorem termOfPrim_eq (p : Prim) : termOfPrim p = .prim (litPrim p) := by cases p <;> rfl

/-- the part of "the context conforms to the flat context type `attrs`" that `CtxOK` needs: every attribute the context
    supplies is declared and its value is a primitive (longs in the i64 range, an invariant of `Value`s built by the
    parser / evaluator).  (Full conformance — value of the declared type, required attributes present — implies it.) -/
def FlatConforms (ctx : List (String × Value)) (attrs : List (Attr × CtxAttrTy × Bool)) : Prop :=
  ∀ a v, lookupKV ctx a = some v → (∃ p, v = .prim p ∧ PrimOk p) ∧ a ∈ attrs.map (·.1)

theorem FlatConforms.of_check {ctx : List (String × Value)} {attrs : List (Attr × CtxAttrTy × Bool)}
    (h : (ctx.all fun kv =>
      (match kv.2 with
        | .prim (.int i) => inI64 i
        | .prim _ => true
        | _ => false) && attrs.any (·.1 == kv.1)) = true) : FlatConforms ctx attrs := by
  intro a v hl
  have hkv := List.all_eq_true.mp h _ (lookupKV_mem hl)
  rw [Bool.and_eq_true] at hkv
  obtain ⟨d, hd, he⟩ := List.any_eq_true.mp hkv.2
  refine ⟨?_, List.mem_map.mpr ⟨d, hd, by simpa using he⟩⟩
  cases v with
  | prim p =>
    cases p with
    | int i => exact ⟨_, rfl, hkv.1⟩
    | _ => exact ⟨_, rfl, trivial⟩
  | _ => cases hkv.1

theorem ctxTermOf_spec (ctx : List (String × Value))
    (hv : ∀ a v, lookupKV ctx a = some v → ∃ p, v = .prim p ∧ PrimOk p) :
    ∀ (attrs : List (Attr × CtxAttrTy × Bool)), ∃ t, ctxTermOf ctx attrs = some t ∧ t.isRecord = true ∧
      (∀ a ft, recFind? t a = some ft → FieldOK (lookupKV ctx a) ft) ∧
      (∀ a, recFind? t a = none → a ∉ attrs.map (·.1))
  | [] => ⟨.recNil, rfl, rfl, by simp [recFind?], by simp⟩
  | (b, ty, rq) :: rest => by
    obtain ⟨rt, hrt, hrec, hfld, hno⟩ := ctxTermOf_spec ctx hv rest
    obtain ⟨x, hx, hok⟩ : ∃ x, ctxTermOf ctx ((b, ty, rq) :: rest) = some (.recCons b x rt) ∧
        FieldOK (lookupKV ctx b) x := by
      cases hl : lookupKV ctx b with
      | none => exact ⟨noneOf ty.termType, by simp [ctxTermOf, hrt, hl], Or.inr ⟨rfl, _, rfl⟩⟩
      | some v =>
        obtain ⟨p, rfl, hp⟩ := hv b v hl
        refine ⟨if rq then termOfPrim p else someOf (termOfPrim p), by simp [ctxTermOf, hrt, hl],
          Or.inl ⟨p, hp, rfl, ?_⟩⟩
        cases rq
        · exact Or.inr (by simp [termOfPrim_eq, someOf])
        · exact Or.inl (by simp [termOfPrim_eq])
    refine ⟨_, hx, hrec, ?_, ?_⟩
    · intro a ft h
      rw [recFind?] at h
      split at h
      · rename_i hb
        obtain rfl : b = a := by simpa using hb
        obtain rfl := Option.some.inj h
        exact hok
      · exact hfld a ft h
    · intro a h
      rw [recFind?] at h
      split at h
      · cases h
      · rename_i hb
        have hne : ¬ b = a := by simpa using hb
        simp only [List.map_cons, List.mem_cons, not_or]
        exact ⟨fun e => hne e.symm, hno a h⟩

theorem and_true_left {a b : Bool} (h : (a && b) = true) : a = true := (Bool.and_eq_true_iff.mp h).1
theorem and_true_right {a b : Bool} (h : (a && b) = true) : b = true := (Bool.and_eq_true_iff.mp h).2

theorem inFrag_sound : ∀ (e : Expr), inFrag e = true → SFrag e
  | .lit (.bool b), _ => .litBool b
  | .lit (.int i), h => .litInt i h
  | .lit (.string s), _ => .litString s
  | .lit (.entityUID u), _ => .litEntity u
  | .var .principal, _ => .principal
  | .var .action, _ => .action
  | .var .resource, _ => .resource
  | .var .context, h => nomatch h
  | .ite c t e, h =>
    .ite (inFrag_sound c (and_true_left (and_true_left h))) (inFrag_sound t (and_true_right (and_true_left h)))
      (inFrag_sound e (and_true_right h))
  | .and a b, h => .and (inFrag_sound a (and_true_left h)) (inFrag_sound b (and_true_right h))
  | .or a b, h => .or (inFrag_sound a (and_true_left h)) (inFrag_sound b (and_true_right h))
  | .unaryApp .not a, h => .not (inFrag_sound a h)
  | .unaryApp .neg a, h => .neg (inFrag_sound a h)
  | .unaryApp .isEmpty a, h => nomatch h
  | .binaryApp op a b, h => by
    have ha := inFrag_sound a (and_true_right (and_true_left h))
    have hb := inFrag_sound b (and_true_right h)
    cases op
    case eq => exact .eq ha hb
    case less => exact .less ha hb
    case lessEq => exact .lessEq ha hb
    case add => exact .add ha hb
    case sub => exact .sub ha hb
    case mul => exact .mul ha hb
    all_goals cases and_true_left (and_true_left h)
  | .slot _, h | .unknown _ _, h | .call _ _, h | .getAttr _ _, h | .hasAttr _ _, h | .like _ _, h | .is _ _, h
  | .set _, h | .record _, h => nomatch h

theorem SFrag.toSFrag2 {e : Expr} (h : SFrag e) : SFrag2 e := by
  induction h <;> constructor <;> assumption

theorem inFrag2_sound : ∀ (e : Expr), inFrag2 e = true → SFrag2 e
  | .lit (.bool b), _ => .litBool b
  | .lit (.int i), h => .litInt i h
  | .lit (.string s), _ => .litString s
  | .lit (.entityUID u), _ => .litEntity u
  | .var .principal, _ => .principal
  | .var .action, _ => .action
  | .var .resource, _ => .resource
  | .var .context, _ => .context
  | .ite c t e, h =>
    .ite (inFrag2_sound c (and_true_left (and_true_left h))) (inFrag2_sound t (and_true_right (and_true_left h)))
      (inFrag2_sound e (and_true_right h))
  | .and a b, h => .and (inFrag2_sound a (and_true_left h)) (inFrag2_sound b (and_true_right h))
  | .or a b, h => .or (inFrag2_sound a (and_true_left h)) (inFrag2_sound b (and_true_right h))
  | .unaryApp .not a, h => .not (inFrag2_sound a h)
  | .unaryApp .neg a, h => .neg (inFrag2_sound a h)
  | .unaryApp .isEmpty a, h => nomatch h
  | .binaryApp op a b, h => by
    have ha := inFrag2_sound a (and_true_right (and_true_left h))
    have hb := inFrag2_sound b (and_true_right h)
    cases op
    case eq => exact .eq ha hb
    case less => exact .less ha hb
    case lessEq => exact .lessEq ha hb
    case add => exact .add ha hb
    case sub => exact .sub ha hb
    case mul => exact .mul ha hb
    all_goals cases and_true_left (and_true_left h)
  | .getAttr a attr, h => .getAttr attr (inFrag2_sound a h)
  | .hasAttr a attr, h => .hasAttr attr (inFrag2_sound a h)
  | .like a p, h => .like p (inFrag2_sound a h)
  | .is a ety, h => .is ety (inFrag2_sound a h)
  | .slot _, h | .unknown _ _, h | .call _ _, h | .set _, h | .record _, h => nomatch h

mutual
theorem inFrag3_sound : ∀ (e : Expr), inFrag3 e = true → SFrag3 e
  | .lit (.bool b), _ => .litBool b
  | .lit (.int i), h => .litInt i h
  | .lit (.string s), _ => .litString s
  | .lit (.entityUID u), _ => .litEntity u
  | .var .principal, _ => .principal
  | .var .action, _ => .action
  | .var .resource, _ => .resource
  | .var .context, _ => .context
  | .ite c t e, h =>
    .ite (inFrag3_sound c (and_true_left (and_true_left h))) (inFrag3_sound t (and_true_right (and_true_left h)))
      (inFrag3_sound e (and_true_right h))
  | .and a b, h => .and (inFrag3_sound a (and_true_left h)) (inFrag3_sound b (and_true_right h))
  | .or a b, h => .or (inFrag3_sound a (and_true_left h)) (inFrag3_sound b (and_true_right h))
  | .unaryApp .not a, h => .not (inFrag3_sound a h)
  | .unaryApp .neg a, h => .neg (inFrag3_sound a h)
  | .unaryApp .isEmpty a, h => .isEmpty (inFrag3_sound a h)
  | .binaryApp op a b, h => by
    have ha := inFrag3_sound a (and_true_right (and_true_left h))
    have hb := inFrag3_sound b (and_true_right h)
    cases op
    case eq => exact .eq ha hb
    case less => exact .less ha hb
    case lessEq => exact .lessEq ha hb
    case add => exact .add ha hb
    case sub => exact .sub ha hb
    case mul => exact .mul ha hb
    case contains => exact .contains ha hb
    case containsAll => exact .containsAll ha hb
    case containsAny => exact .containsAny ha hb
    all_goals cases and_true_left (and_true_left h)
  | .getAttr a attr, h => .getAttr attr (inFrag3_sound a h)
  | .hasAttr a attr, h => .hasAttr attr (inFrag3_sound a h)
  | .like a p, h => .like p (inFrag3_sound a h)
  | .is a ety, h => .is ety (inFrag3_sound a h)
  | .set xs, h => .set (inFrag3List_sound xs h)
  | .slot _, h | .unknown _ _, h | .call _ _, h | .record _, h => nomatch h
theorem inFrag3List_sound : ∀ (xs : List Expr), inFrag3List xs = true → ∀ x, x ∈ xs → SFrag3 x
  | [], _ => fun _ hx => nomatch hx
  | y :: ys, h => fun x hx => by
    rcases List.mem_cons.mp hx with hxy | hx
    · rw [hxy]; exact inFrag3_sound y (and_true_left h)
    · exact inFrag3List_sound ys (and_true_right h) x hx
end

end Cedar.SymC
