import CedarVerif.Lemmas.ManifestOrder
/-
The readers of a trie that walk every entry, and their monotonicity in `⊑` (Lemmas/ManifestOrder.lean): ancestor requests
(`ancRequest`: a larger trie, over a store holding more, requests more) and the *specification of a slice* — `SubStore`
(nothing invented) and `CoverRoots` (everything a trie requests is present; a store that covers a trie covers every trie
requesting no more).  What they do on a union follows, since a union is an upper bound of its parts.
-/
namespace Cedar.Manifest
open Cedar

def ancRoot (m : Entities) (req : Request) (root : EntityRoot) (t : AccessTrie) : List EntityUID :=
  match rootUid req root with
  | some u => ancValue m t (.prim (.entityUID u))
  | none => ancFields m t.children req.context

theorem ancRequest_cons (m : Entities) (req : Request) (root : EntityRoot) (t : AccessTrie) (rest : RootAccessTrie) :
    ancRequest m req ((root, t) :: rest) = ancRoot m req root t ++ ancRequest m req rest := by
  rfl

def rootVal (req : Request) : EntityRoot → Value
  | .var .principal => .prim (.entityUID req.principal)
  | .var .action => .prim (.entityUID req.action)
  | .var .resource => .prim (.entityUID req.resource)
  | .var .context => .record req.context
  | .literal u => .prim (.entityUID u)

theorem ancRoot_eq (m : Entities) (req : Request) (root : EntityRoot) (t : AccessTrie) :
    ancRoot m req root t = ancValue m t (rootVal req root) := by
  obtain ⟨c, a, i, e⟩ := t
  cases root with
  | literal u => rfl
  | var x => cases x <;> rfl

/-- every entity of `m` is in `m'` with at least its attributes (in the preorder `Le`, so that `AttrsLe m m` holds) -/
def AttrsLe (m m' : Entities) : Prop :=
  ∀ u d, m.find? u = some d → ∃ d', m'.find? u = some d' ∧ Le (.record d.attrs) (.record d'.attrs)

theorem AttrsLe.refl (m : Entities) : AttrsLe m m := fun _ d h => ⟨d, h, Le.refl _⟩

/-- every entity of `m` is in `M` with at least its attributes, compared by `TrimKVs` (the attribute half of `SubStore M m`) -/
def AttrsBelow (m M : Entities) : Prop :=
  ∀ u d1, m.find? u = some d1 → ∃ d2, M.find? u = some d2 ∧ TrimKVs d1.attrs d2.attrs

theorem AttrsLe.of_below {m m' : Entities} (h : AttrsBelow m m') : AttrsLe m m' := fun u d hd =>
  let ⟨d', h1, h2⟩ := h u d hd
  ⟨d', h1, le_of_trim (by simp only [Trim]; exact ⟨_, rfl, h2⟩)⟩

theorem mem_ancFields {m : Entities} {x : EntityUID} : ∀ (c : Fields) (kvs : List (String × Value)),
    x ∈ ancFields m c kvs ↔ ∃ f t v, (f, t) ∈ c ∧ lookupKV kvs f = some v ∧ x ∈ ancValue m t v
  | [], _ => by simp [ancFields]
  | (f0, t0) :: rest, kvs => by
    simp only [ancFields, List.mem_append, mem_ancFields rest kvs, List.mem_cons]
    constructor
    · rintro (h | ⟨f, t, v, hm, hl, hx⟩)
      · cases hl : lookupKV kvs f0 with
        | none => simp [hl] at h
        | some v => rw [hl] at h; exact ⟨f0, t0, v, .inl rfl, hl, h⟩
      · exact ⟨f, t, v, .inr hm, hl, hx⟩
    · rintro ⟨f, t, v, hm | hm, hl, hx⟩
      · cases hm; left; rw [hl]; exact hx
      · exact .inr ⟨f, t, v, hm, hl, hx⟩

theorem mem_ancRequest {m : Entities} {req : Request} {x : EntityUID} : ∀ (g : RootAccessTrie),
    x ∈ ancRequest m req g ↔ ∃ root t, (root, t) ∈ g ∧ x ∈ ancRoot m req root t
  | [] => by simp [ancRequest]
  | (r0, t0) :: rest => by
    rw [ancRequest_cons, List.mem_append, mem_ancRequest rest]
    simp only [List.mem_cons, Prod.mk.injEq]
    constructor
    · rintro (h | ⟨root, t, hm, hx⟩)
      · exact ⟨r0, t0, .inl ⟨rfl, rfl⟩, h⟩
      · exact ⟨root, t, .inr hm, hx⟩
    · rintro ⟨root, t, ⟨rfl, rfl⟩ | hm, hx⟩
      · exact .inl hx
      · exact .inr ⟨root, t, hm, hx⟩

theorem ancValue_sub (m m' : Entities) (hb : AttrsLe m m') (x : EntityUID) : ∀ (t1 t2 : AccessTrie) (v v' : Value),
    AccessTrie.sub t1 t2 → Le v v' → x ∈ ancValue m t1 v → x ∈ ancValue m' t2 v' :=
  AccessTrie.induct fun c1 a1 i1 e1 ihc _ t2 v v' hle htr hx => by
    obtain ⟨c2, a2, i2, e2⟩ := t2
    simp only [AccessTrie.sub, AccessTrie.children, AccessTrie.isAncestor] at hle
    have hF : ∀ kvs kvs', Le (.record kvs) (.record kvs') → x ∈ ancFields m c1 kvs → x ∈ ancFields m' c2 kvs' := by
      intro kvs kvs' htr hx
      obtain ⟨f, t, w, hm, hl, hxw⟩ := (mem_ancFields c1 kvs).1 hx
      obtain ⟨t2, h1, h2⟩ := (fieldsSub_iff c1 c2).1 hle.1 f t hm
      obtain ⟨ky, w', e, hw', htw⟩ := le_lookup htr hl
      cases e
      exact (mem_ancFields c2 kvs').2 ⟨f, t2, w', h1, hw', ihc f t hm t2 w w' h2 htw hxw⟩
    cases v with
    | prim p =>
      have e := le_nonrecord (by intro kvs; simp) htr
      subst e
      cases p with
      | entityUID u =>
        simp only [ancValue, List.mem_append] at hx ⊢
        rcases hx with hx | hx
        · left
          cases i1 with
          | false => simp at hx
          | true => rw [hle.2.2 rfl]; exact hx
        · right
          cases hd : m.find? u with
          | none => simp [hd] at hx
          | some d =>
            simp only [hd] at hx
            obtain ⟨d2, h1, h2⟩ := hb u d hd
            simp only [h1]
            exact hF _ _ h2 hx
      | _ => simp [ancValue] at hx
    | record kvs =>
      obtain ⟨kvs', e⟩ := le_record_inv htr
      subst e
      simp only [ancValue] at hx ⊢
      exact hF kvs kvs' htr hx
    | set s =>
      have e := le_nonrecord (by intro kvs; simp) htr
      subst e
      simp only [ancValue] at hx ⊢
      cases i1 with
      | false => simp at hx
      | true => rw [hle.2.2 rfl]; exact hx
    | ext y => simp [ancValue] at hx

theorem ancRequest_sub (m m' : Entities) (hb : AttrsLe m m') (req : Request) (x : EntityUID) (a1 a2 : RootAccessTrie)
    (hle : rootsSub a1 a2) (hx : x ∈ ancRequest m req a1) : x ∈ ancRequest m' req a2 := by
  obtain ⟨root, t, hm, hx⟩ := (mem_ancRequest a1).1 hx
  obtain ⟨t2, h1, h2⟩ := (rootsSub_iff a1 a2).1 hle root t hm
  rw [ancRoot_eq] at hx
  exact (mem_ancRequest a2).2 ⟨root, t2, h1, by
    rw [ancRoot_eq]; exact ancValue_sub m m' hb x t t2 _ _ h2 (Le.refl _) hx⟩

theorem ancRequest_union (m : Entities) (req : Request) (x : EntityUID) : ∀ (a2 a1 : RootAccessTrie),
    (x ∈ ancRequest m req a1 → x ∈ ancRequest m req (unionRoots a1 a2)) ∧
    (x ∈ ancRequest m req a2 → x ∈ ancRequest m req (unionRoots a1 a2)) := fun a2 a1 =>
  ⟨ancRequest_sub m m (.refl m) req x _ _ (rootsSub_union a1 a2).1,
   ancRequest_sub m m (.refl m) req x _ _ (rootsSub_union a1 a2).2⟩

/-- nothing is invented: every entity of the slice `es'` exists in the store `es` (the larger one comes first), with trimmed
attributes and a subset of its ancestors -/
def SubStore (es es' : Entities) : Prop :=
  ∀ u d', es'.find? u = some d' →
    ∃ d, es.find? u = some d ∧ TrimKVs d'.attrs d.attrs ∧ (∀ a, a ∈ d'.ancestors → a ∈ d.ancestors)

-- everything the trie requests of the value `v` (of the store `es`) is present in its copy `v'` (of the slice `es'`):
-- requested fields that exist are kept (recursively), referenced entities that exist are loaded (recursively), and the
-- requested ancestors that the entity has are kept
mutual
def CoverV (es es' : Entities) (req : Request) : AccessTrie → Value → Value → Prop
  | .mk c a _ _, v, v' =>
    match v with
    | .prim (.entityUID u) =>
      v' = v ∧ (∀ d, es.find? u = some d →
        ∃ d', es'.find? u = some d' ∧ CoverF es es' req c d.attrs d'.attrs ∧
          (∀ x, x ∈ ancRequest es' req a → x ∈ d.ancestors → x ∈ d'.ancestors))
    | .record kvs => ∃ kvs', v' = .record kvs' ∧ CoverF es es' req c kvs kvs'
    | _ => True
def CoverF (es es' : Entities) (req : Request) : Fields → List (String × Value) → List (String × Value) → Prop
  | [], _, _ => True
  | (f, t) :: rest, kvs, kvs' =>
    (∀ w, lookupKV kvs f = some w → ∃ w', lookupKV kvs' f = some w' ∧ CoverV es es' req t w w') ∧
    CoverF es es' req rest kvs kvs'
end

def CoverRoots (es es' : Entities) (req : Request) : RootAccessTrie → Prop
  | [] => True
  | (root, t) :: rest => CoverV es es' req t (rootVal req root) (rootVal req root) ∧ CoverRoots es es' req rest

theorem coverF_iff {es es' : Entities} {req : Request} (c : Fields) (kvs kvs' : List (String × Value)) :
    CoverF es es' req c kvs kvs' ↔ ∀ f t, (f, t) ∈ c →
      ∀ w, lookupKV kvs f = some w → ∃ w', lookupKV kvs' f = some w' ∧ CoverV es es' req t w w' :=
  forall_mem_of_eqns (S := fun c => CoverF es es' req c kvs kvs') trivial (fun _ _ _ => Iff.rfl) c

theorem coverRoots_iff {es es' : Entities} {req : Request} (g : RootAccessTrie) :
    CoverRoots es es' req g ↔ ∀ root t, (root, t) ∈ g → CoverV es es' req t (rootVal req root) (rootVal req root) :=
  forall_mem_of_eqns (S := CoverRoots es es' req) trivial (fun _ _ _ => Iff.rfl) g

theorem coverF_anti_of {es es' : Entities} {req : Request} {c1 c2 : Fields} {kvs kvs' : List (String × Value)}
    (hV : ∀ f t, (f, t) ∈ c1 → ∀ t2 w w', AccessTrie.sub t t2 → CoverV es es' req t2 w w' → CoverV es es' req t w w')
    (hs : fieldsSub c1 c2) (hc : CoverF es es' req c2 kvs kvs') : CoverF es es' req c1 kvs kvs' :=
  (coverF_iff c1 kvs kvs').2 fun f t hm w hw =>
    let ⟨t2, h1, h2⟩ := (fieldsSub_iff c1 c2).1 hs f t hm
    let ⟨w', h3, h4⟩ := (coverF_iff c2 kvs kvs').1 hc f t2 h1 w hw
    ⟨w', h3, hV f t hm t2 w w' h2 h4⟩

theorem coverV_anti (es es' : Entities) (req : Request) : ∀ (t1 t2 : AccessTrie) (v v' : Value),
    AccessTrie.sub t1 t2 → CoverV es es' req t2 v v' → CoverV es es' req t1 v v' :=
  AccessTrie.induct fun c1 a1 i1 e1 hc _ t2 v v' hs => by
    obtain ⟨c2, a2, i2, e2⟩ := t2
    simp only [AccessTrie.sub, AccessTrie.children, AccessTrie.ancestors] at hs
    cases v with
    | prim p =>
      cases p with
      | entityUID u =>
        simp only [CoverV]
        rintro ⟨hv, h⟩
        refine ⟨hv, fun d hd => ?_⟩
        obtain ⟨d', h1, h2, h3⟩ := h d hd
        exact ⟨d', h1, coverF_anti_of hc hs.1 h2,
          fun x hx => h3 x (ancRequest_sub es' es' (.refl es') req x a1 a2 hs.2.1 hx)⟩
      | bool b => simp [CoverV]
      | int n => simp [CoverV]
      | string s => simp [CoverV]
    | set vs => simp [CoverV]
    | record kvs =>
      simp only [CoverV]
      rintro ⟨kvs', hv, h⟩
      exact ⟨kvs', hv, coverF_anti_of hc hs.1 h⟩
    | ext e => simp [CoverV]

theorem coverF_anti (es es' : Entities) (req : Request) (c1 c2 : Fields) (kvs kvs' : List (String × Value)) :
    fieldsSub c1 c2 → CoverF es es' req c2 kvs kvs' → CoverF es es' req c1 kvs kvs' :=
  coverF_anti_of fun _ t _ t2 w w' => coverV_anti es es' req t t2 w w'

theorem coverRoots_anti (es es' : Entities) (req : Request) (a1 a2 : RootAccessTrie) (hs : rootsSub a1 a2)
    (hc : CoverRoots es es' req a2) : CoverRoots es es' req a1 :=
  (coverRoots_iff a1).2 fun root t hm =>
    let ⟨t2, h1, h2⟩ := (rootsSub_iff a1 a2).1 hs root t hm
    coverV_anti es es' req t t2 _ _ h2 ((coverRoots_iff a2).1 hc root t2 h1)

theorem coverF_union (es es' : Entities) (req : Request) : ∀ (c2 c1 : Fields) (kvs kvs' : List (String × Value)),
    CoverF es es' req (unionFields c1 c2) kvs kvs' → CoverF es es' req c1 kvs kvs' ∧ CoverF es es' req c2 kvs kvs' :=
  fun c2 c1 kvs kvs' h =>
  ⟨coverF_anti es es' req _ _ kvs kvs' (fieldsSub_union c1 c2).1 h, coverF_anti es es' req _ _ kvs kvs' (fieldsSub_union c1 c2).2 h⟩

theorem coverRoots_union (es es' : Entities) (req : Request) : ∀ (a2 a1 : RootAccessTrie),
    CoverRoots es es' req (unionRoots a1 a2) → CoverRoots es es' req a1 ∧ CoverRoots es es' req a2 := fun a2 a1 h =>
  ⟨coverRoots_anti es es' req _ _ (rootsSub_union a1 a2).1 h, coverRoots_anti es es' req _ _ (rootsSub_union a1 a2).2 h⟩

end Cedar.Manifest
