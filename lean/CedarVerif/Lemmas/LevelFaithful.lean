import CedarVerif.Lemmas.LevelSound
import CedarVerif.Lemmas.LevelAnnot
import CedarVerif.Lemmas.TypecheckSound
/-
The two semantic hypotheses of C16's level soundness (`Kinds`, and `Faithful` of Thm/C16.lean) are consequences of
typechecker soundness (C03's one induction `soundCore`; `soundM` is its instance at the full premises).  For the typed AST
`te = annotate e caps` of an expression of the C03 fragment, in a world that satisfies the C03 premises (`Sem`: conformant request and store, action entities present,
slots bound) and `caps`:
  * `faithful` — `te.erase` evaluates over the store like `e`: the typechecker's simplifications (`if` with a test typed
    `True` / `False` keeps one branch twice, `a && b` with `a` typed `False` and `a || b` with `a` typed `True` keep `a`) are
    semantics-preserving, errors included, because an expression typed `True` evaluates to `true` or fails, …;
  * `kinds` — every `Entity` / `Record` annotation along evaluated positions agrees with the run-time value (the value is an
    instance of the static type);
  * `slice` — over the level-`n` SLICE `te.erase` evaluates like `e` too, provided the level checker accepted `te` (`Ok`).
    The slice does not satisfy the C03 premises (it lacks action entities), so this is not an instance of `faithful`: a
    dropped operand is justified by evaluating its guard over the slice as over the store (`slice_of_ok`
    on the guard's typed AST, whose `Kinds` come from this very induction).
The induction (`annot_resCore`) carries C03's flag `basic`: with `basic = true` it runs on C03's first fragment under the weaker
premises `Premises true` (`SchemaWF`, conformant request and store: no `SchemaWF2`, no action entities, no slots); the
connective-free fragment `CF` at the end is a part of that fragment.
-/
namespace Cedar.Level
open Cedar Cedar.Slice Cedar.C03

/-- what the induction establishes for `te = annotate e caps` -/
structure Res (n : Nat) (env : RequestEnv) (w : World) (te : TExpr) (e : Expr) : Prop where
  faithful : evaluate w.q w.es w.sl te.erase = evaluate w.q w.es w.sl e
  kinds : Kinds w.q w.es w.sl te
  slice : Ok n env.action te →
    evaluate w.q (atLevel n w.q w.es) w.sl te.erase = evaluate w.q (atLevel n w.q w.es) w.sl e

structure ResList (n : Nat) (env : RequestEnv) (w : World) (ts : List TExpr) (es : List Expr) : Prop where
  faithful : evaluateList w.q w.es w.sl (eraseList ts) = evaluateList w.q w.es w.sl es
  kinds : KindsList w.q w.es w.sl ts
  slice : OkList n env.action ts →
    evaluateList w.q (atLevel n w.q w.es) w.sl (eraseList ts) = evaluateList w.q (atLevel n w.q w.es) w.sl es

structure ResKVs (n : Nat) (env : RequestEnv) (w : World) (ts : List (String × TExpr)) (es : List (String × Expr)) : Prop where
  faithful : evaluateKVs w.q w.es w.sl (eraseKVs ts) = evaluateKVs w.q w.es w.sl es
  kinds : KindsKVs w.q w.es w.sl ts
  slice : OkKVs n env.action ts →
    evaluateKVs w.q (atLevel n w.q w.es) w.sl (eraseKVs ts) = evaluateKVs w.q (atLevel n w.q w.es) w.sl es

variable {m : ValidationMode} {s : Schema} {env : RequestEnv} {w : World} {n : Nat}

theorem Res.sliceStore {te : TExpr} {e : Expr} (hact : w.q.action = env.action) (r : Res n env w te e)
    (hok : Ok n env.action te) :
    evaluate w.q (atLevel n w.q w.es) w.sl e = evaluate w.q w.es w.sl e := by
  rw [← r.slice hok, slice_of_ok hact te r.kinds hok, r.faithful]

theorem good_core (basic : Bool) (hWF : SchemaWF s) (henv : EnvMatches s env w.q) (hp : Premises basic s env w) {e : Expr}
    (hf : InFragmentM m env e = true) (hb : basic = true → InFragment e = true) {caps : Capabilities} {τ : CedarType}
    {c' : Capabilities} (ht : typeOf m s env e caps = .ok (τ, c')) (hc : CapsHold w caps) : τ.mono = true ∧ Good w e τ c' := by
  obtain ⟨hm, g⟩ := soundCore basic hWF henv .trivial e hf hb caps τ c' ht
  exact ⟨hm.1, g hp hc⟩

theorem good_of (hWF : SchemaWF2 s) (henv : EnvMatches s env w.q) (hs : Sem s env w) {e : Expr}
    (hf : InFragmentM m env e = true) {caps : Capabilities} {τ : CedarType} {c' : Capabilities}
    (ht : typeOf m s env e caps = .ok (τ, c')) (hc : CapsHold w caps) : τ.mono = true ∧ Good w e τ c' :=
  good_core false hWF.toSchemaWF henv (Sem.premises hWF hs) hf nofun ht hc

theorem ff_cases {e : Expr} {c : Capabilities} (g : Good w e (.bool .ff) c) :
    evaluate w.q w.es w.sl e = .ok (.prim (.bool false)) ∨ ∃ err, evaluate w.q w.es w.sl e = .error err := by
  rcases g.1 with ⟨err, he, _⟩ | ⟨v, hv, hi, _⟩
  · exact Or.inr ⟨err, he⟩
  · cases hi; exact Or.inl hv

theorem tt_cases {e : Expr} {c : Capabilities} (g : Good w e (.bool .tt) c) :
    (evaluate w.q w.es w.sl e = .ok (.prim (.bool true)) ∨ ∃ err, evaluate w.q w.es w.sl e = .error err) ∧ CapsHold w c := by
  refine ⟨?_, g.2 rfl⟩
  rcases g.1 with ⟨err, he, _⟩ | ⟨v, hv, hi, _⟩
  · exact Or.inr ⟨err, he⟩
  · cases hi; exact Or.inl hv

theorem caps_of_true {e : Expr} {τ : CedarType} {c : Capabilities} (g : Good w e τ c)
    (h : evaluate w.q w.es w.sl e = .ok (.prim (.bool true))) : CapsHold w c := by
  rcases g.1 with ⟨err, he, _⟩ | ⟨v, hv, _, hcv⟩
  · have : w.eval e = evaluate w.q w.es w.sl e := rfl
    rw [this, h] at he; cases he
  · have : w.eval e = evaluate w.q w.es w.sl e := rfl
    rw [this, h] at hv
    cases hv
    exact hcv rfl

theorem not_false_of {X : Entities} {e : Expr}
    (h : evaluate w.q X w.sl e = .ok (.prim (.bool true)) ∨ ∃ err, evaluate w.q X w.sl e = .error err)
    (h' : evaluate w.q X w.sl e = .ok (.prim (.bool false))) : False := by
  rcases h with h | ⟨err, h⟩ <;> rw [h] at h' <;> cases h'

theorem not_true_of {X : Entities} {e : Expr}
    (h : evaluate w.q X w.sl e = .ok (.prim (.bool false)) ∨ ∃ err, evaluate w.q X w.sl e = .error err)
    (h' : evaluate w.q X w.sl e = .ok (.prim (.bool true))) : False := by
  rcases h with h | ⟨err, h⟩ <;> rw [h] at h' <;> cases h'

theorem kind_matches {e : Expr} {τ : CedarType} {c : Capabilities} (hm : τ.mono = true) (g : Good w e τ c) {v : Value}
    (hv : evaluate w.q w.es w.sl e = .ok v) : (kindOf τ).matches v = true := by
  have hev : w.eval e = .ok v := hv
  rcases g.1 with ⟨err, he, _⟩ | ⟨v', hv', hi, _⟩
  · rw [hev] at he; cases he
  · rw [hev] at hv'
    cases hv'
    cases τ with
    | entity l =>
      obtain ⟨T, rfl⟩ := mono_entity hm
      obtain ⟨u, rfl, _⟩ := inst_entity_single hi
      rfl
    | record attrs o =>
      obtain ⟨kvs, rfl⟩ := inst_record hi
      rfl
    | _ => rfl

mutual
theorem annot_resCore (basic : Bool) (hWF : SchemaWF s) (henv : EnvMatches s env w.q) (hp : Premises basic s env w) :
    ∀ (e : Expr), InFragmentM m env e = true → (basic = true → InFragment e = true) → ∀ (caps : Capabilities) (te : TExpr),
      annotate m s env e caps = .ok te → CapsHold w caps → Res n env w te e
  | .lit p => fun _ _ caps te h _ => by cases h; exact ⟨rfl, trivial, fun _ => rfl⟩
  | .var v => fun _ _ caps te h _ => by cases h; exact ⟨rfl, trivial, fun _ => rfl⟩
  | .slot sid => fun _ _ caps te h _ => by cases h; exact ⟨rfl, trivial, fun _ => rfl⟩
  | .unknown _ _ => fun _ _ caps te h _ => by cases h
  | .ite c t e => fun hf hb caps te h hc => by
    simp only [InFragmentM, Bool.and_eq_true] at hf
    obtain ⟨⟨⟨hfc, hft⟩, hfe⟩, _⟩ := hf
    simp only [InFragment, Bool.and_eq_true] at hb
    have hact : w.q.action = env.action := henv.2.1.symm
    obtain ⟨τc, cc, tc, htc, hac, hcases⟩ := annotate_ite_ok h
    have rc : Res n env w tc c := annot_resCore basic hWF henv hp c hfc (hb · |>.1.1.1) caps tc hac hc
    obtain ⟨_, gc⟩ := good_core basic hWF henv hp hfc (hb · |>.1.1.1) htc hc
    -- on the slice the test evaluates as on the store, where its static type decides it
    have hslice : ∀ {b}, Ok n env.action tc → evaluate w.q (atLevel n w.q w.es) w.sl c = .ok (.prim (.bool b)) →
        evaluate w.q w.es w.sl c = .ok (.prim (.bool b)) := fun okc hb => rc.sliceStore hact okc ▸ hb
    rcases hcases with ⟨htrue, tt, hat, rfl⟩ | ⟨_, hfalse, te', hae, rfl⟩ | ⟨_, _, tt, te', hat, hae, rfl⟩
    · have := isTrue_eq htrue; subst this
      obtain ⟨hcv, hcc⟩ := tt_cases gc
      have rt : Res n env w tt t := annot_resCore basic hWF henv hp t hft (hb · |>.1.1.2) _ tt hat (capsHold_union.mpr ⟨hc, hcc⟩)
      exact ⟨eval_ite_congr rc.faithful (fun _ => rt.faithful) (fun hff => (not_false_of hcv hff).elim),
        ⟨rc.kinds, fun _ => rt.kinds, fun _ => rt.kinds⟩,
        fun hok => eval_ite_congr (rc.slice hok.ite.1) (fun _ => rt.slice hok.ite.2.1)
          (fun hff => (not_false_of hcv (hslice hok.ite.1 hff)).elim)⟩
    · have := isFalse_eq hfalse; subst this
      have hcv := ff_cases gc
      have re : Res n env w te' e := annot_resCore basic hWF henv hp e hfe (hb · |>.1.2) _ te' hae hc
      exact ⟨eval_ite_congr rc.faithful (fun htt => (not_true_of hcv htt).elim) (fun _ => re.faithful),
        ⟨rc.kinds, fun _ => re.kinds, fun _ => re.kinds⟩,
        fun hok => eval_ite_congr (rc.slice hok.ite.1) (fun htt => (not_true_of hcv (hslice hok.ite.1 htt)).elim)
          (fun _ => re.slice hok.ite.2.1)⟩
    · have rt : evaluate w.q w.es w.sl c = .ok (.prim (.bool true)) → Res n env w tt t := fun htt =>
        annot_resCore basic hWF henv hp t hft (hb · |>.1.1.2) _ tt hat (capsHold_union.mpr ⟨hc, caps_of_true gc htt⟩)
      have re : Res n env w te' e := annot_resCore basic hWF henv hp e hfe (hb · |>.1.2) _ te' hae hc
      exact ⟨eval_ite_congr rc.faithful (fun htt => (rt htt).faithful) (fun _ => re.faithful),
        ⟨rc.kinds, fun htt => (rt (rc.faithful ▸ htt)).kinds, fun _ => re.kinds⟩,
        fun hok => eval_ite_congr (rc.slice hok.ite.1) (fun htt => (rt (hslice hok.ite.1 htt)).slice hok.ite.2.1)
          (fun _ => re.slice hok.ite.2.2)⟩
  | .and a b => fun hf hb caps te h hc => by
    simp only [InFragmentM, Bool.and_eq_true] at hf
    simp only [InFragment, Bool.and_eq_true] at hb
    have hact : w.q.action = env.action := henv.2.1.symm
    obtain ⟨τa, ca, ta, hta, haa, hcases⟩ := annotate_and_ok h
    have ra : Res n env w ta a := annot_resCore basic hWF henv hp a hf.1 (hb · |>.1) caps ta haa hc
    obtain ⟨_, ga⟩ := good_core basic hWF henv hp hf.1 (hb · |>.1) hta hc
    rcases hcases with ⟨hfalse, rfl⟩ | ⟨_, tb, hab, rfl⟩
    · have := isFalse_eq hfalse; subst this
      have hav := ff_cases ga
      exact ⟨by rw [ra.faithful, eval_and_left hav], ra.kinds,
        fun hok => by rw [ra.slice hok, eval_and_left (by rw [ra.sliceStore hact hok]; exact hav)]⟩
    · have rb : evaluate w.q w.es w.sl a = .ok (.prim (.bool true)) → Res n env w tb b := fun htt =>
        annot_resCore basic hWF henv hp b hf.2 (hb · |>.2) _ tb hab (capsHold_union.mpr ⟨hc, caps_of_true ga htt⟩)
      exact ⟨eval_and_congr ra.faithful (fun htt => (rb htt).faithful),
        ⟨ra.kinds, fun htt => (rb (ra.faithful ▸ htt)).kinds⟩,
        fun hok => eval_and_congr (ra.slice hok.and.1)
          (fun htt => (rb (ra.sliceStore hact hok.and.1 ▸ htt)).slice hok.and.2)⟩
  | .or a b => fun hf hb caps te h hc => by
    simp only [InFragmentM, Bool.and_eq_true] at hf
    simp only [InFragment, Bool.and_eq_true] at hb
    have hact : w.q.action = env.action := henv.2.1.symm
    obtain ⟨τa, ca, ta, hta, haa, hcases⟩ := annotate_or_ok h
    have ra : Res n env w ta a := annot_resCore basic hWF henv hp a hf.1 (hb · |>.1) caps ta haa hc
    obtain ⟨_, ga⟩ := good_core basic hWF henv hp hf.1 (hb · |>.1) hta hc
    rcases hcases with ⟨htrue, rfl⟩ | ⟨_, tb, hab, rfl⟩
    · have := isTrue_eq htrue; subst this
      have hav := (tt_cases ga).1
      exact ⟨by rw [ra.faithful, eval_or_left hav], ra.kinds,
        fun hok => by rw [ra.slice hok, eval_or_left (by rw [ra.sliceStore hact hok]; exact hav)]⟩
    · have rb : Res n env w tb b := annot_resCore basic hWF henv hp b hf.2 (hb · |>.2) _ tb hab hc
      exact ⟨eval_or_congr ra.faithful (fun _ => rb.faithful), ⟨ra.kinds, fun _ => rb.kinds⟩,
        fun hok => eval_or_congr (ra.slice hok.or.1) (fun _ => rb.slice hok.or.2)⟩
  | .unaryApp op a => fun hf hb caps te h hc => by
    unfold InFragmentM at hf
    simp only [InFragment, Bool.and_eq_true] at hb
    obtain ⟨ta, haa, rfl⟩ := annotate_unary_ok h
    have ra : Res n env w ta a := annot_resCore basic hWF henv hp a hf (hb · |>.2) caps ta haa hc
    exact ⟨eval_unary_congr ra.faithful, ra.kinds, fun hok => eval_unary_congr (ra.slice hok.unary)⟩
  | .binaryApp op a b => fun hf hb caps te h hc => by
    simp only [InFragmentM, Bool.and_eq_true] at hf
    simp only [InFragment, Bool.and_eq_true] at hb
    obtain ⟨ta, tb, haa, hab, rfl⟩ := annotate_binary_ok h
    have ra : Res n env w ta a := annot_resCore basic hWF henv hp a hf.1.2 (hb · |>.1.2) caps ta haa hc
    have rb : Res n env w tb b := annot_resCore basic hWF henv hp b hf.2 (hb · |>.2) caps tb hab hc
    exact ⟨eval_binary_congr ra.faithful rb.faithful (fun _ _ _ => rfl), ⟨ra.kinds, rb.kinds⟩,
      fun hok => eval_binary_congr (ra.slice hok.binary.1) (rb.slice hok.binary.2) (fun _ _ _ => rfl)⟩
  | .call fn args => fun hf hb caps te h hc => by
    unfold InFragmentM at hf
    obtain ⟨ts, hl, rfl⟩ := annotate_call_ok h
    have r : ResList n env w ts args := annot_resCoreList basic hWF henv hp (not_basic hb rfl) args hf caps ts hl hc
    exact ⟨eval_call_congr r.faithful, r.kinds, fun hok => eval_call_congr (r.slice hok.call)⟩
  | .getAttr e a => fun hf hb caps te h hc => by
    unfold InFragmentM at hf
    obtain ⟨τ, ce, te', hte, hae, rfl⟩ := annotate_getAttr_ok h
    have re : Res n env w te' e := annot_resCore basic hWF henv hp e hf (by simpa only [InFragment] using hb) caps te' hae hc
    obtain ⟨hm, ge⟩ := good_core basic hWF henv hp hf (by simpa only [InFragment] using hb) hte hc
    exact ⟨eval_getAttr_congr re.faithful (fun _ _ => rfl),
      ⟨re.kinds, fun v hv => kind_matches hm ge (re.faithful ▸ hv)⟩,
      fun hok => eval_getAttr_congr (re.slice hok.getAttr) (fun _ _ => rfl)⟩
  | .hasAttr e a => fun hf hb caps te h hc => by
    unfold InFragmentM at hf
    obtain ⟨τ, ce, te', hte, hae, rfl⟩ := annotate_hasAttr_ok h
    have re : Res n env w te' e := annot_resCore basic hWF henv hp e hf (by simpa only [InFragment] using hb) caps te' hae hc
    obtain ⟨hm, ge⟩ := good_core basic hWF henv hp hf (by simpa only [InFragment] using hb) hte hc
    exact ⟨eval_hasAttr_congr re.faithful (fun _ _ => rfl),
      ⟨re.kinds, fun v hv => kind_matches hm ge (re.faithful ▸ hv)⟩,
      fun hok => eval_hasAttr_congr (re.slice hok.hasAttr) (fun _ _ => rfl)⟩
  | .like e p => fun hf hb caps te h hc => by
    unfold InFragmentM at hf
    obtain ⟨te', hae, rfl⟩ := annotate_like_ok h
    have re : Res n env w te' e := annot_resCore basic hWF henv hp e hf (by simpa only [InFragment] using hb) caps te' hae hc
    exact ⟨eval_like_congr re.faithful, re.kinds, fun hok => eval_like_congr (re.slice hok.like)⟩
  | .is e ty => fun hf hb caps te h hc => by
    unfold InFragmentM at hf
    obtain ⟨te', hae, rfl⟩ := annotate_is_ok h
    have re : Res n env w te' e := annot_resCore basic hWF henv hp e hf (by simpa only [InFragment] using hb) caps te' hae hc
    exact ⟨eval_is_congr re.faithful, re.kinds, fun hok => eval_is_congr (re.slice hok.is)⟩
  | .set xs => fun hf hb caps te h hc => by
    simp only [InFragmentM, Bool.and_eq_true] at hf
    obtain ⟨ts, hl, rfl⟩ := annotate_set_ok h
    have r : ResList n env w ts xs := annot_resCoreList basic hWF henv hp (not_basic hb rfl) xs hf.1 caps ts hl hc
    exact ⟨eval_set_congr r.faithful, r.kinds, fun hok => eval_set_congr (r.slice hok.set)⟩
  | .record kvs => fun hf hb caps te h hc => by
    simp only [InFragmentM, Bool.and_eq_true] at hf
    obtain ⟨ts, hl, rfl⟩ := annotate_record_ok h
    have r : ResKVs n env w ts kvs := annot_resCoreKVs basic hWF henv hp (not_basic hb rfl) kvs hf.1 caps ts hl hc
    exact ⟨eval_record_congr r.faithful, r.kinds, fun hok => eval_record_congr (r.slice hok.record)⟩
theorem annot_resCoreList (basic : Bool) (hWF : SchemaWF s) (henv : EnvMatches s env w.q) (hp : Premises basic s env w)
    (hnb : basic = false) :
    ∀ (es : List Expr), InFragmentMList m env es = true → ∀ (caps : Capabilities) (ts : List TExpr),
      annotateList m s env es caps = .ok ts → CapsHold w caps → ResList n env w ts es
  | [] => fun _ caps ts h _ => by cases h; exact ⟨rfl, trivial, fun _ => rfl⟩
  | e :: es => fun hf caps ts h hc => by
    simp only [InFragmentMList, Bool.and_eq_true] at hf
    obtain ⟨t, ts', h1, h2, rfl⟩ := annotateList_cons_ok h
    have r1 : Res n env w t e := annot_resCore basic hWF henv hp e hf.1 (fun h => by rw [hnb] at h; cases h) caps t h1 hc
    have r2 : ResList n env w ts' es := annot_resCoreList basic hWF henv hp hnb es hf.2 caps ts' h2 hc
    exact ⟨evaluateList_cons_congr r1.faithful r2.faithful, ⟨r1.kinds, r2.kinds⟩,
      fun hok => evaluateList_cons_congr (r1.slice hok.cons.1) (r2.slice hok.cons.2)⟩
theorem annot_resCoreKVs (basic : Bool) (hWF : SchemaWF s) (henv : EnvMatches s env w.q) (hp : Premises basic s env w)
    (hnb : basic = false) :
    ∀ (es : List (String × Expr)), InFragmentMKVs m env es = true → ∀ (caps : Capabilities) (ts : List (String × TExpr)),
      annotateKVs m s env es caps = .ok ts → CapsHold w caps → ResKVs n env w ts es
  | [] => fun _ caps ts h _ => by cases h; exact ⟨rfl, trivial, fun _ => rfl⟩
  | (k, e) :: es => fun hf caps ts h hc => by
    simp only [InFragmentMKVs, Bool.and_eq_true] at hf
    obtain ⟨t, ts', h1, h2, rfl⟩ := annotateKVs_cons_ok h
    have r1 : Res n env w t e := annot_resCore basic hWF henv hp e hf.1 (fun h => by rw [hnb] at h; cases h) caps t h1 hc
    have r2 : ResKVs n env w ts' es := annot_resCoreKVs basic hWF henv hp hnb es hf.2 caps ts' h2 hc
    exact ⟨evaluateKVs_cons_congr r1.faithful r2.faithful, ⟨r1.kinds, r2.kinds⟩,
      fun hok => evaluateKVs_cons_congr (r1.slice hok.cons.1) (r2.slice hok.cons.2)⟩
end

theorem annot_res (hWF : SchemaWF2 s) (henv : EnvMatches s env w.q) (hs : Sem s env w) :
    ∀ (e : Expr), InFragmentM m env e = true → ∀ (caps : Capabilities) (te : TExpr),
      annotate m s env e caps = .ok te → CapsHold w caps → Res n env w te e :=
  fun e hf => annot_resCore false hWF.toSchemaWF henv (Sem.premises hWF hs) e hf nofun

theorem annot_resList (hWF : SchemaWF2 s) (henv : EnvMatches s env w.q) (hs : Sem s env w) :
    ∀ (es : List Expr), InFragmentMList m env es = true → ∀ (caps : Capabilities) (ts : List TExpr),
      annotateList m s env es caps = .ok ts → CapsHold w caps → ResList n env w ts es :=
  annot_resCoreList false hWF.toSchemaWF henv (Sem.premises hWF hs) rfl

theorem annot_resKVs (hWF : SchemaWF2 s) (henv : EnvMatches s env w.q) (hs : Sem s env w) :
    ∀ (es : List (String × Expr)), InFragmentMKVs m env es = true → ∀ (caps : Capabilities) (ts : List (String × TExpr)),
      annotateKVs m s env es caps = .ok ts → CapsHold w caps → ResKVs n env w ts es :=
  annot_resCoreKVs false hWF.toSchemaWF henv (Sem.premises hWF hs) rfl

/-- literals, variables, `.`/`has` chains on entities and records, `!`, unary `-`, `+ - *`, `==`, `like`, `is`
(no `&&`, `||`, `if`: every subexpression is typed under the same capabilities) -/
def CF : Expr → Bool
  | .lit _ => true
  | .var _ => true
  | .unaryApp op a => (op == .not || op == .neg) && CF a
  | .binaryApp op a b => (op == .add || op == .sub || op == .mul || op == .eq) && CF a && CF b
  | .getAttr e _ => CF e
  | .hasAttr e _ => CF e
  | .like e _ => CF e
  | .is e _ => CF e
  | _ => false

theorem CF_inFragment : ∀ (e : Expr), CF e = true → InFragment e = true
  | .lit _ => fun _ => rfl
  | .var _ => fun _ => rfl
  | .unaryApp op a => fun h => by
      simp only [CF, InFragment, Bool.and_eq_true] at h ⊢
      exact ⟨h.1, CF_inFragment a h.2⟩
  | .binaryApp op a b => fun h => by
      simp only [CF, InFragment, Bool.and_eq_true] at h ⊢
      exact ⟨⟨h.1.1, CF_inFragment a h.1.2⟩, CF_inFragment b h.2⟩
  | .getAttr e _ => CF_inFragment e
  | .hasAttr e _ => CF_inFragment e
  | .like e _ => CF_inFragment e
  | .is e _ => CF_inFragment e
  | .slot _ => fun h => by cases h
  | .unknown _ _ => fun h => by cases h
  | .ite _ _ _ => fun h => by cases h
  | .and _ _ => fun h => by cases h
  | .or _ _ => fun h => by cases h
  | .call _ _ => fun h => by cases h
  | .set _ => fun h => by cases h
  | .record _ => fun h => by cases h

end Cedar.Level
