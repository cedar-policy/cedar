import CedarVerif.Lemmas.TCEdit
/-
C04: the second loop of `upsert_entities` (`upsertApply`) for batches of ANY length whose
uids are PAIRWISE DISTINCT — which the repaired code guarantees by deduping the collection first (TCDedup.lean).
(With a repeated uid the loop leaves stale ancestors — the defect of the code before /repo's fix, see
`upsert_multi_repeated_uid_counterexample` in Thm/C04.lean; the step `SInv.step` needs `u ∉ R` exactly
where the second overwrite of `u` would strip the *new* parents of `u` instead of its original ancestors.)
Overwriting a record invalidates its uid in the sense of TCEdit.lean (`upsNode_stripped`), a uid without record is
inserted (`SInv.insert`). The intermediate stores are not closed; at the end `SInv` and `Frame` (which holds for any
batch) give what `finish_spec` needs.
-/
namespace Cedar.TC
set_option linter.unusedSectionVars false

variable {α : Type} [DecidableEq α]

def upsNode (u : α) (oa : List α) (x : α) (n : Node α) : Node α :=
  if x ≠ u ∧ u ∈ n.out then stripUpsert u oa n else n

theorem upsNode_parents (u : α) (oa : List α) (x : α) (n : Node α) : (upsNode u oa x n).parents = n.parents := by
  unfold upsNode; split <;> rfl

theorem mem_upsNode_indirect (u : α) (oa : List α) (x : α) (n : Node α) (hx : x ≠ u) (y : α) :
    y ∈ (upsNode u oa x n).indirect ↔ y ∈ n.indirect ∧ (u ∈ n.out → y ≠ u ∧ y ∉ oa) := by
  unfold upsNode
  by_cases hu : u ∈ n.out
  · rw [if_pos ⟨hx, hu⟩]
    simp only [stripUpsert, List.mem_filter, Bool.and_eq_true, decide_eq_true_eq, hu, true_imp_iff]
  · rw [if_neg (fun h => hu h.2)]
    simp only [hu, false_imp_iff, and_true]

theorem get_upsertOne {s : Store α} {t : List α} {e : α × Node α} {old : Node α} (h : get s e.1 = some old)
    (x : α) : get (upsertOne (s, t) e).1 x =
      if x = e.1 then some e.2 else (get s x).map (upsNode e.1 old.out x) := by
  have hm := get_map_node s (fun kn => if kn.1 ≠ e.1 ∧ e.1 ∈ kn.2.out then (kn.1, stripUpsert e.1 old.out kn.2) else kn)
    (upsNode e.1 old.out) (fun kn => by unfold upsNode; split <;> rfl)
  simp only [upsertOne, h]
  rw [get_set, hm, hm, h]
  rfl

theorem upsertOne_touched {s : Store α} {t : List α} {e : α × Node α} {old : Node α} (h : get s e.1 = some old) :
    (upsertOne (s, t) e).2 =
      tinsert e.1 (s.foldl (fun t kn => if kn.1 ≠ e.1 ∧ e.1 ∈ kn.2.out then tinsert kn.1 t else t) t) := by
  simp only [upsertOne, h]

theorem upsertOne_frame {s0 : Store α} {st : Store α × List α} (e : α × Node α)
    (h : Frame s0 st.1 st.2) : Frame s0 (upsertOne st e).1 (upsertOne st e).2 := by
  obtain ⟨s, t⟩ := st
  cases hold : get s e.1 with
  | none =>
    simp only [upsertOne, hold]
    intro x n hx hxt
    have hxt' : x ∉ t := fun h' => hxt (tinsert_sub _ _ _ h')
    have hxe : e.1 ≠ x := fun h' => hxt (h' ▸ tinsert_self _ _)
    rw [get_append_single] at hx
    cases hgx : get s x with
    | none => rw [hgx] at hx; simp [hxe] at hx
    | some m => rw [hgx] at hx; cases hx; exact h x _ hgx hxt'
  | some old =>
    rw [upsertOne_touched hold]
    intro x n hx hxt
    have hk1 : x ≠ e.1 := fun e' => hxt (e' ▸ tinsert_self _ _)
    have hk2 := foldl_tinsert_untouched (fun kn => kn.1 ≠ e.1 ∧ e.1 ∈ kn.2.out) s t x
      (fun h' => hxt (tinsert_sub _ _ _ h'))
    rw [get_upsertOne hold, if_neg hk1] at hx
    obtain ⟨m, hg, rfl⟩ := Option.map_eq_some_iff.mp hx
    have hun : e.1 ∉ m.out := fun hu => hk2.2 m (get_some_mem hg) ⟨hk1, hu⟩
    have hnn : upsNode e.1 old.out x m = m := by unfold upsNode; simp [hun]
    rw [hnn]
    exact h x m hg hk2.1

theorem upsertFold_frame {s0 : Store α} (es : List (α × Node α)) (st : Store α × List α)
    (h : Frame s0 st.1 st.2) : Frame s0 (es.foldl upsertOne st).1 (es.foldl upsertOne st).2 :=
  List.foldlRecOn (motive := fun (st : Store α × List α) => Frame s0 st.1 st.2) es upsertOne h fun _ h e _ => upsertOne_frame e h

theorem upsNode_stripped (u : α) (oa : List α) (x : α) (n : Node α) (hx : x ≠ u) :
    Stripped u oa False n (upsNode u oa x n) :=
  ⟨fun _ hy => upsNode_parents u oa x n ▸ hy, fun _ hy => Or.inl ((upsNode_parents u oa x n).symm ▸ hy),
    mem_upsNode_indirect u oa x n hx⟩

theorem SInv.upsertOne {s0 s : Store α} {R t : List α} (h0 : StoreInv s0) (h : SInv s0 R s) (e : α × Node α)
    (hpure : e.2.indirect = []) (huR : e.1 ∉ R) : SInv s0 (e.1 :: R) (upsertOne (s, t) e).1 := by
  cases hu : get s e.1 with
  | none =>
    refine h.insert hu huR ?_ ?_
    · exact ⟨e.2, by simp only [Cedar.TC.upsertOne, hu, get_append_single, if_true], hpure⟩
    · intro x hx
      simp only [Cedar.TC.upsertOne, hu, get_append_single]
      cases get s x with
      | some m => rfl
      | none => exact if_neg (Ne.symm hx)
  | some old =>
    have G := fun x => get_upsertOne (t := t) hu x
    refine h.step h0 hu huR (del := False) False.elim (fun _ => ⟨e.2, by rw [G, if_pos rfl], hpure⟩) ?_ ?_
    · intro x n hxu hn
      exact ⟨upsNode e.1 old.out x n, by rw [G, if_neg hxu, hn]; rfl⟩
    · intro x n' hxu hx
      rw [G, if_neg hxu] at hx
      obtain ⟨n, hn, rfl⟩ := Option.map_eq_some_iff.mp hx
      exact ⟨n, hn, upsNode_stripped e.1 old.out x n hxu⟩

theorem SInv.upsertFold {s0 : Store α} (h0 : StoreInv s0) : ∀ (es : List (α × Node α)) (s : Store α) (t R : List α),
    SInv s0 R s → PureBatch es → (es.map (·.1)).Nodup → (∀ e, e ∈ es → e.1 ∉ R) →
    ∃ R', SInv s0 R' (es.foldl Cedar.TC.upsertOne (s, t)).1 := by
  intro es
  induction es with
  | nil => intro s t R h _ _ _; exact ⟨R, h⟩
  | cons e es ih =>
    intro s t R h hp hnd hR
    simp only [List.map_cons, List.nodup_cons] at hnd
    refine ih _ _ (e.1 :: R) (h.upsertOne h0 e (hp e List.mem_cons_self) (hR e List.mem_cons_self))
      (fun e' he' => hp e' (List.mem_cons_of_mem _ he')) hnd.2 ?_
    intro e' he'
    simp only [List.mem_cons, not_or]
    exact ⟨fun heq => hnd.1 (heq ▸ List.mem_map_of_mem (f := (·.1)) he'), hR e' (List.mem_cons_of_mem _ he')⟩

def specUpsertOne (g : PGraph α) (e : α × Node α) : PGraph α :=
  match PGraph.get g e.1 with
  | some _ => PGraph.set g e.1 e.2.parents
  | none => g ++ [(e.1, e.2.parents)]

theorem specUpsert_cons (g : PGraph α) (e : α × Node α) (es : List (α × Node α)) :
    specUpsert g (e :: es) = specUpsert (specUpsertOne g e) es := by
  simp only [specUpsert, specUpsertOne]
  cases PGraph.get g e.1 <;> rfl

theorem pg_upsertOne (st : Store α × List α) (e : α × Node α) :
    parentGraph (upsertOne st e).1 = specUpsertOne (parentGraph st.1) e := by
  obtain ⟨s, t⟩ := st
  unfold specUpsertOne
  cases hu : get s e.1 with
  | none =>
    have : PGraph.get (parentGraph s) e.1 = none := by rw [pg_get]; simp [shape, hu]
    simp only [upsertOne, hu, this]
    simp [parentGraph]
  | some old =>
    have hpg : PGraph.get (parentGraph s) e.1 = some old.parents := by rw [pg_get]; exact shape_some hu
    simp only [upsertOne, hu, hpg]
    rw [pg_set]
    congr 1
    simp only [parentGraph, List.map_map]
    apply List.map_congr_left
    intro kn _
    simp only [Function.comp]
    split <;> rfl

theorem pg_upsertFold (es : List (α × Node α)) : ∀ st : Store α × List α,
    parentGraph (es.foldl upsertOne st).1 = specUpsert (parentGraph st.1) es := by
  induction es with
  | nil => intro st; rfl
  | cons e es ih => intro st; rw [List.foldl_cons, ih, pg_upsertOne, specUpsert_cons]

theorem upsertApply_spec (s : Store α) (es : List (α × Node α)) (hinv : StoreInv s) (hp : PureBatch es)
    (hnd : (es.map (·.1)).Nodup) :
    (∀ s', upsertApply .compute s es = .ok s' → StoreInv s' ∧ parentGraph s' = specUpsert (parentGraph s) es) ∧
    (∀ e, upsertApply .compute s es = .error e ↔
      (e = .cycle ∧ ∃ x, Reach (PGraph.get (specUpsert (parentGraph s) es)) x x)) := by
  obtain ⟨R', hR'⟩ := SInv.upsertFold hinv es s [] [] (SInv.init s) hp hnd (fun _ _ h => by cases h)
  have h := finish_spec true hinv (hR'.sound hinv) (hR'.disjoint hinv)
    (upsertFold_frame es (s, []) fun _ _ hx _ => hx) (fun h => nomatch h)
  rw [pg_upsertFold, ← pg_get_fun, pg_upsertFold] at h
  exact h

end Cedar.TC
