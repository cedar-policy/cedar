import CedarVerif.Lemmas.Auth
import CedarVerif.Lemmas.ManifestLit
/-
The induction over expressions, once for both fragments.  `SimG req es 𝔭 e te`: `te` is a typed AST of `e` over the full
store, where the operands that must reach their operator unchanged satisfy the premises `𝔭`.  `eval_simG`: if the premises
are sound for a pair of stores (`Premises.Sound`: they make the operator answer alike over both), a covering sub-store
evaluates `e` as the full store does.  Two instances: `Premises.core` (no literals, so the slice's value is a trimmed copy
of the store's, `Trim`; `==` does not compare records and `contains` does not look for one — `Sim`, `eval_sliced`) and
`Premises.typed` (operands have the annotated type, the analysis requests it in full and key-sorted stores hold it whole,
`full_eq` — reached from the inductive `SimL` of ManifestLit.lean, which has the constructors of `SimG … .typed`, through
`simG_of_simL`; `eval_simL`).
-/
namespace Cedar.Manifest
open Cedar Cedar.C03

structure Premises where
  /-- record / set literal nodes are allowed; without them the slice's value is a trimmed copy of the store's -/
  lit : Bool
  /-- operands of `< <= + - *`, arguments of extension functions -/
  prim : Result Value → Prop
  /-- the two operands of `== in contains containsAll containsAny`, with the annotated types -/
  full : BinaryOp → Result Value → Option CedarType → Result Value → Option CedarType → Prop
  /-- the operand of `isEmpty`, with the annotated type -/
  isEmpty : Result Value → Option CedarType → Prop

structure GRel (lit : Bool) (es es' : Entities) (req : Request) (P : WPaths) (v v' : Value) : Prop where
  vrel : VRel es es' req P v v'
  trim : lit = false → Trim v' v

inductive SimG (req : Request) (es : Entities) (𝔭 : Premises) : Expr → TExpr → Prop
  | lit (p : Prim) : SimG req es 𝔭 (.lit p) (.lit p)
  | var (x : Var) : SimG req es 𝔭 (.var x) (.var x)
  | ite {c t e : Expr} {tc tt te : TExpr} : SimG req es 𝔭 c tc →
      (evaluate req es [] c = .ok (.prim (.bool true)) → SimG req es 𝔭 t tt) →
      (evaluate req es [] c = .ok (.prim (.bool false)) → SimG req es 𝔭 e te) → SimG req es 𝔭 (.ite c t e) (.ite tc tt te)
  | iteTrue {c t e : Expr} {tc tt : TExpr} : SimG req es 𝔭 c tc →
      (∀ v, evaluate req es [] c = .ok v → v = .prim (.bool true)) →
      (evaluate req es [] c = .ok (.prim (.bool true)) → SimG req es 𝔭 t tt) → SimG req es 𝔭 (.ite c t e) (.ite tc tt tt)
  | iteFalse {c t e : Expr} {tc te : TExpr} : SimG req es 𝔭 c tc →
      (∀ v, evaluate req es [] c = .ok v → v = .prim (.bool false)) →
      (evaluate req es [] c = .ok (.prim (.bool false)) → SimG req es 𝔭 e te) → SimG req es 𝔭 (.ite c t e) (.ite tc te te)
  | and {a b : Expr} {ta tb : TExpr} : SimG req es 𝔭 a ta →
      (evaluate req es [] a = .ok (.prim (.bool true)) → SimG req es 𝔭 b tb) → SimG req es 𝔭 (.and a b) (.and ta tb)
  | andFalse {a b : Expr} {ta : TExpr} : SimG req es 𝔭 a ta →
      (∀ v, evaluate req es [] a = .ok v → v = .prim (.bool false)) → SimG req es 𝔭 (.and a b) ta
  | or {a b : Expr} {ta tb : TExpr} : SimG req es 𝔭 a ta →
      (evaluate req es [] a = .ok (.prim (.bool false)) → SimG req es 𝔭 b tb) → SimG req es 𝔭 (.or a b) (.or ta tb)
  | orTrue {a b : Expr} {ta : TExpr} : SimG req es 𝔭 a ta →
      (∀ v, evaluate req es [] a = .ok v → v = .prim (.bool true)) → SimG req es 𝔭 (.or a b) ta
  | unary (op : UnaryOp) (ty : Option CedarType) {a : Expr} {ta : TExpr} : SimG req es 𝔭 a ta →
      (op = .isEmpty → 𝔭.isEmpty (evaluate req es [] a) ty) → SimG req es 𝔭 (.unaryApp op a) (.unaryApp op ty ta)
  | arith (op : BinaryOp) (ty1 ty2 : Option CedarType) {a b : Expr} {ta tb : TExpr} : ArithOp op →
      SimG req es 𝔭 a ta → SimG req es 𝔭 b tb → 𝔭.prim (evaluate req es [] a) → 𝔭.prim (evaluate req es [] b) →
      SimG req es 𝔭 (.binaryApp op a b) (.binaryApp op ty1 ty2 ta tb)
  | full (op : BinaryOp) (ty1 ty2 : Option CedarType) {a b : Expr} {ta tb : TExpr} : FullOp op →
      SimG req es 𝔭 a ta → SimG req es 𝔭 b tb → 𝔭.full op (evaluate req es [] a) ty1 (evaluate req es [] b) ty2 →
      SimG req es 𝔭 (.binaryApp op a b) (.binaryApp op ty1 ty2 ta tb)
  | getAttr (attr : String) {e : Expr} {te : TExpr} : SimG req es 𝔭 e te → SimG req es 𝔭 (.getAttr e attr) (.getAttr te attr)
  | hasAttr (attr : String) {e : Expr} {te : TExpr} : SimG req es 𝔭 e te → SimG req es 𝔭 (.hasAttr e attr) (.hasAttr te attr)
  | like (p : Pattern) {e : Expr} {te : TExpr} : SimG req es 𝔭 e te → SimG req es 𝔭 (.like e p) (.like te p)
  | is (ty : EntityType) {e : Expr} {te : TExpr} : SimG req es 𝔭 e te → SimG req es 𝔭 (.is e ty) (.is te ty)
  | call1 (fn : String) {a : Expr} {ta : TExpr} : SimG req es 𝔭 a ta → 𝔭.prim (evaluate req es [] a) →
      (∀ w, evaluate req es [] (.call fn [a]) = .ok w → Scalar w) → SimG req es 𝔭 (.call fn [a]) (.call fn [ta])
  | call2 (fn : String) {a b : Expr} {ta tb : TExpr} : SimG req es 𝔭 a ta → SimG req es 𝔭 b tb →
      𝔭.prim (evaluate req es [] a) → 𝔭.prim (evaluate req es [] b) →
      (∀ w, evaluate req es [] (.call fn [a, b]) = .ok w → Scalar w) → SimG req es 𝔭 (.call fn [a, b]) (.call fn [ta, tb])
  | set {xs : List Expr} {txs : List TExpr} : 𝔭.lit = true → xs.length = txs.length →
      (∀ x tx, (x, tx) ∈ xs.zip txs → SimG req es 𝔭 x tx) → SimG req es 𝔭 (.set xs) (.set txs)
  | record {kvs : List (String × Expr)} {tkvs : List (String × TExpr)} : 𝔭.lit = true → (kvs.map (·.1)).Nodup →
      kvs.map (·.1) = tkvs.map (·.1) →
      (∀ x tx, (x, tx) ∈ (kvs.map (·.2)).zip (tkvs.map (·.2)) → SimG req es 𝔭 x tx) → SimG req es 𝔭 (.record kvs) (.record tkvs)

/-- the premises make a covering sub-store hold the operand whole (`prim`), or as far as the operator looks (`full`,
`isEmpty`; for `in`, given that the two stores answer it alike on the store's operands) -/
structure Premises.Sound (𝔭 : Premises) (es es' : Entities) (req : Request) : Prop where
  prim : ∀ {r : Result Value} {P : WPaths} {v v' : Value}, 𝔭.prim r → r = .ok v → GRel 𝔭.lit es es' req P v v' → v' = v
  full : ∀ {op : BinaryOp} {ra rb : Result Value} {ty1 ty2 : Option CedarType} {P Q : WPaths} {τ1 τ2 : CedarType}
    {t1 t2 : RootAccessTrie} {v v' w w' : Value}, FullOp op → 𝔭.full op ra ty1 rb ty2 → ty1 = some τ1 → ty2 = some τ2 →
    P.fullTypeRequired τ1 = .ok t1 → Q.fullTypeRequired τ2 = .ok t2 → CoverRoots es es' req t1 → CoverRoots es es' req t2 →
    ra = .ok v → rb = .ok w → GRel 𝔭.lit es es' req P v v' → GRel 𝔭.lit es es' req Q w w' →
    (op = .mem → applyBinary es' .mem v w = applyBinary es .mem v w) →
    applyBinary es' op v' w' = applyBinary es op v w
  isEmpty : ∀ {r : Result Value} {ty : Option CedarType} {P : WPaths} {τ : CedarType} {t : RootAccessTrie} {v v' : Value},
    𝔭.isEmpty r ty → ty = some τ → P.fullTypeRequired τ = .ok t → CoverRoots es es' req t → r = .ok v →
    GRel 𝔭.lit es es' req P v v' → applyUnary .isEmpty v' = applyUnary .isEmpty v

def Premises.core : Premises :=
  ⟨false, NonRec, fun op ra _ rb _ => (op = .eq → NonRec ra ∧ NonRec rb) ∧ (op = .contains → NonRec rb), fun _ _ => True⟩

def Premises.typed : Premises := ⟨true, ScalarRes, fun _ ra ty1 rb ty2 => TypedRes ra ty1 ∧ TypedRes rb ty2, TypedRes⟩

abbrev Sim (req : Request) (es : Entities) : Expr → TExpr → Prop := SimG req es .core

section
variable {es es' : Entities} {req : Request}

theorem Premises.core_sound : Premises.core.Sound es es' req where
  prim hn hv h := trim_nonrecord (h.trim rfl) fun kvs e => hn kvs (by rw [hv, e])
  full hop hn _ _ _ _ _ _ hv hw h h' hmem :=
    applyBinary_trim es es' hop.frag (h.trim rfl) (h'.trim rfl)
      (fun e => ⟨fun kvs e' => (hn.1 e).1 kvs (by rw [hv, e']), fun kvs e' => (hn.1 e).2 kvs (by rw [hw, e'])⟩)
      (fun e kvs e' => hn.2 e kvs (by rw [hw, e'])) hmem
  isEmpty _ _ _ _ _ h := applyUnary_trim .isEmpty (h.trim rfl)

theorem Premises.typed_sound (hsub : SubStore es es') (hst : SortedStore es) (hst' : SortedStore es')
    (hreq : SortedReq req) : Premises.typed.Sound es es' req where
  prim hs hv h := vrel_scalar h.vrel (hs _ hv)
  full := fun {op} _ _ _ _ _ _ _ _ _ _ _ _ _ _ hop ⟨⟨_, e1, hcn1, htyp1⟩, ⟨_, e2, hcn2, htyp2⟩⟩ hty1 hty2 hp1 hp2 hc1 hc2 hv hw h h' hmem => by
    cases hty1.symm.trans e1
    cases hty2.symm.trans e2
    rw [full_eq hsub hst hst' hreq _ _ _ _ _ hcn1 hp1 hc1 h.vrel (htyp1 _ hv),
      full_eq hsub hst hst' hreq _ _ _ _ _ hcn2 hp2 hc2 h'.vrel (htyp2 _ hw)]
    by_cases hm : op = .mem
    · subst hm; exact hmem rfl
    · exact applyBinary_nonmem es es' op hop.frag hm _ _
  isEmpty := fun ⟨_, e, hcn, htyp⟩ hty hp hc hv h => by
    cases hty.symm.trans e
    rw [full_eq hsub hst hst' hreq _ _ _ _ _ hcn hp hc h.vrel (htyp _ hv)]

theorem GRel.mono {lit : Bool} {P Q : WPaths} {v v' : Value} (h : GRel lit es es' req P v v')
    (hpq : VRel es es' req P v v' → VRel es es' req Q v v') : GRel lit es es' req Q v v' :=
  ⟨hpq h.vrel, h.trim⟩

/-- `.a` on related values: the paths' part is `get_has_vrel`, the trimmed-copy part is `step_trim` -/
theorem get_grel (hsub : SubStore es es') (hctx : CtxWF req) {lit : Bool} {a : String} {P P' : WPaths} {v v' : Value}
    (hp : P.getOrHasAttr a = .ok P') (hcov : PathsCov es es' req false [] P') (h : GRel lit es es' req P v v') :
    ResRel (GRel lit es es' req P') (Tpe.getAttrV es a v) (Tpe.getAttrV es' a v') := by
  rcases (get_has_vrel hsub hctx a P P' v v' hp h.vrel hcov).2.cases with ⟨x, _, e1, e2, rfl⟩ | ⟨w, w', e1, e2, hw⟩
  · rw [e1, e2]; rfl
  · rw [e1, e2]
    refine ⟨hw, fun hl => ?_⟩
    obtain ⟨w0, h1, h2⟩ := step_trim hsub (h.trim hl) a (getAttrV_step e2)
    rw [getAttrV_step e1] at h1
    cases h1
    exact h2

theorem eval_simG (hsub : SubStore es es') (hctx : CtxWF req) {𝔭 : Premises} (hs : 𝔭.Sound es es' req)
    {e : Expr} {te : TExpr} (hsim : SimG req es 𝔭 e te) :
    ∀ (r : Res), manifestOfExpr te = .ok r → CoverRoots es es' req r.global →
      ResRel (GRel 𝔭.lit es es' req r.paths) (evaluate req es [] e) (evaluate req es' [] e) := by
  have hbool : ∀ {P : WPaths} (v v' : Value), GRel 𝔭.lit es es' req P v v' → v'.asBool = v.asBool :=
    fun _ _ h => vrel_asBool h.vrel
  have hempty : ∀ w, Scalar w → GRel 𝔭.lit es es' req .empty w w := fun _ h => ⟨⟨h, rfl⟩, fun _ => trim_scalar h⟩
  have hpair : ∀ w, Scalar w → GRel 𝔭.lit es es' req (.union .empty .empty) w w :=
    fun _ h => (hempty _ h).mono Or.inl
  induction hsim with
  | lit p =>
    intro r hm _
    simp only [evaluate]
    refine ⟨?_, fun _ => by simp [Trim]⟩
    unfold manifestOfExpr at hm
    cases p <;> simp only [Except.ok.injEq] at hm <;> subst hm <;>
      simp [VRel, walk, rootVal, Trim, Scalar, Res.fromRoot, Res.default]
  | var x =>
    intro r hm _
    unfold manifestOfExpr at hm
    simp only [Except.ok.injEq] at hm
    subst hm
    simp only [rootVal_var]
    exact ⟨⟨rfl, rfl, trim_rootVal hctx (.var x)⟩, fun _ => trim_rootVal hctx (.var x)⟩
  | @ite c t e tc tt te _ _ _ ihc iht ihe =>
    intro r hm hc
    obtain ⟨rc, rt, re, h1, h2, h3, hp, hc1, hc2, hc3⟩ := manifest_ite hm hc
    rw [hp]
    exact resRel_ite hbool (ihc rc h1 hc1) (fun hv => (iht hv rt h2 hc2).mono fun _ _ h => h.mono fun h => Or.inl (Or.inr h))
      (fun hv => (ihe hv re h3 hc3).mono fun _ _ h => h.mono Or.inr)
  | @iteTrue c t e tc tt _ htrue _ ihc iht =>
    intro r hm hc
    obtain ⟨rc, rt, _, h1, h2, _, hp, hc1, hc2, _⟩ := manifest_ite hm hc
    rw [hp]
    exact resRel_ite hbool (ihc rc h1 hc1) (fun hv => (iht hv rt h2 hc2).mono fun _ _ h => h.mono fun h => Or.inl (Or.inr h))
      (fun hv => nomatch htrue _ hv)
  | @iteFalse c t e tc te _ hfalse _ ihc ihe =>
    intro r hm hc
    obtain ⟨rc, _, re, h1, _, h3, hp, hc1, _, hc3⟩ := manifest_ite hm hc
    rw [hp]
    exact resRel_ite hbool (ihc rc h1 hc1) (fun hv => nomatch hfalse _ hv)
      (fun hv => (ihe hv re h3 hc3).mono fun _ _ h => h.mono Or.inr)
  | @and a b ta tb _ _ iha ihb =>
    intro r hm hc
    unfold manifestOfExpr at hm
    obtain ⟨ra, rb, h1, h2, hp, hc1, hc2⟩ := primPair_ok hm hc
    rw [hp]
    exact resRel_and hbool hbool (fun b => hpair _ (scalar_bool b)) (iha ra h1 hc1) (fun hv => ihb hv rb h2 hc2)
  | @andFalse a b ta _ hfalse iha =>
    intro r hm hc
    exact resRel_short (s := false) (fun _ _ h => vrel_prim h.vrel) hfalse (iha r hm hc)
  | @or a b ta tb _ _ iha ihb =>
    intro r hm hc
    unfold manifestOfExpr at hm
    obtain ⟨ra, rb, h1, h2, hp, hc1, hc2⟩ := primPair_ok hm hc
    rw [hp]
    exact resRel_or hbool hbool (fun b => hpair _ (scalar_bool b)) (iha ra h1 hc1) (fun hv => ihb hv rb h2 hc2)
  | @orTrue a b ta _ htrue iha =>
    intro r hm hc
    exact resRel_short (s := true) (fun _ _ h => vrel_prim h.vrel) htrue (iha r hm hc)
  | @unary op ty a ta _ hE iha =>
    intro r hm hc
    obtain ⟨ra, h1, hp, hc1, hfull⟩ := manifest_unary hm hc
    rw [hp]
    refine resRel_unary (fun v v' hv h => ?_) hempty (iha ra h1 hc1)
    by_cases hop : op = .isEmpty
    · obtain ⟨τ, p, eτ, hpτ, hcp⟩ := hfull hop
      subst hop
      exact hs.isEmpty (hE rfl) eτ hpτ hcp hv h
    · exact applyUnary_vrel op hop h.vrel
  | @arith op ty1 ty2 a b ta tb hop _ _ hsa hsb iha ihb =>
    intro r hm hc
    obtain ⟨ra, rb, h1, h2, hp, hc1, hc2⟩ := arith_manifest hop hm hc
    rw [hp]
    refine resRel_binaryApp hop.frag (iha ra h1 hc1) (ihb rb h2 hc2) (fun v v' w w' hv hw hrv hrw => ?_) hpair
    rw [hs.prim hsa hv hrv, hs.prim hsb hw hrw]
    exact applyBinary_nonmem es es' op hop.frag hop.ne_mem v w
  | @full op ty1 ty2 a b ta tb hop _ _ hta iha ihb =>
    intro r hm hc
    obtain ⟨ra, rb, t1, t2, p1, p2, h1, h2, et1, et2, hp1, hp2, hp, hc1, hc2, hcp1, hcp2, hmemcov⟩ :=
      full_manifest hop hm hc
    rw [hp]
    refine resRel_binaryApp hop.frag (iha ra h1 hc1) (ihb rb h2 hc2) (fun v v' w w' hv hw hrv hrw => ?_) hempty
    refine hs.full hop hta et1 et2 hp1 hp2 hcp1 hcp2 hv hw hrv hrw fun hmem => ?_
    apply applyMem_sliced
    intro u1 x e1 hx
    subst e1
    exact inE_sliced hsub hctx _ u1 x (anc_of_vrel x rb.paths [] w w' hrw.vrel hx) ra.paths
      (pcover_of_vrel_entity u1 ra.paths _ hrv.vrel) (hmemcov hmem)
  | @getAttr a e te _ ihe =>
    intro r hm hc
    obtain ⟨re, p', h1, hp, hpaths, hc1, hcov⟩ := manifest_attr (has := false) hm hc
    rw [hpaths]
    exact resRel_getAttr (fun _ _ h => get_grel hsub hctx hp hcov h) (ihe re h1 hc1)
  | @hasAttr a e te _ ihe =>
    intro r hm hc
    obtain ⟨re, p', h1, hp, hpaths, hc1, hcov⟩ := manifest_attr (has := true) hm hc
    rw [hpaths]
    exact resRel_hasAttr (fun v v' h => (get_has_vrel hsub hctx a re.paths p' v v' hp h.vrel hcov).1) hempty (ihe re h1 hc1)
  | @like p e te _ ihe =>
    intro r hm hc
    obtain ⟨re, h1, rfl⟩ := manifest_test (.inl ⟨p, rfl⟩) hm
    exact resRel_like (fun _ _ h => vrel_asString h.vrel) hempty (ihe re h1 hc)
  | @is ty e te _ ihe =>
    intro r hm hc
    obtain ⟨re, h1, rfl⟩ := manifest_test (.inr ⟨ty, rfl⟩) hm
    exact resRel_is (fun _ _ h => vrel_asEntity h.vrel) hempty (ihe re h1 hc)
  | @call1 fn a ta _ hna hscal iha =>
    intro r hm hc
    obtain ⟨ra, h1, hp, hc1⟩ := manifest_call1 hm hc
    rw [hp]
    refine resRel_call (fun x hx => ?_) (fun w hw => (hempty w (hscal w hw)).mono Or.inl)
    obtain rfl := List.mem_singleton.mp hx
    exact RRel.eq_of (iha ra h1 hc1) fun _ _ hv h => hs.prim hna hv h
  | @call2 fn a b ta tb _ _ hna hnb hscal iha ihb =>
    intro r hm hc
    obtain ⟨ra, rb, h1, h2, hp, hc1, hc2⟩ := manifest_call2 hm hc
    rw [hp]
    refine resRel_call (fun x hx => ?_) (fun w hw => (hempty w (hscal w hw)).mono fun h => Or.inl (Or.inl h))
    simp only [List.mem_cons, List.not_mem_nil, or_false] at hx
    rcases hx with rfl | rfl
    · exact RRel.eq_of (iha ra h1 hc1) fun _ _ hv h => hs.prim hna hv h
    · exact RRel.eq_of (ihb rb h2 hc2) fun _ _ hv h => hs.prim hnb hv h
  | @set xs txs hl hlen _ ih =>
    intro r hm hc
    have hnt : 𝔭.lit = false → False := fun h => by rw [hl] at h; cases h
    unfold manifestOfExpr at hm
    obtain ⟨r0, h1, hm⟩ := ok_of_match_res hm
    cases hm
    obtain ⟨_, _, hev⟩ := evalList_simL xs txs Res.default r0 hlen
      (fun x tx hx r hr hcr => (ih x tx hx r hr hcr).mono fun _ _ h => h.vrel) h1 hc
    rcases hev.cases with ⟨x, _, e1, e2, rfl⟩ | ⟨ws, ws', e1, e2, hr⟩
    · simp only [evaluate, e1, e2]; rfl
    simp only [evaluate, e1, e2]
    obtain ⟨g1, g2⟩ := allRel_idx ws ws' hr
    exact ⟨⟨ws, ws', rfl, rfl, g1, g2⟩, fun h => (hnt h).elim⟩
  | @record kvs tkvs hl hnd hkeys _ ih =>
    intro r hm hc
    have hnt : 𝔭.lit = false → False := fun h => by rw [hl] at h; cases h
    unfold manifestOfExpr at hm
    obtain ⟨g, ps, h1, hm⟩ := ok_of_match_record hm
    cases hm
    obtain ⟨hpk, hev⟩ := evalKVs_simL kvs tkvs g ps hkeys
      (fun x tx hx r hr hcr => (ih x tx hx r hr hcr).mono fun _ _ h => h.vrel) h1 hc
    rcases hev.cases with ⟨x, _, e1, e2, rfl⟩ | ⟨vs, vs', e1, e2, f2⟩
    · simp only [evaluate, e1, e2]; rfl
    simp only [evaluate, e1, e2]
    obtain ⟨k1, k2⟩ := kvRel_keys ps vs vs' f2
    have hndp : (ps.map (·.1)).Nodup := by rw [hpk]; exact hnd
    have hnd1 : (vs.map (·.1)).Nodup := by rw [k1]; exact hndp
    have hnd2 : (vs'.map (·.1)).Nodup := by rw [k2]; exact hndp
    have L1 : ∀ k, lookupKV (vs.foldl (fun acc kv => insertKV kv.1 kv.2 acc) []) k = lookupKV vs k := by
      intro k; rw [lookupKV_foldl_nodup k vs [] hnd1]; cases lookupKV vs k <;> simp [lookupKV]
    have L2 : ∀ k, lookupKV (vs'.foldl (fun acc kv => insertKV kv.1 kv.2 acc) []) k = lookupKV vs' k := by
      intro k; rw [lookupKV_foldl_nodup k vs' [] hnd2]; cases lookupKV vs' k <;> simp [lookupKV]
    refine ⟨⟨_, _, rfl, rfl, ksorted_foldl vs [] trivial, ksorted_foldl vs' [] trivial, ?_, ?_⟩, fun h => (hnt h).elim⟩
    · intro k hk
      have hnm : k ∉ ps.map (·.1) := by
        intro hmem
        obtain ⟨⟨k0, p0⟩, hm0, e0⟩ := List.mem_map.1 hmem
        simp only at e0; subst e0
        obtain ⟨p, hp⟩ := lookupW_some_of_mem ps k0 p0 hm0
        rw [hk] at hp; cases hp
      rw [L1, L2]
      exact ⟨lookupKV_none_iff.2 (by rw [k1]; exact hnm), lookupKV_none_iff.2 (by rw [k2]; exact hnm)⟩
    · exact vrelF_of_kvRel ps vs vs' f2 hndp _ _ (fun k w h => by rw [L1]; exact h) (fun k w h => by rw [L2]; exact h)

theorem simG_of_simL {e : Expr} {te : TExpr} (h : SimL req es e te) : SimG req es .typed e te := by
  induction h with
  | lit p => exact .lit p
  | var x => exact .var x
  | ite _ _ _ ihc iht ihe => exact .ite ihc iht ihe
  | iteTrue _ ht _ ihc iht => exact .iteTrue ihc ht iht
  | iteFalse _ hf _ ihc ihe => exact .iteFalse ihc hf ihe
  | and _ _ iha ihb => exact .and iha ihb
  | andFalse _ hf iha => exact .andFalse iha hf
  | or _ _ iha ihb => exact .or iha ihb
  | orTrue _ ht iha => exact .orTrue iha ht
  | unary op ty hne _ iha => exact .unary op ty iha fun e => absurd e hne
  | isEmpty ty _ hty iha => exact .unary .isEmpty ty iha fun _ => hty
  | arith op ty1 ty2 hop _ _ hsa hsb iha ihb => exact .arith op ty1 ty2 hop iha ihb hsa hsb
  | full op ty1 ty2 hop _ _ hta htb iha ihb => exact .full op ty1 ty2 hop iha ihb ⟨hta, htb⟩
  | getAttr a _ ih => exact .getAttr a ih
  | hasAttr a _ ih => exact .hasAttr a ih
  | like p _ ih => exact .like p ih
  | is ty _ ih => exact .is ty ih
  | call1 fn _ hna hs iha => exact .call1 fn iha hna hs
  | call2 fn _ _ hna hnb hs iha ihb => exact .call2 fn iha ihb hna hnb hs
  | set hlen _ ih => exact .set rfl hlen ih
  | record hnd hk _ ih => exact .record rfl hnd hk ih

theorem eval_simL (hsub : SubStore es es') (hst : SortedStore es) (hst' : SortedStore es') (hreq : SortedReq req)
    {e : Expr} {te : TExpr} (hsim : SimL req es e te) (r : Res) (hm : manifestOfExpr te = .ok r)
    (hc : CoverRoots es es' req r.global) : RelL es es' req r.paths (evaluate req es [] e) (evaluate req es' [] e) :=
  (eval_simG hsub (ctxWF_of_sorted hreq) (Premises.typed_sound hsub hst hst' hreq) (simG_of_simL hsim) r hm hc).mono
    fun _ _ h => h.vrel

theorem sim_of_safe : ∀ (e : TExpr), InFrag e → SafeOps req es e → Sim req es e.erase e
  | .lit p, _, _ => .lit p
  | .var x, _, _ => .var x
  | .ite c t e, hf, hs =>
    .ite (sim_of_safe c hf.1 hs.1) (fun _ => sim_of_safe t hf.2.1 hs.2.1) (fun _ => sim_of_safe e hf.2.2 hs.2.2)
  | .and a b, hf, hs => .and (sim_of_safe a hf.1 hs.1) (fun _ => sim_of_safe b hf.2 hs.2)
  | .or a b, hf, hs => .or (sim_of_safe a hf.1 hs.1) (fun _ => sim_of_safe b hf.2 hs.2)
  | .unaryApp op ty a, hf, hs => .unary op ty (sim_of_safe a hf hs) fun _ => trivial
  | .binaryApp op ty1 ty2 a b, hf, hs =>
    (fragOp_cases hf.1).elim
      (fun hop => .arith op ty1 ty2 hop (sim_of_safe a hf.2.1 hs.2.2.1) (sim_of_safe b hf.2.2 hs.2.2.2) hs.1 hs.2.1)
      (fun hop => .full op ty1 ty2 hop (sim_of_safe a hf.2.1 hs.2.2.1) (sim_of_safe b hf.2.2 hs.2.2.2)
        ⟨fun _ => ⟨hs.1, hs.2.1⟩, fun _ => hs.2.1⟩)
  | .getAttr e a, hf, hs => .getAttr a (sim_of_safe e hf hs)
  | .hasAttr e a, hf, hs => .hasAttr a (sim_of_safe e hf hs)
  | .like e p, hf, hs => .like p (sim_of_safe e hf hs)
  | .is e ty, hf, hs => .is ty (sim_of_safe e hf hs)
  | .slot _, hf, _ => hf.elim
  | .unknown _, hf, _ => hf.elim
  | .call _ _, hf, _ => hf.elim
  | .set _, hf, _ => hf.elim
  | .record _, hf, _ => hf.elim

theorem eval_sliced (hsub : SubStore es es') (hctx : CtxWF req) (e : TExpr) (r : Res) (hf : InFrag e)
    (hs : SafeOps req es e) (hm : manifestOfExpr e = .ok r) (hc : CoverRoots es es' req r.global) :
    ResRel (fun v v' => Trim v' v ∧ VRel es es' req r.paths v v') (evaluate req es [] e.erase) (evaluate req es' [] e.erase) :=
  (eval_simG hsub hctx Premises.core_sound (sim_of_safe e hf hs) r hm hc).mono fun _ _ h => ⟨h.trim rfl, h.vrel⟩

/-- the authorizer's outcome only looks at the boolean -/
theorem outcome_of_grel {lit : Bool} {P : WPaths} {r r' : Result Value} (h : ResRel (GRel lit es es' req P) r r') :
    outcomeOf r' = outcomeOf r := by
  rcases h.cases with ⟨x, _, rfl, rfl, rfl⟩ | ⟨v, v', rfl, rfl, h⟩
  · rfl
  · simp only [outcomeOf, vrel_asBool h.vrel]

theorem isAuthorized_of_simG (hsub : SubStore es es') (hctx : CtxWF req) {𝔭 : Premises} (hs : 𝔭.Sound es es' req)
    (ps : List Policy)
    (h : ∀ p, p ∈ ps → p.env = [] ∧ ∃ te r, SimG req es 𝔭 p.condition te ∧ manifestOfExpr te = .ok r ∧
      CoverRoots es es' req r.global) :
    isAuthorized req es' ps = isAuthorized req es ps := by
  apply isAuthorized_congr_store
  intro p hp
  obtain ⟨hpe, te, r, hsim, hm, hc⟩ := h p hp
  rw [outcome_eq, outcome_eq, hpe]
  exact outcome_of_grel (eval_simG hsub hctx hs hsim r hm hc)

end

end Cedar.Manifest
