import CedarVerif.Cedar.Validation.Level
import CedarVerif.Lemmas.TypecheckJudgment
/-
What a successful `annotate` did at each construct (`annotate_*_ok`; at `&&`, `||`, `if` also given how the guard was typed,
`annotate_*_inv`); and the typed AST exists whenever the typechecker model answers `ok` — `annotate` fails only where
`typeOf` does (`annotate_total`, by induction on the typing derivation), so that "accepted by the typechecker and no level
error" really speaks about a level-checked typed AST.
-/
namespace Cedar.Level
open Cedar Cedar.C03

section inversion
variable {m : ValidationMode} {s : Schema} {env : RequestEnv} {caps : Capabilities}

theorem annotate_unary_ok {op : UnaryOp} {a : Expr} {te : TExpr}
    (h : annotate m s env (.unaryApp op a) caps = .ok te) :
    ∃ t, annotate m s env a caps = .ok t ∧ te = .unaryApp op t := by
  unfold annotate at h
  cases ha : annotate m s env a caps with
  | error _ => rw [ha] at h; cases h
  | ok t => rw [ha] at h; cases h; exact ⟨t, rfl, rfl⟩

theorem annotate_like_ok {e : Expr} {pat : Pattern} {te : TExpr}
    (h : annotate m s env (.like e pat) caps = .ok te) :
    ∃ t, annotate m s env e caps = .ok t ∧ te = .like t pat := by
  unfold annotate at h
  cases ha : annotate m s env e caps with
  | error _ => rw [ha] at h; cases h
  | ok t => rw [ha] at h; cases h; exact ⟨t, rfl, rfl⟩

theorem annotate_is_ok {e : Expr} {ty : EntityType} {te : TExpr}
    (h : annotate m s env (.is e ty) caps = .ok te) :
    ∃ t, annotate m s env e caps = .ok t ∧ te = .is t ty := by
  unfold annotate at h
  cases ha : annotate m s env e caps with
  | error _ => rw [ha] at h; cases h
  | ok t => rw [ha] at h; cases h; exact ⟨t, rfl, rfl⟩

theorem annotate_binary_ok {op : BinaryOp} {a b : Expr} {te : TExpr}
    (h : annotate m s env (.binaryApp op a b) caps = .ok te) :
    ∃ ta tb, annotate m s env a caps = .ok ta ∧ annotate m s env b caps = .ok tb ∧ te = .binaryApp op ta tb := by
  unfold annotate at h
  cases ha : annotate m s env a caps with
  | error _ => rw [ha] at h; cases h
  | ok ta =>
    cases hb : annotate m s env b caps with
    | error _ => rw [ha, hb] at h; cases h
    | ok tb => rw [ha, hb] at h; cases h; exact ⟨ta, tb, rfl, rfl, rfl⟩

theorem annotate_getAttr_ok {e : Expr} {a : String} {te : TExpr}
    (h : annotate m s env (.getAttr e a) caps = .ok te) :
    ∃ τ c t, typeOf m s env e caps = .ok (τ, c) ∧ annotate m s env e caps = .ok t ∧ te = .getAttr (kindOf τ) t a := by
  unfold annotate at h
  cases ht : typeOf m s env e caps with
  | error _ => rw [ht] at h; cases h
  | ok x =>
    cases ha : annotate m s env e caps with
    | error _ => rw [ht, ha] at h; cases h
    | ok t => rw [ht, ha] at h; cases h; exact ⟨_, _, t, rfl, rfl, rfl⟩

theorem annotate_hasAttr_ok {e : Expr} {a : String} {te : TExpr}
    (h : annotate m s env (.hasAttr e a) caps = .ok te) :
    ∃ τ c t, typeOf m s env e caps = .ok (τ, c) ∧ annotate m s env e caps = .ok t ∧ te = .hasAttr (kindOf τ) t a := by
  unfold annotate at h
  cases ht : typeOf m s env e caps with
  | error _ => rw [ht] at h; cases h
  | ok x =>
    cases ha : annotate m s env e caps with
    | error _ => rw [ht, ha] at h; cases h
    | ok t => rw [ht, ha] at h; cases h; exact ⟨_, _, t, rfl, rfl, rfl⟩

theorem annotate_call_ok {fn : String} {args : List Expr} {te : TExpr}
    (h : annotate m s env (.call fn args) caps = .ok te) :
    ∃ ts, annotateList m s env args caps = .ok ts ∧ te = .call fn ts := by
  unfold annotate at h
  cases ha : annotateList m s env args caps with
  | error _ => rw [ha] at h; cases h
  | ok ts => rw [ha] at h; cases h; exact ⟨ts, rfl, rfl⟩

theorem annotate_set_ok {xs : List Expr} {te : TExpr}
    (h : annotate m s env (.set xs) caps = .ok te) :
    ∃ ts, annotateList m s env xs caps = .ok ts ∧ te = .set ts := by
  unfold annotate at h
  cases ha : annotateList m s env xs caps with
  | error _ => rw [ha] at h; cases h
  | ok ts => rw [ha] at h; cases h; exact ⟨ts, rfl, rfl⟩

theorem annotate_record_ok {kvs : List (String × Expr)} {te : TExpr}
    (h : annotate m s env (.record kvs) caps = .ok te) :
    ∃ ts, annotateKVs m s env kvs caps = .ok ts ∧ te = .record ts := by
  unfold annotate at h
  cases ha : annotateKVs m s env kvs caps with
  | error _ => rw [ha] at h; cases h
  | ok ts => rw [ha] at h; cases h; exact ⟨ts, rfl, rfl⟩

theorem annotateList_cons_ok {e : Expr} {es : List Expr} {ts : List TExpr}
    (h : annotateList m s env (e :: es) caps = .ok ts) :
    ∃ t ts', annotate m s env e caps = .ok t ∧ annotateList m s env es caps = .ok ts' ∧ ts = t :: ts' := by
  unfold annotateList at h
  cases h1 : annotate m s env e caps with
  | error _ => rw [h1] at h; cases h
  | ok t =>
    cases h2 : annotateList m s env es caps with
    | error _ => rw [h1, h2] at h; cases h
    | ok ts' => rw [h1, h2] at h; cases h; exact ⟨t, ts', rfl, rfl, rfl⟩

theorem annotateKVs_cons_ok {k : String} {e : Expr} {es : List (String × Expr)}
    {ts : List (String × TExpr)} (h : annotateKVs m s env ((k, e) :: es) caps = .ok ts) :
    ∃ t ts', annotate m s env e caps = .ok t ∧ annotateKVs m s env es caps = .ok ts' ∧ ts = (k, t) :: ts' := by
  unfold annotateKVs at h
  cases h1 : annotate m s env e caps with
  | error _ => rw [h1] at h; cases h
  | ok t =>
    cases h2 : annotateKVs m s env es caps with
    | error _ => rw [h1, h2] at h; cases h
    | ok ts' => rw [h1, h2] at h; cases h; exact ⟨t, ts', rfl, rfl, rfl⟩

theorem annotate_ite_ok {c t e : Expr} {te : TExpr}
    (h : annotate m s env (.ite c t e) caps = .ok te) :
    ∃ τc cc tc, typeOf m s env c caps = .ok (τc, cc) ∧ annotate m s env c caps = .ok tc ∧
      ((τc.isTrue = true ∧ ∃ tt, annotate m s env t (caps.union cc) = .ok tt ∧ te = .ite tc tt tt) ∨
       (τc.isTrue = false ∧ τc.isFalse = true ∧ ∃ te', annotate m s env e caps = .ok te' ∧ te = .ite tc te' te') ∨
       (τc.isTrue = false ∧ τc.isFalse = false ∧ ∃ tt te', annotate m s env t (caps.union cc) = .ok tt ∧
          annotate m s env e caps = .ok te' ∧ te = .ite tc tt te')) := by
  unfold annotate at h
  cases htc : typeOf m s env c caps with
  | error _ => rw [htc] at h; cases h
  | ok x =>
    obtain ⟨τc, cc⟩ := x
    cases hac : annotate m s env c caps with
    | error _ => rw [htc, hac] at h; cases h
    | ok tc =>
      rw [htc, hac] at h
      refine ⟨τc, cc, tc, rfl, rfl, ?_⟩
      cases h1 : τc.isTrue with
      | true =>
        simp only [h1, if_true] at h
        cases hat : annotate m s env t (caps.union cc) with
        | error _ => rw [hat] at h; cases h
        | ok tt => rw [hat] at h; cases h; exact Or.inl ⟨rfl, tt, rfl, rfl⟩
      | false =>
        simp only [h1, Bool.false_eq_true, if_false] at h
        cases h2 : τc.isFalse with
        | true =>
          simp only [h2, if_true] at h
          cases hae : annotate m s env e caps with
          | error _ => rw [hae] at h; cases h
          | ok te' => rw [hae] at h; cases h; exact Or.inr (Or.inl ⟨rfl, rfl, te', rfl, rfl⟩)
        | false =>
          simp only [h2, Bool.false_eq_true, if_false] at h
          cases hat : annotate m s env t (caps.union cc) with
          | error _ => rw [hat] at h; cases h
          | ok tt =>
            cases hae : annotate m s env e caps with
            | error _ => rw [hat, hae] at h; cases h
            | ok te' => rw [hat, hae] at h; cases h; exact Or.inr (Or.inr ⟨rfl, rfl, tt, te', rfl, rfl, rfl⟩)

theorem annotate_and_ok {a b : Expr} {te : TExpr}
    (h : annotate m s env (.and a b) caps = .ok te) :
    ∃ τa ca ta, typeOf m s env a caps = .ok (τa, ca) ∧ annotate m s env a caps = .ok ta ∧
      ((τa.isFalse = true ∧ te = ta) ∨
       (τa.isFalse = false ∧ ∃ tb, annotate m s env b (caps.union ca) = .ok tb ∧ te = .and ta tb)) := by
  unfold annotate at h
  cases hta : typeOf m s env a caps with
  | error _ => rw [hta] at h; cases h
  | ok x =>
    obtain ⟨τa, ca⟩ := x
    cases haa : annotate m s env a caps with
    | error _ => rw [hta, haa] at h; cases h
    | ok ta =>
      rw [hta, haa] at h
      refine ⟨τa, ca, ta, rfl, rfl, ?_⟩
      cases h1 : τa.isFalse with
      | true => simp only [h1, if_true] at h; cases h; exact Or.inl ⟨rfl, rfl⟩
      | false =>
        simp only [h1, Bool.false_eq_true, if_false] at h
        cases hab : annotate m s env b (caps.union ca) with
        | error _ => rw [hab] at h; cases h
        | ok tb => rw [hab] at h; cases h; exact Or.inr ⟨rfl, tb, rfl, rfl⟩

theorem annotate_or_ok {a b : Expr} {te : TExpr}
    (h : annotate m s env (.or a b) caps = .ok te) :
    ∃ τa ca ta, typeOf m s env a caps = .ok (τa, ca) ∧ annotate m s env a caps = .ok ta ∧
      ((τa.isTrue = true ∧ te = ta) ∨
       (τa.isTrue = false ∧ ∃ tb, annotate m s env b caps = .ok tb ∧ te = .or ta tb)) := by
  unfold annotate at h
  cases hta : typeOf m s env a caps with
  | error _ => rw [hta] at h; cases h
  | ok x =>
    obtain ⟨τa, ca⟩ := x
    cases haa : annotate m s env a caps with
    | error _ => rw [hta, haa] at h; cases h
    | ok ta =>
      rw [hta, haa] at h
      refine ⟨τa, ca, ta, rfl, rfl, ?_⟩
      cases h1 : τa.isTrue with
      | true => simp only [h1, if_true] at h; cases h; exact Or.inl ⟨rfl, rfl⟩
      | false =>
        simp only [h1, Bool.false_eq_true, if_false] at h
        cases hab : annotate m s env b caps with
        | error _ => rw [hab] at h; cases h
        | ok tb => rw [hab] at h; cases h; exact Or.inr ⟨rfl, tb, rfl, rfl⟩

theorem annotate_andFalse_inv {a b : Expr} {ca : Capabilities} {te : TExpr}
    (hta : typeOf m s env a caps = .ok (.bool .ff, ca)) (h : annotate m s env (.and a b) caps = .ok te) :
    annotate m s env a caps = .ok te := by
  obtain ⟨τa, ca', ta, hta', haa, h⟩ := annotate_and_ok h
  cases hta.symm.trans hta'
  rcases h with ⟨_, rfl⟩ | ⟨hF, _⟩
  · exact haa
  · cases hF

theorem annotate_and_inv {a b : Expr} {τa : CedarType} {ca : Capabilities} {te : TExpr}
    (hta : typeOf m s env a caps = .ok (τa, ca)) (hF : τa.isFalse = false) (h : annotate m s env (.and a b) caps = .ok te) :
    ∃ ta tb, annotate m s env a caps = .ok ta ∧ annotate m s env b (caps.union ca) = .ok tb ∧ te = .and ta tb := by
  obtain ⟨τa', ca', ta, hta', haa, h⟩ := annotate_and_ok h
  cases hta.symm.trans hta'
  rcases h with ⟨hF', _⟩ | ⟨_, tb, hab, rfl⟩
  · rw [hF] at hF'; cases hF'
  · exact ⟨ta, tb, haa, hab, rfl⟩

theorem annotate_orTrue_inv {a b : Expr} {ca : Capabilities} {te : TExpr}
    (hta : typeOf m s env a caps = .ok (.bool .tt, ca)) (h : annotate m s env (.or a b) caps = .ok te) :
    annotate m s env a caps = .ok te := by
  obtain ⟨τa, ca', ta, hta', haa, h⟩ := annotate_or_ok h
  cases hta.symm.trans hta'
  rcases h with ⟨_, rfl⟩ | ⟨hT, _⟩
  · exact haa
  · cases hT

theorem annotate_or_inv {a b : Expr} {τa : CedarType} {ca : Capabilities} {te : TExpr}
    (hta : typeOf m s env a caps = .ok (τa, ca)) (hT : τa.isTrue = false) (h : annotate m s env (.or a b) caps = .ok te) :
    ∃ ta tb, annotate m s env a caps = .ok ta ∧ annotate m s env b caps = .ok tb ∧ te = .or ta tb := by
  obtain ⟨τa', ca', ta, hta', haa, h⟩ := annotate_or_ok h
  cases hta.symm.trans hta'
  rcases h with ⟨hT', _⟩ | ⟨_, tb, hab, rfl⟩
  · rw [hT] at hT'; cases hT'
  · exact ⟨ta, tb, haa, hab, rfl⟩

theorem annotate_iteTrue_inv {c t e : Expr} {cc : Capabilities} {te : TExpr}
    (htc : typeOf m s env c caps = .ok (.bool .tt, cc)) (h : annotate m s env (.ite c t e) caps = .ok te) :
    ∃ tc tt, annotate m s env c caps = .ok tc ∧ annotate m s env t (caps.union cc) = .ok tt ∧ te = .ite tc tt tt := by
  obtain ⟨τc, cc', tc, htc', hac, h⟩ := annotate_ite_ok h
  cases htc.symm.trans htc'
  rcases h with ⟨_, tt, hat, rfl⟩ | ⟨hT, _⟩ | ⟨hT, _⟩
  · exact ⟨tc, tt, hac, hat, rfl⟩
  · cases hT
  · cases hT

theorem annotate_iteFalse_inv {c t e : Expr} {cc : Capabilities} {te : TExpr}
    (htc : typeOf m s env c caps = .ok (.bool .ff, cc)) (h : annotate m s env (.ite c t e) caps = .ok te) :
    ∃ tc te', annotate m s env c caps = .ok tc ∧ annotate m s env e caps = .ok te' ∧ te = .ite tc te' te' := by
  obtain ⟨τc, cc', tc, htc', hac, h⟩ := annotate_ite_ok h
  cases htc.symm.trans htc'
  rcases h with ⟨hT, _⟩ | ⟨_, _, te', hae, rfl⟩ | ⟨_, hF, _⟩
  · cases hT
  · exact ⟨tc, te', hac, hae, rfl⟩
  · cases hF

theorem annotate_ite_inv {c t e : Expr} {τc : CedarType} {cc : Capabilities} {te : TExpr}
    (htc : typeOf m s env c caps = .ok (τc, cc)) (hT : τc.isTrue = false) (hF : τc.isFalse = false)
    (h : annotate m s env (.ite c t e) caps = .ok te) :
    ∃ tc tt te', annotate m s env c caps = .ok tc ∧ annotate m s env t (caps.union cc) = .ok tt ∧
      annotate m s env e caps = .ok te' ∧ te = .ite tc tt te' := by
  obtain ⟨τc', cc', tc, htc', hac, h⟩ := annotate_ite_ok h
  cases htc.symm.trans htc'
  rcases h with ⟨hT', _⟩ | ⟨_, hF', _⟩ | ⟨_, _, tt, te', hat, hae, rfl⟩
  · rw [hT] at hT'; cases hT'
  · rw [hF] at hF'; cases hF'
  · exact ⟨tc, tt, te', hac, hat, hae, rfl⟩

end inversion

section total
variable {m : ValidationMode} {s : Schema} {env : RequestEnv}

theorem annotateList_of {caps : Capabilities} : ∀ {es : List Expr} {τs : List CedarType}, typeOfList m s env es caps = .ok τs →
    (∀ x, x ∈ es → ∀ τx cx, typeOf m s env x caps = .ok (τx, cx) → ∃ te, annotate m s env x caps = .ok te) →
    ∃ ts, annotateList m s env es caps = .ok ts
  | [], _, _, _ => ⟨[], rfl⟩
  | e :: es, _, h, ih => by
    obtain ⟨τ, c, τs', h1, h2, _⟩ := typeOfList_cons h
    obtain ⟨t, ht⟩ := ih e List.mem_cons_self τ c h1
    obtain ⟨ts, hts⟩ := annotateList_of h2 (fun x hx => ih x (List.mem_cons_of_mem _ hx))
    exact ⟨t :: ts, by unfold annotateList; rw [ht, hts]⟩

theorem annotateKVs_of {caps : Capabilities} : ∀ {kvs : List (String × Expr)} {attrs : Attrs},
    typeOfKVs m s env kvs caps = .ok attrs →
    (∀ kv, kv ∈ kvs → ∀ τx cx, typeOf m s env kv.2 caps = .ok (τx, cx) → ∃ te, annotate m s env kv.2 caps = .ok te) →
    ∃ ts, annotateKVs m s env kvs caps = .ok ts
  | [], _, _, _ => ⟨[], rfl⟩
  | (k, e) :: es, _, h, ih => by
    obtain ⟨τ, c, attrs', h1, h2, _⟩ := typeOfKVs_cons h
    obtain ⟨t, ht⟩ := ih (k, e) List.mem_cons_self τ c h1
    obtain ⟨ts, hts⟩ := annotateKVs_of h2 (fun x hx => ih x (List.mem_cons_of_mem _ hx))
    exact ⟨(k, t) :: ts, by unfold annotateKVs; rw [ht, hts]⟩

theorem annotate_of_hasType {e : Expr} {caps : Capabilities} {τ : CedarType} {c : Capabilities}
    (d : HasType m s env e caps τ c) : ∃ te, annotate m s env e caps = .ok te := by
  induction d with
  | lit _ => exact ⟨_, rfl⟩
  | var _ => exact ⟨_, rfl⟩
  | slot _ => exact ⟨_, rfl⟩
  | iteTrue dc _ ihc iht =>
    obtain ⟨tc, hc⟩ := ihc
    obtain ⟨tt, ht⟩ := iht
    exact ⟨.ite tc tt tt, by simp only [annotate, dc.typeOf_eq, hc, CedarType.isTrue, if_true, ht]⟩
  | iteFalse dc _ ihc ihe =>
    obtain ⟨tc, hc⟩ := ihc
    obtain ⟨te, he⟩ := ihe
    exact ⟨.ite tc te te, by
      simp only [annotate, dc.typeOf_eq, hc, CedarType.isTrue, CedarType.isFalse, Bool.false_eq_true, if_false, if_true, he]⟩
  | ite dc _ hT hF _ _ _ ihc iht ihe =>
    obtain ⟨tc, hc⟩ := ihc
    obtain ⟨tt, ht⟩ := iht
    obtain ⟨te, he⟩ := ihe
    exact ⟨.ite tc tt te, by simp only [annotate, dc.typeOf_eq, hc, hT, hF, Bool.false_eq_true, if_false, ht, he]⟩
  | andFalse da iha =>
    obtain ⟨ta, ha⟩ := iha
    exact ⟨ta, by simp only [annotate, da.typeOf_eq, ha, CedarType.isFalse, if_true]⟩
  | and da _ hF _ _ iha ihb =>
    obtain ⟨ta, ha⟩ := iha
    obtain ⟨tb, hb⟩ := ihb
    exact ⟨.and ta tb, by simp only [annotate, da.typeOf_eq, ha, hF, Bool.false_eq_true, if_false, hb]⟩
  | orTrue da iha =>
    obtain ⟨ta, ha⟩ := iha
    exact ⟨ta, by simp only [annotate, da.typeOf_eq, ha, CedarType.isTrue, if_true]⟩
  | or da _ hT _ _ iha ihb =>
    obtain ⟨ta, ha⟩ := iha
    obtain ⟨tb, hb⟩ := ihb
    exact ⟨.or ta tb, by simp only [annotate, da.typeOf_eq, ha, hT, Bool.false_eq_true, if_false, hb]⟩
  | unary _ _ iha =>
    obtain ⟨ta, ha⟩ := iha
    exact ⟨_, by unfold annotate; rw [ha]⟩
  | binary _ _ _ iha ihb =>
    obtain ⟨ta, ha⟩ := iha
    obtain ⟨tb, hb⟩ := ihb
    exact ⟨_, by unfold annotate; rw [ha, hb]⟩
  | getAttr de _ ihe =>
    obtain ⟨te, he⟩ := ihe
    exact ⟨_, by unfold annotate; rw [de.typeOf_eq, he]⟩
  | hasAttr de _ ihe =>
    obtain ⟨te, he⟩ := ihe
    exact ⟨_, by unfold annotate; rw [de.typeOf_eq, he]⟩
  | like _ _ ihe =>
    obtain ⟨te, he⟩ := ihe
    exact ⟨_, by unfold annotate; rw [he]⟩
  | is _ _ ihe =>
    obtain ⟨te, he⟩ := ihe
    exact ⟨_, by unfold annotate; rw [he]⟩
  | call _ hL _ ih =>
    obtain ⟨ts, hts⟩ := annotateList_of hL ih
    exact ⟨_, by unfold annotate; rw [hts]⟩
  | set _ hL _ _ ih =>
    obtain ⟨ts, hts⟩ := annotateList_of hL ih
    exact ⟨_, by unfold annotate; rw [hts]⟩
  | record _ hL ih =>
    obtain ⟨ts, hts⟩ := annotateKVs_of hL ih
    exact ⟨_, by unfold annotate; rw [hts]⟩

end total

theorem annotate_total {m : ValidationMode} {s : Schema} {env : RequestEnv} :
    ∀ (e : Expr) (caps : Capabilities) (x : CedarType × Capabilities), typeOf m s env e caps = .ok x →
      ∃ te, annotate m s env e caps = .ok te :=
  fun e caps x h => annotate_of_hasType (typeOf_hasType e caps x.1 x.2 h)

theorem annotateList_total {m : ValidationMode} {s : Schema} {env : RequestEnv} :
    ∀ (es : List Expr) (caps : Capabilities) (τs : List CedarType), typeOfList m s env es caps = .ok τs →
      ∃ ts, annotateList m s env es caps = .ok ts :=
  fun _ caps _ h => annotateList_of h (fun x _ τx cx hx => annotate_total x caps (τx, cx) hx)

theorem annotateKVs_total {m : ValidationMode} {s : Schema} {env : RequestEnv} :
    ∀ (kvs : List (String × Expr)) (caps : Capabilities) (attrs : Attrs), typeOfKVs m s env kvs caps = .ok attrs →
      ∃ ts, annotateKVs m s env kvs caps = .ok ts :=
  fun _ caps _ h => annotateKVs_of h (fun kv _ τx cx hx => annotate_total kv.2 caps (τx, cx) hx)

end Cedar.Level
