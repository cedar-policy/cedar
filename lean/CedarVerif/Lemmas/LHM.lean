import CedarVerif.Cedar.PolicySet
import CedarVerif.Lemmas.Assoc
/-
The insertion-ordered maps (`LHM`) and sets of the policy-set model. `get?` is `assoc?`, so the lookups after each edit come from `Assoc.lean`;
`mapKV` (the keys renamed, injectively on a set that holds them) and `mergeWith` (the entries of another map inserted) serve the merge of two
policy sets.
-/
namespace Cedar
namespace LHM

variable {α : Type}

theorem contains_eq (m : LHM α) (k : String) : m.contains k = (m.get? k).isSome := rfl

@[simp] theorem get?_nil (k : String) : LHM.get? ([] : LHM α) k = none := rfl

theorem get?_cons (k' : String) (v : α) (m : LHM α) (k : String) :
    LHM.get? ((k', v) :: m) k = if k = k' then some v else LHM.get? m k := by
  rw [LHM.get?]
  by_cases h : k = k' <;> simp [h, Ne.symm]

theorem get?_eq_assoc (m : LHM α) (k : String) : LHM.get? m k = assoc? m k := by
  induction m with
  | nil => rfl
  | cons e m ih => rw [LHM.get?, assoc?_cons, ih]

theorem get?_append (m m' : LHM α) (k : String) :
    LHM.get? (m ++ m') k = match LHM.get? m k with
      | some v => some v
      | none => LHM.get? m' k := by
  simp only [get?_eq_assoc, assoc?_append]
  cases assoc? m k <;> rfl

theorem get?_erase (m : LHM α) (k k' : String) :
    LHM.get? (m.erase k) k' = if k' = k then none else LHM.get? m k' := by
  rw [get?_eq_assoc, LHM.erase, assoc?_filter (fun x => !(x == k)), ← get?_eq_assoc]
  by_cases h : k' = k <;> simp [h]

theorem get?_insert (m : LHM α) (k : String) (v : α) (k' : String) :
    LHM.get? (m.insert k v) k' = if k' = k then some v else LHM.get? m k' := by
  unfold LHM.insert
  rw [get?_append, get?_erase]
  by_cases h : k' = k
  · subst h
    simp [get?_cons]
  · simp only [h, if_false, get?_cons, get?_nil]
    cases LHM.get? m k' <;> rfl

theorem get?_modify (m : LHM α) (k : String) (f : α → α) (k' : String) :
    LHM.get? (m.modify k f) k' = if k' = k then (LHM.get? m k).map f else LHM.get? m k' := by
  have : m.modify k f = m.map fun p => (p.1, if p.1 == k then f p.2 else p.2) :=
    List.map_congr_left fun p _ => by cases p.1 == k <;> rfl
  rw [get?_eq_assoc, this, assoc?_map (fun x v => if x == k then f v else v), ← get?_eq_assoc]
  by_cases h : k' = k
  · rw [if_pos h, h]; simp
  · rw [if_neg h]; simp [h]

theorem get?_snoc_absent (m : LHM α) (k : String) (v : α) (h : LHM.get? m k = none) (k' : String) :
    LHM.get? (m ++ [(k, v)]) k' = if k' = k then some v else LHM.get? m k' := by
  rw [get?_append]
  simp only [get?_cons, get?_nil]
  by_cases hk : k' = k
  · subst hk; simp [h]
  · simp only [hk, if_false]
    cases LHM.get? m k' <;> rfl

/-- a lookup that does not change, written as an edit at `id` to what is there -/
theorem get?_eq_ite_self (m : LHM α) (id : String) {v : Option α} (h : LHM.get? m id = v) (k : String) :
    LHM.get? m k = if k = id then v else LHM.get? m k := by
  by_cases hk : k = id
  · rw [if_pos hk, hk, h]
  · rw [if_neg hk]

theorem mem_keys_iff (m : LHM α) (k : String) : k ∈ m.keys ↔ (LHM.get? m k).isSome = true := by
  rw [get?_eq_assoc]
  exact assoc?_isSome_iff.symm

theorem nodup_snoc (m : LHM α) (k : String) (v : α) (h : m.keys.Nodup) (hk : LHM.get? m k = none) :
    (LHM.keys (m ++ [(k, v)])).Nodup := by
  have : LHM.keys (m ++ [(k, v)]) = m.keys ++ [k] := by simp [LHM.keys]
  rw [this, List.nodup_append]
  refine ⟨h, by simp, ?_⟩
  intro a ha b hb e
  rw [List.mem_singleton.mp hb] at e
  have := (mem_keys_iff m a).mp ha
  rw [e, hk] at this
  cases this

theorem nodup_erase (m : LHM α) (k : String) (h : m.keys.Nodup) : (m.erase k).keys.Nodup := by
  have : (m.erase k).keys = m.keys.filter (fun x => !(x == k)) := by
    simp [LHM.erase, LHM.keys, List.filter_map, Function.comp_def]
  rw [this]
  exact List.Pairwise.filter _ h

theorem nodup_insert (m : LHM α) (k : String) (v : α) (h : m.keys.Nodup) : (m.insert k v).keys.Nodup := by
  unfold LHM.insert
  apply nodup_snoc
  · exact nodup_erase m k h
  · simp [get?_erase]

theorem nodup_modify (m : LHM α) (k : String) (f : α → α) (h : m.keys.Nodup) : (m.modify k f).keys.Nodup := by
  have : (m.modify k f).keys = m.keys := by
    unfold LHM.modify LHM.keys
    rw [List.map_map]
    congr 1
    funext e
    by_cases he : e.1 = k <;> simp [he]
  rw [this]; exact h

theorem get?_none_of_not_contains {α} {m : LHM α} {k : String} (h : ¬ m.contains k = true) : m.get? k = none :=
  Option.not_isSome_iff_eq_none.mp h

theorem isSome_of_contains {α} {m : LHM α} {k : String} (h : m.contains k = true) : ∃ v, m.get? k = some v :=
  Option.isSome_iff_exists.mp h

theorem get?_erase_insert_self {α} (m : LHM α) (k : String) (v : α) (h : m.get? k = some v) (k' : String) :
    LHM.get? ((m.erase k).insert k v) k' = m.get? k' := by
  rw [LHM.get?_insert, LHM.get?_erase]
  by_cases hk : k' = k
  · simp [hk, h]
  · simp [hk]

theorem mem_of_get? {α} {m : LHM α} {k : String} {v : α} (h : LHM.get? m k = some v) : (k, v) ∈ m :=
  mem_of_assoc? (get?_eq_assoc m k ▸ h)

theorem get?_of_mem {α} {m : LHM α} {k : String} {v : α} (nd : m.keys.Nodup) (h : (k, v) ∈ m) :
    LHM.get? m k = some v := by
  rw [get?_eq_assoc]
  exact assoc?_of_mem_nodup nd h

theorem mem_iff_get? {α} (m : LHM α) (nd : m.keys.Nodup) (k : String) (v : α) :
    (k, v) ∈ m ↔ LHM.get? m k = some v :=
  ⟨get?_of_mem nd, mem_of_get?⟩

theorem get?_isSome_of_mem {α} {m : LHM α} {k : String} {v : α} (h : (k, v) ∈ m) : (LHM.get? m k).isSome = true :=
  (mem_keys_iff m k).mp (List.mem_map_of_mem (f := fun (x : String × α) => x.1) h)

theorem get?_eq_some_iff_mem {α} (m : LHM α) (fn : ∀ k v v', (k, v) ∈ m → (k, v') ∈ m → v = v') (k : String) (v : α) :
    LHM.get? m k = some v ↔ (k, v) ∈ m := by
  constructor
  · exact mem_of_get?
  · intro h
    have := get?_isSome_of_mem h
    cases hg : LHM.get? m k with
    | none => rw [hg] at this; cases this
    | some v' => rw [fn k v v' h (mem_of_get? hg)]

variable {α β : Type}

def mapKV (f : String → String) (g : String → α → β) (m : LHM α) : LHM β := m.map fun e => (f e.1, g e.1 e.2)

theorem keys_mapKV (f : String → String) (g : String → α → β) (m : LHM α) : (mapKV f g m).keys = m.keys.map f := by
  simp [mapKV, LHM.keys, List.map_map, Function.comp_def]

/-- `D`: a set that holds the keys of `m` and on which the renaming `f` is injective -/
theorem nodup_mapKV (f : String → String) (g : String → α → β) (m : LHM α) (nd : m.keys.Nodup) (D : String → Prop)
    (hD : ∀ k, (m.get? k).isSome = true → D k) (inj : ∀ k k', D k → D k' → f k = f k' → k = k') :
    (mapKV f g m).keys.Nodup := by
  rw [keys_mapKV]
  refine List.pairwise_map.mpr (List.Pairwise.imp_of_mem ?_ nd)
  intro a b ha hb hab e
  exact hab (inj a b (hD a ((mem_keys_iff m a).mp ha)) (hD b ((mem_keys_iff m b).mp hb)) e)

theorem get?_mapKV (f : String → String) (g : String → α → β) (m : LHM α) (nd : m.keys.Nodup) (D : String → Prop)
    (hD : ∀ k, (m.get? k).isSome = true → D k) (inj : ∀ k k', D k → D k' → f k = f k' → k = k') (x : String) (v : β) :
    (mapKV f g m).get? x = some v ↔ ∃ k v0, m.get? k = some v0 ∧ f k = x ∧ v = g k v0 := by
  rw [← mem_iff_get? _ (nodup_mapKV f g m nd D hD inj)]
  unfold mapKV
  rw [List.mem_map]
  constructor
  · rintro ⟨⟨k, v0⟩, hm, he⟩
    cases he
    exact ⟨k, v0, get?_of_mem nd hm, rfl, rfl⟩
  · rintro ⟨k, v0, hk, rfl, rfl⟩
    exact ⟨(k, v0), mem_of_get? hk, rfl⟩

theorem get?_mapKV_at (f : String → String) (g : String → α → β) (m : LHM α) (nd : m.keys.Nodup) (D : String → Prop)
    (hD : ∀ k, (m.get? k).isSome = true → D k) (inj : ∀ k k', D k → D k' → f k = f k' → k = k') {k : String} (hk : D k) :
    (mapKV f g m).get? (f k) = (m.get? k).map (g k) := by
  have key := get?_mapKV f g m nd D hD inj (f k)
  cases hm : m.get? k with
  | some v0 => exact (key _).mpr ⟨k, v0, hm, rfl, rfl⟩
  | none =>
    cases hq : (mapKV f g m).get? (f k) with
    | none => rfl
    | some v =>
      obtain ⟨k', v0, hk', he, _⟩ := (key v).mp hq
      have := inj k' k (hD k' (by rw [hk']; rfl)) hk he
      subst this
      rw [hm] at hk'; cases hk'

def mergeWith (h : α → Option β → β) (m : LHM β) (m' : LHM α) : LHM β :=
  m'.foldl (fun m e => m.insert e.1 (h e.2 (m.get? e.1))) m

theorem get?_mergeWith (h : α → Option β → β) : ∀ (m' : LHM α), m'.keys.Nodup → ∀ (m : LHM β) (x : String),
    (mergeWith h m m').get? x = match m'.get? x with
      | some v => some (h v (m.get? x))
      | none => m.get? x := by
  intro m'
  induction m' with
  | nil => intro _ m x; rfl
  | cons e rest ih =>
    obtain ⟨k0, v0⟩ := e
    intro nd m x
    have nd' : (k0 :: LHM.keys rest).Nodup := nd
    rw [List.nodup_cons] at nd'
    have hk0 : LHM.get? rest k0 = none := by
      cases hg : LHM.get? rest k0 with
      | none => rfl
      | some v => exact absurd ((mem_keys_iff rest k0).mpr (by simp [hg])) nd'.1
    show (mergeWith h (m.insert k0 (h v0 (m.get? k0))) rest).get? x = _
    rw [ih nd'.2, get?_cons, get?_insert]
    by_cases hx : x = k0
    · subst hx; simp [hk0]
    · simp only [hx, if_false]

theorem nodup_mergeWith (h : α → Option β → β) (m' : LHM α) (m : LHM β) (nd : m.keys.Nodup) :
    (mergeWith h m m').keys.Nodup :=
  List.foldlRecOn (motive := fun (m : LHM β) => m.keys.Nodup) m' _ nd fun _ nd _ _ => nodup_insert _ _ _ nd

end LHM

theorem contains_false {α} (m : LHM α) (k : String) : m.contains k = false ↔ m.get? k = none := by
  rw [LHM.contains_eq, Option.isSome_eq_false_iff, Option.isNone_iff_eq_none]

theorem mem_lhsInsert (s : List String) (x y : String) : y ∈ lhsInsert s x ↔ y ∈ s ∨ y = x := by
  unfold lhsInsert
  simp only [List.mem_append, List.mem_filter, List.mem_singleton, Bool.not_eq_true', beq_eq_false_iff_ne, ne_eq]
  constructor
  · rintro (⟨h, _⟩ | h)
    · exact Or.inl h
    · exact Or.inr h
  · rintro (h | h)
    · by_cases e : y = x
      · exact Or.inr e
      · exact Or.inl ⟨h, e⟩
    · exact Or.inr h

theorem mem_lhsRemove (s : List String) (x y : String) : y ∈ lhsRemove s x ↔ y ∈ s ∧ y ≠ x := by
  unfold lhsRemove
  simp [List.mem_filter]

end Cedar
