import CedarVerif.Lemmas.Fmt
/-
C12 — the formatter is total, preserves meaning and comments, and is idempotent on comment-free text.

What is proved here (about the model `Cedar/Fmt.lean`):

  * `render_tokens`          layout only inserts whitespace: for EVERY flat/break decision procedure
                             (`bestWith_tokens`), in particular for Wadler's `fits w` (`render w`), the atoms
                             (tokens and comments) of the layout are the atoms of the document, in order.
  * `render_comment_safe`    if in the document every comment is followed by a `hardline` before the next token
                             (`docSafe`), then in every layout no token is swallowed by a `//` comment.
  * `toDocFixed_comments`    `toDocFixed` is the mirror of doc.rs (which emits the comments attached to a dropped
                             trailing comma, /repo commit e8fc4bb): for the modelled CST core the document carries the
                             source tokens and comments in source order, only the trailing `,` tokens themselves are
                             dropped (`toDocFixed_tokens`), so all comments survive in every layout, unconditionally.
  * `toDoc_tokens_partial`   `toDoc` is the mirror of doc.rs before e8fc4bb, which dropped trailing commas
                             (`Comma<E>`) *together with their comments*; `toDoc_comments_partial`: all comments
                             survive if no trailing comma carries one (`lost_comment_example`: one that does is
                             lost).  `toDoc_safe`: the documents are comment-safe.
  * `policy_tokens`          POLICY LEVEL (model §4: `Annotation`, `VariableDef` with `is`/`==`/`in`, `Cond` with braces and
                             the hoisted leading comments of the body, `Policy` with both scope layouts and the scope's
                             trailing comma, mirror of doc.rs): for every chooser (`policy_tokens_any`), every
                             line width and indent, the layout of `policyToDoc p` consists of exactly the source tokens
                             and comments of `p` in source order minus the `,` tokens in trailing position
                             (`policyAtomsW false true`); `policy_tokens_dropped`: that sequence is a subsequence of the
                             source with the same comments.
  * `policy_comments`        every comment attached to any token of the policy CST — including both comments of a dropped
                             trailing comma — is in every layout, in source order.  `policy_safe`: no token of a policy
                             layout is swallowed by a comment.
  * `policies_tokens`        the lift to policy sets as fmt.rs builds them (`renderPolicies`: every policy laid out on its
    `policies_comments`      own, joined by blank lines, final newline, end-of-file comments), for every chooser
    `policies_safe`          (`policies_tokens_any`); `policiesToDoc_tokens` for the one-document variant.
  * `pipeline_correct`       abstract pipeline: atom-preserving (up to a parse-invariant, comment-preserving,
                             idempotent token normalisation) ∧ output on comment-free text a function of
                             (normalised tokens, config)  ⇒  same parse ∧ comments preserved ∧ idempotent on
                             comment-free input ∧ re-formatting preserves parse and comments.

What is NOT proved about the real code (hypotheses of `pipeline_correct` for the real formatter; they are
covered only by the differential / property run of `./check C12`, harness/src/c12.rs):

  (U1) the `pretty` crate's `render` is an instance of `bestWith ch` for some `ch` (it only inserts spaces and
       newlines between `text`s, and `hardline` is a newline in every mode); the model's `fits` is written after
       `fitting` of pretty 0.12.5 (the head group flat, groups of the rest keep break mode) but WHERE lines break is
       not diffed against the real formatter — the theorems hold for every chooser and do not depend on it;
  (U2) string level: printing the layout and re-lexing it gives back the atoms (two adjacent atoms re-lex to
       themselves, e.g. `principal` `.` `n`); evaluated by the harness on every output (`token_sequence_same`);
  (U3) the span lookups of utils.rs (`get_comment_at_start`, `get_comment_after_end`, `get_comment_at_end`,
       `get_comment_in_range`) find exactly the token the CST node stands on — the model's CST carries *resolved*
       tokens; the lexer / comment-attachment mirror itself IS checked (`fmt-tokens` op, every generated text);
  (U4) `remove_empty_lines` (string level: deletes blank lines outside strings and comments) and `soundness_check`;
       the policy level of doc.rs (`Policy`, `VariableDef`, `Cond`, `Annotation`), the joining of policies and the
       end-of-file comments ARE modelled (§4) and covered by the `policy_…`/`policies_…` theorems, with resolved
       tokens (U3) — there is no differential op for policy-level documents: the harness would have to rebuild the
       resolved-token CST from cedar's CST, and the layout itself also depends on (U1);
  (U5) the parser depends on the token sequence only, and re-rendering of literals (`007` ↦ `7`) and dropping
       trailing commas do not change the parse.
-/
namespace Cedar.C12
open Cedar.Fmt

/-- every chooser keeps the atoms (`Fmt.bestWith_tokens`); in particular Wadler's `fits w`, for every width and every document -/
theorem render_tokens (w : Nat) (d : Doc) : itemsAtoms (render w d) = docAtoms d := by
  simp [render, bestWith_tokens, cmdsAtoms]

/-- non-vacuity: the `hardline` breaks the group at every width; same atoms at width 80 and 1 -/
example :
    let d := Doc.group (.text (.tok "a".toList) ++ (.line ++ (.text (.com "// c".toList) ++ (.hardline ++ .text (.tok "b".toList)))))
    itemsToString (render 80 d) = "a\n// c\nb" ∧ itemsAtoms (render 1 d) = docAtoms d ∧ docAtoms d ≠ [] := by
  decide +kernel

example :
    let d := Doc.group (.text (.tok "a".toList) ++ (.line ++ .text (.tok "b".toList)))
    itemsToString (render 80 d) = "a b" ∧ itemsToString (render 2 (.nest 4 d)) = "a\n    b" := by
  decide +kernel

/-- if every comment of the document is followed by a hardline before the next token, then in the layout of
    every width a lexer sees exactly the atoms of the document -/
theorem render_comment_safe (w : Nat) (d : Doc) (q : Bool) (h : docSafe false d = some q) :
    itemsVisible false (render w d) = some (docAtoms d) :=
  Emits.visible ⟨rfl, h⟩ (fits w) 0 0 false

/-- non-vacuity, and the hazard: a comment followed by a soft `line` swallows the next token when the group is flat -/
example :
    let bad := Doc.group (.text (.com "// c".toList) ++ (.line ++ .text (.tok "b".toList)))
    docSafe false bad = none ∧ itemsVisible false (render 80 bad) = none := by
  decide +kernel

/-- doc.rs before /repo commit e8fc4bb (`toDoc`), on the CST core: the document carries the tokens and comments of the
    source in source order, except that trailing commas are dropped *with their comments*.
    "partial": only the CST core is modelled, with resolved tokens (U3, U4 of the header). -/
theorem toDoc_tokens_partial (iw : Nat) (c : Cst) : docAtoms (toDoc iw c) = cstAtomsW false false c :=
  (toDocW_emits false iw c).atoms

/-- doc.rs (`toDocFixed`) drops only the `,` tokens themselves -/
theorem toDocFixed_tokens (iw : Nat) (c : Cst) : docAtoms (toDocFixed iw c) = cstAtomsW false true c :=
  (toDocW_emits true iw c).atoms

theorem render_toDoc_tokens_partial (w iw : Nat) (c : Cst) : itemsAtoms (render w (toDoc iw c)) = cstAtomsW false false c := by
  rw [render_tokens, toDoc_tokens_partial]

/-- `toDoc`: all comments of the source appear in every layout, in source order, PROVIDED no trailing comma carries
    a comment -/
theorem toDoc_comments_partial (w iw : Nat) (c : Cst) (h : noCommentedTrailingComma c = true) :
    commentsOf (itemsAtoms (render w (toDoc iw c))) = commentsOf (cstAtoms c) := by
  rw [render_tokens, toDoc_tokens_partial, cst_noCTC c h, cst_comments_kept]; rfl

/-- `toDocFixed`: all comments of the source appear in every layout, in source order — unconditionally -/
theorem toDocFixed_comments (w iw : Nat) (c : Cst) :
    commentsOf (itemsAtoms (render w (toDocFixed iw c))) = commentsOf (cstAtoms c) := by
  rw [render_tokens, toDocFixed_tokens, cst_comments_kept]; rfl

def wt (kind text : String) (leading : List String := []) (trailing : String := "") : WTok :=
  ⟨kind, text.toList, leading.map String.toList, trailing.toList⟩

/-- `{ a : 1 , // c⏎ }` -/
def lostExample : Cst :=
  .brack (wt "LBrace" "{")
    (.last (.recInit (.leaf (wt "Identifier" "a")) (wt "Colon" ":") (.leaf (wt "Number" "1"))) (some (wt "Comma" "," [] "// c")))
    (wt "RBrace" "}")

/-- the comment on the trailing comma is in the source, is not in the layout produced by doc.rs' rule before e8fc4bb
    (`toDoc`), and is in the layout produced by doc.rs (`toDocFixed`); the hypothesis of `toDoc_comments_partial` fails for
    this input, so it cannot be dropped -/
theorem lost_comment_example :
    commentsOf (cstAtoms lostExample) = [Atom.com "// c".toList]
    ∧ commentsOf (itemsAtoms (render 80 (toDoc 2 lostExample))) = []
    ∧ commentsOf (itemsAtoms (render 80 (toDocFixed 2 lostExample))) = [Atom.com "// c".toList]
    ∧ noCommentedTrailingComma lostExample = false := by
  decide +kernel

/-- non-vacuity of `toDoc_comments_partial`: a CST with comments at several positions and an uncommented trailing comma -/
example :
    let c : Cst := .chain .and
      (.rel (.member (.leaf (wt "Principal" "principal" ["// l1", "// l2"])) (.field (wt "Dot" "." [] "// d") (wt "Identifier" "n") .nil))
            (wt "Lt" "<") (.leaf (wt "Number" "1" [] "// one")))
      (.cons (wt "And" "&&" [] "// and")
        (.brack (wt "LBracket" "[") (.cons (.leaf (wt "Number" "1")) (wt "Comma" "," [] "// k") (.last (.leaf (wt "Number" "2")) (some (wt "Comma" ",")))) (wt "RBracket" "]" ["// r"]))
        .nil)
    noCommentedTrailingComma c = true
    ∧ (commentsOf (cstAtoms c)).length = 7
    ∧ commentsOf (itemsAtoms (render 1 (toDoc 2 c))) = commentsOf (cstAtoms c)
    ∧ itemsVisible false (render 80 (toDoc 2 c)) = some (docAtoms (toDoc 2 c)) := by
  decide +kernel

/-- every layout of `toDoc c` is read back by a lexer as exactly the kept atoms: no token is swallowed by a comment -/
theorem toDoc_safe (w iw : Nat) (c : Cst) :
    itemsVisible false (render w (toDoc iw c)) = some (cstAtomsW false false c) :=
  (toDocW_emits false iw c).visible (fits w) 0 0 false

/-- an abstract formatter: texts, a lexer giving tokens and comments (in order), a parser that sees tokens only,
    the token normalisation performed by the formatter (dropping trailing commas, re-rendering literals) -/
structure Pipeline (Text Tok Com Cfg Ast : Type) where
  tokens : Text → List Tok
  comments : Text → List Com
  parse : List Tok → Option Ast
  norm : List Tok → List Tok
  fmt : Cfg → Text → Text

/-- the hypotheses: atom-preserving, and the output on comment-free input is a function of (tokens, config) -/
structure Pipeline.Hyps {Text Tok Com Cfg Ast : Type} (P : Pipeline Text Tok Com Cfg Ast) : Prop where
  /-- token-preserving up to the normalisation (for the core: `render_tokens` + `toDocFixed_tokens`) -/
  tokensPreserved : ∀ c x, P.tokens (P.fmt c x) = P.norm (P.tokens x)
  /-- comment-preserving (for the core: `toDocFixed_comments`) -/
  commentsPreserved : ∀ c x, P.comments (P.fmt c x) = P.comments x
  normParse : ∀ ts, P.parse (P.norm ts) = P.parse ts
  normIdem : ∀ ts, P.norm (P.norm ts) = P.norm ts
  /-- the output is a function of (tokens, comments + their attachment, config); on comment-free text there
      is no attachment, so it is a function of the normalised tokens and the config -/
  functionOfTokens : ∀ c x y, P.comments x = [] → P.comments y = [] → P.norm (P.tokens x) = P.norm (P.tokens y) → P.fmt c x = P.fmt c y

/-- C12 for an abstract pipeline (the part of the property that is about *results*; totality is a property of
    `fmt` being a function here and is checked on the implementation by the harness) -/
def FullStatement {Text Tok Com Cfg Ast : Type} (P : Pipeline Text Tok Com Cfg Ast) : Prop :=
  (∀ c x, P.parse (P.tokens (P.fmt c x)) = P.parse (P.tokens x))
  ∧ (∀ c x, P.comments (P.fmt c x) = P.comments x)
  ∧ (∀ c x, P.comments x = [] → P.fmt c (P.fmt c x) = P.fmt c x)
  ∧ (∀ c c' x, P.parse (P.tokens (P.fmt c' (P.fmt c x))) = P.parse (P.tokens x) ∧ P.comments (P.fmt c' (P.fmt c x)) = P.comments x)

theorem pipeline_correct {Text Tok Com Cfg Ast : Type} (P : Pipeline Text Tok Com Cfg Ast) (h : P.Hyps) : FullStatement P := by
  refine ⟨?_, h.commentsPreserved, ?_, ?_⟩
  · intro c x; rw [h.tokensPreserved, h.normParse]
  · intro c x hx
    apply h.functionOfTokens c (P.fmt c x) x
    · rw [h.commentsPreserved, hx]
    · exact hx
    · rw [h.tokensPreserved, h.normIdem]
  · intro c c' x
    constructor
    · rw [h.tokensPreserved, h.normParse, h.tokensPreserved, h.normParse]
    · rw [h.commentsPreserved, h.commentsPreserved]

/-- a document for a bare atom sequence: tokens separated by soft lines, comments followed by hard lines -/
def docOfAtoms : List Atom → Doc
  | [] => .nil
  | .tok t :: r => .text (.tok t) ++ (.line ++ docOfAtoms r)
  | .com c :: r => .text (.com c) ++ (.hardline ++ docOfAtoms r)

theorem docAtoms_docOfAtoms (as : List Atom) : docAtoms (docOfAtoms as) = as := by
  induction as with
  | nil => simp [docOfAtoms, docAtoms]
  | cons a r ih => cases a <;> simp [docOfAtoms, docAtoms, ih]

/-- non-vacuity of `pipeline_correct`: texts = layouts, lexer = `itemsAtoms`, the formatter re-renders the atoms
    at the configured width with the model's renderer; the hypotheses hold by `render_tokens` -/
def toyPipeline : Pipeline (List Item) Atom Atom Nat (List Atom) where
  tokens x := tokensOf (itemsAtoms x)
  comments x := commentsOf (itemsAtoms x)
  parse ts := some ts
  norm ts := ts
  fmt w x := render w (.group (docOfAtoms (itemsAtoms x)))

theorem toyPipeline_hyps : toyPipeline.Hyps where
  tokensPreserved := by intro c x; simp [toyPipeline, render_tokens, docAtoms, docAtoms_docOfAtoms]
  commentsPreserved := by intro c x; simp [toyPipeline, render_tokens, docAtoms, docAtoms_docOfAtoms]
  normParse := by intro ts; rfl
  normIdem := by intro ts; rfl
  functionOfTokens := by
    intro c x y hx hy hxy
    simp only [toyPipeline] at hx hy hxy ⊢
    have key : ∀ as : List Atom, commentsOf as = [] → tokensOf as = as := by
      intro as h
      simp only [commentsOf, List.filter_eq_nil_iff] at h
      simp only [tokensOf, List.filter_eq_self]
      intro a ha; simp [h a ha]
    rw [key _ hx, key _ hy] at hxy
    rw [hxy]

example : FullStatement toyPipeline := pipeline_correct _ toyPipeline_hyps

example :
    let x : List Item := [.atom (.tok "a".toList), .sp, .sp, .nl 3, .atom (.tok "b".toList)]
    itemsToString (toyPipeline.fmt 80 x) = "a b " ∧ toyPipeline.fmt 80 (toyPipeline.fmt 80 x) = toyPipeline.fmt 80 x := by
  decide +kernel

/-- for EVERY flat/break decision procedure and every start column, the layout of
    the document doc.rs builds for a policy consists of exactly the source tokens and comments of the policy, in
    source order, except that the `,` TOKENS in trailing position (the scope's `Comma<VariableDef>` and every
    `Comma<E>` inside the expressions) are not printed (`policyAtomsW false true`: their comments are printed). -/
theorem policy_tokens_any (ch : Nat → List Cmd → Bool) (col iw : Nat) (p : PolicyCst) :
    itemsAtoms (bestWith ch col [(0, false, policyToDoc iw p)]) = policyAtomsW false true p := by
  rw [bestWith_tokens]; simp [cmdsAtoms, (Emits.policyToDoc iw p).atoms]

/-- for Wadler's `fits w`, at every line width `w` and indent width `iw` -/
theorem policy_tokens (w iw : Nat) (p : PolicyCst) :
    itemsAtoms (render w (policyToDoc iw p)) = policyAtomsW false true p :=
  policy_tokens_any (fits w) 0 iw p

/-- "modulo the dropped trailing commas", precisely: what is printed is a subsequence of the source in which no
    comment is missing — so the only atoms that can be missing are tokens, and by definition of
    `policyAtomsW false true` they are the trailing `,`s -/
theorem policy_tokens_dropped (w iw : Nat) (p : PolicyCst) :
    (itemsAtoms (render w (policyToDoc iw p))).Sublist (policyAtoms p)
    ∧ commentsOf (itemsAtoms (render w (policyToDoc iw p))) = commentsOf (policyAtoms p) := by
  rw [policy_tokens]; exact ⟨sublistOfSource.policy p, commentsKept.policy p⟩

/-- every comment attached to any token of the policy CST (annotations, effect, scope
    punctuation including the dropped trailing comma, `is`/`==`/`in`, `when`/`unless`, braces, the body, `;`)
    appears in the layout, in source order, and nothing else does — for every width and indent -/
theorem policy_comments (w iw : Nat) (p : PolicyCst) :
    commentsOf (itemsAtoms (render w (policyToDoc iw p))) = commentsOf (policyAtoms p) :=
  (policy_tokens_dropped w iw p).2

/-- every layout of a policy is read back by a lexer as exactly the kept atoms: no token is swallowed by a `//`
    comment (every comment is followed by a hardline in the document) -/
theorem policy_safe (w iw : Nat) (p : PolicyCst) :
    itemsVisible false (render w (policyToDoc iw p)) = some (policyAtomsW false true p) :=
  (Emits.policyToDoc iw p).visible (fits w) 0 0 false

/-- the lift to policy sets, for every chooser: the layouts of the policies joined by blank lines, followed by
    the end-of-file comments, carry the atoms of all policies in order, then the end-of-file comments -/
theorem policies_tokens_any (ch : Nat → List Cmd → Bool) (iw : Nat) (ps : List PolicyCst) (eof : List (List Char)) :
    itemsAtoms (renderPoliciesWith ch iw ps eof) = policySetAtomsW false true ps eof :=
  itemsVisible_atoms (renderPoliciesWith_visible ch iw ps eof)

theorem policies_tokens (w iw : Nat) (ps : List PolicyCst) (eof : List (List Char)) :
    itemsAtoms (renderPolicies w iw ps eof) = policySetAtomsW false true ps eof :=
  policies_tokens_any (fits w) iw ps eof

theorem policies_comments (w iw : Nat) (ps : List PolicyCst) (eof : List (List Char)) :
    commentsOf (itemsAtoms (renderPolicies w iw ps eof)) = commentsOf (policySetAtomsW true true ps eof) := by
  rw [policies_tokens, policySetAtomsW, policySetAtomsW, commentsOf_append, commentsOf_append, commentsKept.policies ps]

theorem policies_safe (w iw : Nat) (ps : List PolicyCst) (eof : List (List Char)) :
    itemsVisible false (renderPolicies w iw ps eof) = some (policySetAtomsW false true ps eof) :=
  renderPoliciesWith_visible (fits w) iw ps eof

theorem policiesToDoc_tokens (w iw : Nat) (ps : List PolicyCst) :
    itemsAtoms (render w (policiesToDoc iw ps)) = policiesAtomsW false true ps := by
  rw [render_tokens, (Emits.policiesToDoc iw ps).atoms]

def entRef (ty id : String) : Cst :=
  .chain .path (.leaf (wt "Identifier" ty)) (.cons (wt "DoubleColon" "::") (.leaf (wt "Str" id)) .nil)

/-- ```
    // about
    @id("p1") // anno
    // effect
    permit ( // open
      principal == User::"alice", action in [Action::"view", // inner
      ], // c2
      resource is Photo in Album::"a"
      // before the dropped comma
      , // after the dropped comma
    ) when // why
    { // body⏎ resource.owner == principal }; // end
    ``` -/
def policyExample : PolicyCst where
  annots := [⟨wt "At" "@" ["// about"], wt "Identifier" "id",
    some (wt "LParen" "(", wt "Str" "\"p1\"", wt "RParen" ")" [] "// anno")⟩]
  effect := wt "Permit" "permit" ["// effect"]
  lp := wt "LParen" "(" [] "// open"
  principal := ⟨wt "Principal" "principal", none, some (wt "Equal" "==", entRef "User" "\"alice\"")⟩
  comma1 := wt "Comma" ","
  action := ⟨wt "Action" "action", none, some (wt "In" "in",
    .brack (wt "LBracket" "[") (.last (entRef "Action" "\"view\"") (some (wt "Comma" "," [] "// inner"))) (wt "RBracket" "]"))⟩
  comma2 := wt "Comma" "," [] "// c2"
  resource := ⟨wt "Resource" "resource", some (wt "Is" "is", .leaf (wt "Identifier" "Photo")),
    some (wt "In" "in", entRef "Album" "\"a\"")⟩
  trailingComma := some (wt "Comma" "," ["// before the dropped comma"] "// after the dropped comma")
  rp := wt "RParen" ")"
  conds := [⟨wt "When" "when" [] "// why", wt "LBrace" "{",
    some (.rel (.member (.leaf (wt "Resource" "resource" ["// body"])) (.field (wt "Dot" ".") (wt "Identifier" "owner") .nil))
      (wt "Equal" "==") (.leaf (wt "Principal" "principal"))),
    wt "RBrace" "}"⟩]
  semi := wt "SemiColon" ";" [] "// end"

/-- `permit(principal, action, resource, // tc⏎ );` — the bare scope with a commented trailing comma -/
def bareExample : PolicyCst where
  annots := []
  effect := wt "Permit" "permit"
  lp := wt "LParen" "("
  principal := ⟨wt "Principal" "principal", none, none⟩
  comma1 := wt "Comma" ","
  action := ⟨wt "Action" "action", none, none⟩
  comma2 := wt "Comma" ","
  resource := ⟨wt "Resource" "resource", none, none⟩
  trailingComma := some (wt "Comma" "," [] "// tc")
  rp := wt "RParen" ")"
  conds := []
  semi := wt "SemiColon" ";"

/-- What is evaluated about `policyExample` and `bareExample` for the two examples below, in ONE declaration (the kernel shares
work only inside one evaluation; the sample and `render 80` are read once).  The character lists of the two layouts are read off
the string literals by unification (`with_reducible rfl` in `itemsToString_eq`, elaborated before `decide` runs): the kernel never
converts a string. -/
theorem policyExample_facts :
    ((commentsOf (policyAtoms policyExample)).length = 11
    ∧ commentsOf (policyAtoms policyExample) =
        ["// about", "// anno", "// effect", "// open", "// inner", "// c2", "// before the dropped comma",
          "// after the dropped comma", "// why", "// body", "// end"].map (fun s => Atom.com s.toList)
    ∧ commentsOf (itemsAtoms (render 80 (policyToDoc 2 policyExample))) = commentsOf (policyAtoms policyExample)
    ∧ commentsOf (itemsAtoms (render 20 (policyToDoc 4 policyExample))) = commentsOf (policyAtoms policyExample)
    ∧ (tokensOf (policyAtoms policyExample)).length = (tokensOf (itemsAtoms (render 20 (policyToDoc 4 policyExample)))).length + 2
    ∧ itemsVisible false (render 20 (policyToDoc 4 policyExample)) = some (policyAtomsW false true policyExample))
    ∧ itemsToString (render 80 (policyToDoc 2 policyExample)) =
      "\n// about\n@id(\"p1\") // anno\n\n// effect\npermit\n( // open\n\n  principal == User::\"alice\",\n  action in\n    [Action::\"view\" // inner\n      ], // c2\n  resource is Photo in Album::\"a\"\n  // before the dropped comma\n   // after the dropped comma\n  \n)\nwhen // why\n{\n  \n  // body\n  resource.owner == principal\n}; // end\n"
    ∧ itemsToString (renderPolicies 80 2 [bareExample, bareExample] ["// eof".toList]) =
      "permit (principal, action, resource // tc\n  );\n\npermit (principal, action, resource // tc\n  );\n// eof\n" := by
  suffices hall : _ ∧ _ ∧ _ from
    ⟨hall.1, itemsToString_eq (by with_reducible rfl) hall.2.1, itemsToString_eq (by with_reducible rfl) hall.2.2⟩
  decide +kernel

/-- a policy with an annotation, all three scope constraints, a `when` clause, and comments on both sides of the
    dropped trailing comma of the scope (and on a dropped trailing comma inside `[ … ]`): 11 comments, all in
    the layout at widths 80 and 20, two `,` tokens (and nothing else) missing; the layout is comment-safe -/
example :
    (commentsOf (policyAtoms policyExample)).length = 11
    ∧ commentsOf (policyAtoms policyExample) =
        ["// about", "// anno", "// effect", "// open", "// inner", "// c2", "// before the dropped comma",
          "// after the dropped comma", "// why", "// body", "// end"].map (fun s => Atom.com s.toList)
    ∧ commentsOf (itemsAtoms (render 80 (policyToDoc 2 policyExample))) = commentsOf (policyAtoms policyExample)
    ∧ commentsOf (itemsAtoms (render 20 (policyToDoc 4 policyExample))) = commentsOf (policyAtoms policyExample)
    ∧ (tokensOf (policyAtoms policyExample)).length = (tokensOf (itemsAtoms (render 20 (policyToDoc 4 policyExample)))).length + 2
    ∧ itemsVisible false (render 20 (policyToDoc 4 policyExample)) = some (policyAtomsW false true policyExample) :=
  policyExample_facts.1

/-- the layouts themselves (before `remove_empty_lines`, which deletes the blank lines) -/
example :
    itemsToString (render 80 (policyToDoc 2 policyExample)) =
      "\n// about\n@id(\"p1\") // anno\n\n// effect\npermit\n( // open\n\n  principal == User::\"alice\",\n  action in\n    [Action::\"view\" // inner\n      ], // c2\n  resource is Photo in Album::\"a\"\n  // before the dropped comma\n   // after the dropped comma\n  \n)\nwhen // why\n{\n  \n  // body\n  resource.owner == principal\n}; // end\n"
    ∧ itemsToString (renderPolicies 80 2 [bareExample, bareExample] ["// eof".toList]) =
      "permit (principal, action, resource // tc\n  );\n\npermit (principal, action, resource // tc\n  );\n// eof\n" :=
  policyExample_facts.2

end Cedar.C12
