import CedarVerif.Lemmas.ExtDigits
/-
What the readers of `IPAddr.parse` accept: `readV4` is four octet reads separated by dots (`readV4_eq_some`), `readV6` reads a
prefix of hexadecimal digits and colons and returns a 128-bit value (`readV6_inv`).  From these the rejections: leading zeros in
an octet / in the prefix length, prefix length out of range, and the IPv4-in-IPv6 exclusion, each with a concrete instance.
-/
namespace Cedar.Ext.IPAddr

theorem splitOnceSlash_cons_ne (c : Char) (cs : List Char) (hc : c ≠ '/') :
    splitOnceSlash (c :: cs) =
      match splitOnceSlash cs with
      | some (a, b) => some (c :: a, b)
      | none => none := by
  rw [splitOnceSlash]
  · rfl
  · intro h; exact hc h

theorem splitOnceSlash_append (a p : List Char) (ha : '/' ∉ a) : splitOnceSlash (a ++ '/' :: p) = some (a, p) := by
  induction a with
  | nil => rfl
  | cons c cs ih =>
    have hc : c ≠ '/' := fun e => ha (by simp [e])
    have hcs : '/' ∉ cs := fun e => ha (by simp [e])
    rw [List.cons_append, splitOnceSlash_cons_ne c _ hc, ih hcs]

theorem splitOnceSlash_none (a : List Char) (ha : '/' ∉ a) : splitOnceSlash a = none := by
  induction a with
  | nil => rfl
  | cons c cs ih =>
    have hc : c ≠ '/' := fun e => ha (by simp [e])
    have hcs : '/' ∉ cs := fun e => ha (by simp [e])
    rw [splitOnceSlash_cons_ne c _ hc, ih hcs]

theorem parse_none_of_parseAddr_none (s : String) (a : List Char) (ha : '/' ∉ a) (h : parseAddr a = none) :
    (s.toList = a → parse s = none) ∧ (∀ p, s.toList = a ++ '/' :: p → parse s = none) := by
  refine ⟨fun hs => ?_, fun p hs => ?_⟩
  · simp only [parse, hs, splitOnceSlash_none a ha, h]
    split
    · rfl
    · split <;> rfl
  · simp only [parse, hs, splitOnceSlash_append a p ha, h]
    split
    · rfl
    · split <;> rfl

/-- `read_number(10, Some(3), false)`: a leading zero followed by another digit is rejected -/
theorem readOctet_leadingZero (d : Char) (rest : List Char) (hd : isDigit d = true) :
    readOctet ('0' :: d :: rest) = none := by
  have h0 : isDigit '0' = true := by decide
  cases hsp : spanDigits rest with
  | mk ds r =>
    simp only [readOctet, spanDigits, h0, hd, if_true, hsp]
    simp
example : readOctet "01.2.3.4".toList = none := by
  show readOctet (String.ofList _).toList = none
  rw [String.toList_ofList]
  exact readOctet_leadingZero '1' _ (by decide)

theorem readOctet_digits_dot (o r : List Char) (ho : allDigits o = true) :
    readOctet (o ++ '.' :: r) = none ∨ readOctet (o ++ '.' :: r) = some (natOfDigits o, '.' :: r) := by
  have hsp := spanDigits_append o ('.' :: r) ho (noDigitHead_cons (by decide))
  simp only [readOctet, hsp]
  split
  · exact Or.inl rfl
  · split
    · exact Or.inl rfl
    · split
      · exact Or.inl rfl
      · exact Or.inr rfl

/-- `o₁.o₂.….` followed by `r` -/
def dotted : List (List Char) → List Char → List Char
  | [], r => r
  | o :: os, r => o ++ '.' :: dotted os r

/-- `n` octets, each followed by a '.', and then one more octet can be read from `s` -/
def readsOctets : Nat → List Char → Prop
  | 0, s => ∃ d r, readOctet s = some (d, r)
  | n + 1, s => ∃ a r, readOctet s = some (a, '.' :: r) ∧ readsOctets n r

theorem readV4_eq_some {s r : List Char} {a : Nat} : readV4 s = some (a, r) ↔
    ∃ o1 r1 o2 r2 o3 r3 o4, readOctet s = some (o1, '.' :: r1) ∧ readOctet r1 = some (o2, '.' :: r2) ∧
      readOctet r2 = some (o3, '.' :: r3) ∧ readOctet r3 = some (o4, r) ∧ a = ((o1 * 256 + o2) * 256 + o3) * 256 + o4 := by
  constructor
  · intro h
    unfold readV4 at h
    simp only [Option.bind_eq_bind] at h
    cases h1 : readOctet s with
    | none => rw [h1] at h; cases h
    | some p1 =>
      obtain ⟨o1, t1⟩ := p1
      rw [h1, Option.bind_some] at h
      split at h
      · rename_i r1 e1
        cases (show t1 = _ from e1)
        rw [Option.bind_some] at h
        cases h2 : readOctet r1 with
        | none => rw [h2] at h; cases h
        | some p2 =>
          obtain ⟨o2, t2⟩ := p2
          rw [h2, Option.bind_some] at h
          split at h
          · rename_i r2 e2
            cases (show t2 = _ from e2)
            rw [Option.bind_some] at h
            cases h3 : readOctet r2 with
            | none => rw [h3] at h; cases h
            | some p3 =>
              obtain ⟨o3, t3⟩ := p3
              rw [h3, Option.bind_some] at h
              split at h
              · rename_i r3 e3
                cases (show t3 = _ from e3)
                rw [Option.bind_some] at h
                cases h4 : readOctet r3 with
                | none => rw [h4] at h; cases h
                | some p4 =>
                  obtain ⟨o4, t4⟩ := p4
                  rw [h4] at h
                  cases h
                  exact ⟨o1, r1, o2, r2, o3, r3, o4, rfl, h2, h3, h4, rfl⟩
              · cases h
          · cases h
      · cases h
  · rintro ⟨o1, r1, o2, r2, o3, r3, o4, h1, h2, h3, h4, rfl⟩
    simp only [readV4, h1, h2, h3, h4, Option.bind_eq_bind, Option.bind_some]

theorem readsOctets_of_readV4 {s : List Char} {v : Nat × List Char} (h : readV4 s = some v) : readsOctets 3 s := by
  obtain ⟨o1, r1, o2, r2, o3, r3, o4, h1, h2, h3, h4, _⟩ := readV4_eq_some.mp h
  exact ⟨o1, r1, h1, o2, r2, h2, o3, r3, h3, o4, _, h4⟩

theorem readOctet_suffix (s : List Char) (a : Nat) (r : List Char) (h : readOctet s = some (a, r)) :
    ∃ ds, s = ds ++ r := by
  have hsp := spanDigits_spec s
  cases hsd : spanDigits s with
  | mk ds rest =>
    rw [hsd] at hsp
    simp only [readOctet, hsd] at h
    split at h
    · cases h
    · split at h
      · cases h
      · split at h
        · cases h
        · simp only [Option.some.injEq, Prod.mk.injEq] at h
          exact ⟨ds, by rw [← h.2]; exact hsp.1⟩

/-- `readV4` succeeds only through an octet followed by '.', and an octet read leaves a suffix -/
theorem readV4_none_of_noDot (s : List Char) (h : '.' ∉ s) : readV4 s = none := by
  cases hv : readV4 s with
  | none => rfl
  | some v =>
    obtain ⟨a, r, ho, _⟩ := readsOctets_of_readV4 hv
    obtain ⟨ds, e⟩ := readOctet_suffix s a _ ho
    exact absurd (e ▸ List.mem_append_right ds (List.mem_cons_self ..)) h

/-- a leading zero in the octet after the digit strings `pre` stops every attempt to read more than `pre.length`
    octets -/
theorem not_readsOctets_leadingZero (pre : List (List Char)) (d : Char) (rest : List Char)
    (hpre : ∀ o ∈ pre, allDigits o = true) (hd : isDigit d = true) (n : Nat) (hn : pre.length ≤ n) :
    ¬ readsOctets n (dotted pre ('0' :: d :: rest)) := by
  have hz := readOctet_leadingZero d rest hd
  induction pre generalizing n with
  | nil =>
    cases n with
    | zero => rintro ⟨a, r, h⟩; rw [dotted, hz] at h; cases h
    | succ n => rintro ⟨a, r, h, _⟩; rw [dotted, hz] at h; cases h
  | cons o pre ih =>
    cases n with
    | zero => cases hn
    | succ n =>
      rintro ⟨a, r, h, hr⟩
      rw [dotted] at h
      rcases readOctet_digits_dot o _ (hpre o (List.mem_cons_self ..)) with e | e
      · rw [e] at h; cases h
      · rw [e] at h
        cases h
        exact ih (fun o' ho' => hpre o' (List.mem_cons_of_mem _ ho')) n (Nat.le_of_succ_le_succ hn) hr

theorem readV4_leadingZero (pre : List (List Char)) (d : Char) (rest : List Char)
    (hpre : ∀ o ∈ pre, allDigits o = true) (hlen : pre.length ≤ 3) (hd : isDigit d = true) :
    readV4 (dotted pre ('0' :: d :: rest)) = none := by
  cases h : readV4 (dotted pre ('0' :: d :: rest)) with
  | none => rfl
  | some v => exact absurd (readsOctets_of_readV4 h) (not_readsOctets_leadingZero pre d rest hpre hd 3 hlen)
example : readV4 "1.2.3.04".toList = none := by
  show readV4 (String.ofList _).toList = none
  rw [String.toList_ofList]
  exact readV4_leadingZero [['1'], ['2'], ['3']] '4' [] (by decide) (by decide) (by decide)
example : readV4 "10.00.3.4".toList = none := by
  show readV4 (String.ofList _).toList = none
  rw [String.toList_ofList]
  exact readV4_leadingZero [['1', '0']] '0' _ (by decide) (by decide) (by decide)

/-! `readV6` reads a prefix of its input made of hexadecimal digits and colons, and what it returns is in range: one
invariant through `spanHex`, `readGroup`, `readGroups`, `readV6`. -/

def HexColons (t : List Char) : Prop := ∀ c, c ∈ t → isHexDigit c = true ∨ c = ':'

theorem HexColons.nil : HexColons [] := fun _ h => nomatch h

theorem HexColons.append {a b : List Char} (ha : HexColons a) (hb : HexColons b) : HexColons (a ++ b) := fun c hc =>
  (List.mem_append.mp hc).elim (ha c) (hb c)

theorem HexColons.colon {t : List Char} (h : HexColons t) : HexColons (':' :: t) := fun c hc =>
  (List.mem_cons.mp hc).elim Or.inr (h c)

theorem HexColons.of_hex {t : List Char} (h : ∀ c, c ∈ t → isHexDigit c = true) : HexColons t := fun c hc => Or.inl (h c hc)

theorem HexColons.not_dot {t : List Char} (h : HexColons t) : '.' ∉ t := fun hd =>
  (h _ hd).elim (by decide) (by decide)

theorem spanHex_spec (s : List Char) :
    s = (spanHex s).1 ++ (spanHex s).2 ∧ ∀ c, c ∈ (spanHex s).1 → isHexDigit c = true := by
  induction s with
  | nil => exact ⟨rfl, fun _ h => nomatch h⟩
  | cons d ds ih =>
    simp only [spanHex]
    split
    · rename_i hd
      refine ⟨congrArg (d :: ·) ih.1, fun c hc => ?_⟩
      rcases List.mem_cons.mp hc with rfl | hc
      · exact hd
      · exact ih.2 c hc
    · exact ⟨rfl, fun _ h => nomatch h⟩

def noHexHead (r : List Char) : Prop := ∀ c r', r = c :: r' → isHexDigit c = false

theorem noHexHead_cons {c : Char} {r : List Char} (h : isHexDigit c = false) : noHexHead (c :: r) := by
  intro c' r' e; cases e; exact h

theorem spanHex_append (D rest : List Char) (hd : ∀ c, c ∈ D → isHexDigit c = true) (hr : noHexHead rest) :
    spanHex (D ++ rest) = (D, rest) := by
  induction D with
  | nil =>
    cases rest with
    | nil => rfl
    | cons c r => simp [spanHex, hr c r rfl]
  | cons d D ih =>
    have h1 : isHexDigit d = true := hd d (List.mem_cons_self ..)
    have := ih (fun c hc => hd c (List.mem_cons_of_mem _ hc))
    simp [spanHex, h1, this]

theorem readGroup_noHexHead (s : List Char) (h : noHexHead s) : readGroup s = none := by
  have := spanHex_append [] s (by intro c hc; cases hc) h
  simp only [List.nil_append] at this
  simp [readGroup, this]

theorem char_le_toNat {a c : Char} (h : a ≤ c) : a.toNat ≤ c.toNat :=
  UInt32.le_iff_toNat_le.mp (Char.le_def.mp h)

theorem hexVal_lt {c : Char} (h : isHexDigit c = true) : hexVal c < 16 := by
  unfold hexVal
  by_cases hd : isDigit c = true
  · have := (isDigit_iff c).mp hd
    simp only [hd, if_true]; omega
  · simp only [hd, Bool.false_eq_true, if_false]
    simp only [isHexDigit, Bool.or_eq_true, Bool.and_eq_true, decide_eq_true_eq] at h
    have ea : ('a':Char).toNat = 97 := by decide
    have ef : ('f':Char).toNat = 102 := by decide
    have eA : ('A':Char).toNat = 65 := by decide
    have eF : ('F':Char).toNat = 70 := by decide
    rcases h with (h | ⟨h1, h2⟩) | ⟨h1, h2⟩
    · exact absurd h hd
    · have a1 := char_le_toNat h1; have a2 := char_le_toNat h2
      have : (decide ('a' ≤ c) && decide (c ≤ 'f')) = true := by simp [h1, h2]
      simp only [this, if_true]; omega
    · have a1 := char_le_toNat h1; have a2 := char_le_toNat h2
      split <;> omega

theorem readGroup_inv {s r : List Char} {g : Nat} (h : readGroup s = some (g, r)) :
    ∃ ds, s = ds ++ r ∧ (∀ c, c ∈ ds → isHexDigit c = true) ∧ g < 65536 := by
  obtain ⟨hs, hall⟩ := spanHex_spec s
  unfold readGroup at h
  cases hsp : spanHex s with
  | mk ds rest =>
    rw [hsp] at h hs hall
    simp only at h hs hall
    split at h
    · cases h
    · rename_i hlen
      simp only [Option.some.injEq, Prod.mk.injEq] at h
      obtain ⟨rfl, rfl⟩ := h
      simp only [Bool.or_eq_true, decide_eq_true_eq, not_or, Nat.not_lt] at hlen
      have hb := foldl_val_lt 16 hexVal ds fun c hc => hexVal_lt (hall c hc)
      have : 16 ^ ds.length ≤ 16 ^ 4 := Nat.pow_le_pow_right (by decide) hlen.2
      exact ⟨ds, hs, hall, by omega⟩

theorem readGroups_inv : ∀ (limit i : Nat) (s : List Char),
    ∃ t, s = t ++ (readGroups limit i s).2 ∧ HexColons t ∧
      (readGroups limit i s).1.length ≤ limit ∧ ∀ g, g ∈ (readGroups limit i s).1 → g < 65536
  | 0, _, s => ⟨[], rfl, .nil, Nat.le_refl 0, fun _ h => nomatch h⟩
  | limit + 1, i, s => by
    have stop : ∃ t, s = t ++ s ∧ HexColons t ∧ ([] : List Nat).length ≤ limit + 1 ∧ ∀ g, g ∈ ([] : List Nat) → g < 65536 :=
      ⟨[], rfl, .nil, Nat.zero_le _, fun _ h => nomatch h⟩
    simp only [readGroups]
    split
    · exact stop
    · rename_i s' hs'
      split
      · exact stop
      · rename_i g r hg
        -- the separator is absent before the first group and a colon before the others
        have hsep : ∃ sep, s = sep ++ s' ∧ HexColons sep := by
          split at hs'
          · cases hs'; exact ⟨[], rfl, .nil⟩
          · split at hs'
            · cases hs'; exact ⟨[':'], rfl, HexColons.nil.colon⟩
            · cases hs'
        obtain ⟨sep, e0, c0⟩ := hsep
        obtain ⟨ds, e1, c1, hg'⟩ := readGroup_inv hg
        obtain ⟨t, e2, c2, hl, hr⟩ := readGroups_inv limit (i + 1) r
        cases hrg : readGroups limit (i + 1) r with
        | mk gs r' =>
          rw [hrg] at e2 hl hr
          refine ⟨sep ++ (ds ++ t), ?_, c0.append ((HexColons.of_hex c1).append c2), Nat.succ_le_succ hl, fun x hx => ?_⟩
          · rw [e0, e1, e2]; simp only [List.append_assoc]
          · rcases List.mem_cons.mp hx with rfl | hx
            · exact hg'
            · exact hr x hx

theorem groupsToNat_lt (gs : List Nat) (h : ∀ g, g ∈ gs → g < 65536) (hl : gs.length ≤ 8) : groupsToNat gs < 2 ^ 128 := by
  have hb := foldl_base_lt 65536 gs h 0
  simp only [Nat.zero_add, Nat.one_mul] at hb
  have : 65536 ^ gs.length ≤ 65536 ^ 8 := Nat.pow_le_pow_right (by decide) hl
  have e : (65536:Nat) ^ 8 = 2 ^ 128 := by decide
  unfold groupsToNat
  omega

theorem readV6_inv {s r : List Char} {a : Nat} (h : readV6 s = some (a, r)) :
    ∃ t, s = t ++ r ∧ HexColons t ∧ a < 2 ^ 128 := by
  unfold readV6 at h
  obtain ⟨t1, e1, c1, l1, g1⟩ := readGroups_inv 8 0 s
  cases hh : readGroups 8 0 s with
  | mk head r1 =>
    rw [hh] at h e1 l1 g1
    simp only at h e1 l1 g1
    split at h
    · simp only [Option.some.injEq, Prod.mk.injEq] at h
      obtain ⟨rfl, rfl⟩ := h
      exact ⟨t1, e1, c1, groupsToNat_lt head g1 l1⟩
    · split at h
      · rename_i r2
        obtain ⟨t2, e2, c2, l2, g2⟩ := readGroups_inv (8 - (head.length + 1)) 0 r2
        cases ht : readGroups (8 - (head.length + 1)) 0 r2 with
        | mk tail r3 =>
          rw [ht] at h e2 l2 g2
          simp only [Option.some.injEq, Prod.mk.injEq] at h e2 l2 g2
          obtain ⟨rfl, rfl⟩ := h
          refine ⟨t1 ++ ':' :: ':' :: t2, ?_, c1.append c2.colon.colon, groupsToNat_lt _ (fun g hg => ?_) ?_⟩
          · rw [e1, e2]; simp only [List.append_assoc, List.cons_append]
          · simp only [List.mem_append, List.mem_replicate] at hg
            rcases hg with (hg | hg) | hg
            · exact g1 g hg
            · rw [hg.2]; decide
            · exact g2 g hg
          · simp only [List.length_append, List.length_replicate]
            omega
      · cases h

theorem readV6_lt {s : List Char} {a : Nat} {r : List Char} (h : readV6 s = some (a, r)) : a < 2 ^ 128 := by
  obtain ⟨_, _, _, ha⟩ := readV6_inv h
  exact ha

theorem readV6_dot (s : List Char) (hdot : '.' ∈ s) (a : Nat) : readV6 s ≠ some (a, []) := by
  intro h
  obtain ⟨t, e, c, _⟩ := readV6_inv h
  rw [e, List.append_nil] at hdot
  exact c.not_dot hdot
example : ∀ a, readV6 "1::2.3".toList ≠ some (a, []) := readV6_dot _ (by decide +kernel)
example : readV6 "1::2.3".toList = some (0x10000000000000000000000000002, ".3".toList) := by decide +kernel

theorem parseAddr_none_of_dot (s : List Char) (hdot : '.' ∈ s) (h4 : ∀ a, readV4 s ≠ some (a, [])) :
    parseAddr s = none := by
  unfold parseAddr
  split
  · rename_i a h; exact absurd h (h4 a)
  · split
    · rename_i a h; exact absurd h (readV6_dot s hdot a)
    · rfl

example : parseAddr "1.2.3".toList = none :=
  parseAddr_none_of_dot _ (by decide +kernel) (fun a h => by
    have : readV4 "1.2.3".toList = none := by decide +kernel
    rw [this] at h; cases h)

/-- `hdot` holds as soon as `pre ≠ []`; without any '.', `"01::"` is a valid IPv6 address -/
theorem parse_v4_leadingZero (s : String) (pre : List (List Char)) (d : Char) (rest : List Char)
    (hpre : ∀ o ∈ pre, allDigits o = true) (hlen : pre.length ≤ 3) (hd : isDigit d = true)
    (hdot : '.' ∈ dotted pre ('0' :: d :: rest)) (hslash : '/' ∉ dotted pre ('0' :: d :: rest)) :
    (s.toList = dotted pre ('0' :: d :: rest) → parse s = none) ∧
    (∀ p, s.toList = dotted pre ('0' :: d :: rest) ++ '/' :: p → parse s = none) := by
  apply parse_none_of_parseAddr_none s _ hslash
  apply parseAddr_none_of_dot _ hdot
  intro a
  rw [readV4_leadingZero pre d rest hpre hlen hd]
  exact fun h => nomatch h
example : parse "01.2.3.4" = none :=
  (parse_v4_leadingZero "01.2.3.4" [] '1' ".2.3.4".toList (by decide) (by decide) (by decide)
    (by decide +kernel) (by decide +kernel)).1 (by decide +kernel)
example : parse "1.2.03.4/24" = none :=
  (parse_v4_leadingZero "1.2.03.4/24" ["1".toList, "2".toList] '3' ".4".toList (by decide +kernel) (by decide)
    (by decide) (by decide +kernel) (by decide +kernel)).2 "24".toList (by decide +kernel)

theorem parsePrefix_leadingZero (d : Char) (rest : List Char) (max maxLen : Nat) :
    parsePrefix ('0' :: d :: rest) max maxLen = none := by
  have h : (('0' :: d :: rest).head? == some '0' && '0' :: d :: rest != ['0']) = true := by simp
  simp only [parsePrefix, h, if_true, ite_self]
example : parsePrefix "032".toList 32 2 = none := parsePrefix_leadingZero '3' "2".toList 32 2

theorem parsePrefix_tooBig (p : List Char) (max maxLen : Nat) (h : natOfDigits p > max) :
    parsePrefix p max maxLen = none := by
  simp only [parsePrefix, if_pos h, ite_self]
example : parsePrefix "33".toList 32 2 = none := parsePrefix_tooBig _ 32 2 (by decide +kernel)

theorem parse_none_of_parsePrefix_none (s : String) (a p : List Char) (ha : '/' ∉ a) (hs : s.toList = a ++ '/' :: p)
    (h : ∀ v6 addr, parseAddr a = some (v6, addr) →
      (if v6 = true then parsePrefix p 128 3 else parsePrefix p 32 2) = none) :
    parse s = none := by
  simp only [parse, hs, splitOnceSlash_append a p ha]
  split
  · rfl
  · split
    · rfl
    · cases hp : parseAddr a with
      | none => rfl
      | some q =>
        obtain ⟨v6, addr⟩ := q
        simp only [h v6 addr hp]

theorem parse_prefix_leadingZero (s : String) (a : List Char) (d : Char) (rest : List Char) (ha : '/' ∉ a)
    (hs : s.toList = a ++ '/' :: '0' :: d :: rest) : parse s = none := by
  apply parse_none_of_parsePrefix_none s a _ ha hs
  intro v6 addr _
  cases v6 <;> simp only [parsePrefix_leadingZero] <;> rfl
example : parse "1.2.3.4/032" = none :=
  parse_prefix_leadingZero "1.2.3.4/032" "1.2.3.4".toList '3' "2".toList (by decide +kernel) (by decide +kernel)
example : parse "::1/00" = none :=
  parse_prefix_leadingZero "::1/00" "::1".toList '0' [] (by decide +kernel) (by decide +kernel)

theorem parse_prefix_tooBig (s : String) (a p : List Char) (ha : '/' ∉ a) (hs : s.toList = a ++ '/' :: p)
    (h : ∀ v6 addr, parseAddr a = some (v6, addr) → natOfDigits p > (if v6 = true then 128 else 32)) :
    parse s = none := by
  apply parse_none_of_parsePrefix_none s a p ha hs
  intro v6 addr hp
  have := h v6 addr hp
  cases v6
  · simp only [Bool.false_eq_true, if_false] at this ⊢
    exact parsePrefix_tooBig p 32 2 this
  · simp only [if_true] at this ⊢
    exact parsePrefix_tooBig p 128 3 this

theorem parse_prefix_tooBig_v4 (s : String) (a p : List Char) (addr : Nat) (ha : '/' ∉ a)
    (hs : s.toList = a ++ '/' :: p) (h4 : parseAddr a = some (false, addr)) (h : natOfDigits p > 32) :
    parse s = none := by
  apply parse_prefix_tooBig s a p ha hs
  intro v6 addr' hp
  rw [h4] at hp
  simp only [Option.some.injEq, Prod.mk.injEq] at hp
  rw [← hp.1]; exact h

theorem parse_prefix_tooBig_any (s : String) (a p : List Char) (ha : '/' ∉ a)
    (hs : s.toList = a ++ '/' :: p) (h : natOfDigits p > 128) : parse s = none := by
  apply parse_prefix_tooBig s a p ha hs
  intro v6 addr _
  cases v6
  · simp only [Bool.false_eq_true, if_false]; omega
  · simp only [if_true]; exact h
example : parse "1.2.3.4/33" = none :=
  parse_prefix_tooBig_v4 "1.2.3.4/33" "1.2.3.4".toList "33".toList 0x01020304 (by decide +kernel) (by decide +kernel)
    (by decide +kernel) (by decide +kernel)
example : parse "::1/129" = none :=
  parse_prefix_tooBig_any "::1/129" "::1".toList "129".toList (by decide +kernel) (by decide +kernel)
    (by decide +kernel)

/-- rejected by the 43-byte length test, which comes first, or by `str_contains_colons_and_dots` -/
theorem parse_colonsAndDots (s : String) (hc : countChar ':' s.toList ≥ 2) (hd : countChar '.' s.toList ≥ 2) :
    parse s = none := by
  have : containsColonsAndDots s.toList = true := by
    simp only [containsColonsAndDots, Bool.and_eq_true, decide_eq_true_eq]
    exact ⟨hc, hd⟩
  simp only [parse, this, if_true]
  split <;> rfl
example : parse "::ffff:1.2.3.4" = none :=
  parse_colonsAndDots "::ffff:1.2.3.4" (by decide +kernel) (by decide +kernel)

end Cedar.Ext.IPAddr
