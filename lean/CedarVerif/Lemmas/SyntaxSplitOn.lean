import CedarVerif.Cedar.Syntax.Parse
/-
C05: the two facts about the legacy `String.splitOn` (separator `::`) that the round-trip theorems need:
`intercalate "::" (s.splitOn "::") = s` and `(intercalate "::" ids).splitOn "::" = ids` for identifiers.
`String.splitOnAux` works on byte positions (`String.Pos.Raw`); its reference semantics (`utf8GetAux`, `extract.go₁/go₂`,
`utf8ByteSize`) is list based, so the proof relates it to a list-level scanner `gl`.
-/
namespace Cedar.Syntax.SplitOn

def ulen : List Char → Nat
  | [] => 0
  | c :: cs => c.utf8Size + ulen cs

theorem ulen_append (a b : List Char) : ulen (a ++ b) = ulen a + ulen b := by
  induction a with
  | nil => simp [ulen]
  | cons c a ih => simp [ulen, ih]; omega

theorem utf8ByteSize_ofList : ∀ l : List Char, (String.ofList l).utf8ByteSize = ulen l
  | [] => by simp [ulen]
  | c :: cs => by simp [String.ofList_cons, String.utf8ByteSize_append, String.utf8ByteSize_singleton, ulen, utf8ByteSize_ofList cs]

theorem pos_add_char (k : Nat) (c : Char) : (⟨k⟩ : String.Pos.Raw) + c = ⟨k + c.utf8Size⟩ := rfl

theorem getAux_at : ∀ (pre : List Char) (c : Char) (rest : List Char) (k : Nat),
    String.Pos.Raw.utf8GetAux (pre ++ c :: rest) ⟨k⟩ ⟨k + ulen pre⟩ = c
  | [], c, rest, k => by simp [String.Pos.Raw.utf8GetAux, ulen]
  | p :: pre, c, rest, k => by
    have hp := Char.utf8Size_pos p
    have hne : ¬ ((⟨k⟩ : String.Pos.Raw) = ⟨k + ulen (p :: pre)⟩) := by
      simp only [ulen, String.Pos.Raw.mk.injEq]; omega
    simp only [List.cons_append, String.Pos.Raw.utf8GetAux, hne, if_false, pos_add_char]
    have := getAux_at pre c rest (k + p.utf8Size)
    simpa [ulen, Nat.add_assoc] using this

theorem get_at {s : String} {pre rest : List Char} {c : Char} (h : s.toList = pre ++ c :: rest) :
    (⟨ulen pre⟩ : String.Pos.Raw).get s = c := by
  unfold String.Pos.Raw.get
  rw [h]
  have := getAux_at pre c rest 0
  simpa using this

theorem go2_spec : ∀ (mid post : List Char) (k : Nat),
    String.Pos.Raw.extract.go₂ (mid ++ post) ⟨k⟩ ⟨k + ulen mid⟩ = mid
  | [], post, k => by cases post <;> simp [String.Pos.Raw.extract.go₂, ulen]
  | m :: mid, post, k => by
    have hp := Char.utf8Size_pos m
    have hne : ¬ ((⟨k⟩ : String.Pos.Raw) = ⟨k + ulen (m :: mid)⟩) := by
      simp only [ulen, String.Pos.Raw.mk.injEq]; omega
    simp only [List.cons_append, String.Pos.Raw.extract.go₂, hne, if_false, pos_add_char]
    have := go2_spec mid post (k + m.utf8Size)
    simp only [ulen, ← Nat.add_assoc]
    rw [this]

theorem go1_spec : ∀ (pre mid post : List Char) (k : Nat),
    String.Pos.Raw.extract.go₁ (pre ++ (mid ++ post)) ⟨k⟩ ⟨k + ulen pre⟩ ⟨k + ulen pre + ulen mid⟩ = mid
  | [], mid, post, k => by
    simp only [List.nil_append, ulen, Nat.add_zero]
    cases h : mid ++ post with
    | nil => simp at h; simp [h.1, String.Pos.Raw.extract.go₁]
    | cons c cs =>
      simp only [String.Pos.Raw.extract.go₁, if_true]
      rw [← h]; exact go2_spec mid post k
  | p :: pre, mid, post, k => by
    have hp := Char.utf8Size_pos p
    have hne : ¬ ((⟨k⟩ : String.Pos.Raw) = ⟨k + ulen (p :: pre)⟩) := by
      simp only [ulen, String.Pos.Raw.mk.injEq]; omega
    simp only [List.cons_append, String.Pos.Raw.extract.go₁, hne, if_false, pos_add_char]
    have := go1_spec pre mid post (k + p.utf8Size)
    simp only [ulen, ← Nat.add_assoc]
    rw [this]

theorem extract_spec {s : String} {pre mid post : List Char} (h : s.toList = pre ++ (mid ++ post)) :
    String.Pos.Raw.extract s ⟨ulen pre⟩ ⟨ulen pre + ulen mid⟩ = String.ofList mid := by
  simp only [String.Pos.Raw.extract]
  split
  · rename_i hge
    cases mid with
    | nil => rfl
    | cons c cs => have := Char.utf8Size_pos c; simp only [ge_iff_le, ulen] at hge; omega
  · rw [h]
    have := go1_spec pre mid post 0
    simp only [Nat.zero_add] at this
    exact congrArg String.ofList this

theorem ulen_reverse (l : List Char) : ulen l.reverse = ulen l := by
  induction l with
  | nil => rfl
  | cons c l ih => simp [ulen, ulen_append, ih]; omega

theorem atEnd_eq (s : String) (k : Nat) : (⟨k⟩ : String.Pos.Raw).atEnd s = decide (k ≥ ulen s.toList) := by
  have := utf8ByteSize_ofList s.toList
  rw [String.ofList_toList] at this
  simp [String.Pos.Raw.atEnd, this]

theorem colon_size : (':' : Char).utf8Size = 1 := by decide

theorem sep_facts : (⟨0⟩ : String.Pos.Raw).get "::" = ':' ∧ (⟨1⟩ : String.Pos.Raw).get "::" = ':' ∧
    (⟨1⟩ : String.Pos.Raw).atEnd "::" = false ∧ (⟨2⟩ : String.Pos.Raw).atEnd "::" = true := by decide

/-- the list-level scanner: `piece` = the current piece so far (reversed), `pend` = one `:` seen and held back -/
def gl : List Char → Bool → List Char → List (List Char)
  | piece, pend, [] => [(if pend then ':' :: piece else piece).reverse]
  | piece, false, c :: cs => if c = ':' then gl piece true cs else gl (c :: piece) false cs
  | piece, true, c :: cs => if c = ':' then piece.reverse :: gl [] false cs else gl (c :: ':' :: piece) false cs

/-- `splitOnAux` with its three positions — start of the current piece, scan position, position in the separator — standing after
`bpre`, after `piece` and a held-back `:`, and at 1 iff a `:` is held back, goes on as `gl` does.  `n` bounds the steps left: a mismatch
after a held-back `:` scans that character again, hence two per character. -/
theorem aux_spec (s : String) : ∀ (n : Nat) (rest bpre piece : List Char) (pend : Bool) (r : List String),
    2 * rest.length + (if pend then 1 else 0) ≤ n →
    s.toList = bpre ++ (piece.reverse ++ ((if pend then [':'] else []) ++ rest)) →
    String.splitOnAux s "::" ⟨ulen bpre⟩ ⟨ulen bpre + (ulen piece + (if pend then 1 else 0))⟩ ⟨if pend then 1 else 0⟩ r =
      r.reverse ++ (gl piece pend rest).map String.ofList := by
  intro n
  induction n using Nat.strongRecOn with
  | _ n ih =>
    intro rest bpre piece pend r hn hs
    cases rest with
    | nil =>
      cases pend
      · simp only [Bool.false_eq_true, if_false, Nat.add_zero, List.append_nil] at hs ⊢
        have hlen : ulen s.toList = ulen bpre + ulen piece := by rw [hs, ulen_append, ulen_reverse]
        have hex := extract_spec (s := s) (pre := bpre) (mid := piece.reverse) (post := []) (by simpa using hs)
        rw [ulen_reverse] at hex
        rw [String.splitOnAux]
        simp [atEnd_eq, hlen, hex, gl]
      · simp only [if_true, List.append_nil] at hs ⊢
        have hm : ulen (piece.reverse ++ [':']) = ulen piece + 1 := by simp [ulen_append, ulen_reverse, ulen, colon_size]
        have hlen : ulen s.toList = ulen bpre + (ulen piece + 1) := by rw [hs, ulen_append, hm]
        have hex := extract_spec (s := s) (pre := bpre) (mid := piece.reverse ++ [':']) (post := []) (by simpa using hs)
        rw [hm] at hex
        rw [String.splitOnAux]
        simp [atEnd_eq, hlen, hex, gl]
    | cons c cs =>
      have hcpos := Char.utf8Size_pos c
      cases pend
      · simp only [Bool.false_eq_true, if_false, Nat.add_zero, List.nil_append] at hs hn ⊢
        have hpre : ulen (bpre ++ piece.reverse) = ulen bpre + ulen piece := by rw [ulen_append, ulen_reverse]
        have hlen : ulen s.toList = ulen bpre + ulen piece + (c.utf8Size + ulen cs) := by
          rw [hs, ← List.append_assoc, ulen_append, hpre]; rfl
        have hget : (⟨ulen bpre + ulen piece⟩ : String.Pos.Raw).get s = c := by
          rw [← hpre]; exact get_at (rest := cs) (by simpa using hs)
        have hnot : (⟨ulen bpre + ulen piece⟩ : String.Pos.Raw).atEnd s = false := by
          rw [atEnd_eq, hlen]; simp; omega
        rw [String.splitOnAux]
        simp only [hnot, Bool.false_eq_true, if_false, hget, sep_facts.1, String.Pos.Raw.next, pos_add_char, colon_size]
        by_cases hc : c = ':'
        · subst hc
          simp only [beq_self_eq_true, if_true, colon_size, Nat.zero_add, sep_facts.2.2.1, Bool.false_eq_true, if_false]
          have := ih (2 * cs.length + 1) (by simp at hn; omega) cs bpre piece true r (by simp) (by simpa using hs)
          simp only [if_true] at this
          rw [show ulen bpre + ulen piece + 1 = ulen bpre + (ulen piece + 1) by omega, this]
          simp [gl]
        · have hb : (c == ':') = false := by simpa using hc
          simp only [hb, Bool.false_eq_true, if_false]
          have := ih (2 * cs.length) (by simp at hn; omega) cs bpre (c :: piece) false r (by simp) (by simpa using hs)
          simp only [Bool.false_eq_true, if_false, Nat.add_zero, ulen] at this
          have e : ((⟨ulen bpre + ulen piece⟩ : String.Pos.Raw).unoffsetBy ⟨0⟩) = ⟨ulen bpre + ulen piece⟩ := rfl
          rw [e, hget, pos_add_char]
          rw [show ulen bpre + ulen piece + c.utf8Size = ulen bpre + (c.utf8Size + ulen piece) by omega]
          change String.splitOnAux s "::" ⟨ulen bpre⟩ ⟨ulen bpre + (c.utf8Size + ulen piece)⟩ ⟨0⟩ r = _
          rw [this]
          simp [gl, hc]
      · simp only [if_true] at hs hn ⊢
        have hpre : ulen (bpre ++ piece.reverse) = ulen bpre + ulen piece := by rw [ulen_append, ulen_reverse]
        have hpre1 : ulen (bpre ++ piece.reverse ++ [':']) = ulen bpre + (ulen piece + 1) := by
          rw [ulen_append, hpre]; simp [ulen, colon_size]; omega
        have hs1 : s.toList = (bpre ++ piece.reverse ++ [':']) ++ c :: cs := by simpa using hs
        have hlen : ulen s.toList = ulen bpre + (ulen piece + 1) + (c.utf8Size + ulen cs) := by
          rw [hs1, ulen_append, hpre1]; rfl
        have hget : (⟨ulen bpre + (ulen piece + 1)⟩ : String.Pos.Raw).get s = c := by
          rw [← hpre1]; exact get_at hs1
        have hnot : (⟨ulen bpre + (ulen piece + 1)⟩ : String.Pos.Raw).atEnd s = false := by
          rw [atEnd_eq, hlen]; simp; omega
        rw [String.splitOnAux]
        simp only [hnot, Bool.false_eq_true, if_false, hget, sep_facts.2.1, String.Pos.Raw.next, pos_add_char, colon_size]
        by_cases hc : c = ':'
        · subst hc
          simp only [beq_self_eq_true, if_true, colon_size, Nat.reduceAdd, sep_facts.2.2.2]
          have hex := extract_spec (s := s) (pre := bpre) (mid := piece.reverse) (post := ':' :: ':' :: cs) (by simpa using hs)
          rw [ulen_reverse] at hex
          have e : ((⟨ulen bpre + (ulen piece + 1) + 1⟩ : String.Pos.Raw).unoffsetBy ⟨2⟩) = ⟨ulen bpre + ulen piece⟩ := by
            simp [String.Pos.Raw.unoffsetBy]
          rw [e, hex]
          have hb' : ulen (bpre ++ piece.reverse ++ [':', ':']) = ulen bpre + (ulen piece + 1) + 1 := by
            rw [ulen_append, hpre]; simp [ulen, colon_size]; omega
          have := ih (2 * cs.length) (by simp at hn; omega) cs (bpre ++ piece.reverse ++ [':', ':']) [] false
            (String.ofList piece.reverse :: r) (by simp) (by simpa using hs)
          simp only [Bool.false_eq_true, if_false, Nat.add_zero, ulen, hb'] at this
          change String.splitOnAux s "::" ⟨ulen bpre + (ulen piece + 1) + 1⟩ ⟨ulen bpre + (ulen piece + 1) + 1⟩ ⟨0⟩ _ = _
          rw [this]
          simp [gl]
        · have hb : (c == ':') = false := by simpa using hc
          simp only [hb, Bool.false_eq_true, if_false]
          have e : ((⟨ulen bpre + (ulen piece + 1)⟩ : String.Pos.Raw).unoffsetBy ⟨1⟩) = ⟨ulen bpre + ulen piece⟩ := by
            simp [String.Pos.Raw.unoffsetBy]
          have hget' : (⟨ulen bpre + ulen piece⟩ : String.Pos.Raw).get s = ':' := by
            rw [← hpre]; exact get_at (rest := c :: cs) (by simpa using hs)
          rw [e, hget', pos_add_char, colon_size]
          have := ih (2 * (cs.length + 1)) (by simp at hn; omega) (c :: cs) bpre (':' :: piece) false r (by simp) (by simpa using hs)
          simp only [Bool.false_eq_true, if_false, Nat.add_zero, ulen, colon_size] at this
          rw [show ulen bpre + ulen piece + 1 = ulen bpre + (1 + ulen piece) by omega]
          change String.splitOnAux s "::" ⟨ulen bpre⟩ ⟨ulen bpre + (1 + ulen piece)⟩ ⟨0⟩ r = _
          rw [this]
          simp [gl, hc]

theorem splitOn_eq (s : String) : s.splitOn "::" = (gl [] false s.toList).map String.ofList := by
  have h := aux_spec s (2 * s.toList.length) s.toList [] [] false [] (by simp) (by simp)
  simp only [Bool.false_eq_true, if_false, ulen, Nat.add_zero, List.reverse_nil, List.nil_append] at h
  unfold String.splitOn
  rw [if_neg (by decide)]
  exact h

def jn : List (List Char) → List Char
  | [] => []
  | [x] => x
  | x :: y :: l => x ++ ':' :: ':' :: jn (y :: l)

theorem intercalate_eq_jn : ∀ l : List (List Char), [':', ':'].intercalate l = jn l
  | [] => by simp [jn]
  | [x] => by simp [jn]
  | x :: y :: l => by
    have := intercalate_eq_jn (y :: l)
    simp only [List.intercalate, List.intersperse_cons_cons, List.flatten_cons] at this ⊢
    simp [jn, this]

theorem gl_ne_nil : ∀ rest piece pend, gl piece pend rest ≠ []
  | [], piece, pend => by simp [gl]
  | c :: cs, piece, false => by
    simp only [gl]; split
    · exact gl_ne_nil cs piece true
    · exact gl_ne_nil cs (c :: piece) false
  | c :: cs, piece, true => by
    simp only [gl]; split
    · simp
    · exact gl_ne_nil cs _ false

theorem _root_.Cedar.Syntax.splitOn_ne_nil (s : String) : s.splitOn "::" ≠ [] := by
  rw [splitOn_eq]
  exact fun h => gl_ne_nil _ _ _ (List.map_eq_nil_iff.mp h)

theorem jn_cons_of_ne_nil (x : List Char) {l : List (List Char)} (h : l ≠ []) : jn (x :: l) = x ++ ':' :: ':' :: jn l := by
  cases l with
  | nil => exact absurd rfl h
  | cons y l => rfl

theorem gl_join : ∀ rest piece pend, jn (gl piece pend rest) = piece.reverse ++ ((if pend then [':'] else []) ++ rest)
  | [], piece, pend => by cases pend <;> simp [gl, jn]
  | c :: cs, piece, false => by
    simp only [gl]
    split
    · rename_i hc; subst hc; rw [gl_join cs piece true]; simp
    · rw [gl_join cs (c :: piece) false]; simp
  | c :: cs, piece, true => by
    simp only [gl]
    split
    · rename_i hc; subst hc
      rw [jn_cons_of_ne_nil _ (gl_ne_nil cs [] false), gl_join cs [] false]; simp
    · rw [gl_join cs _ false]; simp

theorem colons : "::".toList = [':', ':'] := by decide

theorem _root_.Cedar.Syntax.joinName_splitOn (s : String) : joinName (s.splitOn "::") = s := by
  show "::".intercalate (s.splitOn "::") = s
  apply String.toList_injective
  rw [String.toList_intercalate, splitOn_eq, colons, intercalate_eq_jn]
  simp only [List.map_map]
  have : (String.toList ∘ String.ofList) = id := by funext l; simp
  rw [this, List.map_id, gl_join]
  simp

theorem gl_scan : ∀ (w piece rest : List Char), ':' ∉ w → gl piece false (w ++ rest) = gl (w.reverse ++ piece) false rest
  | [], piece, rest, _ => by simp
  | c :: w, piece, rest, h => by
    have hc : c ≠ ':' := by intro hc; subst hc; simp at h
    have hw : ':' ∉ w := by intro hw; exact h (by simp [hw])
    simp only [List.cons_append, gl, hc, if_false]
    rw [gl_scan w (c :: piece) rest hw]
    simp

theorem gl_jn : ∀ (l : List (List Char)) (w piece : List Char), (∀ x ∈ w :: l, ':' ∉ x) →
    gl piece false (jn (w :: l)) = (piece.reverse ++ w) :: l
  | [], w, piece, h => by
    have := gl_scan w piece [] (h w (by simp))
    simp only [List.append_nil] at this
    simp [jn, this, gl]
  | y :: l, w, piece, h => by
    have h1 := gl_scan w piece (':' :: ':' :: jn (y :: l)) (h w (by simp))
    have h2 := gl_jn l y [] (fun x hx => h x (by simp at hx ⊢; right; exact hx))
    simp only [jn, h1, gl, if_true]
    rw [h2]
    simp

theorem splitOn_join (comps : List String) (hne : comps ≠ []) (h : ∀ c ∈ comps, ':' ∉ c.toList) :
    ("::".intercalate comps).splitOn "::" = comps := by
  rw [splitOn_eq, String.toList_intercalate, colons, intercalate_eq_jn]
  cases comps with
  | nil => exact absurd rfl hne
  | cons w l =>
    simp only [List.map_cons]
    rw [gl_jn (l.map String.toList) w.toList [] (by
      intro x hx
      simp only [List.mem_cons, List.mem_map] at hx
      rcases hx with hx | ⟨c, hc, hx⟩
      · subst hx; exact h w (by simp)
      · subst hx; exact h c (by simp [hc]))]
    simp [List.map_map]

theorem idCont_ne_colon {ch : Char} (h : isIdCont ch = true) : ch ≠ ':' := by
  intro hc; subst hc; revert h; decide

theorem ident_no_colon {cs : List Char} (h : isIdentChars cs = true) : ':' ∉ cs := by
  cases cs with
  | nil => simp
  | cons c cs =>
    simp only [isIdentChars, Bool.and_eq_true, List.all_eq_true] at h
    intro hm
    simp only [List.mem_cons] at hm
    rcases hm with hm | hm
    · exact idCont_ne_colon (ch := c) (by simp [isIdCont, h.1]) hm.symm
    · exact idCont_ne_colon (h.2 _ hm) rfl

end Cedar.Syntax.SplitOn

namespace Cedar.Syntax

theorem splitOn_joinName (comps : List String) (hne : comps ≠ []) (h : ∀ c ∈ comps, isIdentChars c.toList = true) :
    (joinName comps).splitOn "::" = comps :=
  SplitOn.splitOn_join comps hne (fun c hc => SplitOn.ident_no_colon (h c hc))

end Cedar.Syntax
