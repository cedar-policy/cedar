import CedarVerif.Lemmas.PartialTable
import CedarVerif.Lemmas.Auth
import CedarVerif.Lemmas.Data
/- `reauthorize` vs a fresh concrete authorization, given per-policy agreement of the residual policies; and C01's authorizer as
   `concreteDecision` / `determining` of the policies' outcomes, so that what `PartialTable` says of those it says of
   `isAuthorized`. -/
namespace Cedar

/-- the policy `all_residual_policies` builds for `p`, by the class partial evaluation gave it -/
def residualPolicy (c : PolicyResult) (p : Policy) : Option Policy :=
  match c with
  | .sat => some { id := p.id, effect := p.effect, condition := residualCondition (.lit (.bool true)), env := [] }
  | .unsat => some { id := p.id, effect := p.effect, condition := residualCondition (.lit (.bool false)), env := [] }
  | .err => some { id := p.id, effect := p.effect, condition := residualCondition (.lit (.bool false)), env := [] }
  | .residual e => some { id := p.id, effect := p.effect, condition := residualCondition e, env := [] }
  | .stuck => none

theorem residualPolicy_id {c : PolicyResult} {p q : Policy} (h : residualPolicy c p = some q) :
    q.id = p.id ∧ q.effect = p.effect := by
  cases c <;> simp [residualPolicy] at h <;> subst h <;> exact ⟨rfl, rfl⟩

/-- class `c` of the re-evaluated residual policy vs. concrete outcome `o`: satisfied exactly together, and the
    re-evaluation is neither residual nor stuck -/
def SatAgrees (c : PolicyResult) (o : Outcome) : Prop :=
  match c with
  | .sat => o = .sat
  | .unsat => o ≠ .sat
  | .err => o ≠ .sat
  | .residual _ => False
  | .stuck => False

/-- the residual policy of `p`, re-evaluated under the substitution on the concretised request and store,
    is satisfied exactly when `p` is satisfied concretely (and evaluation is not stuck / residual) -/
def PolicyAgrees (σ : Mapper) (preq : PRequest) (pes : PEntities) (req' : Request) (es' : Entities) (p : Policy) : Prop :=
  ∃ q, residualPolicy (partialEvaluate [] preq pes p) p = some q ∧
    SatAgrees (partialEvaluate σ (.ofConcrete req') (.ofConcrete es') q) (p.outcome req' es')

/-- `PolicyAgrees` for an arbitrary second-pass store `pes2` (the store handed to `reauthorize`); `PolicyAgrees` is the
    instance `pes2 = .ofConcrete es'` -/
def PolicyAgreesOn (pes2 : PEntities) (σ : Mapper) (preq : PRequest) (pes : PEntities) (req' : Request) (es' : Entities)
    (p : Policy) : Prop :=
  ∃ q, residualPolicy (partialEvaluate [] preq pes p) p = some q ∧
    SatAgrees (partialEvaluate σ (.ofConcrete req') pes2 q) (p.outcome req' es')

theorem policyAgrees_iff_on (σ : Mapper) (preq : PRequest) (pes : PEntities) (req' : Request) (es' : Entities) (p : Policy) :
    PolicyAgrees σ preq pes req' es' p ↔ PolicyAgreesOn (.ofConcrete es') σ preq pes req' es' p := Iff.rfl

section
variable (preq : PRequest) (pes : PEntities) (ps : List Policy)

theorem mem_allResidualPolicies (q : Policy) :
    q ∈ (isAuthorizedCore [] preq pes ps).allResidualPolicies ↔
      ∃ p, p ∈ ps ∧ residualPolicy (partialEvaluate [] preq pes p) p = some q := by
  have S := core_spec [] pes preq ps
  unfold PartialResponse.allResidualPolicies
  simp only [List.mem_append, List.mem_map]
  constructor
  · rintro (((((⟨id, hid, rfl⟩ | ⟨⟨id, b⟩, hid, rfl⟩) | ⟨⟨id, e⟩, hid, rfl⟩) | ⟨id, hid, rfl⟩) | ⟨⟨id, b⟩, hid, rfl⟩) | ⟨⟨id, e⟩, hid, rfl⟩)
    · obtain ⟨p, hp, rfl, he, hs⟩ := (S.sp id).mp hid
      exact ⟨p, hp, by simp [residualPolicy, hs, he]⟩
    · obtain ⟨p, hp, rfl, he, hs⟩ := (S.fp id b).mp hid
      rcases hs with ⟨_, hs⟩ | ⟨_, hs⟩ <;> exact ⟨p, hp, by simp [residualPolicy, hs, he]⟩
    · obtain ⟨p, hp, rfl, he, hs⟩ := (S.rp id e).mp hid
      exact ⟨p, hp, by simp [residualPolicy, hs, he]⟩
    · obtain ⟨p, hp, rfl, he, hs⟩ := (S.sf id).mp hid
      exact ⟨p, hp, by simp [residualPolicy, hs, he]⟩
    · obtain ⟨p, hp, rfl, he, hs⟩ := (S.ff id b).mp hid
      rcases hs with ⟨_, hs⟩ | ⟨_, hs⟩ <;> exact ⟨p, hp, by simp [residualPolicy, hs, he]⟩
    · obtain ⟨p, hp, rfl, he, hs⟩ := (S.rf id e).mp hid
      exact ⟨p, hp, by simp [residualPolicy, hs, he]⟩
  · rintro ⟨p, hp, hq⟩
    cases hs : partialEvaluate [] preq pes p with
    | stuck => rw [hs] at hq; simp [residualPolicy] at hq
    | sat =>
      rw [hs] at hq; simp only [residualPolicy, Option.some.injEq] at hq; subst hq
      cases he : p.effect with
      | permit => exact Or.inl (Or.inl (Or.inl (Or.inl (Or.inl ⟨p.id, (S.sp p.id).mpr ⟨p, hp, rfl, he, hs⟩, rfl⟩))))
      | forbid => exact Or.inl (Or.inl (Or.inr ⟨p.id, (S.sf p.id).mpr ⟨p, hp, rfl, he, hs⟩, rfl⟩))
    | unsat =>
      rw [hs] at hq; simp only [residualPolicy, Option.some.injEq] at hq; subst hq
      cases he : p.effect with
      | permit => exact Or.inl (Or.inl (Or.inl (Or.inl (Or.inr ⟨(p.id, false), (S.fp p.id false).mpr ⟨p, hp, rfl, he, Or.inl ⟨rfl, hs⟩⟩, rfl⟩))))
      | forbid => exact Or.inl (Or.inr ⟨(p.id, false), (S.ff p.id false).mpr ⟨p, hp, rfl, he, Or.inl ⟨rfl, hs⟩⟩, rfl⟩)
    | err =>
      rw [hs] at hq; simp only [residualPolicy, Option.some.injEq] at hq; subst hq
      cases he : p.effect with
      | permit => exact Or.inl (Or.inl (Or.inl (Or.inl (Or.inr ⟨(p.id, true), (S.fp p.id true).mpr ⟨p, hp, rfl, he, Or.inr ⟨rfl, hs⟩⟩, rfl⟩))))
      | forbid => exact Or.inl (Or.inr ⟨(p.id, true), (S.ff p.id true).mpr ⟨p, hp, rfl, he, Or.inr ⟨rfl, hs⟩⟩, rfl⟩)
    | residual e =>
      rw [hs] at hq; simp only [residualPolicy, Option.some.injEq] at hq; subst hq
      cases he : p.effect with
      | permit => exact Or.inl (Or.inl (Or.inl (Or.inr ⟨(p.id, e), (S.rp p.id e).mpr ⟨p, hp, rfl, he, hs⟩, rfl⟩)))
      | forbid => exact Or.inr ⟨(p.id, e), (S.rf p.id e).mpr ⟨p, hp, rfl, he, hs⟩, rfl⟩

end

theorem reauthorize_core_on (pes2 : PEntities) (σ : Mapper) (preq : PRequest) (pes : PEntities) (ps : List Policy)
    (req' : Request) (es' : Entities)
    (hreq : (isAuthorizedCore [] preq pes ps).concretizeRequest σ = .ok (.ofConcrete req'))
    (hslot : (isAuthorizedCore [] preq pes ps).residualPoliciesPanic = false)
    (hsound : ∀ p, p ∈ ps → PolicyAgreesOn pes2 σ preq pes req' es' p) :
    ∃ pr2, (isAuthorizedCore [] preq pes ps).reauthorize σ pes2 = .ok pr2 ∧
      pr2.decision = some (isAuthorized req' es' ps).decision ∧
      pr2.concretize.decision = (isAuthorized req' es' ps).decision ∧
      (∀ id, id ∈ pr2.concretize.reasons ↔ id ∈ (isAuthorized req' es' ps).reasons) := by
  let pr := isAuthorizedCore [] preq pes ps
  let Q := pr.allResidualPolicies
  let pr2 := isAuthorizedCore σ (.ofConcrete req') pes2 Q
  have hre : pr.reauthorize σ pes2 = .ok pr2 := by
    show (isAuthorizedCore [] preq pes ps).reauthorize σ pes2 = _
    unfold PartialResponse.reauthorize
    simp only [hslot, Bool.false_eq_true, if_false]
    rw [hreq]; rfl
  refine ⟨pr2, hre, ?_⟩
  have S2 := core_spec σ pes2 (.ofConcrete req') Q
  have hQ := mem_allResidualPolicies preq pes ps
  have sat_iff : ∀ (eff : Effect) (id : String),
      (∃ q, q ∈ Q ∧ id = q.id ∧ q.effect = eff ∧ partialEvaluate σ (.ofConcrete req') pes2 q = .sat) ↔
      (∃ p, p ∈ ps ∧ id = p.id ∧ p.effect = eff ∧ Sat req' es' p) := by
    intro eff id
    constructor
    · rintro ⟨q, hq, rfl, he, hs⟩
      obtain ⟨p, hp, hpq⟩ := (hQ q).mp hq
      obtain ⟨q', hq', hm⟩ := hsound p hp
      rw [hpq] at hq'; cases hq'
      rw [hs] at hm
      obtain ⟨h1, h2⟩ := residualPolicy_id hpq
      exact ⟨p, hp, h1, h2 ▸ he, hm⟩
    · rintro ⟨p, hp, rfl, he, hs⟩
      obtain ⟨q, hq, hm⟩ := hsound p hp
      obtain ⟨h1, h2⟩ := residualPolicy_id hq
      refine ⟨q, (hQ q).mpr ⟨p, hp, hq⟩, h1.symm, h2.trans he, ?_⟩
      cases hc : partialEvaluate σ (.ofConcrete req') pes2 q with
      | sat => rfl
      | unsat => rw [hc] at hm; exact (hm hs).elim
      | err => rw [hc] at hm; exact (hm hs).elim
      | residual e => rw [hc] at hm; exact hm.elim
      | stuck => rw [hc] at hm; exact hm.elim
  have no_res : ∀ q, q ∈ Q → ∀ e, partialEvaluate σ (.ofConcrete req') pes2 q ≠ .residual e := by
    intro q hq e hc
    obtain ⟨p, hp, hpq⟩ := (hQ q).mp hq
    obtain ⟨q', hq', hm⟩ := hsound p hp
    rw [hpq] at hq'; cases hq'
    rw [hc] at hm; exact hm
  have hSP : ∀ id, id ∈ pr2.satisfiedPermits ↔ id ∈ (ps.foldl (Buckets.step req' es') {}).satPermits := by
    intro id
    rw [S2.sp id, mem_satPermits]
    simp only [List.not_mem_nil, false_or]
    exact sat_iff .permit id
  have hSF : ∀ id, id ∈ pr2.satisfiedForbids ↔ id ∈ (ps.foldl (Buckets.step req' es') {}).satForbids := by
    intro id
    rw [S2.sf id, mem_satForbids]
    simp only [List.not_mem_nil, false_or]
    exact sat_iff .forbid id
  have hRP : pr2.residualPermits = [] := by
    cases hl : pr2.residualPermits with
    | nil => rfl
    | cons x t =>
      obtain ⟨id, e⟩ := x
      have : (id, e) ∈ pr2.residualPermits := by rw [hl]; exact List.mem_cons_self
      obtain ⟨q, hq, _, _, hc⟩ := (S2.rp id e).mp this
      exact (no_res q hq e hc).elim
  have hRF : pr2.residualForbids = [] := by
    cases hl : pr2.residualForbids with
    | nil => rfl
    | cons x t =>
      obtain ⟨id, e⟩ := x
      have : (id, e) ∈ pr2.residualForbids := by rw [hl]; exact List.mem_cons_self
      obtain ⟨q, hq, _, _, hc⟩ := (S2.rf id e).mp this
      exact (no_res q hq e hc).elim
  have eSP := isEmpty_congr hSP
  have eSF := isEmpty_congr hSF
  refine ⟨?_, ?_, ?_⟩
  · unfold PartialResponse.decision isAuthorized Buckets.concretize
    rw [hRP, hRF, eSP, eSF]
    cases (ps.foldl (Buckets.step req' es') {}).satPermits.isEmpty <;>
      cases (ps.foldl (Buckets.step req' es') {}).satForbids.isEmpty <;> simp [Table.decide]
  · unfold PartialResponse.concretize isAuthorized Buckets.concretize
    simp only [eSP, eSF]
  · intro id
    unfold PartialResponse.concretize isAuthorized Buckets.concretize PartialResponse.mustBeDetermining
    simp only [hRF, List.isEmpty_nil, Bool.and_true, eSF]
    cases (ps.foldl (Buckets.step req' es') {}).satForbids.isEmpty
    · simp only [Bool.false_eq_true, if_false]; exact hSF id
    · simp only [if_true]; exact hSP id

namespace PS

section
variable (req : Request) (es : Entities) (ps : List Policy)

theorem satPermits_nonempty_iff :
    (!(ps.foldl (Buckets.step req es) {}).satPermits.isEmpty) = true ↔ FinalSat ps (fun p => p.outcome req es) .permit := by
  rw [ne_isEmpty_iff]
  constructor
  · rintro ⟨id, hid⟩
    rcases (mem_satPermits req es ps {} id).mp hid with h | ⟨p, hp, _, he, hs⟩
    · cases h
    · exact ⟨p, hp, he, hs⟩
  · rintro ⟨p, hp, he, hs⟩
    exact ⟨p.id, (mem_satPermits req es ps {} p.id).mpr (Or.inr ⟨p, hp, rfl, he, hs⟩)⟩

theorem satForbids_nonempty_iff :
    (!(ps.foldl (Buckets.step req es) {}).satForbids.isEmpty) = true ↔ FinalSat ps (fun p => p.outcome req es) .forbid := by
  rw [ne_isEmpty_iff]
  constructor
  · rintro ⟨id, hid⟩
    rcases (mem_satForbids req es ps {} id).mp hid with h | ⟨p, hp, _, he, hs⟩
    · cases h
    · exact ⟨p, hp, he, hs⟩
  · rintro ⟨p, hp, he, hs⟩
    exact ⟨p.id, (mem_satForbids req es ps {} p.id).mpr (Or.inr ⟨p, hp, rfl, he, hs⟩)⟩

theorem isAuthorized_decision :
    (isAuthorized req es ps).decision = concreteDecision ps (fun p => p.outcome req es) := by
  have hP := satPermits_nonempty_iff req es ps
  have hF := satForbids_nonempty_iff req es ps
  have hA := concreteDecision_allow_iff ps (fun p => p.outcome req es)
  unfold isAuthorized Buckets.concretize
  simp only
  cases hd : concreteDecision ps (fun p => p.outcome req es) with
  | allow =>
    obtain ⟨h1, h2⟩ := hA.mp hd
    have e1 := hP.mpr h1
    have e2 : (ps.foldl (Buckets.step req es) {}).satForbids.isEmpty = true := by
      cases h : (ps.foldl (Buckets.step req es) {}).satForbids.isEmpty with
      | true => rfl
      | false => exact (h2 (hF.mp (by simp [h]))).elim
    simp only [Bool.not_eq_eq_eq_not, Bool.not_true] at e1
    simp [e1, e2]
  | deny =>
    by_cases h : ((!(ps.foldl (Buckets.step req es) {}).satPermits.isEmpty) &&
        (ps.foldl (Buckets.step req es) {}).satForbids.isEmpty) = true
    · exfalso
      simp only [Bool.and_eq_true] at h
      have : concreteDecision ps (fun p => p.outcome req es) = .allow :=
        hA.mpr ⟨hP.mp h.1, fun hf => by have := hF.mpr hf; simp [h.2] at this⟩
      rw [hd] at this; cases this
    · simp only [h, if_false, Bool.false_eq_true]

theorem isAuthorized_reasons (id : String) :
    id ∈ (isAuthorized req es ps).reasons ↔ id ∈ determining ps (fun p => p.outcome req es) := by
  have hF := satForbids_nonempty_iff req es ps
  rw [mem_determining]
  unfold isAuthorized Buckets.concretize
  simp only
  cases h : (ps.foldl (Buckets.step req es) {}).satForbids.isEmpty with
  | true =>
    have hnf : ¬ FinalSat ps (fun p => p.outcome req es) .forbid := fun hf => by have := hF.mpr hf; simp [h] at this
    simp only [if_true, mem_satPermits, List.not_mem_nil, false_or]
    constructor
    · rintro ⟨p, hp, rfl, he, hs⟩; exact Or.inr ⟨hnf, p, hp, rfl, he, hs⟩
    · rintro (⟨hf, _⟩ | ⟨_, p, hp, rfl, he, hs⟩)
      · exact (hnf hf).elim
      · exact ⟨p, hp, rfl, he, hs⟩
  | false =>
    have hf : FinalSat ps (fun p => p.outcome req es) .forbid := hF.mp (by simp [h])
    simp only [Bool.false_eq_true, if_false, mem_satForbids, List.not_mem_nil, false_or]
    constructor
    · rintro ⟨p, hp, rfl, he, hs⟩; exact Or.inl ⟨hf, p, hp, rfl, he, hs⟩
    · rintro (⟨_, p, hp, rfl, he, hs⟩ | ⟨hnf, _⟩)
      · exact ⟨p, hp, rfl, he, hs⟩
      · exact (hnf hf).elim

end

theorem definite_of_consistent (req : Request) (es : Entities) (preq : PRequest) (pes : PEntities) (ps : List Policy)
    (hc : ∀ p, p ∈ ps → Consistent (partialEvaluate [] preq pes p) (p.outcome req es)) :
    let pr := isAuthorizedCore [] preq pes ps
    (∀ d, pr.decision = some d → (isAuthorized req es ps).decision = d) ∧
    (∀ id, id ∈ pr.mustBeDetermining → id ∈ (isAuthorized req es ps).reasons) ∧
    (∀ id, id ∈ (isAuthorized req es ps).reasons → id ∈ pr.mayBeDetermining) ∧
    (∀ id, id ∈ pr.definitelySatisfied → ∃ p, p ∈ ps ∧ p.id = id ∧ p.outcome req es = .sat) ∧
    (∀ id, id ∈ pr.definitelyErrored → ∃ p, p ∈ ps ∧ p.id = id ∧ p.outcome req es = .err) ∧
    (∀ id, id ∈ pr.definitelyFalse → ∃ p, p ∈ ps ∧ p.id = id ∧ p.outcome req es = .unsat) := by
  intro pr
  obtain ⟨h1, h2, h3⟩ := table_sound_core [] preq pes ps (fun p => p.outcome req es) hc
  refine ⟨?_, ?_, ?_, definite_sound_core [] preq pes ps (fun p => p.outcome req es) hc⟩
  · intro d hd; rw [isAuthorized_decision]; exact h1 d hd
  · intro id hid; rw [isAuthorized_reasons]; exact h2 id hid
  · intro id hid; rw [isAuthorized_reasons] at hid; exact h3 id hid

end PS

end Cedar
