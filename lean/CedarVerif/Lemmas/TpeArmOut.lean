import CedarVerif.Lemmas.TpeArmCases
/- C14 / C15 helpers: what an arm of `interpret` can answer, as ONE relation (`ArmOut`) between the interpreted operands and
   the result: an operand, an error, a value whose ids come from the operands / the loaded values / the request, a
   variable the request leaves open, or a node (one of those `N` admits) rebuilt over the operands one of which is `Stuck`.
   Each arm satisfies it (`…Result_out`, `interpretKind_out`).  Type safety of the result (TpeTypeSafe), progress and
   boundedness of the loop (BatchedOut) are read off the relation. -/
namespace Cedar.Tpe
open Cedar

def RKind.children : RKind → List Residual
  | .var _ => []
  | .ite c t e => [c, t, e]
  | .and a b => [a, b]
  | .or a b => [a, b]
  | .unaryApp _ a => [a]
  | .binaryApp _ a b => [a, b]
  | .call _ args => args
  | .getAttr e _ => [e]
  | .hasAttr e _ => [e]
  | .like e _ => [e]
  | .is e _ => [e]
  | .set es => es
  | .record kvs => kvs.map (·.2)

theorem uidsList_map_snd (kvs : List (String × Residual)) : Residual.uidsList (kvs.map (·.2)) = Residual.uidsKVs kvs := by
  induction kvs with
  | nil => rfl
  | cons kv kvs ih => obtain ⟨k, r⟩ := kv; simp only [List.map_cons, Residual.uidsList, Residual.uidsKVs, ih]

/-- principal, resource and context of the partial request are known (`concrete_request_to_partial`) -/
def ConcreteReq (preq : PRequest) : Prop :=
  preq.principal.eid.isSome = true ∧ preq.resource.eid.isSome = true ∧ preq.context.isSome = true

def LoadedUid (pes : PEntities) (u : EntityUID) : Prop :=
  ∃ x kvs, (pes.attrs? x = some kvs ∨ pes.tags? x = some kvs) ∧ u ∈ valueUidsKVs kvs

def ReqUid (preq : PRequest) (u : EntityUID) : Prop :=
  preq.principal.uid? = some u ∨ u = preq.action ∨ preq.resource.uid? = some u ∨ ∃ c, preq.context = some c ∧ u ∈ valueUidsKVs c

/-- an operand for want of which a node stays a residual: a `Partial` one, or an entity one component of which is unknown -/
def Stuck (pes : PEntities) (o : Residual) : Prop :=
  o.isPartial = true ∨
  ∃ u t, o = .concrete (.prim (.entityUID u)) t ∧ (pes.attrs? u = none ∨ pes.ancestors? u = none ∨ pes.tags? u = none)

inductive ArmOut (preq : PRequest) (pes : PEntities) (ops : List Residual) (N : RKind → Prop) (ty : Ty) : Residual → Prop
  | operand {o} : o ∈ ops → ArmOut preq pes ops N ty o
  | error : ArmOut preq pes ops N ty (.error ty)
  | value {w} : (∀ u, u ∈ valueUids w → u ∈ Residual.uidsList ops ∨ LoadedUid pes u ∨ ReqUid preq u) →
      ArmOut preq pes ops N ty (.concrete w ty)
  | openVar {x} : ¬ ConcreteReq preq → ArmOut preq pes ops N ty (.part (.var x) ty)
  | rebuilt {k o} : N k → (∀ u, u ∈ k.uids → u ∈ Residual.uidsList ops) → o ∈ ops → Stuck pes o → (∀ u, u ∈ o.uids → u ∈ k.uids) →
      ArmOut preq pes ops N ty (.part k ty)

variable {preq : PRequest} {pes : PEntities} {ops : List Residual} {N : RKind → Prop} {ty : Ty}

theorem ArmOut.noUids {w : Value} (h : valueUids w = []) : ArmOut preq pes ops N ty (.concrete w ty) :=
  .value fun u hu => by rw [h] at hu; cases hu

theorem ArmOut.bool (b : Bool) : ArmOut preq pes ops N ty (mkBool b ty) := .noUids rfl

theorem ArmOut.ofResult {x : Result Value} (h : NoUids x) : ArmOut preq pes ops N ty (ofResult ty x) := by
  cases x with
  | error e => exact .error
  | ok w => exact .noUids (h w rfl)

theorem ArmOut.loaded {x : EntityUID} {kvs : List (String × Value)} (hx : pes.attrs? x = some kvs ∨ pes.tags? x = some kvs)
    {a : String} {w : Value} (hl : lookupKV kvs a = some w) : ArmOut preq pes ops N ty (.concrete w ty) :=
  .value fun _ hu => Or.inr (Or.inl ⟨x, kvs, hx, mem_valueUidsKVs_of_lookupKV hl hu⟩)

theorem ArmOut.mono {N' : RKind → Prop} {res : Residual} (h : ArmOut preq pes ops N ty res) (hN : ∀ k, N k → N' k) :
    ArmOut preq pes ops N' ty res := by
  cases h with
  | operand ho => exact .operand ho
  | error => exact .error
  | value hw => exact .value hw
  | openVar hn => exact .openVar hn
  | rebuilt hn hsub ho hst hk => exact .rebuilt (hN _ hn) hsub ho hst hk

theorem ArmOut.node1 {A : Residual} {k : RKind} (hN : N k) (hk : k.uids = A.uids) (hst : Stuck pes A) :
    ArmOut preq pes [A] N ty (.part k ty) :=
  .rebuilt (o := A) hN (fun u hu => by rw [hk] at hu; simpa [Residual.uidsList] using hu) (by simp) hst (fun u hu => by rw [hk]; exact hu)

/-- `X` is the right operand, or what `&&` / `||` put in its place (`false` / `true`, an error): fewer ids -/
theorem ArmOut.node2 {A B X o : Residual} {k : RKind} (hN : N k) (hk : k.uids = A.uids ++ X.uids) (hX : ∀ u, u ∈ X.uids → u ∈ B.uids)
    (ho : (o = A ∨ (o = B ∧ X = B))) (hst : Stuck pes o) : ArmOut preq pes [A, B] N ty (.part k ty) := by
  refine .rebuilt (o := o) hN (fun u hu => ?_) (by rcases ho with rfl | ⟨rfl, _⟩ <;> simp) hst (fun u hu => ?_)
  · rw [hk] at hu
    simp only [Residual.uidsList, List.mem_append] at hu ⊢
    exact hu.elim Or.inl fun h => Or.inr (Or.inl (hX u h))
  · rw [hk]
    rcases ho with rfl | ⟨rfl, rfl⟩
    · exact List.mem_append_left _ hu
    · exact List.mem_append_right _ hu

theorem shortResult_out (s : Bool) (L R : Residual) : ArmOut preq pes [L, R] (fun _ => True) ty (shortResult s ty L R) := by
  -- the node `L && X` / `L || X` over a `Partial` left operand, where `X` is `R` or a replacement that mentions no id
  have node : ∀ (lk : RKind) (lt : Ty) (X : Residual), (∀ u, u ∈ X.uids → u ∈ R.uids) →
      ArmOut preq pes [.part lk lt, R] (fun _ => True) ty (.part (shortK s (.part lk lt) X) ty) := fun lk lt X hX =>
    .node2 trivial (by cases s <;> rfl) hX (Or.inl rfl) (Or.inl rfl)
  cases L with
  | error t => exact .error
  | concrete v t =>
    simp only [shortResult]
    cases v.asBool with
    | error e => exact .error
    | ok b =>
      simp only
      split
      · exact .bool _                                 -- the left operand decides
      · exact .operand (.tail _ (.head _))            -- the result is the right operand
  | part lk lt =>
    cases R with
    | part rk rt => exact node lk lt _ fun _ h => h
    | error t => exact node lk lt _ fun _ h => h
    | concrete w t =>
      simp only [shortResult]
      cases w.asBool with
      | error e => exact node lk lt (.error ty) fun _ h => nomatch h
      | ok b =>
        simp only
        split
        · split
          · exact .bool _                             -- `<error-free> && false`
          · exact node lk lt (mkBool s ty) fun _ h => nomatch h
        · exact .operand (.head _)                    -- the right operand is neutral: the left one

theorem iteResult_out (C T E : Residual) : ArmOut preq pes [C, T, E] (fun _ => True) ty (iteResult ty C T E) := by
  cases C with
  | error t => exact .error
  | concrete v t =>
    simp only [iteResult]
    cases v.asBool with
    | error e => exact .error
    | ok b =>
      cases b
      · exact .operand (.tail _ (.tail _ (.head _)))
      · exact .operand (.tail _ (.head _))
  | part ck ct =>
    exact .rebuilt (o := .part ck ct) trivial (fun u hu => by simpa [RKind.uids, Residual.uidsList, or_assoc] using hu) (.head _)
      (Or.inl rfl) (fun u hu => by simp only [RKind.uids, List.mem_append]; exact Or.inl (Or.inl hu))

theorem unaryResult_out (op : UnaryOp) (A : Residual) : ArmOut preq pes [A] (· = .unaryApp op A) ty (unaryResult ty op A) := by
  cases A with
  | concrete v t => exact .ofResult fun w hw => applyUnary_noUids hw
  | part k t => exact .node1 rfl rfl (Or.inl rfl)
  | error t => exact .error

theorem likeResult_out (p : Pattern) (A : Residual) : ArmOut preq pes [A] (· = .like A p) ty (likeResult ty p A) := by
  cases A with
  | concrete v t => simp only [likeResult]; cases v.asString <;> first | exact .error | exact .bool _
  | part k t => exact .node1 rfl rfl (Or.inl rfl)
  | error t => exact .error

theorem isResult_out (ety : EntityType) (A : Residual) : ArmOut preq pes [A] (· = .is A ety) ty (isResult preq ty ety A) := by
  cases A with
  | concrete v t => simp only [isResult]; cases v.asEntity <;> first | exact .error | exact .bool _
  | error t => exact .error
  | part k t =>
    cases k with
    | var x => cases x <;> first | exact .bool _ | exact .node1 rfl rfl (Or.inl rfl)
    | _ => exact .node1 rfl rfl (Or.inl rfl)

theorem getAttrResult_out (a : String) (A : Residual) : ArmOut preq pes [A] (· = .getAttr A a) ty (getAttrResult pes ty a A) := by
  cases A with
  | error t => exact .error
  | part k t => exact .node1 rfl rfl (Or.inl rfl)
  | concrete v t =>
    cases v with
    | record kvs =>
      simp only [getAttrResult]
      cases hl : lookupKV kvs a with
      | none => exact .error
      | some x =>
        exact .value fun u hu => Or.inl (by
          simpa [Residual.uidsList, Residual.uids, valueUids] using mem_valueUidsKVs_of_lookupKV hl hu)
    | prim p =>
      cases p with
      | entityUID u =>
        simp only [getAttrResult]
        cases ha : pes.attrs? u with
        | none => exact .node1 rfl rfl (Or.inr ⟨u, t, rfl, Or.inl ha⟩)
        | some attrs =>
          simp only
          cases hl : lookupKV attrs a with
          | none => exact .error
          | some x => exact .loaded (Or.inl ha) hl
      | _ => exact .error
    | _ => exact .error

theorem hasAttrResult_out (a : String) (A : Residual) : ArmOut preq pes [A] (· = .hasAttr A a) ty (hasAttrResult pes ty a A) := by
  cases A with
  | error t => exact .error
  | part k t => exact .node1 rfl rfl (Or.inl rfl)
  | concrete v t =>
    cases v with
    | record kvs => exact .bool _
    | prim p =>
      cases p with
      | entityUID u =>
        simp only [hasAttrResult]
        cases ha : pes.attrs? u with
        | none => exact .node1 rfl rfl (Or.inr ⟨u, t, rfl, Or.inl ha⟩)
        | some attrs => exact .bool _
      | _ => exact .error
    | _ => exact .error

theorem binaryResult_out (op : BinaryOp) (A B : Residual) : ArmOut preq pes [A, B] (· = .binaryApp op A B) ty (binaryResult pes ty op A B) := by
  cases A with
  | error t => exact .error
  | concrete v1 t1 =>
    cases B with
    | error t => exact .error
    | part k t => exact .node2 rfl rfl (fun _ h => h) (Or.inr ⟨rfl, rfl⟩) (Or.inl rfl)
    | concrete v2 t2 =>
      simp only [binaryResult]
      rcases interpretBinary_spec pes ty op v1 v2 (.concrete v1 t1) (.concrete v2 t2) with ⟨hr, u, rfl, hn⟩ | h
      · rw [hr]; exact .node2 rfl rfl (fun _ h => h) (Or.inl rfl) (Or.inr ⟨u, t1, rfl, Or.inr hn⟩)
      · rw [h _ (knownAt_viewStore pes v1)]
        cases hx : applyBinary (viewStore pes v1) op v1 v2 with
        | error e => exact .error
        | ok w =>
          exact applyBinary_out (G := fun w => ArmOut preq pes _ _ ty (.concrete w ty)) .bool (fun _ => .noUids rfl)
            (fun _ u d t w hf hl => .loaded (Or.inr (viewStore_tags hf hl)) hl) hx
  | part k t =>
    cases B with
    | error t2 => exact .error
    | concrete v2 t2 => exact .node2 rfl rfl (fun _ h => h) (Or.inl rfl) (Or.inl rfl)
    | part k2 t2 => exact .node2 rfl rfl (fun _ h => h) (Or.inl rfl) (Or.inl rfl)

theorem listResult_out {rs : List Residual} {onVals : List Value → Residual} {mk : List Residual → RKind}
    (hon : ∀ vals, allConcrete rs = some vals → ArmOut preq pes rs (· = mk rs) ty (onVals vals))
    (hmk : (mk rs).uids = Residual.uidsList rs) : ArmOut preq pes rs (· = mk rs) ty (listResult ty rs onVals mk) := by
  unfold listResult
  cases hac : allConcrete rs with
  | some vals => exact hon vals hac
  | none =>
    simp only
    cases hany : rs.any Residual.isError with
    | true => exact .error
    | false =>
      obtain ⟨r, hr, hp⟩ := exists_partial hac hany
      exact .rebuilt (o := r) rfl (fun u hu => by rw [hmk] at hu; exact hu) hr (Or.inl hp) (fun u hu => by rw [hmk]; exact mem_uidsList hr hu)

theorem callResult_out (fn : String) (rs : List Residual) :
    ArmOut preq pes rs (· = .call fn rs) ty (listResult ty rs (fun vals => ofResult ty (callExt fn vals)) (.call fn)) :=
  listResult_out (fun _ _ => .ofResult fun _ hw => callExt_noUids hw) rfl

theorem setResult_out (rs : List Residual) :
    ArmOut preq pes rs (· = .set rs) ty (listResult ty rs (fun vals => .concrete (.set (Value.mkSet vals)) ty) .set) :=
  listResult_out (fun vals hac => .value fun u hu => Or.inl (by rw [← allConcrete_uids hac]; exact mkSet_sub _ u hu)) rfl

theorem interpretKVs_snd (kvs : List (String × Residual)) :
    (interpretKVs preq pes kvs).map (·.2) = (kvs.map (·.2)).map (interpret preq pes) := by
  rw [interpretKVs_eq_map, List.map_map, List.map_map]; rfl

theorem recordResult_out (rs : List (String × Residual)) : ArmOut preq pes (rs.map (·.2)) (· = .record rs) ty (recordResult ty rs) := by
  unfold recordResult
  cases hac : allConcreteKVs rs with
  | some vals =>
    refine .value fun u hu => Or.inl ?_
    simp only [recordOfKVs, valueUids] at hu
    rw [uidsList_map_snd, ← allConcreteKVs_uids hac]
    exact (foldl_insertKV_sub vals [] u hu).elim id (fun h => nomatch h)
  | none =>
    simp only
    cases hany : rs.any (fun kv => kv.2.isError) with
    | true => exact .error
    | false =>
      obtain ⟨kv, hkv, hp⟩ := exists_partialKVs hac hany
      exact .rebuilt (o := kv.2) rfl (fun u hu => by rw [uidsList_map_snd]; exact hu) (List.mem_map.mpr ⟨kv, hkv, rfl⟩) (Or.inl hp)
        (fun u hu => mem_uidsKVs hkv hu)

theorem not_concreteReq_of {p : PUid} (h : p.uid? = none) : p.eid.isSome ≠ true := by
  cases he : p.eid <;> simp [PUid.uid?, he] at h ⊢

theorem interpretKind_out (ty : Ty) (k : RKind) :
    ArmOut preq pes (k.children.map (interpret preq pes)) (fun _ => True) ty (interpretKind preq pes ty k) := by
  have any : ∀ {N : RKind → Prop} {ops res}, ArmOut preq pes ops N ty res → ArmOut preq pes ops (fun _ => True) ty res :=
    fun h => h.mono fun _ _ => trivial
  cases k with
  | var x =>
    have one : ∀ {u w : EntityUID}, w ∈ valueUids (.prim (.entityUID u)) → w = u := fun h => by
      simpa only [valueUids, List.mem_singleton] using h
    cases x <;> rw [interpretKind]
    · cases hu : preq.principal.uid? with
      | none => exact .openVar fun h => not_concreteReq_of hu h.1
      | some u => exact .value fun w hw => Or.inr (Or.inr (Or.inl (one hw ▸ hu)))
    · exact .value fun w hw => Or.inr (Or.inr (Or.inr (Or.inl (one hw))))
    · cases hu : preq.resource.uid? with
      | none => exact .openVar fun h => not_concreteReq_of hu h.2.1
      | some u => exact .value fun w hw => Or.inr (Or.inr (Or.inr (Or.inr (Or.inl (one hw ▸ hu)))))
    · cases hc : preq.context with
      | none => exact .openVar fun h => by have := h.2.2; rw [hc] at this; cases this
      | some c => exact .value fun w hw => Or.inr (Or.inr (Or.inr (Or.inr (Or.inr ⟨c, hc, hw⟩))))
  | and l r => rw [interpretKind_and]; exact shortResult_out _ _ _
  | or l r => rw [interpretKind_or]; exact shortResult_out _ _ _
  | ite c t e => rw [interpretKind_ite]; exact iteResult_out _ _ _
  | unaryApp op a => rw [interpretKind_unary]; exact any (unaryResult_out op _)
  | binaryApp op a b => rw [interpretKind_binary]; exact any (binaryResult_out op _ _)
  | getAttr e a => rw [interpretKind_getAttr]; exact any (getAttrResult_out a _)
  | hasAttr e a => rw [interpretKind_hasAttr]; exact any (hasAttrResult_out a _)
  | like e p => rw [interpretKind_like]; exact any (likeResult_out p _)
  | is e ety => rw [interpretKind_is]; exact any (isResult_out ety _)
  | call fn args =>
    rw [interpretKind_call, interpretList_eq_map]
    exact any (callResult_out fn _)
  | set xs =>
    rw [interpretKind_set, interpretList_eq_map]
    exact any (setResult_out _)
  | record kvs =>
    rw [interpretKind_record]
    have := recordResult_out (preq := preq) (pes := pes) (ty := ty) (interpretKVs preq pes kvs)
    rw [interpretKVs_snd] at this
    exact any this

end Cedar.Tpe
