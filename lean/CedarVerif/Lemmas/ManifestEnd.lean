import CedarVerif.Lemmas.ManifestCheck
import CedarVerif.Lemmas.ManifestTyped
import CedarVerif.Lemmas.ManifestWF
/-
End to end.  `compute_entity_manifest` for one request type (`manifestOfEnvs`: union of the policies' tries, then
`to_typed`), then `slice_entities`: the slice is a sub-store covering every policy's trie (`slice_of_manifest`).
-/
namespace Cedar.Manifest
open Cedar

theorem go_wf : ∀ (es : List TExpr) (acc t : RootAccessTrie), RootsWF acc → (∀ e, e ∈ es → TypesUK e) →
    manifestOfEnvs.go acc es = .ok t → RootsWF t
  | [] => fun acc t hacc _ h => by
    simp only [manifestOfEnvs.go, Except.ok.injEq] at h
    subst h; exact hacc
  | e :: rest => fun acc t hacc huk h => by
    unfold manifestOfEnvs.go at h
    obtain ⟨r, he, h⟩ := ok_of_match_res h
    exact go_wf rest _ t (unionRoots_wf _ _ hacc (manifestOfExpr_wf e r (huk e (by simp)) he))
      (fun e' h' => huk e' (by simp [h'])) h

theorem go_cover (es0 es' : Entities) (req : Request) : ∀ (es : List TExpr) (acc t : RootAccessTrie),
    manifestOfEnvs.go acc es = .ok t → CoverRoots es0 es' req t →
    CoverRoots es0 es' req acc ∧ ∀ e, e ∈ es → ∃ r, manifestOfExpr e = .ok r ∧ CoverRoots es0 es' req r.global
  | [] => fun acc t h hc => by
    simp only [manifestOfEnvs.go, Except.ok.injEq] at h
    subst h
    exact ⟨hc, by intro e he; simp at he⟩
  | e :: rest => fun acc t h hc => by
    unfold manifestOfEnvs.go at h
    obtain ⟨r, he, h⟩ := ok_of_match_res h
    obtain ⟨h1, h2⟩ := go_cover es0 es' req rest _ t h hc
    obtain ⟨h3, h4⟩ := coverRoots_union es0 es' req r.global acc h1
    refine ⟨h3, ?_⟩
    intro e' he'
    simp only [List.mem_cons] at he'
    rcases he' with e1 | he'
    · subst e1; exact ⟨r, he, h4⟩
    · exact h2 e' he'

theorem slice_of_manifest (s : Schema) (rt : ReqType) (req : Request) (es es' : Entities) (tps : List TExpr)
    (t : RootAccessTrie) (hctx : CtxWF req) (huk : ∀ e, e ∈ tps → TypesUK e)
    (hm : manifestOfEnvs s rt tps = .ok t)
    (hconf : ∀ t0, manifestOfEnvs.go [] tps = .ok t0 → ConfRoots s rt es req t0)
    (hs : sliceStore (some t) req es = .ok es') :
    SubStore es es' ∧ ∀ e, e ∈ tps → ∃ r, manifestOfExpr e = .ok r ∧ CoverRoots es es' req r.global := by
  simp only [manifestOfEnvs] at hm
  cases hg : manifestOfEnvs.go [] tps with
  | error x => simp [hg] at hm
  | ok t0 =>
    simp only [hg] at hm
    have hwf0 : RootsWF t0 := go_wf tps [] t0 (by simp [RootsWF]) huk hg
    have hwf : RootsWF t := toTypedRoots_wf s rt t0 t hm hwf0
    have hfl : FlagsRoots es req t := flagsRoots_typed s rt es req t0 t hm (hconf t0 hg)
    obtain rfl := sliceStore_ok hs
    obtain ⟨hsub, hcov⟩ := sliceStorePure_meets_spec t req es hwf hfl
    have hcov0 := coverRoots_untyped s rt es req _ hsub hctx t0 t hm (hconf t0 hg) hcov
    exact ⟨hsub, (go_cover es _ req tps [] t0 hg hcov0).2⟩

mutual
def confVB (s : Schema) (rt : ReqType) (es : Entities) (req : Request) : AccessTrie → CedarType → Value → Bool
  | .mk c a _ _, ty, v =>
    confRootsB s rt es req a &&
    (match v with
     | .record _ => !isEntityTy ty
     | _ => true) &&
    (match attrsOfType s ty with
     | .ok (some attrs) =>
       (match v with
        | .prim (.entityUID u) =>
          (match es.find? u with
           | some d => confFB s rt es req c attrs d.attrs
           | none => true)
        | .record kvs => confFB s rt es req c attrs kvs
        | _ => true)
     | _ => true)
def confFB (s : Schema) (rt : ReqType) (es : Entities) (req : Request) : Fields → Attrs → List (String × Value) → Bool
  | [], _, _ => true
  | (f, t) :: rest, attrs, kvs =>
    (match lookupKV kvs f with
     | some w =>
       (match Attrs.find? attrs f with
        | some (_, τ) => confVB s rt es req t τ w
        | none => false)
     | none => true) && confFB s rt es req rest attrs kvs
def confRootsB (s : Schema) (rt : ReqType) (es : Entities) (req : Request) : RootAccessTrie → Bool
  | [] => true
  | (root, t) :: rest =>
    (match rootType s rt root with
     | .ok ty => confVB s rt es req t ty (rootVal req root)
     | .error _ => true) && confRootsB s rt es req rest
end

mutual
theorem confVB_sound (s : Schema) (rt : ReqType) (es : Entities) (req : Request) : ∀ (t : AccessTrie) (ty : CedarType) (v : Value),
    confVB s rt es req t ty v = true → ConfV s rt es req t ty v
  | .mk c a i e => fun ty v h => by
    simp only [confVB, Bool.and_eq_true] at h
    obtain ⟨⟨h1, h2⟩, h3⟩ := h
    simp only [ConfV]
    refine ⟨confRootsB_sound s rt es req a h1, ?_, ?_⟩
    · cases v with
      | record kvs => simpa using h2
      | _ => trivial
    · intro attrs ha
      simp only [ha] at h3
      cases v with
      | prim p =>
        cases p with
        | entityUID u =>
          intro d hd
          simp only [hd] at h3
          exact confFB_sound s rt es req c attrs d.attrs h3
        | _ => trivial
      | record kvs => exact confFB_sound s rt es req c attrs kvs h3
      | _ => trivial
theorem confFB_sound (s : Schema) (rt : ReqType) (es : Entities) (req : Request) : ∀ (c : Fields) (attrs : Attrs)
    (kvs : List (String × Value)), confFB s rt es req c attrs kvs = true → ConfF s rt es req c attrs kvs
  | [] => fun _ _ _ => by simp [ConfF]
  | (f, t) :: rest => fun attrs kvs h => by
    simp only [confFB, Bool.and_eq_true] at h
    simp only [ConfF]
    refine ⟨?_, confFB_sound s rt es req rest attrs kvs h.2⟩
    intro w hw
    have h1 := h.1
    simp only [hw] at h1
    cases hf : Attrs.find? attrs f with
    | none => simp [hf] at h1
    | some qt =>
      obtain ⟨q, τ⟩ := qt
      simp only [hf] at h1
      exact ⟨q, τ, rfl, confVB_sound s rt es req t τ w h1⟩
theorem confRootsB_sound (s : Schema) (rt : ReqType) (es : Entities) (req : Request) : ∀ (g : RootAccessTrie),
    confRootsB s rt es req g = true → ConfRoots s rt es req g
  | [] => fun _ => by simp [ConfRoots]
  | (root, t) :: rest => fun h => by
    simp only [confRootsB, Bool.and_eq_true] at h
    simp only [ConfRoots]
    refine ⟨?_, confRootsB_sound s rt es req rest h.2⟩
    intro ty hty
    have h1 := h.1
    simp only [hty] at h1
    exact confVB_sound s rt es req t ty _ h1
end

end Cedar.Manifest
