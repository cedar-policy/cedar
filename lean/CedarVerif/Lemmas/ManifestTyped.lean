import CedarVerif.Lemmas.ManifestSlicer
import CedarVerif.Lemmas.ManifestSound
/-
`to_typed`.  The manifest entry the slicer is run with is the type-annotated, pruned copy of the
trie the analysis computes.  For a store and request that conform to the schema as far as the trie looks (`ConfRoots`:
records and entities carry no attribute their type does not declare; record values sit at record types), the annotated trie
  * has `is_entity_type` annotations that agree with the data (`FlagsRoots`),
  * keeps unique children keys,
  * and a store covering it covers the un-annotated trie (the pruned children request nothing that exists).
-/
namespace Cedar.Manifest
open Cedar

def rootType (s : Schema) (rt : ReqType) : EntityRoot → M CedarType
  | .literal u => (match euidLiteralType s u with | some ty => .ok ty | none => .error .mismatched)
  | .var .action => (match euidLiteralType s rt.action with | some ty => .ok ty | none => .error .mismatched)
  | .var .principal => .ok (.entity [rt.principal])
  | .var .resource => .ok (.entity [rt.resource])
  | .var .context => (match s.action? rt.action with | some a => .ok a.context | none => .error .mismatched)

theorem toTypedRoots_cons (s : Schema) (rt : ReqType) (root : EntityRoot) (t : AccessTrie) (rest : RootAccessTrie) :
    toTypedRoots s rt ((root, t) :: rest) =
      match rootType s rt root with
      | .error e => .error e
      | .ok ty =>
        match AccessTrie.toTyped s rt t ty with
        | .error e => .error e
        | .ok t' => match toTypedRoots s rt rest with
          | .error e => .error e
          | .ok rest' => .ok ((root, t') :: rest') := by
  cases root with
  | literal u =>
    simp only [toTypedRoots, rootType]
    cases euidLiteralType s u <;> rfl
  | var v =>
    cases v
    · simp only [toTypedRoots, rootType]; rfl
    · simp only [toTypedRoots, rootType]
      cases euidLiteralType s rt.action <;> rfl
    · simp only [toTypedRoots, rootType]; rfl
    · simp only [toTypedRoots, rootType]
      cases s.action? rt.action <;> rfl

-- conformance of the data to the schema, as far as a trie looks: under a node of a type with attributes, the data has
-- only declared attributes (closed records / entity types), hereditarily; a record never sits at an entity type
mutual
def ConfV (s : Schema) (rt : ReqType) (es : Entities) (req : Request) : AccessTrie → CedarType → Value → Prop
  | .mk c a _ _, ty, v =>
    ConfRoots s rt es req a ∧
    (match v with
     | .record _ => isEntityTy ty = false
     | _ => True) ∧
    ∀ attrs, attrsOfType s ty = .ok (some attrs) →
      match v with
      | .prim (.entityUID u) => ∀ d, es.find? u = some d → ConfF s rt es req c attrs d.attrs
      | .record kvs => ConfF s rt es req c attrs kvs
      | _ => True
def ConfF (s : Schema) (rt : ReqType) (es : Entities) (req : Request) : Fields → Attrs → List (String × Value) → Prop
  | [], _, _ => True
  | (f, t) :: rest, attrs, kvs =>
    (∀ w, lookupKV kvs f = some w → ∃ q τ, Attrs.find? attrs f = some (q, τ) ∧ ConfV s rt es req t τ w) ∧
    ConfF s rt es req rest attrs kvs
def ConfRoots (s : Schema) (rt : ReqType) (es : Entities) (req : Request) : RootAccessTrie → Prop
  | [] => True
  | (root, t) :: rest =>
    (∀ ty, rootType s rt root = .ok ty → ConfV s rt es req t ty (rootVal req root)) ∧ ConfRoots s rt es req rest
end

section inv
variable {s : Schema} {rt : ReqType}

theorem toTyped_inv {c : Fields} {a : RootAccessTrie} {i e : Bool} {ty : CedarType} {t' : AccessTrie}
    (h : AccessTrie.toTyped s rt (.mk c a i e) ty = .ok t') :
    ∃ a', toTypedRoots s rt a = .ok a' ∧
      ((attrsOfType s ty = .ok none ∧ c = [] ∧ t' = .mk [] a' i (isEntityTy ty)) ∨
       ∃ attrs c', attrsOfType s ty = .ok (some attrs) ∧ toTypedFields s rt attrs c = .ok c' ∧
         t' = .mk c' a' i (isEntityTy ty)) := by
  rw [AccessTrie.toTyped] at h
  cases ha : attrsOfType s ty with
  | error x => simp [ha] at h
  | ok oa =>
    cases oa with
    | none =>
      simp only [ha] at h
      split at h
      · cases h
      · rename_i hce
        cases hr : toTypedRoots s rt a with
        | error x => simp [hr] at h
        | ok a' =>
          simp only [hr, Except.ok.injEq] at h
          refine ⟨a', rfl, Or.inl ⟨rfl, ?_, h.symm⟩⟩
          cases c with
          | nil => rfl
          | cons _ _ => simp at hce
    | some attrs =>
      simp only [ha] at h
      cases hc : toTypedFields s rt attrs c with
      | error x => simp [hc] at h
      | ok c' =>
        simp only [hc] at h
        cases hr : toTypedRoots s rt a with
        | error x => simp [hr] at h
        | ok a' =>
          simp only [hr, Except.ok.injEq] at h
          exact ⟨a', rfl, Or.inr ⟨attrs, c', rfl, hc, h.symm⟩⟩

theorem toTypedFields_cons_inv {attrs : Attrs} {f : String} {t : AccessTrie} {rest c' : Fields}
    (h : toTypedFields s rt attrs ((f, t) :: rest) = .ok c') :
    ∃ rest', toTypedFields s rt attrs rest = .ok rest' ∧
      ((Attrs.find? attrs f = none ∧ c' = rest') ∨
       ∃ q fty t', Attrs.find? attrs f = some (q, fty) ∧ AccessTrie.toTyped s rt t fty = .ok t' ∧ c' = (f, t') :: rest') := by
  rw [toTypedFields] at h
  cases hf : Attrs.find? attrs f with
  | none =>
    simp only [hf] at h
    exact ⟨c', h, Or.inl ⟨rfl, rfl⟩⟩
  | some qt =>
    obtain ⟨q, fty⟩ := qt
    simp only [hf] at h
    cases ht : AccessTrie.toTyped s rt t fty with
    | error x => simp [ht] at h
    | ok t' =>
      simp only [ht] at h
      cases hr : toTypedFields s rt attrs rest with
      | error x => simp [hr] at h
      | ok rest' =>
        simp only [hr, Except.ok.injEq] at h
        exact ⟨rest', rfl, Or.inr ⟨q, fty, t', rfl, ht, h.symm⟩⟩

theorem toTypedRoots_cons_inv {root : EntityRoot} {t : AccessTrie} {rest g' : RootAccessTrie}
    (h : toTypedRoots s rt ((root, t) :: rest) = .ok g') :
    ∃ ty t' rest', rootType s rt root = .ok ty ∧ AccessTrie.toTyped s rt t ty = .ok t' ∧
      toTypedRoots s rt rest = .ok rest' ∧ g' = (root, t') :: rest' := by
  rw [toTypedRoots_cons] at h
  cases hty : rootType s rt root with
  | error x => simp [hty] at h
  | ok ty =>
    simp only [hty] at h
    cases ht : AccessTrie.toTyped s rt t ty with
    | error x => simp [ht] at h
    | ok t' =>
      simp only [ht] at h
      cases hr : toTypedRoots s rt rest with
      | error x => simp [hr] at h
      | ok rest' =>
        simp only [hr, Except.ok.injEq] at h
        exact ⟨ty, t', rest', rfl, ht, rfl, h.symm⟩

end inv

section
variable {s : Schema} {rt : ReqType} {es : Entities} {req : Request}

theorem confF_iff (c : Fields) (attrs : Attrs) (kvs : List (String × Value)) :
    ConfF s rt es req c attrs kvs ↔ ∀ f t, (f, t) ∈ c →
      ∀ w, lookupKV kvs f = some w → ∃ q τ, Attrs.find? attrs f = some (q, τ) ∧ ConfV s rt es req t τ w :=
  forall_mem_of_eqns (S := fun c => ConfF s rt es req c attrs kvs) trivial (fun _ _ _ => Iff.rfl) c

theorem confRoots_iff (g : RootAccessTrie) :
    ConfRoots s rt es req g ↔ ∀ root t, (root, t) ∈ g →
      ∀ ty, rootType s rt root = .ok ty → ConfV s rt es req t ty (rootVal req root) :=
  forall_mem_of_eqns (S := ConfRoots s rt es req) trivial (fun _ _ _ => Iff.rfl) g

theorem toTypedFields_of_mem {attrs : Attrs} : ∀ {c c' : Fields}, toTypedFields s rt attrs c = .ok c' → ∀ f t, (f, t) ∈ c →
    Attrs.find? attrs f = none ∨
      ∃ q fty t', Attrs.find? attrs f = some (q, fty) ∧ AccessTrie.toTyped s rt t fty = .ok t' ∧ (f, t') ∈ c'
  | [], _, _, _, _, hm => nomatch hm
  | (f0, t0) :: rest, c', h, f, t, hm => by
    obtain ⟨rest', hr, hx⟩ := toTypedFields_cons_inv h
    rcases List.mem_cons.1 hm with e | hm
    · cases e
      rcases hx with ⟨hf, _⟩ | ⟨q, fty, t', hf, ht, rfl⟩
      · exact .inl hf
      · exact .inr ⟨q, fty, t', hf, ht, List.mem_cons_self⟩
    · have ih := toTypedFields_of_mem hr f t hm
      rcases hx with ⟨_, rfl⟩ | ⟨_, _, _, _, _, rfl⟩
      · exact ih
      · exact ih.imp id fun ⟨q, fty, t', h1, h2, h3⟩ => ⟨q, fty, t', h1, h2, List.mem_cons_of_mem _ h3⟩

theorem toTypedRoots_of_mem : ∀ {g g' : RootAccessTrie}, toTypedRoots s rt g = .ok g' → ∀ root t, (root, t) ∈ g →
    ∃ ty t', rootType s rt root = .ok ty ∧ AccessTrie.toTyped s rt t ty = .ok t' ∧ (root, t') ∈ g'
  | [], _, _, _, _, hm => nomatch hm
  | (r0, t0) :: rest, g', h, root, t, hm => by
    obtain ⟨ty, t', rest', hty, ht, hr, rfl⟩ := toTypedRoots_cons_inv h
    rcases List.mem_cons.1 hm with e | hm
    · cases e
      exact ⟨ty, t', hty, ht, List.mem_cons_self⟩
    · obtain ⟨ty1, t1, h1, h2, h3⟩ := toTypedRoots_of_mem hr root t hm
      exact ⟨ty1, t1, h1, h2, List.mem_cons_of_mem _ h3⟩

end


theorem lookupField_toTypedFields (s : Schema) (rt : ReqType) (attrs : Attrs) (k : String) : ∀ (c c' : Fields),
    toTypedFields s rt attrs c = .ok c' → lookupField c k = none → lookupField c' k = none
  | [] => fun c' h _ => by
    simp only [toTypedFields, Except.ok.injEq] at h
    subst h; rfl
  | (f, t) :: rest => fun c' h hl => by
    simp only [lookupField] at hl
    by_cases e : (f == k) = true
    · simp [e] at hl
    · simp only [e, Bool.false_eq_true, if_false] at hl
      obtain ⟨rest', hr, ⟨_, rfl⟩ | ⟨q, fty, t', _, _, rfl⟩⟩ := toTypedFields_cons_inv h
      · exact lookupField_toTypedFields s rt attrs k rest _ hr hl
      · simp only [lookupField, e, Bool.false_eq_true, if_false]
        exact lookupField_toTypedFields s rt attrs k rest rest' hr hl

mutual
theorem toTyped_wf (s : Schema) (rt : ReqType) : ∀ (t : AccessTrie) (ty : CedarType) (t' : AccessTrie),
    AccessTrie.toTyped s rt t ty = .ok t' → AccessTrie.WF t → AccessTrie.WF t'
  | .mk c a i e => fun ty t' h hwf => by
    simp only [AccessTrie.WF] at hwf
    obtain ⟨a', _, ⟨_, _, rfl⟩ | ⟨attrs, c', _, hc, rfl⟩⟩ := toTyped_inv h
    · simp [AccessTrie.WF, fieldsWF]
    · simp only [AccessTrie.WF]
      exact toTypedFields_wf s rt attrs c c' hc hwf
theorem toTypedFields_wf (s : Schema) (rt : ReqType) (attrs : Attrs) : ∀ (c c' : Fields),
    toTypedFields s rt attrs c = .ok c' → fieldsWF c → fieldsWF c'
  | [] => fun c' h _ => by
    simp only [toTypedFields, Except.ok.injEq] at h
    subst h; simp [fieldsWF]
  | (f, t) :: rest => fun c' h hwf => by
    simp only [fieldsWF] at hwf
    obtain ⟨rest', hr, ⟨_, rfl⟩ | ⟨q, fty, t', _, ht, rfl⟩⟩ := toTypedFields_cons_inv h
    · exact toTypedFields_wf s rt attrs rest _ hr hwf.2.2
    · simp only [fieldsWF]
      exact ⟨lookupField_toTypedFields s rt attrs f rest rest' hr hwf.1, toTyped_wf s rt t fty t' ht hwf.2.1,
        toTypedFields_wf s rt attrs rest rest' hr hwf.2.2⟩
end

theorem toTypedRoots_wf (s : Schema) (rt : ReqType) : ∀ (g g' : RootAccessTrie),
    toTypedRoots s rt g = .ok g' → RootsWF g → RootsWF g'
  | [] => fun g' h _ => by
    simp only [toTypedRoots, Except.ok.injEq] at h
    subst h; simp [RootsWF]
  | (root, t) :: rest => fun g' h hwf => by
    simp only [RootsWF] at hwf
    obtain ⟨ty, t', rest', _, ht, hr, rfl⟩ := toTypedRoots_cons_inv h
    simp only [RootsWF]
    exact ⟨toTyped_wf s rt t ty t' ht hwf.1, toTypedRoots_wf s rt rest rest' hr hwf.2⟩

section
variable (s : Schema) (rt : ReqType) (es : Entities) (req : Request)

mutual
theorem flagsV_typed : ∀ (t : AccessTrie) (ty : CedarType) (v : Value) (t' : AccessTrie),
    AccessTrie.toTyped s rt t ty = .ok t' → ConfV s rt es req t ty v → FlagsV es t' v
  | .mk c a i e => fun ty v t' h hc => by
    simp only [ConfV] at hc
    obtain ⟨_, hrec, hc⟩ := hc
    obtain ⟨a', _, ⟨_, _, rfl⟩ | ⟨attrs, c', ha, hcf, rfl⟩⟩ := toTyped_inv h
    · cases v with
      | prim p => cases p <;> simp [FlagsV, FlagsF]
      | record kvs => simp only [FlagsV, FlagsF, and_true]; exact hrec
      | _ => simp [FlagsV]
    · have hc := hc attrs ha
      cases v with
      | prim p =>
        cases p with
        | entityUID u =>
          simp only [FlagsV]
          intro d hd
          exact flagsF_typed c attrs d.attrs c' hcf (hc d hd)
        | _ => simp [FlagsV]
      | record kvs =>
        simp only [FlagsV]
        exact ⟨hrec, flagsF_typed c attrs kvs c' hcf hc⟩
      | _ => simp [FlagsV]
theorem flagsF_typed : ∀ (c : Fields) (attrs : Attrs) (kvs : List (String × Value)) (c' : Fields),
    toTypedFields s rt attrs c = .ok c' → ConfF s rt es req c attrs kvs → FlagsF es c' kvs
  | [] => fun attrs kvs c' h _ => by
    simp only [toTypedFields, Except.ok.injEq] at h
    subst h; simp [FlagsF]
  | (f, t) :: rest => fun attrs kvs c' h hc => by
    simp only [ConfF] at hc
    obtain ⟨rest', hr, ⟨_, rfl⟩ | ⟨q, fty, t', hf, ht, rfl⟩⟩ := toTypedFields_cons_inv h
    · exact flagsF_typed rest attrs kvs _ hr hc.2
    · simp only [FlagsF]
      refine ⟨?_, flagsF_typed rest attrs kvs rest' hr hc.2⟩
      intro w hw
      obtain ⟨q', τ, h1, h2⟩ := hc.1 w hw
      rw [hf] at h1
      cases h1
      exact flagsV_typed t fty w t' ht h2
end

theorem flagsRoots_typed : ∀ (g g' : RootAccessTrie),
    toTypedRoots s rt g = .ok g' → ConfRoots s rt es req g → FlagsRoots es req g'
  | [] => fun g' h _ => by
    simp only [toTypedRoots, Except.ok.injEq] at h
    subst h; simp [FlagsRoots]
  | (root, t) :: rest => fun g' h hc => by
    simp only [ConfRoots] at hc
    obtain ⟨ty, t', rest', hty, ht, hr, rfl⟩ := toTypedRoots_cons_inv h
    simp only [FlagsRoots]
    refine ⟨?_, flagsRoots_typed rest rest' hr hc.2⟩
    have hfv := flagsV_typed s rt es req t ty _ t' ht (hc.1 ty hty)
    cases hu : rootUid req root with
    | some u =>
      rw [rootVal_of_rootUid hu] at hfv
      exact hfv
    | none =>
      rw [rootVal_of_rootUid_none hu] at hfv
      obtain ⟨c', a', i', e'⟩ := t'
      simp only [FlagsV] at hfv
      exact hfv.2

variable (es' : Entities) (hsub : SubStore es es') (hctx : CtxWF req)
include hsub hctx

omit hsub hctx in
/-- over conformant data an undeclared field is absent, and a declared one keeps its annotated copy -/
theorem ancFields_typed_of (x : EntityUID) {c c' : Fields} {attrs : Attrs} {kvs kvs' : List (String × Value)}
    (hV : ∀ f t, (f, t) ∈ c → ∀ ty v v' t', AccessTrie.toTyped s rt t ty = .ok t' → ConfV s rt es req t ty v → Trim v' v →
      x ∈ ancValue es' t v' → x ∈ ancValue es' t' v')
    (hcf : toTypedFields s rt attrs c = .ok c') (hconf : ConfF s rt es req c attrs kvs) (htk : TrimKVs kvs' kvs)
    (hx : x ∈ ancFields es' c kvs') : x ∈ ancFields es' c' kvs' := by
  obtain ⟨f, t, w', hm, hl, hxw⟩ := (mem_ancFields c kvs').1 hx
  obtain ⟨w, hw, htw⟩ := trimKVs_lookup kvs' kvs f w' htk hl
  obtain ⟨q, τ, h1, h2⟩ := (confF_iff c attrs kvs).1 hconf f t hm w hw
  rcases toTypedFields_of_mem hcf f t hm with hf | ⟨q', fty, t', hf, ht, hm'⟩ <;> rw [hf] at h1 <;> cases h1
  exact (mem_ancFields c' kvs').2 ⟨f, t', w', hm', hl, hV f t hm τ w w' t' ht h2 htw hxw⟩

omit hctx in
theorem ancValue_typed (x : EntityUID) : ∀ (t : AccessTrie) (ty : CedarType) (v v' : Value) (t' : AccessTrie),
    AccessTrie.toTyped s rt t ty = .ok t' → ConfV s rt es req t ty v → Trim v' v →
    x ∈ ancValue es' t v' → x ∈ ancValue es' t' v' :=
  AccessTrie.induct fun c a i e ihc _ ty v v' t' h hc htr hx => by
    simp only [ConfV] at hc
    obtain ⟨_, _, hc⟩ := hc
    obtain ⟨a', _, ⟨_, rfl, rfl⟩ | ⟨attrs, c', ha, hcf, rfl⟩⟩ := toTyped_inv h
    · -- `ancValue` reads neither the ancestors trie nor the annotation
      exact hx
    · have hc := hc attrs ha
      cases v' with
      | prim p =>
        obtain rfl : v = .prim p := by simpa [Trim] using htr
        cases p with
        | entityUID u =>
          simp only [ancValue, List.mem_append] at hx ⊢
          refine hx.imp id fun hx => ?_
          cases hd' : es'.find? u with
          | none => simp [hd'] at hx
          | some d' =>
            simp only [hd'] at hx ⊢
            obtain ⟨d, hd, htk, _⟩ := hsub u d' hd'
            exact ancFields_typed_of s rt es req es' x ihc hcf (hc d hd) htk hx
        | _ => simpa [ancValue] using hx
      | record kvs' =>
        obtain ⟨kvs, rfl, htk⟩ := htr
        simp only [ancValue] at hx ⊢
        exact ancFields_typed_of s rt es req es' x ihc hcf hc htk hx
      | _ => simpa [ancValue] using hx

theorem ancFields_typed (x : EntityUID) : ∀ (c : Fields) (attrs : Attrs) (kvs kvs' : List (String × Value)) (c' : Fields),
    toTypedFields s rt attrs c = .ok c' → ConfF s rt es req c attrs kvs → TrimKVs kvs' kvs →
    x ∈ ancFields es' c kvs' → x ∈ ancFields es' c' kvs' := fun _ _ _ _ _ =>
  ancFields_typed_of s rt es req es' x fun _ t _ => ancValue_typed s rt es req es' hsub x t

theorem ancRequest_typed (x : EntityUID) (g g' : RootAccessTrie) (h : toTypedRoots s rt g = .ok g')
    (hc : ConfRoots s rt es req g) (hx : x ∈ ancRequest es' req g) : x ∈ ancRequest es' req g' := by
  obtain ⟨root, t, hm, hx⟩ := (mem_ancRequest g).1 hx
  obtain ⟨ty, t', hty, ht, hm'⟩ := toTypedRoots_of_mem h root t hm
  rw [ancRoot_eq] at hx
  exact (mem_ancRequest g').2 ⟨root, t', hm', by
    rw [ancRoot_eq]
    exact ancValue_typed s rt es req es' hsub x t ty _ _ t' ht ((confRoots_iff g).1 hc root t hm ty hty)
      (trim_rootVal hctx root) hx⟩

omit hsub hctx in
theorem coverF_untyped_of {c c' : Fields} {attrs : Attrs} {kvs kvs' : List (String × Value)}
    (hV : ∀ f t, (f, t) ∈ c → ∀ ty v v' t', AccessTrie.toTyped s rt t ty = .ok t' → ConfV s rt es req t ty v →
      CoverV es es' req t' v v' → CoverV es es' req t v v')
    (hcf : toTypedFields s rt attrs c = .ok c') (hconf : ConfF s rt es req c attrs kvs)
    (hcov : CoverF es es' req c' kvs kvs') : CoverF es es' req c kvs kvs' :=
  (coverF_iff c kvs kvs').2 fun f t hm w hw => by
    obtain ⟨q, τ, h1, h2⟩ := (confF_iff c attrs kvs).1 hconf f t hm w hw
    rcases toTypedFields_of_mem hcf f t hm with hf | ⟨q', fty, t', hf, ht, hm'⟩ <;> rw [hf] at h1 <;> cases h1
    obtain ⟨w', hw1, hw2⟩ := (coverF_iff c' kvs kvs').1 hcov f t' hm' w hw
    exact ⟨w', hw1, hV f t hm τ w w' t' ht h2 hw2⟩

theorem coverV_untyped : ∀ (t : AccessTrie) (ty : CedarType) (v v' : Value) (t' : AccessTrie),
    AccessTrie.toTyped s rt t ty = .ok t' → ConfV s rt es req t ty v →
    CoverV es es' req t' v v' → CoverV es es' req t v v' :=
  AccessTrie.induct fun c a i e ihc _ ty v v' t' h hc hcov => by
    simp only [ConfV] at hc
    obtain ⟨hca, _, hc⟩ := hc
    obtain ⟨a', hr, hinv⟩ := toTyped_inv h
    have hanc := fun y => ancRequest_typed s rt es req es' hsub hctx y a a' hr hca
    obtain ⟨c', rfl, hF⟩ : ∃ c', t' = .mk c' a' i (isEntityTy ty) ∧ ∀ kvs kvs',
        (∀ attrs, attrsOfType s ty = .ok (some attrs) → ConfF s rt es req c attrs kvs) →
        CoverF es es' req c' kvs kvs' → CoverF es es' req c kvs kvs' := by
      rcases hinv with ⟨_, rfl, rfl⟩ | ⟨attrs, c', ha, hcf, rfl⟩
      · exact ⟨[], rfl, fun _ _ _ h => h⟩
      · exact ⟨c', rfl, fun _ _ hconf => coverF_untyped_of s rt es req es' ihc hcf (hconf attrs ha)⟩
    cases v with
    | prim p =>
      cases p with
      | entityUID u =>
        simp only [CoverV] at hcov ⊢
        refine ⟨hcov.1, fun d hd => ?_⟩
        obtain ⟨d', h1, h2, h3⟩ := hcov.2 d hd
        exact ⟨d', h1, hF _ _ (fun attrs ha => hc attrs ha d hd) h2, fun y hy => h3 y (hanc y hy)⟩
      | _ => simp [CoverV]
    | record kvs =>
      simp only [CoverV] at hcov ⊢
      obtain ⟨kvs', e, h2⟩ := hcov
      exact ⟨kvs', e, hF _ _ hc h2⟩
    | _ => simp [CoverV]

theorem coverF_untyped : ∀ (c : Fields) (attrs : Attrs) (kvs kvs' : List (String × Value)) (c' : Fields),
    toTypedFields s rt attrs c = .ok c' → ConfF s rt es req c attrs kvs →
    CoverF es es' req c' kvs kvs' → CoverF es es' req c kvs kvs' := fun _ _ _ _ _ =>
  coverF_untyped_of s rt es req es' fun _ t _ => coverV_untyped s rt es req es' hsub hctx t

theorem coverRoots_untyped (g g' : RootAccessTrie) (h : toTypedRoots s rt g = .ok g') (hc : ConfRoots s rt es req g)
    (hcov : CoverRoots es es' req g') : CoverRoots es es' req g :=
  (coverRoots_iff g).2 fun root t hm =>
    let ⟨ty, t', hty, ht, hm'⟩ := toTypedRoots_of_mem h root t hm
    coverV_untyped s rt es req es' hsub hctx t ty _ _ t' ht ((confRoots_iff g).1 hc root t hm ty hty)
      ((coverRoots_iff g').1 hcov root t' hm')

end

end Cedar.Manifest
