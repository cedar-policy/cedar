import CedarVerif.Cedar.Partial
import CedarVerif.Lemmas.EvalStore
import CedarVerif.Lemmas.EvalArms
/- The arms of `pinterp` as equations, the layer every induction over `pinterp` (and, for the list part, `rinterp`) is written
   on.  Two shapes: `PRes.bind`, strict in the first operand, and `PRes.ofCollect`, a list of operands, which `ofCollect_cons`
   reduces to the first. -/
namespace Cedar

/-- the shape of every arm of `pinterp` that is strict in its first operand: continue with a value or with a
    residual, pass on an error, `fuel`, `panic` -/
def PRes.bind (x : PRes) (f : Value → PRes) (g : Expr → PRes) : PRes :=
  match x with
  | .val v => f v
  | .res r => g r
  | other => other

/-- what `if`, `&&`, `||` do with the value of their first operand: the Boolean branch (`iteV` of `EvalArms` on the side of
    `evaluate`) -/
def PRes.iteV (xt xe : PRes) (v : Value) : PRes :=
  match v.asBool with
  | .error c => .err c
  | .ok true => xt
  | .ok false => xe

/-- the cast `&&` and `||` put on their right operand (`boolV` on the side of `evaluate`) -/
def PRes.boolV (w : Value) : PRes :=
  match w.asBool with
  | .error c => .err c
  | .ok r => .val (.prim (.bool r))

theorem pinterp_zero (m : Mapper) (req : PRequest) (es : PEntities) (env : SlotEnv) (e : Expr) :
    pinterp m req es env 0 e = .fuel := by simp [pinterp]

section
variable (m : Mapper) (req : PRequest) (es : PEntities) (env : SlotEnv) (n : Nat)

theorem pinterp_ite (c t e : Expr) : pinterp m req es env (n + 1) (.ite c t e) =
    (pinterp m req es env n c).bind (PRes.iteV (pinterp m req es env n t) (pinterp m req es env n e))
      (fun g => bestEffort (pinterp m req es env n t) t fun t' =>
        bestEffort (pinterp m req es env n e) e fun e' => .res (.ite g t' e')) := rfl

-- `rfl` proves an arm equation only where `pinterp` lists the value case first; `&&`, `||`, `.`, `has` need a case split
theorem pinterp_and (a b : Expr) : pinterp m req es env (n + 1) (.and a b) =
    (pinterp m req es env n a).bind
      (PRes.iteV ((pinterp m req es env n b).bind PRes.boolV fun r => .res (.and (.lit (.bool true)) r))
        (.val (.prim (.bool false))))
      (fun l => bestEffort (pinterp m req es env n b) b fun b' => .res (.and l b')) := by
  simp only [pinterp]
  cases pinterp m req es env n a with
  | val v =>
    simp only [PRes.bind, PRes.iteV]
    cases v.asBool with
    | error _ => rfl
    | ok bv => cases bv <;> cases pinterp m req es env n b <;> rfl
  | _ => rfl

theorem pinterp_or (a b : Expr) : pinterp m req es env (n + 1) (.or a b) =
    (pinterp m req es env n a).bind
      (PRes.iteV (.val (.prim (.bool true)))
        ((pinterp m req es env n b).bind PRes.boolV fun r => .res (.or (.lit (.bool false)) r)))
      (fun l => bestEffort (pinterp m req es env n b) b fun b' => .res (.or l b')) := by
  simp only [pinterp]
  cases pinterp m req es env n a with
  | val v =>
    simp only [PRes.bind, PRes.iteV]
    cases v.asBool with
    | error _ => rfl
    | ok bv => cases bv <;> cases pinterp m req es env n b <;> rfl
  | _ => rfl

theorem pinterp_unary (op : UnaryOp) (a : Expr) : pinterp m req es env (n + 1) (.unaryApp op a) =
    (pinterp m req es env n a).bind (fun v => .ofResult (applyUnary op v)) (fun r => .res (.unaryApp op r)) := rfl

theorem pinterp_binary (op : BinaryOp) (a b : Expr) : pinterp m req es env (n + 1) (.binaryApp op a b) =
    (pinterp m req es env n a).bind
      (fun v1 => (pinterp m req es env n b).bind (papplyBinary es op v1)
        (fun e2 => match shortCircuitVR v1 e2 op with
          | some r => r
          | none => .res (.binaryApp op v1.toExpr e2)))
      (fun e1 => (pinterp m req es env n b).bind
        (fun v2 => match shortCircuitRV e1 v2 op with
          | some r => r
          | none => .res (.binaryApp op e1 v2.toExpr))
        (fun e2 => match shortCircuitRR e1 e2 op with
          | some r => r
          | none => .res (.binaryApp op e1 e2))) := rfl

/-- the value arm of `get_attr` -/
def getAttrVal (m : Mapper) (es : PEntities) (attr : String) : Value → PRes
  | .record kvs => match lookupKV kvs attr with
    | some v => .val v
    | none => .err .attr
  | .prim (.entityUID u) => match es.entity u with
    | .noSuch => .err .entity
    | .residual r => .res (.getAttr r attr)
    | .data d => match lookupKV d.attrs attr with
      | none => .err .attr
      | some (.value v) => .val v
      | some (.residual (.unknown name ty)) => unknownToPV m name ty
      | some (.residual r) => .res r
  | _ => .err .type

theorem pinterp_getAttr (e : Expr) (attr : String) : pinterp m req es env (n + 1) (.getAttr e attr) =
    (pinterp m req es env n e).bind (getAttrVal m es attr)
      (fun r => match r with
        | .record kvs =>
          if (Expr.record kvs).isProjectable then
            match lookupKV kvs attr with
            | none => .err .attr
            | some e' => pinterp m req es env n e'
          else if kvs.any (fun kv => kv.1 == attr) then .res (.getAttr (.record kvs) attr)
          else .err .attr
        | _ => .res (.getAttr r attr)) := by
  rw [pinterp]
  cases pinterp m req es env n e with
  | val v => cases v with
    | prim p => cases p <;> rfl
    | _ => rfl
  | _ => rfl

/-- the value arm of `has_attr` -/
def hasAttrVal (es : PEntities) (attr : String) : Value → PRes
  | .record kvs => .val (.prim (.bool (lookupKV kvs attr).isSome))
  | .prim (.entityUID u) => match es.entity u with
    | .noSuch => .val (.prim (.bool false))
    | .residual r => .res (.hasAttr r attr)
    | .data d => .val (.prim (.bool (lookupKV d.attrs attr).isSome))
  | _ => .err .type

theorem pinterp_hasAttr (e : Expr) (attr : String) : pinterp m req es env (n + 1) (.hasAttr e attr) =
    (pinterp m req es env n e).bind (hasAttrVal es attr)
      (fun r => match r with
        | .record kvs =>
          if (Expr.record kvs).isProjectable then .val (.prim (.bool (kvs.any (fun kv => kv.1 == attr))))
          else .res (.hasAttr (.record kvs) attr)
        | _ => .res (.hasAttr r attr)) := by
  rw [pinterp]
  cases pinterp m req es env n e with
  | val v => cases v with
    | prim p => cases p <;> rfl
    | _ => rfl
  | _ => rfl

theorem pinterp_like (e : Expr) (p : Pattern) : pinterp m req es env (n + 1) (.like e p) =
    (pinterp m req es env n e).bind
      (fun v => match v.asString with
        | .error c => .err c
        | .ok s => .val (.prim (.bool (wm p s.toList))))
      (fun r => .res (.like r p)) := rfl

theorem pinterp_is (e : Expr) (ty : EntityType) : pinterp m req es env (n + 1) (.is e ty) =
    (pinterp m req es env n e).bind
      (fun v => match v.asEntity with
        | .error c => .err c
        | .ok u => .val (.prim (.bool (u.ty == ty))))
      (fun r => match r with
        | .unknown _ (some (.entity t)) => .val (.prim (.bool (t == ty)))
        | _ => .res (.is r ty)) := rfl

end

inductive ListRel {α β : Type} (R : α → β → Prop) : List α → List β → Prop
  | nil : ListRel R [] []
  | cons {a : α} {b : β} {as : List α} {bs : List β} : R a b → ListRel R as bs → ListRel R (a :: as) (b :: bs)

theorem ListRel.length {α β : Type} {R : α → β → Prop} {as : List α} {bs : List β} (h : ListRel R as bs) :
    as.length = bs.length := by
  induction h with
  | nil => rfl
  | cons _ _ ih => simp only [List.length_cons, ih]

theorem ListRel.imp_mem {α β : Type} {R S : α → β → Prop} {as : List α} {bs : List β} (h : ListRel R as bs)
    (hRS : ∀ a b, b ∈ bs → R a b → S a b) : ListRel S as bs := by
  induction h with
  | nil => exact .nil
  | cons hab _ ih =>
    exact .cons (hRS _ _ (List.mem_cons_self ..) hab) (ih fun a b hb => hRS a b (List.mem_cons_of_mem _ hb))

theorem ListRel.exists_right {α β : Type} {R : α → β → Prop} {as : List α} {bs : List β} (h : ListRel R as bs)
    {a : α} (ha : a ∈ as) : ∃ b, b ∈ bs ∧ R a b := by
  induction h with
  | nil => cases ha
  | cons hab _ ih =>
    rcases List.mem_cons.mp ha with rfl | ha
    · exact ⟨_, List.mem_cons_self .., hab⟩
    · obtain ⟨b, hb, hr⟩ := ih ha; exact ⟨b, List.mem_cons_of_mem _ hb, hr⟩

theorem splitPV_inl {pvs : List PartialValue} {vs : List Value} (h : splitPV pvs = .inl vs) :
    pvs = vs.map PartialValue.value := by
  induction pvs generalizing vs with
  | nil => simp [splitPV] at h; subst h; rfl
  | cons pv pvs ih =>
    cases pv with
    | residual e => simp [splitPV] at h
    | value v =>
      simp only [splitPV] at h
      cases hs : splitPV pvs with
      | inr es => rw [hs] at h; cases h
      | inl ws => rw [hs] at h; cases h; simp [ih hs]

theorem splitPV_inr {pvs : List PartialValue} {rs : List Expr} (h : splitPV pvs = .inr rs) :
    rs = pvs.map PartialValue.asExpr := by
  induction pvs generalizing rs with
  | nil => simp [splitPV] at h
  | cons pv pvs ih =>
    cases pv with
    | residual e => simp only [splitPV] at h; cases h; rfl
    | value v =>
      simp only [splitPV] at h
      cases hs : splitPV pvs with
      | inl ws => rw [hs] at h; cases h
      | inr es => rw [hs] at h; cases h; simp [PartialValue.asExpr, ih hs]

theorem pcallExt_ne_unknown {fn : String} (h : fn ≠ "unknown") (vs : List Value) :
    pcallExt fn vs = PRes.ofResult (callExt fn vs) := by
  simp [pcallExt, h]

/-- the shape of the `set`, `call` and `record` arms: the first outcome that is not a partial value, or all values,
    or everything as expressions -/
def PRes.ofCollect (c : Except PRes (List PartialValue)) (k : List Value → PRes) (g : List Expr → PRes) : PRes :=
  match c with
  | .error r => r
  | .ok pvs => match splitPV pvs with
    | .inl vs => k vs
    | .inr rs => g rs

/-- the list arms are strict in the head, and after a residual head everything is kept as an expression -/
theorem ofCollect_cons (f : Expr → PRes) (x : Expr) (xs : List Expr) (k : List Value → PRes) (g : List Expr → PRes) :
    PRes.ofCollect (collectPV f (x :: xs)) k g =
      (f x).bind (fun v => .ofCollect (collectPV f xs) (fun vs => k (v :: vs)) (fun rs => g (v.toExpr :: rs)))
        (fun e => .ofCollect (collectPV f xs) (fun vs => g (e :: vs.map Value.toExpr)) (fun rs => g (e :: rs))) := by
  simp only [collectPV]
  cases f x with
  | val v =>
    cases collectPV f xs with
    | error r => rfl
    | ok pvs => simp only [PRes.ofCollect, PRes.bind, Except.map, splitPV]; cases splitPV pvs <;> rfl
  | res e =>
    cases collectPV f xs with
    | error r => rfl
    | ok pvs =>
      simp only [PRes.ofCollect, PRes.bind, Except.map, splitPV]
      cases hs : splitPV pvs with
      | inl vs => rw [splitPV_inl hs, List.map_map]; rfl
      | inr rs => rw [splitPV_inr hs]
  | _ => rfl

theorem collectPVKVs_eq (f : Expr → PRes) (kvs : List (String × Expr)) :
    collectPVKVs f kvs = (collectPV f (kvs.map (·.2))).map fun pvs => (kvs.map (·.1)).zip pvs := by
  induction kvs with
  | nil => rfl
  | cons kv kvs ih =>
    obtain ⟨k, x⟩ := kv
    simp only [collectPVKVs, collectPV, List.map_cons, ih]
    cases f x <;> first | rfl | (cases collectPV f (kvs.map (·.2)) <;> rfl)

theorem collectPV_length {f : Expr → PRes} {xs : List Expr} {pvs : List PartialValue} (h : collectPV f xs = .ok pvs) :
    pvs.length = xs.length := by
  induction xs generalizing pvs with
  | nil => cases h; rfl
  | cons x xs ih =>
    simp only [collectPV] at h
    revert h
    cases f x <;> cases hc : collectPV f xs <;> intro h <;> cases h <;> simp only [List.length_cons, ih hc]

theorem ofCollect_kvs (f : Expr → PRes) (kvs : List (String × Expr)) (K : List String → List Value → PRes)
    (G : List String → List Expr → PRes) :
    (match collectPVKVs f kvs with
      | .error r => r
      | .ok pkvs => match splitPV (pkvs.map (·.2)) with
        | .inl vs => K (pkvs.map (·.1)) vs
        | .inr rs => G (pkvs.map (·.1)) rs) =
    PRes.ofCollect (collectPV f (kvs.map (·.2))) (K (kvs.map (·.1))) (G (kvs.map (·.1))) := by
  simp only [collectPVKVs_eq, PRes.ofCollect]
  cases hc : collectPV f (kvs.map (·.2)) with
  | error r => rfl
  | ok pvs =>
    have hl : pvs.length = (kvs.map (·.1)).length := by rw [collectPV_length hc, List.length_map, List.length_map]
    simp only [Except.map, List.map_snd_zip (Nat.le_of_eq hl), List.map_fst_zip (Nat.le_of_eq hl.symm)]

section
variable (m : Mapper) (req : PRequest) (es : PEntities) (env : SlotEnv) (n : Nat)

theorem pinterp_set (xs : List Expr) : pinterp m req es env (n + 1) (.set xs) =
    .ofCollect (collectPV (pinterp m req es env n) xs) (fun vs => .val (.set (Value.mkSet vs))) (fun rs => .res (.set rs)) := rfl

theorem pinterp_call (fn : String) (args : List Expr) : pinterp m req es env (n + 1) (.call fn args) =
    .ofCollect (collectPV (pinterp m req es env n) args) (pcallExt fn) (fun rs => .res (.call fn rs)) := rfl

theorem pinterp_record (kvs : List (String × Expr)) : pinterp m req es env (n + 1) (.record kvs) =
    .ofCollect (collectPV (pinterp m req es env n) (kvs.map (·.2)))
      (fun vs => .val (.record (((kvs.map (·.1)).zip vs).foldl (fun acc kv => insertKV kv.1 kv.2 acc) [])))
      (fun rs => .res (.record ((kvs.map (·.1)).zip rs))) := by
  rw [pinterp]
  exact ofCollect_kvs _ kvs (fun ks vs => .val (.record ((ks.zip vs).foldl (fun acc kv => insertKV kv.1 kv.2 acc) [])))
    (fun ks rs => .res (.record (ks.zip rs)))

end

theorem shortCircuitVR_some {v1 : Value} {e2 : Expr} {op : BinaryOp} {r : PRes} (h : shortCircuitVR v1 e2 op = some r) :
    ∃ u1 name t, op = .eq ∧ v1 = .prim (.entityUID u1) ∧ e2 = .unknown name (some (.entity t)) ∧ u1.ty ≠ t ∧
      r = .val (.prim (.bool false)) := by
  unfold shortCircuitVR at h
  split at h
  · rename_i u1 name t
    split at h
    · rename_i hne
      cases h
      exact ⟨u1, name, t, rfl, rfl, rfl, by simpa using hne, rfl⟩
    · cases h
  · cases h

theorem shortCircuitRV_some {e1 : Expr} {v2 : Value} {op : BinaryOp} {r : PRes} (h : shortCircuitRV e1 v2 op = some r) :
    ∃ u2 name t, op = .eq ∧ v2 = .prim (.entityUID u2) ∧ e1 = .unknown name (some (.entity t)) ∧ u2.ty ≠ t ∧
      r = .val (.prim (.bool false)) := by
  unfold shortCircuitRV at h
  cases op <;> simp only at h <;> first | cases h | exact shortCircuitVR_some h

theorem shortCircuitRR_some {e1 e2 : Expr} {op : BinaryOp} {r : PRes} (h : shortCircuitRR e1 e2 op = some r) :
    ∃ n1 t1 n2 t2, op = .eq ∧ e1 = .unknown n1 (some (.entity t1)) ∧ e2 = .unknown n2 (some (.entity t2)) ∧ t1 ≠ t2 ∧
      r = .val (.prim (.bool false)) := by
  unfold shortCircuitRR at h
  split at h
  · rename_i n1 t1 n2 t2
    split at h
    · rename_i hne
      cases h
      exact ⟨n1, t1, n2, t2, rfl, rfl, rfl, by simpa using hne, rfl⟩
    · cases h
  · cases h

theorem beq_uid_ne {u1 u2 : EntityUID} (h : u1.ty ≠ u2.ty) :
    Value.beq (.prim (.entityUID u1)) (.prim (.entityUID u2)) = false := by
  have : u1 ≠ u2 := fun he => h (by rw [he])
  simp [Value.beq, this]

theorem toExprKVs_fst (R : List (String × Value)) : (Value.toExprKVs R).map (·.1) = R.map (·.1) := by
  induction R with
  | nil => rfl
  | cons p R ih => simp only [Value.toExprKVs, List.map_cons, ih]

theorem toExprKVs_snd (R : List (String × Value)) : (Value.toExprKVs R).map (·.2) = Value.toExprList (R.map (·.2)) := by
  induction R with
  | nil => rfl
  | cons p R ih => simp only [Value.toExprKVs, Value.toExprList, List.map_cons, ih]

/-- the three outcomes of `Entities::entity` -/
theorem entity_cases (pes : PEntities) (u : EntityUID) :
    (∃ d, PEntities.find? pes.ents u = some d ∧ pes.entity u = .data d) ∨
    (PEntities.find? pes.ents u = none ∧ pes.partialMode = false ∧ pes.entity u = .noSuch) ∨
    (PEntities.find? pes.ents u = none ∧ pes.partialMode = true ∧
      pes.entity u = .residual (.unknown (uidName u) (some (.entity u.ty)))) := by
  unfold PEntities.entity
  cases hf : PEntities.find? pes.ents u with
  | some d => exact Or.inl ⟨d, rfl, rfl⟩
  | none =>
    cases hp : pes.partialMode with
    | false => exact Or.inr (Or.inl ⟨rfl, rfl, by simp⟩)
    | true => exact Or.inr (Or.inr ⟨rfl, rfl, by simp⟩)

theorem lookupKV_map_value (kvs : List (String × Value)) (a : String) :
    lookupKV (kvs.map (fun kv => (kv.1, PartialValue.value kv.2))) a = (lookupKV kvs a).map PartialValue.value := by
  rw [lookupKV_eq_assoc, lookupKV_eq_assoc]
  exact assoc?_map (fun _ => PartialValue.value) kvs a

theorem PEntities.find?_eq_assoc (u : EntityUID) : ∀ es : List (EntityUID × PEntityData), PEntities.find? es u = assoc? es u
  | [] => rfl
  | (u', d) :: rest => by rw [PEntities.find?, assoc?_cons, PEntities.find?_eq_assoc u rest]

theorem find_ofConcrete (es : Entities) (u : EntityUID) :
    PEntities.find? (es.map (fun ud => (ud.1, PEntityData.ofConcrete ud.2))) u = (es.find? u).map PEntityData.ofConcrete := by
  rw [PEntities.find?_eq_assoc, Entities.find?_eq_assoc]
  exact assoc?_map (fun _ => PEntityData.ofConcrete) es u

theorem entity_ofConcrete (es : Entities) (u : EntityUID) :
    (PEntities.ofConcrete es).entity u =
      match es.find? u with
      | some d => .data (PEntityData.ofConcrete d)
      | none => .noSuch := by
  unfold PEntities.entity PEntities.ofConcrete
  simp only [find_ofConcrete]
  cases es.find? u <;> simp

theorem papplyBinary_storeFree (pes : PEntities) (es : Entities) (op : BinaryOp) (h : op.storeFree = true) (v1 v2 : Value) :
    papplyBinary pes op v1 v2 = PRes.ofResult (applyBinary es op v1 v2) := by
  rw [applyBinary_storeFree h es []]
  cases op <;> simp [BinaryOp.storeFree] at h <;> rfl

theorem tags_ofConcrete (d : EntityData) (a : String) :
    lookupKV (PEntityData.ofConcrete d).tags a = (lookupKV d.tags a).map PartialValue.value := by
  simp only [PEntityData.ofConcrete, lookupKV_map_value]

theorem attrs_ofConcrete (d : EntityData) (a : String) :
    lookupKV (PEntityData.ofConcrete d).attrs a = (lookupKV d.attrs a).map PartialValue.value := by
  simp only [PEntityData.ofConcrete, lookupKV_map_value]

theorem papplyBinary_ofConcrete (es : Entities) (op : BinaryOp) (v1 v2 : Value) :
    papplyBinary (.ofConcrete es) op v1 v2 = PRes.ofResult (applyBinary es op v1 v2) := by
  cases op
  all_goals try rfl
  · simp only [papplyBinary, applyBinary, bind, Except.bind]
    cases v1.asEntity with
    | error c => rfl
    | ok u1 =>
      simp only [entity_ofConcrete]
      -- both sides decide membership by `u1 == u2` or the stored ancestors of `u1`
      cases hf : es.find? u1 <;> rcases v2 with (_ | _ | _ | _) | vs | _ | _ <;>
        simp only [evalIn, PRes.ofResult, inE, hf, PEntityData.ofConcrete]
      all_goals cases asEntityList vs <;> rfl
  · simp only [papplyBinary, applyBinary, bind, Except.bind]
    cases v1.asEntity with
    | error c => rfl
    | ok u =>
      cases v2.asString with
      | error c => rfl
      | ok t =>
        simp only [entity_ofConcrete]
        cases es.find? u with
        | none => rfl
        | some d => simp only [tags_ofConcrete]; cases lookupKV d.tags t <;> rfl
  · simp only [papplyBinary, applyBinary, bind, Except.bind]
    cases v1.asEntity with
    | error c => rfl
    | ok u =>
      cases v2.asString with
      | error c => rfl
      | ok t =>
        simp only [entity_ofConcrete]
        cases es.find? u with
        | none => rfl
        | some d => simp only [tags_ofConcrete, Option.isSome_map]; rfl

theorem getAttrVal_ofConcrete (m : Mapper) (es : Entities) (attr : String) (v : Value) :
    getAttrVal m (.ofConcrete es) attr v = .ofResult (Tpe.getAttrV es attr v) := by
  cases v with
  | record kvs => simp only [getAttrVal, Tpe.getAttrV]; cases lookupKV kvs attr <;> rfl
  | prim p =>
    cases p with
    | entityUID u =>
      simp only [getAttrVal, Tpe.getAttrV, entity_ofConcrete]
      cases es.find? u with
      | none => rfl
      | some d => simp only [attrs_ofConcrete]; cases lookupKV d.attrs attr <;> rfl
    | _ => rfl
  | _ => rfl

theorem hasAttrVal_ofConcrete (es : Entities) (attr : String) (v : Value) :
    hasAttrVal (.ofConcrete es) attr v = .ofResult (Tpe.hasAttrV es attr v) := by
  cases v with
  | prim p =>
    cases p with
    | entityUID u =>
      simp only [hasAttrVal, Tpe.hasAttrV, entity_ofConcrete]
      cases es.find? u with
      | none => rfl
      | some d => simp only [attrs_ofConcrete, Option.isSome_map]; rfl
    | _ => rfl
  | _ => rfl

end Cedar
