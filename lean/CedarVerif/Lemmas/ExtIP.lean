import CedarVerif.Cedar.Ext
/-
IP ranges: network / broadcast arithmetic, the CIDR-block predicate, and the correspondence between the model's
`/`-and-`*` formulation and the Rust bit-mask formulation.
-/
namespace Cedar.Ext.IPAddr

/-- `x` lies in the CIDR block of `(addr, pl)`: it has the same leading `pl` bits -/
def inBlock (v6 : Bool) (addr pl x : Nat) : Prop :=
  x / 2 ^ (width v6 - pl) = addr / 2 ^ (width v6 - pl)

instance (v6 : Bool) (addr pl x : Nat) : Decidable (inBlock v6 addr pl x) := by unfold inBlock; infer_instance

theorem div_eq_iff' (x q h : Nat) (hh : 0 < h) : x / h = q ↔ q * h ≤ x ∧ x ≤ q * h + (h - 1) := by
  rw [Nat.div_eq_iff hh, Nat.add_sub_assoc hh]

theorem network_le (v6 : Bool) (addr pl : Nat) : network v6 addr pl ≤ addr := by
  simp only [network]; exact Nat.div_mul_le_self _ _

theorem le_broadcast (v6 : Bool) (addr pl : Nat) : addr ≤ broadcast v6 addr pl := by
  simp only [broadcast]
  have hh : 0 < 2 ^ (width v6 - pl) := Nat.two_pow_pos _
  exact ((div_eq_iff' addr _ _ hh).mp rfl).2

theorem network_le_broadcast (v6 : Bool) (addr pl : Nat) : network v6 addr pl ≤ broadcast v6 addr pl :=
  Nat.le_trans (network_le v6 addr pl) (le_broadcast v6 addr pl)

theorem inBlock_iff (v6 : Bool) (addr pl x : Nat) :
    inBlock v6 addr pl x ↔ network v6 addr pl ≤ x ∧ x ≤ broadcast v6 addr pl := by
  have hh : 0 < 2 ^ (width v6 - pl) := Nat.two_pow_pos _
  simp only [inBlock, network, broadcast]
  exact div_eq_iff' x _ _ hh

theorem inBlock_self (v6 : Bool) (addr pl : Nat) : inBlock v6 addr pl addr := rfl

/-! ### bit-mask formulation (Rust: `addr & netmask(prefix)`, `addr | hostmask(prefix)`) -/

/-- `u{w}::MAX.checked_shl(w - p).unwrap_or(0)` (the shift is `None` when the amount is ≥ the bit width) -/
def rustNetmask (w p : Nat) : Nat := if w - p < w then ((2 ^ w - 1) <<< (w - p)) % 2 ^ w else 0

/-- `u{w}::MAX.checked_shr(p).unwrap_or(0)` -/
def rustHostmask (w p : Nat) : Nat := if p < w then (2 ^ w - 1) >>> p else 0

theorem network_eq_and (v6 : Bool) (addr pl : Nat) (ha : addr < 2 ^ width v6) (hp : pl ≤ width v6) :
    network v6 addr pl = addr &&& rustNetmask (width v6) pl := by
  simp only [network, rustNetmask]
  generalize width v6 = w at *
  by_cases h0 : w - pl < w
  · rw [if_pos h0]
    apply Nat.eq_of_testBit_eq
    intro i
    rw [← Nat.shiftRight_eq_div_pow, ← Nat.shiftLeft_eq]
    simp only [Nat.testBit_shiftLeft, Nat.testBit_shiftRight, Nat.testBit_and, Nat.testBit_mod_two_pow,
      Nat.testBit_two_pow_sub_one]
    by_cases hik : w - pl ≤ i
    · have e : w - pl + (i - (w - pl)) = i := by omega
      rw [e]
      by_cases hiw : i < w
      · have : i - (w - pl) < w := by omega
        simp [hik, hiw, this]
      · rw [Nat.testBit_lt_two_pow (Nat.lt_of_lt_of_le ha (Nat.pow_le_pow_right (by decide) (by omega)))]; simp
    · simp [hik]
  · rw [if_neg h0]
    have : w - pl = w := by omega
    rw [this, Nat.div_eq_of_lt ha]; simp

theorem hostmask_eq (w p : Nat) (hp : p ≤ w) : rustHostmask w p = 2 ^ (w - p) - 1 := by
  unfold rustHostmask
  by_cases h : p < w
  · rw [if_pos h]
    apply Nat.eq_of_testBit_eq
    intro i
    simp only [Nat.testBit_shiftRight, Nat.testBit_two_pow_sub_one]
    rw [decide_eq_decide]
    omega
  · rw [if_neg h]
    have : w - p = 0 := by omega
    rw [this]

theorem broadcast_eq_or (v6 : Bool) (addr pl : Nat) (hp : pl ≤ width v6) :
    broadcast v6 addr pl = addr ||| rustHostmask (width v6) pl := by
  rw [hostmask_eq _ _ hp]
  simp only [broadcast]
  generalize width v6 - pl = k
  apply Nat.eq_of_testBit_eq
  intro j
  have hlt : 2 ^ k - 1 < 2 ^ k := Nat.sub_lt (Nat.two_pow_pos _) (by decide)
  rw [Nat.mul_comm, Nat.testBit_two_pow_mul_add _ hlt]
  simp only [Nat.testBit_or, Nat.testBit_two_pow_sub_one]
  by_cases hj : j < k
  · simp [hj]
  · rw [if_neg hj, ← Nat.shiftRight_eq_div_pow, Nat.testBit_shiftRight]
    have e : k + (j - k) = j := by omega
    rw [e]; simp [hj]

theorem subset_iff_prefix (v6 : Bool) (a pa b pb : Nat) (hpa : pa ≤ width v6) (hpb : pb ≤ width v6) :
    (∀ x, inBlock v6 a pa x → inBlock v6 b pb x) ↔
      pb ≤ pa ∧ a / 2 ^ (width v6 - pb) = b / 2 ^ (width v6 - pb) := by
  simp only [inBlock]
  generalize width v6 = w at *
  constructor
  · intro h
    refine ⟨?_, h a rfl⟩
    -- a longer parent prefix makes the parent block shorter than the child block: the child's first address
    -- and the one a parent-block length further on cannot both lie in the parent block
    apply Classical.byContradiction
    intro hc
    have hlt : 2 ^ (w - pb) < 2 ^ (w - pa) := Nat.pow_lt_pow_right (by decide) (by omega)
    have hpos : 0 < 2 ^ (w - pb) := Nat.two_pow_pos _
    generalize 2 ^ (w - pa) = Ka at *
    generalize 2 ^ (w - pb) = Kb at *
    have hposa : 0 < Ka := Nat.lt_trans hpos hlt
    have e1 := h (a / Ka * Ka) (Nat.mul_div_cancel _ hposa)
    have e2 := h (a / Ka * Ka + Kb)
      (by rw [Nat.mul_comm, Nat.mul_add_div hposa, Nat.div_eq_of_lt hlt, Nat.add_zero])
    rw [Nat.add_div_right _ hpos] at e2
    omega
  · rintro ⟨hle, he⟩ x hx
    have hk : 2 ^ (w - pb) = 2 ^ (w - pa) * 2 ^ (pa - pb) := by
      rw [← Nat.pow_add, Nat.sub_add_sub_cancel hpa hle]
    rw [hk] at he ⊢
    rw [← he, ← Nat.div_div_eq_div_mul, ← Nat.div_div_eq_div_mul, hx]

end Cedar.Ext.IPAddr
