import CedarVerif.Lemmas.TypecheckPSound
/-
C03: permissive mode without a fragment: every expression with distinct record-literal keys and linked slots (`soundPF_of`,
induction on the typing derivation).  No syntactic restriction on `if` branches, set elements or the operands of
`has` `.` `hasTag` `getTag` `in` `is` `<`: their static types may be entity-type unions, joined (open) record types, `Set<Never>`;
`AnyEntity` for `in` / `is` only (the model answers `outside` for the other four on `AnyEntity`).

The type invariant is `OkTy τ`: record keys are distinct everywhere inside `τ` (`ndTy`) and `Never` occurs only as the element
type of a set (`nnTy`).  What the rules for `.` and `getTag` on union-typed operands need of it: the attribute / tag type computed
for a union satisfies it and bounds the members' types; the left half of `lub_inst` needs distinct keys, hence `SchemaND`.
-/
namespace Cedar.C03

open Cedar

mutual
theorem mono_nn : ∀ (t : CedarType), t.mono = true → nnTy t = true
  | .never, h => by simp [CedarType.mono] at h
  | .set (some t), h => by
    simp only [CedarType.mono] at h
    simp only [nnTy, Bool.or_eq_true]
    exact Or.inr (mono_nn t h)
  | .set none, _ => rfl
  | .record attrs o, h => by
    simp only [CedarType.mono] at h
    simp only [nnTy]
    exact monoAttrs_nn attrs h
  | .bool _, _ => rfl
  | .long, _ => rfl
  | .string, _ => rfl
  | .entity _, _ => rfl
  | .anyEntity, _ => rfl
  | .ext _, _ => rfl
theorem monoAttrs_nn : ∀ (attrs : List (String × Bool × CedarType)), monoAttrs attrs = true → nnAttrs attrs = true
  | [], _ => rfl
  | (_, _, t) :: rest, h => by
    simp only [monoAttrs, Bool.and_eq_true] at h
    simp only [nnAttrs, Bool.and_eq_true]
    exact ⟨mono_nn t h.1, monoAttrs_nn rest h.2⟩
end

theorem foldl_plub_nn : ∀ (ts : List CedarType) (acc τ : CedarType),
    ts.foldl (fun acc t => acc.bind (fun a => lub .permissive a t)) (some acc) = some τ →
    (∀ t, t ∈ ts → nnTy t = true) → nqTy acc = true →
    nqTy τ = true ∧ ((nnTy acc = true ∨ ts ≠ []) → nnTy τ = true)
  | [], acc, τ, h, _, ha => by
    simp only [List.foldl_nil, Option.some.injEq] at h
    subst h
    exact ⟨ha, fun h => h.elim id (fun h => (h rfl).elim)⟩
  | t :: ts, acc, τ, h, hall, ha => by
    simp only [List.foldl_cons, Option.bind_some] at h
    cases hl : lub .permissive acc t with
    | none => rw [hl, foldl_lub_none] at h; cases h
    | some acc' =>
      rw [hl] at h
      have hn' := lub_nq_nn hl ha (hall t List.mem_cons_self)
      obtain ⟨h1, h2⟩ := foldl_plub_nn ts acc' τ h (fun t' ht' => hall t' (List.mem_cons_of_mem _ ht')) (nn_nq hn')
      exact ⟨h1, fun _ => h2 (Or.inl hn')⟩

theorem lubAll_perm_nn {ts : List CedarType} {τ : CedarType} (h : lubAll .permissive ts = some τ)
    (hall : ∀ t, t ∈ ts → nnTy t = true) : nqTy τ = true ∧ (ts ≠ [] → nnTy τ = true) := by
  unfold lubAll at h
  obtain ⟨h1, h2⟩ := foldl_plub_nn ts .never τ h hall rfl
  exact ⟨h1, fun hne => h2 (Or.inr hne)⟩

def OkTy (τ : CedarType) : Prop := ndTy τ = true ∧ nnTy τ = true

theorem OkTy.ne_never {τ : CedarType} (h : OkTy τ) : τ ≠ .never := nn_ne_never h.2

theorem okTy_bool (bt : BoolType) : OkTy (.bool bt) := ⟨rfl, rfl⟩

theorem plub_ok {a b c : CedarType} (h : lub .permissive a b = some c) (ha : OkTy a) (hb : OkTy b) : OkTy c :=
  ⟨lub_nd h ha.1 hb.1, lub_nq_nn h (nn_nq ha.2) hb.2⟩

/-- the record types a schema declares have distinct keys, everywhere inside (Rust: `Attributes` is a `BTreeMap`) -/
structure SchemaND (s : Schema) : Prop where
  et_nd : ∀ T et, s.entityType? T = some et →
    ndTy (.record et.attrs false) = true ∧ ∀ t, et.tags = some t → ndTy t = true
  act_nd : ∀ u a, s.action? u = some a → ndTy a.context = true

theorem find_ok {attrs : Attrs} {o : Bool} {a : String} {r : Bool} {t : CedarType} (h : OkTy (.record attrs o))
    (hf : Attrs.find? attrs a = some (r, t)) : OkTy t := by
  obtain ⟨h1, h2⟩ := h
  simp only [nnTy] at h2
  exact ⟨(ndTy_record h1).2 _ _ _ (find_mem hf), nnAttrs_iff.mp h2 _ _ _ (find_mem hf)⟩

theorem attrsOfTy_nd {s : Schema} (hND : SchemaND s) (T : EntityType) : ndTy (.record (attrsOfTy s T) false) = true := by
  unfold attrsOfTy
  cases h : s.entityType? T with
  | none => rfl
  | some et => exact (hND.et_nd T et h).1

theorem attrsOfTy_nn {s : Schema} (hWF : SchemaWF s) (T : EntityType) : nnAttrs (attrsOfTy s T) = true := by
  unfold attrsOfTy
  cases h : s.entityType? T with
  | none => rfl
  | some et => exact monoAttrs_nn _ (hWF.et_mono T et h).1

theorem lubAttrsPerm_nd {a0 a1 : Attrs} (h0 : ndTy (.record a0 false) = true) (h1 : ndTy (.record a1 false) = true) :
    ndTy (.record (lubAttrsPermissive .permissive a0 a1) false) = true := by
  obtain ⟨hn0, ht0⟩ := ndTy_record h0
  obtain ⟨_, ht1⟩ := ndTy_record h1
  simp only [ndTy, Bool.and_eq_true, decide_eq_true_eq]
  have hj := lubAttrsPermissive_join (a0 := a0) (a1 := a1) rfl (fun _ _ _ _ _ _ hl => lub_nd hl)
  refine ⟨ndAttrs_iff.mpr ?_, hn0.sublist hj.sublist⟩
  intro k r t hm
  obtain ⟨r0, t0, r1, t1, hm0, hf1, _, _, hnd⟩ := hj.mem k r t hm
  exact hnd (ht0 k r0 t0 hm0) (ht1 k r1 t1 (find_mem hf1))

theorem lubAttrsPerm_nn {a0 a1 : Attrs} (h0 : nnAttrs a0 = true) (h1 : nnAttrs a1 = true) :
    nnAttrs (lubAttrsPermissive .permissive a0 a1) = true := by
  rw [nnAttrs_iff] at h0 h1 ⊢
  intro k r t hm
  obtain ⟨r0, t0, r1, t1, hm0, hf1, _, _, hlt⟩ :=
    (lubAttrsPermissive_join (a0 := a0) (a1 := a1) (P := fun t0 t1 t => lub .permissive t0 t1 = some t) rfl
      (fun _ _ _ _ _ _ hl => hl)).mem k r t hm
  exact lub_nq_nn hlt (nn_nq (h0 k r0 t0 hm0)) (h1 k r1 t1 (find_mem hf1))

theorem foldl_lubAttrs_find {s : Schema} (hND : SchemaND s) {a : String} {req : Bool} {τa : CedarType} :
    ∀ (rest : List EntityType) (acc : Attrs), ndTy (.record acc false) = true →
    Attrs.find? (rest.foldl (fun acc t' => lubAttrsPermissive .permissive acc (attrsOfTy s t')) acc) a = some (req, τa) →
    (∃ r t, Attrs.find? acc a = some (r, t) ∧ (req = true → r = true) ∧ Below t τa) ∧
    ∀ T, T ∈ rest → ∃ r t, Attrs.find? (attrsOfTy s T) a = some (r, t) ∧ (req = true → r = true) ∧
      Below t τa
  | [], acc, _, h => ⟨⟨req, τa, h, id, fun _ hv => hv⟩, fun T hT => by cases hT⟩
  | T :: rest, acc, hacc, h => by
    simp only [List.foldl_cons] at h
    have hacc' := lubAttrsPerm_nd hacc (attrsOfTy_nd hND T)
    obtain ⟨⟨r', t', hf', hr', hsub'⟩, hrest⟩ := foldl_lubAttrs_find hND rest _ hacc' h
    obtain ⟨hn0, ht0⟩ := ndTy_record hacc
    obtain ⟨r0, t0, r1, t1, hf0, hf1, hreq, hlt⟩ :=
      (lubAttrsPermissive_join (a1 := attrsOfTy s T) (P := fun t0 t1 t => lub .permissive t0 t1 = some t) rfl
        (fun _ _ _ _ _ _ hl => hl)).find (Or.inr hn0) a r' t' hf'
    have hm0 := find_mem hf0
    have hrr : req = true → r0 = true ∧ r1 = true := by
      intro hq
      have := hr' hq
      rw [this] at hreq
      simpa using hreq.symm
    refine ⟨⟨r0, t0, hf0, fun hq => (hrr hq).1, fun v hv => hsub' v ((lub_inst hlt).1 (Or.inr (ht0 _ _ _ hm0)) v hv)⟩, ?_⟩
    intro T' hT'
    rcases List.mem_cons.mp hT' with rfl | hT'
    · exact ⟨r1, t1, hf1, fun hq => (hrr hq).2, fun v hv => hsub' v ((lub_inst hlt).2 v hv)⟩
    · exact hrest T' hT'

theorem lubAttrs_find_mem {s : Schema} (hND : SchemaND s) {l : List EntityType} {a : String} {req : Bool} {τa : CedarType}
    (h : Attrs.find? (lubAttrs s l) a = some (req, τa)) :
    ∀ T, T ∈ l → ∃ r t, Attrs.find? (lubAttrs s [T]) a = some (r, t) ∧ (req = true → r = true) ∧
      Below t τa := by
  cases l with
  | nil => intro T hT; cases hT
  | cons t rest =>
    rw [lubAttrs_cons] at h
    obtain ⟨h1, h2⟩ := foldl_lubAttrs_find hND rest _ (attrsOfTy_nd hND t) h
    intro T hT
    show ∃ r t, Attrs.find? (attrsOfTy s T) a = some (r, t) ∧ _
    rcases List.mem_cons.mp hT with rfl | hT
    · exact h1
    · exact h2 T hT

theorem foldl_lubAttrs_ok {s : Schema} (hWF : SchemaWF s) (hND : SchemaND s) :
    ∀ (rest : List EntityType) (acc : Attrs), OkTy (.record acc false) →
      OkTy (.record (rest.foldl (fun acc t' => lubAttrsPermissive .permissive acc (attrsOfTy s t')) acc) false)
  | [], _, h => h
  | T :: rest, acc, h => by
    simp only [List.foldl_cons]
    refine foldl_lubAttrs_ok hWF hND rest _ ⟨lubAttrsPerm_nd h.1 (attrsOfTy_nd hND T), ?_⟩
    have h2 := h.2
    simp only [nnTy] at h2 ⊢
    exact lubAttrsPerm_nn h2 (attrsOfTy_nn hWF T)

theorem lubAttrs_ok {s : Schema} (hWF : SchemaWF s) (hND : SchemaND s) (l : List EntityType) :
    OkTy (.record (lubAttrs s l) false) := by
  cases l with
  | nil => exact ⟨rfl, rfl⟩
  | cons t rest =>
    rw [lubAttrs_cons]
    exact foldl_lubAttrs_ok hWF hND rest _ ⟨attrsOfTy_nd hND t, by simp only [nnTy]; exact attrsOfTy_nn hWF t⟩

theorem lookupAttr_ok {s : Schema} (hWF : SchemaWF s) (hND : SchemaND s) {τe : CedarType} {a : String} {req : Bool}
    {τa : CedarType} (hok : OkTy τe) (h : lookupAttr s τe a = some (req, τa)) : OkTy τa := by
  cases τe <;> simp only [lookupAttr] at h <;> try (cases h)
  · exact find_ok hok h
  · exact find_ok (lubAttrs_ok hWF hND _) h

theorem tag_ok {s : Schema} (hWF : SchemaWF s) (hND : SchemaND s) {l : List EntityType} {τ : CedarType}
    (hne : tagTypes s l ≠ []) (hlub : lubAll .permissive (tagTypes s l) = some τ) :
    OkTy τ ∧ ∀ t, t ∈ tagTypes s l → Below t τ := by
  have hnd : ∀ t, t ∈ tagTypes s l → ndTy t = true := by
    intro t ht
    obtain ⟨T, et, _, het, htag⟩ := tagTypes_mem ht
    exact (hND.et_nd T et het).2 t htag
  have hnn : ∀ t, t ∈ tagTypes s l → nnTy t = true := by
    intro t ht
    obtain ⟨T, et, _, het, htag⟩ := tagTypes_mem ht
    exact mono_nn _ ((hWF.et_mono T et het).2 t htag)
  obtain ⟨hsub, hndτ⟩ := lubAll_perm_spec hlub hnd
  exact ⟨⟨hndτ, (lubAll_perm_nn hlub hnn).2 hne⟩, hsub⟩

section
variable {s : Schema} {env : RequestEnv} {w : World} {caps : Capabilities} {τ : CedarType} {c : Capabilities}

section operand
variable {e : Expr} {τe : CedarType} {ce : Capabilities}

theorem SoundAt.getAttr_any {a : String} (hWF : SchemaWF2 s) (hND : SchemaND s)
    (hr : getAttrRule s e a caps τe = .ok (τ, c)) (ihe : SoundAt OkTy (Sem s env w) w e caps τe ce) :
    SoundAt OkTy (Sem s env w) w (.getAttr e a) caps τ c := by
  obtain ⟨hsub, hne, hk⟩ := getAttrRule_inv hr
  obtain ⟨req, hlk, hcond, rfl⟩ := getAttrCont_ok hk
  exact ⟨lookupAttr_ok hWF.toSchemaWF hND ihe.1 hlk, fun hs hc =>
    getAttr_good_any hWF.toSchemaWF hs.store hc (ihe.2 hs hc).1 (shape_attr_operand hne hsub) hlk hcond
      (fun l hτ => lubAttrs_find_mem hND (by simpa only [hτ, lookupAttr] using hlk))⟩

end operand

theorem okTy_record {attrs : Attrs} (h : ∀ k r t, (k, r, t) ∈ attrs → OkTy t) (hn : (attrs.map (·.1)).Nodup) :
    OkTy (.record attrs false) := by
  refine ⟨?_, ?_⟩
  · simp only [ndTy, Bool.and_eq_true, decide_eq_true_eq]
    exact ⟨ndAttrs_iff.mpr (fun k r t hm => (h k r t hm).1), hn⟩
  · simp only [nnTy]
    exact nnAttrs_iff.mpr (fun k r t hm => (h k r t hm).2)

theorem recordKeysDistinctList_mem {es : List Expr} (hk : RecordKeysDistinctList es = true) (hl : SlotsLinkedList env es = true)
    (x : Expr) (hx : x ∈ es) : RecordKeysDistinct x = true ∧ SlotsLinked env x = true :=
  ⟨listAll_mem (fun _ _ => rfl) hk x hx, listAll_mem (fun _ _ => rfl) hl x hx⟩

theorem recordKeysDistinctKVs_mem {kvs : List (String × Expr)} (hk : RecordKeysDistinctKVs kvs = true)
    (hl : SlotsLinkedKVs env kvs = true) (kv : String × Expr) (hkv : kv ∈ kvs) :
    RecordKeysDistinct kv.2 = true ∧ SlotsLinked env kv.2 = true :=
  ⟨listAll_mem (F := fun (kv : String × Expr) => RecordKeysDistinct kv.2) (fun _ _ => rfl) hk kv hkv,
    listAll_mem (F := fun (kv : String × Expr) => SlotsLinked env kv.2) (fun _ _ => rfl) hl kv hkv⟩

/-- the leaves: `soundM` answers for the node; the invariant is read off the type -/
theorem soundPF_leaf (hWF : SchemaWF2 s) (henv : EnvMatches s env w.q) {e : Expr}
    (hf : InFragmentM .permissive env e = true) (hnd : ndTy τ = true)
    (d : HasType .permissive s env e caps τ c) : SoundAt OkTy (Sem s env w) w e caps τ c :=
  have ⟨hm, g⟩ := soundM (m := .permissive) hWF henv e hf caps τ c d.typeOf_eq
  ⟨⟨hnd, mono_nn _ hm⟩, g⟩

theorem soundPF_of (hWF : SchemaWF2 s) (hND : SchemaND s) (henv : EnvMatches s env w.q) {e : Expr}
    (d : HasType .permissive s env e caps τ c) :
    RecordKeysDistinct e = true → SlotsLinked env e = true → SoundAt OkTy (Sem s env w) w e caps τ c := by
  induction d with
  | @lit p caps τ h =>
    have d : HasType .permissive s env (.lit p) caps τ [] := .lit h
    exact fun _ _ => soundPF_leaf hWF henv rfl (ndBase_nd (by exact Bool.or_true _) d) d
  | @var v caps τ h =>
    have d : HasType .permissive s env (.var v) caps τ [] := .var h
    refine fun _ _ => soundPF_leaf hWF henv rfl ?_ d
    cases v with
    | context =>
      cases h
      obtain ⟨_, _, _, a, ha, hctx⟩ := henv
      rw [hctx]; exact hND.act_nd _ _ ha
    | principal => exact ndBase_nd (by exact Bool.or_true _) d
    | resource => exact ndBase_nd (by exact Bool.or_true _) d
    | action => exact ndBase_nd (by exact Bool.or_true _) d
  | @slot x caps τ h =>
    have d : HasType .permissive s env (.slot x) caps τ [] := .slot h
    exact fun _ hl => soundPF_leaf hWF henv (by cases x <;> simpa [SlotsLinked, InFragmentM] using hl)
      (ndBase_nd (by exact Bool.or_true _) d) d
  | iteTrue _ _ ihc iht =>
    intro hk hl
    simp only [RecordKeysDistinct, SlotsLinked, Bool.and_eq_true] at hk hl
    exact .iteTrue (ihc hk.1.1 hl.1.1) (iht hk.1.2 hl.1.2)
  | iteFalse _ _ ihc ihe =>
    intro hk hl
    simp only [RecordKeysDistinct, SlotsLinked, Bool.and_eq_true] at hk hl
    exact .iteFalse (ihc hk.1.1 hl.1.1) (ihe hk.2 hl.2)
  | ite _ hbc _ _ _ _ hlub ihc iht ihe =>
    intro hk hl
    simp only [RecordKeysDistinct, SlotsLinked, Bool.and_eq_true] at hk hl
    have st := iht hk.1.2 hl.1.2
    have se := ihe hk.2 hl.2
    exact .ite hbc hlub se.1.ne_never (plub_ok hlub st.1 se.1) ((lub_inst hlub).1 (Or.inr st.1.1))
      (ihc hk.1.1 hl.1.1) st se
  | andFalse _ iha =>
    intro hk hl
    simp only [RecordKeysDistinct, SlotsLinked, Bool.and_eq_true] at hk hl
    exact .andFalse okTy_bool (iha hk.1 hl.1)
  | and _ hba _ _ hbb iha ihb =>
    intro hk hl
    simp only [RecordKeysDistinct, SlotsLinked, Bool.and_eq_true] at hk hl
    exact .and okTy_bool hba hbb (iha hk.1 hl.1) (ihb hk.2 hl.2)
  | orTrue _ iha =>
    intro hk hl
    simp only [RecordKeysDistinct, SlotsLinked, Bool.and_eq_true] at hk hl
    exact .orTrue okTy_bool (iha hk.1 hl.1)
  | or _ hba _ _ hbb iha ihb =>
    intro hk hl
    simp only [RecordKeysDistinct, SlotsLinked, Bool.and_eq_true] at hk hl
    exact .or okTy_bool hba hbb (iha hk.1 hl.1) (ihb hk.2 hl.2)
  | @unary op _ _ _ _ _ _ _ hr iha =>
    intro hk hl
    simp only [RecordKeysDistinct, SlotsLinked] at hk hl
    have iha := iha hk hl
    cases op with
    | isEmpty => exact .isEmpty okTy_bool hr iha
    | neg => exact .neg ⟨rfl, rfl⟩ hr iha
    | not => exact .not okTy_bool hr iha
  | @binary op _ _ _ _ _ _ _ _ _ da _ hr iha ihb =>
    intro hk hl
    simp only [RecordKeysDistinct, SlotsLinked, Bool.and_eq_true] at hk hl
    have iha := iha hk.1 hl.1
    have ihb := ihb hk.2 hl.2
    cases op with
    | eq => exact .eq henv okTy_bool hr iha ihb
    | less => exact .cmp (Or.inl rfl) iha.1.ne_never ihb.1.ne_never okTy_bool hr iha ihb
    | lessEq => exact .cmp (Or.inr rfl) iha.1.ne_never ihb.1.ne_never okTy_bool hr iha ihb
    | add => exact .arith (Or.inl rfl) ⟨rfl, rfl⟩ hr iha ihb
    | sub => exact .arith (Or.inr (Or.inl rfl)) ⟨rfl, rfl⟩ hr iha ihb
    | mul => exact .arith (Or.inr (Or.inr rfl)) ⟨rfl, rfl⟩ hr iha ihb
    | contains => exact .contains okTy_bool hr iha ihb
    | containsAll => exact .containsAll okTy_bool hr iha ihb
    | containsAny => exact .containsAny okTy_bool hr iha ihb
    | mem => exact .mem henv okTy_bool (fun hs => ⟨hWF, hs.store, hs.actions⟩) da.typeOf_eq hr iha ihb
    | hasTag => exact .hasTag okTy_bool (·.store) hr iha ihb
    | getTag => exact .getTag (·.store) (fun _ _ => tag_ok hWF.toSchemaWF hND) hr iha ihb
  | getAttr _ hr ihe =>
    intro hk hl
    simp only [RecordKeysDistinct, SlotsLinked] at hk hl
    exact .getAttr_any hWF hND hr (ihe hk hl)
  | hasAttr _ hr ihe =>
    intro hk hl
    simp only [RecordKeysDistinct, SlotsLinked] at hk hl
    exact .hasAttr hWF.toSchemaWF okTy_bool (·.store) hr (ihe hk hl)
  | like _ hse ihe =>
    intro hk hl
    simp only [RecordKeysDistinct, SlotsLinked] at hk hl
    exact .like okTy_bool hse (ihe hk hl)
  | is _ hr ihe =>
    intro hk hl
    simp only [RecordKeysDistinct, SlotsLinked] at hk hl
    exact .is okTy_bool hr (ihe hk hl)
  | call _ hL hr ih =>
    intro hk hl
    simp only [RecordKeysDistinct, SlotsLinked] at hk hl
    exact .call (fun _ hsig => ⟨flat_nd (extSig_ret_flat hsig), mono_nn _ (extSig_ret_mono hsig)⟩) hL hr
      (SoundAt.list hL fun x hx τx cx h =>
        ih x hx τx cx h (recordKeysDistinctList_mem hk hl x hx).1 (recordKeysDistinctList_mem hk hl x hx).2)
  | set _ hL _ hlub ih =>
    intro hk hl
    simp only [RecordKeysDistinct, SlotsLinked] at hk hl
    have ihl := SoundAt.list hL fun x hx τx cx h =>
      ih x hx τx cx h (recordKeysDistinctList_mem hk hl x hx).1 (recordKeysDistinctList_mem hk hl x hx).2
    have hnd : ∀ t, t ∈ _ → ndTy t = true := fun t ht => (ihl.1 t ht).1
    exact .set ⟨(lubAll_perm_spec hlub hnd).2, (lubAll_perm_nn hlub (fun t ht => (ihl.1 t ht).2)).1⟩
      (fun hl => set_good_of_bound hl (lubAll_perm_spec hlub hnd).1) ihl
  | record _ hL ih =>
    intro hk hl
    simp only [RecordKeysDistinct, SlotsLinked, Bool.and_eq_true, decide_eq_true_eq] at hk hl
    exact .record hk.2 okTy_record hL (SoundAt.kvs hL fun kv hkv τx cx h =>
      ih kv hkv τx cx h (recordKeysDistinctKVs_mem hk.1 hl kv hkv).1 (recordKeysDistinctKVs_mem hk.1 hl kv hkv).2)

end

theorem soundPF {s : Schema} {env : RequestEnv} {w : World} (hWF : SchemaWF2 s) (hND : SchemaND s)
    (henv : EnvMatches s env w.q) :
    ∀ (e : Expr), RecordKeysDistinct e = true → SlotsLinked env e = true →
      ∀ (caps : Capabilities) (τ : CedarType) (c' : Capabilities), typeOf .permissive s env e caps = .ok (τ, c') →
      SoundAt OkTy (Sem s env w) w e caps τ c' :=
  fun e hk hl caps τ c' h => soundPF_of hWF hND henv (typeOf_hasType e caps τ c' h) hk hl

theorem soundPFList {s : Schema} {env : RequestEnv} {w : World} (hWF : SchemaWF2 s) (hND : SchemaND s)
    (henv : EnvMatches s env w.q) :
    ∀ (es : List Expr), RecordKeysDistinctList es = true → SlotsLinkedList env es = true →
      ∀ (caps : Capabilities) (τs : List CedarType), typeOfList .permissive s env es caps = .ok τs →
      (∀ t, t ∈ τs → OkTy t) ∧ (Sem s env w → CapsHold w caps → ListGood w es τs) :=
  fun es hk hl caps _ h => SoundAt.list h fun x hx τx cx hx' =>
    soundPF hWF hND henv x (recordKeysDistinctList_mem hk hl x hx).1 (recordKeysDistinctList_mem hk hl x hx).2 caps τx cx hx'

theorem soundPFKVs {s : Schema} {env : RequestEnv} {w : World} (hWF : SchemaWF2 s) (hND : SchemaND s)
    (henv : EnvMatches s env w.q) :
    ∀ (kvs : List (String × Expr)), RecordKeysDistinctKVs kvs = true → SlotsLinkedKVs env kvs = true →
      ∀ (caps : Capabilities) (attrs : Attrs), typeOfKVs .permissive s env kvs caps = .ok attrs →
      (ndAttrs attrs = true ∧ nnAttrs attrs = true) ∧ (Sem s env w → CapsHold w caps → KVsGood w kvs attrs) :=
  fun kvs hk hl caps attrs h =>
    let ⟨hp, g⟩ := SoundAt.kvs (P := OkTy) (H := Sem s env w) (w := w) h fun kv hkv τx cx hx' =>
      soundPF hWF hND henv kv.2 (recordKeysDistinctKVs_mem hk hl kv hkv).1 (recordKeysDistinctKVs_mem hk hl kv hkv).2 caps τx cx hx'
    ⟨⟨ndAttrs_iff.mpr (fun k r t hm => (hp k r t hm).1), nnAttrs_iff.mpr (fun k r t hm => (hp k r t hm).2)⟩, g⟩

end Cedar.C03
