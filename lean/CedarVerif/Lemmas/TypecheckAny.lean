import CedarVerif.Lemmas.TypecheckOps
import CedarVerif.Lemmas.TypecheckTags
import CedarVerif.Lemmas.TypecheckIn
/-
C03: the rules for `has`, `.`, `hasTag`, `is` on an operand whose type is a union of entity types (`User ⊔ Group`) or, for
`has` and `.`, a record, and the general `in` rule, where an operand may also be `AnyEntity`, a set of these, or `Set<Never>` (`has` / tags on
`AnyEntity` are `outside` in the model).  The entity the operand evaluates to has ONE of the member types, and what the
typechecker computes for the union is respected by every member.  Single entity types are unions of one member.
-/
namespace Cedar.C03

open Cedar

theorem mayHaveAttr_union_false {s : Schema} {l : List EntityType} {a : String}
    (h : mayHaveAttr s (.entity l) a = false) :
    ∀ T, T ∈ l → mayHaveAttr s (.entity [T]) a = false ∧ Attrs.find? (lubAttrs s [T]) a = none := by
  intro T hT
  simp only [mayHaveAttr, lubHasOpenAttrs, Bool.or_eq_false_iff, List.any_eq_false] at h
  have h1 := h.1 T hT
  have h2 := h.2 T hT
  refine ⟨?_, ?_⟩
  · simp only [mayHaveAttr, lubHasOpenAttrs, List.any_cons, List.any_nil, Bool.or_false, Bool.or_eq_false_iff]
    exact ⟨by simpa using h1, by simpa using h2⟩
  · rw [lubAttrs_single, attrsOfTy]
    cases het : s.entityType? T with
    | none => rfl
    | some et =>
      rw [het] at h2
      simp only at h2 ⊢
      cases hf : Attrs.find? et.attrs a with
      | none => rfl
      | some q => rw [hf] at h2; simp at h2

theorem hasAttr_eval_any {w : World} {e : Expr} {a : String} {v : Value} {τe : CedarType}
    (hv : w.eval e = .ok v) (hi : InstanceOfType v τe)
    (hshape : (∃ l, τe = .entity l) ∨ ∃ attrs o, τe = .record attrs o) :
    ∃ p : Bool, w.eval (.hasAttr e a) = .ok (.prim (.bool p)) ∧
      ((∃ kvs, v = .record kvs ∧ p = (lookupKV kvs a).isSome) ∨
       (∃ u, v = .prim (.entityUID u) ∧ w.es.find? u = none ∧ p = false) ∨
       (∃ u d, v = .prim (.entityUID u) ∧ w.es.find? u = some d ∧ p = (lookupKV d.attrs a).isSome)) := by
  rcases hshape with ⟨l, rfl⟩ | ⟨attrs, o, rfl⟩
  · cases hi with
    | entity u _ hm =>
      cases hf : w.es.find? u with
      | none => exact ⟨false, by simp [evaluate, hv, hf], Or.inr (Or.inl ⟨u, rfl, hf, rfl⟩)⟩
      | some d => exact ⟨_, by simp [evaluate, hv, hf], Or.inr (Or.inr ⟨u, d, rfl, hf, rfl⟩)⟩
  · obtain ⟨kvs, rfl⟩ := inst_record hi
    exact ⟨_, by simp [evaluate, hv], Or.inl ⟨kvs, rfl, rfl⟩⟩

theorem hasAttr_good_any {s : Schema} {w : World} {e : Expr} {a : String} {caps : Capabilities}
    {τe τ : CedarType} {ce c' : Capabilities}
    (hWF : SchemaWF s) (hst : StoreConforms s w.es) (hc : CapsHold w caps)
    (se : TySound w e τe ce)
    (hshape : τe = .never ∨ (∃ l, τe = .entity l) ∨ ∃ attrs o, τe = .record attrs o)
    (h : hasAttrCont s e a caps τe = .ok (τ, c')) :
    Good w (.hasAttr e a) τ c' := by
  obtain ⟨⟨bt, hbt⟩, hcs⟩ := hasAttrCont_bool h
  unfold hasAttrCont at h
  suffices hs : TySound w (.hasAttr e a) τ c' by
    refine ⟨hs, fun htt => ?_⟩
    rcases hcs with rfl | rfl
    · rw [htt] at hs; exact capHolds_attr (sound_tt hs)
    · exact capsHold_nil w
  have hcaps_of_true : w.eval (.hasAttr e a) = .ok (.prim (.bool true)) → CapsHold w c' := by
    intro ht
    rcases hcs with rfl | rfl
    · exact capHolds_attr (Or.inl ht)
    · exact capsHold_nil w
  rcases se with ⟨err, he, hp⟩ | ⟨v, hv, hi, _⟩
  · exact TySound.of_err (hasAttr_err he) hp
  · rcases hshape with rfl | hshape
    · exact (inst_never hi).elim
    · obtain ⟨p, hp, hcases⟩ := hasAttr_eval_any (a := a) hv hi hshape
      refine TySound.of_bool hp ?_ (fun hpt => hcaps_of_true (by rw [hp, hpt]))
      split at h
      · -- a required attribute: typed `True` on a record (its values have the field) or under the capability
        rename_i τa hl
        simp only [Except.ok.injEq, Prod.mk.injEq] at h; obtain ⟨rfl, _⟩ := h
        split
        · rename_i hcond
          have : p = true := by
            rcases Bool.or_eq_true _ _ |>.mp hcond with hr | hcap
            · rcases hshape with ⟨l, rfl⟩ | ⟨attrs, o, rfl⟩
              · simp [CedarType.isRecord] at hr
              · obtain ⟨kvs, rfl⟩ := inst_record hi
                rcases hcases with ⟨kvs', hk, rfl⟩ | ⟨u, hu, _⟩ | ⟨u, d, hu, _⟩
                · cases hk
                  simp only [lookupAttr] at hl
                  exact (record_get hi hl).2 rfl
                · cases hu
                · cases hu
            · exact cap_attr_true hc hcap hp
          rw [this]; rfl
        · simp [boolInst, boolT]
      · -- an optional attribute: typed `True` only under the capability
        simp only [Except.ok.injEq, Prod.mk.injEq] at h; obtain ⟨rfl, _⟩ := h
        split
        · rename_i hcap
          rw [cap_attr_true hc hcap hp]; rfl
        · simp [boolInst, boolT]
      · -- no declared attribute: typed `False` unless the operand may have it (an open record, an open member type)
        rename_i hl
        simp only [ok, Except.ok.injEq, Prod.mk.injEq] at h; obtain ⟨rfl, _⟩ := h
        split
        · simp [boolInst, boolT]
        · rename_i hmay
          simp only [Bool.not_eq_true] at hmay
          have : p = false := by
            rcases hcases with ⟨kvs, rfl, rfl⟩ | ⟨u, rfl, hf, rfl⟩ | ⟨u, d, rfl, hf, rfl⟩
            · rcases hshape with ⟨l, rfl⟩ | ⟨attrs, o, rfl⟩
              · cases hi
              · simp only [lookupAttr] at hl
                simp only [mayHaveAttr, hl, Option.isSome_none, Bool.or_false] at hmay
                subst hmay
                rw [record_no_attr hi hl]; rfl
            · rfl
            · rcases hshape with ⟨l, rfl⟩ | ⟨attrs, o, rfl⟩
              · cases hi with
                | entity _ _ hm =>
                  obtain ⟨h1, h2⟩ := mayHaveAttr_union_false hmay _ hm
                  rw [entity_no_attr hWF (hst _ _ hf) h2 h1]; rfl
              · cases hi
          rw [this]; rfl

/-- `.` on a record or on an entity of any of the types `l`: the attribute type computed for the union bounds the type each
member declares (`hmem`), so the member's own rule applies to the entity found -/
theorem getAttr_good_any {s : Schema} {w : World} {e : Expr} {a : String} {caps : Capabilities}
    {τe τa : CedarType} {ce : Capabilities} {req : Bool}
    (hWF : SchemaWF s) (hst : StoreConforms s w.es) (hc : CapsHold w caps)
    (se : TySound w e τe ce)
    (hshape : τe = .never ∨ (∃ l, τe = .entity l) ∨ ∃ attrs o, τe = .record attrs o)
    (hl : lookupAttr s τe a = some (req, τa)) (hcond : (req || caps.has (Capability.attr e a)) = true)
    (hmem : ∀ l, τe = .entity l → ∀ T, T ∈ l → ∃ r t, Attrs.find? (lubAttrs s [T]) a = some (r, t) ∧ (req = true → r = true) ∧
      Below t τa) :
    Good w (.getAttr e a) τa [] := by
  rcases se with ⟨err, he, hp⟩ | ⟨v, hv, hi, _⟩
  · exact Good.err (by simp [evaluate, he]) hp
  · rcases hshape with rfl | hshape
    · exact (inst_never hi).elim
    · obtain ⟨p, hp, hcases⟩ := hasAttr_eval_any (a := a) hv hi hshape
      -- the attribute is there: it is required, or the capability says so
      have hpres : ∀ {r : Bool}, (req = true → r = true) → (r = true → p = true) → p = true := fun hr h =>
        (Bool.or_eq_true _ _ |>.mp hcond).elim (fun hq => h (hr hq)) (fun hcap => cap_attr_true hc hcap hp)
      rcases hcases with ⟨kvs, rfl, rfl⟩ | ⟨u, rfl, hf, rfl⟩ | ⟨u, d, rfl, hf, rfl⟩
      · rcases hshape with ⟨l, rfl⟩ | ⟨attrs, o, rfl⟩
        · cases hi
        · obtain ⟨h1, h2⟩ := record_get hi (by simpa only [lookupAttr] using hl)
          cases hlk : lookupKV kvs a with
          | none => have := hpres id h2; rw [hlk] at this; cases this
          | some v' => exact Good.value (by simp [evaluate, hv, hlk]) (h1 v' hlk)
      · exact Good.err (by simp [evaluate, hv, hf]) (Or.inl rfl)
      · rcases hshape with ⟨l, rfl⟩ | ⟨attrs, o, rfl⟩
        · cases hi with
          | entity _ _ hm =>
            obtain ⟨r0, t0, hf0, hr, hsub⟩ := hmem l rfl _ hm
            obtain ⟨h1, h2, _⟩ := entity_get hWF (hst _ _ hf) hf0
            cases hlk : lookupKV d.attrs a with
            | none => have := hpres hr h2; rw [hlk] at this; cases this
            | some v' => exact Good.value (by simp [evaluate, hv, hf, hlk]) (hsub v' (h1 v' hlk))
        · cases hi

theorem hasTag_good_any {s : Schema} {w : World} {a b : Expr} {caps : Capabilities} {l : List EntityType} {τb : CedarType}
    {ca cb : Capabilities} (hst : StoreConforms s w.es) (hc : CapsHold w caps)
    (sa : TySound w a (.entity l) ca) (sb : TySound w b τb cb) (hτb : τb = .never ∨ τb = .string) :
    Good w (.binaryApp .hasTag a b)
      (if (tagTypes s l).isEmpty then .bool .ff else if caps.has (Capability.tag a b) then .bool .tt else boolT)
      [Capability.tag a b] := by
  suffices hs : TySound w (.binaryApp .hasTag a b)
      (if (tagTypes s l).isEmpty then .bool .ff else if caps.has (Capability.tag a b) then .bool .tt else boolT)
      [Capability.tag a b] by
    refine ⟨hs, fun htt => ?_⟩
    rw [htt] at hs
    exact capHolds_tag (sound_tt hs)
  rcases sa with ⟨err, he, hp⟩ | ⟨v1, hv1, hi1, _⟩
  · exact TySound.of_err (by simp [evaluate, he]) hp
  · cases hi1 with
    | entity u _ hm =>
      rcases sb with ⟨err, he, hp⟩ | ⟨v2, hv2, hi2, _⟩
      · exact TySound.of_err (by simp only [World.eval] at hv1 he; simp [evaluate, hv1, he]) hp
      · obtain ⟨k, rfl⟩ := inst_string hi2 hτb
        have hev := hasTag_eval hv1 hv2
        have hfalse : (tagTypes s l).isEmpty = true → ∀ p, w.eval (.binaryApp .hasTag a b) = .ok (.prim (.bool p)) →
            p = false := by
          intro hempty p hp
          rw [hev] at hp
          simp only [Except.ok.injEq, Value.prim.injEq, Prim.bool.injEq] at hp
          cases hf : w.es.find? u with
          | none => rw [hf] at hp; exact hp.symm
          | some d =>
            rw [hf] at hp; simp only at hp
            cases hl : lookupKV d.tags k with
            | none => rw [hl] at hp; exact hp.symm
            | some v =>
              obtain ⟨et, t, het, ht, _⟩ := entity_tag (hst _ _ hf) hl
              have hmem := mem_tagTypes hm het ht
              rw [List.isEmpty_iff] at hempty
              rw [hempty] at hmem; cases hmem
        obtain ⟨p, hp⟩ : ∃ p, w.eval (.binaryApp .hasTag a b) = .ok (.prim (.bool p)) := ⟨_, hev⟩
        refine TySound.of_bool hp ?_ (fun hpt => capHolds_tag (Or.inl (by rw [hp, hpt])))
        by_cases hempty : (tagTypes s l).isEmpty = true
        · rw [if_pos hempty, hfalse hempty p hp]; rfl
        · rw [if_neg hempty]
          by_cases hcap : caps.has (Capability.tag a b) = true
          · rw [if_pos hcap, cap_tag_true hc hcap hp]; rfl
          · rw [if_neg hcap]; simp [boolInst, boolT]

theorem inst_entityish {v : Value} {τ : CedarType} (hi : InstanceOfType v τ)
    (hτ : τ = .never ∨ τ = .anyEntity ∨ ∃ l, τ = .entity l) :
    ∃ u, v = .prim (.entityUID u) ∧ ∀ l, τ = .entity l → u.ty ∈ l := by
  rcases hτ with rfl | rfl | ⟨l, rfl⟩
  · exact (inst_never hi).elim
  · cases hi with
    | anyEntity u => exact ⟨u, rfl, fun l h => by cases h⟩
  · cases hi with
    | entity u _ hm => exact ⟨u, rfl, fun l' h => by cases h; exact hm⟩

theorem is_union_sound {u : EntityUID} {l : List EntityType} {ty : EntityType}
    (hi : InstanceOfType (.prim (.entityUID u)) (.entity l)) :
    (l.contains ty = false → (u.ty == ty) = false) ∧ (l = [ty] → (u.ty == ty) = true) := by
  cases hi with
  | entity _ _ hm =>
    constructor
    · intro hc
      cases hq : (u.ty == ty) with
      | false => rfl
      | true =>
        simp only [beq_iff_eq] at hq
        subst hq
        have : l.contains u.ty = true := by simpa using hm
        rw [this] at hc; cases hc
    · intro hl; subst hl
      simpa using hm

theorem shape_in_rhs_any {τb : CedarType}
    (hs : [CedarType.set (some .anyEntity), CedarType.anyEntity].any (fun t => isSubtype .permissive τb t) = true) :
    (τb = .never ∨ τb = .anyEntity ∨ ∃ l, τb = .entity l) ∨
    ∃ el, τb = .set (some el) ∧ (el = .never ∨ el = .anyEntity ∨ ∃ l, el = .entity l) := by
  simp only [List.any_cons, List.any_nil, Bool.or_false, Bool.or_eq_true] at hs
  cases τb <;> simp [isSubtype] at hs
  · exact Or.inl (Or.inl rfl)
  · rename_i el
    cases el with
    | none => simp [isSubtype] at hs
    | some x =>
      refine Or.inr ⟨x, rfl, ?_⟩
      cases x <;> simp [isSubtype] at hs
      · exact Or.inl rfl
      · exact Or.inr (Or.inr ⟨_, rfl⟩)
      · exact Or.inr (Or.inl rfl)
  · exact Or.inl (Or.inr (Or.inr ⟨_, rfl⟩))
  · exact Or.inl (Or.inr (Or.inl rfl))

theorem uids_of_entityish {el : CedarType} (hel : el = .never ∨ el = .anyEntity ∨ ∃ l, el = .entity l) :
    ∀ (vs : List Value), (∀ v, v ∈ vs → InstanceOfType v el) →
    ∃ us : List EntityUID, vs = us.map (fun u => Value.prim (.entityUID u)) ∧ ∀ u, u ∈ us → ∀ l, el = .entity l → u.ty ∈ l
  | [], _ => ⟨[], rfl, fun u hu => by cases hu⟩
  | v :: vs, h => by
    obtain ⟨u, rfl, hT⟩ := inst_entityish (h v List.mem_cons_self) hel
    obtain ⟨us, rfl, hus⟩ := uids_of_entityish hel vs (fun v' hv' => h v' (List.mem_cons_of_mem _ hv'))
    refine ⟨u :: us, rfl, ?_⟩
    intro u' hu'
    rcases List.mem_cons.mp hu' with rfl | hu'
    · exact hT
    · exact hus u' hu'

theorem anyDesc_false {s : Schema} {l r : List EntityType} {x y : EntityType} (h : anyDescendantOf s l r = false)
    (hx : x ∈ l) (hy : y ∈ r) : mayBeDescendant s x y = false := by
  unfold anyDescendantOf at h
  rw [List.any_eq_false] at h
  have h1 := h x hx
  simp only [Bool.not_eq_true] at h1
  rw [List.any_eq_false] at h1
  simpa using h1 y hy

theorem typeOfInGeneral_cases {s : Schema} {τa τb τ : CedarType} {c' : Capabilities}
    (h : typeOfInGeneral s τa τb = .ok (τ, c')) :
    c' = [] ∧ (τ = boolT ∨
      (τ = .bool .ff ∧ ∃ l r, τa = .entity l ∧ rhsEntityLub τb = some r ∧ anyDescendantOf s l r = false)) := by
  unfold typeOfInGeneral at h
  split at h
  · rename_i l r hr
    split at h
    · rename_i hnd
      simp only [ok, Except.ok.injEq, Prod.mk.injEq] at h; obtain ⟨rfl, rfl⟩ := h
      exact ⟨rfl, Or.inr ⟨rfl, l, r, rfl, hr, by simpa using hnd⟩⟩
    · simp only [ok, Except.ok.injEq, Prod.mk.injEq] at h; obtain ⟨rfl, rfl⟩ := h
      exact ⟨rfl, Or.inl rfl⟩
  · simp only [ok, Except.ok.injEq, Prod.mk.injEq] at h; obtain ⟨rfl, rfl⟩ := h
    exact ⟨rfl, Or.inl rfl⟩

theorem rhsEntityLub_entityish {τ : CedarType} {r : List EntityType}
    (hτ : τ = .never ∨ τ = .anyEntity ∨ ∃ l, τ = .entity l) (hr : rhsEntityLub τ = some r ∨ rhsEntityLub (.set (some τ)) = some r) :
    τ = .entity r := by
  rcases hτ with rfl | rfl | ⟨l', rfl⟩ <;> simp [rhsEntityLub] at hr
  rw [hr]

theorem inGeneral_good_any {s : Schema} {w : World} {a b : Expr} {τa τb τ : CedarType} {ca cb c' : Capabilities}
    (hWF : SchemaWF2 s) (hst : StoreConforms s w.es)
    (sa : TySound w a τa ca) (sb : TySound w b τb cb)
    (hτa : τa = .never ∨ τa = .anyEntity ∨ ∃ l, τa = .entity l)
    (hτb : (τb = .never ∨ τb = .anyEntity ∨ ∃ l, τb = .entity l) ∨
      ∃ el, τb = .set (some el) ∧ (el = .never ∨ el = .anyEntity ∨ ∃ l, el = .entity l))
    (h : typeOfInGeneral s τa τb = .ok (τ, c')) : Good w (.binaryApp .mem a b) τ c' := by
  obtain ⟨rfl, hτ⟩ := typeOfInGeneral_cases h
  rcases sa with ⟨err, he, hp⟩ | ⟨v1, hv1, hi1, _⟩
  · exact Good.err (by simp [evaluate, he]) hp
  · obtain ⟨u1, rfl, hT1⟩ := inst_entityish hi1 hτa
    rcases sb with ⟨err, he, hp⟩ | ⟨v2, hv2, hi2, _⟩
    · exact Good.err (by simp only [World.eval] at hv1 he; simp [evaluate, hv1, he]) hp
    · simp only [World.eval] at hv1 hv2
      rcases hτb with hτb | ⟨el, rfl, hel⟩
      · obtain ⟨u2, rfl, hT2⟩ := inst_entityish hi2 hτb
        have hev : w.eval (.binaryApp .mem a b) = .ok (.prim (.bool (inE w.es u1 u2))) := by
          simp [evaluate, hv1, hv2, applyBinary, Value.asEntity, bind, Except.bind]
        rcases hτ with rfl | ⟨rfl, l, r, rfl, hr, hnd⟩
        · exact Good.value hev (.anyBool _)
        · rw [inE_false hWF hst (anyDesc_false hnd (hT1 _ rfl) (hT2 _ (rhsEntityLub_entityish hτb (Or.inl hr))))] at hev
          exact Good.value hev .ff
      · obtain ⟨vs, rfl⟩ := inst_set hi2
        obtain ⟨us, rfl, hus⟩ := uids_of_entityish hel vs (inst_set_mem hi2)
        have hev : w.eval (.binaryApp .mem a b) = .ok (.prim (.bool (us.any (inE w.es u1 ·)))) := by
          simp [evaluate, hv1, hv2, applyBinary, Value.asEntity, asEntityList_map, bind, Except.bind]
        rcases hτ with rfl | ⟨rfl, l, r, rfl, hr, hnd⟩
        · exact Good.value hev (.anyBool _)
        · have hr' := rhsEntityLub_entityish hel (Or.inr hr)
          have : us.any (inE w.es u1 ·) = false := by
            rw [List.any_eq_false]
            intro u hu
            simp [inE_false (u1 := u1) (u2 := u) hWF hst (anyDesc_false hnd (hT1 _ rfl) (hus u hu _ hr'))]
          rw [this] at hev
          exact Good.value hev .ff

end Cedar.C03
