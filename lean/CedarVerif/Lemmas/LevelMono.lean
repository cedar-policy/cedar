import CedarVerif.Cedar.Validation.Level
/-
The level checker is monotone in the maximum level: the errors at a higher maximum level are a sublist of those at a
lower one (`checkExpr_sub`, one mutual induction following the five mutual functions of the checker), so a typed
expression without level errors at maximum level `n` has none at `n + 1`; `levelEnv_mono`: the same through the typechecker.
-/
namespace Cedar.Level
open Cedar

theorem exceeds_nil_iff {n lvl : Nat} : exceeds n lvl = [] ↔ lvl < n := by
  unfold exceeds
  constructor
  · intro h
    split at h
    · cases h
    · omega
  · intro h
    have : ¬ lvl ≥ n := by omega
    simp [this]

theorem exceeds_sub {n m : Nat} (h : n ≤ m) (lvl : Nat) : (exceeds m lvl).Sublist (exceeds n lvl) := by
  unfold exceeds
  by_cases hm : lvl ≥ m
  · rw [if_pos hm, if_pos (Nat.le_trans h hm)]; exact .refl _
  · rw [if_neg hm]; exact List.nil_sublist _

-- the maximum level is read by `exceeds` alone, and everything else is concatenation
mutual
theorem derefErrs_sub {n m : Nat} (h : n ≤ m) (act : EntityUID) :
    ∀ (te : TExpr) (p : List String), (derefErrs m act te p).Sublist (derefErrs n act te p)
  | .var _, _ => .refl _
  | .slot _, _ => .refl _
  | .lit _, _ => .refl _
  | .ite c t e, p => by
      simp only [derefErrs]
      exact (checkExpr_sub h act c).append ((derefErrs_sub h act t p).append (derefErrs_sub h act e p))
  | .getAttr k e a, p => by
      cases k <;> simp only [derefErrs]
      · exact derefErrs_sub h act e p
      · exact derefErrs_sub h act e (a :: p)
      · exact .refl _
  | .binaryApp op a b, p => by
      cases op <;> first | exact .refl _ | skip
      simp only [derefErrs]
      exact (derefErrs_sub h act a p).append (checkExpr_sub h act b)
  | .record kvs, p => by
      cases p with
      | nil => exact .refl _
      | cons a p' =>
        simp only [derefErrs]
        split
        · exact derefErrsKVs_sub h act a p' kvs
        · exact .refl _
  | .unknown _ _, _ => .refl _
  | .and _ _, _ => .refl _
  | .or _ _, _ => .refl _
  | .unaryApp _ _, _ => .refl _
  | .call _ _, _ => .refl _
  | .hasAttr _ _ _, _ => .refl _
  | .like _ _, _ => .refl _
  | .is _ _, _ => .refl _
  | .set _, _ => .refl _
theorem derefErrsKVs_sub {n m : Nat} (h : n ≤ m) (act : EntityUID) (a : String) (p : List String) :
    ∀ (kvs : List (String × TExpr)), (derefErrsKVs m act a p kvs).Sublist (derefErrsKVs n act a p kvs)
  | [] => .refl _
  | (k, e) :: rest => by
      simp only [derefErrsKVs]
      refine List.Sublist.append ?_ (derefErrsKVs_sub h act a p rest)
      split
      · exact derefErrs_sub h act e p
      · exact checkExpr_sub h act e
theorem checkExpr_sub {n m : Nat} (h : n ≤ m) (act : EntityUID) :
    ∀ (te : TExpr), (checkExpr m act te).Sublist (checkExpr n act te)
  | .lit _ => .refl _
  | .var _ => .refl _
  | .slot _ => .refl _
  | .unknown _ _ => .refl _
  | .ite c t e => by
      simp only [checkExpr]
      exact (checkExpr_sub h act c).append ((checkExpr_sub h act t).append (checkExpr_sub h act e))
  | .and a b => by
      simp only [checkExpr]
      exact (checkExpr_sub h act a).append (checkExpr_sub h act b)
  | .or a b => by
      simp only [checkExpr]
      exact (checkExpr_sub h act a).append (checkExpr_sub h act b)
  | .unaryApp _ a => by unfold checkExpr; exact checkExpr_sub h act a
  | .binaryApp op a b => by
      simp only [checkExpr]
      split
      · exact (derefErrs_sub h act a []).append ((exceeds_sub h _).append (checkExpr_sub h act b))
      · exact (checkExpr_sub h act a).append (checkExpr_sub h act b)
  | .call _ args => by unfold checkExpr; exact checkList_sub h act args
  | .getAttr k e _ => by
      cases k <;> simp only [checkExpr]
      · exact (derefErrs_sub h act e []).append (exceeds_sub h _)
      · exact checkExpr_sub h act e
      · exact .refl _
  | .hasAttr k e _ => by
      cases k <;> simp only [checkExpr]
      · exact (derefErrs_sub h act e []).append (exceeds_sub h _)
      · exact checkExpr_sub h act e
      · exact .refl _
  | .like e _ => by unfold checkExpr; exact checkExpr_sub h act e
  | .is e _ => by unfold checkExpr; exact checkExpr_sub h act e
  | .set es => by unfold checkExpr; exact checkList_sub h act es
  | .record kvs => by unfold checkExpr; exact checkKVs_sub h act kvs
theorem checkList_sub {n m : Nat} (h : n ≤ m) (act : EntityUID) :
    ∀ (es : List TExpr), (checkList m act es).Sublist (checkList n act es)
  | [] => .refl _
  | e :: es => by
      simp only [checkList]
      exact (checkExpr_sub h act e).append (checkList_sub h act es)
theorem checkKVs_sub {n m : Nat} (h : n ≤ m) (act : EntityUID) :
    ∀ (kvs : List (String × TExpr)), (checkKVs m act kvs).Sublist (checkKVs n act kvs)
  | [] => .refl _
  | (_, e) :: es => by
      simp only [checkKVs]
      exact (checkExpr_sub h act e).append (checkKVs_sub h act es)
end

theorem checkExpr_mono_le {n m : Nat} (h : n ≤ m) (act : EntityUID) (te : TExpr) (h0 : checkExpr n act te = []) :
    checkExpr m act te = [] :=
  List.sublist_nil.mp (h0 ▸ checkExpr_sub h act te)

theorem derefErrsKVs_mono (n : Nat) (act : EntityUID) (a : String) (p : List String) :
    ∀ (kvs : List (String × TExpr)), derefErrsKVs n act a p kvs = [] → derefErrsKVs (n + 1) act a p kvs = [] :=
  fun kvs h => List.sublist_nil.mp (h ▸ derefErrsKVs_sub (Nat.le_succ n) act a p kvs)

theorem checkList_mono (n : Nat) (act : EntityUID) :
    ∀ (es : List TExpr), checkList n act es = [] → checkList (n + 1) act es = [] :=
  fun es h => List.sublist_nil.mp (h ▸ checkList_sub (Nat.le_succ n) act es)

theorem checkKVs_mono (n : Nat) (act : EntityUID) :
    ∀ (kvs : List (String × TExpr)), checkKVs n act kvs = [] → checkKVs (n + 1) act kvs = [] :=
  fun kvs h => List.sublist_nil.mp (h ▸ checkKVs_sub (Nat.le_succ n) act kvs)

theorem levelEnv_mono (n : Nat) (m : ValidationMode) (s : Schema) (env : RequestEnv) (cond : Expr)
    (h : levelEnv n m s env cond = some []) : levelEnv (n + 1) m s env cond = some [] := by
  unfold levelEnv at *
  cases hE : expectOneOf (typeOf m s env cond []) [boolT] with
  | error err => rw [hE] at h; cases err <;> simp_all
  | ok _ =>
    rw [hE] at h
    simp only at h ⊢
    cases hA : annotate m s env cond [] with
    | error err => rw [hA] at h; cases err <;> simp_all
    | ok te =>
      rw [hA] at h
      simp only [Option.some.injEq] at h ⊢
      exact checkExpr_mono_le (Nat.le_succ n) env.action te h

end Cedar.Level
