import CedarVerif.Lemmas.ExtRenderDigits
import CedarVerif.Lemmas.ExtDuration
import CedarVerif.Lemmas.ExtDecimal
/-
C07 / C10 / C13: the canonical texts of duration and decimal values and the epoch date parse back to the value, and so the
constructor calls on them evaluate to it.  ipaddr: `ExtRenderIP`, `ExtRenderV6`.
-/
namespace Cedar
namespace CJson
open Ext

theorem renderDuration_eq (ms : Int) :
    renderDuration ms = Duration.render (decide (ms < 0)) none none none none (some (decDigits ms.natAbs)) := by
  simp only [renderDuration, intDigits, Duration.render, Duration.rc, List.nil_append, List.append_nil]
  by_cases h : ms < 0 <;> simp [h]

theorem duration_parse_render (ms : Int) (h : inI64 ms = true) :
    Duration.parse (String.ofList (renderDuration ms)) = some ms := by
  obtain ⟨hne, hdig, hval⟩ := decDigits_spec ms.natAbs
  have hwf : Duration.WF none none none none (some (decDigits ms.natAbs)) :=
    ⟨Duration.WFc_none, Duration.WFc_none, Duration.WFc_none, Duration.WFc_none,
      fun ds e => by cases e; exact ⟨hne, List.all_eq_true.mpr hdig⟩, rfl⟩
  have hv : Duration.exact (decide (ms < 0)) 0 0 0 0 ms.natAbs = ms := by
    simp only [Duration.exact]
    by_cases hn : ms < 0 <;> simp [hn] <;> omega
  rw [renderDuration_eq, Duration.parse_render _ _ _ _ _ _ hwf]
  simp only [Duration.cval, Option.map, Option.getD, hval, hv, h, if_true]

theorem callExt_ctor (s : String) :
    callExt "decimal" [.prim (.string s)] = (optToExt (Decimal.parse s)).bind (fun v => .ok (.ext (.decimal v))) ∧
    callExt "ip" [.prim (.string s)] = (optToExt (IPAddr.parse s)).bind (fun v => .ok (.ext v)) ∧
    callExt "datetime" [.prim (.string s)] = (optToExt (Datetime.parse s)).bind (fun v => .ok (.ext (.datetime v))) ∧
    callExt "duration" [.prim (.string s)] = (optToExt (Duration.parse s)).bind (fun v => .ok (.ext (.duration v))) :=
  ⟨rfl, rfl, rfl, rfl⟩

theorem callExt_duration (ms : Int) (h : inI64 ms = true) :
    callExt "duration" [.prim (.string (String.ofList (renderDuration ms)))] = .ok (.ext (.duration ms)) := by
  rw [(callExt_ctor _).2.2.2, duration_parse_render ms h]
  rfl

theorem parse_epoch : Datetime.parse "1970-01-01" = some 0 := by decide +kernel

theorem callExt_epoch : callExt "datetime" [.prim (.string "1970-01-01")] = .ok (.ext (.datetime 0)) := by
  rw [(callExt_ctor _).2.2.1, parse_epoch]
  rfl

theorem callExt_offset_epoch (ms : Int) (h : inI64 ms = true) :
    callExt "offset" [.ext (.datetime 0), .ext (.duration ms)] = .ok (.ext (.datetime ms)) := by
  have hoff : callExt "offset" [.ext (.datetime 0), .ext (.duration ms)]
      = (optToExt (Datetime.offset 0 ms)).bind (fun v => .ok (.ext (.datetime v))) := rfl
  rw [hoff, Datetime.offset, Int.zero_add, checkedI64_some h]
  rfl

theorem pad4_spec (m : Nat) (h : m < 10000) :
    (∀ c, c ∈ pad4 m → isDigit c = true) ∧ natOfDigits (pad4 m) = m ∧ (pad4 m).length = 4 := by
  have d3 := digitChar_props (m / 1000 % 10) (Nat.mod_lt _ (by omega))
  have d2 := digitChar_props (m / 100 % 10) (Nat.mod_lt _ (by omega))
  have d1 := digitChar_props (m / 10 % 10) (Nat.mod_lt _ (by omega))
  have d0 := digitChar_props (m % 10) (Nat.mod_lt _ (by omega))
  refine ⟨?_, ?_, rfl⟩
  · intro c hc
    simp only [pad4, List.mem_cons, List.not_mem_nil, or_false] at hc
    rcases hc with rfl | rfl | rfl | rfl
    · exact d3.1
    · exact d2.1
    · exact d1.1
    · exact d0.1
  · -- the top digit is the whole quotient, and each step of the fold undoes one division by 10
    have htop : m / 1000 % 10 = m / 1000 := Nat.mod_eq_of_lt (Nat.div_lt_of_lt_mul h)
    have e3 : m / 1000 = m / 100 / 10 := (Nat.div_div_eq_div_mul m 100 10).symm
    have e2 : m / 100 = m / 10 / 10 := (Nat.div_div_eq_div_mul m 10 10).symm
    simp only [natOfDigits, pad4, List.foldl_cons, List.foldl_nil, d3.2.1, d2.2.1, d1.2.1, d0.2.1, Nat.zero_mul,
      Nat.zero_add]
    rw [htop, e3, Nat.div_add_mod', e2, Nat.div_add_mod', Nat.div_add_mod']

theorem decimal_parse_render (v : Int) (h : inI64 v = true) :
    Decimal.parse (String.ofList (renderDecimal v)) = some v := by
  obtain ⟨hne, hdig, hval⟩ := decDigits_spec (v.natAbs / 10000)
  have hr : v.natAbs % 10000 < 10000 := Nat.mod_lt _ (by decide)
  obtain ⟨pdig, pval, plen⟩ := pad4_spec (v.natAbs % 10000) hr
  have hrd : renderDecimal v = Decimal.render (decide (v < 0)) (decDigits (v.natAbs / 10000)) (pad4 (v.natAbs % 10000)) := by
    simp [renderDecimal, Decimal.render]
  have hv : Decimal.exact (decide (v < 0)) (decDigits (v.natAbs / 10000)) (pad4 (v.natAbs % 10000)) = v := by
    simp only [Decimal.exact, hval, pval, plen]
    have := Nat.div_add_mod v.natAbs 10000
    by_cases hn : v < 0 <;> simp [hn] <;> omega
  rw [hrd, Decimal.parse_render _ _ _ ⟨hne, by simp [pad4], List.all_eq_true.mpr hdig, List.all_eq_true.mpr pdig⟩ (by omega), hv, h]
  rfl

theorem callExt_decimal (v : Int) (h : inI64 v = true) :
    callExt "decimal" [.prim (.string (String.ofList (renderDecimal v)))] = .ok (.ext (.decimal v)) := by
  rw [(callExt_ctor _).1, decimal_parse_render v h]
  rfl

end CJson
end Cedar
