import CedarVerif.Lemmas.TypecheckAny
import CedarVerif.Lemmas.TypecheckExt
import CedarVerif.Lemmas.TypecheckJudgment
/-
C03: soundness of the typing rules, whatever fragment, mode or type invariant an induction is about.
`SoundAt P H w e caps τ c` is what such an induction proves of one typing `HasType m s env e caps τ c`; `SoundAt.rule` derives it
for the conclusion of the constructor `HasType.rule` (for `unary` / `binary`: one per operator) from `SoundAt` of its premises; what
the rule needs of the invariant `P` is a hypothesis.  The inductions differ only in `P`, in the premise `H`, and in how they
discharge these hypotheses.  The rules for `lit`, `var`, `slot` and `.`, whose types come from the schema and the environment,
stand with the invariant they are proved for (TypecheckSound, TypecheckPFull).
-/
namespace Cedar.C03

open Cedar

def SoundAt (P : CedarType → Prop) (H : Prop) (w : World) (e : Expr) (caps : Capabilities) (τ : CedarType)
    (c : Capabilities) : Prop :=
  P τ ∧ (H → CapsHold w caps → Good w e τ c)

variable {P : CedarType → Prop} {H : Prop} {m : ValidationMode} {s : Schema} {env : RequestEnv} {w : World}
variable {caps : Capabilities}

theorem SoundAt.list : ∀ {es : List Expr} {τs : List CedarType}, typeOfList m s env es caps = .ok τs →
    (∀ x, x ∈ es → ∀ τx cx, typeOf m s env x caps = .ok (τx, cx) → SoundAt P H w x caps τx cx) →
    (∀ t, t ∈ τs → P t) ∧ (H → CapsHold w caps → ListGood w es τs)
  | [], _, h, _ => by
    simp only [typeOfList, Except.ok.injEq] at h; subst h
    exact ⟨fun t ht => (by cases ht), fun _ _ => listGood_nil w⟩
  | e :: es, _, h, ih => by
    obtain ⟨τ, c, τs', h1, h2, rfl⟩ := typeOfList_cons h
    obtain ⟨hm, g⟩ := ih e List.mem_cons_self τ c h1
    obtain ⟨hms, gs⟩ := SoundAt.list h2 (fun x hx => ih x (List.mem_cons_of_mem _ hx))
    refine ⟨fun t ht => ?_, fun hs hc => listGood_cons (g hs hc).1 (gs hs hc)⟩
    rcases List.mem_cons.mp ht with rfl | ht
    · exact hm
    · exact hms t ht

theorem SoundAt.kvs : ∀ {kvs : List (String × Expr)} {attrs : Attrs}, typeOfKVs m s env kvs caps = .ok attrs →
    (∀ kv, kv ∈ kvs → ∀ τx cx, typeOf m s env kv.2 caps = .ok (τx, cx) → SoundAt P H w kv.2 caps τx cx) →
    (∀ k r t, (k, r, t) ∈ attrs → P t) ∧ (H → CapsHold w caps → KVsGood w kvs attrs)
  | [], _, h, _ => by
    simp only [typeOfKVs, Except.ok.injEq] at h; subst h
    exact ⟨fun k r t ht => (by cases ht), fun _ _ => kvsGood_nil w⟩
  | (k, e) :: es, _, h, ih => by
    obtain ⟨τ, c, attrs', h1, h2, rfl⟩ := typeOfKVs_cons h
    obtain ⟨hm, g⟩ := ih (k, e) List.mem_cons_self τ c h1
    obtain ⟨hms, gs⟩ := SoundAt.kvs h2 (fun x hx => ih x (List.mem_cons_of_mem _ hx))
    refine ⟨fun k' r t ht => ?_, fun hs hc => kvsGood_cons (g hs hc).1 (gs hs hc)⟩
    rcases List.mem_cons.mp ht with heq | ht
    · cases heq; exact hm
    · exact hms k' r t ht

theorem andType_pres (hbool : ∀ bt, P (.bool bt)) {τa τb : CedarType} (ha : P τa) (hb : P τb) : P (andType τa τb) := by
  unfold andType
  split <;> first | assumption | exact hbool _

theorem orType_pres (hbool : ∀ bt, P (.bool bt)) {τa τb : CedarType} (ha : P τa) (hb : P τb) : P (orType τa τb) := by
  unfold orType
  split <;> first | assumption | exact hbool _

/-- the left operand is typed `False`: the right one is not typechecked, and not evaluated -/
theorem SoundAt.andFalse {a b : Expr} {ca : Capabilities} (hbool : ∀ bt, P (.bool bt))
    (iha : SoundAt P H w a caps (.bool .ff) ca) : SoundAt P H w (.and a b) caps (.bool .ff) [] := by
  refine ⟨hbool _, fun hs hc => ⟨?_, fun h => by cases h⟩⟩
  rcases (iha.2 hs hc).1.bool_cases (Or.inr ⟨_, rfl⟩) with ⟨err, he, hp⟩ | ⟨x, hx, hix, _⟩
  · exact TySound.of_err (by simp [evaluate, he]) hp
  · have : x = false := by simpa [boolInst] using hix
    subst this
    exact TySound.of_bool (b := false) (by simp [evaluate, hx, Value.asBool]) (by simp [boolInst]) (fun h => by cases h)

theorem SoundAt.and {a b : Expr} {τa τb : CedarType} {ca cb : Capabilities} (hbool : ∀ bt, P (.bool bt))
    (hba : Boolish τa) (hbb : Boolish τb) (iha : SoundAt P H w a caps τa ca) (ihb : SoundAt P H w b (caps.union ca) τb cb) :
    SoundAt P H w (.and a b) caps (andType τa τb) (andCaps τa τb ca cb) := by
  refine ⟨andType_pres hbool iha.1 ihb.1, fun hs hc => ?_⟩
  obtain ⟨sa, sa2⟩ := iha.2 hs hc
  have ihb' := fun hca => ihb.2 hs (capsHold_union.mpr ⟨hc, hca⟩)
  refine ⟨and_sound sa hba (fun hca => (ihb' hca).1) hbb (andType_inst hba hbb) (fun h1 h2 => andCaps_hold h1 h2),
    fun htt => ?_⟩
  obtain ⟨rfl, rfl⟩ := andType_tt htt hba hbb
  have hca := sa2 rfl
  exact andCaps_hold hca ((ihb' hca).2 rfl)

theorem SoundAt.orTrue {a b : Expr} {ca : Capabilities} (hbool : ∀ bt, P (.bool bt))
    (iha : SoundAt P H w a caps (.bool .tt) ca) : SoundAt P H w (.or a b) caps (.bool .tt) ca := by
  refine ⟨hbool _, fun hs hc => ?_⟩
  obtain ⟨sa, sa2⟩ := iha.2 hs hc
  refine ⟨?_, fun _ => sa2 rfl⟩
  rcases sa.bool_cases (Or.inr ⟨_, rfl⟩) with ⟨err, he, hp⟩ | ⟨x, hx, hix, hcx⟩
  · exact TySound.of_err (by simp [evaluate, he]) hp
  · have : x = true := by simpa [boolInst] using hix
    subst this
    exact TySound.of_bool (b := true) (by simp [evaluate, hx, Value.asBool]) (by simp [boolInst]) (fun _ => hcx rfl)

theorem SoundAt.or {a b : Expr} {τa τb : CedarType} {ca cb : Capabilities} (hbool : ∀ bt, P (.bool bt))
    (hba : Boolish τa) (hbb : Boolish τb) (iha : SoundAt P H w a caps τa ca) (ihb : SoundAt P H w b caps τb cb) :
    SoundAt P H w (.or a b) caps (orType τa τb) (orCaps τa τb ca cb) := by
  refine ⟨orType_pres hbool iha.1 ihb.1, fun hs hc => ?_⟩
  obtain ⟨sa, sa2⟩ := iha.2 hs hc
  obtain ⟨sb, sb2⟩ := ihb.2 hs hc
  have hL : boolInst true τa = true → CapsHold w ca → CapsHold w (orCaps τa τb ca cb) := by
    intro hi hca
    unfold orCaps
    split
    · exact sb2 rfl
    · exact hca
    · simp [boolInst] at hi
    · exact capsHold_inter_right hca
  have hR : boolInst true τb = true → CapsHold w cb → CapsHold w (orCaps τa τb ca cb) := by
    intro hi hcb
    unfold orCaps
    split
    · exact hcb
    · simp [boolInst] at hi
    · exact hcb
    · exact capsHold_inter_left hcb
  refine ⟨or_sound sa hba sb hbb (orType_inst hba hbb) hL hR, fun htt => ?_⟩
  rcases orType_tt htt hba hbb with rfl | ⟨rfl, rfl⟩
  · exact hR (by simp [boolInst]) (sb2 rfl)
  · exact hL (by simp [boolInst]) (sa2 rfl)

theorem SoundAt.not {a : Expr} {τa τ : CedarType} {ca c : Capabilities} (hbool : ∀ bt, P (.bool bt))
    (hr : unaryRule .not τa = .ok (τ, c)) (iha : SoundAt P H w a caps τa ca) :
    SoundAt P H w (.unaryApp .not a) caps τ c := by
  obtain ⟨hsa, hk⟩ := expectTy_ok hr
  cases hk
  have hba := subtype_bool hsa
  have hinst : ∀ x : Bool, boolInst x τa = true → boolInst (!x) (notType τa) = true := by
    rcases hba with rfl | ⟨bt, rfl⟩
    · intro x hx; simp [boolInst] at hx
    · cases bt <;> intro x hx <;> cases x <;> exact hx
  refine ⟨?_, fun hs hc => ⟨not_sound (iha.2 hs hc).1 hba hinst, fun _ => capsHold_nil w⟩⟩
  unfold notType
  split <;> exact hbool _

/-- the `if` rule: a branch is needed only if the type of the test allows that outcome; the result type bounds the types of
the branches, the result capabilities follow from those of the branch taken (and of the test, in the `then` branch) -/
theorem ite_sound {c t e : Expr} {τc τt τe τl : CedarType} {cc ct ce c' : Capabilities}
    (hbc : Boolish τc) (sc : TySound w c τc cc)
    (st : boolInst true τc = true → CapsHold w cc → TySound w t τt ct) (se : boolInst false τc = true → TySound w e τe ce)
    (hlt : Below τt τl) (hle : Below τe τl)
    (hct : CapsHold w ct → CapsHold w cc → CapsHold w c') (hce : CapsHold w ce → CapsHold w c') :
    TySound w (.ite c t e) τl c' := by
  rcases sc.bool_cases hbc with ⟨err, he, hp⟩ | ⟨x, hx, hix, hcx⟩
  · exact TySound.of_err (by simp [evaluate, he]) hp
  · cases x with
    | true =>
      have hcc := hcx rfl
      have heq : w.eval (.ite c t e) = w.eval t := by simp [evaluate, hx, Value.asBool]
      rcases st hix hcc with ⟨err, he, hp⟩ | ⟨v, hv, hi, hcv⟩
      · exact Or.inl ⟨err, by rw [heq, he], hp⟩
      · exact Or.inr ⟨v, by rw [heq, hv], hlt v hi, fun hvt => hct (hcv hvt) hcc⟩
    | false =>
      have heq : w.eval (.ite c t e) = w.eval e := by simp [evaluate, hx, Value.asBool]
      rcases se hix with ⟨err, he, hp⟩ | ⟨v, hv, hi, hcv⟩
      · exact Or.inl ⟨err, by rw [heq, he], hp⟩
      · exact Or.inr ⟨v, by rw [heq, hv], hle v hi, fun hvt => hce (hcv hvt)⟩

theorem SoundAt.iteTrue {c t e : Expr} {τt : CedarType} {cc ct : Capabilities}
    (ihc : SoundAt P H w c caps (.bool .tt) cc) (iht : SoundAt P H w t (caps.union cc) τt ct) :
    SoundAt P H w (.ite c t e) caps τt (ct.union cc) := by
  refine ⟨iht.1, fun hs hc => ?_⟩
  obtain ⟨sc, sc2⟩ := ihc.2 hs hc
  have hcc : CapsHold w cc := sc2 rfl
  obtain ⟨st, st2⟩ := iht.2 hs (capsHold_union.mpr ⟨hc, hcc⟩)
  exact ⟨ite_sound (τe := .never) (ce := ct.union cc) (Or.inr ⟨_, rfl⟩) sc (fun _ _ => st) (fun h => by cases h)
    (fun _ hv => hv) (fun _ hv => (inst_never hv).elim) (fun h1 h2 => capsHold_union.mpr ⟨h1, h2⟩) (fun h => h),
    fun htt => capsHold_union.mpr ⟨st2 htt, hcc⟩⟩

theorem SoundAt.iteFalse {c t e : Expr} {τe : CedarType} {cc ce : Capabilities}
    (ihc : SoundAt P H w c caps (.bool .ff) cc) (ihe : SoundAt P H w e caps τe ce) :
    SoundAt P H w (.ite c t e) caps τe ce := by
  refine ⟨ihe.1, fun hs hc => ?_⟩
  obtain ⟨se, se2⟩ := ihe.2 hs hc
  exact ⟨ite_sound (τt := .never) (ct := ce) (Or.inr ⟨_, rfl⟩) (ihc.2 hs hc).1 (fun h => by cases h) (fun _ => se)
    (fun _ hv => (inst_never hv).elim) (fun _ hv => hv) (fun h _ => h) (fun h => h), se2⟩

/-- `hml`, `hlt`: what the induction knows of the bound of the two branch types — it satisfies the invariant, and the values
of the `then` branch type are values of it (in permissive mode this needs distinct record keys inside the `then` type) -/
theorem SoundAt.ite {c t e : Expr} {τc τt τe τl : CedarType} {cc ct ce : Capabilities} (hbc : Boolish τc)
    (hl : lub m τt τe = some τl) (hne : τe ≠ .never) (hml : P τl) (hlt : Below τt τl)
    (ihc : SoundAt P H w c caps τc cc) (iht : SoundAt P H w t (caps.union cc) τt ct) (ihe : SoundAt P H w e caps τe ce) :
    SoundAt P H w (.ite c t e) caps τl (ce.inter (ct.union cc)) := by
  refine ⟨hml, fun hs hc => ?_⟩
  obtain ⟨se, se2⟩ := ihe.2 hs hc
  refine ⟨ite_sound hbc (ihc.2 hs hc).1 (fun _ hcc => (iht.2 hs (capsHold_union.mpr ⟨hc, hcc⟩)).1) (fun _ => se) hlt
    (fun v hv => (lub_inst hl).2 v hv)
    (fun h1 h2 => capsHold_inter_right (capsHold_union.mpr ⟨h1, h2⟩)) capsHold_inter_left, fun htt => ?_⟩
  subst htt
  exact capsHold_inter_left (se2 ((lub_tt hl).2.resolve_right hne))

theorem SoundAt.neg {a : Expr} {τa τ : CedarType} {ca c : Capabilities} (hlong : P .long)
    (hr : unaryRule .neg τa = .ok (τ, c)) (iha : SoundAt P H w a caps τa ca) :
    SoundAt P H w (.unaryApp .neg a) caps τ c := by
  obtain ⟨hsa, hk⟩ := expectTy_ok hr
  cases hk
  exact ⟨hlong, fun hs hc => neg_sound (iha.2 hs hc).1 (subtype_long hsa)⟩

theorem SoundAt.isEmpty {a : Expr} {τa τ : CedarType} {ca c : Capabilities} (hbool : ∀ bt, P (.bool bt))
    (hr : unaryRule .isEmpty τa = .ok (τ, c)) (iha : SoundAt P H w a caps τa ca) :
    SoundAt P H w (.unaryApp .isEmpty a) caps τ c := by
  obtain ⟨hsa, hk⟩ := expectTy_ok hr
  cases hk
  exact ⟨hbool _, fun hs hc => isEmpty_good (iha.2 hs hc).1 (subtype_anySet hsa)⟩

theorem SoundAt.like {a : Expr} {pat : Pattern} {τa : CedarType} {ca : Capabilities} (hbool : ∀ bt, P (.bool bt))
    (hsa : [CedarType.string].any (fun t => isSubtype .permissive τa t) = true) (iha : SoundAt P H w a caps τa ca) :
    SoundAt P H w (.like a pat) caps boolT [] := by
  refine ⟨hbool _, fun hs hc => ?_⟩
  rcases (iha.2 hs hc).1 with ⟨err, he, hp⟩ | ⟨v, hv, hi, _⟩
  · exact Good.err (by simp [evaluate, he]) hp
  · obtain ⟨str, rfl⟩ := inst_string hi (subtype_string hsa)
    exact Good.value (v := .prim (.bool (wm pat str.toList))) (by simp [evaluate, hv, Value.asString]) (.anyBool _)

section binary
variable {a b : Expr} {τa τb τ : CedarType} {ca cb c : Capabilities}

theorem SoundAt.arith {op : BinaryOp} (hop : op = .add ∨ op = .sub ∨ op = .mul) (hlong : P .long)
    (hr : binaryRule m s env op a b caps τa τb = .ok (τ, c))
    (iha : SoundAt P H w a caps τa ca) (ihb : SoundAt P H w b caps τb cb) : SoundAt P H w (.binaryApp op a b) caps τ c := by
  have hr' : expectTy τa [.long] (expectTy τb [.long] (ok .long)) = .ok (τ, c) := by
    rcases hop with rfl | rfl | rfl <;> exact hr
  obtain ⟨hsa, h1⟩ := expectTy_ok hr'
  obtain ⟨hsb, hk⟩ := expectTy_ok h1
  cases hk
  exact ⟨hlong, fun hs hc => arith_sound hop (iha.2 hs hc).1 (subtype_long hsa) (ihb.2 hs hc).1 (subtype_long hsb)⟩

theorem SoundAt.cmp {op : BinaryOp} (hop : op = .less ∨ op = .lessEq) (hna : τa ≠ .never) (hnb : τb ≠ .never)
    (hbool : ∀ bt, P (.bool bt)) (hr : binaryRule m s env op a b caps τa τb = .ok (τ, c))
    (iha : SoundAt P H w a caps τa ca) (ihb : SoundAt P H w b caps τb cb) : SoundAt P H w (.binaryApp op a b) caps τ c := by
  have hk : cmpType τa τb = .ok (τ, c) := by
    rcases hop with rfl | rfl <;> exact hr
  obtain ⟨hτ, _, _⟩ := cmpType_inv hk hna hnb
  exact ⟨by rw [hτ]; exact hbool _, fun hs hc => cmp_good hop (iha.2 hs hc).1 (ihb.2 hs hc).1 hna hnb hk⟩

/-- `are_types_disjoint`: values of disjoint entity-type unions are different, so typing `==` `False` is sound -/
theorem typesDisjoint_sound {τa τb : CedarType} {va vb : Value} (hd : typesDisjoint τa τb = true)
    (ha : InstanceOfType va τa) (hb : InstanceOfType vb τb) : va ≠ vb := by
  intro heq; subst heq
  unfold typesDisjoint at hd
  split at hd
  · cases ha with
    | entity u _ hm0 =>
      cases hb with
      | entity _ _ hm1 =>
        simp only [Bool.not_eq_true', List.any_eq_false] at hd
        have := hd _ hm0
        simp only [List.contains_iff_mem] at this
        exact this hm1
  · cases hd

theorem eq_good_any {a b : Expr} {τa τb : CedarType} {ca cb : Capabilities}
    (henv : EnvMatches s env w.q) (sa : TySound w a τa ca) (sb : TySound w b τb cb) :
    Good w (.binaryApp .eq a b) (eqType env a b τa τb) [] := by
  rcases sa with ⟨err, he, hp⟩ | ⟨v1, hv1, hi1, _⟩
  · exact Good.err (by simp [evaluate, he]) hp
  · rcases sb with ⟨err, he, hp⟩ | ⟨v2, hv2, hi2, _⟩
    · exact Good.err (by simp [evaluate, hv1, he]) hp
    · refine Good.value (v := .prim (.bool (Value.beq v1 v2))) (by simp [evaluate, hv1, hv2, applyBinary]) (inst_bool_iff.mpr ?_)
      unfold eqType
      split
      · rename_i hdis
        have hne := typesDisjoint_sound hdis hi1 hi2
        unfold typesDisjoint at hdis
        split at hdis
        · cases hi1 with
          | entity u1 _ _ =>
            cases hi2 with
            | entity u2 _ _ =>
              have hne : u1 ≠ u2 := fun h => hne (by rw [h])
              simp [Value.beq, boolInst, hne]
        · cases hdis
      · split
        · rename_i la lb hla hlb
          have e1 := asLiteral_eval henv hla
          have e2 := asLiteral_eval henv hlb
          rw [hv1] at e1; rw [hv2] at e2
          cases e1; cases e2
          by_cases hl : la = lb
          · subst hl; simp [Value.beq, boolInst]
          · simp [Value.beq, boolInst, hl]
        · simp [boolInst, boolT]

theorem SoundAt.eq (henv : EnvMatches s env w.q) (hbool : ∀ bt, P (.bool bt))
    (hr : binaryRule m s env .eq a b caps τa τb = .ok (τ, c))
    (iha : SoundAt P H w a caps τa ca) (ihb : SoundAt P H w b caps τb cb) : SoundAt P H w (.binaryApp .eq a b) caps τ c := by
  simp only [binaryRule] at hr
  split at hr
  · cases hr
  · simp only [ok, Except.ok.injEq, Prod.mk.injEq] at hr; obtain ⟨rfl, rfl⟩ := hr
    obtain ⟨bt, hbt⟩ := eqType_bool env a b τa τb
    exact ⟨by rw [hbt]; exact hbool _, fun hs hc => eq_good_any henv (iha.2 hs hc).1 (ihb.2 hs hc).1⟩

theorem SoundAt.contains (hbool : ∀ bt, P (.bool bt))
    (hr : binaryRule m s env .contains a b caps τa τb = .ok (τ, c))
    (iha : SoundAt P H w a caps τa ca) (ihb : SoundAt P H w b caps τb cb) :
    SoundAt P H w (.binaryApp .contains a b) caps τ c := by
  obtain ⟨hsa, hk⟩ := expectTy_ok hr
  obtain ⟨rfl, rfl⟩ := strictGuard_ok hk
  exact ⟨hbool _, fun hs hc => contains_good (iha.2 hs hc).1 (subtype_anySet hsa) (ihb.2 hs hc).1⟩

theorem SoundAt.containsAll (hbool : ∀ bt, P (.bool bt))
    (hr : binaryRule m s env .containsAll a b caps τa τb = .ok (τ, c))
    (iha : SoundAt P H w a caps τa ca) (ihb : SoundAt P H w b caps τb cb) :
    SoundAt P H w (.binaryApp .containsAll a b) caps τ c := by
  obtain ⟨hsa, h1⟩ := expectTy_ok hr
  obtain ⟨hsb, hk⟩ := expectTy_ok h1
  obtain ⟨rfl, rfl⟩ := strictGuard_ok hk
  exact ⟨hbool _, fun hs hc => containsAll_good (iha.2 hs hc).1 (subtype_anySet hsa) (ihb.2 hs hc).1 (subtype_anySet hsb)⟩

theorem SoundAt.containsAny (hbool : ∀ bt, P (.bool bt))
    (hr : binaryRule m s env .containsAny a b caps τa τb = .ok (τ, c))
    (iha : SoundAt P H w a caps τa ca) (ihb : SoundAt P H w b caps τb cb) :
    SoundAt P H w (.binaryApp .containsAny a b) caps τ c := by
  obtain ⟨hsa, h1⟩ := expectTy_ok hr
  obtain ⟨hsb, hk⟩ := expectTy_ok h1
  obtain ⟨rfl, rfl⟩ := strictGuard_ok hk
  exact ⟨hbool _, fun hs hc => containsAny_good (iha.2 hs hc).1 (subtype_anySet hsa) (ihb.2 hs hc).1 (subtype_anySet hsb)⟩

end binary

section entity
variable {a b : Expr} {τa τb τ : CedarType} {ca cb c : Capabilities}

/-- `hta`: the answer for the left operand itself — for an action literal it says that the schema declares the action -/
theorem SoundAt.mem (henv : EnvMatches s env w.q) (hbool : ∀ bt, P (.bool bt))
    (hp : H → SchemaWF2 s ∧ StoreConforms s w.es ∧ ActionsPresent s w.es)
    (hta : typeOf m s env a caps = .ok (τa, ca))
    (hr : binaryRule m s env .mem a b caps τa τb = .ok (τ, c))
    (iha : SoundAt P H w a caps τa ca) (ihb : SoundAt P H w b caps τb cb) :
    SoundAt P H w (.binaryApp .mem a b) caps τ c := by
  obtain ⟨hsa, h1⟩ := expectTy_ok hr
  obtain ⟨hsb, hk⟩ := expectTy_ok h1
  have general : ∀ τ c', typeOfInGeneral s τa τb = .ok (τ, c') →
      P τ ∧ (H → CapsHold w caps → Good w (.binaryApp .mem a b) τ c') :=
    fun τ c' hg => ⟨by rcases (typeOfInGeneral_cases hg).2 with rfl | ⟨rfl, _⟩ <;> exact hbool _,
      fun hs hc => inGeneral_good_any (hp hs).1 (hp hs).2.1 (iha.2 hs hc).1 (ihb.2 hs hc).1 (subtype_anyEntity hsa)
        (shape_in_rhs_any hsb) hg⟩
  unfold memCont at hk
  split at hk
  · rename_i l rs hl hrs
    split at hk
    · -- an action literal on the left: the answer is read off the action hierarchy of the schema
      rename_i hact
      simp only [ok, Except.ok.injEq, Prod.mk.injEq] at hk; obtain ⟨rfl, rfl⟩ := hk
      obtain ⟨al, hal⟩ := asEuid_declared hl hta hact
      refine ⟨?_, fun hs _ => actionIn_good (hp hs).1 henv (hp hs).2.1 (hp hs).2.2 hl hrs hal⟩
      rw [typeOfActionIn_eq]; split <;> exact hbool _
    · exact general _ _ hk
  · exact general _ _ hk

theorem SoundAt.hasTag (hbool : ∀ bt, P (.bool bt)) (hst : H → StoreConforms s w.es)
    (hr : binaryRule m s env .hasTag a b caps τa τb = .ok (τ, c))
    (iha : SoundAt P H w a caps τa ca) (ihb : SoundAt P H w b caps τb cb) :
    SoundAt P H w (.binaryApp .hasTag a b) caps τ c := by
  obtain ⟨hsa, h1⟩ := expectTy_ok hr
  obtain ⟨hsb, hk⟩ := expectTy_ok h1
  -- on `Never` and `AnyEntity` the rule answers an error
  rcases subtype_anyEntity hsa with rfl | rfl | ⟨l, rfl⟩
  · cases hk
  · cases hk
  · simp only [hasTagCont, Except.ok.injEq, Prod.mk.injEq] at hk; obtain ⟨rfl, rfl⟩ := hk
    exact ⟨by split; exact hbool _; split <;> exact hbool _,
      fun hs hc => hasTag_good_any (hst hs) hc (iha.2 hs hc).1 (ihb.2 hs hc).1 (subtype_string hsb)⟩

/-- `htag`: what the induction knows of the bound of the tag types of the member types — it satisfies the invariant and lies
above each of them -/
theorem SoundAt.getTag (hst : H → StoreConforms s w.es)
    (htag : ∀ l, τa = .entity l → tagTypes s l ≠ [] → lubAll m (tagTypes s l) = some τ →
      P τ ∧ ∀ t, t ∈ tagTypes s l → Below t τ)
    (hr : binaryRule m s env .getTag a b caps τa τb = .ok (τ, c))
    (iha : SoundAt P H w a caps τa ca) (ihb : SoundAt P H w b caps τb cb) :
    SoundAt P H w (.binaryApp .getTag a b) caps τ c := by
  obtain ⟨hsa, h1⟩ := expectTy_ok hr
  obtain ⟨hsb, hk⟩ := expectTy_ok h1
  rcases subtype_anyEntity hsa with rfl | rfl | ⟨l, rfl⟩
  · cases hk
  · cases hk
  · obtain ⟨hcap, rfl, hne', hlub⟩ := getTag_arm hk
    obtain ⟨hp, hsub⟩ := htag l rfl hne' hlub
    exact ⟨hp, fun hs hc => getTag_sound hcap hsub (hst hs) hc (iha.2 hs hc).1 (ihb.2 hs hc).1 (subtype_string hsb)⟩

end entity

section operand
variable {e : Expr} {τe τ : CedarType} {ce c : Capabilities}

theorem SoundAt.hasAttr {a : String} (hWF : SchemaWF s) (hbool : ∀ bt, P (.bool bt)) (hst : H → StoreConforms s w.es)
    (hr : hasAttrRule s e a caps τe = .ok (τ, c)) (ihe : SoundAt P H w e caps τe ce) :
    SoundAt P H w (.hasAttr e a) caps τ c := by
  obtain ⟨hsub, hne, hk⟩ := hasAttrRule_inv hr
  obtain ⟨bt, rfl⟩ := (hasAttrCont_bool hk).1
  exact ⟨hbool bt, fun hs hc => hasAttr_good_any hWF (hst hs) hc (ihe.2 hs hc).1 (shape_attr_operand hne hsub) hk⟩

theorem SoundAt.is {ty : EntityType} (hbool : ∀ bt, P (.bool bt))
    (hr : isRule ty τe = .ok (τ, c)) (ihe : SoundAt P H w e caps τe ce) :
    SoundAt P H w (.is e ty) caps τ c := by
  obtain ⟨hsub, hr⟩ := expectTy_ok hr
  obtain ⟨_, ge⟩ := ihe
  rcases subtype_anyEntity hsub with rfl | rfl | ⟨l, rfl⟩
  · cases hr
  · simp only [ok, Except.ok.injEq, Prod.mk.injEq] at hr; obtain ⟨rfl, rfl⟩ := hr
    refine ⟨hbool _, fun hs hc => ?_⟩
    rcases (ge hs hc).1 with ⟨err, he, hp⟩ | ⟨v, hv, hi, _⟩
    · exact Good.err (by simp [evaluate, he]) hp
    · cases hi with
      | anyEntity u =>
        exact Good.value (v := .prim (.bool (u.ty == ty))) (by simp [evaluate, hv, Value.asEntity]) (.anyBool _)
  · simp only [ok, Except.ok.injEq, Prod.mk.injEq] at hr; obtain ⟨rfl, rfl⟩ := hr
    refine ⟨by split; exact hbool _; split <;> exact hbool _, fun hs hc => ?_⟩
    rcases (ge hs hc).1 with ⟨err, he, hp⟩ | ⟨v, hv, hi, _⟩
    · exact ⟨Or.inl ⟨err, by simp [evaluate, he], hp⟩, fun _ => capsHold_nil w⟩
    · obtain ⟨u, rfl, _⟩ := inst_entityish hi (Or.inr (Or.inr ⟨l, rfl⟩))
      obtain ⟨hno, hyes⟩ := is_union_sound (ty := ty) hi
      refine ⟨TySound.of_bool (b := u.ty == ty) (by simp [evaluate, hv, Value.asEntity]) ?_ (fun _ => capsHold_nil w),
        fun _ => capsHold_nil w⟩
      split
      · rename_i hc1
        rw [hno (by simpa using hc1)]; rfl
      · split
        · rename_i hc2
          rw [hyes (by simpa using hc2)]; rfl
        · simp [boolInst, boolT]

end operand

/-- `hp`, `hg`: what the induction knows of the join of the element types -/
theorem SoundAt.set {es : List Expr} {τs : List CedarType} {τ' : CedarType} (hp : P (.set (some τ')))
    (hg : ListGood w es τs → Good w (.set es) (.set (some τ')) [])
    (ih : (∀ t, t ∈ τs → P t) ∧ (H → CapsHold w caps → ListGood w es τs)) :
    SoundAt P H w (.set es) caps (.set (some τ')) [] :=
  ⟨hp, fun hs hc => hg (ih.2 hs hc)⟩

theorem SoundAt.record {kvs : List (String × Expr)} {attrs : Attrs} (hk : (kvs.map (·.1)).Nodup)
    (hrec : (∀ k r t, (k, r, t) ∈ attrs → P t) → (attrs.map (·.1)).Nodup → P (.record attrs false))
    (hL : typeOfKVs m s env kvs caps = .ok attrs)
    (ih : (∀ k r t, (k, r, t) ∈ attrs → P t) ∧ (H → CapsHold w caps → KVsGood w kvs attrs)) :
    SoundAt P H w (.record kvs) caps (.record attrs false) [] := by
  have hn : (attrs.map (·.1)).Nodup := by rw [typeOfKVs_keys hL]; exact hk
  exact ⟨hrec ih.1 hn, fun hs hc => record_good (ih.2 hs hc) hn⟩

theorem SoundAt.call {fn : String} {args : List Expr} {τs : List CedarType} {τ : CedarType} {c : Capabilities}
    (hret : ∀ sig, extSig fn = some sig → P sig.ret) (hL : typeOfList m s env args caps = .ok τs)
    (hr : callRule m fn args τs = .ok (τ, c))
    (ih : (∀ t, t ∈ τs → P t) ∧ (H → CapsHold w caps → ListGood w args τs)) : SoundAt P H w (.call fn args) caps τ c := by
  obtain ⟨sig, hsig, hlen, hall, rfl, rfl⟩ := callRule_inv hr
  exact ⟨hret sig hsig, fun hs hc => call_good hsig (ih.2 hs hc) (by rw [typeOfList_length hL, hlen]) hall⟩

end Cedar.C03
