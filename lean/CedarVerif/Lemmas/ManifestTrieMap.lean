import CedarVerif.Cedar.Manifest
/-
`Fields` and `RootAccessTrie` are association lists of tries over two key types, with the same lookup, replacement and
union.  `TrieMap` holds the three operations with their defining equations; what follows from the equations is proved
once and used at `fieldsMap` and `rootsMap`.  A lemma about a list takes what it needs of the entries' tries as a
hypothesis on the members, and `AccessTrie.induct` supplies that hypothesis, so that a fact about tries is one induction
and not a `mutual` block of three: what else the fact walks in step (a second trie, a type, a value) is quantified in the
motive, a list predicate is read through its `_iff` (`forall_mem_of_eqns`), a list function through its `mem_…` lemma.
`mutual` stays where the list level is a recursion of its own: a fold with an accumulator, a Boolean checker with nested
matches, `toTypedFields` read from its output.
-/
namespace Cedar.Manifest
open Cedar

mutual
theorem AccessTrie.induct {P : AccessTrie → Prop}
    (step : ∀ c a i e, (∀ k t, (k, t) ∈ c → P t) → (∀ k t, (k, t) ∈ a → P t) → P (.mk c a i e)) : ∀ t, P t
  | .mk c a i e => step c a i e (AccessTrie.induct_fields step c) (AccessTrie.induct_roots step a)
theorem AccessTrie.induct_fields {P : AccessTrie → Prop}
    (step : ∀ c a i e, (∀ k t, (k, t) ∈ c → P t) → (∀ k t, (k, t) ∈ a → P t) → P (.mk c a i e)) :
    ∀ (c : Fields) (k : String) (t : AccessTrie), (k, t) ∈ c → P t
  | [], _, _, hm => nomatch hm
  | (_, t0) :: rest, k, t, hm => by
    rcases List.mem_cons.1 hm with e | hm
    · cases e; exact AccessTrie.induct step t0
    · exact AccessTrie.induct_fields step rest k t hm
theorem AccessTrie.induct_roots {P : AccessTrie → Prop}
    (step : ∀ c a i e, (∀ k t, (k, t) ∈ c → P t) → (∀ k t, (k, t) ∈ a → P t) → P (.mk c a i e)) :
    ∀ (c : RootAccessTrie) (k : EntityRoot) (t : AccessTrie), (k, t) ∈ c → P t
  | [], _, _, hm => nomatch hm
  | (_, t0) :: rest, k, t, hm => by
    rcases List.mem_cons.1 hm with e | hm
    · cases e; exact AccessTrie.induct step t0
    · exact AccessTrie.induct_roots step rest k t hm
end

theorem forall_mem_of_eqns {κ α : Type} {S : List (κ × α) → Prop} {Q : κ → α → Prop} (hnil : S [])
    (hcons : ∀ k t rest, S ((k, t) :: rest) ↔ Q k t ∧ S rest) : ∀ c, S c ↔ ∀ k t, (k, t) ∈ c → Q k t
  | [] => iff_of_true hnil (fun _ _ h => nomatch h)
  | (k0, t0) :: rest => by
    rw [hcons, forall_mem_of_eqns hnil hcons rest]
    simp only [List.mem_cons, Prod.mk.injEq]
    constructor
    · rintro ⟨h0, hr⟩ k t (⟨rfl, rfl⟩ | hm)
      · exact h0
      · exact hr k t hm
    · exact fun h => ⟨h k0 t0 (.inl ⟨rfl, rfl⟩), fun k t hm => h k t (.inr hm)⟩

structure TrieMap (κ : Type) [BEq κ] where
  look : List (κ × AccessTrie) → κ → Option AccessTrie
  repl : κ → AccessTrie → List (κ × AccessTrie) → List (κ × AccessTrie)
  uni : List (κ × AccessTrie) → List (κ × AccessTrie) → List (κ × AccessTrie)
  look_nil : ∀ k, look [] k = none
  look_cons : ∀ k' t rest k, look ((k', t) :: rest) k = if k' == k then some t else look rest k
  repl_nil : ∀ k t, repl k t [] = []
  repl_cons : ∀ k t k' t' rest,
    repl k t ((k', t') :: rest) = if k' == k then (k, t) :: rest else (k', t') :: repl k t rest
  uni_nil : ∀ c, uni c [] = c
  uni_cons : ∀ c k v rest, uni c ((k, v) :: rest) =
    match look c k with
    | some t => uni (repl k (t.union v) c) rest
    | none => uni (c ++ [(k, v)]) rest

def fieldsMap : TrieMap String where
  look := lookupField
  repl := replaceField
  uni := unionFields
  look_nil _ := rfl
  look_cons _ _ _ _ := rfl
  repl_nil _ _ := rfl
  repl_cons _ _ _ _ _ := rfl
  uni_nil _ := by rw [unionFields]
  uni_cons _ _ _ _ := by rw [unionFields]; rfl

def rootsMap : TrieMap EntityRoot where
  look := lookupRoot
  repl := replaceRoot
  uni := unionRoots
  look_nil _ := rfl
  look_cons _ _ _ _ := rfl
  repl_nil _ _ := rfl
  repl_cons _ _ _ _ _ := rfl
  uni_nil _ := by rw [unionRoots]
  uni_cons _ _ _ _ := by rw [unionRoots]; rfl

namespace TrieMap
variable {κ : Type} [BEq κ] [LawfulBEq κ] (M : TrieMap κ)

theorem mem_of_look : ∀ {c : List (κ × AccessTrie)} {k : κ} {t : AccessTrie}, M.look c k = some t → (k, t) ∈ c
  | [], _, _, h => by simp [M.look_nil] at h
  | (k0, t0) :: rest, k, t, h => by
    rw [M.look_cons] at h
    by_cases e : (k0 == k) = true
    · simp only [e, if_true, Option.some.injEq] at h
      obtain rfl : k0 = k := by simpa using e
      subst h
      exact List.mem_cons_self
    · simp only [e, Bool.false_eq_true, if_false] at h
      exact List.mem_cons_of_mem _ (mem_of_look h)

theorem look_repl (k : κ) (t' : AccessTrie) (k' : κ) : ∀ c : List (κ × AccessTrie),
    M.look (M.repl k t' c) k' = if k == k' then (M.look c k).map (fun _ => t') else M.look c k'
  | [] => by simp [M.repl_nil, M.look_nil]
  | (k0, t0) :: rest => by
    rw [M.repl_cons]
    by_cases e : k0 = k
    · subst e
      simp only [beq_self_eq_true, if_true, M.look_cons]
      by_cases e2 : (k0 == k') = true <;> simp [e2]
    · have e' : (k0 == k) = false := by simpa using e
      simp only [e', Bool.false_eq_true, if_false, M.look_cons, look_repl k t' k' rest]
      by_cases e2 : k0 = k'
      · subst e2
        have : (k == k0) = false := by simpa using (fun h : k = k0 => e h.symm)
        simp [this]
      · have e2' : (k0 == k') = false := by simpa using e2
        simp [e2']

omit [LawfulBEq κ] in
theorem look_append_some (k' : κ) (t : AccessTrie) (x : κ × AccessTrie) : ∀ c : List (κ × AccessTrie),
    M.look c k' = some t → M.look (c ++ [x]) k' = some t
  | [] => fun h => by simp [M.look_nil] at h
  | (k0, t0) :: rest => fun h => by
    simp only [M.look_cons, List.cons_append] at h ⊢
    by_cases e : (k0 == k') = true
    · simpa [e] using h
    · simp only [e, Bool.false_eq_true, if_false] at h ⊢
      exact look_append_some k' t x rest h

theorem look_uni_left (R : AccessTrie → AccessTrie → Prop) : ∀ (c2 c : List (κ × AccessTrie)),
    (∀ k v, (k, v) ∈ c2 → ∀ t t0, R t0 t → R t0 (t.union v)) →
    ∀ k t2, M.look c k = some t2 → ∃ T, M.look (M.uni c c2) k = some T ∧ ∀ t0, R t0 t2 → R t0 T
  | [], c, _, k, t2, h => ⟨t2, by rw [M.uni_nil]; exact h, fun _ h0 => h0⟩
  | (k', v) :: rest, c, hR, k, t2, h => by
    have hrest : ∀ k v, (k, v) ∈ rest → ∀ t t0, R t0 t → R t0 (t.union v) :=
      fun k v hm => hR k v (List.mem_cons_of_mem _ hm)
    rw [M.uni_cons]
    cases hl : M.look c k' with
    | none => exact look_uni_left R rest _ hrest k t2 (M.look_append_some k t2 _ c h)
    | some t =>
      simp only
      by_cases e : k' = k
      · subst e
        rw [hl] at h
        cases h
        obtain ⟨T, h1, h2⟩ := look_uni_left R rest (M.repl k' (t2.union v) c) hrest k' (t2.union v)
          (by rw [M.look_repl]; simp [hl])
        exact ⟨T, h1, fun t0 h0 => h2 t0 (hR k' v List.mem_cons_self t2 t0 h0)⟩
      · have e' : (k' == k) = false := by simpa using e
        exact look_uni_left R rest (M.repl k' (t.union v) c) hrest k t2 (by rw [M.look_repl]; simp [e', h])

theorem mem_repl {k : κ} {t t' : AccessTrie} : ∀ {c : List (κ × AccessTrie)}, M.look c k = some t →
    (k, t') ∈ M.repl k t' c ∧ ∀ p, p ∈ c → p ∈ M.repl k t' c ∨ p = (k, t)
  | [], h => by simp [M.look_nil] at h
  | (k1, t1) :: rest, h => by
    rw [M.look_cons] at h
    rw [M.repl_cons]
    by_cases e : (k1 == k) = true
    · simp only [e, if_true, Option.some.injEq] at h
      obtain rfl : k1 = k := by simpa using e
      subst h
      simp only [beq_self_eq_true, if_true, List.mem_cons, true_or, true_and]
      rintro p (hp | hp)
      · exact Or.inr hp
      · exact Or.inl (Or.inr hp)
    · simp only [e, Bool.false_eq_true, if_false] at h ⊢
      obtain ⟨h1, h2⟩ := mem_repl (t' := t') h
      refine ⟨List.mem_cons_of_mem _ h1, fun p hp => ?_⟩
      rcases List.mem_cons.1 hp with rfl | hp
      · exact Or.inl List.mem_cons_self
      · exact (h2 p hp).imp (List.mem_cons_of_mem _) id

theorem mem_uni_ge (R : AccessTrie → AccessTrie → Prop) : ∀ (c2 c : List (κ × AccessTrie)),
    (∀ k v, (k, v) ∈ c2 → ∀ t t0, R t0 t ∨ R t0 v → R t0 (t.union v)) →
    ∀ k t2, (k, t2) ∈ c ∨ (k, t2) ∈ c2 → ∃ T, (k, T) ∈ M.uni c c2 ∧ ∀ t0, R t0 t2 → R t0 T
  | [], c, _, k, t2, h => by
    rcases h with h | h
    · exact ⟨t2, by rw [M.uni_nil]; exact h, fun _ h0 => h0⟩
    · cases h
  | (k', v) :: rest, c, hR, k, t2, h => by
    have hv := hR k' v List.mem_cons_self
    have hrest : ∀ k v, (k, v) ∈ rest → ∀ t t0, R t0 t ∨ R t0 v → R t0 (t.union v) :=
      fun k v hm => hR k v (List.mem_cons_of_mem _ hm)
    rw [M.uni_cons]
    cases hl : M.look c k' with
    | some t =>
      simp only
      obtain ⟨hnew, hold⟩ := M.mem_repl (t' := t.union v) hl
      -- the entry, or the union that took its place, is in the list the remaining entries are merged into
      have : ∃ t3, ((k, t3) ∈ M.repl k' (t.union v) c ∨ (k, t3) ∈ rest) ∧ ∀ t0, R t0 t2 → R t0 t3 := by
        rcases h with h | h
        · rcases hold _ h with h | h
          · exact ⟨t2, Or.inl h, fun _ h0 => h0⟩
          · cases h
            exact ⟨_, Or.inl hnew, fun t0 h0 => hv _ t0 (Or.inl h0)⟩
        · rcases List.mem_cons.1 h with h | h
          · cases h
            exact ⟨_, Or.inl hnew, fun t0 h0 => hv t t0 (Or.inr h0)⟩
          · exact ⟨t2, Or.inr h, fun _ h0 => h0⟩
      obtain ⟨t3, h1, h2⟩ := this
      obtain ⟨T, h3, h4⟩ := mem_uni_ge R rest _ hrest k t3 h1
      exact ⟨T, h3, fun t0 h0 => h4 t0 (h2 t0 h0)⟩
    | none =>
      simp only
      apply mem_uni_ge R rest _ hrest k t2
      rcases h with h | h
      · exact Or.inl (List.mem_append_left _ h)
      · rcases List.mem_cons.1 h with h | h
        · exact Or.inl (List.mem_append_right _ (by simp [h]))
        · exact Or.inr h

end TrieMap

/-- The analysis threads failures by hand (`match x with | .error e => .error e | .ok a => f a`); where such a step
succeeds, both parts did.  One statement per type of intermediate result (the model's `match` is compiled per type). -/
theorem ok_of_match_res {β : Type} {x : M Res} {f : Res → M β} {b : β}
    (h : (match x with | .error e => Except.error e | .ok a => f a) = .ok b) : ∃ a, x = .ok a ∧ f a = .ok b := by
  cases x with
  | error e => cases h
  | ok a => exact ⟨a, rfl, h⟩

theorem ok_of_match_ty {β : Type} {x : M CedarType} {f : CedarType → M β} {b : β}
    (h : (match x with | .error e => Except.error e | .ok a => f a) = .ok b) : ∃ a, x = .ok a ∧ f a = .ok b := by
  cases x with
  | error e => cases h
  | ok a => exact ⟨a, rfl, h⟩

theorem ok_of_match_roots {β : Type} {x : M RootAccessTrie} {f : RootAccessTrie → M β} {b : β}
    (h : (match x with | .error e => Except.error e | .ok a => f a) = .ok b) : ∃ a, x = .ok a ∧ f a = .ok b := by
  cases x with
  | error e => cases h
  | ok a => exact ⟨a, rfl, h⟩

theorem ok_of_match_paths {β : Type} {x : M WPaths} {f : WPaths → M β} {b : β}
    (h : (match x with | .error e => Except.error e | .ok a => f a) = .ok b) : ∃ a, x = .ok a ∧ f a = .ok b := by
  cases x with
  | error e => cases h
  | ok a => exact ⟨a, rfl, h⟩

theorem ok_of_match_record {β : Type} {x : M (RootAccessTrie × List (String × WPaths))}
    {f : RootAccessTrie → List (String × WPaths) → M β} {b : β}
    (h : (match x with | .error e => Except.error e | .ok (g, ps) => f g ps) = .ok b) :
    ∃ g ps, x = .ok (g, ps) ∧ f g ps = .ok b := by
  cases x with
  | error e => cases h
  | ok a => exact ⟨a.1, a.2, rfl, h⟩

/-- Between two entry-wise relations that find the partner of an entry in the same way (`F`), an implication is proved entry by entry. -/
theorem entries_imp {κ α : Type} {c : List (κ × α)} {F : κ → α → Prop} {R R' : α → α → Prop}
    (h : ∀ k t, (k, t) ∈ c → ∃ t2, F k t2 ∧ R t t2) (hR : ∀ k t, (k, t) ∈ c → ∀ t2, F k t2 → R t t2 → R' t t2) :
    ∀ k t, (k, t) ∈ c → ∃ t2, F k t2 ∧ R' t t2 := fun k t hm =>
  let ⟨t2, h1, h2⟩ := h k t hm
  ⟨t2, h1, hR k t hm t2 h1 h2⟩

/-- `uni c c2` is `c` after one replacement or one appended entry per entry of `c2`: what both steps keep, the union keeps. -/
theorem TrieMap.uni_induct {κ : Type} [BEq κ] (M : TrieMap κ) (I : List (κ × AccessTrie) → Prop) :
    ∀ (c2 c : List (κ × AccessTrie)),
    (∀ k v, (k, v) ∈ c2 → ∀ c, I c →
      (M.look c k = none → I (c ++ [(k, v)])) ∧ ∀ t, M.look c k = some t → I (M.repl k (t.union v) c)) →
    I c → I (M.uni c c2)
  | [], c, _, h => by rw [M.uni_nil]; exact h
  | (k, v) :: rest, c, hs, h => by
    have hrest := fun k v hm => hs k v (List.mem_cons_of_mem _ hm)
    obtain ⟨h0, h1⟩ := hs k v List.mem_cons_self c h
    rw [M.uni_cons]
    cases hl : M.look c k with
    | none => exact uni_induct M I rest _ hrest (h0 hl)
    | some t => exact uni_induct M I rest _ hrest (h1 t hl)

end Cedar.Manifest
