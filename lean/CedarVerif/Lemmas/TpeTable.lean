import CedarVerif.Cedar.Tpe
import CedarVerif.Lemmas.TableDecide
import CedarVerif.Lemmas.Auth
import CedarVerif.Lemmas.Assoc
/- C14: the decision table of `tpe::Response::new` over arbitrary residual-policy lists (the same five rows as
   `PartialResponse::decision`, `Cedar.Table.decide`), and the views of a response at the level of presented policies. -/
namespace Cedar.Tpe
open Cedar

/-- what a bucket promises about the final outcome of a policy on a completion -/
def Class.Consistent : Class → Outcome → Prop
  | .tt, o => o = .sat
  | .ff, o => o = .unsat
  | .err, o => o = .err
  | .res, _ => True

/-- the concrete authorizer's decision from final per-policy outcomes (C01 `allow_iff`, as a definition) -/
def decisionOf (rs : List ResidualPolicy) (out : ResidualPolicy → Outcome) : Decision :=
  if rs.any (fun p => p.effect == .permit && out p == .sat) && !rs.any (fun p => p.effect == .forbid && out p == .sat)
  then .allow else .deny

theorem any_sat {rs : List ResidualPolicy} {out : ResidualPolicy → Outcome} {eff : Effect} :
    rs.any (fun p => p.effect == eff && out p == .sat) = true ↔ ∃ rp, rp ∈ rs ∧ rp.effect = eff ∧ out rp = .sat := by
  simp only [List.any_eq_true, Bool.and_eq_true, beq_iff_eq]

theorem decisionOf_allow_iff {rs : List ResidualPolicy} {out : ResidualPolicy → Outcome} :
    decisionOf rs out = .allow ↔ (∃ rp, rp ∈ rs ∧ rp.effect = .permit ∧ out rp = .sat) ∧
      ¬ ∃ rp, rp ∈ rs ∧ rp.effect = .forbid ∧ out rp = .sat := by
  rw [← any_sat, ← any_sat]
  unfold decisionOf
  cases rs.any (fun p => p.effect == .permit && out p == .sat) <;>
    cases rs.any (fun p => p.effect == .forbid && out p == .sat) <;> simp

theorem flag_true {r : Response} {eff : Effect} {c : Class} :
    r.flag eff c = true ↔ ∃ rp, rp ∈ r.residuals ∧ rp.effect = eff ∧ rp.residual.cls = c := by
  simp [Response.flag, List.any_eq_true]

theorem flag_false {r : Response} {eff : Effect} {c : Class} :
    r.flag eff c = false ↔ ∀ rp, rp ∈ r.residuals → rp.effect = eff → rp.residual.cls ≠ c := by
  simp [Response.flag, List.any_eq_false]

theorem mem_bucket {r : Response} {eff : Effect} {c : Class} {rp : ResidualPolicy} :
    rp ∈ r.bucket eff c ↔ rp ∈ r.residuals ∧ rp.effect = eff ∧ rp.residual.cls = c := by
  simp [Response.bucket, List.mem_filter]

/-- **the table lemma** (DESIGN appendix C) for `tpe::Response`: a definite decision is the decision of every
    completion of the residual policies to final outcomes that respects the definite buckets -/
theorem table_sound_core (r : Response) (out : ResidualPolicy → Outcome)
    (hc : ∀ rp, rp ∈ r.residuals → rp.residual.cls.Consistent (out rp)) :
    ∀ d, r.decision = some d → decisionOf r.residuals out = d := by
  intro d hd
  -- a policy in a `true` bucket ends up satisfied
  have definite : ∀ eff, r.flag eff .tt = true → ∃ rp, rp ∈ r.residuals ∧ rp.effect = eff ∧ out rp = .sat := by
    intro eff h
    obtain ⟨rp, hm, he, hcl⟩ := flag_true.mp h
    have hs := hc rp hm
    rw [hcl] at hs
    exact ⟨rp, hm, he, hs⟩
  -- a policy that ends up satisfied sits in the `true` or in the `residual` bucket
  have flagged : ∀ eff, (∃ rp, rp ∈ r.residuals ∧ rp.effect = eff ∧ out rp = .sat) →
      r.flag eff .tt = true ∨ r.flag eff .res = true := by
    rintro eff ⟨rp, hm, he, hs⟩
    have h := hc rp hm
    rw [hs] at h
    cases hcl : rp.residual.cls <;> rw [hcl] at h
    · exact Or.inl (flag_true.mpr ⟨rp, hm, he, hcl⟩)
    · cases h
    · cases h
    · exact Or.inr (flag_true.mpr ⟨rp, hm, he, hcl⟩)
  exact Decision.eq_of_allow_iff (decisionOf_allow_iff.trans
    (Table.decide_sound hd (definite .forbid) (definite .permit) (flagged .permit) (flagged .forbid)).symm)

/-- no residual bucket ⇒ the table decides (`Response::new`: "guaranteed to arrive at a decision if all the residuals
    are not `Partial`") -/
theorem decides_of_no_residual (r : Response) (hp : r.flag .permit .res = false) (hf : r.flag .forbid .res = false) :
    ∃ d, r.decision = some d := by
  unfold Response.decision
  cases r.flag .forbid .tt <;> cases r.flag .permit .tt <;> simp [hp, hf, Table.decide]

/-- effect and id of a residual policy are those of its original (true of every response `Tpe.isAuthorized` builds) -/
def Response.WF (r : Response) : Prop := ∀ rp, rp ∈ r.residuals → rp.effect = rp.original.effect ∧ rp.id = rp.original.id

theorem PEntities.find?_eq_assoc (u : EntityUID) : ∀ es : PEntities, es.find? u = assoc? es u
  | [] => rfl
  | (u', d) :: rest => by rw [PEntities.find?, assoc?_cons, PEntities.find?_eq_assoc u rest]

theorem mapM?_cons_some {α β} {f : α → Option β} {x : α} {xs : List α} {ys : List β} (h : mapM? f (x :: xs) = some ys) :
    ∃ y ys', f x = some y ∧ mapM? f xs = some ys' ∧ ys = y :: ys' := by
  simp only [mapM?] at h
  cases hx : f x <;> cases hxs : mapM? f xs <;> simp only [hx, hxs, reduceCtorEq, Option.some.injEq] at h
  exact ⟨_, _, rfl, rfl, h.symm⟩

theorem mapM?_spec {α β} {f : α → Option β} {xs : List α} {ys : List β} (h : mapM? f xs = some ys) :
    ys.length = xs.length ∧ ∀ y, y ∈ ys → ∃ x, x ∈ xs ∧ f x = some y := by
  induction xs generalizing ys with
  | nil => cases h; exact ⟨rfl, fun _ hy => nomatch hy⟩
  | cons x xs ih =>
    obtain ⟨y, ys', hx, hxs, rfl⟩ := mapM?_cons_some h
    obtain ⟨h1, h2⟩ := ih hxs
    refine ⟨congrArg (· + 1) h1, fun y' hy => ?_⟩
    rcases List.mem_cons.mp hy with rfl | hy
    · exact ⟨x, List.mem_cons_self, hx⟩
    · obtain ⟨x', hx', hf⟩ := h2 y' hy
      exact ⟨x', List.mem_cons_of_mem _ hx', hf⟩

theorem mapM?_map {α β γ} {f : α → Option β} {g : β → γ} {g' : α → γ} (hg : ∀ x y, f x = some y → g y = g' x)
    {xs : List α} {ys : List β} (h : mapM? f xs = some ys) : ys.map g = xs.map g' := by
  induction xs generalizing ys with
  | nil => cases h; rfl
  | cons x xs ih =>
    obtain ⟨y, ys', hx, hxs, rfl⟩ := mapM?_cons_some h
    rw [List.map_cons, List.map_cons, hg x y hx, ih hxs]

theorem mapM?_some {α β : Type} {f : α → Option β} : ∀ (l : List α), (∀ x, x ∈ l → ∃ y, f x = some y) → ∃ ys, mapM? f l = some ys
  | [], _ => ⟨[], rfl⟩
  | x :: xs, h => by
    obtain ⟨y, hy⟩ := h x List.mem_cons_self
    obtain ⟨ys, hys⟩ := mapM?_some xs (fun z hz => h z (List.mem_cons_of_mem _ hz))
    exact ⟨y :: ys, by simp only [mapM?, hy, hys]⟩

theorem isAuthorized_some {req : PRequest} {es : PEntities} {tps : List TPolicy} {r : Response}
    (h : isAuthorized req es tps = some r) : mapM? (residualPolicyOf req es) tps = some r.residuals := by
  unfold isAuthorized at h
  cases hm : mapM? (residualPolicyOf req es) tps <;> rw [hm] at h <;> cases h
  rfl

theorem residualPolicyOf_some {req : PRequest} {es : PEntities} {tp : TPolicy} {rp : ResidualPolicy}
    (h : residualPolicyOf req es tp = some rp) : ∃ r0, Residual.ofExpr tp.typed = some r0 ∧
      rp = { id := tp.policy.id, effect := tp.policy.effect, residual := interpret req es r0, original := tp.policy } := by
  unfold residualPolicyOf at h
  cases ho : Residual.ofExpr tp.typed <;> rw [ho] at h <;> cases h
  exact ⟨_, rfl, rfl⟩

theorem isAuthorized_wf {req : PRequest} {es : PEntities} {tps : List TPolicy} {r : Response}
    (h : isAuthorized req es tps = some r) : r.WF := by
  intro rp hrp
  obtain ⟨tp, _, hf⟩ := (mapM?_spec (isAuthorized_some h)).2 rp hrp
  obtain ⟨_, _, rfl⟩ := residualPolicyOf_some hf
  exact ⟨rfl, rfl⟩

theorem isAuthorized_policySet {req : PRequest} {es : PEntities} {tps : List TPolicy} {r : Response}
    (h : isAuthorized req es tps = some r) : r.policySet = tps.map (·.policy) := by
  refine mapM?_map (fun tp rp hf => ?_) (isAuthorized_some h)
  obtain ⟨_, _, rfl⟩ := residualPolicyOf_some hf
  rfl

theorem concrete_decision_eq (r : Response) (hwf : r.WF) (req : Request) (es : Entities) :
    (Cedar.isAuthorized req es r.policySet).decision = decisionOf r.residuals (fun rp => rp.original.outcome req es) := by
  have key : ∀ eff, (∃ p, p ∈ r.policySet ∧ p.effect = eff ∧ Cedar.Sat req es p) ↔
      ∃ rp, rp ∈ r.residuals ∧ rp.effect = eff ∧ rp.original.outcome req es = .sat := by
    intro eff
    constructor
    · rintro ⟨p, hp, he, hs⟩
      obtain ⟨rp, hrp, rfl⟩ := List.mem_map.mp hp
      exact ⟨rp, hrp, (hwf rp hrp).1.trans he, hs⟩
    · rintro ⟨rp, hrp, he, hs⟩
      exact ⟨rp.original, List.mem_map.mpr ⟨rp, hrp, rfl⟩, (hwf rp hrp).1.symm.trans he, hs⟩
  apply Decision.eq_of_allow_iff
  rw [Cedar.isAuthorized_allow_iff, decisionOf_allow_iff, key, key]

/-- what `TpeResponse::policies()` presents -/
def Response.policiesView (r : Response) : List Policy := r.policies.map (·.toPolicy)
/-- what `TpeResponse::get_policy(id)` presents -/
def Response.getPolicyView (r : Response) (id : String) : Option Policy := (r.getPolicy id).map (·.toPolicy)
/-- what `TpeResponse::residual_policies()` presents -/
def Response.residualPoliciesView (r : Response) : List Policy := r.residualPolicies.map (·.toPolicy)

/-- ids of a response are unique (`PolicySet` ids are) -/
def Response.UniqueIds (r : Response) : Prop := (r.residuals.map (·.id)).Nodup

theorem find?_of_nodup {rs : List ResidualPolicy} (hn : (rs.map (·.id)).Nodup) {rp : ResidualPolicy} (h : rp ∈ rs) :
    rs.find? (fun x => x.id == rp.id) = some rp := by
  induction rs with
  | nil => cases h
  | cons a rs ih =>
    rw [List.map_cons, List.nodup_cons] at hn
    rcases List.mem_cons.mp h with rfl | h'
    · exact List.find?_cons_of_pos (beq_self_eq_true _)
    · have hne : (a.id == rp.id) = false :=
        beq_eq_false_iff_ne.mpr (fun heq => hn.1 (heq ▸ List.mem_map.mpr ⟨rp, h', rfl⟩))
      rw [List.find?_cons_of_neg (by rw [hne]; exact Bool.false_ne_true)]
      exact ih hn.2 h'

end Cedar.Tpe
