import CedarVerif.Lemmas.PartialSubstForm
/-
Substitution form: the arm equations of `Y = evaluate ∘ substUnk σ`, and the first-pass invariant `Sound2`, an instance of
`SoundG`, with the leaves (unknown nodes, request entries).
-/
namespace Cedar
namespace PS
open Tpe (bindR iteR andR orR likeV isV getAttrV hasAttrV)

theorem Agree.bind {a a' : Result Value} (h : Agree a a') {k k' : Value → Result Value} (hk : ∀ v, Agree (k v) (k' v)) :
    Agree (bindR a k) (bindR a' k') := by
  rcases h with ⟨v, rfl, rfl⟩ | ⟨c, c', rfl, rfl⟩
  · exact hk v
  · exact Or.inr ⟨c, c', rfl, rfl⟩

theorem Agree.iteV {t t' e e' : Result Value} (ht : Agree t t') (he : Agree e e') (v : Value) :
    Agree (iteV t e v) (iteV t' e' v) := by
  unfold Cedar.iteV
  cases v.asBool with
  | error c => exact Agree.refl _
  | ok b => cases b with
    | true => exact ht
    | false => exact he

theorem Agree.collect {yr yx : Expr → Result Value} {rs xs : List Expr} (h : ListRel (fun r x => Agree (yr r) (yx x)) rs xs)
    {k k' : List Value → Result Value} (hk : ∀ vs, Agree (k vs) (k' vs)) :
    Agree (listR (collectR yr rs) k) (listR (collectR yx xs) k') := by
  induction h generalizing k k' with
  | nil => exact hk []
  | cons hrx _ ih =>
    rw [collectR_cons, collectR_cons]
    exact hrx.bind fun v => ih fun vs => hk (v :: vs)

theorem substUnkKVs_fst (σ : Mapper) (kvs : List (String × Expr)) : (Expr.substUnkKVs σ kvs).map (·.1) = kvs.map (·.1) := by
  induction kvs with
  | nil => rfl
  | cons kv kvs ih => simp only [Expr.substUnkKVs, List.map_cons, ih]

theorem substUnkKVs_snd (σ : Mapper) (kvs : List (String × Expr)) :
    (Expr.substUnkKVs σ kvs).map (·.2) = Expr.substUnkList σ (kvs.map (·.2)) := by
  induction kvs with
  | nil => rfl
  | cons kv kvs ih => simp only [Expr.substUnkKVs, Expr.substUnkList, List.map_cons, ih]

/- `substUnk` commutes with every constructor but `unknown`, so `Y` has the arm equations of `evaluate`. -/
section
variable (σ : Mapper) (req : Request) (es : Entities) (env : SlotEnv)

theorem evaluateList_subst_eq_collectR (xs : List Expr) :
    evaluateList req es env (Expr.substUnkList σ xs) = collectR (Y σ req es env) xs := by
  induction xs with
  | nil => rfl
  | cons x xs ih =>
    rw [Expr.substUnkList, evaluateList, collectR, ← ih, Y]
    cases evaluate req es env (x.substUnk σ) <;>
      first | rfl | (cases evaluateList req es env (Expr.substUnkList σ xs) <;> rfl)

theorem Y_ite (c t e : Expr) :
    Y σ req es env (.ite c t e) = iteR (Y σ req es env c) (Y σ req es env t) (Y σ req es env e) := evaluate_ite ..

theorem Y_and (a b : Expr) : Y σ req es env (.and a b) = andR (Y σ req es env a) (Y σ req es env b) := evaluate_and ..

theorem Y_or (a b : Expr) : Y σ req es env (.or a b) = orR (Y σ req es env a) (Y σ req es env b) := evaluate_or ..

theorem Y_unary (op : UnaryOp) (a : Expr) : Y σ req es env (.unaryApp op a) = bindR (Y σ req es env a) (applyUnary op) :=
  evaluate_unary ..

theorem Y_binary (op : BinaryOp) (a b : Expr) : Y σ req es env (.binaryApp op a b) =
    bindR (Y σ req es env a) fun v1 => bindR (Y σ req es env b) (applyBinary es op v1) := evaluate_binary ..

theorem Y_getAttr (e : Expr) (attr : String) :
    Y σ req es env (.getAttr e attr) = bindR (Y σ req es env e) (getAttrV es attr) := evaluate_getAttr ..

theorem Y_hasAttr (e : Expr) (attr : String) :
    Y σ req es env (.hasAttr e attr) = bindR (Y σ req es env e) (hasAttrV es attr) := evaluate_hasAttr ..

theorem Y_like (e : Expr) (p : Pattern) : Y σ req es env (.like e p) = bindR (Y σ req es env e) (likeV p) := evaluate_like ..

theorem Y_is (e : Expr) (ty : EntityType) : Y σ req es env (.is e ty) = bindR (Y σ req es env e) (isV ty) := evaluate_is ..

theorem Y_set (xs : List Expr) : Y σ req es env (.set xs) =
    listR (collectR (Y σ req es env) xs) fun vs => .ok (.set (Value.mkSet vs)) := by
  simp only [Y, Expr.substUnk]; rw [evaluate_set, evaluateList_subst_eq_collectR]

theorem Y_call (fn : String) (xs : List Expr) : Y σ req es env (.call fn xs) =
    listR (collectR (Y σ req es env) xs) (callExt fn) := by
  simp only [Y, Expr.substUnk]; rw [evaluate_call, evaluateList_subst_eq_collectR]

theorem Y_record (kvs : List (String × Expr)) : Y σ req es env (.record kvs) =
    listR (collectR (Y σ req es env) (kvs.map (·.2))) fun vs =>
      .ok (.record (((kvs.map (·.1)).zip vs).foldl (fun acc kv => insertKV kv.1 kv.2 acc) [])) := by
  simp only [Y, Expr.substUnk]
  rw [evaluate_record_unzip, substUnkKVs_fst, substUnkKVs_snd, evaluateList_subst_eq_collectR]

end

section
variable (σ : Mapper) (req : Request) (es : Entities) (env : SlotEnv)

/-- what the first-pass outcome `x` of an expression whose concrete result (after substitution) is `y` must satisfy;
    a residual stays in the fragment, so that `get_attr` may re-interpret a component of it -/
def Sound2 (y : Result Value) (x : PRes) : Prop :=
  match x with
  | .val v => y = .ok v ∧ v.Canon
  | .err _ => ∃ c', y = .error c'
  | .res r => Agree (Y σ req es env r) y ∧ TypedOK r y ∧ Frag2 σ r
  | .fuel => True
  | .panic => True

variable {σ req es env}

theorem sound2_eq (y : Result Value) (x : PRes) : Sound2 σ req es env y x =
    SoundG Value.Canon (fun r y => Agree (Y σ req es env r) y ∧ TypedOK r y ∧ Frag2 σ r) y x := by cases x <;> rfl

theorem s2_val {y : Result Value} {v : Value} (h1 : y = .ok v) (h2 : v.Canon) : Sound2 σ req es env y (.val v) := ⟨h1, h2⟩
theorem s2_err {y : Result Value} {c : ErrClass} (c' : ErrClass) (h : y = .error c') : Sound2 σ req es env y (.err c) := ⟨c', h⟩
theorem s2_ofResult {y : Result Value} (h : ∀ w, y = .ok w → w.Canon) : Sound2 σ req es env y (PRes.ofResult y) := by
  rw [sound2_eq]; exact SoundG.ofResult h

theorem Sound2.bind' {y y' : Result Value} {x : PRes} (hx : Sound2 σ req es env y x) {f : Value → PRes} {g : Expr → PRes}
    (hv : ∀ v, y = .ok v → v.Canon → Sound2 σ req es env y' (f v))
    (he : ∀ c, y = .error c → ∃ c', y' = .error c')
    (hg : ∀ r, Sound2 σ req es env y (.res r) → Sound2 σ req es env y' (g r)) :
    Sound2 σ req es env y' (x.bind f g) := by
  simp only [sound2_eq] at *
  exact hx.bind' hv he hg

theorem Sound2.bind {y : Result Value} {x : PRes} (hx : Sound2 σ req es env y x)
    {f : Value → PRes} {g : Expr → PRes} {k : Value → Result Value}
    (hv : ∀ v, v.Canon → Sound2 σ req es env (k v) (f v))
    (hg : ∀ r, Sound2 σ req es env y (.res r) → Sound2 σ req es env (bindR y k) (g r)) :
    Sound2 σ req es env (bindR y k) (x.bind f g) := by
  simp only [sound2_eq] at *
  exact hx.bind hv hg

theorem Sound2.iteV {v : Value} {xt xe : PRes} {t e : Result Value} (ht : Sound2 σ req es env t xt)
    (he : Sound2 σ req es env e xe) :
    Sound2 σ req es env (iteV t e v) (PRes.iteV xt xe v) := by
  simp only [sound2_eq] at *
  exact SoundG.iteV ht he

theorem s2_boolV {w : Value} : Sound2 σ req es env (boolV w) (PRes.boolV w) := by
  rw [sound2_eq]; exact SoundG.boolV fun _ => trivial

variable (σ req es env) in
/-- an expression kept in a residual for the sub-expression `x`: it agrees with `x` and stays in the fragment -/
def Kept (r x : Expr) : Prop := Agree (Y σ req es env r) (Y σ req es env x) ∧ Frag2 σ r

theorem Sound2.bestEffort {b : Expr} (hfb : Frag2 σ b) {xb : PRes} (hs : Sound2 σ req es env (Y σ req es env b) xb)
    {y' : Result Value} {k : Expr → PRes} (hk : ∀ X, Kept σ req es env X b → Sound2 σ req es env y' (k X)) :
    Sound2 σ req es env y' (bestEffort xb b k) := by
  simp only [sound2_eq] at *
  exact hs.bestEffort (fun v hv hc => ⟨by rw [hv, Y_toExpr σ req es env hc]; simp, frag2_toExpr σ v hc⟩)
    (fun r hr => ⟨hr.1, hr.2.2⟩) (fun _ _ => ⟨Agree.refl _, hfb⟩) hk

theorem Sound2.ofCollect {go : Expr → PRes} {xs : List Expr}
    (h : ∀ x, x ∈ xs → Sound2 σ req es env (Y σ req es env x) (go x))
    {k : List Value → PRes} {g : List Expr → PRes} {k' : List Value → Result Value}
    (hk : ∀ vs, (∀ v, v ∈ vs → v.Canon) → Sound2 σ req es env (k' vs) (k vs))
    (hg : ∀ rs, ListRel (Kept σ req es env) rs xs →
      Sound2 σ req es env (listR (collectR (Y σ req es env) xs) k') (g rs)) :
    Sound2 σ req es env (listR (collectR (Y σ req es env) xs) k') (.ofCollect (collectPV go xs) k g) := by
  simp only [sound2_eq] at *
  exact SoundG.ofCollect (Kx := fun _ r y => Agree (Y σ req es env r) y ∧ TypedOK r y ∧ Frag2 σ r)
    (fun x v hv hd => ⟨by rw [hv, Y_toExpr σ req es env hd]; simp, frag2_toExpr σ v hd⟩) h
    (fun x r _ hr => ⟨hr.1, hr.2.2⟩) hk hg

theorem Kept.agree {rs xs : List Expr} (h : ListRel (Kept σ req es env) rs xs) :
    ListRel (fun r x => Agree (Y σ req es env r) (Y σ req es env x)) rs xs := h.imp_mem fun _ _ _ h => h.1

theorem Kept.frag {rs xs : List Expr} (h : ListRel (Kept σ req es env) rs xs) : ∀ r, r ∈ rs → Frag2 σ r := by
  intro r hr
  obtain ⟨x, _, hx⟩ := h.exists_right hr
  exact hx.2

theorem Sound2.substForm {e : Expr} {x : PRes} : Sound2 σ req es env (Y σ req es env e) x →
    match x with
    | .val v => evaluate req es env (v.toExpr.substUnk σ) = .ok v ∧ evaluate req es env (e.substUnk σ) = .ok v
    | .err _ => ∃ c, evaluate req es env (e.substUnk σ) = .error c
    | .res r => Agree (evaluate req es env (r.substUnk σ)) (evaluate req es env (e.substUnk σ))
    | .fuel => True
    | .panic => True := by
  intro h
  cases x with
  | val v => exact ⟨Y_toExpr σ req es env h.2, h.1⟩
  | err c => exact h
  | res r => exact h.1
  | fuel => trivial
  | panic => trivial

theorem proj_record {kvs : List (String × Expr)} (hf : Frag2 σ (.record kvs)) (hproj : (Expr.record kvs).isProjectable = true)
    {y : Result Value} (hag : Agree (Y σ req es env (.record kvs)) y) :
    ∃ R, y = .ok (.record R) ∧ ∀ a, match lookupKV kvs a with
      | none => lookupKV R a = none
      | some e' => ∃ v', Y σ req es env e' = .ok v' ∧ lookupKV R a = some v' := by
  obtain ⟨vR, hvR⟩ := proj_ok req es env (.record kvs) hf hproj
  obtain ⟨R, rfl⟩ := Y_record_is_record hvR
  rw [hvR] at hag
  cases hf with
  | record hnd _ =>
    refine ⟨R, ?_, record_lookup hnd hvR⟩
    cases y with
    | error c => simp at hag
    | ok w => simp at hag; rw [hag]

variable (σ req es env)

def PVRel2 (pv : PartialValue) (x : Expr) : Prop :=
  match pv with
  | .value v => Y σ req es env x = .ok v ∧ v.Canon
  | .residual r => Agree (Y σ req es env r) (Y σ req es env x) ∧ Frag2 σ r

def PVRelKV2 (pk : String × PartialValue) (xk : String × Expr) : Prop :=
  pk.1 = xk.1 ∧ PVRel2 σ req es env pk.2 xk.2

variable {σ req es env}

theorem pvrelKV2_keys {pkvs : List (String × PartialValue)} {kvs : List (String × Expr)}
    (h : ListRel (PVRelKV2 σ req es env) pkvs kvs) : pkvs.map Prod.fst = kvs.map Prod.fst := by
  induction h with
  | nil => rfl
  | @cons pk xk _ _ h1 _ ih => simp [h1.1, ih]

end

section
variable (σ : Mapper) (req : Request) (es : Entities) (env : SlotEnv)

theorem Y_slot (s : SlotId) : Y σ req es env (.slot s) = evaluate req es env (.slot s) := by simp only [Y, Expr.substUnk]
theorem typeOf_entity {v : Value} {t : EntityType} (h : v.typeOf = .entity t) :
    ∃ u, v = .prim (.entityUID u) ∧ u.ty = t := by
  cases v with
  | prim p =>
    cases p with
    | entityUID u => simp only [Value.typeOf, TyAnn.entity.injEq] at h; exact ⟨u, rfl, h⟩
    | bool b => simp [Value.typeOf] at h
    | int i => simp [Value.typeOf] at h
    | string s => simp [Value.typeOf] at h
  | set vs => simp [Value.typeOf] at h
  | record kvs => simp [Value.typeOf] at h
  | ext x => cases x <;> simp [Value.typeOf] at h

end

section
variable {σ : Mapper} {req : Request} {es : Entities} {env : SlotEnv}

/-- the side condition on typed unknowns (`TypedOK`) follows, since σ defines a typed unknown with an entity of that type -/
theorem s2_frag {y : Result Value} {r : Expr} (h1 : Agree (Y σ req es env r) y) (hf : Frag2 σ r) :
    Sound2 σ req es env y (.res r) := by
  refine ⟨h1, ?_, hf⟩
  intro name t hr
  subst hr
  cases hf with
  | unknown _ _ h =>
    obtain ⟨v, hl, hc, hty⟩ := h
    obtain ⟨u, rfl, hut⟩ := typeOf_entity (hty _ rfl)
    rw [Y_unknown σ req es env hl hc] at h1
    cases y with
    | ok w => exact ⟨u, by rw [(agree_ok_ok _ _).mp h1], hut⟩
    | error c => simp at h1

theorem s2_res_self {r : Expr} (hf : Frag2 σ r) : Sound2 σ req es env (Y σ req es env r) (.res r) :=
  s2_frag (Agree.refl _) hf

/-- `unknown_to_partialvalue` with a first-pass mapper that is part of σ -/
theorem sound2_unknownToPV {m0 : Mapper} (hm : MapLE m0 σ) {name : String} {ty : Option TyAnn} (h : UnkOK σ name ty) :
    Sound2 σ req es env (Y σ req es env (.unknown name ty)) (unknownToPV m0 name ty) := by
  simp only [unknownToPV]
  cases hl0 : lookupKV m0 name with
  | none => exact s2_res_self (.unknown _ _ h)
  | some w =>
    obtain ⟨v, hl, hc, hty⟩ := h
    obtain rfl : w = v := Option.some.inj ((hm name w hl0).symm.trans hl)
    rw [Y_unknown σ req es env hl hc]
    cases ty with
    | none => exact s2_val rfl hc
    | some t => simp only [hty t rfl, if_true]; exact s2_val rfl hc

/-- `EntityUIDEntry::evaluate` on an entry that σ concretises to `uid` -/
theorem sound2_entry {en : UidEntry} {key : String} {uid : EntityUID} (h : en.Conc σ key uid) :
    Sound2 σ req es env (.ok (.prim (.entityUID uid))) (en.eval key) := by
  cases en with
  | known u => cases h; exact s2_val rfl trivial
  | unknown ty =>
    cases ty with
    | none =>
      have := s2_res_self (req := req) (es := es) (env := env)
        (.unknown key none ⟨_, h, trivial, by intro t ht; cases ht⟩)
      rwa [Y_unknown σ req es env h trivial] at this
    | some t =>
      have := s2_res_self (req := req) (es := es) (env := env)
        (.unknown key (some (.entity t)) ⟨_, h.1, trivial, by intro t' ht; cases ht; simp [Value.typeOf, h.2]⟩)
      rwa [Y_unknown σ req es env h.1 trivial] at this

end

end PS
end Cedar
