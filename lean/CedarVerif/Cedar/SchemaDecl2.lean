import CedarVerif.Cedar.SchemaDecl
/-
C09, declaration level, part 2: the REMAINING DECLARATIONS of the Cedar schema syntax and whole fragments.

JSON side (json_schema.rs): `ActionEntityUID` (`ActRef`), `ApplySpec` (`ApplySpecJ`), `ActionType` (`ActionJ`, without
`attributes`), `EntityTypeKind` (`EntityKindJ`: standard | enum), `NamespaceDefinition` (`NamespaceJ`: the three maps as entry
lists in `BTreeMap` iteration order), `Fragment` (`FragmentJ`: the empty namespace — `BTreeMap` key `None`, iterated first — and
the named namespaces in iteration order).

Printer = cedar_schema/fmt.rs on tokens:
  `NamespaceDefinition::fmt_indented`  common types, then entity types, then actions; `type N = T;`, `entity N<body>;`,
                                       `action "N"<body>;` (action names are ALWAYS printed as string literals)
  `EntityType::fmt_indented`           ` enum ["a", "b"]`
  `ActionType::fmt_indented`           ` in [T::"id", …]` only for a non-empty `member_of` (a parent without type prints `Action::"id"`);
                                       ` appliesTo { principal: [..], resource: [..], context: T }` only when BOTH lists are
                                       non-empty (otherwise NOTHING is printed: the other list and the context are lost);
                                       the context is always printed (`{}` for the empty record)
  `Fragment::fmt`                      the empty namespace's declarations bare, `namespace N { … }` for the others

Parser = cedar_schema/grammar.lalrpop (`Schema`, `Namespace`, `Decl`, `Entity` (both forms), `Action`, `TypeDecl`, `AppDecls`,
`QualName`, `Names`, `Eids`) followed by to_json_schema.rs (`cedar_schema_to_json_schema`: the top-level declarations are merged
into ONE unqualified namespace; `convert_action_decl`: an absent `appliesTo` becomes the empty `ApplySpec`; `convert_app_decls`:
duplicate / empty / missing principal or resource lists are errors, `context: Path` is a must-be-common reference;
`convert_qual_name`; `CommonTypeId::new`: reserved common-type names; `convert_namespace`: `__cedar` in a namespace name).
The parser returns the declared entries in SOURCE ORDER (one entry per declared name); the `BTreeMap` collection of these entries
(sorting, duplicate-key errors of `build_namespace_bindings`) is modelled in `Cedar/SchemaCollect.lean`, annotations (`@…`) in
`Cedar/SchemaAnnot.lean`.
-/
namespace Cedar.SchemaSyntax

/-! ## JSON side -/

/-- `json_schema::ActionEntityUID`: `{"id": …, "type": …?}` -/
structure ActRef where
  ty : Option QName
  id : String
deriving DecidableEq, Repr

/-- `json_schema::ApplySpec` -/
structure ApplySpecJ where
  principals : List QName
  resources : List QName
  context : TyJson

/-- `json_schema::ActionType` (`attributes` is not modelled: the Cedar syntax cannot write it) -/
structure ActionJ where
  memberOf : Option (List ActRef)
  appliesTo : Option ApplySpecJ

/-- `json_schema::EntityTypeKind` -/
inductive EntityKindJ where
  | standard (e : EntityTypeJ)
  | enum (choices : List String)

/-- `json_schema::NamespaceDefinition`: entries in `BTreeMap` order -/
structure NamespaceJ where
  commons : List (String × TyJson)
  entities : List (String × EntityKindJ)
  actions : List (String × ActionJ)

/-- `json_schema::Fragment` -/
structure FragmentJ where
  empty : Option NamespaceJ
  named : List (QName × NamespaceJ)

/-! ## Cedar side (cedar_schema/ast.rs) -/

/-- `EntityDecl` -/
inductive EntDeclC where
  | standard (d : EntityDecl)
  | enum (names : List String) (choices : List String)

/-- `AppDecl` -/
inductive AppItem where
  | pr (isPrincipal : Bool) (tys : List QName)
  | ctxPath (p : QName)
  | ctxRec (attrs : AttrsC)

/-- `ActionDecl` -/
structure ActionDeclC where
  names : List String
  parents : Option (List ActRef)
  app : Option (List AppItem)

/-- `Declaration` -/
inductive DeclC where
  | ent (d : EntDeclC)
  | action (d : ActionDeclC)
  | common (name : String) (ty : TyCedar)

/-- a top-level item of `Schema`: a `namespace` block or a bare declaration (its own unqualified `Namespace`) -/
inductive ItemC where
  | ns (name : QName) (decls : List DeclC)
  | decl (d : DeclC)

/-! ## printer (fmt.rs) -/

/-- `choices.iter().map(|e| "\"…\"").join(", ")` -/
def printStrs : List String → List Tok
  | [] => []
  | [s] => [.str s]
  | s :: rest => .str s :: .comma :: printStrs rest

/-- `entity N enum ["a", "b"];` -/
def printEnumJ (name : String) (choices : List String) : List Tok :=
  .id "entity" :: .id name :: .id "enum" :: tLbrack :: (printStrs choices ++ [tRbrack, tSemi])

def actionTy : QName := ⟨[], "Action"⟩

/-- `impl Display for ActionEntityUID`: `T::"id"`, `Action::"id"` without a type -/
def printActRef (r : ActRef) : List Tok := printName (r.ty.getD actionTy) ++ [.dcolon, .str r.id]

def printActRefs : List ActRef → List Tok
  | [] => []
  | [r] => printActRef r
  | r :: rest => printActRef r ++ .comma :: printActRefs rest

/-- ` in [..]` only for `Some(non-empty)` -/
def printParentsPart : Option (List ActRef) → List Tok
  | some (p :: ps) => .id "in" :: tLbrack :: (printActRefs (p :: ps) ++ [tRbrack])
  | _ => []

/-- ` appliesTo {principal: [..], resource: [..], context: T}` only when both lists are non-empty -/
def printAppliesPart : Option ApplySpecJ → List Tok
  | some ⟨p :: ps, r :: rs, ctx⟩ =>
    .id "appliesTo" :: .lb :: .id "principal" :: .colon :: tLbrack :: (printNames (p :: ps) ++ tRbrack :: .comma ::
      .id "resource" :: .colon :: tLbrack :: (printNames (r :: rs) ++ tRbrack :: .comma ::
      .id "context" :: .colon :: (printTy ctx ++ [.rb])))
  | _ => []

/-- `action "N"<body>;` -/
def printActionJ (name : String) (a : ActionJ) : List Tok :=
  .id "action" :: .str name :: (printParentsPart a.memberOf ++ (printAppliesPart a.appliesTo ++ [tSemi]))

/-- `type N = T;` -/
def printCommonJ (name : String) (t : TyJson) : List Tok :=
  .id "type" :: .id name :: tEq :: (printTy t ++ [tSemi])

def printEntityKindJ (name : String) : EntityKindJ → List Tok
  | .standard e => printEntity (e.toDecl name)
  | .enum cs => printEnumJ name cs

def printCommonsJ : List (String × TyJson) → List Tok
  | [] => []
  | (n, t) :: rest => printCommonJ n t ++ printCommonsJ rest

def printEntitiesJ : List (String × EntityKindJ) → List Tok
  | [] => []
  | (n, e) :: rest => printEntityKindJ n e ++ printEntitiesJ rest

def printActionsJ : List (String × ActionJ) → List Tok
  | [] => []
  | (n, a) :: rest => printActionJ n a ++ printActionsJ rest

/-- `NamespaceDefinition::fmt_indented` -/
def printNsJ (d : NamespaceJ) : List Tok :=
  printCommonsJ d.commons ++ (printEntitiesJ d.entities ++ printActionsJ d.actions)

def printNamedJ : List (QName × NamespaceJ) → List Tok
  | [] => []
  | (q, d) :: rest => .id "namespace" :: (printName q ++ .lb :: (printNsJ d ++ .rb :: printNamedJ rest))

/-- `impl Display for Fragment` -/
def printFragmentJ (f : FragmentJ) : List Tok :=
  (match f.empty with | some d => printNsJ d | none => []) ++ printNamedJ f.named

/-! ## parser (grammar.lalrpop) -/

/-- `Eids ']'`: `STR {',' STR} ']'` (NonEmptyComma: no trailing comma) -/
def parseEidsTail : List Tok → Option (List String × List Tok)
  | .str s :: .comma :: r =>
    (match parseEidsTail r with
      | some (ss, r') => some (s :: ss, r')
      | none => none)
  | .str s :: .other "]" :: r => some ([s], r)
  | _ => none

/-- `Entity`, both productions -/
def parseEntityAny (fuel : Nat) (toks : List Tok) : Option (EntDeclC × List Tok) :=
  match toks with
  | .id "entity" :: r =>
    (match parseIdents r with
      | some (names, .id "enum" :: .other "[" :: r1) =>
        (match parseEidsTail r1 with
          | some (cs, .other ";" :: r2) => if names.contains "__cedar" then none else some (.enum names cs, r2)
          | _ => none)
      | _ =>
        (match parseEntity fuel toks with
          | some (d, r') => some (.standard d, r')
          | none => none))
  | _ => none

/-- `Names := Name {',' Name}` -/
def parseNames : List Tok → Option (List String × List Tok)
  | t :: .comma :: r =>
    (match parseAttrNameTok t with
      | some n =>
        (match parseNames r with
          | some (ns, r') => some (n :: ns, r')
          | none => none)
      | none => none)
  | t :: r =>
    (match parseAttrNameTok t with
      | some n => some ([n], r)
      | none => none)
  | [] => none

/-- after the first identifier of a qualified name: `{'::' IDENT} '::' STR` -/
def parseQualTail : List Tok → Option (List String × String × List Tok)
  | .dcolon :: .str e :: r => some ([], e, r)
  | .dcolon :: .id s :: r =>
    if validId s then
      (match parseQualTail r with
        | some (cs, e, r') => some (s :: cs, e, r')
        | none => none)
    else none
  | _ => none

/-- `QualName := Name | Path '::' STR` -/
def parseQualName : List Tok → Option (ActRef × List Tok)
  | .str s :: r => some (⟨none, s⟩, r)
  | .id s :: r =>
    if validId s then
      (match r with
        | .dcolon :: _ =>
          (match parseQualTail r with
            | some (cs, e, r') => some (⟨some (QName.ofComps s cs), e⟩, r')
            | none => none)
        | _ => some (⟨none, s⟩, r))
    else none
  | _ => none

/-- `QualName {',' QualName} ']'` -/
def parseQualNamesTail : Nat → List Tok → Option (List ActRef × List Tok)
  | 0, _ => none
  | fuel + 1, toks =>
    match parseQualName toks with
    | some (q, .comma :: r) =>
      (match parseQualNamesTail fuel r with
        | some (qs, r') => some (q :: qs, r')
        | none => none)
    | some (q, .other "]" :: r) => some ([q], r)
    | _ => none

/-- `['in' QualNameOrQualNames]` -/
def parseParentsPart (fuel : Nat) (r1 : List Tok) : Option (Option (List ActRef) × List Tok) :=
  match r1 with
  | .id "in" :: .other "[" :: r =>
    (match parseQualNamesTail fuel r with
      | some (qs, r') => some (some qs, r')
      | none => none)
  | .id "in" :: r =>
    (match parseQualName r with
      | some (q, r') => some (some [q], r')
      | none => none)
  | _ => some (none, r1)

/-- one `AppDecls` item -/
def parseAppItem (fuel : Nat) : List Tok → Option (AppItem × List Tok)
  | .id "principal" :: .colon :: r =>
    (match parseEntTypes fuel r with
      | some (ts, r') => some (.pr true ts, r')
      | none => none)
  | .id "resource" :: .colon :: r =>
    (match parseEntTypes fuel r with
      | some (ts, r') => some (.pr false ts, r')
      | none => none)
  | .id "context" :: .colon :: .lb :: r =>
    (match parseC fuel (.lb :: r) with
      | some (.record as, r') => some (.ctxRec as, r')
      | _ => none)
  | .id "context" :: .colon :: .id s :: r =>
    (match parsePath s r with
      | some (.ident q, r') => some (.ctxPath q, r')
      | _ => none)
  | _ => none

/-- `AppDecls '}'`: items separated by commas, optional trailing comma -/
def parseAppDecls : Nat → List Tok → Option (List AppItem × List Tok)
  | 0, _ => none
  | fuel + 1, toks =>
    match parseAppItem fuel toks with
    | some (it, .rb :: r) => some ([it], r)
    | some (it, .comma :: .rb :: r) => some ([it], r)
    | some (it, .comma :: r) =>
      (match parseAppDecls fuel r with
        | some (its, r') => some (it :: its, r')
        | none => none)
    | _ => none

/-- `['appliesTo' '{' AppDecls '}']` -/
def parseAppliesPart (fuel : Nat) (r2 : List Tok) : Option (Option (List AppItem) × List Tok) :=
  match r2 with
  | .id "appliesTo" :: .lb :: r =>
    (match parseAppDecls fuel r with
      | some (its, r') => some (some its, r')
      | none => none)
  | .id "appliesTo" :: _ => none
  | _ => some (none, r2)

/-- `Action := 'action' Names ['in' …] ['appliesTo' '{' AppDecls '}'] ['attributes' '{' '}'] ';'` -/
def parseAction (fuel : Nat) : List Tok → Option (ActionDeclC × List Tok)
  | .id "action" :: r =>
    match parseNames r with
    | none => none
    | some (names, r1) =>
      match parseParentsPart fuel r1 with
      | none => none
      | some (parents, r2) =>
        match parseAppliesPart fuel r2 with
        | none => none
        | some (app, r3) =>
          match r3 with
          | .id "attributes" :: .lb :: .rb :: .other ";" :: r5 => some ({ names, parents, app }, r5)
          | .other ";" :: r5 => some ({ names, parents, app }, r5)
          | _ => none
  | _ => none

/-- json_schema.rs `CommonTypeId::new`: `is_reserved_schema_keyword` -/
def reservedCommonNames : List String := ["Bool", "Boolean", "Entity", "Extension", "Long", "Record", "Set", "String"]

/-- `TypeDecl := 'type' Ident '=' Type ';'` (+ `UnreservedId`, `CommonTypeId::new`) -/
def parseCommon (fuel : Nat) : List Tok → Option ((String × TyCedar) × List Tok)
  | .id "type" :: .id n :: .other "=" :: r =>
    if validId n && n != "__cedar" && !reservedCommonNames.contains n then
      (match parseC fuel r with
        | some (t, .other ";" :: r') => some ((n, t), r')
        | _ => none)
    else none
  | _ => none

/-- `Decl := Entity | Action | TypeDecl` (the nesting fuel of the type parser is the number of tokens) -/
def parseDecl (toks : List Tok) : Option (DeclC × List Tok) :=
  let fuel := toks.length + 1
  match toks with
  | .id "entity" :: _ =>
    (match parseEntityAny fuel toks with
      | some (d, r) => some (.ent d, r)
      | none => none)
  | .id "action" :: _ =>
    (match parseAction fuel toks with
      | some (d, r) => some (.action d, r)
      | none => none)
  | .id "type" :: _ =>
    (match parseCommon fuel toks with
      | some ((n, t), r) => some (.common n t, r)
      | none => none)
  | _ => none

def isDeclStart : List Tok → Bool
  | .id "entity" :: _ => true
  | .id "action" :: _ => true
  | .id "type" :: _ => true
  | _ => false

/-- `Decl*` (fuel bounds the number of declarations) -/
def parseDeclList : Nat → List Tok → Option (List DeclC × List Tok)
  | 0, _ => none
  | fuel + 1, toks =>
    if isDeclStart toks then
      match parseDecl toks with
      | some (d, r) =>
        (match parseDeclList fuel r with
          | some (ds, r') => some (d :: ds, r')
          | none => none)
      | none => none
    else some ([], toks)

/-- `Schema := Namespace*`, `Namespace := 'namespace' Path '{' Decl* '}' | Decl` (fuel bounds the number of items) -/
def parseItems : Nat → List Tok → Option (List ItemC)
  | 0, _ => none
  | _ + 1, [] => some []
  | fuel + 1, .id "namespace" :: .id s :: r =>
    (match parsePath s r with
      | some (.ident q, .lb :: r1) =>
        (match parseDeclList fuel r1 with
          | some (ds, .rb :: r2) =>
            -- `convert_namespace`: `Name::try_from(internal_name)` refuses `__cedar`
            if q.isReserved then none
            else (match parseItems fuel r2 with
              | some its => some (.ns q ds :: its)
              | none => none)
          | _ => none)
      | _ => none)
  | fuel + 1, toks =>
    match parseDecl toks with
    | some (d, r) =>
      (match parseItems fuel r with
        | some its => some (.decl d :: its)
        | none => none)
    | none => none

/-! ## Cedar AST → JSON form (to_json_schema.rs) -/

/-- `convert_entity_decl`: one entry per declared name -/
def EntDeclC.toJsonKinds : EntDeclC → List (String × EntityKindJ)
  | .standard d => d.toJsonTypes.map fun (n, e) => (n, .standard e)
  | .enum names cs => names.map fun n => (n, .enum cs)

/-- accumulator of `convert_app_decls` -/
structure AppAcc where
  p : Option (List QName)
  r : Option (List QName)
  c : Option TyJson

/-- `convert_app_decls`: `none` = duplicate / empty / missing principal or resource list, duplicate context -/
def convertApp : List AppItem → AppAcc → Option ApplySpecJ
  | [], acc =>
    (match acc.r, acc.p with
      | some r, some p => some ⟨p, r, acc.c.getD (.record .nil)⟩
      | _, _ => none)
  | .pr true ts :: rest, acc =>
    (match acc.p, ts with
      | some _, _ => none
      | none, [] => none
      | none, t :: ts => convertApp rest { acc with p := some (t :: ts) })
  | .pr false ts :: rest, acc =>
    (match acc.r, ts with
      | some _, _ => none
      | none, [] => none
      | none, t :: ts => convertApp rest { acc with r := some (t :: ts) })
  | .ctxPath q :: rest, acc =>
    (match acc.c with
      | some _ => none
      | none => convertApp rest { acc with c := some (.commonRef q) })
  | .ctxRec as :: rest, acc =>
    (match acc.c with
      | some _ => none
      | none => convertApp rest { acc with c := some (.record (collectJ .nil as)) })

/-- `convert_action_decl`: one entry per declared name; an absent `appliesTo` is the empty `ApplySpec` -/
def ActionDeclC.toJsonActions (d : ActionDeclC) : Option (List (String × ActionJ)) :=
  let spec : Option ApplySpecJ := match d.app with
    | none => some ⟨[], [], .record .nil⟩
    | some its => convertApp its ⟨none, none, none⟩
  match spec with
  | none => none
  | some spec => some (d.names.map fun n => (n, { memberOf := d.parents, appliesTo := some spec }))

/-- `TryFrom<Annotated<Namespace>> for NamespaceDefinition`: partition the declarations, convert, keep source order -/
def convertDecls : List DeclC → Option NamespaceJ
  | [] => some ⟨[], [], []⟩
  | d :: rest =>
    match convertDecls rest with
    | none => none
    | some ns =>
      match d with
      | .common n t => some { ns with commons := (n, toJson t) :: ns.commons }
      | .ent e => some { ns with entities := e.toJsonKinds ++ ns.entities }
      | .action a =>
        (match a.toJsonActions with
          | some l => some { ns with actions := l ++ ns.actions }
          | none => none)

/-- `split_unqualified_namespace` + `convert_namespace`: the bare declarations (in order) and the named namespaces (in order) -/
def convertItems : List ItemC → Option (List DeclC × List (QName × NamespaceJ))
  | [] => some ([], [])
  | .decl d :: rest =>
    (match convertItems rest with
      | some (u, n) => some (d :: u, n)
      | none => none)
  | .ns q ds :: rest =>
    (match convertDecls ds, convertItems rest with
      | some d, some (u, n) => some (u, (q, d) :: n)
      | _, _ => none)

/-- `cedar_schema_to_json_schema`: the unqualified namespace exists iff there is a bare declaration -/
def toJsonFragment (items : List ItemC) : Option FragmentJ :=
  match convertItems items with
  | none => none
  | some ([], n) => some ⟨none, n⟩
  | some (d :: u, n) =>
    (match convertDecls (d :: u) with
      | some e => some ⟨some e, n⟩
      | none => none)

/-- Cedar tokens → JSON fragment -/
def parseFragment (toks : List Tok) : Option FragmentJ :=
  match parseItems (toks.length + 1) toks with
  | some items => toJsonFragment items
  | none => none

/-- one complete action declaration → its JSON entries -/
def parseActionDecl (toks : List Tok) : Option (List (String × ActionJ)) :=
  match parseAction (toks.length + 1) toks with
  | some (d, []) => d.toJsonActions
  | _ => none

/-- one complete entity declaration of either form → its JSON entries -/
def parseEntityAnyDecl (toks : List Tok) : Option (List (String × EntityKindJ)) :=
  match parseEntityAny (toks.length + 1) toks with
  | some (d, []) => some d.toJsonKinds
  | _ => none

/-- one complete common-type declaration -/
def parseCommonDecl (toks : List Tok) : Option (String × TyJson) :=
  match parseCommon (toks.length + 1) toks with
  | some ((n, t), []) => some (n, toJson t)
  | _ => none

end Cedar.SchemaSyntax
