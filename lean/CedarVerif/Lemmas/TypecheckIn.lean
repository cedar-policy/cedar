import CedarVerif.Lemmas.TypecheckBasic
import CedarVerif.Lemmas.TypecheckRules
import CedarVerif.Lemmas.SchemaTables
/-
C03: what the rules for `in` rest on: entity types that the schema does not relate by `descendants` are not related in a
conformant store (`inE_false`); the value of `in` on literal operands and the typechecker's special cases for action
literals (`actionIn_good`).
-/
namespace Cedar.C03

open Cedar

theorem conforms_action {s : Schema} {u : EntityUID} {d : EntityData} (hc : ConformsEntity s u d)
    (hact : isActionType u.ty = true) : ∃ a, s.action? u = some a ∧ (∀ x, x ∈ d.ancestors ↔ x ∈ a.ancestors) := by
  unfold ConformsEntity at hc
  rw [if_pos hact] at hc
  obtain ⟨a, ha, _, _, hanc⟩ := hc
  exact ⟨a, ha, hanc⟩

theorem conforms_entity_anc {s : Schema} {u : EntityUID} {d : EntityData} (hc : ConformsEntity s u d)
    (hact : ¬ isActionType u.ty = true) : ∀ x, x ∈ d.ancestors → x.ty ∈ s.allowedParentTypes u.ty := by
  unfold ConformsEntity at hc
  rw [if_neg hact] at hc
  obtain ⟨et, _, _, _, _, _, _, hanc, _⟩ := hc
  exact fun x hx => (hanc x hx).2

theorem inE_false {s : Schema} {es : Entities} {u1 u2 : EntityUID} (hWF : SchemaWF2 s) (hst : StoreConforms s es)
    (hm : mayBeDescendant s u1.ty u2.ty = false) : inE es u1 u2 = false := by
  unfold mayBeDescendant at hm
  simp only [Bool.or_eq_false_iff] at hm
  obtain ⟨⟨hdesc, hne⟩, hacts⟩ := hm
  have hne' : u1 ≠ u2 := by
    intro h; rw [h] at hne; simp at hne
  unfold inE
  simp only [Bool.or_eq_false_iff, beq_eq_false_iff_ne, ne_eq]
  refine ⟨hne', ?_⟩
  cases hf : es.find? u1 with
  | none => rfl
  | some d =>
    simp only
    cases hcon : d.ancestors.contains u2 with
    | false => rfl
    | true =>
      have hmem : u2 ∈ d.ancestors := by simpa using hcon
      have hc := hst _ _ hf
      -- an ancestor in a conformant store is one the schema allows: for an action, a member of the action hierarchy
      -- (`descendants` is its inverse); for any other entity, of a type whose `descendants` list the entity's type
      by_cases hact : isActionType u1.ty = true
      · obtain ⟨a, ha, hanc⟩ := conforms_action hc hact
        obtain ⟨b, hb, hdb⟩ := hWF.act_anc_desc _ _ ha _ ((hanc u2).mp hmem)
        have hmemb := action?_mem hb
        rw [List.any_eq_false] at hacts
        have := hacts _ hmemb
        simp only [beq_self_eq_true, Bool.true_and, Bool.not_eq_true] at this
        rw [List.any_eq_false] at this
        have := this _ hdb
        simp at this
      · have hp := conforms_entity_anc hc hact u2 hmem
        unfold Schema.allowedParentTypes at hp
        rw [List.mem_map] at hp
        obtain ⟨p, hp1, hp2⟩ := hp
        rw [List.mem_filter] at hp1
        have hent := hWF.ets_map p hp1.1
        rw [hp2] at hent
        rw [hent] at hdesc
        simp only at hdesc
        rw [hp1.2] at hdesc
        cases hdesc

theorem asEntityList_map (us : List EntityUID) : asEntityList (us.map (fun u => Value.prim (.entityUID u))) = .ok us := by
  induction us with
  | nil => rfl
  | cons u us ih => simp [asEntityList, Value.asEntity, ih, bind, Except.bind]

abbrev uidV (u : EntityUID) : Value := .prim (.entityUID u)

theorem mkSet_uids (rs : List EntityUID) (r : EntityUID) (h : r ∈ rs) : uidV r ∈ Value.mkSet (rs.map uidV) :=
  let ⟨_, hx, hb⟩ := mkSet_rep _ (uidV r) (List.mem_map_of_mem h)
  by rw [Value.beq_prim_eq hb] at hx; exact hx

theorem mkSet_uids_sub {rs : List EntityUID} {u : EntityUID} (h : uidV u ∈ Value.mkSet (rs.map uidV)) : u ∈ rs := by
  have := mem_mkSet h
  rw [List.mem_map] at this
  obtain ⟨u', hu', heq⟩ := this
  simp only [uidV, Value.prim.injEq, Prim.entityUID.injEq] at heq
  rw [← heq]; exact hu'

theorem uids_of_all : ∀ (vs : List Value), (∀ v, v ∈ vs → ∃ u, v = uidV u) → ∃ us : List EntityUID, vs = us.map uidV
  | [], _ => ⟨[], rfl⟩
  | v :: vs, h => by
    obtain ⟨u, rfl⟩ := h v List.mem_cons_self
    obtain ⟨us, rfl⟩ := uids_of_all vs (fun v' hv' => h v' (List.mem_cons_of_mem _ hv'))
    exact ⟨u :: us, rfl⟩

theorem asEuid_eval {s : Schema} {env : RequestEnv} {w : World} {a : Expr} {l : EntityUID} (henv : EnvMatches s env w.q)
    (h : asEuid env a = some l) : w.eval a = .ok (uidV l) := by
  unfold asEuid at h
  split at h
  · rename_i u hl
    cases h
    exact asLiteral_eval henv hl
  · cases h

theorem mapM_asEuid_eval {s : Schema} {env : RequestEnv} {w : World} (henv : EnvMatches s env w.q) :
    ∀ (es : List Expr) (rs : List EntityUID), es.mapM (asEuid env) = some rs →
      evaluateList w.q w.es w.sl es = .ok (rs.map uidV)
  | [], rs, h => by
    simp only [List.mapM_nil, pure, Option.some.injEq] at h
    subst h; rfl
  | e :: es, rs, h => by
    simp only [List.mapM_cons, bind, Option.bind] at h
    cases he : asEuid env e with
    | none => rw [he] at h; cases h
    | some u =>
      rw [he] at h; simp only at h
      cases hes : es.mapM (asEuid env) with
      | none => rw [hes] at h; cases h
      | some us =>
        rw [hes] at h
        simp only [pure, Option.some.injEq] at h
        subst h
        have h1 := asEuid_eval (w := w) henv he
        simp only [World.eval] at h1
        simp [evaluateList, h1, mapM_asEuid_eval henv es us hes]

theorem asEuids_eval {s : Schema} {env : RequestEnv} {w : World} {b : Expr} {rs : List EntityUID} (henv : EnvMatches s env w.q)
    (h : asEuids env b = some rs) :
    (∃ u, rs = [u] ∧ w.eval b = .ok (uidV u)) ∨ w.eval b = .ok (.set (Value.mkSet (rs.map uidV))) := by
  unfold asEuids at h
  split at h
  · rename_i u hu
    cases h
    exact Or.inl ⟨u, rfl, asEuid_eval henv hu⟩
  · split at h
    · rename_i es _
      exact Or.inr (by simp [evaluate, mapM_asEuid_eval (w := w) henv es rs h])
    · cases h

theorem actionIn_value {s : Schema} {env : RequestEnv} {w : World} {a b : Expr} {l : EntityUID} {rs : List EntityUID}
    (henv : EnvMatches s env w.q) (ha : asEuid env a = some l) (hb : asEuids env b = some rs) :
    ∃ p : Bool, w.eval (.binaryApp .mem a b) = .ok (.prim (.bool p)) ∧ (p = true ↔ ∃ r, r ∈ rs ∧ inE w.es l r = true) := by
  have hv1 := asEuid_eval (w := w) henv ha
  simp only [World.eval] at hv1
  rcases asEuids_eval (w := w) henv hb with ⟨u, rfl, hv2⟩ | hv2
  · simp only [World.eval] at hv2
    refine ⟨inE w.es l u, by simp [evaluate, hv1, hv2, applyBinary, Value.asEntity, bind, Except.bind], ?_⟩
    simp
  · simp only [World.eval] at hv2
    obtain ⟨us, hus⟩ := uids_of_all (Value.mkSet (rs.map uidV)) (fun v hv => by
      have := mem_mkSet hv
      rw [List.mem_map] at this
      obtain ⟨u, _, rfl⟩ := this
      exact ⟨u, rfl⟩)
    refine ⟨us.any (inE w.es l ·), ?_, ?_⟩
    · rw [hus] at hv2
      simp [evaluate, hv1, hv2, applyBinary, Value.asEntity, asEntityList_map, bind, Except.bind]
    · rw [List.any_eq_true]
      constructor
      · rintro ⟨r, hr, hin⟩
        refine ⟨r, mkSet_uids_sub ?_, hin⟩
        rw [hus]; exact List.mem_map.mpr ⟨r, hr, rfl⟩
      · rintro ⟨r, hr, hin⟩
        have := mkSet_uids rs r hr
        rw [hus, List.mem_map] at this
        obtain ⟨r', hr', heq⟩ := this
        simp only [uidV, Value.prim.injEq, Prim.entityUID.injEq] at heq
        subst heq
        exact ⟨r', hr', hin⟩

/-- the predicate of `type_of_action_in_actions` -/
def actPred (s : Schema) (l : EntityUID) (r : EntityUID) : Bool :=
  r == l || (match s.action? r with
    | some a => a.descendants.contains l
    | none => false)

theorem typeOfActionIn_eq (s : Schema) (l : EntityUID) (rs : List EntityUID) :
    typeOfActionIn s l rs =
      (if (rs.filter (fun u => isActionType u.ty)).isEmpty then .bool .ff
       else .bool (if (rs.filter (fun u => isActionType u.ty)).any (actPred s l) then .tt else .ff)) := rfl

theorem actionIn_complete {s : Schema} {es : Entities} {l r : EntityUID} (hWF : SchemaWF2 s) (hst : StoreConforms s es)
    (hact : isActionType l.ty = true) (hin : inE es l r = true) : isActionType r.ty = true ∧ actPred s l r = true := by
  unfold inE at hin
  simp only [Bool.or_eq_true, beq_iff_eq] at hin
  rcases hin with rfl | hin
  · exact ⟨hact, by simp [actPred]⟩
  · cases hf : es.find? l with
    | none => rw [hf] at hin; cases hin
    | some d =>
      rw [hf] at hin
      simp only [List.contains_eq_mem, decide_eq_true_eq] at hin
      obtain ⟨a, ha, hanc⟩ := conforms_action (hst _ _ hf) hact
      obtain ⟨b, hb, hdb⟩ := hWF.act_anc_desc _ _ ha _ ((hanc r).mp hin)
      refine ⟨hWF.act_type _ _ hb, ?_⟩
      simp [actPred, hb, hdb]

theorem actionIn_sound {s : Schema} {es : Entities} {l r : EntityUID} {al : ActionEntry} (hWF : SchemaWF2 s)
    (hst : StoreConforms s es) (hpres : ActionsPresent s es) (hl : s.action? l = some al)
    (hp : actPred s l r = true) : inE es l r = true := by
  unfold actPred at hp
  simp only [Bool.or_eq_true, beq_iff_eq] at hp
  rcases hp with rfl | hp
  · simp [inE]
  · cases hr : s.action? r with
    | none => rw [hr] at hp; cases hp
    | some b =>
      rw [hr] at hp
      simp only [List.contains_eq_mem, decide_eq_true_eq] at hp
      obtain ⟨al', hl', hanc⟩ := hWF.act_desc_anc _ _ hr _ hp
      obtain ⟨d, hd⟩ := hpres _ _ hl
      obtain ⟨a, ha, hiff⟩ := conforms_action (hst _ _ hd) (hWF.act_type _ _ hl)
      rw [hl'] at ha; cases ha
      have : r ∈ d.ancestors := (hiff r).mpr hanc
      simp [inE, hd, this]

theorem actionIn_good {s : Schema} {env : RequestEnv} {w : World} {a b : Expr} {l : EntityUID} {rs : List EntityUID}
    {al : ActionEntry} (hWF : SchemaWF2 s) (henv : EnvMatches s env w.q) (hst : StoreConforms s w.es)
    (hpres : ActionsPresent s w.es) (ha : asEuid env a = some l) (hb : asEuids env b = some rs)
    (hl : s.action? l = some al) : Good w (.binaryApp .mem a b) (typeOfActionIn s l rs) [] := by
  obtain ⟨p, hev, hiff⟩ := actionIn_value (w := w) henv ha hb
  have hact := hWF.act_type _ _ hl
  refine Good.value hev (inst_bool_iff.mpr ?_)
  rw [typeOfActionIn_eq]
  have hchar : p = true ↔ (rs.filter (fun u => isActionType u.ty)).any (actPred s l) = true := by
    rw [hiff, List.any_eq_true]
    constructor
    · rintro ⟨r, hr, hin⟩
      obtain ⟨h1, h2⟩ := actionIn_complete hWF hst hact hin
      exact ⟨r, List.mem_filter.mpr ⟨hr, h1⟩, h2⟩
    · rintro ⟨r, hr, hpred⟩
      exact ⟨r, (List.mem_filter.mp hr).1, actionIn_sound hWF hst hpres hl hpred⟩
  split
  · rename_i hempty
    have : p = false := by
      cases p with
      | false => rfl
      | true =>
        have := hchar.mp rfl
        rw [List.isEmpty_iff] at hempty
        rw [hempty] at this
        simp at this
    rw [this]; rfl
  · cases hany : (rs.filter (fun u => isActionType u.ty)).any (actPred s l) with
    | true => rw [hchar.mpr hany]; rfl
    | false =>
      have : p = false := by
        cases p with
        | false => rfl
        | true => rw [hchar.mp rfl] at hany; cases hany
      rw [this]; rfl

theorem asEuid_declared {m : ValidationMode} {s : Schema} {env : RequestEnv} {a : Expr} {l : EntityUID} {caps : Capabilities}
    {τ : CedarType} {c : Capabilities} (ha : asEuid env a = some l) (h : typeOf m s env a caps = .ok (τ, c))
    (hact : isActionType l.ty = true) : ∃ al, s.action? l = some al := by
  have key : euidLiteralType s l = some τ := by
    unfold asEuid at ha
    split at ha
    · rename_i u hlit
      cases ha
      unfold asLiteral at hlit
      split at hlit
      · cases hlit; exact (typeOf_lit_ok.mp h).1
      · cases hlit; exact (typeOf_var_ok.mp h).1
      · cases hlit
    · cases ha
  unfold euidLiteralType at key
  rw [if_pos hact] at key
  cases hl : s.action? l with
  | none => rw [hl] at key; cases key
  | some al => exact ⟨al, rfl⟩

end Cedar.C03
