import CedarVerif.Lemmas.TypecheckSound
/-
C03: soundness of the typechecker model in PERMISSIVE mode on the fragment `InFragmentP` — the fragment of
`soundM .permissive` (every construct, joins with a flat side) closed under the constructs that permissive mode types
with NON-FLAT joins: `if` with two arbitrary branch types (entity-type unions, record joins), set literals of arbitrary
element types (also `[]`), and `==`, `contains`, `containsAll`, `containsAny`, `isEmpty` over such operands.
The invariant is not `mono` (entity-type unions are not single-entity types) but: the static type is not `Never`, and `Good`.
-/
namespace Cedar.C03

open Cedar

/-- expressions whose permissive type obviously has distinct record keys: flat kinds, literals, `principal` `action`
`resource`, slots (needed of the `then` branch of a join and of the elements of a set literal, see `lub_inst`) -/
def ndBase (e : Expr) : Bool :=
  FlatExpr e || (match e with
    | .lit _ => true
    | .var .principal => true
    | .var .resource => true
    | .var .action => true
    | .slot _ => true
    | _ => false)

theorem flat_nd {τ : CedarType} (h : τ.flat = true) : ndTy τ = true := by
  cases τ <;> simp [CedarType.flat] at h <;> rfl

theorem ndBase_nd {s : Schema} {env : RequestEnv} {e : Expr} {caps : Capabilities} {τ : CedarType} {c : Capabilities}
    (hb : ndBase e = true) (d : HasType .permissive s env e caps τ c) : ndTy τ = true := by
  unfold ndBase at hb
  rw [Bool.or_eq_true] at hb
  rcases hb with hb | hb
  · exact flat_nd (d.flat hb)
  · cases d with
    | @lit p _ _ h =>
      cases p with
      | bool b => cases b <;> cases h <;> rfl
      | int _ => cases h; rfl
      | string _ => cases h; rfl
      | entityUID u => rw [euidLiteralType_some h]; rfl
    | @var v _ _ h =>
      cases v with
      | principal => cases h; rfl
      | resource => cases h; rfl
      | action => rw [euidLiteralType_some h]; rfl
      | context => cases hb
    | @slot x _ _ h => subst h; cases x <;> (simp only [slotType]; split <;> rfl)
    | _ => cases hb

theorem typeOfList_ndBase {s : Schema} {env : RequestEnv} {caps : Capabilities} {es : List Expr} {τs : List CedarType}
    (hb : es.all ndBase = true) (h : typeOfList .permissive s env es caps = .ok τs) : ∀ t, t ∈ τs → ndTy t = true :=
  typeOfList_all h (fun e he _ _ ht => ndBase_nd (List.all_eq_true.mp hb e he) (typeOf_hasType e _ _ _ ht))

mutual
def InFragmentP (env : RequestEnv) : Expr → Bool
  | .ite c t e => InFragmentM .permissive env (.ite c t e) ||
      (InFragmentP env c && InFragmentP env t && InFragmentP env e && ndBase t)
  | .unaryApp op a => InFragmentM .permissive env (.unaryApp op a) || ((op == .isEmpty || op == .not) && InFragmentP env a)
  | .binaryApp op a b => InFragmentM .permissive env (.binaryApp op a b) ||
      ((op == .eq || op == .contains || op == .containsAll || op == .containsAny) && InFragmentP env a && InFragmentP env b)
  | .set es => InFragmentM .permissive env (.set es) || (InFragmentPList env es && es.all ndBase)
  | .lit p => InFragmentM .permissive env (.lit p)
  | .var v => InFragmentM .permissive env (.var v)
  | .slot x => InFragmentM .permissive env (.slot x)
  | .unknown n t => InFragmentM .permissive env (.unknown n t)
  | .and a b => InFragmentM .permissive env (.and a b) || (InFragmentP env a && InFragmentP env b)
  | .or a b => InFragmentM .permissive env (.or a b) || (InFragmentP env a && InFragmentP env b)
  | .call f args => InFragmentM .permissive env (.call f args)
  | .getAttr e a => InFragmentM .permissive env (.getAttr e a)
  | .hasAttr e a => InFragmentM .permissive env (.hasAttr e a)
  | .like e p => InFragmentM .permissive env (.like e p)
  | .is e t => InFragmentM .permissive env (.is e t)
  | .record kvs => InFragmentM .permissive env (.record kvs)
def InFragmentPList (env : RequestEnv) : List Expr → Bool
  | [] => true
  | e :: es => InFragmentP env e && InFragmentPList env es
end

section
variable {s : Schema} {env : RequestEnv} {w : World} {caps : Capabilities} {τ : CedarType} {c : Capabilities}

theorem soundP_base (hWF : SchemaWF2 s) (henv : EnvMatches s env w.q) {e : Expr}
    (d : HasType .permissive s env e caps τ c) (hf : InFragmentM .permissive env e = true) :
    SoundAt (· ≠ .never) (Sem s env w) w e caps τ c :=
  (soundM (m := .permissive) hWF henv e hf caps τ c d.typeOf_eq).imp mono_ne_never id

theorem inFragmentPList_mem {es : List Expr} : InFragmentPList env es = true → ∀ x, x ∈ es → InFragmentP env x = true :=
  listAll_mem (fun _ _ => rfl)

/-- induction on the derivation; where the expression lies in `InFragmentM .permissive`, `soundM` answers for the node -/
theorem soundP_of (hWF : SchemaWF2 s) (henv : EnvMatches s env w.q) {e : Expr} (d : HasType .permissive s env e caps τ c) :
    InFragmentP env e = true → SoundAt (· ≠ .never) (Sem s env w) w e caps τ c := by
  induction d with
  | lit h => exact fun hf => soundP_base hWF henv (.lit h) (by simpa only [InFragmentP] using hf)
  | var h => exact fun hf => soundP_base hWF henv (.var h) (by simpa only [InFragmentP] using hf)
  | slot h => exact fun hf => soundP_base hWF henv (.slot h) (by simpa only [InFragmentP] using hf)
  | getAttr de hr => exact fun hf => soundP_base hWF henv (.getAttr de hr) (by simpa only [InFragmentP] using hf)
  | hasAttr de hr => exact fun hf => soundP_base hWF henv (.hasAttr de hr) (by simpa only [InFragmentP] using hf)
  | like de hse => exact fun hf => soundP_base hWF henv (.like de hse) (by simpa only [InFragmentP] using hf)
  | is de hr => exact fun hf => soundP_base hWF henv (.is de hr) (by simpa only [InFragmentP] using hf)
  | call hd hL hr => exact fun hf => soundP_base hWF henv (.call hd hL hr) (by simpa only [InFragmentP] using hf)
  | record hd hL => exact fun hf => soundP_base hWF henv (.record hd hL) (by simpa only [InFragmentP] using hf)
  | andFalse da iha =>
    intro hf
    simp only [InFragmentP, Bool.or_eq_true, Bool.and_eq_true] at hf
    rcases hf with hf | ⟨hfa, _⟩
    · exact soundP_base hWF henv (.andFalse da) hf
    · exact .andFalse (fun _ => nofun) (iha hfa)
  | and da hba hF db hbb iha ihb =>
    intro hf
    simp only [InFragmentP, Bool.or_eq_true, Bool.and_eq_true] at hf
    rcases hf with hf | ⟨hfa, hfb⟩
    · exact soundP_base hWF henv (.and da hba hF db hbb) hf
    · exact .and (fun _ => nofun) hba hbb (iha hfa) (ihb hfb)
  | orTrue da iha =>
    intro hf
    simp only [InFragmentP, Bool.or_eq_true, Bool.and_eq_true] at hf
    rcases hf with hf | ⟨hfa, _⟩
    · exact soundP_base hWF henv (.orTrue da) hf
    · exact .orTrue (fun _ => nofun) (iha hfa)
  | or da hba hT db hbb iha ihb =>
    intro hf
    simp only [InFragmentP, Bool.or_eq_true, Bool.and_eq_true] at hf
    rcases hf with hf | ⟨hfa, hfb⟩
    · exact soundP_base hWF henv (.or da hba hT db hbb) hf
    · exact .or (fun _ => nofun) hba hbb (iha hfa) (ihb hfb)
  | iteTrue dc dt ihc iht =>
    intro hf
    simp only [InFragmentP, Bool.or_eq_true, Bool.and_eq_true] at hf
    rcases hf with hf | ⟨⟨⟨hfc, hft⟩, _⟩, _⟩
    · exact soundP_base hWF henv (.iteTrue dc dt) hf
    · exact .iteTrue (ihc hfc) (iht hft)
  | iteFalse dc de ihc ihe =>
    intro hf
    simp only [InFragmentP, Bool.or_eq_true, Bool.and_eq_true] at hf
    rcases hf with hf | ⟨⟨⟨hfc, _⟩, hfe⟩, _⟩
    · exact soundP_base hWF henv (.iteFalse dc de) hf
    · exact .iteFalse (ihc hfc) (ihe hfe)
  | ite dc hbc hT hF dt de hl ihc iht ihe =>
    intro hf
    simp only [InFragmentP, Bool.or_eq_true, Bool.and_eq_true] at hf
    rcases hf with hf | ⟨⟨⟨hfc, hft⟩, hfe⟩, hndt⟩
    · exact soundP_base hWF henv (.ite dc hbc hT hF dt de hl) hf
    · -- the bound of two ARBITRARY branch types; the `then` type has distinct record keys because `t` is `ndBase`
      have st := iht hft
      have se := ihe hfe
      exact .ite hbc hl se.1 (lub_ne_never hl st.1 se.1) ((lub_inst hl).1 (Or.inr (ndBase_nd hndt dt)))
        (ihc hfc) st se
  | @unary op _ _ _ _ _ _ da hr iha =>
    intro hf
    simp only [InFragmentP, Bool.or_eq_true, Bool.and_eq_true, beq_iff_eq] at hf
    rcases hf with hf | ⟨hop, hfa⟩
    · exact soundP_base hWF henv (.unary da hr) hf
    · rcases hop with rfl | rfl
      · exact .isEmpty (fun _ => nofun) hr (iha hfa)
      · exact .not (fun _ => nofun) hr (iha hfa)
  | @binary op _ _ _ _ _ _ _ _ _ da db hr iha ihb =>
    intro hf
    simp only [InFragmentP, Bool.or_eq_true, Bool.and_eq_true, beq_iff_eq] at hf
    rcases hf with hf | ⟨⟨hop, hfa⟩, hfb⟩
    · exact soundP_base hWF henv (.binary da db hr) hf
    · rcases hop with ((rfl | rfl) | rfl) | rfl
      · exact .eq henv (fun _ => nofun) hr (iha hfa) (ihb hfb)
      · exact .contains (fun _ => nofun) hr (iha hfa) (ihb hfb)
      · exact .containsAll (fun _ => nofun) hr (iha hfa) (ihb hfb)
      · exact .containsAny (fun _ => nofun) hr (iha hfa) (ihb hfb)
  | set hd hL hne hlub ih =>
    intro hf
    simp only [InFragmentP, Bool.or_eq_true, Bool.and_eq_true] at hf
    rcases hf with hf | ⟨hfl, hnd⟩
    · exact soundP_base hWF henv (.set hd hL hne hlub) hf
    · exact .set nofun (fun hl => set_good_of_bound hl (lubAll_perm_spec hlub (typeOfList_ndBase hnd hL)).1)
        (SoundAt.list hL fun x hx τx cx h => ih x hx τx cx h (inFragmentPList_mem hfl x hx))

end

theorem soundP {s : Schema} {env : RequestEnv} {w : World} (hWF : SchemaWF2 s) (henv : EnvMatches s env w.q) :
    ∀ (e : Expr), InFragmentP env e = true → ∀ (caps : Capabilities) (τ : CedarType) (c' : Capabilities),
      typeOf .permissive s env e caps = .ok (τ, c') → SoundAt (· ≠ .never) (Sem s env w) w e caps τ c' :=
  fun e hf caps τ c' h => soundP_of hWF henv (typeOf_hasType e caps τ c' h) hf

theorem soundPList {s : Schema} {env : RequestEnv} {w : World} (hWF : SchemaWF2 s) (henv : EnvMatches s env w.q) :
    ∀ (es : List Expr), InFragmentPList env es = true → ∀ (caps : Capabilities) (τs : List CedarType),
      typeOfList .permissive s env es caps = .ok τs → Sem s env w → CapsHold w caps → ListGood w es τs :=
  fun es hf caps τs h =>
    (SoundAt.list h fun x hx τx cx hx' => soundP hWF henv x (inFragmentPList_mem hf x hx) caps τx cx hx').2

end Cedar.C03
