import CedarVerif.Lemmas.Like
import CedarVerif.Lemmas.NoPanicDatetime
import CedarVerif.Lemmas.NoPanicEvaluator
import CedarVerif.Lemmas.NoPanicPartialResponse
import CedarVerif.Lemmas.NoPanicUnescape
import CedarVerif.Lemmas.NoPanicRemoveEmptyLines
import CedarVerif.Lemmas.NoPanicExtArgCheck
import CedarVerif.Lemmas.NoPanicEstDisplay
import CedarVerif.Thm.C08
/-
C20 — No panics on arbitrary input (mirrored components).

Each mirror keeps the Rust panic site (`[]` indexing, `unwrap`, `expect`, slice on a char boundary) as an explicit
outcome; the theorems say that outcome is unreachable for ALL inputs (or for all states satisfying the named data-structure
invariant). Scope: the mirrored components only — every other entry point is covered by the malformed-input stream of the
harness ("no panic on the explored inputs": evidence = counts, not theorems).

Mirrored sites and what is proved:
 (a) `Pattern::wildcard_match` `pattern[j]`/`text[i]`                       unreachable, all inputs      no_panic_wildcard
 (b) `contains_at_least_two` `s.get(..).unwrap()`                           unreachable, all inputs      no_panic_contains_at_least_two
 (c) `parse_datetime` 9 `parse().unwrap()`, 3 slices, TimeDelta, chrono +   unreachable, all inputs      no_panic_datetime_captures
 (d) `FromIterator<Value> for Set` `unreachable!()`                         unreachable, all inputs      no_panic_set_from_iter
 (e) evaluator `Record` arm `Expr::record(..).expect(..)` (2 copies)        unreachable when the keys of the record
     expression are pairwise distinct (the `BTreeMap` invariant)                                        no_panic_record_residual(_of_expr)
 (f) evaluator `binary_relation`/`binary_arith`/`GetTag|HasTag` `unreachable!` unreachable from the evaluator's dispatch, all
     operators and values; REACHABLE by calling the two public helpers directly with another operator
                                                                     no_panic_binary_dispatch, binary_{relation,arith}_panics_iff
 (g) `PartialResponse` accessors -> `Policy::new` `expect` (debug builds)   REACHABLE (known finding C13-residual-slot-panic);
     unreachable iff no residual (for `may_be_determining`: none of those it visits) keeps a template slot; `definitely_satisfied`/`must_be_determining` never
                                            no_panic_partial_response, partial_response_panics_iff, partial_response_panic_reachable
 (j) formatter `remove_empty_lines`: `find_at`, `&text[index..m.start()]`, `m.as_str()`, `&text[index..]`, loop termination
     unreachable for all texts and ALL regex oracles satisfying the regex-crate contract (match at/after `index`, ordered,
     ends on char boundaries); terminates (fuel `len+1`) if moreover no match is empty; both hypotheses are necessary
                                                                     no_panic_remove_empty_lines, remove_empty_lines_terminates
 (k) validator `typecheck_extension` (`let … else panic!`, `zip_longest` `last().unwrap()` / `unreachable!`) and the four
     `validate_{ip,decimal,datetime,duration}_string` checks it calls whatever the argument count
     unreachable for every argument count, given: a variadic function type has ≥ 1 argument type; the `exprs[0]` form of
     the checks panics exactly on `[]`                no_panic_ext_argument_checks, no_panic_typecheck_extension, ext_argument_check_index_panics_iff
 (l) EST `display_cedarvaluejson`: `&args[0]`, `&args[1..]`, `v.len() - 1`, `r.len() - 1`   unreachable, all values (after /repo
     commit f169b51; the control flow before it reaches `&args[0]` on `[]`)    no_panic_display_cedarvaluejson, display_cedarvaluejson_prefix_panics
 (h) `ast::PolicySet` `panic!` sites of `unlink`/`remove_template`, `unwrap` in `merge_policyset`: proved in C08, cited here
                                                                     no_panic_policyset_op, no_panic_policyset_history, no_panic_policyset_merge
 (i) `Unescape::unescape` range arithmetic (rustc_literal_escaper 0.0.8), `to_pattern` `&bytes[range]`, `Display for
     UnescapeError` `&self.input[self.range]`                               unreachable, all inputs      no_panic_unescape_slices
-/
namespace Cedar.C20
open Cedar

/-! ### (a) `Pattern::wildcard_match` (cedar-policy-core/src/ast/pattern.rs)

`wmIdx` mirrors the loop over `Vec<char>` / `&[PatternElem]` with the indices `i j star_idx tmp_idx` and the flag
`contains_star`; `pattern[j]` and `text[i]` are `Array.get?` with `none ↦ .panic site`; `pattern_len - 1` is only
evaluated after the `pattern.is_empty()` early return. Fuel `(|text|+1)(|pattern|+1)+1`. -/

/-- neither indexing site can panic, and the fuel of the mirror is never exhausted -/
theorem no_panic_wildcard (pat : Pattern) (text : List Char) :
    (∀ site, wmIdx pat text ≠ .panic site) ∧ wmIdx pat text ≠ .fuel := by
  rw [wmIdx_eq_M']
  exact ⟨fun _ h => IdxOutcome.noConfusion h, fun h => IdxOutcome.noConfusion h⟩

/-- the index form computes the declarative matcher `M` (C02 proves `M` is the specification of `like`) -/
theorem wmIdx_eq_M (pat : Pattern) (text : List Char) : wmIdx pat text = .result (M pat text) :=
  wmIdx_eq_M' pat text

/-- the subtraction `pattern_len - 1` in the loop condition is only reached with a non-empty pattern (no usize underflow) -/
theorem wildcard_len_sub_guarded (text : List Char) : wmIdx [] text = .result text.isEmpty := by
  simp [wmIdx]

/-! non-vacuity: inputs sitting exactly on the guarded boundaries -/
-- empty pattern (early return), empty text (loop never entered, only the trailing-`*` skip runs)
example : wmIdx [] [] = .result true := by decide +kernel
example : wmIdx [] ['a'] = .result false := by decide +kernel
example : wmIdx [.star] [] = .result true := by decide +kernel
example : wmIdx [.char 'a'] [] = .result false := by decide +kernel
-- trailing `*`: `star_idx == pattern_len - 1` stops the loop with `i < text_len`
example : wmIdx [.char 'a', .star] ['a', 'b', 'c'] = .result true := by decide +kernel
-- `j` reaches `pattern_len` inside the loop (the `j < pattern_len &&` guards are what protects `pattern[j]`)
example : wmIdx [.star, .char 'a'] ['a', 'b'] = .result false := by decide +kernel
example : wmIdx [.char 'a'] ['a', 'b'] = .result false := by decide +kernel
-- backtracking moves `i` to `tmp_idx + 1 = text_len` (the `i < text_len` guard is what protects `text[i]`)
example : wmIdx [.star, .char 'a', .char 'b'] ['a', 'a'] = .result false := by decide +kernel
example : wmIdx [.star, .char 'b', .star, .char 'c'] ['a', 'b', 'b', 'c'] = .result true := by decide +kernel

/-! ### (b) `contains_at_least_two` (cedar-policy-core/src/extensions/ipaddr.rs)

Byte-level model of `&str` (`Cedar/NoPanic/Utf8.lean`): `find` returns a byte offset, `sliceFrom s n` is `s.get(n..)`
(`none` iff `n` is out of bounds or inside a char). The Rust comment argues the two preconditions informally and
checks them with kani for strings of at most 6 bytes; here: all strings, all chars. -/
open Cedar.NoPanic in
/-- `s.get(i + c.len_utf8()..)` is always `Some`: the `unwrap` cannot panic -/
theorem no_panic_contains_at_least_two (s : List Char) (c : Char) :
    ∀ site, containsAtLeastTwo s c ≠ .panic site := by
  intro site
  unfold containsAtLeastTwo
  cases hf : find c s with
  | none => exact fun h => BoolOutcome.noConfusion h
  | some i =>
    obtain ⟨p, r, _, _, hsl⟩ := slice_after_find s c i hf
    simp only [hsl]
    exact fun h => BoolOutcome.noConfusion h

open Cedar.NoPanic in
/-- and the function computes what its name says: at least two occurrences -/
theorem contains_at_least_two_spec (s : List Char) (c : Char) :
    containsAtLeastTwo s c = .result (decide (2 ≤ s.count c)) := by
  unfold containsAtLeastTwo
  cases hf : find c s with
  | none =>
    have h := find_isSome_count c s
    rw [hf] at h
    have : ¬ 0 < s.count c := of_decide_eq_false h.symm
    exact congrArg _ (decide_eq_false (by omega)).symm
  | some i =>
    obtain ⟨p, r, hs, hp, hsl⟩ := slice_after_find s c i hf
    simp only [hsl]
    rw [find_isSome_count, hs, List.count_append, List.count_cons_self, List.count_eq_zero_of_not_mem hp]
    exact congrArg _ (decide_eq_decide.mpr (by omega))

-- non-vacuity: the occurrence is the last char (slice = empty string, offset = s.len()), multi-byte chars, no occurrence
open Cedar.NoPanic in
example : containsAtLeastTwo ['a', ':'] ':' = .result false := by decide +kernel
open Cedar.NoPanic in
example : containsAtLeastTwo ['é', '😀', 'é'] 'é' = .result true := by decide +kernel
open Cedar.NoPanic in
example : containsAtLeastTwo ['😀'] '😀' = .result false := by decide +kernel
open Cedar.NoPanic in
example : containsAtLeastTwo [] ':' = .result false := by decide +kernel
-- the slice really can fail on other offsets: offset 1 is inside `é`
open Cedar.NoPanic in
example : sliceFrom ['é', 'a'] 1 = none := by decide +kernel
open Cedar.NoPanic in
example : sliceFrom ['é', 'a'] 4 = none := by decide +kernel

/-! ### (c) `parse_datetime` (cedar-policy-core/src/extensions/datetime.rs)

Mirror `NoPanic.parseDatetime` (`Cedar/NoPanic/Datetime.lean`): the regex captures are recognisers returning the capture
strings; every `x.parse().unwrap()` (9 sites), the slices `&s[date_str.len()..]`, `&s[hms_str.len()..]`, `hms_str[1..]`,
the u32 arithmetic in `UTCOffset::to_seconds`, `TimeDelta::new(-offset_in_secs, 0).unwrap()` and the chrono
`NaiveDateTime + TimeDelta` overflow panic are explicit `.panic site` outcomes. (`parse_duration` uses `.ok()`/`?` on its
captures and checked arithmetic throughout: it has no panic site; its value semantics is C07's subject.) -/

open Cedar.NoPanic in
/-- a capture of 1..9 ASCII digits (the patterns use `{2}`, `{3}`, `{4}`) always parses into `u32` -/
theorem capture_parses_u32 (ds : List Char) (hd : ∀ c ∈ ds, Cedar.Ext.isDigit c = true) (h0 : 0 < ds.length) (h9 : ds.length ≤ 9) :
    parseU32 ds = some (Cedar.Ext.natOfDigits ds) :=
  (parseU32_digits ds (List.all_eq_true.mpr hd) h0 h9).1

open Cedar.NoPanic in
/-- `&s[prefix.len()..]` for a matched prefix is in bounds and on a char boundary (whatever follows, ASCII or not) -/
theorem slice_after_prefix (pre rest : List Char) : sliceFrom (pre ++ rest) (bytes pre) = some rest :=
  sliceFrom_prefix pre rest

open Cedar.NoPanic in
/-- for a valid offset (`hh < 24`, `mm < 60`) neither the u32 arithmetic nor `TimeDelta::new(..).unwrap()` can fail -/
theorem offset_timedelta_in_range (positive : Bool) (hh mm : Nat) (h1 : hh < 24) (h2 : mm < 60) (k : Int → DtOutcome)
    (hk : ∀ delta, Safe (k delta)) : Safe (offsetDelta positive hh mm k) :=
  offsetDelta_safe positive hh mm h1 h2 k (fun d _ _ => hk d)

open Cedar.NoPanic in
/-- no input string reaches any of the panic sites of `parse_datetime` -/
theorem no_panic_datetime_captures (s : List Char) : ∀ site, parseDatetime s ≠ .panic site :=
  parseDatetime_safe s

-- non-vacuity: every stage is reached; boundary values of each guard
open Cedar.NoPanic in
example : parseDatetime "9999-12-31T23:59:59.999-2359".toList = .ok 253402387139999 := by
  rw [String.toList_ofList]
  decide +kernel
open Cedar.NoPanic in
example : parseDatetime "0000-01-01T00:00:00+2359".toList = .ok (-62167305540000) := by
  rw [String.toList_ofList]
  decide +kernel
open Cedar.NoPanic in
example : parseDatetime "2024-02-29".toList = .ok 1709164800000 := by
  rw [String.toList_ofList]
  decide +kernel
open Cedar.NoPanic in
example : parseDatetime "2024-01-01T24:00:00Z".toList = .err "InvalidHMS" := by
  rw [String.toList_ofList]
  decide +kernel
open Cedar.NoPanic in
example : parseDatetime "2024-01-01T00:00:00+2400".toList = .err "InvalidOffset" := by
  rw [String.toList_ofList]
  decide +kernel
-- a multi-byte char right after the matched prefix: the slice offset is still a boundary
open Cedar.NoPanic in
example : parseDatetime "2024-01-01é".toList = .err "InvalidHMSPattern" := by
  rw [String.toList_ofList]
  decide +kernel
open Cedar.NoPanic in
example : parseDatetime "2024-01-01T00:00:00😀".toList = .err "InvalidMSOffsetPattern" := by
  rw [String.toList_ofList]
  decide +kernel
-- the unwrap really is a site: a non-digit or an overlong digit string does not parse into u32
open Cedar.NoPanic in
example : parseU32 "4294967296".toList = none := by
  rw [String.toList_ofList]
  decide +kernel
open Cedar.NoPanic in
example : parseU32 "4294967295".toList = some 4294967295 := by
  rw [String.toList_ofList]
  decide +kernel
open Cedar.NoPanic in
example : parseU32 [] = none := by decide +kernel

/-! ### (d) `impl FromIterator<Value> for Set` (cedar-policy-core/src/ast/value.rs)

Mirror `NoPanic.setFromIter` (`Cedar/NoPanic/Collections.lean`): partition into `literals`/`non_literals`, and when
`non_literals` is empty map every element of `literals` through `Lit(lit) => lit, _ => unreachable!()`. -/

open Cedar.NoPanic in
/-- the `unreachable!()` arm is never taken: every element of `literals` passed the partition predicate -/
theorem no_panic_set_from_iter (vs : List Value) : ∀ site, setFromIter vs ≠ .panic site := by
  intro site h
  obtain ⟨s, hs⟩ := setFromIter_built vs
  rw [hs] at h
  cases h

open Cedar.NoPanic in
/-- and the set that is built satisfies the type's `FastRepr` invariant; `fast` is populated iff every element is a literal -/
theorem set_from_iter_fast_repr (vs : List Value) (s : SetRepr) (h : setFromIter vs = .built s) :
    s.FastRepr ∧ s.fast.isSome = vs.all NoPanic.isLit :=
  ⟨setFromIter_fastRepr vs s h, setFromIter_fast_iff vs s h⟩

-- non-vacuity: both branches; the closure really has a failing arm when applied to a non-literal
open Cedar.NoPanic in
example : (match setFromIter [.prim (.int 1), .prim (.int 1), .prim (.bool true)] with
    | .built s => s.fast == some [.int 1, .bool true] | _ => false) = true := by decide +kernel
open Cedar.NoPanic in
example : (match setFromIter [.prim (.int 1), .set [], .prim (.int 2)] with
    | .built s => s.fast.isNone && s.authoritative.length == 3 | _ => false) = true := by decide +kernel
open Cedar.NoPanic in
example : (match setFromIter [] with | .built s => s.fast == some [] | _ => false) = true := by decide +kernel
open Cedar.NoPanic in
example : litsOf [.prim (.int 1), .set []] = none := rfl

/-! ### (e) the `Record` arm of `partial_interpret_internal` (cedar-policy-core/src/evaluator.rs, both evaluators)

Mirror `NoPanic.recordArm`: `unzip`, `split`, then `Expr::record(names.zip(rs)).expect(..)` with `ExprBuilder::record`'s
`Occupied => Err(DuplicateKeyError)` loop written out. The Rust comment's argument ("`names` is the set of keys of the input
`BTreeMap`") is the hypothesis `Nodup`; `split` preserving the length is proved. -/

open Cedar.NoPanic in
/-- pairwise distinct keys: the `expect` cannot fail -/
theorem no_panic_record_residual (map : List (String × PartialValue)) (h : (map.map (·.1)).Nodup) :
    ∀ site, recordArm map ≠ .panic site :=
  recordArm_safe map h

open Cedar.NoPanic in
/-- at the call site: `map` is what interpreting the fields of a record EXPRESSION produced (`collectPVKVs`, any field
interpreter `f`), so its keys are those of the expression — distinct because the expression holds a `BTreeMap` -/
theorem no_panic_record_residual_of_expr (f : Expr → PRes) (kvs : List (String × Expr)) (h : (kvs.map (·.1)).Nodup)
    (pkvs : List (String × PartialValue)) (hc : collectPVKVs f kvs = .ok pkvs) :
    ∀ site, recordArm pkvs ≠ .panic site :=
  recordArm_safe pkvs (by rw [collectPVKVs_keys f kvs pkvs hc]; exact h)

open Cedar.NoPanic in
/-- with the keys in `BTreeMap` iteration order (strictly ascending) the residual is the zipped list itself: the expression
`pinterp`/`rinterp` of the C13 model (`Cedar/Partial.lean`) return at this point -/
theorem record_residual_eq_model (map : List (String × PartialValue)) (h : CJson.Sorted (map.map (·.1)))
    (rs : List Expr) (hs : splitPV (map.map (·.2)) = .inr rs) :
    recordArm map = .residual ((map.map (·.1)).zip rs) := by
  unfold recordArm
  simp only [hs]
  have hk := zip_residual_keys hs
  rw [exprRecord_ok _ (by rw [hk]; exact h.nodup)]
  simp only []
  congr 1
  have := CJson.foldl_insertKV_sorted ((map.map (·.1)).zip rs) [] (by simpa [hk] using h)
  simpa using this

open Cedar.NoPanic in
/-- the `Occupied` arm of `ExprBuilder::record` is real: a key occurring twice is refused -/
theorem expr_record_refuses_duplicate (k : String) (v w : Expr) (pre mid post : List (String × Expr)) :
    ∃ k', exprRecord (pre ++ (k, v) :: mid ++ (k, w) :: post) = .error k' := by
  refine exprRecordGo_not_nodup _ [] fun hn => ?_
  simp only [List.map_append, List.map_cons, List.append_assoc, List.cons_append] at hn
  exact (List.nodup_cons.mp (List.nodup_append.mp hn).2.1).1 (by simp)

-- non-vacuity: a residual record is built; with a repeated key (impossible for a `BTreeMap`) the site IS reached
open Cedar.NoPanic in
example : (match recordArm [("a", .value (.prim (.int 1))), ("b", .residual (.unknown "x" none))] with
    | .residual [("a", .lit (.int 1)), ("b", .unknown "x" none)] => true | _ => false) = true := rfl
open Cedar.NoPanic in
example : (match recordArm [("a", .value (.prim (.int 1))), ("b", .value (.prim (.int 2)))] with
    | .value [("a", .prim (.int 1)), ("b", .prim (.int 2))] => true | _ => false) = true := by decide +kernel
open Cedar.NoPanic in
example : ∃ site, recordArm [("a", .residual (.unknown "x" none)), ("a", .value (.prim (.int 1)))] = .panic site := ⟨_, rfl⟩

/-! ### (f) operator dispatch of the `BinaryApp` arm (cedar-policy-core/src/evaluator.rs)

Mirror `NoPanic.binaryDispatch` (`Cedar/NoPanic/Dispatch.lean`): outer `match op`, then `binary_relation`, `binary_arith` and the
`GetTag | HasTag` arm each with their inner `match op { …, _ => unreachable!() }`. -/

open Cedar.NoPanic in
/-- from the evaluator none of the three `unreachable!` arms is taken, for every operator and every pair of values -/
theorem no_panic_binary_dispatch (es : Entities) (op : BinaryOp) (v1 v2 : Value) :
    ∀ site, binaryDispatch es op v1 v2 ≠ .panic site := by
  intro site h
  rw [binaryDispatch_eq] at h
  cases h

open Cedar.NoPanic in
/-- the two-level dispatch computes the one-level table `applyBinary` of the concrete evaluator model (C01's subject) -/
theorem binary_dispatch_eq_applyBinary (es : Entities) (op : BinaryOp) (v1 v2 : Value) :
    binaryDispatch es op v1 v2 = .ret (applyBinary es op v1 v2) :=
  binaryDispatch_eq es op v1 v2

open Cedar.NoPanic in
/-- `pub fn binary_relation` called directly: panics exactly for the nine operators its caller filters out (whatever the values) -/
theorem binary_relation_panics_iff (op : BinaryOp) (v1 v2 : Value) :
    (∃ site, binaryRelation op v1 v2 = .panic site) ↔ (op ≠ .eq ∧ op ≠ .less ∧ op ≠ .lessEq) := by
  cases op <;> simp [binaryRelation]

open Cedar.NoPanic in
/-- `pub fn binary_arith` called directly: panics exactly for an operator other than `+ - *` applied to two longs (a non-long
operand returns the type error first) -/
theorem binary_arith_panics_iff (op : BinaryOp) (v1 v2 : Value) :
    (∃ site, binaryArith op v1 v2 = .panic site) ↔
      ((op ≠ .add ∧ op ≠ .sub ∧ op ≠ .mul) ∧ ∃ i1 i2, v1 = .prim (.int i1) ∧ v2 = .prim (.int i2)) := by
  unfold binaryArith
  rcases asInt_cases v1 with ⟨i1, rfl, h1⟩ | h1
  · rcases asInt_cases v2 with ⟨i2, rfl, h2⟩ | h2
    · simp only [h1, h2]
      cases op <;> simp
    · simp only [h1, h2]
      constructor
      · rintro ⟨_, h⟩; cases h
      · rintro ⟨_, _, _, _, rfl⟩; simp [Value.asInt] at h2
  · simp only [h1]
    constructor
    · rintro ⟨_, h⟩; cases h
    · rintro ⟨_, _, _, rfl, _⟩; simp [Value.asInt] at h1

-- non-vacuity: each inner match is entered; direct calls outside the contract reach the sites
open Cedar.NoPanic in
example : (match binaryDispatch [] .lessEq (.prim (.int 1)) (.prim (.int 1)) with
    | .ret (.ok (.prim (.bool true))) => true | _ => false) = true := by decide +kernel
open Cedar.NoPanic in
example : (match binaryDispatch [] .mul (.prim (.int 4611686018427387904)) (.prim (.int 2)) with
    | .ret (.error .overflow) => true | _ => false) = true := by decide +kernel
open Cedar.NoPanic in
example : (match binaryDispatch [] .hasTag (.prim (.entityUID ⟨"U", "a"⟩)) (.prim (.string "t")) with
    | .ret (.ok (.prim (.bool false))) => true | _ => false) = true := by decide +kernel
open Cedar.NoPanic in
example : ∃ site, binaryArith .eq (.prim (.int 1)) (.prim (.int 2)) = .panic site := ⟨_, rfl⟩
open Cedar.NoPanic in
example : (match binaryArith .eq (.prim (.int 1)) (.prim (.bool true)) with
    | .ret (.error .type) => true | _ => false) = true := rfl
open Cedar.NoPanic in
example : ∃ site, binaryRelation .contains (.set []) (.prim (.int 2)) = .panic site := ⟨_, rfl⟩

/-! ### (g) `PartialResponse` (cedar-policy-core/src/authorizer/partial_response.rs)

Mirror `Cedar/NoPanic/PartialResponse.lean` over the C13 model's `PartialResponse`: every accessor returning policies builds
them with `construct_policy` → `Policy::new(template, None, SlotEnv::new())`, whose debug-build `expect("(values total map) does
not hold!")` fails iff the residual mentions a template slot. -/

open Cedar.NoPanic in
/-- the precise hypothesis: no residual (permit or forbid) keeps a template slot. Then no accessor panics: `definitely_satisfied`,
`may_be_determining`, `must_be_determining`, `nontrivial_residuals`, `all_residuals`, `get(id)` for every id, and `reauthorize`
for every mapping and store — and `reauthorize` is the function of the C13 model. -/
theorem no_panic_partial_response (pr : PartialResponse) (h : pr.residualPoliciesPanic = false) :
    (∀ s, definitelySatisfied pr ≠ .panic s) ∧ (∀ s, mayBeDetermining pr ≠ .panic s) ∧
    (∀ s, mustBeDetermining pr ≠ .panic s) ∧ (∀ s, nontrivialResiduals pr ≠ .panic s) ∧
    (∀ s, allResiduals pr ≠ .panic s) ∧ (∀ id s, get pr id ≠ some (.panic s)) ∧
    (∀ m es s, reauthorize pr m es ≠ .panic s) ∧
    (∀ m es, reauthorize pr m es = match pr.reauthorize m es with | .ok r => .ok r | .error e => .err e) := by
  refine ⟨(not_isPanic_iff _).mp (definitelySatisfied_safe pr), (not_isPanic_iff _).mp ?_,
    (not_isPanic_iff _).mp (mustBeDetermining_safe pr), (not_isPanic_iff _).mp ?_, (not_isPanic_iff _).mp ?_, ?_, ?_,
    fun m es => reauthorize_eq pr m es h⟩
  · rw [mayBeDetermining_isPanic, mayPanics_false h]
  · rw [nontrivialResiduals_isPanic, h]
  · rw [allResiduals_isPanic, h]
  · intro id s hg
    have := get_safe pr h id _ hg
    simp [PolOutcome.isPanic] at this
  · intro m es s hr
    rw [reauthorize_eq pr m es h] at hr
    split at hr <;> cases hr

open Cedar.NoPanic in
/-- two accessors only ever construct policies from `true_expr`: no hypothesis needed -/
theorem no_panic_partial_response_trivial (pr : PartialResponse) :
    (∀ s, definitelySatisfied pr ≠ .panic s) ∧ (∀ s, mustBeDetermining pr ≠ .panic s) :=
  ⟨(not_isPanic_iff _).mp (definitelySatisfied_safe pr), (not_isPanic_iff _).mp (mustBeDetermining_safe pr)⟩

open Cedar.NoPanic in
/-- exact reachability conditions — they are the predicates of the C13 model (`mayPanics`, `residualPoliciesPanic`), and the
only site is `Policy::new` -/
theorem partial_response_panics_iff (pr : PartialResponse) :
    ((∃ s, mayBeDetermining pr = .panic s) ↔ pr.mayPanics = true) ∧
    ((∃ s, allResiduals pr = .panic s) ↔ pr.residualPoliciesPanic = true) ∧
    ((∃ s, nontrivialResiduals pr = .panic s) ↔ pr.residualPoliciesPanic = true) ∧
    (pr.residualPoliciesPanic = true → ∀ m es, reauthorize pr m es = .panic policyNewSite ∧ pr.reauthorize m es = .error .panic) := by
  refine ⟨?_, ?_, ?_, fun h m es => reauthorize_panics pr m es h⟩
  · rw [← isPanic_iff, mayBeDetermining_isPanic]
  · rw [← isPanic_iff, allResiduals_isPanic]
  · rw [← isPanic_iff, nontrivialResiduals_isPanic]

/-- the site IS reachable from public entry points (known finding C13-residual-slot-panic): a template-linked policy
`context.k && (1 + "s" == ?principal)`; `context.k` is residual, the right operand errors, the best-effort fall-back keeps the
ORIGINAL operand with its unlinked slot; `may_be_determining` and `reauthorize` then panic, `must_be_determining` does not. -/
theorem partial_response_panic_reachable :
    let preq : PRequest := ⟨.known ⟨"U", "a"⟩, .known ⟨"A", "x"⟩, .known ⟨"R", "r"⟩, some (.residual [("k", .unknown "k" none)])⟩
    let p : Policy := ⟨"link1", .permit,
      .and (.getAttr (.var .context) "k") (.binaryApp .eq (.binaryApp .add (.lit (.int 1)) (.lit (.string "s"))) (.slot .principal)),
      [(.principal, ⟨"U", "a"⟩)]⟩
    let pr := isAuthorizedCore [] preq ⟨[], false⟩ [p]
    pr.residualPoliciesPanic = true ∧
    NoPanic.mayBeDetermining pr = .panic NoPanic.policyNewSite ∧
    NoPanic.reauthorize pr [] ⟨[], false⟩ = .panic NoPanic.policyNewSite ∧
    NoPanic.mustBeDetermining pr = .policies [] := by
  intro preq p pr
  have h1 : pr.residualPoliciesPanic = true := by decide +kernel
  refine ⟨h1, ?_, (NoPanic.reauthorize_panics pr [] ⟨[], false⟩ h1).1, ?_⟩
  · have hp : (NoPanic.mayBeDetermining pr).isPanic = true := by
      rw [NoPanic.mayBeDetermining_isPanic]; decide +kernel
    cases hm : NoPanic.mayBeDetermining pr with
    | policies ps => rw [hm] at hp; cases hp
    | panic s => rw [NoPanic.mayBeDetermining_site pr s hm]
  · have hp : (NoPanic.mustBeDetermining pr).isPanic = false := NoPanic.mustBeDetermining_safe pr
    unfold NoPanic.mustBeDetermining NoPanic.definitelySatisfiedPermits NoPanic.definitelySatisfiedForbids
    have e1 : pr.satisfiedPermits = [] := by decide +kernel
    have e2 : pr.satisfiedForbids = [] := by decide +kernel
    rw [e1, e2]
    simp [NoPanic.collect]

-- non-vacuity of `no_panic_partial_response`: the C13 example (unknown typed principal, a residual permit, a false forbid)
example :
    let preq : PRequest := ⟨.unknown (some "U"), .known ⟨"A", "x"⟩, .known ⟨"R", "r"⟩, some (.value [])⟩
    let p1 : Policy := ⟨"p1", .permit, .unaryApp .not (.hasAttr (.var .principal) "blocked"), []⟩
    let p2 : Policy := ⟨"p2", .forbid, .hasAttr (.var .context) "x", []⟩
    (isAuthorizedCore [] preq ⟨[], false⟩ [p1, p2]).residualPoliciesPanic = false ∧
    (isAuthorizedCore [] preq ⟨[], false⟩ [p1, p2]).residualPermits.length = 1 := by
  intro preq p1 p2
  exact ⟨by decide +kernel, by decide +kernel⟩

/-! ### (j) `remove_empty_lines` (cedar-policy-formatter/src/pprint/utils.rs)

Mirror `Cedar/NoPanic/RemoveEmptyLines.lean` (`Rel.loop`, `Rel.removeEmptyLines`): the `while index < text.len()` loop with the two
`find_at` searches as oracles, `min_by_key`, the slices `&text[index..m.start()]`, `m.as_str()`, `&text[index..]` and
`index = m.end()`.  Hypothesis `Rel.Contract text f` (the regex-crate contract for `find_at` on a `&str`): for a search starting
at a char boundary `i < len`, a returned match has `i ≤ start ≤ end`, and `start`, `end` are char boundaries of `text` (so
`end ≤ len`).  Nothing else is assumed of the oracles — in particular not that they implement the two patterns. -/

open Cedar.NoPanic Cedar.NoPanic.Rel in
/-- under the contract no slice of the loop can be out of range, inverted or inside a char — from any boundary `index`, for any
fuel — and `find_at` is never called past the end -/
theorem no_panic_remove_empty_lines (text : List Char) (c s : FindAt) (hc : Contract text c) (hs : Contract text s) :
    (∀ fuel index, isBoundary text index = true → ∀ site, loop text c s fuel index ≠ .panic site) ∧
    (∀ site, removeEmptyLines text c s ≠ .panic site) := by
  have key : ∀ fuel index, isBoundary text index = true → ∀ site, loop text c s fuel index ≠ .panic site := by
    intro fuel index hb site
    obtain ⟨pre, rest, ht, rfl⟩ := (isBoundary_iff text index).mp hb
    rcases loop_ok text c s hc hs fuel pre rest ht with ⟨ps, h, _⟩ | ⟨h, _⟩ <;> rw [h] <;>
      (intro h'; cases h')
  exact ⟨key, fun site => key _ 0 (by simp [isBoundary, sliceFrom_zero]) site⟩

open Cedar.NoPanic Cedar.NoPanic.Rel in
/-- if moreover neither pattern matches the empty string (`//…` and `"…"` are at least two bytes), `index` strictly increases:
the loop ends within `len + 1` iterations, and the slices pushed are a partition of the text (nothing lost, nothing repeated) -/
theorem remove_empty_lines_terminates (text : List Char) (c s : FindAt) (hc : Contract text c) (hs : Contract text s)
    (nc : NonEmptyMatches text c) (ns : NonEmptyMatches text s) :
    ∃ ps, removeEmptyLines text c s = .done ps ∧ flat ps = text := by
  rcases loop_ok text c s hc hs (bytes text + 1) [] text rfl with ⟨ps, h, hf⟩ | ⟨_, hf⟩
  · exact ⟨ps, h, hf⟩
  · have := hf nc ns; omega

-- non-vacuity: executable oracles for the two patterns satisfy both hypotheses on a text with multi-byte chars in a string, in a
-- comment and outside, a quote inside a comment, `//` inside a string, an unterminated string at the end; the loop runs 4 rounds
open Cedar.NoPanic Cedar.NoPanic.Rel in
example :
    let text := "é \"a//é\\\"\" // it's \"q\n\n😀 \"x\" \"unterminated".toList
    checkContract text (commentOracle text) = true ∧ checkContract text (stringOracle text) = true ∧
    checkNonEmpty text (commentOracle text) = true ∧ checkNonEmpty text (stringOracle text) = true ∧
    removeEmptyLines text (commentOracle text) (stringOracle text) =
      .done [.outside "é ".toList, .verbatim "\"a//é\\\"\"".toList, .outside " ".toList, .verbatim "// it's \"q".toList,
             .outside "\n\n😀 ".toList, .verbatim "\"x\"".toList, .outside " \"unterminated".toList] := by
  repeat rw [String.toList_ofList]
  decide +kernel
-- the contract is what protects the slices: a match ending inside `é`, one before `index`, an inverted one reach the sites
open Cedar.NoPanic Cedar.NoPanic.Rel in
example : removeEmptyLines "aé".toList (fun _ => some ⟨1, 2⟩) (fun _ => none) = .panic "m.as_str()" := by
  rw [String.toList_ofList]
  decide +kernel
open Cedar.NoPanic Cedar.NoPanic.Rel in
example : loop "abc".toList (fun _ => some ⟨0, 1⟩) (fun _ => none) 5 2 = .panic "&text[index..m.start()]" := by
  rw [String.toList_ofList]
  decide +kernel
open Cedar.NoPanic Cedar.NoPanic.Rel in
example : removeEmptyLines "abc".toList (fun _ => some ⟨2, 1⟩) (fun _ => none) = .panic "m.as_str()" := by
  rw [String.toList_ofList]
  decide +kernel
open Cedar.NoPanic Cedar.NoPanic.Rel in
example : removeEmptyLines "abc".toList (fun _ => some ⟨1, 9⟩) (fun _ => none) = .panic "m.as_str()" := by
  rw [String.toList_ofList]
  decide +kernel
-- and an oracle allowed to match the empty string satisfies the contract but never advances: the Rust loop would hang
open Cedar.NoPanic Cedar.NoPanic.Rel in
example : checkContract "abc".toList (fun i => some ⟨i, i⟩) = true ∧
    removeEmptyLines "abc".toList (fun i => some ⟨i, i⟩) (fun _ => none) = .fuel := by
  rw [String.toList_ofList]
  decide +kernel

/-! ### (k) extension calls in the typechecker (cedar-policy-core/src/validator/typecheck.rs `typecheck_extension`,
validator/extension_schema.rs `check_arguments`, validator/extensions/{ipaddr,decimal,datetime}.rs `validate_*_string`)

Mirror `Cedar/NoPanic/ExtArgCheck.lean`.  The caller only RECORDS `wrong_number_args` (sets `failed`) and calls the argument check
anyway, so the check sees every argument count. -/

open Cedar.NoPanic.ExtArg in
/-- the four `validate_*_string` checks (`exprs.iter().exactly_one()`): no panic for any number and kind of arguments, whatever the
extension constructor answers -/
theorem no_panic_ext_argument_checks (ctor : List Char → Bool) (exprs : List Arg) :
    ∀ site, validateCtorString .exactlyOne ctor exprs ≠ .panic site :=
  validateCtorString_exactlyOne_safe ctor exprs

open Cedar.NoPanic.ExtArg in
/-- with `exprs[0]` instead (what their doc comment "we already checked that `exprs` contains correct number of arguments"
would license) they panic exactly on the empty argument list — which the caller does pass on -/
theorem ext_argument_check_index_panics_iff (ctor : List Char → Bool) (exprs : List Arg) :
    (∃ site, validateCtorString .index0 ctor exprs = .panic site) ↔ exprs = [] := by
  unfold validateCtorString
  constructor
  · rintro ⟨site, h⟩
    cases exprs with
    | nil => rfl
    | cons a as =>
      cases a <;> simp only at h
      · split at h <;> cases h
      · cases h
      · cases h
  · rintro rfl; exact ⟨_, rfl⟩

open Cedar.NoPanic.ExtArg in
/-- the whole arm of `Typechecker::typecheck`: for every expression kind, mode, known or unknown function and argument list
neither the `let … else { panic! }`, nor the argument check, nor `Left => arg_tys.last().unwrap()`, nor `Right => unreachable!` is
reached.  Invariant used (comment at the `unwrap`: "by construction variadic functions have at least 2 argument types",
`ast::ExtensionFunction::variadic`): a variadic function type has at least one argument type -/
theorem no_panic_typecheck_extension (strict : Bool) (k : Kind)
    (hinv : ∀ ft args, k = .extensionFunctionApp (some ft) args → ft.variadic = true → 0 < ft.nArgTys) :
    ∀ o, typecheckArm .exactlyOne strict k = some o → ∀ site, o ≠ .panic site := by
  intro o ho site
  cases k with
  | other => cases ho
  | extensionFunctionApp lookup args =>
    simp only [typecheckArm, typecheckExtension, Option.some.injEq] at ho
    subst ho
    exact typecheckExtensionFn_safe strict lookup (fun ft h hv => hinv ft args (by rw [h]) hv) args site

-- non-vacuity: zero arguments to `ip` — the error is recorded, the check is still called and answers `Ok`; with `exprs[0]` it panics
open Cedar.NoPanic.ExtArg in
example : typecheckExtensionFn .exactlyOne true (some ⟨1, false, some fun _ => false⟩) [] = .fail [.wrongNumberArgs 1 0] := by
  decide +kernel
open Cedar.NoPanic.ExtArg in
example : typecheckExtensionFn .index0 true (some ⟨1, false, some fun _ => false⟩) [] = .panic "exprs[0]" := by decide +kernel
-- two arguments, one argument that does not parse, a non-literal in strict mode, a good call; variadic with extra arguments
open Cedar.NoPanic.ExtArg in
example : typecheckExtensionFn .exactlyOne true (some ⟨1, false, some fun _ => false⟩) [.strLit ['x'], .strLit ['y']] =
    .fail [.wrongNumberArgs 1 2] := by decide +kernel
open Cedar.NoPanic.ExtArg in
example : typecheckExtensionFn .exactlyOne true (some ⟨1, false, some fun _ => false⟩) [.strLit ['x']] =
    .fail [.functionArgumentValidation ['x']] := by decide +kernel
open Cedar.NoPanic.ExtArg in
example : typecheckExtensionFn .exactlyOne true (some ⟨1, false, some fun _ => true⟩) [.nonLit] = .fail [.nonLitExtConstructor] := by
  decide +kernel
open Cedar.NoPanic.ExtArg in
example : typecheckExtensionFn .exactlyOne true (some ⟨1, false, some fun _ => true⟩) [.strLit ['x']] = .checked 1 := by
  decide +kernel
open Cedar.NoPanic.ExtArg in
example : typecheckExtensionFn .exactlyOne false (some ⟨2, true, none⟩) [.nonLit, .nonLit, .nonLit, .nonLit] = .checked 4 := by
  decide +kernel
-- the invariant is needed (`ExtensionFunctionType::new` is public and does not check it), and the `let … else` is a real site
open Cedar.NoPanic.ExtArg in
example : typecheckExtensionFn .exactlyOne false (some ⟨0, true, none⟩) [.nonLit] =
    .panic "Left(arg) => (arg, arg_tys.last().unwrap())" := by decide +kernel
open Cedar.NoPanic.ExtArg in
example : ∃ site, typecheckExtension .exactlyOne false .other = .panic site := ⟨_, rfl⟩
open Cedar.NoPanic.ExtArg in
example : ∃ site, zipLongest true [] 1 = .error site := ⟨_, rfl⟩

/-! ### (l) `display_cedarvaluejson` (cedar-policy-core/src/est/expr.rs)

Mirror `Cedar/NoPanic/EstDisplay.lean` (`EstDisp.display fixed style n v`; `fixed = true` is the code after /repo commit f169b51,
`fixed = false` the control flow before it). -/

open Cedar.NoPanic.EstDisp in
/-- no JSON value — any nesting of extension escapes with any number of arguments, sets, records, any truncation bound, any call
style table — reaches `&args[0]`, `&args[1..]` or the `len() - 1` underflows -/
theorem no_panic_display_cedarvaluejson (style : String → Option Bool) (n : Option Nat) (v : CVJ) :
    ∀ site, display true style n v ≠ .panic site :=
  (Out.not_isPanic_iff _).mp (display_safe style n v)

open Cedar.NoPanic.EstDisp in
/-- before the fix: a method-style function applied to no argument (`{"__extn": {"fn": "isIpv4", "args": []}}`, accepted by
`from_json`) indexes `args[0]` -/
theorem display_cedarvaluejson_prefix_panics (style : String → Option Bool) (n : Option Nat) (fn : String)
    (h : style fn = some true) : display false style n (.extnMulti fn []) = .panic "&args[0]" := by
  unfold display
  simp [h]

-- non-vacuity: the zero-argument method call prints in function style after the fix and panics before it (also when nested);
-- receiver/argument split with 1, 2, 3 arguments; empty and truncated collections
open Cedar.NoPanic.EstDisp in
example : display true stdStyle none (.extnMulti "isIpv4" []) = .text "isIpv4()" := by decide +kernel
open Cedar.NoPanic.EstDisp in
example : display false stdStyle none (.extnMulti "isIpv4" []) = .panic "&args[0]" := by decide +kernel
open Cedar.NoPanic.EstDisp in
example : display false stdStyle (some 1) (.set [.record [("k", .extnMulti "isInRange" [])]]) = .panic "&args[0]" := by
  decide +kernel
open Cedar.NoPanic.EstDisp in
example : display true stdStyle none (.extnMulti "isIpv4" [.atom "a"]) = .text "a.isIpv4()" := by decide +kernel
open Cedar.NoPanic.EstDisp in
example : display true stdStyle none (.extnMulti "isInRange" [.atom "a", .extnSingle "ip" (.atom "\"::1\"")]) =
    .text "a.isInRange(ip(\"::1\"))" := by decide +kernel
open Cedar.NoPanic.EstDisp in
example : display true stdStyle none (.extnMulti "f" [.atom "a", .atom "b", .atom "c"]) = .text "f(a, b, c)" := by decide +kernel
open Cedar.NoPanic.EstDisp in
example : display true stdStyle (some 1) (.set [.atom "1", .set [], .record []]) = .text "[1, ..]" := by decide +kernel
open Cedar.NoPanic.EstDisp in
example : display true stdStyle (some 3) (.set [.atom "1", .set [], .record [("k", .atom "2")]]) =
    .text "[1, [], {\"k\": 2}]" := by decide +kernel

/-! ### (h) `ast::PolicySet` (cedar-policy-core/src/ast/policy_set.rs) — proved in C08, cited here

`unlink`: `panic!("No template found for linked policy")`; `remove_template`: `panic!("Found in template_to_links_map but not in
templates")`; `merge_policyset`: `unwrap` of `new_template_id`. The mirrors are in `Cedar/PolicySet.lean`. -/

/-- under the policy-set invariant no core operation reaches a `panic!` site (`Cedar.C08.no_panic`) -/
theorem no_panic_policyset_op (ps : PolicySet) (op : CoreOp) (wf : C08.Invariant ps) (m : String) :
    (ps.applyOp op).err ≠ some (.panic m) :=
  C08.no_panic ps op wf m

/-- and the invariant holds after every admissible history from the empty set (`Cedar.C08.history_inv`): no sequence of
public operations reaches them -/
theorem no_panic_policyset_history (ops : List CoreOp) (adm : PolicySet.admissibleHist {} ops) (op : CoreOp) (m : String) :
    ((PolicySet.run {} ops).applyOp op).err ≠ some (.panic m) :=
  C08.no_panic _ op (C08.history_inv ops adm) m

/-- `merge_policyset` never panics, for arbitrary arguments (`Cedar.C08.merge_no_panic_fail_unchanged`) -/
theorem no_panic_policyset_merge (ps other : PolicySet) (rename : Bool) (m : String) :
    (ps.merge other rename).err ≠ some (.panic m) :=
  (C08.merge_no_panic_fail_unchanged ps other rename).1 m

/-! ### (i) string unescaping: ranges and slices (cedar-policy-core/src/parser/unescape.rs over rustc_literal_escaper 0.0.8)

Mirror `Cedar/NoPanic/Unescape.lean`: `Unescape::unescape` with the `Chars` iterator explicit, so that every callback range is
computed by the crate's own `src.len() - chars.as_str().len() - c.len_utf8()` arithmetic (usize underflow = `.panic`), ALL
callbacks are produced (the loop continues after an error), `skip_ascii_whitespace`'s `split_at` is a site; then
`to_pattern`'s `&bytes[range.clone()]` and `Display for UnescapeError`'s `&self.input[self.range.clone()]` over every stored
error. (`extensions/decimal.rs` uses `caps.get(1).ok_or_else(..)?`, not `unwrap`: it has no panic site.) -/

open Cedar.NoPanic in
/-- every range handed to the callback is cut out by a decomposition `src = pre ++ mid ++ post`: ordered, in bounds, both ends
on char boundaries — whatever multi-byte characters and broken escapes the input contains; the loop's fuel suffices -/
theorem unescape_ranges_on_boundaries (src : List Char) :
    ∃ cbs, unescapeCallbacks src = .done cbs ∧
      ∀ cb ∈ cbs, byteRangeOk src cb.start cb.stop = true ∧ ∃ mid, sliceRange src cb.start cb.stop = some mid := by
  obtain ⟨cbs, hc, hg⟩ := unescapeCallbacks_ok src
  refine ⟨cbs, hc, fun cb hcb => ?_⟩
  obtain ⟨mid, h1, h2⟩ := (hg cb hcb).slice
  exact ⟨h2, mid, h1⟩

open Cedar.NoPanic in
/-- `to_unescaped_string` / `to_pattern` followed by `to_string()` of every error: no slice, no subtraction can panic -/
theorem no_panic_unescape_slices (src : List Char) (pat : Bool) :
    (∀ site, unescapeSlices src pat ≠ .panic site) ∧ unescapeSlices src pat ≠ .fuel := by
  obtain ⟨acc, shown, h⟩ := unescapeSlices_ok src pat
  rw [h]
  exact ⟨fun _ h => SliceOutcome.noConfusion h, fun h => SliceOutcome.noConfusion h⟩

-- non-vacuity: several errors in one input, multi-byte chars before / inside / after the reported ranges, `\*` in both modes,
-- backslash-newline continuation before a multi-byte char; and the slice sites are real (offsets inside `é` fail)
open Cedar.NoPanic in
example : unescapeSlices "a\\*b\\qé\\u{110000}x\\".toList true =
    .ret false ["\\q".toList, "\\u{110000}".toList, "\\".toList] := by
  repeat rw [String.toList_ofList]
  decide +kernel
open Cedar.NoPanic in
example : unescapeSlices "a\\*".toList false = .ret false ["\\*".toList] := by
  repeat rw [String.toList_ofList]
  decide +kernel
open Cedar.NoPanic in
example : unescapeSlices "é\\é😀".toList false = .ret false ["\\é".toList] := by
  repeat rw [String.toList_ofList]
  decide +kernel
open Cedar.NoPanic in
example : unescapeSlices "é\\\n  \t é\\xzz".toList false = .ret false ["\\xz".toList] := by
  repeat rw [String.toList_ofList]
  decide +kernel
open Cedar.NoPanic in
example : unescapeSlices "é\\n\\u{1F600}".toList false = .ret true [] := by
  rw [String.toList_ofList]
  decide +kernel
open Cedar.NoPanic in
example : sliceRange "é".toList 0 1 = none := by
  rw [String.toList_ofList]
  decide +kernel
open Cedar.NoPanic in
example : sliceRange "aé".toList 2 3 = none := by
  rw [String.toList_ofList]
  decide +kernel
open Cedar.NoPanic in
example : byteRangeOk "aé".toList 2 4 = false := by
  rw [String.toList_ofList]
  decide +kernel

end Cedar.C20
