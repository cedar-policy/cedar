import CedarVerif.Lemmas.TCCycle
/-
C04: the store invariant, `repair_tc` as its decision procedure, the common end of add/upsert/remove, and `add_entities`.
`repairTc_decides`: on a store whose edges are justified and whose untouched records are complete and without
self-edge, `repair_tc` accepts exactly the acyclic parent graphs and re-establishes the invariant;
`Frame` / `finish_spec`: the bookkeeping of an operation (any batch, repeated uids included) only has to leave the
untouched records as they were in a store satisfying the invariant, and either close the touched set by `touchPass`
(add, upsert) or take parent links away only (remove).
-/
namespace Cedar.TC
set_option linter.unusedSectionVars false

variable {α : Type} [DecidableEq α]

/-- the invariant of stores built by the library (DESIGN §6 C04 `Inv`) -/
structure StoreInv (s : Store α) : Prop where
  exact : Exact (shape s) s
  acyclic : ∀ x, ¬ Reach (shape s) x x
  disjoint : ∀ x n, get s x = some n → ∀ y, y ∈ n.parents → y ∉ n.indirect

def Disjoint (s : Store α) : Prop := ∀ x n, get s x = some n → ∀ y, y ∈ n.parents → y ∉ n.indirect

theorem repair_establishes (s1 : Store α) (t : List α)
    (hs : Sound (shape s1) s1) (hacyc : ∀ x, ¬ Reach (shape s1) x x)
    (hun : ∀ k, k ∈ keys s1 → k ∉ t → Complete (shape s1) s1 k)
    (hd : Disjoint s1) :
    ∃ s', repairTc t s1 = .ok s' ∧ StoreInv s' ∧ parentGraph s' = parentGraph s1 := by
  obtain ⟨s', hok, hext, hex⟩ := repairTc_ok s1 t (shape s1) (shapeIs_shape s1) hacyc hs hun
  have hsh : shape s' = shape s1 := funext (fun x => (shapeIs_shape s1).ext hext x)
  refine ⟨s', hok, ⟨by rw [hsh]; exact hex, by rw [hsh]; exact hacyc, ?_⟩,
    ((repairTc_sound s1 t (shape s1) hs).2.1 s' hok).2.2⟩
  intro x n' hx y hy hy'
  cases hg1 : get s1 x with
  | none => rw [hext.2 x hg1] at hx; cases hx
  | some n =>
    obtain ⟨n2, g2, p2, _, d2, _⟩ := hext.1 x n hg1
    rw [g2] at hx; cases hx
    rcases d2 y hy' with h | h
    · exact hd x n hg1 y (p2 ▸ hy) h
    · exact h hy

theorem repairTc_decides (s1 : Store α) (t : List α) (hs : Sound (shape s1) s1) (hd : Disjoint s1)
    (hun : ∀ k, k ∈ keys s1 → k ∉ t → Complete (shape s1) s1 k)
    (hnoself : ∀ k n, get s1 k = some n → k ∉ t → k ∉ n.out) :
    (∀ s', repairTc t s1 = .ok s' → StoreInv s' ∧ parentGraph s' = parentGraph s1) ∧
    (∀ e, repairTc t s1 = .error e ↔ e = .cycle ∧ ∃ x, Reach (shape s1) x x) := by
  by_cases hc : ∃ x, Reach (shape s1) x x
  · rw [repairTc_complete s1 t hun hnoself hc]
    exact ⟨fun s' h => (nomatch h), fun e => ⟨fun h => (by cases h; exact ⟨rfl, hc⟩), fun h => (by rw [h.1])⟩⟩
  · obtain ⟨s', hok, hinv, hpg⟩ := repair_establishes s1 t hs (fun x hx => hc ⟨x, hx⟩) hun hd
    rw [hok]
    exact ⟨fun s'' h => (by cases h; exact ⟨hinv, hpg⟩), fun e => ⟨fun h => (nomatch h), fun h => absurd h.2 hc⟩⟩

theorem tinsert_sub (k : α) (t : List α) : ∀ a, a ∈ t → a ∈ tinsert k t := by
  intro a ha; unfold tinsert; split
  · exact ha
  · exact List.mem_append_left _ ha

theorem tinsert_self (k : α) (t : List α) : k ∈ tinsert k t := by
  unfold tinsert; split
  · assumption
  · simp

theorem mem_tinsert {k a : α} {t : List α} (h : a ∈ tinsert k t) : a = k ∨ a ∈ t := by
  unfold tinsert at h; split at h
  · exact Or.inr h
  · simp only [List.mem_append, List.mem_singleton] at h
    rcases h with h | h
    · exact Or.inr h
    · exact Or.inl h

/-- the touched-set loops of `remove_entities` / `upsert_entities`: insert the uid of every record that satisfies `c` -/
theorem foldl_tinsert_sub (c : α × Node α → Prop) [DecidablePred c] (s : Store α) (t : List α) (a : α) (h : a ∈ t) :
    a ∈ s.foldl (fun t kn => if c kn then tinsert kn.1 t else t) t :=
  List.foldlRecOn (motive := fun t => a ∈ t) s _ h fun t h kn _ => by split; exact tinsert_sub _ _ _ h; exact h

theorem foldl_tinsert_untouched (c : α × Node α → Prop) [DecidablePred c] (s : Store α) : ∀ (t : List α) x,
    x ∉ s.foldl (fun t kn => if c kn then tinsert kn.1 t else t) t → x ∉ t ∧ ∀ n, (x, n) ∈ s → ¬ c (x, n) := by
  induction s with
  | nil => intro t x h; exact ⟨h, fun n hn => nomatch hn⟩
  | cons kn s ih =>
    intro t x h
    rw [List.foldl_cons] at h
    obtain ⟨h1, h2⟩ := ih _ x h
    constructor
    · intro hx; apply h1; split
      · exact tinsert_sub _ _ _ hx
      · exact hx
    · intro n hn hc
      rcases List.mem_cons.mp hn with rfl | hn
      · exact h1 (by rw [if_pos hc]; exact tinsert_self _ _)
      · exact h2 n hn hc

theorem touchPass_sub (s : Store α) (t : List α) (a : α) (h : a ∈ t) : a ∈ touchPass s t :=
  List.foldlRecOn (motive := fun t => a ∈ t) s _ h fun t h kn _ => by split; exact tinsert_sub _ _ _ h; exact h

theorem touchPass_untouched (s : Store α) : ∀ (t : List α) k n, (k, n) ∈ s → k ∉ touchPass s t →
    ∀ a, a ∈ n.out → a ∉ t := by
  induction s with
  | nil => intro t k n h; cases h
  | cons kn s ih =>
    intro t k n hmem hk a ha hat
    simp only [touchPass, List.foldl_cons] at hk
    simp only [List.mem_cons] at hmem
    rcases hmem with rfl | hmem
    · apply hk
      have : (k, n).2.out.any (fun a => decide (a ∈ t)) = true := by
        rw [List.any_eq_true]; exact ⟨a, ha, by simpa using hat⟩
      simp only [this, if_true]
      exact touchPass_sub s _ _ (tinsert_self _ _)
    · refine ih _ k n hmem hk a ha ?_
      split
      · exact tinsert_sub _ _ _ hat
      · exact hat

def Frame (s0 s1 : Store α) (t : List α) : Prop :=
  ∀ x n, get s1 x = some n → x ∉ t → get s0 x = some n

theorem Frame.reach_old {s0 s1 : Store α} {t : List α} (h0 : StoreInv s0) (hf : Frame s0 s1 t) :
    ∀ x y, Reach (shape s1) x y → ∀ n, get s1 x = some n → get s0 x = some n → (∀ a, a ∈ n.out → a ∉ t) →
      Reach (shape s0) x y := by
  intro x y hr
  induction hr with
  | edge hpx hy =>
    intro n hn1 hn0 _
    rw [shape_some hn1] at hpx; cases hpx
    exact Reach.edge (shape_some hn0) hy
  | @step x' y' z ps hpx hz hzy ih =>
    intro n hn1 hn0 hnt
    rw [shape_some hn1] at hpx; cases hpx
    have hzout : z ∈ n.out := mem_out.mpr (Or.inl hz)
    obtain ⟨pz, hpz⟩ := hzy.src_some
    obtain ⟨nz, hnz, _⟩ := shape_some_inv hpz
    have hnz0 : get s0 z = some nz := hf z nz hnz (hnt z hzout)
    have hsub : ∀ a, a ∈ nz.out → a ∉ t := by
      intro a ha
      apply hnt
      have h1 : Reach (shape s0) z a := (h0.exact z nz hnz0 a).mp ha
      exact (h0.exact x' n hn0 a).mpr (Reach.step (shape_some hn0) hz h1)
    exact Reach.step (shape_some hn0) hz (ih nz hnz hnz0 hsub)

theorem Frame.untouched_complete {s0 s1 : Store α} {t : List α} (h0 : StoreInv s0) (hf : Frame s0 s1 t) :
    ∀ k, k ∈ keys s1 → k ∉ touchPass s1 t → Complete (shape s1) s1 k := by
  intro k _ hkt n hn y hr
  have hkt0 : k ∉ t := fun h => hkt (touchPass_sub s1 t k h)
  have hn0 := hf k n hn hkt0
  have hnt := touchPass_untouched s1 t k n (get_some_mem hn) hkt
  exact (h0.exact k n hn0 y).mpr (hf.reach_old h0 k y hr n hn hn0 hnt)

theorem Frame.noself {s0 s1 : Store α} {t : List α} (h0 : StoreInv s0) (hf : Frame s0 s1 t) :
    ∀ k n, get s1 k = some n → k ∉ t → k ∉ n.out :=
  fun k n hn hkt hk => h0.acyclic k ((h0.exact k n (hf k n hn hkt) k).mp hk)

theorem Frame.touchPass {s0 s1 : Store α} {t : List α} (hf : Frame s0 s1 t) : Frame s0 s1 (touchPass s1 t) :=
  fun x n hx hxt => hf x n hx fun h => hxt (touchPass_sub s1 t x h)

/-- Without the touched pass (`remove_entities`, `b = false`) the untouched records are complete because the operation has
    only taken parent links away (`hb`). -/
theorem finish_spec {s0 s1 : Store α} {t : List α} (b : Bool) (h0 : StoreInv s0) (hs : Sound (shape s1) s1)
    (hd : Disjoint s1) (hf : Frame s0 s1 t)
    (hb : b = false → ∀ x y, Reach (shape s1) x y → Reach (shape s0) x y) :
    (∀ s', finish .compute b s1 t = .ok s' → StoreInv s' ∧ parentGraph s' = parentGraph s1) ∧
    (∀ e, finish .compute b s1 t = .error e ↔ e = .cycle ∧ ∃ x, Reach (shape s1) x x) := by
  cases b with
  | true => exact repairTc_decides s1 _ hs hd (hf.untouched_complete h0) (hf.touchPass.noself h0)
  | false =>
    refine repairTc_decides s1 t hs hd ?_ (hf.noself h0)
    intro k _ hkt n hn y hr
    exact (h0.exact k n (hf k n hn hkt) y).mpr (hb rfl k y hr)

def PureBatch (es : List (α × Node α)) : Prop := ∀ e, e ∈ es → e.2.indirect = []

theorem updateEntityMap_ok {s s' : Store α} {e : α × Node α} (h : updateEntityMap s e false = .ok s') :
    (∃ old, get s e.1 = some old ∧ s' = s) ∨ (get s e.1 = none ∧ s' = s ++ [e]) := by
  unfold updateEntityMap at h
  cases hge : get s e.1 with
  | some old =>
    rw [hge] at h
    simp only [Bool.false_eq_true, if_false] at h
    split at h
    · cases h; exact Or.inl ⟨old, rfl, rfl⟩
    · cases h
  | none => rw [hge] at h; cases h; exact Or.inr ⟨rfl, rfl⟩

theorem addLoop_spec : ∀ (es : List (α × Node α)) (s : Store α) (t : List α) (s1 : Store α) (t1 : List α),
    addLoop s t es = .ok (s1, t1) → PureBatch es →
    (∀ x n, get s x = some n → get s1 x = some n) ∧
    (∀ x n, get s x = none → get s1 x = some n → n.indirect = [] ∧ x ∈ t1) ∧
    (∀ x, x ∈ t → x ∈ t1) ∧
    parentGraph s1 = specAdd (parentGraph s) es := by
  intro es
  induction es with
  | nil =>
    intro s t s1 t1 h _
    cases h
    exact ⟨fun _ _ h => h, fun x n h1 h2 => (by rw [h1] at h2; cases h2), fun _ h => h, rfl⟩
  | cons e es ih =>
    intro s t s1 t1 h hp
    simp only [addLoop] at h
    cases hu : updateEntityMap s e false with
    | error err => rw [hu] at h; cases h
    | ok s' =>
      rw [hu] at h
      obtain ⟨i1, i2, i3, i4⟩ := ih s' (tinsert e.1 t) s1 t1 h (fun e' he' => hp e' (List.mem_cons_of_mem _ he'))
      have i3' : ∀ x, x ∈ t → x ∈ t1 := fun x hx => i3 x (tinsert_sub _ _ _ hx)
      rcases updateEntityMap_ok hu with ⟨old, hge, rfl⟩ | ⟨hge, rfl⟩
      · refine ⟨i1, i2, i3', ?_⟩
        rw [i4]
        simp only [specAdd, pg_get, shape_some hge]
      · refine ⟨fun x n hx => i1 x n (by rw [get_append_single, hx]), ?_, i3', ?_⟩
        · intro x n hx hx1
          by_cases hex : e.1 = x
          · have h2 := i1 x e.2 (by rw [get_append_single, hx]; exact if_pos hex)
            rw [h2] at hx1; cases hx1
            exact ⟨hp e List.mem_cons_self, i3 x (hex ▸ tinsert_self _ _)⟩
          · exact i2 x n (by rw [get_append_single, hx]; exact if_neg hex) hx1
        · rw [i4]
          simp only [specAdd, pg_get, shape, hge, Option.map_none]
          simp only [parentGraph, List.map_append, List.map_cons, List.map_nil]

theorem addLoop_handed (s : Store α) (es : List (α × Node α)) (hinv : StoreInv s) (hp : PureBatch es)
    (s1 : Store α) (t : List α) (hloop : addLoop s [] es = .ok (s1, t)) :
    Sound (shape s1) s1 ∧ Disjoint s1 ∧ Frame s s1 t := by
  obtain ⟨l1, l2, _, _⟩ := addLoop_spec es s [] s1 t hloop hp
  have hrec : ∀ x n, get s1 x = some n → get s x = some n ∨ (n.indirect = [] ∧ x ∈ t) := by
    intro x n hx
    cases hgs : get s x with
    | some n0 => rw [l1 x n0 hgs] at hx; cases hx; exact Or.inl rfl
    | none => exact Or.inr (l2 x n hgs hx)
  refine ⟨?_, ?_, ?_⟩
  · intro x n hx y hy
    rcases hrec x n hx with h | h
    · refine Reach.mono ?_ ((hinv.exact x n h y).mp hy)
      intro a ps ha
      obtain ⟨m, hm, hps⟩ := shape_some_inv ha
      exact ⟨ps, by rw [shape_some (l1 a m hm), hps], fun _ h => h⟩
    · rcases mem_out.mp hy with hy | hy
      · exact Reach.edge (shape_some hx) hy
      · rw [h.1] at hy; cases hy
  · intro x n hx y hy hy'
    rcases hrec x n hx with h | h
    · exact hinv.disjoint x n h y hy hy'
    · rw [h.1] at hy'; cases hy'
  · intro x n hx hxt
    exact (hrec x n hx).resolve_right (fun h => hxt h.2)

theorem addEntities_spec (s : Store α) (es : List (α × Node α)) (hinv : StoreInv s) (hp : PureBatch es) :
    (∀ s', addEntities .compute s es = .ok s' → StoreInv s' ∧ parentGraph s' = specAdd (parentGraph s) es) ∧
    (∀ e, addEntities .compute s es = .error e ↔
      (addLoop s [] es = .error e ∨
       (e = .cycle ∧ (∃ st, addLoop s [] es = .ok st) ∧
         ∃ x, Reach (PGraph.get (specAdd (parentGraph s) es)) x x))) := by
  unfold addEntities
  cases hl : addLoop s [] es with
  | error e' =>
    refine ⟨fun s' h => (nomatch h), fun e => ⟨fun h => (by cases h; exact Or.inl rfl), ?_⟩⟩
    rintro (h | ⟨_, ⟨st, hst⟩, _⟩)
    · cases h; rfl
    · cases hst
  | ok st =>
    obtain ⟨s1, t⟩ := st
    have l4 := (addLoop_spec es s [] s1 t hl hp).2.2.2
    obtain ⟨h1, h2, h3⟩ := addLoop_handed s es hinv hp s1 t hl
    obtain ⟨f1, f2⟩ := finish_spec true hinv h1 h2 h3 (fun h => nomatch h)
    rw [← l4, pg_get_fun]
    refine ⟨f1, fun e => ?_⟩
    rw [f2 e]
    constructor
    · rintro ⟨h1, h2⟩; exact Or.inr ⟨h1, ⟨_, rfl⟩, h2⟩
    · rintro (h | ⟨h1, _, h2⟩)
      · cases h
      · exact ⟨h1, h2⟩

/-- a result is the error `e` if the test for it evaluates to `true` (for closed terms: `decide +kernel`
    evaluates once, in the kernel, where `rfl` evaluates in the elaborator as well) -/
theorem Res.eq_error {β : Type} {r : Res β} {e : Err}
    (h : (match r with | .error e' => decide (e' = e) | .ok _ => false) = true) : r = .error e := by
  cases r with
  | error e' => exact congrArg _ (of_decide_eq_true h)
  | ok _ => cases h

theorem Res.ok_of_spec {β : Type} {r : Res β} {Q : β → Prop} {C : Err → Prop} (h1 : ∀ b, r = .ok b → Q b)
    (h2 : ∀ e, r = .error e → C e) (hn : ∀ e, ¬ C e) : ∃ b, r = .ok b ∧ Q b := by
  cases r with
  | ok b => exact ⟨b, rfl, h1 b rfl⟩
  | error e => exact absurd (h2 e rfl) (hn e)

theorem addLoop_graph {s s1 : Store α} {es : List (α × Node α)} {t : List α} (hp : PureBatch es)
    (hl : addLoop s [] es = .ok (s1, t)) : PGraph.get (specAdd (parentGraph s) es) = shape s1 := by
  rw [← (addLoop_spec es s [] s1 t hl hp).2.2.2, pg_get_fun]

theorem addEntities_err (s : Store α) (es : List (α × Node α)) (hinv : StoreInv s) (hp : PureBatch es)
    (e : Err) (h : addEntities .compute s es = .error e) :
    addLoop s [] es = .error e ∨
    (e = .cycle ∧ ∃ s1 t, addLoop s [] es = .ok (s1, t) ∧ ∃ x, Reach (shape s1) x x) := by
  rcases ((addEntities_spec s es hinv hp).2 e).mp h with h | ⟨he, ⟨⟨s1, t⟩, hl⟩, hc⟩
  · exact Or.inl h
  · exact Or.inr ⟨he, s1, t, hl, addLoop_graph hp hl ▸ hc⟩

theorem addEntities_cyclic (s : Store α) (es : List (α × Node α)) (hinv : StoreInv s) (hp : PureBatch es)
    (s1 : Store α) (t : List α) (hl : addLoop s [] es = .ok (s1, t)) (hc : ∃ x, Reach (shape s1) x x) :
    addEntities .compute s es = .error .cycle :=
  ((addEntities_spec s es hinv hp).2 .cycle).mpr (Or.inr ⟨rfl, ⟨_, hl⟩, (addLoop_graph hp hl).symm ▸ hc⟩)

theorem addEntities_ok (s : Store α) (es : List (α × Node α)) (hinv : StoreInv s) (hp : PureBatch es)
    (s1 : Store α) (t : List α) (hloop : addLoop s [] es = .ok (s1, t))
    (hacyc : ∀ x, ¬ Reach (shape s1) x x) :
    ∃ s', addEntities .compute s es = .ok s' ∧ StoreInv s' ∧ parentGraph s' = specAdd (parentGraph s) es := by
  obtain ⟨h1, h2⟩ := addEntities_spec s es hinv hp
  refine Res.ok_of_spec h1 (fun e => (h2 e).mp) (fun e => ?_)
  rintro (h | ⟨_, _, x, hx⟩)
  · rw [hloop] at h; cases h
  · exact hacyc x (addLoop_graph hp hloop ▸ hx)

/-- `apply` is `applyOp`, or `applyOpPreFix` for the code before the repair -/
theorem history_induction {apply : Store α → Op α → Res (Store α)} {I : Store α → Prop} {Q : Op α → Prop}
    (h : ∀ s o s', I s → Q o → apply s o = .ok s' → I s') :
    ∀ (ops : List (Op α)) (s : Store α), I s → (∀ o, o ∈ ops → Q o) →
      I (ops.foldl (fun s o => match apply s o with | .ok s' => s' | .error _ => s) s) := by
  intro ops
  induction ops with
  | nil => intro s hs _; exact hs
  | cons o ops ih =>
    intro s hs hq
    refine ih _ ?_ (fun o' ho' => hq o' (List.mem_cons_of_mem _ ho'))
    dsimp only
    cases ha : apply s o with
    | error e => exact hs
    | ok s' => exact h s o s' hs (hq o List.mem_cons_self) ha

end Cedar.TC
