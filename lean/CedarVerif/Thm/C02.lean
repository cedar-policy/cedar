import CedarVerif.Cedar.Eval
import CedarVerif.Lemmas.Like
import CedarVerif.Lemmas.Beq
import CedarVerif.Lemmas.SetRepr
import CedarVerif.Lemmas.EvalStore
import CedarVerif.Lemmas.Data
import CedarVerif.Lemmas.EvalArms
/-
C02 — Expression evaluation follows the Cedar language semantics.
Property theorems about `Cedar.evaluate` (the mirror of the value paths of
`Evaluator::partial_interpret_internal`), for arbitrary expressions, requests and stores.
-/
namespace Cedar.C02
open Cedar

variable (req : Request) (es : Entities) (env : SlotEnv)

/-- `*` matches any sequence of scalar values, a character matches itself -/
inductive Matches : Pattern → List Char → Prop where
  | nil : Matches [] []
  | char (c : Char) {ps : Pattern} {cs : List Char} : Matches ps cs → Matches (.char c :: ps) (c :: cs)
  | star (xs : List Char) {ps : Pattern} {cs : List Char} : Matches ps cs → Matches (.star :: ps) (xs ++ cs)

theorem M_iff_Matches (p : Pattern) (s : List Char) : M p s = true ↔ Matches p s := by
  constructor
  · induction p, s using M.induct with
    | case1 => exact fun _ => .nil
    | case2 c cs => rw [M_nil_cons]; exact fun h => nomatch h
    | case3 ps ih => rw [M_star_nil]; exact fun h => .star [] (ih h)
    | case4 ps c cs ih1 ih2 =>
      rw [M_star_cons, Bool.or_eq_true]
      rintro (h | h)
      · exact .star [] (ih1 h)
      · -- the star that matched `xs` now matches `c :: xs`
        cases ih2 h with
        | star xs h' => exact .star (c :: xs) h'
    | case5 p ps => rw [M_char_nil]; exact fun h => nomatch h
    | case6 p ps c cs ih =>
      rw [M_char_cons, Bool.and_eq_true, beq_iff_eq]
      rintro ⟨rfl, h⟩
      exact .char p (ih h)
  · intro h
    induction h with
    | nil => rw [M]
    | char c _ ih => rw [M_char_cons, ih, beq_self_eq_true]; rfl
    | star xs _ ih => exact M_star_left _ _ _ (M_star_weaken _ _ ih)

/-- C02 (`like`): the loop of `Pattern::wildcard_match` (suffix-form mirror `wm`, used by `evaluate`)
    decides exactly the declarative relation, for every pattern and every string of scalar values. -/
theorem like_correct (p : Pattern) (s : List Char) : wm p s = true ↔ Matches p s := by
  rw [wm_correct]; exact M_iff_Matches p s

/-- `false && b` is `false` whatever `b` is (erroring, ill-typed, …): the skipped operand never surfaces -/
theorem and_short (a b : Expr) (h : evaluate req es env a = .ok (.prim (.bool false))) :
    evaluate req es env (.and a b) = .ok (.prim (.bool false)) := by
  rw [evaluate_and, h]; rfl

theorem or_short (a b : Expr) (h : evaluate req es env a = .ok (.prim (.bool true))) :
    evaluate req es env (.or a b) = .ok (.prim (.bool true)) := by
  rw [evaluate_or, h]; rfl

theorem ite_short_then (c t e : Expr) (h : evaluate req es env c = .ok (.prim (.bool true))) :
    evaluate req es env (.ite c t e) = evaluate req es env t := by
  rw [evaluate_ite, h]; rfl

theorem ite_short_else (c t e : Expr) (h : evaluate req es env c = .ok (.prim (.bool false))) :
    evaluate req es env (.ite c t e) = evaluate req es env e := by
  rw [evaluate_ite, h]; rfl

/-- an error in the left operand always surfaces -/
theorem and_left_error (a b : Expr) (err : ErrClass) (h : evaluate req es env a = .error err) :
    evaluate req es env (.and a b) = .error err := by
  rw [evaluate_and, h]; rfl

theorem or_left_error (a b : Expr) (err : ErrClass) (h : evaluate req es env a = .error err) :
    evaluate req es env (.or a b) = .error err := by
  rw [evaluate_or, h]; rfl

/-- a non-boolean in an evaluated operand is a type error: left operand -/
theorem and_left_nonbool (a b : Expr) (v : Value) (h : evaluate req es env a = .ok v)
    (hv : ∀ x, v ≠ .prim (.bool x)) : evaluate req es env (.and a b) = .error .type := by
  rw [evaluate_and, h]
  simp only [Tpe.andR, Value.asBool_of_ne_bool hv]

/-- … and right operand, when it is evaluated -/
theorem and_right_nonbool (a b : Expr) (v : Value) (ha : evaluate req es env a = .ok (.prim (.bool true)))
    (h : evaluate req es env b = .ok v) (hv : ∀ x, v ≠ .prim (.bool x)) :
    evaluate req es env (.and a b) = .error .type := by
  rw [evaluate_and, ha, h]
  simp only [Tpe.andR, Value.asBool]

theorem or_right_nonbool (a b : Expr) (v : Value) (ha : evaluate req es env a = .ok (.prim (.bool false)))
    (h : evaluate req es env b = .ok v) (hv : ∀ x, v ≠ .prim (.bool x)) :
    evaluate req es env (.or a b) = .error .type := by
  rw [evaluate_or, ha, h]
  simp only [Tpe.orR, Value.asBool]

theorem ite_guard_nonbool (c t e : Expr) (v : Value) (h : evaluate req es env c = .ok v)
    (hv : ∀ x, v ≠ .prim (.bool x)) : evaluate req es env (.ite c t e) = .error .type := by
  rw [evaluate_ite, h]
  simp only [Tpe.iteR, Value.asBool_of_ne_bool hv]

/-- binary operators evaluate both operands, left first: a left error wins over a right error -/
theorem binary_left_to_right (op : BinaryOp) (a b : Expr) (e1 : ErrClass)
    (h : evaluate req es env a = .error e1) : evaluate req es env (.binaryApp op a b) = .error e1 := by
  rw [evaluate_binary, h]; rfl

theorem binary_right_error (op : BinaryOp) (a b : Expr) (v : Value) (e2 : ErrClass)
    (ha : evaluate req es env a = .ok v) (h : evaluate req es env b = .error e2) :
    evaluate req es env (.binaryApp op a b) = .error e2 := by
  rw [evaluate_binary, ha, h]; rfl

/-- `+ - *` return the exact integer iff it is representable, otherwise `overflow` -/
theorem arith_checked (a b : Int) :
    applyBinary es .add (vint a) (vint b) = (if i64Min ≤ a + b ∧ a + b ≤ i64Max then .ok (vint (a + b)) else .error .overflow) ∧
    applyBinary es .sub (vint a) (vint b) = (if i64Min ≤ a - b ∧ a - b ≤ i64Max then .ok (vint (a - b)) else .error .overflow) ∧
    applyBinary es .mul (vint a) (vint b) = (if i64Min ≤ a * b ∧ a * b ≤ i64Max then .ok (vint (a * b)) else .error .overflow) := by
  unfold applyBinary
  refine ⟨?_, ?_, ?_⟩ <;>
    simp only [vint, Value.asInt, intOrErr, inI64, bind, Except.bind, Bool.and_eq_true, decide_eq_true_eq]

theorem neg_checked (a : Int) :
    applyUnary .neg (vint a) = (if i64Min ≤ -a ∧ -a ≤ i64Max then .ok (vint (-a)) else .error .overflow) := by
  unfold applyUnary
  simp only [vint, Value.asInt, intOrErr, inI64, bind, Except.bind, Bool.and_eq_true, decide_eq_true_eq]

theorem neg_min_overflows : applyUnary .neg (vint i64Min) = .error .overflow := by rfl

/-- `==` never errors on values and is the semantic equality `Value.beq` -/
theorem eq_total (v1 v2 : Value) : applyBinary es .eq v1 v2 = .ok (vbool (Value.beq v1 v2)) := rfl

theorem eq_refl (v : Value) : Value.beq v v = true := Value.beq_rfl v
theorem eq_symm (a b : Value) : Value.beq a b = Value.beq b a := Value.beq_comm a b
theorem eq_trans (a b c : Value) : Value.beq a b = true → Value.beq b c = true → Value.beq a c = true :=
  Value.beq_trans

/-- values of different kinds are unequal (never an error) -/
theorem eq_cross_kind (p : Prim) (vs : List Value) (kvs : List (String × Value)) (x : Ext) :
    Value.beq (.prim p) (.set vs) = false ∧ Value.beq (.prim p) (.record kvs) = false ∧
    Value.beq (.prim p) (.ext x) = false ∧ Value.beq (.set vs) (.record kvs) = false ∧
    Value.beq (.set vs) (.ext x) = false ∧ Value.beq (.record kvs) (.ext x) = false := by
  simp [Value.beq]

theorem contains_spec (s : List Value) (v : Value) :
    applyBinary es .contains (.set s) v = .ok (vbool true) ↔ ∃ w, w ∈ s ∧ Value.beq v w = true := by
  unfold applyBinary
  simp only [Value.asSet, bind, Except.bind, vbool]
  exact ok_bool_eq_true.trans (Value.elem_iff v s)

theorem containsAll_spec (s1 s2 : List Value) :
    applyBinary es .containsAll (.set s1) (.set s2) = .ok (vbool true) ↔
      ∀ a, a ∈ s2 → ∃ w, w ∈ s1 ∧ Value.beq a w = true := by
  unfold applyBinary
  simp only [Value.asSet, bind, Except.bind, vbool]
  exact ok_bool_eq_true.trans ((Value.subset_iff s2 s1).trans (by simp only [Value.elem_iff]))

theorem containsAny_spec (s1 s2 : List Value) :
    applyBinary es .containsAny (.set s1) (.set s2) = .ok (vbool true) ↔
      ∃ a, a ∈ s1 ∧ ∃ w, w ∈ s2 ∧ Value.beq a w = true := by
  unfold applyBinary
  simp only [Value.asSet, bind, Except.bind, vbool]
  exact ok_bool_eq_true.trans (by simp only [List.any_eq_true, Value.elem_iff])

theorem isEmpty_spec (s : List Value) : applyUnary .isEmpty (.set s) = .ok (vbool s.isEmpty) := rfl

/-- set operators on a non-set are type errors -/
theorem contains_nonset (v w : Value) (h : ∀ s, v ≠ .set s) : applyBinary es .contains v w = .error .type := by
  unfold applyBinary
  cases v with
  | set s => exact absurd rfl (h s)
  | _ => rfl

/-- set construction keeps membership modulo `beq` … -/
theorem mkSet_mem (xs : List Value) (v : Value) :
    Value.elem v (Value.mkSet xs) = Value.elem v xs := elem_mkSet xs v

/-- … so it is order- and duplicate-insensitive: two element lists with the same members (modulo `beq`)
    build equal sets -/
theorem set_order_dup_insensitive (xs ys : List Value)
    (h : ∀ v, Value.elem v xs = Value.elem v ys) :
    Value.beq (.set (Value.mkSet xs)) (.set (Value.mkSet ys)) = true := by
  have sub : ∀ as bs : List Value, (∀ v, Value.elem v as = Value.elem v bs) →
      Value.subset (Value.mkSet as) (Value.mkSet bs) = true := by
    intro as bs hab
    rw [Value.subset_iff]
    intro a ha
    rw [mkSet_mem, ← hab, ← mkSet_mem]
    exact (Value.elem_iff a _).mpr ⟨a, ha, eq_refl a⟩
  rw [Value.beq]
  simp only [Bool.and_eq_true]
  exact ⟨sub xs ys h, sub ys xs (fun v => (h v).symm)⟩


/-- C02: under the `FastRepr` invariant — established by every constructor (`make_fastRepr`) — each
    operation of the mirror of `ast::value::Set` that picks a fast path returns what the authoritative
    (slow) path returns, i.e. what `evaluate` uses: membership, subset, disjointness and equality modulo `beq`. -/
theorem set_fast_slow_agree (s o : SetRepr) (hs : s.FastRepr) (ho : o.FastRepr) (v : Value) :
    s.contains v = Value.elem v s.authoritative ∧
    s.isSubset o = Value.subset s.authoritative o.authoritative ∧
    s.isDisjoint o = !(s.authoritative.any (fun v => Value.elem v o.authoritative)) ∧
    s.eq o = Value.beq (.set s.authoritative) (.set o.authoritative) :=
  ⟨contains_fast_slow s hs v, isSubset_fast_slow s o hs ho, isDisjoint_fast_slow s o hs ho, eq_fast_slow s o hs ho⟩

theorem set_constructor_establishes_fastRepr (vs : List Value) : (SetRepr.make vs).FastRepr := make_fastRepr vs

/-- `in` is reflexive, also for entities absent from the store -/
theorem in_refl (u : EntityUID) : applyBinary es .mem (.prim (.entityUID u)) (.prim (.entityUID u)) = .ok (vbool true) := by
  unfold applyBinary
  simp [Value.asEntity, bind, Except.bind, inE, vbool]

/-- `in` against a uid reads the stored ancestor set (transitively closed by C04) -/
theorem in_uid_spec (u1 u2 : EntityUID) :
    applyBinary es .mem (.prim (.entityUID u1)) (.prim (.entityUID u2)) =
      .ok (vbool (u1 == u2 || match es.find? u1 with | some d => d.ancestors.contains u2 | none => false)) := rfl

/-- a store is transitively closed when every entity's ancestor set contains the ancestors of its ancestors
    (what C04 establishes for every store the library builds) -/
def TransitivelyClosed (es : Entities) : Prop :=
  ∀ u d, es.find? u = some d → ∀ a, a ∈ d.ancestors → ∀ d', es.find? a = some d' → ∀ b, b ∈ d'.ancestors → b ∈ d.ancestors

/-- `in` is transitive on a transitively closed store (and reflexive by `in_refl`) -/
theorem in_trans (h : TransitivelyClosed es) (u1 u2 u3 : EntityUID)
    (h12 : inE es u1 u2 = true) (h23 : inE es u2 u3 = true) : inE es u1 u3 = true := by
  unfold inE at *
  simp only [Bool.or_eq_true, beq_iff_eq] at *
  rcases h12 with rfl | h12
  · exact h23
  · rcases h23 with rfl | h23
    · exact Or.inr h12
    · right
      cases h1 : es.find? u1 with
      | none => simp [h1] at h12
      | some d1 =>
        simp only [h1, List.contains_eq_mem, decide_eq_true_eq] at h12 ⊢
        cases h2 : es.find? u2 with
        | none => simp [h2] at h23
        | some d2 =>
          simp only [h2, List.contains_eq_mem, decide_eq_true_eq] at h23
          exact h u1 d1 h1 u2 h12 d2 h2 u3 h23

/-- `in` against a set of entities is "in any element" -/
theorem in_set_any (u : EntityUID) (us : List EntityUID) :
    applyBinary es .mem (.prim (.entityUID u)) (.set (us.map (fun x => .prim (.entityUID x)))) =
      .ok (vbool (us.any (inE es u ·))) := by
  have : asEntityList (us.map (fun x => Value.prim (.entityUID x))) = .ok us := by
    induction us with
    | nil => rfl
    | cons x xs ih => simp [asEntityList, Value.asEntity, ih, bind, Except.bind]
  unfold applyBinary
  simp [Value.asEntity, bind, Except.bind, this, vbool]

/-- `has` on an entity that is not in the store is `false`, not an error -/
theorem has_absent_entity_false (e : Expr) (u : EntityUID) (a : String)
    (h : evaluate req es env e = .ok (.prim (.entityUID u))) (habs : es.find? u = none) :
    evaluate req es env (.hasAttr e a) = .ok (.prim (.bool false)) := by
  simp only [evaluate_hasAttr, h, Tpe.bindR, Tpe.hasAttrV, habs]

/-- attribute access on an absent entity is a missing-entity error -/
theorem getAttr_absent_entity_errors (e : Expr) (u : EntityUID) (a : String)
    (h : evaluate req es env e = .ok (.prim (.entityUID u))) (habs : es.find? u = none) :
    evaluate req es env (.getAttr e a) = .error .entity := by
  simp only [evaluate_getAttr, h, Tpe.bindR, Tpe.getAttrV, habs]

/-- attribute access on a present entity: the value or a missing-attribute error -/
theorem getAttr_entity (e : Expr) (u : EntityUID) (a : String) (d : EntityData)
    (h : evaluate req es env e = .ok (.prim (.entityUID u))) (hd : es.find? u = some d) :
    evaluate req es env (.getAttr e a) = (match lookupKV d.attrs a with | some v => .ok v | none => .error .attr) := by
  simp only [evaluate_getAttr, h, Tpe.bindR, Tpe.getAttrV, hd]
  cases lookupKV d.attrs a <;> rfl

theorem hasTag_absent_entity_false (u : EntityUID) (t : String) (habs : es.find? u = none) :
    applyBinary es .hasTag (.prim (.entityUID u)) (.prim (.string t)) = .ok (vbool false) := by
  unfold applyBinary
  simp [Value.asEntity, Value.asString, bind, Except.bind, habs, vbool]

/-- `is` tests the entity type only -/
theorem is_spec (e : Expr) (u : EntityUID) (ty : EntityType)
    (h : evaluate req es env e = .ok (.prim (.entityUID u))) :
    evaluate req es env (.is e ty) = .ok (.prim (.bool (u.ty == ty))) := by
  rw [evaluate_is, h]; rfl

theorem like_eval (e : Expr) (s : String) (p : Pattern)
    (h : evaluate req es env e = .ok (.prim (.string s))) :
    evaluate req es env (.like e p) = .ok (.prim (.bool true)) ↔ Matches p s.toList := by
  rw [evaluate_like, h]
  exact ok_bool_eq_true.trans (like_correct p s.toList)

/-- non-vacuity: concrete evaluations exercising the hypotheses above -/
example :
    let req : Request := ⟨⟨"U", "a"⟩, ⟨"A", "x"⟩, ⟨"R", "r"⟩, [("n", .prim (.int 1))]⟩
    evaluate req [] [] (.and (.lit (.bool false)) (.getAttr (.var .context) "nosuch")) = .ok (.prim (.bool false)) ∧
    evaluate req [] [] (.and (.lit (.bool true)) (.lit (.int 1))) = .error .type ∧
    evaluate req [] [] (.hasAttr (.lit (.entityUID ⟨"U", "zz"⟩)) "n") = .ok (.prim (.bool false)) ∧
    evaluate req [] [] (.binaryApp .add (.lit (.int i64Max)) (.getAttr (.var .context) "n")) = .error .overflow := by
  refine ⟨by rfl, by rfl, by rfl, by rfl⟩

end Cedar.C02
