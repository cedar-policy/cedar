import CedarVerif.Lemmas.TypecheckSteps
/-
C03: soundness of the typechecker model on the second fragment (`InFragmentM`, both modes): the induction on the typing
derivation (`soundCore_of`), with the rules of `TypecheckSteps`.  The type invariant is `mono` (single entity types, no
`Never`): an attribute or tag type of a single entity type is the one the schema declares, and strict bounds (or bounds with a
flat side) preserve it.  A further invariant `Q` of the assigned types can be carried along (`TyInv`).
-/
namespace Cedar.C03

open Cedar

abbrev MonoAnd (Q : CedarType → Prop) (τ : CedarType) : Prop := τ.mono = true ∧ Q τ

/-- what a property `Q` of types needs in order to hold of every type assigned in mode `m` -/
structure TyInv (m : ValidationMode) (s : Schema) (env : RequestEnv) (Q : CedarType → Prop) : Prop where
  flat : ∀ τ, τ.flat = true → Q τ
  entity : ∀ l, Q (.entity l)
  context : Q env.context
  attr : ∀ {τe a req τa}, τe.mono = true → Q τe → lookupAttr s τe a = some (req, τa) → Q τa
  tag : ∀ {T et t}, s.entityType? T = some et → et.tags = some t → Q t
  join : ∀ {τt τe τl}, MonoAnd Q τt → MonoAnd Q τe → lub m τt τe = some τl → Q τl
  set : ∀ {τs τ'}, (∀ t, t ∈ τs → MonoAnd Q t) → τs ≠ [] → lubAll m τs = some τ' → Q (.set (some τ'))
  record : ∀ attrs, (∀ k r t, (k, r, t) ∈ attrs → Q t) → (attrs.map (·.1)).Nodup → Q (.record attrs false)

theorem TyInv.trivial {m : ValidationMode} {s : Schema} {env : RequestEnv} : TyInv m s env (fun _ => True) :=
  ⟨fun _ _ => True.intro, fun _ => True.intro, True.intro, fun _ _ _ => True.intro, fun _ _ => True.intro,
   fun _ _ _ => True.intro, fun _ _ _ => True.intro, fun _ _ _ => True.intro⟩

theorem TyInv.bool {m : ValidationMode} {s : Schema} {env : RequestEnv} {Q : CedarType → Prop} (hQ : TyInv m s env Q)
    (bt : BoolType) : MonoAnd Q (.bool bt) := ⟨rfl, hQ.flat _ rfl⟩

theorem mono_ne_never {τ : CedarType} (h : τ.mono = true) : τ ≠ .never := by
  intro h'; rw [h'] at h; cases h

theorem typeOfList_flat {m : ValidationMode} {s : Schema} {env : RequestEnv} {caps : Capabilities}
    {es : List Expr} {τs : List CedarType} (hf : es.all FlatExpr = true) (h : typeOfList m s env es caps = .ok τs) :
    ∀ t, t ∈ τs → t.flat = true :=
  typeOfList_all h (fun e he _ _ h1 => flat_typeOf (List.all_eq_true.mp hf e he) h1)

variable {H : Prop} {m : ValidationMode} {s : Schema} {env : RequestEnv} {w : World} {Q : CedarType → Prop}
variable {caps : Capabilities} {τ : CedarType} {c : Capabilities}

theorem SoundAt.lit {p : Prim} (hQ : TyInv m s env Q) (h : litType s p = some τ) :
    SoundAt (MonoAnd Q) H w (.lit p) caps τ [] := by
  cases p with
  | bool b =>
    cases b <;> cases h
    · exact ⟨⟨rfl, hQ.flat _ rfl⟩, fun _ _ => Good.value (v := .prim (.bool false)) (by simp [evaluate]) .ff⟩
    · exact ⟨⟨rfl, hQ.flat _ rfl⟩, fun _ _ => Good.value (v := .prim (.bool true)) (by simp [evaluate]) .tt⟩
  | int i =>
    cases h
    exact ⟨⟨rfl, hQ.flat _ rfl⟩, fun _ _ => Good.value (v := .prim (.int i)) (by simp [evaluate]) (.long i)⟩
  | string str =>
    cases h
    exact ⟨⟨rfl, hQ.flat _ rfl⟩, fun _ _ => Good.value (v := .prim (.string str)) (by simp [evaluate]) (.string str)⟩
  | entityUID u =>
    rw [euidLiteralType_some h]
    exact ⟨⟨rfl, hQ.entity _⟩, fun _ _ => Good.value (v := .prim (.entityUID u)) (by simp [evaluate]) (.entity u _ (by simp))⟩

theorem SoundAt.var {v : Var} (hWF : SchemaWF s) (henv : EnvMatches s env w.q) (hQ : TyInv m s env Q)
    (hreq : H → ConformsRequest s w.q) (h : varType s env v = some τ) :
    SoundAt (MonoAnd Q) H w (.var v) caps τ [] := by
  obtain ⟨hp, ha, hr, act, hact, hctx⟩ := henv
  cases v with
  | principal =>
    cases h
    exact ⟨⟨rfl, hQ.entity _⟩, fun _ _ => Good.value (v := .prim (.entityUID w.q.principal)) (by simp [evaluate]) (.entity _ _ (by simp [hp]))⟩
  | resource =>
    cases h
    exact ⟨⟨rfl, hQ.entity _⟩, fun _ _ => Good.value (v := .prim (.entityUID w.q.resource)) (by simp [evaluate]) (.entity _ _ (by simp [hr]))⟩
  | action =>
    rw [euidLiteralType_some h]
    exact ⟨⟨rfl, hQ.entity _⟩, fun _ _ => Good.value (v := .prim (.entityUID w.q.action)) (by simp [evaluate]) (.entity _ _ (by simp [ha]))⟩
  | context =>
    cases h
    refine ⟨⟨hctx ▸ (hWF.act_wf _ _ hact).1, hQ.context⟩, fun hs _ => ?_⟩
    rw [hctx]
    obtain ⟨_, _, _, _, _, act', hact', _, hinst⟩ := hreq hs
    rw [hact] at hact'; cases hact'
    exact Good.value (v := .record w.q.context) (by simp [evaluate]) hinst

theorem SoundAt.slot {x : SlotId} (hf : InFragmentM m env (.slot x) = true) (hQ : TyInv m s env Q)
    (hsl : H → SlotsMatch env w.sl) (h : slotType env x = τ) :
    SoundAt (MonoAnd Q) H w (.slot x) caps τ [] := by
  subst h
  cases x with
  | principal =>
    simp only [InFragmentM] at hf
    cases hx : env.principalSlot with
    | none => rw [hx] at hf; cases hf
    | some t =>
      simp only [slotType, hx]
      refine ⟨⟨rfl, hQ.entity _⟩, fun hs _ => ?_⟩
      obtain ⟨u, hu, hty⟩ := (hsl hs).1 t hx
      exact Good.value (v := .prim (.entityUID u)) (by simp [evaluate, hu]) (.entity u _ (by simp [hty]))
  | resource =>
    simp only [InFragmentM] at hf
    cases hx : env.resourceSlot with
    | none => rw [hx] at hf; cases hf
    | some t =>
      simp only [slotType, hx]
      refine ⟨⟨rfl, hQ.entity _⟩, fun hs _ => ?_⟩
      obtain ⟨u, hu, hty⟩ := (hsl hs).2 t hx
      exact Good.value (v := .prim (.entityUID u)) (by simp [evaluate, hu]) (.entity u _ (by simp [hty]))

section operand
variable {e : Expr} {τe : CedarType} {ce : Capabilities}

theorem SoundAt.getAttr {a : String} (hWF : SchemaWF s) (hQ : TyInv m s env Q) (hst : H → StoreConforms s w.es)
    (hr : getAttrRule s e a caps τe = .ok (τ, c)) (ihe : SoundAt (MonoAnd Q) H w e caps τe ce) :
    SoundAt (MonoAnd Q) H w (.getAttr e a) caps τ c := by
  obtain ⟨hsub, hne, hk⟩ := getAttrRule_inv hr
  obtain ⟨req, hl, hcond, rfl⟩ := getAttrCont_ok hk
  obtain ⟨⟨hme, hqe⟩, ge⟩ := ihe
  refine ⟨⟨lookupAttr_mono hWF hme hl, hQ.attr hme hqe hl⟩, fun hs hc =>
    getAttr_good_any hWF (hst hs) hc (ge hs hc).1 (shape_attr_operand hne hsub) hl hcond (fun l hτ T hT => ?_)⟩
  -- a single entity type is its own only member
  subst hτ
  obtain ⟨T', rfl⟩ := mono_entity hme
  cases List.mem_singleton.mp hT
  exact ⟨req, τ, hl, id, .refl _⟩

end operand

theorem tag_mono (hWF : SchemaWF s) (hQ : TyInv m s env Q) {τa : CedarType} (hma : τa.mono = true) (l : List EntityType)
    (hτ : τa = .entity l) (hne : tagTypes s l ≠ []) (hlub : lubAll m (tagTypes s l) = some τ) :
    MonoAnd Q τ ∧ ∀ t, t ∈ tagTypes s l → Below t τ := by
  subst hτ
  obtain ⟨T, rfl⟩ := mono_entity hma
  obtain ⟨et, het, htag, hts⟩ := tagTypes_single_bound hne hlub
  refine ⟨⟨(hWF.et_mono _ _ het).2 _ htag, hQ.tag het htag⟩, fun t ht => ?_⟩
  rw [hts, List.mem_singleton] at ht
  exact ht ▸ .refl _

/-- the bound of the branch types of an `if`: strict bounds preserve `mono`; in permissive mode one branch is flat -/
theorem join_mono {t e : Expr} {ct ce cpt cpe : Capabilities} {τt τe τl : CedarType} (hQ : TyInv m s env Q)
    (hmode : (m.isStrict || FlatExpr t || FlatExpr e) = true)
    (dt : HasType m s env t ct τt cpt) (de : HasType m s env e ce τe cpe)
    (hmt : MonoAnd Q τt) (hme : MonoAnd Q τe) (hl : lub m τt τe = some τl) :
    MonoAnd Q τl ∧ Below τt τl := by
  suffices h : τl.mono = true ∧ Below τt τl from ⟨⟨h.1, hQ.join hmt hme hl⟩, h.2⟩
  obtain ⟨hmt, _⟩ := hmt
  obtain ⟨hme, _⟩ := hme
  cases m with
  | strict => exact ⟨lub_mono hl hmt hme, (lub_inst hl).1 (Or.inl rfl)⟩
  | permissive =>
    simp only [ValidationMode.isStrict, Bool.false_or, Bool.or_eq_true] at hmode
    obtain ⟨hlt, _, hshape⟩ := lub_flat hl (hmode.imp dt.flat de.flat)
    refine ⟨?_, hlt⟩
    rcases hshape with h1 | h1 | h1 <;> rw [h1]
    · exact hmt
    · exact hme
    · rfl

theorem set_mono {es : List Expr} {caps : Capabilities} {τs : List CedarType} {τ' : CedarType} (hQ : TyInv m s env Q)
    (hmode : (m.isStrict || (es.all FlatExpr && !es.isEmpty)) = true)
    (hL : typeOfList m s env es caps = .ok τs) (hms : ∀ t, t ∈ τs → MonoAnd Q t)
    (hne : (m.isStrict && es.isEmpty) = false) (hlub : lubAll m τs = some τ') :
    MonoAnd Q (.set (some τ')) ∧ (ListGood w es τs → Good w (.set es) (.set (some τ')) []) := by
  have hne' : τs ≠ [] :=
    typeOfList_ne_nil hL (by rintro rfl; cases m <;> simp [ValidationMode.isStrict] at hne hmode)
  suffices h : (CedarType.set (some τ')).mono = true ∧ (ListGood w es τs → Good w (.set es) (.set (some τ')) []) from
    ⟨⟨h.1, hQ.set hms hne' hlub⟩, h.2⟩
  replace hms : ∀ t, t ∈ τs → t.mono = true := fun t ht => (hms t ht).1
  cases m with
  | strict => exact ⟨(lubAll_spec hlub hne').2 hms, fun hl => set_good_of_bound hl (lubAll_spec hlub hne').1⟩
  | permissive =>
    simp only [ValidationMode.isStrict, Bool.false_or, Bool.and_eq_true] at hmode
    have hall : ∀ t, t ∈ τs → t.flat = true ∧ t ≠ .never :=
      fun t ht => ⟨typeOfList_flat hmode.1 hL t ht, mono_ne_never (hms t ht)⟩
    exact ⟨(lubAll_flat_spec hlub hne' hall).2, fun hl => set_good_of_bound hl (lubAll_flat_spec hlub hne' hall).1⟩

/-- The semantic premises.  Request and store conformance are needed throughout; what the rules for `in` and for template
slots rely on is asked for only when the induction goes beyond the first fragment (`basic = false`). -/
structure Premises (basic : Bool) (s : Schema) (env : RequestEnv) (w : World) : Prop where
  req : ConformsRequest s w.q
  store : StoreConforms s w.es
  wf2 : basic = false → SchemaWF2 s
  slots : basic = false → SlotsMatch env w.sl
  actions : basic = false → ActionsPresent s w.es

theorem not_basic {basic : Bool} {e : Expr} (hb : basic = true → InFragment e = true) (hn : InFragment e = false) :
    basic = false := by
  cases basic
  · rfl
  · rw [hb rfl] at hn; cases hn

theorem of_not_basic {basic : Bool} {p : Prop} (hbf : basic = false) (h : basic = true) : p := by
  rw [hbf] at h; cases h

theorem inFragmentMList_mem {es : List Expr} : InFragmentMList m env es = true → ∀ x, x ∈ es → InFragmentM m env x = true :=
  listAll_mem (fun _ _ => rfl)

theorem inFragmentMKVs_mem {kvs : List (String × Expr)} :
    InFragmentMKVs m env kvs = true → ∀ kv, kv ∈ kvs → InFragmentM m env kv.2 = true :=
  listAll_mem (F := fun (kv : String × Expr) => InFragmentM m env kv.2) (fun _ _ => rfl)

theorem soundCore_of (basic : Bool) (hWF : SchemaWF s) (henv : EnvMatches s env w.q) (hQ : TyInv m s env Q)
    {e : Expr} (d : HasType m s env e caps τ c) :
    InFragmentM m env e = true → (basic = true → InFragment e = true) →
      SoundAt (MonoAnd Q) (Premises basic s env w) w e caps τ c := by
  induction d with
  | lit h => exact fun _ _ => .lit hQ h
  | var h => exact fun _ _ => .var hWF henv hQ (·.req) h
  | @slot x _ _ h => exact fun hf hb => .slot hf hQ (fun hs => hs.slots (not_basic hb (by cases x <;> rfl))) h
  | iteTrue _ _ ihc iht =>
    intro hf hb
    simp only [InFragmentM, InFragment, Bool.and_eq_true] at hf hb
    exact .iteTrue (ihc hf.1.1.1 (hb · |>.1.1.1)) (iht hf.1.1.2 (hb · |>.1.1.2))
  | iteFalse _ _ ihc ihe =>
    intro hf hb
    simp only [InFragmentM, InFragment, Bool.and_eq_true] at hf hb
    exact .iteFalse (ihc hf.1.1.1 (hb · |>.1.1.1)) (ihe hf.1.2 (hb · |>.1.2))
  | ite _ hbc _ _ dt de hl ihc iht ihe =>
    intro hf hb
    simp only [InFragmentM, InFragment, Bool.and_eq_true] at hf hb
    have st := iht hf.1.1.2 (hb · |>.1.1.2)
    have se := ihe hf.1.2 (hb · |>.1.2)
    obtain ⟨hml, hlt⟩ := join_mono hQ (by simpa only [Bool.or_assoc] using hf.2) dt de st.1 se.1 hl
    exact .ite hbc hl (mono_ne_never se.1.1) hml hlt (ihc hf.1.1.1 (hb · |>.1.1.1)) st se
  | andFalse _ iha =>
    intro hf hb
    simp only [InFragmentM, InFragment, Bool.and_eq_true] at hf hb
    exact .andFalse hQ.bool (iha hf.1 (hb · |>.1))
  | and _ hba _ _ hbb iha ihb =>
    intro hf hb
    simp only [InFragmentM, InFragment, Bool.and_eq_true] at hf hb
    exact .and hQ.bool hba hbb (iha hf.1 (hb · |>.1)) (ihb hf.2 (hb · |>.2))
  | orTrue _ iha =>
    intro hf hb
    simp only [InFragmentM, InFragment, Bool.and_eq_true] at hf hb
    exact .orTrue hQ.bool (iha hf.1 (hb · |>.1))
  | or _ hba _ _ hbb iha ihb =>
    intro hf hb
    simp only [InFragmentM, InFragment, Bool.and_eq_true] at hf hb
    exact .or hQ.bool hba hbb (iha hf.1 (hb · |>.1)) (ihb hf.2 (hb · |>.2))
  | @unary op _ _ _ _ _ _ _ hr iha =>
    intro hf hb
    simp only [InFragmentM, InFragment, Bool.and_eq_true] at hf hb
    have iha := iha hf (hb · |>.2)
    cases op with
    | not => exact .not hQ.bool hr iha
    | neg => exact .neg ⟨rfl, hQ.flat _ rfl⟩ hr iha
    | isEmpty => exact .isEmpty hQ.bool hr iha
  | @binary op _ _ _ _ _ _ _ _ _ da _ hr iha ihb =>
    intro hf hb
    simp only [InFragmentM, InFragment, Bool.and_eq_true] at hf hb
    have iha := iha hf.1.2 (hb · |>.1.2)
    have ihb := ihb hf.2 (hb · |>.2)
    cases op with
    | eq => exact .eq henv hQ.bool hr iha ihb
    | less => exact .cmp (Or.inl rfl) (mono_ne_never iha.1.1) (mono_ne_never ihb.1.1) hQ.bool hr iha ihb
    | lessEq => exact .cmp (Or.inr rfl) (mono_ne_never iha.1.1) (mono_ne_never ihb.1.1) hQ.bool hr iha ihb
    | add => exact .arith (Or.inl rfl) ⟨rfl, hQ.flat _ rfl⟩ hr iha ihb
    | sub => exact .arith (Or.inr (Or.inl rfl)) ⟨rfl, hQ.flat _ rfl⟩ hr iha ihb
    | mul => exact .arith (Or.inr (Or.inr rfl)) ⟨rfl, hQ.flat _ rfl⟩ hr iha ihb
    | contains => exact .contains hQ.bool hr iha ihb
    | containsAll => exact .containsAll hQ.bool hr iha ihb
    | containsAny => exact .containsAny hQ.bool hr iha ihb
    | mem =>
      have hbf : basic = false := by
        cases basic
        · rfl
        · exact absurd (hb rfl).1.1 (by decide)
      exact .mem henv hQ.bool (fun hs => ⟨hs.wf2 hbf, hs.store, hs.actions hbf⟩) da.typeOf_eq hr iha ihb
    | hasTag => exact .hasTag hQ.bool (·.store) hr iha ihb
    | getTag => exact .getTag (·.store) (tag_mono hWF hQ iha.1.1) hr iha ihb
  | getAttr _ hr ihe =>
    intro hf hb
    simp only [InFragmentM, InFragment, Bool.and_eq_true] at hf hb
    exact .getAttr hWF hQ (·.store) hr (ihe hf hb)
  | hasAttr _ hr ihe =>
    intro hf hb
    simp only [InFragmentM, InFragment, Bool.and_eq_true] at hf hb
    exact .hasAttr hWF hQ.bool (·.store) hr (ihe hf hb)
  | like _ hse ihe =>
    intro hf hb
    simp only [InFragmentM, InFragment, Bool.and_eq_true] at hf hb
    exact .like hQ.bool hse (ihe hf hb)
  | is _ hr ihe =>
    intro hf hb
    simp only [InFragmentM, InFragment, Bool.and_eq_true] at hf hb
    exact .is hQ.bool hr (ihe hf hb)
  | call _ hL hr ih =>
    intro hf hb
    simp only [InFragmentM] at hf
    have hbf := not_basic hb rfl
    exact .call (fun _ hsig => ⟨extSig_ret_mono hsig, hQ.flat _ (extSig_ret_flat hsig)⟩) hL hr
      (SoundAt.list hL fun x hx τx cx h => ih x hx τx cx h (inFragmentMList_mem hf x hx) (of_not_basic hbf))
  | set _ hL hne hlub ih =>
    intro hf hb
    simp only [InFragmentM, Bool.and_eq_true] at hf
    have hbf := not_basic hb rfl
    have ihl := SoundAt.list hL fun x hx τx cx h => ih x hx τx cx h (inFragmentMList_mem hf.1 x hx) (of_not_basic hbf)
    obtain ⟨hp, hg⟩ := set_mono (w := w) hQ hf.2 hL ihl.1 hne hlub
    exact .set hp hg ihl
  | record _ hL ih =>
    intro hf hb
    simp only [InFragmentM, Bool.and_eq_true, decide_eq_true_eq] at hf
    have hbf := not_basic hb rfl
    exact .record hf.2 (fun hms hn => ⟨monoAttrs_iff.mpr fun k r t h => (hms k r t h).1,
      hQ.record _ (fun k r t h => (hms k r t h).2) hn⟩) hL
      (SoundAt.kvs hL fun kv hkv τx cx h => ih kv hkv τx cx h (inFragmentMKVs_mem hf.1 kv hkv) (of_not_basic hbf))

theorem soundCore (basic : Bool) {m : ValidationMode} {s : Schema} {env : RequestEnv} {w : World} {Q : CedarType → Prop}
    (hWF : SchemaWF s) (henv : EnvMatches s env w.q) (hQ : TyInv m s env Q) :
    ∀ (e : Expr), InFragmentM m env e = true → (basic = true → InFragment e = true) →
      ∀ (caps : Capabilities) (τ : CedarType) (c' : Capabilities), typeOf m s env e caps = .ok (τ, c') →
      SoundAt (MonoAnd Q) (Premises basic s env w) w e caps τ c' :=
  fun e hf hb caps τ c' h => soundCore_of basic hWF henv hQ (typeOf_hasType e caps τ c' h) hf hb

theorem soundCoreKVs (basic : Bool) {m : ValidationMode} {s : Schema} {env : RequestEnv} {w : World} {Q : CedarType → Prop}
    (hWF : SchemaWF s) (henv : EnvMatches s env w.q) (hQ : TyInv m s env Q) (hbf : basic = false) :
    ∀ (kvs : List (String × Expr)), InFragmentMKVs m env kvs = true → ∀ (caps : Capabilities) (attrs : Attrs),
      typeOfKVs m s env kvs caps = .ok attrs →
      (∀ k r t, (k, r, t) ∈ attrs → MonoAnd Q t) ∧ (Premises basic s env w → CapsHold w caps → KVsGood w kvs attrs) :=
  fun kvs hf caps _ h => SoundAt.kvs h fun kv hkv τx cx hx' =>
    soundCore basic hWF henv hQ kv.2 (inFragmentMKVs_mem hf kv hkv) (of_not_basic hbf) caps τx cx hx'

theorem Sem.premises {s : Schema} {env : RequestEnv} {w : World} (hWF : SchemaWF2 s) (hs : Sem s env w) :
    Premises false s env w :=
  ⟨hs.req, hs.store, fun _ => hWF, fun _ => hs.slots, fun _ => hs.actions⟩

theorem soundM {m : ValidationMode} {s : Schema} {env : RequestEnv} {w : World} (hWF : SchemaWF2 s) (henv : EnvMatches s env w.q) :
    ∀ (e : Expr), InFragmentM m env e = true → ∀ (caps : Capabilities) (τ : CedarType) (c' : Capabilities),
      typeOf m s env e caps = .ok (τ, c') → τ.mono = true ∧ (Sem s env w → CapsHold w caps → Good w e τ c')
  | e, hf, caps, τ, c', h =>
    (soundCore false hWF.toSchemaWF henv .trivial e hf nofun caps τ c' h).imp (·.1) (· ∘ Sem.premises hWF)
theorem soundMKVs {m : ValidationMode} {s : Schema} {env : RequestEnv} {w : World} (hWF : SchemaWF2 s) (henv : EnvMatches s env w.q) :
    ∀ (kvs : List (String × Expr)), InFragmentMKVs m env kvs = true → ∀ (caps : Capabilities) (attrs : Attrs),
      typeOfKVs m s env kvs caps = .ok attrs →
      monoAttrs attrs = true ∧ (Sem s env w → CapsHold w caps → KVsGood w kvs attrs)
  | kvs, hf, caps, attrs, h =>
    (soundCoreKVs false hWF.toSchemaWF henv .trivial rfl kvs hf caps attrs h).imp
      (fun hm => monoAttrs_iff.mpr fun k r t ht => (hm k r t ht).1) (· ∘ Sem.premises hWF)

theorem sound2 {s : Schema} {env : RequestEnv} {w : World} (hWF : SchemaWF2 s) (henv : EnvMatches s env w.q) :
    ∀ (e : Expr), InFragment2 env e = true → ∀ (caps : Capabilities) (τ : CedarType) (c' : Capabilities),
      typeOf .strict s env e caps = .ok (τ, c') → τ.mono = true ∧ (Sem s env w → CapsHold w caps → Good w e τ c') :=
  soundM (m := .strict) hWF henv

/-- the world of `sound2` plays no part in the type half -/
theorem typeOf_mono_strict {s : Schema} {env : RequestEnv} {q : Request} (hWF : SchemaWF2 s) (henv : EnvMatches s env q)
    (e : Expr) (hf : InFragment2 env e = true) (caps : Capabilities) (τ : CedarType) (c' : Capabilities)
    (h : typeOf .strict s env e caps = .ok (τ, c')) : τ.mono = true :=
  (sound2 (w := ⟨q, [], []⟩) hWF henv e hf caps τ c' h).1

end Cedar.C03

-- `InFragment` lies inside `InFragmentM` and uses neither `in` nor slots, so the induction applies with a schema that is only
-- `SchemaWF` and without premises on slots and action entities.

namespace Cedar

open C03

theorem inFragmentM_of_inFragment (m : ValidationMode) (env : RequestEnv) :
    ∀ (e : Expr), InFragment e = true → InFragmentM m env e = true
  | .lit _, _ => rfl
  | .var _, _ => rfl
  | .ite c t e, h => by
    simp only [InFragment, Bool.and_eq_true, Bool.or_eq_true] at h
    simp only [InFragmentM, Bool.and_eq_true, Bool.or_eq_true]
    exact ⟨⟨⟨inFragmentM_of_inFragment m env c h.1.1.1, inFragmentM_of_inFragment m env t h.1.1.2⟩,
      inFragmentM_of_inFragment m env e h.1.2⟩, h.2.imp Or.inr id⟩
  | .and a b, h | .or a b, h => by
    simp only [InFragment, Bool.and_eq_true] at h
    simp only [InFragmentM, Bool.and_eq_true]
    exact ⟨inFragmentM_of_inFragment m env a h.1, inFragmentM_of_inFragment m env b h.2⟩
  | .unaryApp _ a, h => by
    simp only [InFragment, Bool.and_eq_true] at h
    simp only [InFragmentM]
    exact inFragmentM_of_inFragment m env a h.2
  | .binaryApp op a b, h => by
    simp only [InFragment, Bool.and_eq_true] at h
    simp only [InFragmentM, Bool.and_eq_true, binOpOK_all, true_and]
    exact ⟨inFragmentM_of_inFragment m env a h.1.2, inFragmentM_of_inFragment m env b h.2⟩
  | .getAttr e _, h | .hasAttr e _, h | .like e _, h | .is e _, h => by
    simp only [InFragment] at h
    simp only [InFragmentM]
    exact inFragmentM_of_inFragment m env e h
  | .slot _, h | .unknown _ _, h | .call _ _, h | .set _, h | .record _, h => by cases h

theorem typeOf_mono {m : ValidationMode} {s : Schema} {env : RequestEnv} {q : Request}
    (hWF : SchemaWF s) (henv : EnvMatches s env q) :
    ∀ (e : Expr), InFragment e = true → ∀ (caps : Capabilities) (τ : CedarType) (c' : Capabilities),
      typeOf m s env e caps = .ok (τ, c') → τ.mono = true
  | e, hf, caps, τ, c', h =>
    (soundCore true (w := ⟨q, [], []⟩) hWF henv .trivial e (inFragmentM_of_inFragment m env e hf) (fun _ => hf) caps τ c' h).1.1

theorem typeOf_sound_aux {m : ValidationMode} {s : Schema} {env : RequestEnv} {w : World}
    (hWF : SchemaWF s) (henv : EnvMatches s env w.q) (hreq : ConformsRequest s w.q) (hst : StoreConforms s w.es) :
    ∀ (e : Expr), InFragment e = true → ∀ (caps : Capabilities) (τ : CedarType) (c' : Capabilities),
      typeOf m s env e caps = .ok (τ, c') → CapsHold w caps → Good w e τ c'
  | e, hf, caps, τ, c', h, hc =>
    (soundCore true hWF henv .trivial e (inFragmentM_of_inFragment m env e hf) (fun _ => hf) caps τ c' h).2
      ⟨hreq, hst, nofun, nofun, nofun⟩ hc

end Cedar
