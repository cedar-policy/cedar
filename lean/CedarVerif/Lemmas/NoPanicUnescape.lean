import CedarVerif.Cedar.NoPanic.Unescape
import CedarVerif.Lemmas.NoPanicUtf8
/-
C20 lemmas for `Cedar/NoPanic/Unescape.lean`: the sub-parsers leave a suffix of the iterator they were given, hence every
callback range of `Unescape::unescape` is `bytes pre .. bytes pre + bytes mid` for a decomposition `src = pre ++ mid ++ post`:
in bounds, ordered, and on char boundaries.
-/
namespace Cedar
namespace NoPanic
open Cedar.Syntax (EscErr hexVal charOfCode isSkippedWs)
open Cedar.Ext.IPAddr (utf8Len)

theorem ite_suffix {p : Prop} [Decidable p] {a b : Step} {l : List Char}
    (ha : a.2 <:+ l) (hb : b.2 <:+ l) : (if p then a else b).2 <:+ l :=
  ite_of (P := fun s : Step => s.2 <:+ l) ha hb

theorem hexEscape_suffix : ∀ l : List Char, (hexEscape l).2 <:+ l
  | [] => List.suffix_refl _
  | [hi] => by
    simp only [hexEscape]
    cases hexVal hi <;> first | exact List.suffix_cons _ _ | exact List.suffix_refl _
  | hi :: lo :: r => by
    have h2 : r <:+ hi :: lo :: r := (List.suffix_cons _ _).trans (List.suffix_cons _ _)
    simp only [hexEscape]
    cases hexVal hi with
    | none => exact List.suffix_cons _ _
    | some h => cases hexVal lo <;> exact h2

theorem unicodeLoop_suffix : ∀ (l : List Char) (value nd : Nat), (unicodeLoop value nd l).2 <:+ l
  | [], _, _ => List.suffix_refl _
  | c :: r, value, nd => by
    have hr := List.suffix_cons c r
    have ih := fun v n => (unicodeLoop_suffix r v n).trans hr
    unfold unicodeLoop
    refine ite_suffix (ih _ _) (ite_suffix hr ?_)
    cases hexVal c with
    | none => exact hr
    | some d => exact ite_suffix (ih _ _) (ih _ _)

theorem unicodeEscape_suffix : ∀ l : List Char, (unicodeEscape l).2 <:+ l
  | [] => List.suffix_refl _
  | [b] => by
    unfold unicodeEscape
    exact ite_suffix (List.suffix_cons _ _) List.nil_suffix
  | b :: d :: r => by
    have h1 := List.suffix_cons b (d :: r)
    have h2 : r <:+ b :: d :: r := (List.suffix_cons _ _).trans h1
    unfold unicodeEscape
    refine ite_suffix h1 (ite_suffix h2 (ite_suffix h2 ?_))
    cases hexVal d with
    | none => exact h2
    | some v => exact (unicodeLoop_suffix _ _ _).trans h2

theorem unescape1_suffix : ∀ l : List Char, (unescape1 l).2 <:+ l
  | [] => List.suffix_refl _
  | c :: r => by
    have hr := List.suffix_cons c r
    unfold unescape1
    exact ite_suffix hr <| ite_suffix hr <| ite_suffix hr <| ite_suffix hr <| ite_suffix hr <| ite_suffix hr <|
      ite_suffix hr <| ite_suffix ((hexEscape_suffix r).trans hr) <| ite_suffix ((unicodeEscape_suffix r).trans hr) hr

def AllGood (src : List Char) (cbs : List Callback) : Prop := ∀ cb ∈ cbs, GoodRange src cb.start cb.stop

/-- the callback range of the char `c` at `src = pre ++ c :: rest`, when the sub-parser left `rest' <:+ rest` -/
theorem GoodRange.of_suffix {pre rest rest' : List Char} {c : Char} (hs : rest' <:+ rest) :
    GoodRange (pre ++ c :: rest) (bytes (pre ++ c :: rest) - bytes rest - utf8Len c) (bytes (pre ++ c :: rest) - bytes rest') := by
  obtain ⟨mid, rfl⟩ := hs
  refine ⟨pre, c :: mid, rest', by simp, ?_, ?_⟩ <;> simp only [bytes_append, bytes]
  · exact Nat.sub_eq_of_eq_add (Nat.sub_eq_of_eq_add (by simp only [Nat.add_assoc]))
  · exact Nat.sub_eq_of_eq_add (by simp only [Nat.add_assoc])

def LoopOk (src : List Char) (o : UnescOutcome) : Prop := ∃ cbs, o = .done cbs ∧ AllGood src cbs

theorem LoopOk.cons {src : List Char} {cb : Callback} (hcb : GoodRange src cb.start cb.stop) :
    ∀ {o : UnescOutcome}, LoopOk src o → LoopOk src (match o with
      | .done cbs => .done (cb :: cbs)
      | other => other)
  | _, ⟨_, rfl, hg⟩ => ⟨_, rfl, fun x hx => (List.mem_cons.mp hx).elim (fun e => e ▸ hcb) (hg x)⟩

theorem unescapeLoop_ok (src : List Char) : ∀ (n : Nat) (chars : List Char), chars <:+ src → chars.length < n →
    LoopOk src (unescapeLoop src n chars)
  | 0, _, _, h => absurd h (Nat.not_lt_zero _)
  | n + 1, [], _, _ => ⟨[], rfl, fun _ h => nomatch h⟩
  | n + 1, c :: rest, ⟨pre, hsrc⟩, hlen => by
    have hrest : rest <:+ src := ⟨pre ++ [c], by rw [← hsrc, List.append_assoc]; rfl⟩
    have hlen' : rest.length < n := Nat.lt_of_succ_lt_succ hlen
    have hb := suffix_bytes hrest
    have hb' : bytes src = bytes pre + (utf8Len c + bytes rest) := by rw [← hsrc, bytes_append, bytes]
    -- what `emit` does for a suffix `rest'` of `rest`, whatever stands in the underflow branch
    have emit_ok : ∀ (p : UnescOutcome) (res : Except EscErr Char) (rest' : List Char), rest' <:+ rest →
        LoopOk src (if bytes src < bytes rest' then p
          else match unescapeLoop src n rest' with
            | .done cbs => .done ({ start := bytes src - bytes rest - utf8Len c, stop := bytes src - bytes rest', res := res } :: cbs)
            | other => other) := by
      intro p res rest' hs'
      rw [if_neg (Nat.not_lt.mpr (suffix_bytes (hs'.trans hrest)))]
      refine LoopOk.cons ?_ (unescapeLoop_ok src n rest' (hs'.trans hrest) (Nat.lt_of_le_of_lt hs'.length_le hlen'))
      subst hsrc; exact GoodRange.of_suffix hs'
    rw [unescapeLoop, if_neg (Nat.not_lt.mpr hb), if_neg (by omega)]
    refine ite_of (P := LoopOk src) ?_
      (ite_of (emit_ok _ _ rest (List.suffix_refl _)) (ite_of (emit_ok _ _ rest (List.suffix_refl _)) (emit_ok _ _ rest (List.suffix_refl _))))
    split
    · rename_i rest1
      simp only [takeWhile_slice]
      exact unescapeLoop_ok src n _ ((List.dropWhile_suffix _).trans ((List.suffix_cons _ _).trans hrest))
        (Nat.lt_of_le_of_lt (List.dropWhile_suffix _).length_le (Nat.lt_of_succ_lt hlen'))
    · exact emit_ok _ (unescape1 rest).1 (unescape1 rest).2 (unescape1_suffix rest)

theorem unescapeCallbacks_ok (src : List Char) : LoopOk src (unescapeCallbacks src) :=
  unescapeLoop_ok src (src.length + 1) src (List.suffix_refl _) (Nat.lt_succ_self _)

theorem consume_ok (src : List Char) (pat : Bool) : ∀ (cbs : List Callback), AllGood src cbs →
    ∃ acc shown, consume src pat cbs = .ret acc shown
  | [], _ => ⟨true, [], rfl⟩
  | cb :: cbs, h => by
    obtain ⟨acc, shown, hr⟩ := consume_ok src pat cbs (fun x hx => h x (List.mem_cons_of_mem _ hx))
    obtain ⟨mid, hm, hbr⟩ := (h cb (List.mem_cons_self ..)).slice
    unfold consume
    split
    · exact ⟨acc, shown, hr⟩
    · rename_i e _
      simp only [hbr, Bool.not_true, Bool.and_false, Bool.false_eq_true, if_false, hm]
      split
      · exact ⟨acc, shown, hr⟩
      · simp only [hr]
        exact ⟨false, mid :: shown, rfl⟩

theorem unescapeSlices_ok (src : List Char) (pat : Bool) : ∃ acc shown, unescapeSlices src pat = .ret acc shown := by
  unfold unescapeSlices
  obtain ⟨cbs, hc, hg⟩ := unescapeCallbacks_ok src
  rw [hc]
  exact consume_ok src pat cbs hg

end NoPanic
end Cedar
