import CedarVerif.Lemmas.ManifestSlicer
/-
Store-level monotonicity of the slicer (`sliceStorePure_mono`).  The order `AccessTrie.le` compares requested paths and
`is_ancestor` marks only; pruning (`prune_child_entity_dereferences`) reads the `is_entity_type` annotations, so the slice is
monotone only when the annotations agree: `FlagsAgree t t'` — at corresponding nodes, the larger trie is annotated
entity-typed only where the smaller one is.  `AccessTrie.leA` is the two as one recursive order (`leA_of_le_agree`, `le_of_leA`).
-/
namespace Cedar.Manifest
open Cedar

-- `t₁ ≤ t₂` and the annotations agree (ancestors tries are compared by `rootsLe` only: nothing reads annotations there)
mutual
def AccessTrie.leA : AccessTrie → AccessTrie → Prop
  | .mk c1 a1 i1 e1, t2 =>
    fieldsLeA c1 t2.children ∧ rootsLe a1 t2.ancestors ∧ (i1 = true → t2.isAncestor = true) ∧ (t2.isEntity = true → e1 = true)
def fieldsLeA : Fields → Fields → Prop
  | [], _ => True
  | (k, t) :: rest, c2 => (∃ t2, lookupField c2 k = some t2 ∧ AccessTrie.leA t t2) ∧ fieldsLeA rest c2
end

def rootsLeA : RootAccessTrie → RootAccessTrie → Prop
  | [], _ => True
  | (k, t) :: rest, c2 => (∃ t2, lookupRoot c2 k = some t2 ∧ AccessTrie.leA t t2) ∧ rootsLeA rest c2

-- the annotation side condition alone: at corresponding nodes (same path of fields), `t₂` is annotated entity-typed only
-- where `t₁` is
mutual
def FlagsAgree : AccessTrie → AccessTrie → Prop
  | .mk c1 _ _ e1, t2 => (t2.isEntity = true → e1 = true) ∧ fieldsAgree c1 t2.children
def fieldsAgree : Fields → Fields → Prop
  | [], _ => True
  | (k, t) :: rest, c2 => (∀ t2, lookupField c2 k = some t2 → FlagsAgree t t2) ∧ fieldsAgree rest c2
end

def FlagsAgreeRoots : RootAccessTrie → RootAccessTrie → Prop
  | [], _ => True
  | (k, t) :: rest, c2 => (∀ t2, lookupRoot c2 k = some t2 → FlagsAgree t t2) ∧ FlagsAgreeRoots rest c2

theorem fieldsAgree_iff (c1 c2 : Fields) :
    fieldsAgree c1 c2 ↔ ∀ k t, (k, t) ∈ c1 → ∀ t2, lookupField c2 k = some t2 → FlagsAgree t t2 :=
  forall_mem_of_eqns (S := fun c => fieldsAgree c c2) trivial (fun _ _ _ => Iff.rfl) c1

theorem flagsAgreeRoots_iff (c1 c2 : RootAccessTrie) :
    FlagsAgreeRoots c1 c2 ↔ ∀ k t, (k, t) ∈ c1 → ∀ t2, lookupRoot c2 k = some t2 → FlagsAgree t t2 :=
  forall_mem_of_eqns (S := fun c => FlagsAgreeRoots c c2) trivial (fun _ _ _ => Iff.rfl) c1

theorem fieldsLeA_iff (c1 c2 : Fields) :
    fieldsLeA c1 c2 ↔ ∀ k t, (k, t) ∈ c1 → ∃ t2, lookupField c2 k = some t2 ∧ AccessTrie.leA t t2 :=
  forall_mem_of_eqns (S := fun c => fieldsLeA c c2) trivial (fun _ _ _ => Iff.rfl) c1

theorem rootsLeA_iff (c1 c2 : RootAccessTrie) :
    rootsLeA c1 c2 ↔ ∀ k t, (k, t) ∈ c1 → ∃ t2, lookupRoot c2 k = some t2 ∧ AccessTrie.leA t t2 :=
  forall_mem_of_eqns (S := fun c => rootsLeA c c2) trivial (fun _ _ _ => Iff.rfl) c1

theorem leA_of_le_agree : ∀ (t1 t2 : AccessTrie), AccessTrie.le t1 t2 → FlagsAgree t1 t2 → AccessTrie.leA t1 t2 :=
  AccessTrie.induct fun c1 _ _ _ hc _ _ hle hag =>
    ⟨(fieldsLeA_iff c1 _).2 (entries_imp ((fieldsLe_iff c1 _).1 hle.1) fun k t hm t' h1 h2 =>
        hc k t hm t' h2 ((fieldsAgree_iff c1 _).1 hag.2 k t hm t' h1)),
     hle.2.1, hle.2.2, hag.1⟩

theorem fieldsLeA_of_le_agree : ∀ (c1 c2 : Fields), fieldsLe c1 c2 → fieldsAgree c1 c2 → fieldsLeA c1 c2 :=
  fun c1 c2 hle hag => (fieldsLeA_iff c1 c2).2 (entries_imp ((fieldsLe_iff c1 c2).1 hle) fun k t hm t' h1 h2 =>
    leA_of_le_agree t t' h2 ((fieldsAgree_iff c1 c2).1 hag k t hm t' h1))

theorem rootsLeA_of_le_agree : ∀ (c1 c2 : RootAccessTrie), rootsLe c1 c2 → FlagsAgreeRoots c1 c2 → rootsLeA c1 c2 :=
  fun c1 c2 hle hag => (rootsLeA_iff c1 c2).2 (entries_imp ((rootsLe_iff c1 c2).1 hle) fun k t hm t' h1 h2 =>
    leA_of_le_agree t t' h2 ((flagsAgreeRoots_iff c1 c2).1 hag k t hm t' h1))

theorem le_of_leA : ∀ (t1 t2 : AccessTrie), AccessTrie.leA t1 t2 → AccessTrie.le t1 t2 :=
  AccessTrie.induct fun c1 _ _ _ hc _ _ h =>
    ⟨(fieldsLe_iff c1 _).2 (entries_imp ((fieldsLeA_iff c1 _).1 h.1) fun k t hm t' _ => hc k t hm t'), h.2.1, h.2.2.1⟩

theorem fieldsLe_of_leA : ∀ (c1 c2 : Fields), fieldsLeA c1 c2 → fieldsLe c1 c2 :=
  fun c1 c2 h => (fieldsLe_iff c1 c2).2 (entries_imp ((fieldsLeA_iff c1 c2).1 h) fun _ t _ t' _ => le_of_leA t t')

theorem rootsLe_of_rootsLeA : ∀ (c1 c2 : RootAccessTrie), rootsLeA c1 c2 → rootsLe c1 c2 :=
  fun c1 c2 h => (rootsLe_iff c1 c2).2 (entries_imp ((rootsLeA_iff c1 c2).1 h) fun _ t _ t' _ => le_of_leA t t')

theorem fieldsLeA_lookup : ∀ (c1 c2 : Fields) (k : String) (t : AccessTrie),
    fieldsLeA c1 c2 → lookupField c1 k = some t → ∃ t2, lookupField c2 k = some t2 ∧ AccessTrie.leA t t2 :=
  fun c1 c2 k t hle h => (fieldsLeA_iff c1 c2).1 hle k t (fieldsMap.mem_of_look h)

theorem mem_pruneFields : ∀ {c : Fields} {k : String} {t' : AccessTrie}, (k, t') ∈ pruneFields c →
    ∃ t, (k, t) ∈ c ∧ t' = pruneEntityDeref t
  | (_, t0) :: _, _, _, h => by
    rcases List.mem_cons.1 h with e | h
    · cases e; exact ⟨t0, List.mem_cons_self, rfl⟩
    · exact let ⟨t, h1, h2⟩ := mem_pruneFields h; ⟨t, List.mem_cons_of_mem _ h1, h2⟩

theorem pruneFields_le_of {c1 c2 : Fields}
    (hV : ∀ k t, (k, t) ∈ c1 → ∀ t2, AccessTrie.leA t t2 → AccessTrie.le (pruneEntityDeref t) (pruneEntityDeref t2))
    (h : fieldsLeA c1 c2) : fieldsLe (pruneFields c1) (pruneFields c2) :=
  (fieldsLe_iff _ _).2 fun k t' hm' =>
    let ⟨t, hm, e⟩ := mem_pruneFields hm'
    let ⟨t2, h1, h2⟩ := (fieldsLeA_iff c1 c2).1 h k t hm
    ⟨pruneEntityDeref t2, by rw [lookupField_pruneFields, h1]; rfl, e ▸ hV k t hm t2 h2⟩

theorem pruneEntityDeref_le : ∀ (t1 t2 : AccessTrie), AccessTrie.leA t1 t2 →
    AccessTrie.le (pruneEntityDeref t1) (pruneEntityDeref t2) :=
  AccessTrie.induct fun c1 a1 i1 e1 hc _ t2 h => by
    obtain ⟨c2, a2, i2, e2⟩ := t2
    simp only [AccessTrie.leA, AccessTrie.children, AccessTrie.ancestors, AccessTrie.isAncestor, AccessTrie.isEntity] at h
    simp only [pruneEntityDeref, AccessTrie.le, AccessTrie.children, AccessTrie.ancestors, AccessTrie.isAncestor]
    refine ⟨?_, h.2.1, h.2.2.1⟩
    cases e1 with
    | true => simp [fieldsLe]
    | false =>
      cases e2 with
      | true => exact absurd (h.2.2.2 rfl) (by simp)
      | false => exact pruneFields_le_of hc h.1

theorem pruneFields_le (c1 c2 : Fields) : fieldsLeA c1 c2 → fieldsLe (pruneFields c1) (pruneFields c2) :=
  pruneFields_le_of fun _ t _ => pruneEntityDeref_le t

theorem sliceEntity_mono (t1 t2 : AccessTrie) (h : AccessTrie.leA t1 t2) (d : EntityData) :
    TrimKVs (sliceEntity t1 d).attrs (sliceEntity t2 d).attrs := by
  obtain ⟨c1, a1, i1, e1⟩ := t1
  obtain ⟨c2, a2, i2, e2⟩ := t2
  simp only [AccessTrie.leA, AccessTrie.children] at h
  simp only [sliceEntity, pruneChildEntityDeref, AccessTrie.children]
  exact trimKVs_of_lookup _ _ (sliceFields_mono _ _ d.attrs (pruneFields_le c1 c2 h.1))

theorem expandValue_mono (es : Entities) : ∀ (t1 t2 : AccessTrie) (v v' : Value), AccessTrie.leA t1 t2 → Le v v' →
    ∀ u tr, (u, tr) ∈ expandValue es t1 v → ∃ tr', (u, tr') ∈ expandValue es t2 v' ∧ AccessTrie.leA tr tr' :=
  AccessTrie.induct fun c1 a1 i1 e1 ihc _ t2 v v' hle htr u tr hm => by
    obtain ⟨c2, a2, i2, e2⟩ := t2
    have hle' := hle
    simp only [AccessTrie.leA, AccessTrie.children] at hle'
    have hF : ∀ kvs kvs', Le (.record kvs) (.record kvs') → (u, tr) ∈ expandFields es c1 kvs →
        ∃ tr', (u, tr') ∈ expandFields es c2 kvs' ∧ AccessTrie.leA tr tr' := by
      intro kvs kvs' htr hm
      obtain ⟨f, t, w, hmem, hl, hq⟩ := (mem_expandFields c1 kvs).1 hm
      obtain ⟨t2, h1, h2⟩ := (fieldsLeA_iff c1 c2).1 hle'.1 f t hmem
      obtain ⟨ky, w', e, hw', htw⟩ := le_lookup htr hl
      cases e
      obtain ⟨tr', h3, h4⟩ := ihc f t hmem t2 w w' h2 htw u tr hq
      exact ⟨tr', (mem_expandFields c2 kvs').2 ⟨f, t2, w', fieldsMap.mem_of_look h1, hw', h3⟩, h4⟩
    cases v with
    | prim p =>
      have e := le_nonrecord (by intro kvs; simp) htr
      subst e
      cases p with
      | entityUID x =>
        simp only [expandValue, List.mem_cons, Prod.mk.injEq] at hm ⊢
        rcases hm with ⟨e1', e2'⟩ | hm
        · subst e1'; subst e2'
          exact ⟨_, Or.inl ⟨rfl, rfl⟩, hle⟩
        · cases hd : es.find? x with
          | none => simp [hd] at hm
          | some d =>
            simp only [hd] at hm ⊢
            have htrim : Trim (.record (sliceFields (pruneFields c1) d.attrs)) (.record (sliceFields (pruneFields c2) d.attrs)) := by
              simp only [Trim]
              exact ⟨_, rfl, trimKVs_of_lookup _ _ (sliceFields_mono _ _ d.attrs (pruneFields_le c1 c2 hle'.1))⟩
            obtain ⟨tr', h1, h2⟩ := hF _ _ (le_of_trim htrim) hm
            exact ⟨tr', Or.inr h1, h2⟩
      | _ => simp [expandValue] at hm
    | record kvs =>
      obtain ⟨kvs', e⟩ := le_record_inv htr
      subst e
      simp only [expandValue] at hm ⊢
      exact hF kvs kvs' htr hm
    | _ => simp [expandValue] at hm

theorem allRequests_mono (es : Entities) (req : Request) (t1 t2 : RootAccessTrie) (hle : rootsLeA t1 t2) (u : EntityUID)
    (tr : AccessTrie) (hm : (u, tr) ∈ allRequests es req t1) :
    ∃ tr', (u, tr') ∈ allRequests es req t2 ∧ AccessTrie.leA tr tr' := by
  obtain ⟨root, t, hmem, hq⟩ := (mem_allRequests t1).1 hm
  obtain ⟨t', h1, h2⟩ := (rootsLeA_iff t1 t2).1 hle root t hmem
  obtain ⟨tr', h3, h4⟩ := expandValue_mono es t t' _ _ h2 (Le.refl _) u tr hq
  exact ⟨tr', (mem_allRequests t2).2 ⟨root, t', rootsMap.mem_of_look h1, h3⟩, h4⟩

theorem sliceStorePure_mono (t t' : RootAccessTrie) (req : Request) (es : Entities) (hle : rootsLeA t t') :
    SubStore (sliceStorePure t' req es) (sliceStorePure t req es) := by
  intro u d1 hf
  simp only [sliceStorePure] at hf ⊢
  have hnone := loadAll_noAnc es (allRequests es req t) [] (fun u d h => by simp [Entities.find?] at h)
  -- attributes: every request of `t` is matched by a larger request of `t'` for the same entity (`allRequests_mono`), the load
  -- for `t'` serves that one (`loadAll_served`), and a slice by a smaller trie is a trimmed copy (`sliceEntity_mono`)
  have hbelow : AttrsBelow (loadAll es (allRequests es req t) []) (loadAll es (allRequests es req t') []) := by
    apply loadAll_below
    · intro u tr hm d hd
      obtain ⟨tr', h1, h2⟩ := allRequests_mono es req t t' hle u tr hm
      obtain ⟨d2, h3, h4⟩ := loadAll_served es (allRequests es req t') [] (attrsBelow_nil es) u tr' h1 d hd
      have := h4 (.record (sliceEntity tr d).attrs) (by simp only [Trim]; exact ⟨_, rfl, sliceEntity_mono tr tr' h2 d⟩)
      obtain ⟨kvs, e, h⟩ := this
      cases e
      exact ⟨d2, h3, h⟩
    · exact attrsBelow_nil _
  have hfind := addAncestors_find_req es (loadAll es (allRequests es req t) []) req (allRequests es req t)
    (loadAll es (allRequests es req t) []) u
  cases hda : (loadAll es (allRequests es req t) []).find? u with
  | none => simp only [hda] at hfind; rw [hfind] at hf; cases hf
  | some da =>
    simp only [hda] at hfind
    obtain ⟨d1', e1, eattrs, _, hanc, _⟩ := hfind
    rw [hf] at e1
    cases e1
    obtain ⟨d2, hd2, htrim⟩ := hbelow u da hda
    -- ancestors: an ancestor added for `t` was requested through some request of `t`; the matching request of `t'` asks for it
    -- too, over a load that holds more (`ancRequest_sub`)
    have hfind' := addAncestors_find_req es (loadAll es (allRequests es req t') []) req (allRequests es req t')
      (loadAll es (allRequests es req t') []) u
    simp only [hd2] at hfind'
    obtain ⟨d2', h1', h2', _, _, h5'⟩ := hfind'
    refine ⟨d2', h1', by rw [eattrs, h2']; exact htrim, ?_⟩
    intro a ha
    rcases hanc a ha with h | ⟨t0, d, hmem, hd, hreq, had⟩
    · rw [hnone u da hda] at h; cases h
    · obtain ⟨tr', hm', hle'⟩ := allRequests_mono es req t t' hle u t0 hmem
      have hanc' : rootsLe t0.ancestors tr'.ancestors := by
        obtain ⟨c0, a0, i0, e0⟩ := t0
        exact hle'.2.1
      exact h5' tr' hm' d hd a (ancRequest_sub _ _ (.of_below hbelow) req a _ _ (rootsSub_of_le _ _ hanc') hreq) had

mutual
def leB : AccessTrie → AccessTrie → Bool
  | .mk c1 a1 i1 _, t2 => fieldsLeB c1 t2.children && rootsLeB a1 t2.ancestors && (!i1 || t2.isAncestor)
def fieldsLeB : Fields → Fields → Bool
  | [], _ => true
  | (k, t) :: rest, c2 => (match lookupField c2 k with | some t2 => leB t t2 | none => false) && fieldsLeB rest c2
def rootsLeB : RootAccessTrie → RootAccessTrie → Bool
  | [], _ => true
  | (k, t) :: rest, c2 => (match lookupRoot c2 k with | some t2 => leB t t2 | none => false) && rootsLeB rest c2
end

theorem fieldsLeB_iff (c1 c2 : Fields) :
    fieldsLeB c1 c2 = true ↔ ∀ k t, (k, t) ∈ c1 → ∃ t2, lookupField c2 k = some t2 ∧ leB t t2 = true :=
  forall_mem_of_eqns (S := fun c => fieldsLeB c c2 = true) rfl
    (fun k _ _ => by simp only [fieldsLeB, Bool.and_eq_true]; cases lookupField c2 k <;> simp) c1

theorem rootsLeB_iff (c1 c2 : RootAccessTrie) :
    rootsLeB c1 c2 = true ↔ ∀ k t, (k, t) ∈ c1 → ∃ t2, lookupRoot c2 k = some t2 ∧ leB t t2 = true :=
  forall_mem_of_eqns (S := fun c => rootsLeB c c2 = true) rfl
    (fun k _ _ => by simp only [rootsLeB, Bool.and_eq_true]; cases lookupRoot c2 k <;> simp) c1

theorem leB_sound : ∀ (t1 t2 : AccessTrie), leB t1 t2 = true → AccessTrie.le t1 t2 :=
  AccessTrie.induct fun c1 a1 i1 _ hc ha t2 h => by
    simp only [leB, Bool.and_eq_true, Bool.or_eq_true, Bool.not_eq_true'] at h
    refine ⟨(fieldsLe_iff c1 _).2 (entries_imp ((fieldsLeB_iff c1 _).1 h.1.1) fun k t hm t' _ => hc k t hm t'),
      (rootsLe_iff a1 _).2 (entries_imp ((rootsLeB_iff a1 _).1 h.1.2) fun k t hm t' _ => ha k t hm t'), fun hi => ?_⟩
    rcases h.2 with h2 | h2
    · rw [hi] at h2; cases h2
    · exact h2

theorem fieldsLeB_sound : ∀ (c1 c2 : Fields), fieldsLeB c1 c2 = true → fieldsLe c1 c2 :=
  fun c1 c2 h => (fieldsLe_iff c1 c2).2 (entries_imp ((fieldsLeB_iff c1 c2).1 h) fun _ t _ t' _ => leB_sound t t')

theorem rootsLeB_sound : ∀ (c1 c2 : RootAccessTrie), rootsLeB c1 c2 = true → rootsLe c1 c2 :=
  fun c1 c2 h => (rootsLe_iff c1 c2).2 (entries_imp ((rootsLeB_iff c1 c2).1 h) fun _ t _ t' _ => leB_sound t t')

mutual
def flagsAgreeB : AccessTrie → AccessTrie → Bool
  | .mk c1 _ _ e1, t2 => (!t2.isEntity || e1) && fieldsAgreeB c1 t2.children
def fieldsAgreeB : Fields → Fields → Bool
  | [], _ => true
  | (k, t) :: rest, c2 => (match lookupField c2 k with | some t2 => flagsAgreeB t t2 | none => true) && fieldsAgreeB rest c2
end

def flagsAgreeRootsB : RootAccessTrie → RootAccessTrie → Bool
  | [], _ => true
  | (k, t) :: rest, c2 => (match lookupRoot c2 k with | some t2 => flagsAgreeB t t2 | none => true) && flagsAgreeRootsB rest c2

theorem fieldsAgreeB_iff (c1 c2 : Fields) :
    fieldsAgreeB c1 c2 = true ↔ ∀ k t, (k, t) ∈ c1 → ∀ t2, lookupField c2 k = some t2 → flagsAgreeB t t2 = true :=
  forall_mem_of_eqns (S := fun c => fieldsAgreeB c c2 = true) rfl
    (fun k _ _ => by simp only [fieldsAgreeB, Bool.and_eq_true]; cases lookupField c2 k <;> simp) c1

theorem flagsAgreeRootsB_iff (c1 c2 : RootAccessTrie) :
    flagsAgreeRootsB c1 c2 = true ↔ ∀ k t, (k, t) ∈ c1 → ∀ t2, lookupRoot c2 k = some t2 → flagsAgreeB t t2 = true :=
  forall_mem_of_eqns (S := fun c => flagsAgreeRootsB c c2 = true) rfl
    (fun k _ _ => by simp only [flagsAgreeRootsB, Bool.and_eq_true]; cases lookupRoot c2 k <;> simp) c1

theorem flagsAgreeB_sound : ∀ (t1 t2 : AccessTrie), flagsAgreeB t1 t2 = true → FlagsAgree t1 t2 :=
  AccessTrie.induct fun c1 _ _ e1 hc _ t2 h => by
    simp only [flagsAgreeB, Bool.and_eq_true, Bool.or_eq_true, Bool.not_eq_true'] at h
    refine ⟨fun he => ?_, (fieldsAgree_iff c1 _).2 fun k t hm t' hl => hc k t hm t' ((fieldsAgreeB_iff c1 _).1 h.2 k t hm t' hl)⟩
    rcases h.1 with h1 | h1
    · rw [he] at h1; cases h1
    · exact h1

theorem fieldsAgreeB_sound : ∀ (c1 c2 : Fields), fieldsAgreeB c1 c2 = true → fieldsAgree c1 c2 :=
  fun c1 c2 h => (fieldsAgree_iff c1 c2).2 fun k t hm t' hl => flagsAgreeB_sound t t' ((fieldsAgreeB_iff c1 c2).1 h k t hm t' hl)

theorem flagsAgreeRootsB_sound : ∀ (c1 c2 : RootAccessTrie), flagsAgreeRootsB c1 c2 = true → FlagsAgreeRoots c1 c2 :=
  fun c1 c2 h => (flagsAgreeRoots_iff c1 c2).2 fun k t hm t' hl =>
    flagsAgreeB_sound t t' ((flagsAgreeRootsB_iff c1 c2).1 h k t hm t' hl)

end Cedar.Manifest
