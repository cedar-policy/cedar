import CedarVerif.Lemmas.SyntaxFull
import CedarVerif.Cedar.Syntax.PolicyParse
/-
C05, policy level: `parsePolicy (printPolicy b) = some b` — the pieces (annotations, scope elements, action element,
condition clause), each on top of the expression-level induction `parse_print_aux3` (Lemmas/SyntaxFull.lean).
-/
namespace Cedar.Syntax
open Cedar

def sortedAnn : List (String × String) → Bool
  | (k1, _) :: (k2, v2) :: rest => decide (k1 < k2) && sortedAnn ((k2, v2) :: rest)
  | _ => true

-- `…OKW`: the policy image "with" its two parameters, the test `tn` on type names and the test `ex` on the condition:
-- Thm/C05 states it at `validTypeName` / `ParserImage`, the proofs run at `typeNameOk` / `inFrag3` (equal: `policyImage_eq`).
def refOKW (tn : String → Bool) : EntityRef → Bool
  | .euid u => tn u.ty
  | .slot => true

def scopeOKW (tn : String → Bool) : ScopeC → Bool
  | .any => true
  | .eq r => refOKW tn r
  | .mem r => refOKW tn r
  | .is ty => tn ty
  | .isIn ty r => tn ty && refOKW tn r

def actionOKW (tn : String → Bool) : ActionC → Bool
  | .any => true
  | .eq u => tn u.ty && isActionUid u
  | .mem us => us.all (fun u => tn u.ty && isActionUid u)

def condOKW (ex : Expr → Bool) : Option Expr → Bool
  | none => true
  | some e => ex e && (Expr.slots e).isEmpty

def policyOKW (tn : String → Bool) (ex : Expr → Bool) (b : TemplateBody) : Bool :=
  sortedAnn b.annotations && scopeOKW tn b.principalC && actionOKW tn b.actionC && scopeOKW tn b.resourceC &&
  condOKW ex b.nonScope

/-- annotation keys are identifier-shaped (Rust: `AnyId`; the model keeps them as `String`s) -/
def annKeysOK (as : List (String × String)) : Bool := as.all (fun kv => isIdentChars kv.1.toList)

theorem frag_top_len (me : Char → Bool) (e : Expr) (hf : inFrag3 e = true) (f : Nat) (hlen : (printE me e).length ≤ f)
    (R : List Token) (hR : headLv R = 7) : ∃ s, parseFuel (f + 1) (printE me e ++ R) = some (s, R) ∧ s.toExpr = some e :=
  (parse_print_aux3 me e hf f (Nat.le_trans (sz3_le_print me e) hlen)).top R hR

def isRefShape : Expr → Bool
  | .lit (.entityUID _) => true
  | .slot _ => true
  | .set _ => true
  | _ => false

theorem toExpr_refShape {s : EOS} {e : Expr} (h : s.toExpr = some e) (hs : isRefShape e = true) : s = .expr e := by
  cases s with
  | expr e' => simp only [EOS.toExpr, Option.some.injEq] at h; subst h; rfl
  | var v => simp only [EOS.toExpr, Option.some.injEq] at h; subst h; simp [isRefShape] at hs
  | name p i => simp [EOS.toExpr] at h
  | strLit raw =>
    cases hr : strOfRaw raw <;> simp only [EOS.toExpr, hr, Option.map_none, Option.map_some, Option.some.injEq, reduceCtorEq] at h
    subst h; simp [isRefShape] at hs
  | boolLit b => simp only [EOS.toExpr, Option.some.injEq] at h; subst h; simp [isRefShape] at hs
  | num n =>
    by_cases hn : n ≤ i64Max <;> simp only [EOS.toExpr, hn, if_true, if_false, Option.some.injEq, reduceCtorEq] at h
    subst h; simp [isRefShape] at hs

theorem ref_top (me : Char → Bool) (e : Expr) (hf : inFrag3 e = true) (hs : isRefShape e = true) (f : Nat)
    (hlen : (printE me e).length ≤ f) (R : List Token) (hR : headLv R = 7) :
    parseFuel (f + 1) (printE me e ++ R) = some (.expr e, R) := by
  obtain ⟨s, h1, h2⟩ := frag_top_len me e hf f hlen R hR
  rw [h1, toExpr_refShape h2 hs]

theorem insertAnn_eq : insertAnn = insertByKey (β := String) := by
  funext kv xs
  induction xs with
  | nil => rfl
  | cons x xs ih => simp only [insertAnn, insertByKey, ih]

theorem hasDupAnn_eq : hasDupAnn = hasDupKeys (β := String) := by
  funext xs
  induction xs with
  | nil => rfl
  | cons x xs ih => obtain ⟨k, v⟩ := x; simp only [hasDupAnn, hasDupKeys, ih]

theorem sortedAnn_eq : ∀ kvs, sortedAnn kvs = keysSorted kvs
  | [] => rfl
  | [_] => rfl
  | (k1, _) :: (k2, v2) :: rest => by simp only [sortedAnn, keysSorted, sortedAnn_eq ((k2, v2) :: rest)]

theorem parseAnnots_print (me : Char → Bool) (s : String) (R : List Token) : ∀ (as : List (String × String)) (n : Nat),
    as.length < n → parseAnnots n (printAnnots me as ++ .ident s :: R) = some (as, .ident s :: R)
  | [], n + 1, _ => by simp [printAnnots, parseAnnots]
  | [], 0, h => by simp at h
  | (k, v) :: as, 0, h => by simp at h
  | (k, v) :: as, n + 1, h => by
    have ih := parseAnnots_print me s R as n (by simp at h; omega)
    simp only [printAnnots, List.cons_append, parseAnnots, strTok, strOfRaw_escapeStr, ih]

theorem refExpr_frag {slot : SlotId} {r : EntityRef} (h : refOKW typeNameOk r = true) :
    inFrag3 (refExpr slot r) = true ∧ isRefShape (refExpr slot r) = true := by
  cases r <;> simp_all [refOKW, refExpr, inFrag3, isRefShape]

theorem scopeRef_print (me : Char → Bool) (slot : SlotId) (r : EntityRef) (h : refOKW typeNameOk r = true) (f : Nat)
    (hlen : (printE me (refExpr slot r)).length ≤ f) (R : List Token) (hR : headLv R = 7) :
    scopeRef (parseFuel (f + 1)) slot (printE me (refExpr slot r) ++ R) = some (r, R) := by
  unfold scopeRef
  rw [ref_top me _ (refExpr_frag h).1 (refExpr_frag h).2 f hlen R hR]
  cases r <;> simp [refExpr, EOS.toRef]

theorem headLv_close {t : Token} (ht : t = .comma ∨ t = .rparen) (R : List Token) : headLv (t :: R) = 7 := by
  rcases ht with rfl | rfl <;> rfl

theorem scopeElem_print (me : Char → Bool) (v : String) (slot : SlotId) (c : ScopeC) (h : scopeOKW typeNameOk c = true)
    (f : Nat) (hlen : (printScope me v slot c).length ≤ f) (t : Token) (ht : t = .comma ∨ t = .rparen) (R : List Token) :
    scopeElem (parseFuel (f + 1)) v slot (printScope me v slot c ++ t :: R) = some (c, t :: R) := by
  have hR := headLv_close ht R
  cases c with
  | any => rcases ht with rfl | rfl <;> simp [printScope, scopeElem]
  | eq r =>
    simp only [scopeOKW] at h
    simp only [printScope, List.length_cons] at hlen
    simp only [printScope, List.cons_append, scopeElem, ne_eq, not_true_eq_false, if_false]
    rw [scopeRef_print me slot r h f (by omega) _ hR]
    rfl
  | mem r =>
    simp only [scopeOKW] at h
    simp only [printScope, List.length_cons] at hlen
    simp only [printScope, List.cons_append, scopeElem, ne_eq, not_true_eq_false, if_false]
    rw [scopeRef_print me slot r h f (by omega) _ hR]
    rfl
  | is ty =>
    simp only [scopeOKW] at h
    obtain ⟨x, hx1, hx2⟩ := add_typeName_lt (parseFuel (f + 1)) ty h (t :: R) (by omega)
    simp only [printScope, List.cons_append, scopeElem, ne_eq, not_true_eq_false, if_false, hx1, hx2]
    rcases ht with rfl | rfl <;> rfl
  | isIn ty r =>
    simp only [scopeOKW, Bool.and_eq_true] at h
    simp only [printScope, List.length_cons, List.length_append] at hlen
    obtain ⟨x, hx1, hx2⟩ := add_typeName_lt (parseFuel (f + 1)) ty h.1
      (.ident "in" :: (printE me (refExpr slot r) ++ t :: R)) (by simp [headLv, tokLevel])
    simp only [printScope, List.cons_append, List.append_assoc, scopeElem, ne_eq, not_true_eq_false, if_false, hx1, hx2]
    rw [scopeRef_print me slot r h.2 f (by omega) _ hR]
    rfl

theorem uidSet_frag : ∀ (us : List EntityUID), (us.all (fun u => typeNameOk u.ty && isActionUid u)) = true →
    inFrag3L (us.map (fun u => Expr.lit (.entityUID u))) = true
  | [], _ => rfl
  | u :: us, h => by
    simp only [List.all_cons, Bool.and_eq_true] at h
    simp only [List.map_cons, inFrag3L, inFrag3, Bool.and_eq_true]
    exact ⟨h.1.1, uidSet_frag us h.2⟩

theorem uidsOf_map : ∀ (us : List EntityUID), uidsOf (us.map (fun u => Expr.lit (.entityUID u))) = some us
  | [] => rfl
  | u :: us => by simp [uidsOf, uidsOf_map us]

theorem actionElem_print (me : Char → Bool) (c : ActionC) (h : actionOKW typeNameOk c = true)
    (f : Nat) (hlen : (printAction me c).length ≤ f) (t : Token) (ht : t = .comma ∨ t = .rparen) (R : List Token) :
    actionElem (parseFuel (f + 1)) (printAction me c ++ t :: R) = some (c, t :: R) := by
  have hR := headLv_close ht R
  cases c with
  | any => rcases ht with rfl | rfl <;> simp [printAction, actionElem]
  | eq u =>
    simp only [actionOKW, Bool.and_eq_true] at h
    simp only [printAction, List.length_cons] at hlen
    simp only [printAction, List.cons_append, actionElem, ne_eq, not_true_eq_false, if_false]
    rw [ref_top me (.lit (.entityUID u)) (by simp [inFrag3, h.1]) rfl f (by omega) _ hR]
    simp [EOS.toUid, h.2]
  | mem us =>
    simp only [actionOKW] at h
    simp only [printAction, List.length_cons] at hlen
    simp only [printAction, List.cons_append, actionElem, ne_eq, not_true_eq_false, if_false]
    rw [ref_top me (uidSet us) (by simp only [uidSet, inFrag3]; exact uidSet_frag us h) rfl f (by omega) _ hR]
    have hall : us.all isActionUid = true := by
      simp only [List.all_eq_true, Bool.and_eq_true] at h ⊢
      exact fun u hu => (h u hu).2
    simp [EOS.toRefs, uidSet, uidsOf_map, hall]

theorem parseConds_print (me : Char → Bool) (c : Option Expr) (h : condOKW inFrag3 c = true) (f : Nat)
    (hlen : (printCond me c).length ≤ f) :
    ∃ cs, parseConds (parseFuel (f + 1)) (f + 1) (printCond me c) = some (cs, [.semi]) ∧ foldConds cs = c := by
  cases c with
  | none =>
    refine ⟨[], ?_, rfl⟩
    simp [printCond, parseConds]
  | some e =>
    simp only [condOKW, Bool.and_eq_true] at h
    simp only [printCond, List.length_cons, List.length_append] at hlen
    obtain ⟨s, h1, h2⟩ := frag_top_len me e h.1 f (by omega) [.rbrace, .semi] rfl
    refine ⟨[e], ?_, rfl⟩
    obtain ⟨f', rfl⟩ : ∃ f', f = f' + 1 := ⟨f - 1, by omega⟩
    simp [printCond, parseConds, h1, h2, h.2]

theorem effectOf_name (e : Effect) : effectOf (effectName e) = some e := by cases e <;> rfl

theorem printAnnots_length (me : Char → Bool) : ∀ as, as.length ≤ (printAnnots me as).length
  | [] => Nat.le_refl _
  | (k, v) :: as => by have := printAnnots_length me as; simp only [printAnnots, List.length_cons]; omega

theorem parsePolicy_print (me : Char → Bool) (b : TemplateBody) (h : policyOKW typeNameOk inFrag3 b = true) :
    parsePolicy b.id (printPolicy me b) = some b := by
  simp only [policyOKW, Bool.and_eq_true] at h
  obtain ⟨⟨⟨⟨han, hp⟩, hac⟩, hr⟩, hc⟩ := h
  have hl : (printPolicy me b).length = (printAnnots me b.annotations).length + 2 +
      (printScope me "principal" .principal b.principalC).length + 1 + (printAction me b.actionC).length + 1 +
      (printScope me "resource" .resource b.resourceC).length + 1 + (printCond me b.nonScope).length := by
    simp only [printPolicy, List.length_append, List.length_cons]; omega
  have hal := printAnnots_length me b.annotations
  unfold parsePolicy
  generalize hf : (printPolicy me b).length = f at hl
  obtain ⟨cs, hcs1, hcs2⟩ := parseConds_print me b.nonScope hc f (by omega)
  unfold parsePolicyF printPolicy
  rw [parseAnnots_print me _ _ b.annotations (f + 1) (by omega)]
  rw [sortedAnn_eq] at han
  simp only [hasDupAnn_eq, insertAnn_eq, hasDupKeys_sorted han, Bool.false_eq_true, if_false, effectOf_name,
    parseScope, scopeElem_print me "principal" .principal _ hp f (by omega) .comma (.inl rfl),
    actionElem_print me _ hac f (by omega) .comma (.inl rfl),
    scopeElem_print me "resource" .resource _ hr f (by omega) .rparen (.inr rfl), hcs1, hcs2, foldr_insertByKey_sorted han]

end Cedar.Syntax
