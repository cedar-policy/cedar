import CedarVerif.Cedar.Syntax.Escape
/-
`unescapeGo` reads `escapeStrAt` / `escapePattern` output back, for every choice of the `mustEscape` predicate.
-/
namespace Cedar.Syntax
open Cedar

/-- what the loop of `unicode_escape` accumulates -/
def hexValue (v : Nat) (ds : List Char) : Nat := ds.foldl (fun a d => a * 16 + (hexVal d).getD 0) v

def IsHexDigitChar (c : Char) : Prop := ∃ k, k < 16 ∧ c = hexDigitChar k

theorem hexVal_hexDigitChar : ∀ k, k < 16 → hexVal (hexDigitChar k) = some k := by
  have h : ∀ k : Fin 16, hexVal (hexDigitChar k.val) = some k.val := by decide
  intro k hk; exact h ⟨k, hk⟩

theorem hexDigitChar_ne : ∀ k, k < 16 → hexDigitChar k ≠ '_' ∧ hexDigitChar k ≠ '}' := by
  have h : ∀ k : Fin 16, hexDigitChar k.val ≠ '_' ∧ hexDigitChar k.val ≠ '}' := by decide
  intro k hk; exact h ⟨k, hk⟩

theorem hexDigits_spec : ∀ f n, n < 16 ^ f → 1 ≤ f →
    (∀ d ∈ hexDigits f n, IsHexDigitChar d) ∧ 1 ≤ (hexDigits f n).length ∧ (hexDigits f n).length ≤ f ∧
    hexValue 0 (hexDigits f n) = n := by
  intro f
  induction f with
  | zero => intro n _ h; omega
  | succ f ih =>
    intro n hn _
    unfold hexDigits
    by_cases h16 : n < 16
    · simp only [h16, if_true]
      refine ⟨?_, by simp, by simp, ?_⟩
      · intro d hd; simp at hd; exact ⟨n, h16, hd⟩
      · simp [hexValue, hexVal_hexDigitChar n h16]
    · simp only [h16, if_false]
      have hf : 1 ≤ f := by
        cases f with
        | zero => simp at hn; omega
        | succ f => omega
      have hdiv : n / 16 < 16 ^ f := by
        rw [Nat.pow_succ] at hn
        exact Nat.div_lt_of_lt_mul (by rw [Nat.mul_comm]; exact hn)
      obtain ⟨h1, h2, h3, h4⟩ := ih (n / 16) hdiv hf
      have hm : n % 16 < 16 := Nat.mod_lt _ (by decide)
      refine ⟨?_, by simp, by simp; omega, ?_⟩
      · intro d hd
        rw [List.mem_append] at hd
        cases hd with
        | inl h => exact h1 d h
        | inr h => simp at h; exact ⟨n % 16, hm, h⟩
      · unfold hexValue at h4 ⊢
        rw [List.foldl_append, h4]
        simp [hexVal_hexDigitChar _ hm]
        omega

theorem charOfCode_toNat (c : Char) : charOfCode c.toNat = .ok c := by
  have hv := c.valid
  have : c.toNat = c.val.toNat := rfl
  unfold charOfCode
  rw [Char.ofNat_toNat]
  have hv' : c.toNat < 55296 ∨ 57343 < c.toNat ∧ c.toNat < 1114112 := hv
  have h1 : ¬ c.toNat > 0x10FFFF := by omega
  have h2 : ¬ (0xD800 ≤ c.toNat ∧ c.toNat ≤ 0xDFFF) := by omega
  simp [h1, h2]

theorem unescapeUni_digits (pat : Bool) (rest : List Char) :
    ∀ (ds : List Char) (v nd : Nat), (∀ d ∈ ds, IsHexDigitChar d) → nd + ds.length ≤ 6 →
      unescapeUni pat v nd (ds ++ '}' :: rest) =
        match charOfCode (hexValue v ds) with
        | .error e => .error e
        | .ok ch => (unescapeGo pat rest).map (elemOf pat ch :: ·) := by
  intro ds
  induction ds with
  | nil =>
    intro v nd _ hlen
    simp only [List.nil_append, hexValue, List.foldl_nil]
    rw [unescapeUni]
    have : ¬ nd > 6 := by simp at hlen; omega
    simp [this]
    all_goals (cases charOfCode v <;> rfl)
  | cons d ds ih =>
    intro v nd hd hlen
    obtain ⟨k, hk, rfl⟩ := hd _ (List.mem_cons_self)
    have hne := hexDigitChar_ne k hk
    simp only [List.cons_append]
    rw [unescapeUni]
    simp only [hne.1, hne.2, if_false, hexVal_hexDigitChar k hk]
    have hnd : ¬ nd + 1 > 6 := by simp at hlen; omega
    simp only [hnd, if_false]
    rw [ih (v * 16 + k) (nd + 1) (fun d h => hd d (List.mem_cons_of_mem _ h)) (by simp at hlen ⊢; omega)]
    simp [hexValue, hexVal_hexDigitChar k hk]

theorem unescapeEsc_unicode (pat : Bool) (c : Char) (rest : List Char) :
    unescapeEsc pat ('u' :: '{' :: (hexDigits 6 c.toNat ++ '}' :: rest)) = (unescapeGo pat rest).map (elemOf pat c :: ·) := by
  have hlt : c.toNat < 16 ^ 6 := by
    have hv : c.toNat < 55296 ∨ 57343 < c.toNat ∧ c.toNat < 1114112 := c.valid
    omega
  obtain ⟨h1, h2, h3, h4⟩ := hexDigits_spec 6 c.toNat hlt (by decide)
  generalize hexDigits 6 c.toNat = l at h1 h2 h3 h4
  match l, h2 with
  | d :: ds, _ =>
    obtain ⟨k, hk, rfl⟩ := h1 _ (List.mem_cons_self)
    have hne := hexDigitChar_ne k hk
    simp only [List.cons_append]
    rw [unescapeEsc]
    simp only [show ¬ ('u' = '\n') by decide, show ¬ ('u' = '0') by decide, show ¬ ('u' = '"') by decide,
      show ¬ ('u' = 'n') by decide, show ¬ ('u' = 'r') by decide, show ¬ ('u' = 't') by decide,
      show ¬ ('u' = '\\') by decide, show ¬ ('u' = '\'') by decide, show ¬ ('u' = 'x') by decide, if_false, if_true,
      hne.1, hne.2, hexVal_hexDigitChar k hk]
    rw [unescapeUni_digits pat rest ds k 1 (fun d h => h1 d (List.mem_cons_of_mem _ h)) (by simp at h3; omega)]
    have hval : hexValue k ds = c.toNat := by
      rw [← h4]; simp [hexValue, hexVal_hexDigitChar k hk]
    rw [hval, charOfCode_toNat]

/-- the seven characters `escape_debug` always writes with a backslash -/
def isSpecial (c : Char) : Bool :=
  c = '\x00' || c = '\t' || c = '\r' || c = '\n' || c = '\\' || c = '"' || c = '\''

/-- in pattern mode a bare `*` is excluded: it is printed `\*` -/
theorem unescapeGo_escapeChar (pat : Bool) (esc : Bool) (c : Char) (rest : List Char) (hstar : ¬ (pat = true ∧ c = '*')) :
    unescapeGo pat (escapeChar esc c ++ rest) = (unescapeGo pat rest).map (.char c :: ·) := by
  unfold escapeChar
  by_cases h0 : c = '\x00'
  · subst h0; simp [unescapeGo, unescapeEsc]
  by_cases h1 : c = '\t'
  · subst h1; simp [unescapeGo, unescapeEsc]
  by_cases h2 : c = '\r'
  · subst h2; simp [unescapeGo, unescapeEsc]
  by_cases h3 : c = '\n'
  · subst h3; simp [unescapeGo, unescapeEsc]
  by_cases h4 : c = '\\'
  · subst h4; simp [unescapeGo, unescapeEsc]
  by_cases h5 : c = '"'
  · subst h5; simp [unescapeGo, unescapeEsc]
  by_cases h6 : c = '\''
  · subst h6; simp [unescapeGo, unescapeEsc]
  simp only [h0, h1, h2, h3, h4, h5, h6, if_false]
  have hel : elemOf pat c = .char c := by
    unfold elemOf
    cases pat with
    | false => simp
    | true => simp at hstar; simp [hstar]
  cases esc with
  | true =>
    simp only [if_true, List.cons_append]
    rw [unescapeGo]
    rw [List.append_assoc, ← hel]
    exact unescapeEsc_unicode pat c rest
  | false =>
    simp only [Bool.false_eq_true, if_false, List.cons_append, List.nil_append]
    rw [unescapeGo]
    · simp only [h5, h2, if_false]
      rw [hel]
    · intro hc; exact h4 hc

theorem unescapeGo_escapeStrAt (me : Nat → Char → Bool) : ∀ (s : List Char) (i : Nat),
    unescapeGo false (escapeStrAt me i s) = .ok (s.map .char) := by
  intro s
  induction s with
  | nil => intro i; simp [escapeStrAt, unescapeGo]
  | cons c cs ih =>
    intro i
    rw [escapeStrAt, unescapeGo_escapeChar false _ c _ (by simp), ih]
    rfl

theorem patChars_map_char (s : List Char) : patChars (s.map .char) = s := by
  induction s with
  | nil => rfl
  | cons c cs ih => simp [patChars, ih]

theorem unescapeStr_escapeStrAt (me : Nat → Char → Bool) (s : List Char) (i : Nat) :
    unescapeStr (escapeStrAt me i s) = .ok s := by
  rw [unescapeStr, unescapeGo_escapeStrAt]
  exact congrArg Except.ok (patChars_map_char s)

theorem unescapeGo_escapePattern (me : Char → Bool) : ∀ (p : Pattern),
    unescapeGo true (escapePattern me p) = .ok p := by
  intro p
  induction p with
  | nil => simp [escapePattern, unescapeGo]
  | cons e ps ih =>
    cases e with
    | star =>
      rw [escapePattern, unescapeGo]
      · simp [ih, elemOf]; rfl
      · decide
    | char c =>
      rw [escapePattern]
      by_cases hc : c = '*'
      · subst hc
        simp only [if_true, List.cons_append, List.nil_append]
        simp [unescapeGo, unescapeEsc, ih, Except.map]
      · simp only [hc, if_false]
        rw [unescapeGo_escapeChar true _ c _ (by simp [hc]), ih]
        rfl

end Cedar.Syntax
