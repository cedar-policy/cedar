import CedarVerif.Lemmas.BatchedOut
import CedarVerif.Lemmas.BatchedSound
/- C15 helpers: the invariants of the loop (`SInv`, and `SInvU`: with the ids of the residuals inside a universe) give
   what the budget argument asks of an invariant (`LoopInv`). -/
namespace Cedar.Batched
open Cedar Cedar.Tpe

theorem prequestOf_concrete (q : Request) : ConcreteReq (prequestOf q) := ⟨rfl, rfl, rfl⟩

theorem loadedFrom_fullyKnown {es : Entities} {pes : Tpe.PEntities} (h : LoadedFrom es pes) : FullyKnown pes := by
  intro u p hp
  rw [h u p hp]
  cases es.find? u <;> simp [pentityOf]

theorem toLoad_ne_nil {preq : Tpe.PRequest} (hreq : ConcreteReq preq) {st : State} (hK : FullyKnown st.entities)
    (hres : ∀ rp, rp ∈ st.residuals → ∃ r, rp.residual = interpret preq st.entities r)
    (hd : st.done = false) : st.toLoad ≠ [] := by
  have : ∃ rp, rp ∈ st.residuals ∧ rp.residual.isPartial = true := by
    simp only [State.done, List.all_eq_false] at hd
    obtain ⟨rp, hrp, hp⟩ := hd
    exact ⟨rp, hrp, by simpa using hp⟩
  obtain ⟨rp, hrp, hp⟩ := this
  obtain ⟨r, hr⟩ := hres rp hrp
  rw [hr] at hp
  obtain ⟨u, hu, hc⟩ := interpret_partial_unloaded hreq hK r hp
  rw [← hr] at hu
  intro hnil
  have hm : u ∈ st.toLoad := by
    unfold State.toLoad
    rw [mem_dedup, List.mem_filter]
    exact ⟨List.mem_flatMap.mpr ⟨rp, hrp, hu⟩, by simp [hc]⟩
  rw [hnil] at hm; cases hm

theorem sinv_boolTyped {q : Request} {es : Entities} {tps : List TPolicy} (hE : TypedAgrees q es tps) (hB : CondsBool q es tps)
    {st : State} (hi : SInv q es tps st) : st.BoolTyped := by
  intro rp hrp v ty hres
  have hag := sinv_agree hE hi hrp
  rw [hres] at hag
  have hx := agree_ok_left (by simpa [Residual.eval] using hag)
  obtain ⟨tp, r0, htp, _, h1, _⟩ := hi.tracked rp hrp
  rw [h1] at hx
  exact hB tp htp v hx

/-- the invariant `SInv` gives everything the budget argument needs, except that the ids requested stay inside the
    universe `U` (`hU`) -/
theorem sinv_loopInv {q : Request} {es : Entities} {tps : List TPolicy} {loader : Loader} {U : List EntityUID}
    (hF : Faithful loader es) (hE : TypedAgrees q es tps) (hB : CondsBool q es tps)
    (hU : ∀ st, SInv q es tps st → ∀ u, u ∈ st.toLoad → u ∈ U) : LoopInv (prequestOf q) loader U (SInv q es tps) where
  step := fun _ _ hi hs => sinv_step hF hi hs
  progress := fun st hi hd =>
    toLoad_ne_nil (prequestOf_concrete q) (loadedFrom_fullyKnown hi.loaded)
      (fun rp hrp => by obtain ⟨_, _, _, _, _, _, _, hr, _⟩ := hi.tracked rp hrp; exact hr) hd
  bounded := hU
  boolTyped := fun _ hi => sinv_boolTyped hE hB hi


variable {U : List EntityUID} {preq : Tpe.PRequest} {pes : Tpe.PEntities}

def EsIn (U : List EntityUID) (es : Entities) : Prop := ∀ u d, es.find? u = some d → KVsIn U d.attrs ∧ KVsIn U d.tags

/-- `U` contains the ids of the request (incl. its context), of the typed conditions, and of the attribute / tag values
    of the store (it need not contain the store's own keys or ancestor lists: those are never requested for their own sake) -/
structure Universe (U : List EntityUID) (q : Request) (es : Entities) (tps : List TPolicy) : Prop where
  req : ReqIn U (prequestOf q)
  store : EsIn U es
  pols : ∀ tp, tp ∈ tps → ∀ r0, Residual.ofExpr tp.typed = some r0 → UidsIn U r0

theorem loadedFrom_storeIn {es : Entities} (hes : EsIn U es) (hL : LoadedFrom es pes) : StoreIn U pes := by
  intro u p hp
  rw [hL u p hp]
  cases hf : es.find? u with
  | none =>
    refine ⟨?_, ?_⟩ <;>
    · intro a ha
      simp only [pentityOf, Option.some.injEq] at ha
      subst ha
      intro x hx; cases hx
  | some d =>
    obtain ⟨h1, h2⟩ := hes u d hf
    refine ⟨?_, ?_⟩
    · intro a ha; simp only [pentityOf, Option.some.injEq] at ha; subst ha; exact h1
    · intro a ha; simp only [pentityOf, Option.some.injEq] at ha; subst ha; exact h2

def SInvU (q : Request) (es : Entities) (tps : List TPolicy) (U : List EntityUID) (st : State) : Prop :=
  SInv q es tps st ∧ ∀ rp, rp ∈ st.residuals → UidsIn U rp.residual

theorem sinvU_init {q : Request} {es : Entities} {tps : List TPolicy} (hT : TypedSafe q es tps) (hU : Universe U q es tps)
    {st0 : State} (h0 : initState (prequestOf q) tps = some st0) : SInvU q es tps U st0 := by
  refine ⟨sinv_init hT h0, ?_⟩
  obtain ⟨rs, hm, rfl⟩ := initState_some h0
  intro rp hrp
  obtain ⟨tp, htp, hf⟩ := (mapM?_spec hm).2 rp hrp
  obtain ⟨r0, ho, rfl⟩ := residualPolicyOf_some hf
  exact interpret_uidsIn (fun u p hp => by simp [Tpe.PEntities.find?] at hp) hU.req r0 (hU.pols tp htp r0 ho)

theorem sinvU_step {q : Request} {es : Entities} {tps : List TPolicy} {loader : Loader} (hF : Faithful loader es)
    (hU : Universe U q es tps) {st st' : State} (hi : SInvU q es tps U st) (hs : step (prequestOf q) loader st = some st') :
    SInvU q es tps U st' := by
  have hi' := sinv_step hF hi.1 hs
  refine ⟨hi', ?_⟩
  have hS := loadedFrom_storeIn hU.store hi'.loaded
  obtain ⟨es2, ha, rfl⟩ := step_some hs
  intro rp' hrp'
  simp only [List.mem_map] at hrp'
  obtain ⟨rp, hrp, rfl⟩ := hrp'
  exact interpret_uidsIn hS hU.req rp.residual (hi.2 rp hrp)

theorem sinvU_loopInv {q : Request} {es : Entities} {tps : List TPolicy} {loader : Loader}
    (hF : Faithful loader es) (hE : TypedAgrees q es tps) (hB : CondsBool q es tps) (hU : Universe U q es tps) :
    LoopInv (prequestOf q) loader U (SInvU q es tps U) where
  step := fun _ _ hi hs => sinvU_step hF hU hi hs
  progress := fun st hi hd =>
    toLoad_ne_nil (prequestOf_concrete q) (loadedFrom_fullyKnown hi.1.loaded)
      (fun rp hrp => by obtain ⟨_, _, _, _, _, _, _, hr, _⟩ := hi.1.tracked rp hrp; exact hr) hd
  bounded := by
    intro st hi u hu
    unfold State.toLoad at hu
    rw [mem_dedup, List.mem_filter] at hu
    obtain ⟨rp, hrp, hm⟩ := List.mem_flatMap.mp hu.1
    exact hi.2 rp hrp u hm
  boolTyped := fun _ hi => sinv_boolTyped hE hB hi.1

end Cedar.Batched
