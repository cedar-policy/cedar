/-
Model of the stateful part of the JSON/FFI interface (cedar-policy/src/ffi/is_authorized.rs) and of the
CLI's exit-code table (cedar-policy-cli/src/lib.rs). Import-free.

What is mirrored
* `PREPARSED_POLICY_SETS`, `PREPARSED_SCHEMAS` : two thread-local `HashMap<String, _>` — here two
  association lists without duplicate keys (`Map.insert` replaces, as `HashMap::insert` does).
* `preparse_policy_set(id, doc)` : `match doc.parse() { Ok(p) => { cache.insert(id, p); Success } Err(_) => Failure }`
* `preparse_schema(name, doc)`   : same shape, on the schema cache.
* `stateful_is_authorized(call)` / `StatefulAuthorizationCall::parse` : look the schema name up (only if one is
  given; a missing entry is an error), look the policy-set id up (a missing entry is an error), and only then
  assemble request/context/entities and authorize, exactly as `AuthorizationCall::parse` does after *its*
  schema and policies have been parsed.
* `is_authorized(call)` / `AuthorizationCall::parse` : parse the optional schema document and the policies
  document; if either fails the answer is `Failure`; otherwise the common tail.

What is a parameter (opaque): the two document parsers (`PolicySet::parse`, `Schema::parse` of ffi/utils.rs) and
the common tail `core` (= parse principal/action/resource/context/entities against the optional schema, build the
`Request` with or without request validation, call `Authorizer::is_authorized`, convert the response).
How `PolicySet::parse` assembles a policy set is modelled separately, in `Cedar/FfiPolicies.lean` (it is not plugged in
here as `parsePolicies`). That the tail and the schema parser assemble their inputs as the Rust API does is NOT a
statement of this model; it is checked by the differential run only (harness/src/c19.rs).
-/
namespace Cedar.Ffi

/-! ## association-list maps (HashMap<String, V>) -/

abbrev Map (V : Type) := List (String × V)

namespace Map
variable {V : Type}

def lookup (k : String) : Map V → Option V
  | [] => none
  | (k', v) :: m => if k' = k then some v else lookup k m

def erase (k : String) : Map V → Map V
  | [] => []
  | (k', v) :: m => if k' = k then erase k m else (k', v) :: erase k m

/-- `HashMap::insert`: the old entry for the key (if any) is replaced -/
def insert (k : String) (v : V) (m : Map V) : Map V := (k, v) :: erase k m

end Map

/-! ## the interface, parametrised by the parsers and the common tail -/

/-- `AuthorizationAnswer` up to what the property observes: `Failure` or `Success` with a response -/
inductive Answer (A : Type) where
  | failure
  | success (a : A)
deriving Repr, DecidableEq

/-- `CheckParseAnswer` -/
inductive CheckParse where
  | success
  | failure
deriving Repr, DecidableEq

/-- The opaque parts. `PDoc`/`SDoc`: submitted documents (ffi `PolicySet` / `Schema` values);
`P`/`S`: parsed objects (`crate::PolicySet` / `crate::Schema`); `R`: the rest of a call
(principal, action, resource, context, entities, validate_request); `A`: responses. -/
structure Params (PDoc SDoc P S R A : Type) where
  parsePolicies : PDoc → Option P
  parseSchema : SDoc → Option S
  core : Option S → P → R → Answer A

/-- the two thread-local caches -/
structure Store (P S : Type) where
  policies : Map P := []
  schemas : Map S := []

/-- `AuthorizationCall` -/
structure Call (PDoc SDoc R : Type) where
  schema : Option SDoc
  policies : PDoc
  rest : R

/-- `StatefulAuthorizationCall` -/
structure SCall (R : Type) where
  schemaName : Option String
  policySetId : String
  rest : R

section
variable {PDoc SDoc P S R A : Type} (π : Params PDoc SDoc P S R A)

/-- `preparse_policy_set` -/
def preparsePolicySet (st : Store P S) (id : String) (doc : PDoc) : Store P S × CheckParse :=
  match π.parsePolicies doc with
  | some p => ({ st with policies := st.policies.insert id p }, .success)
  | none => (st, .failure)

/-- `preparse_schema` -/
def preparseSchema (st : Store P S) (name : String) (doc : SDoc) : Store P S × CheckParse :=
  match π.parseSchema doc with
  | some s => ({ st with schemas := st.schemas.insert name s }, .success)
  | none => (st, .failure)

/-- `maybe_schema` of `StatefulAuthorizationCall::parse`: `Ok(None)` without a name, `Err` for an unknown name -/
def lookupSchema (st : Store P S) : Option String → Option (Option S)
  | none => some none
  | some n => match st.schemas.lookup n with
    | some s => some (some s)
    | none => none

/-- `stateful_is_authorized` -/
def statefulAuth (st : Store P S) (c : SCall R) : Answer A :=
  match lookupSchema st c.schemaName, st.policies.lookup c.policySetId with
  | some sch, some ps => π.core sch ps c.rest
  | _, _ => .failure

/-- `maybe_schema` of `AuthorizationCall::parse`: `schema.map(parse).transpose()` -/
def parseOptSchema : Option SDoc → Option (Option S)
  | none => some none
  | some d => match π.parseSchema d with
    | some s => some (some s)
    | none => none

/-- `is_authorized` -/
def statelessAuth (c : Call PDoc SDoc R) : Answer A :=
  match parseOptSchema π c.schema, π.parsePolicies c.policies with
  | some sch, some ps => π.core sch ps c.rest
  | _, _ => .failure

/-- one FFI call of a history -/
inductive Op (PDoc SDoc R : Type) where
  | preparsePolicySet (id : String) (doc : PDoc)
  | preparseSchema (name : String) (doc : SDoc)
  | statefulAuth (c : SCall R)

/-- reply to one call -/
inductive Reply (A : Type) where
  | checkParse (r : CheckParse)
  | answer (a : Answer A)

def step (st : Store P S) : Op PDoc SDoc R → Store P S × Reply A
  | .preparsePolicySet id doc => let (st', r) := preparsePolicySet π st id doc; (st', .checkParse r)
  | .preparseSchema n doc => let (st', r) := preparseSchema π st n doc; (st', .checkParse r)
  | .statefulAuth c => (st, .answer (statefulAuth π st c))

/-- the store after a history (oldest call first), starting from `st` -/
def runFrom (st : Store P S) : List (Op PDoc SDoc R) → Store P S
  | [] => st
  | op :: ops => runFrom (step π st op).1 ops

/-- the store after a history, starting from the empty caches (a fresh thread) -/
def run (h : List (Op PDoc SDoc R)) : Store P S := runFrom π {} h

/-- all replies of a history -/
def replies (st : Store P S) : List (Op PDoc SDoc R) → List (Reply A)
  | [] => []
  | op :: ops => (step π st op).2 :: replies (step π st op).1 ops

end

/-! ## the CLI's exit codes (`impl Termination for CedarExitCode`) -/

inductive CedarExitCode where
  | success
  | failure
  | authorizeDeny
  | validationFailure
  | unknown
deriving Repr, DecidableEq

def CedarExitCode.report : CedarExitCode → Nat
  | .success => 0            -- ExitCode::SUCCESS
  | .failure => 1            -- ExitCode::FAILURE
  | .authorizeDeny => 2
  | .validationFailure => 3
  | .unknown => 4

inductive Decision where
  | allow
  | deny
deriving Repr, DecidableEq

/-- `authorize` (command/authorize.rs): `Ok(ans)` ↦ by decision, `Err(_)` ↦ Failure -/
def authorizeExit : Answer Decision → CedarExitCode
  | .success .allow => .success
  | .success .deny => .authorizeDeny
  | .failure => .failure

/-- the decision line `authorize` prints -/
def authorizePrinted : Answer Decision → Option String
  | .success .allow => some "ALLOW"
  | .success .deny => some "DENY"
  | .failure => none

/-- `validate` (command/validate.rs): inputs unreadable ↦ Failure; otherwise by `validation_passed()`
(and, under `--deny-warnings`, `validation_passed_without_warnings()`) -/
def validateExit (inputsOk passed passedWithoutWarnings denyWarnings : Bool) : CedarExitCode :=
  if !inputsOk then .failure
  else if !passed || (denyWarnings && !passedWithoutWarnings) then .validationFailure
  else .success

/-- `check-parse`, `translate-policy`, `translate-schema`, `format` without `--check` -/
def okOrFailure (ok : Bool) : CedarExitCode := if ok then .success else .failure

end Cedar.Ffi
