import CedarVerif.Lemmas.TypecheckVerdict
import CedarVerif.Lemmas.TypecheckSchemaCheck
import CedarVerif.Lemmas.TypecheckPFull
import CedarVerif.Thm.C11
/-
C03 — validation is sound (and not vacuous).

Model: `Cedar.typeOf` (Cedar/Validation/Typecheck.lean), the mirror of `SingleEnvTypechecker::typecheck` for strict and
permissive mode, tied to the Rust typechecker by the differential run of `./check C03` (per policy and request
environment, both modes, plus the impossible-policy flag).

Full statement: `typeOf_sound` (a `def … : Prop`, every expression, both modes; it omits `SlotsLinked` and `SchemaND`).  Both
halves are proved with those two premises added:
  * strict: `typeOf_sound_strict` (`typeOf_sound_partial2` on `InFragment2`, which is every construct, plus `inFragment2_of`);
  * permissive: `permissive_sound_full : PermissiveSoundFull` (= `typeOf_sound_permissive`; induction `soundPF`,
    Lemmas/TypecheckPFull.lean), with operands of any static type the model types them at: entity-type unions, joined (open)
    records, `Set<Never>`, and `AnyEntity` for `in` / `is` (`has` `.` `hasTag` `getTag` on `AnyEntity` are `outside` in the model).
Premises beyond conformance of request and store; the statement is false without each:
  `SchemaWF2` — the entity-type table is a map, action uids have an action type, `ancestors` / `descendants` of the action
    hierarchy are inverse (true of every schema Rust constructs);
  `ActionsPresent` — the store holds the schema's action entities (`Entities::from_entities(.., schema)` adds them; without it
    `action in Action::"group"`, typed `True`, evaluates to `false`);
  `SlotsBound` / `SlotsLinked` — `link_request_env` gives every slot of the policy a type;
  `RecordKeysDistinct` — Rust's `ExprKind::Record` is a map;
  `SchemaND`, permissive mode only — the record types the schema declares have distinct keys (Rust's `Attributes` is a `BTreeMap`;
    the model keeps lists, and with a duplicate key `lubAttrsPermissive` may keep an entry that `Attrs.find?` does not see).
Beside them, with fewer premises: `typeOf_sound_partial` (`InFragment`, `SchemaWF` only, both modes), `typeOf_sound_partialM`
(`InFragmentM m`: in permissive mode every join has a syntactically flat side), `typeOf_sound_permissive_partial` (`InFragmentP`:
non-flat joins whose `then` branch / elements are `ndBase`; no `SchemaND`).
Policy level: `strict_validation_sound(_static)`, `permissive_validation_sound(_static)(_partial)`,
`impossible_policy_never_satisfied*`.  `instance_of_lub`: every value of either argument of `lub m` is a value of the bound.
Not covered: a slot in an environment that has no type for it (Rust types it `AnyEntity`; it does not occur after linking);
record literals with duplicate keys (not representable in Rust); `unknown` (outside the model).

`strict_implies_permissive` (full statement, a `def … : Prop`) is proved as `strict_implies_permissive_strict` — the SAME type
and capabilities in both modes — on `InFragment2` under `SchemaWF3` (declared record types closed with distinct keys, the action
table a map), and at policy level as `strict_accepted_policy_permissive_accepted`; without `SchemaWF3`,
`strict_implies_permissive_partial` covers `SIPFragment` (every least upper bound has a flat side).  Not proved: schemas with
open or duplicate-key record types (partial-schema validation).

The invariant has the two clauses the Rust rules need (DESIGN.md App. E): a capability *holds* if its guard (`e has a`,
`e.hasTag(k)`) is true OR fails with a permitted error; and the output capabilities of an expression typed `True` hold
unconditionally.
-/
namespace Cedar.C03
open Cedar

/-- template slots are bound (the policy is linked), to uids of the slot types of the environment where it has any -/
def SlotsBound (env : RequestEnv) (sl : SlotEnv) : Prop :=
  (∃ u, sl.lookup .principal = some u ∧ ∀ t, env.principalSlot = some t → u.ty = t) ∧
  (∃ u, sl.lookup .resource = some u ∧ ∀ t, env.resourceSlot = some t → u.ty = t)

theorem SlotsBound.slotsMatch {env : RequestEnv} {sl : SlotEnv} (h : SlotsBound env sl) : SlotsMatch env sl := by
  obtain ⟨⟨u, hu, hut⟩, ⟨v, hv, hvt⟩⟩ := h
  exact ⟨fun t ht => ⟨u, hu, hut t ht⟩, fun t ht => ⟨v, hv, hvt t ht⟩⟩

/-- FULL STATEMENT (every expression the model types, both modes).  If `typeOf e caps = ok (τ, caps')` in the environment
of a request that — like the store — conforms to the schema (Conformance.lean), the store holds the schema's action
entities, the slots are bound, and `caps` hold, then `e` evaluates to a value of type `τ` or fails with an
entity / overflow / extension error only — never a type error, a missing attribute or tag; if the value is `true` then
`caps'` hold; and if `τ = True` then `caps'` hold unconditionally.
(Without `SchemaWF2`, `ActionsPresent`, `SlotsBound`, `RecordKeysDistinct` the statement is false — see the header.) -/
def typeOf_sound : Prop :=
  ∀ (m : ValidationMode) (s : Schema) (env : RequestEnv) (w : World),
    SchemaWF2 s → EnvMatches s env w.q → ConformsRequest s w.q → StoreConforms s w.es → ActionsPresent s w.es →
    SlotsBound env w.sl →
    ∀ (e : Expr) (caps : Capabilities) (τ : CedarType) (c' : Capabilities), RecordKeysDistinct e = true →
      typeOf m s env e caps = .ok (τ, c') → CapsHold w caps →
      TySound w e τ c' ∧ (τ = .bool .tt → CapsHold w c')

/-- `typeOf_sound` in BOTH modes for the expressions of `InFragmentM m env` (strict: every construct; permissive: every
construct, but an `if` has a syntactically flat branch and a set literal is non-empty with syntactically flat elements). -/
theorem typeOf_sound_partialM (m : ValidationMode) (s : Schema) (env : RequestEnv) (w : World)
    (hWF : SchemaWF2 s) (henv : EnvMatches s env w.q) (hreq : ConformsRequest s w.q) (hst : StoreConforms s w.es)
    (hact : ActionsPresent s w.es) (hsl : SlotsMatch env w.sl)
    (e : Expr) (hf : InFragmentM m env e = true) (caps : Capabilities) (τ : CedarType) (c' : Capabilities)
    (h : typeOf m s env e caps = .ok (τ, c')) (hc : CapsHold w caps) :
    TySound w e τ c' ∧ (τ = .bool .tt → CapsHold w c') :=
  (soundM hWF henv e hf caps τ c' h).2 ⟨hreq, hst, hsl, hact⟩ hc

/-- Corollary (both modes): a condition that the typechecker does not reject in the environment of a conformant request
evaluates to a boolean, or fails with a permitted error. -/
theorem accepted_boolean_or_permitted_errorM (m : ValidationMode) (s : Schema) (env : RequestEnv) (w : World)
    (hWF : SchemaWF2 s) (henv : EnvMatches s env w.q) (hreq : ConformsRequest s w.q) (hst : StoreConforms s w.es)
    (hact : ActionsPresent s w.es) (hsl : SlotsMatch env w.sl)
    (e : Expr) (hf : InFragmentM m env e = true) (v : Verdict) (hv : checkEnv m s env e = some v) (hne : v ≠ .fail) :
    (∃ b, w.eval e = .ok (.prim (.bool b))) ∨ (∃ err, w.eval e = .error err ∧ Permitted err) :=
  checkEnv_accepted (fun τ c' ht => (typeOf_sound_partialM m s env w hWF henv hreq hst hact hsl e hf [] τ c' ht (capsHold_nil w)).1) hv hne

/-- `typeOf_sound` in STRICT mode for the expressions of `InFragment2 env`: every construct except `unknown`
(slots: in environments linked for them; record literals: distinct keys). -/
theorem typeOf_sound_partial2 (s : Schema) (env : RequestEnv) (w : World)
    (hWF : SchemaWF2 s) (henv : EnvMatches s env w.q) (hreq : ConformsRequest s w.q) (hst : StoreConforms s w.es)
    (hact : ActionsPresent s w.es) (hsl : SlotsMatch env w.sl)
    (e : Expr) (hf : InFragment2 env e = true) (caps : Capabilities) (τ : CedarType) (c' : Capabilities)
    (h : typeOf .strict s env e caps = .ok (τ, c')) (hc : CapsHold w caps) :
    TySound w e τ c' ∧ (τ = .bool .tt → CapsHold w c') :=
  (sound2 hWF henv e hf caps τ c' h).2 ⟨hreq, hst, hsl, hact⟩ hc

/-- THE FULL STATEMENT IN STRICT MODE: `typeOf_sound` with `m := .strict`, for every expression all of whose slots have a
type in the environment (`SlotsLinked`; `link_request_env` guarantees it for the environments the typechecker builds). -/
theorem typeOf_sound_strict (s : Schema) (env : RequestEnv) (w : World)
    (hWF : SchemaWF2 s) (henv : EnvMatches s env w.q) (hreq : ConformsRequest s w.q) (hst : StoreConforms s w.es)
    (hact : ActionsPresent s w.es) (hsl : SlotsBound env w.sl)
    (e : Expr) (caps : Capabilities) (τ : CedarType) (c' : Capabilities) (hk : RecordKeysDistinct e = true)
    (hlinked : SlotsLinked env e = true)
    (h : typeOf .strict s env e caps = .ok (τ, c')) (hc : CapsHold w caps) :
    TySound w e τ c' ∧ (τ = .bool .tt → CapsHold w c') :=
  typeOf_sound_partial2 s env w hWF henv hreq hst hact hsl.slotsMatch e (inFragment2_of env e hk hlinked) caps τ c' h hc

/-- the static types of the second fragment mention single entity types only, and never `Never` / `AnyEntity` -/
theorem typeOf_types_wellformed2 (s : Schema) (env : RequestEnv) (q : Request)
    (hWF : SchemaWF2 s) (henv : EnvMatches s env q) (e : Expr) (hf : InFragment2 env e = true)
    (caps : Capabilities) (τ : CedarType) (c' : Capabilities) (h : typeOf .strict s env e caps = .ok (τ, c')) : τ.mono = true :=
  typeOf_mono_strict hWF henv e hf caps τ c' h

/-- Corollary (second fragment): a policy condition that the strict typechecker does not reject in the environment of a
conformant request evaluates to a boolean, or fails with a permitted error. -/
theorem accepted_boolean_or_permitted_error2 (s : Schema) (env : RequestEnv) (w : World)
    (hWF : SchemaWF2 s) (henv : EnvMatches s env w.q) (hreq : ConformsRequest s w.q) (hst : StoreConforms s w.es)
    (hact : ActionsPresent s w.es) (hsl : SlotsMatch env w.sl)
    (e : Expr) (hf : InFragment2 env e = true) (v : Verdict) (hv : checkEnv .strict s env e = some v) (hne : v ≠ .fail) :
    (∃ b, w.eval e = .ok (.prim (.bool b))) ∨ (∃ err, w.eval e = .error err ∧ Permitted err) :=
  checkEnv_accepted (fun τ c' ht => (typeOf_sound_partial2 s env w hWF henv hreq hst hact hsl e hf [] τ c' ht (capsHold_nil w)).1) hv hne

/-- Corollary (second fragment): a condition typed `False` in the request's environment is never satisfied. -/
theorem typed_false_never_satisfied2 (s : Schema) (env : RequestEnv) (w : World)
    (hWF : SchemaWF2 s) (henv : EnvMatches s env w.q) (hreq : ConformsRequest s w.q) (hst : StoreConforms s w.es)
    (hact : ActionsPresent s w.es) (hsl : SlotsMatch env w.sl)
    (e : Expr) (hf : InFragment2 env e = true) (hv : checkEnv .strict s env e = some .ff) :
    w.eval e ≠ .ok (.prim (.bool true)) :=
  checkEnv_ff (fun τ c' ht => (typeOf_sound_partial2 s env w hWF henv hreq hst hact hsl e hf [] τ c' ht (capsHold_nil w)).1) hv

/-- Corollary (second fragment): a policy whose every environment is typed `False` (the impossible-policy rule) is not
satisfied by any conformant request whose environment is one of them. -/
theorem impossible_policy_never_satisfied2 (s : Schema) (w : World) (env : RequestEnv)
    (hWF : SchemaWF2 s) (henv : EnvMatches s env w.q) (hreq : ConformsRequest s w.q) (hst : StoreConforms s w.es)
    (hact : ActionsPresent s w.es) (hsl : SlotsMatch env w.sl)
    (e : Expr) (hf : InFragment2 env e = true) (vs : List (RequestEnv × Verdict))
    (hvs : vs.all (fun p => checkEnv .strict s p.1 e == some p.2) = true) (himp : impossible vs = true)
    (hmem : ∃ v, (env, v) ∈ vs) : w.eval e ≠ .ok (.prim (.bool true)) :=
  let ⟨_, hm⟩ := hmem
  typed_false_never_satisfied2 s env w hWF henv hreq hst hact hsl e hf (impossible_mem hvs himp hm)

/-- `typeOf_sound` for the expressions of `InFragment` (both validation modes). -/
theorem typeOf_sound_partial (m : ValidationMode) (s : Schema) (env : RequestEnv) (w : World)
    (hWF : SchemaWF s) (henv : EnvMatches s env w.q) (hreq : ConformsRequest s w.q) (hst : StoreConforms s w.es)
    (e : Expr) (hf : InFragment e = true) (caps : Capabilities) (τ : CedarType) (c' : Capabilities)
    (h : typeOf m s env e caps = .ok (τ, c')) (hc : CapsHold w caps) :
    TySound w e τ c' ∧ (τ = .bool .tt → CapsHold w c') :=
  typeOf_sound_aux hWF henv hreq hst e hf caps τ c' h hc

/-- the static types of the fragment mention single entity types only, and never `Never` -/
theorem typeOf_types_wellformed (m : ValidationMode) (s : Schema) (env : RequestEnv) (q : Request)
    (hWF : SchemaWF s) (henv : EnvMatches s env q) (e : Expr) (hf : InFragment e = true)
    (caps : Capabilities) (τ : CedarType) (c' : Capabilities) (h : typeOf m s env e caps = .ok (τ, c')) : τ.mono = true :=
  typeOf_mono hWF henv e hf caps τ c' h

/-- Corollary: a policy condition (of the fragment) that the typechecker does not reject in the environment of a
conformant request evaluates to a boolean, or fails with a permitted error — never with a type error or a missing
attribute. -/
theorem accepted_boolean_or_permitted_error (m : ValidationMode) (s : Schema) (env : RequestEnv) (w : World)
    (hWF : SchemaWF s) (henv : EnvMatches s env w.q) (hreq : ConformsRequest s w.q) (hst : StoreConforms s w.es)
    (e : Expr) (hf : InFragment e = true) (v : Verdict) (hv : checkEnv m s env e = some v) (hne : v ≠ .fail) :
    (∃ b, w.eval e = .ok (.prim (.bool b))) ∨ (∃ err, w.eval e = .error err ∧ Permitted err) :=
  checkEnv_accepted (fun τ c' ht => (typeOf_sound_partial m s env w hWF henv hreq hst e hf [] τ c' ht (capsHold_nil w)).1) hv hne

/-- Corollary: a condition typed `False` in the request's environment (the per-environment ingredient of the
impossible-policy warning) is never satisfied. -/
theorem typed_false_never_satisfied (m : ValidationMode) (s : Schema) (env : RequestEnv) (w : World)
    (hWF : SchemaWF s) (henv : EnvMatches s env w.q) (hreq : ConformsRequest s w.q) (hst : StoreConforms s w.es)
    (e : Expr) (hf : InFragment e = true) (hv : checkEnv m s env e = some .ff) :
    w.eval e ≠ .ok (.prim (.bool true)) :=
  checkEnv_ff (fun τ c' ht => (typeOf_sound_partial m s env w hWF henv hreq hst e hf [] τ c' ht (capsHold_nil w)).1) hv

/-- Corollary: a policy whose every environment is typed `False` (the impossible-policy rule) is not satisfied by any
conformant request whose environment is one of them. -/
theorem impossible_policy_never_satisfied (m : ValidationMode) (s : Schema) (pu ru : SlotUse) (w : World) (env : RequestEnv)
    (hWF : SchemaWF s) (henv : EnvMatches s env w.q) (hreq : ConformsRequest s w.q) (hst : StoreConforms s w.es)
    (e : Expr) (hf : InFragment e = true) (vs : List (RequestEnv × Verdict))
    (hvs : vs.all (fun p => checkEnv m s p.1 e == some p.2) = true) (himp : impossible vs = true)
    (hmem : ∃ v, (env, v) ∈ vs) : w.eval e ≠ .ok (.prim (.bool true)) :=
  let ⟨_, hm⟩ := hmem
  typed_false_never_satisfied m s env w hWF henv hreq hst e hf (impossible_mem hvs himp hm)

/-! ### non-vacuity: the documented guard idioms are typed, near misses are rejected -/

def exUser : EntityTypeEntry :=
  { attrs := [("active", false, .bool .anyBool), ("age", false, .long), ("name", true, .string),
              ("prefs", true, .record [("n", true, .long), ("theme", false, .string)] false)],
    isOpen := false, tags := none, descendants := [], enumIds := none }
def exView : ActionEntry :=
  { principals := ["User"], resources := ["User"], context := .record [("flag", false, .bool .anyBool), ("level", true, .long)] false,
    descendants := [], ancestors := [], attrs := [] }
def exSchema : Schema := { ets := [("User", exUser)], acts := [(⟨"Action", "view"⟩, exView)] }
def exEnv : RequestEnv :=
  { principal := "User", action := ⟨"Action", "view"⟩, resource := "User", context := exView.context,
    principalSlot := none, resourceSlot := none }

def principal : Expr := .var .principal
def context : Expr := .var .context

/-- `principal has active && principal.active` -/
def guardAnd : Expr := .and (.hasAttr principal "active") (.getAttr principal "active")
/-- `if context has flag then context.flag else false` -/
def guardIf : Expr := .ite (.hasAttr context "flag") (.getAttr context "flag") (.lit (.bool false))
/-- `principal has age && !(context has flag && context.flag)` -/
def guardNested : Expr :=
  .and (.hasAttr principal "age") (.unaryApp .not (.and (.hasAttr context "flag") (.getAttr context "flag")))
/-- `principal has age && principal.age + 1 == 19` -/
def guardArith : Expr :=
  .and (.hasAttr principal "age") (.binaryApp .eq (.binaryApp .add (.getAttr principal "age") (.lit (.int 1))) (.lit (.int 19)))
/-- `principal.prefs has theme && principal.prefs.theme like "d*" && principal is User` -/
def guardRecord : Expr :=
  .and (.hasAttr (.getAttr principal "prefs") "theme")
    (.and (.like (.getAttr (.getAttr principal "prefs") "theme") [.char 'd', .star]) (.is principal "User"))
def missOr : Expr := .or (.hasAttr principal "active") (.getAttr principal "active")
def missElse : Expr := .ite (.hasAttr principal "active") (.lit (.bool true)) (.getAttr principal "active")
def missNot : Expr := .and (.unaryApp .not (.hasAttr principal "active")) (.getAttr principal "active")
def missOrder : Expr := .and (.getAttr principal "active") (.hasAttr principal "active")
def missOther : Expr := .and (.hasAttr principal "age") (.getAttr principal "active")

example : InFragment guardAnd = true ∧ InFragment guardIf = true ∧ InFragment guardNested = true := by decide
example : checkEnv .strict exSchema exEnv guardAnd = some .bool := by decide +kernel
example : checkEnv .strict exSchema exEnv guardIf = some .bool := by decide +kernel
example : checkEnv .strict exSchema exEnv guardNested = some .bool := by decide +kernel
example : InFragment guardArith = true ∧ InFragment guardRecord = true := by decide
example : checkEnv .strict exSchema exEnv guardArith = some .bool := by decide +kernel
example : checkEnv .strict exSchema exEnv guardRecord = some .bool := by decide +kernel
example : checkEnv .strict exSchema exEnv (.binaryApp .eq (.lit (.int 1)) (.lit (.int 2))) = some .ff := by decide +kernel
example : checkEnv .permissive exSchema exEnv guardAnd = some .bool := by decide +kernel
example : checkEnv .strict exSchema exEnv missOr = some .fail := by decide +kernel
example : checkEnv .strict exSchema exEnv missElse = some .fail := by decide +kernel
example : checkEnv .strict exSchema exEnv missNot = some .fail := by decide +kernel
example : checkEnv .strict exSchema exEnv missOrder = some .fail := by decide +kernel
example : checkEnv .strict exSchema exEnv missOther = some .fail := by decide +kernel
/-- a required attribute of a closed record is typed `True`; of an entity (which may be absent) only `Bool` -/
example : checkEnv .strict exSchema exEnv (.hasAttr context "level") = some .tt := by decide +kernel
example : checkEnv .strict exSchema exEnv (.hasAttr principal "name") = some .bool := by decide +kernel
example : checkEnv .strict exSchema exEnv (.hasAttr context "nope") = some .ff := by decide +kernel
/-- the `||` rule keeps the capabilities of a right operand typed `True` -/
example : checkEnv .strict exSchema exEnv
    (.and (.or (.hasAttr principal "active") (.hasAttr context "level")) (.lit (.bool true))) = some .tt := by decide +kernel


/-- POLICY LEVEL (policies and templates): if the strict typechecker accepts the condition in every request environment
(`checkPolicy … = some vs`, `accepted vs`), then in every world whose request environment is one of them, evaluation
yields a boolean or fails with an entity / overflow / extension error only. -/
theorem strict_validation_sound (s : Schema) (pu ru : SlotUse) (cond : Expr) (vs : List (RequestEnv × Verdict))
    (w : World) (env : RequestEnv)
    (hWF : SchemaWF2 s) (hmem : env ∈ s.envs pu ru) (henv : EnvMatches s env w.q) (hreq : ConformsRequest s w.q)
    (hst : StoreConforms s w.es) (hact : ActionsPresent s w.es) (hsl : SlotsMatch env w.sl)
    (hf : InFragment2 env cond = true)
    (hcp : checkPolicy .strict s pu ru cond = some vs) (hacc : accepted vs = true) :
    (∃ b, w.eval cond = .ok (.prim (.bool b))) ∨ (∃ err, w.eval cond = .error err ∧ Permitted err) :=
  let ⟨v, hv, hne⟩ := checkPolicy_accepted hcp hacc hmem
  accepted_boolean_or_permitted_error2 s env w hWF henv hreq hst hact hsl cond hf v hv hne

/-- POLICY LEVEL (static policies): a slot-free condition accepted by the strict typechecker evaluates, on EVERY conformant
request and store, to a boolean or fails with a permitted error — the request's environment is among those typechecked
(`conformant_request_env`). -/
theorem strict_validation_sound_static (s : Schema) (cond : Expr) (vs : List (RequestEnv × Verdict)) (w : World)
    (hWF : SchemaWF2 s) (hreq : ConformsRequest s w.q) (hst : StoreConforms s w.es) (hact : ActionsPresent s w.es)
    (hf : ∀ env, InFragment2 env cond = true)
    (hcp : checkPolicy .strict s .absent .absent cond = some vs) (hacc : accepted vs = true) :
    (∃ b, w.eval cond = .ok (.prim (.bool b))) ∨ (∃ err, w.eval cond = .error err ∧ Permitted err) :=
  let ⟨env, hmem, henv, hsl⟩ := static_env hreq
  strict_validation_sound s .absent .absent cond vs w env hWF hmem henv hreq hst hact hsl (hf env) hcp hacc

/-- POLICY LEVEL: a static policy flagged impossible (every environment typed `False`) is satisfied by no conformant request -/
theorem impossible_policy_never_satisfied_static (s : Schema) (cond : Expr) (vs : List (RequestEnv × Verdict)) (w : World)
    (hWF : SchemaWF2 s) (hreq : ConformsRequest s w.q) (hst : StoreConforms s w.es) (hact : ActionsPresent s w.es)
    (hf : ∀ env, InFragment2 env cond = true)
    (hcp : checkPolicy .strict s .absent .absent cond = some vs) (himp : impossible vs = true) :
    w.eval cond ≠ .ok (.prim (.bool true)) :=
  let ⟨env, hmem, henv, hsl⟩ := static_env hreq
  typed_false_never_satisfied2 s env w hWF henv hreq hst hact hsl cond (hf env) (checkPolicy_impossible hcp himp hmem)

/-- FULL STATEMENT: whatever the strict typechecker accepts, the permissive one accepts, with a supertype -/
def strict_implies_permissive : Prop :=
  ∀ (s : Schema) (env : RequestEnv) (e : Expr) (caps : Capabilities) (τ : CedarType) (c : Capabilities),
    typeOf .strict s env e caps = .ok (τ, c) →
    ∃ τ' c', typeOf .permissive s env e caps = .ok (τ', c') ∧ isSubtype .permissive τ τ' = true

/-- `strict_implies_permissive` — with the SAME type and capabilities — for the expressions of `InFragment2` that are in
`SIPFragment` (Lemmas/TypecheckSIP.lean): every construct, but an `if` that is typechecked in both branches has a
syntactically flat branch (boolean / long / string kind) and the elements of a set literal are syntactically flat, so
that every least upper bound has a flat side, where the two modes agree (`lub_flat_modes`).  Needs `SchemaWF2` only; `if` /
set literals joining record, set or entity types are covered by `strict_implies_permissive_strict` under `SchemaWF3`. -/
theorem strict_implies_permissive_partial (s : Schema) (env : RequestEnv) (q : Request)
    (hWF : SchemaWF2 s) (henv : EnvMatches s env q) (e : Expr) (hf : InFragment2 env e = true) (hs : SIPFragment e = true)
    (caps : Capabilities) (τ : CedarType) (c : Capabilities) (h : typeOf .strict s env e caps = .ok (τ, c)) :
    typeOf .permissive s env e caps = .ok (τ, c) :=
  sip hWF henv e hf hs caps _ h

/-- `strict_implies_permissive` — with the SAME type and capabilities — for EVERY expression of the strict fragment
`InFragment2` (every construct; distinct record keys; linked slots), given that the record types the schema declares are
closed with distinct keys (`SchemaWF3`): the types strict typing assigns are then "good" (`GoodTy`: single entity types,
closed records with distinct keys), and on good types the permissive least upper bound is the strict one whenever the
latter exists (`lub_strict_perm`: where permissive but not strict subtyping holds — a required attribute against an
optional one — the strict bound does not exist, `subtype_gap`). -/
theorem strict_implies_permissive_strict (s : Schema) (env : RequestEnv) (q : Request)
    (hWF : SchemaWF3 s) (henv : EnvMatches s env q) (e : Expr) (hf : InFragment2 env e = true)
    (caps : Capabilities) (τ : CedarType) (c : Capabilities) (h : typeOf .strict s env e caps = .ok (τ, c)) :
    typeOf .permissive s env e caps = .ok (τ, c) :=
  sipG hWF henv e hf caps _ h

/-- the instance of the full statement `strict_implies_permissive` that this gives -/
theorem strict_implies_permissive_strict_sub (s : Schema) (env : RequestEnv) (q : Request)
    (hWF : SchemaWF3 s) (henv : EnvMatches s env q) (e : Expr) (hf : InFragment2 env e = true)
    (caps : Capabilities) (τ : CedarType) (c : Capabilities) (h : typeOf .strict s env e caps = .ok (τ, c)) :
    ∃ τ' c', typeOf .permissive s env e caps = .ok (τ', c') ∧ isSubtype .permissive τ τ' = true :=
  ⟨τ, c, strict_implies_permissive_strict s env q hWF henv e hf caps τ c h,
    isSubtype_strict_perm (isSubtype_refl_good τ (typeOf_goodTy hWF henv e hf caps τ c h))⟩

/-- POLICY LEVEL: a policy or template that the strict typechecker accepts in every environment is accepted by the
permissive typechecker in every environment, with the same verdicts -/
theorem strict_accepted_policy_permissive_accepted (s : Schema) (pu ru : SlotUse) (cond : Expr)
    (vs : List (RequestEnv × Verdict)) (hWF : SchemaWF3 s) (hf : ∀ env, env ∈ s.envs pu ru → InFragment2 env cond = true)
    (hcp : checkPolicy .strict s pu ru cond = some vs) (hacc : accepted vs = true) :
    checkPolicy .permissive s pu ru cond = some vs := by
  unfold checkPolicy at hcp ⊢
  refine option_mapM_congr hcp (fun env henv y hy hmem => ?_)
  obtain ⟨q, hq⟩ := env_of_envs hWF.acts_map henv
  cases hc : checkEnv .strict s env cond with
  | none => rw [hc] at hy; cases hy
  | some v =>
    rw [hc] at hy
    simp only [Option.map_some, Option.some.injEq] at hy
    subst hy
    have hne : v ≠ .fail := by simpa using List.all_eq_true.mp hacc _ hmem
    rw [checkEnv_transfers (sipG hWF hq cond (hf env henv) []) hc hne]; rfl

/-- Corollary: a verdict other than `fail` of the strict typechecker in an environment is the permissive verdict too -/
theorem strict_accepted_implies_permissive_accepted (s : Schema) (env : RequestEnv) (q : Request)
    (hWF : SchemaWF2 s) (henv : EnvMatches s env q) (e : Expr) (hf : InFragment2 env e = true) (hs : SIPFragment e = true)
    (v : Verdict) (hv : checkEnv .strict s env e = some v) (hne : v ≠ .fail) : checkEnv .permissive s env e = some v :=
  checkEnv_transfers (sip hWF henv e hf hs []) hv hne

/-! ### non-vacuity of the second fragment: ALL hypotheses of `typeOf_sound_partial2` instantiated

`entity Group; entity User in [Group] { age?: Long, name: String } tags String;
 action read; action view in [read] appliesTo { principal: User, resource: Group, context: { level: Long } };` -/

def ex2User : EntityTypeEntry :=
  { attrs := [("age", false, .long), ("name", true, .string)], isOpen := false, tags := some .string, descendants := [], enumIds := none }
def ex2Group : EntityTypeEntry :=
  { attrs := [], isOpen := false, tags := none, descendants := ["User"], enumIds := none }
def ex2Read : ActionEntry :=
  { principals := [], resources := [], context := .record [] false, descendants := [⟨"Action", "view"⟩], ancestors := [], attrs := [] }
def ex2View : ActionEntry :=
  { principals := ["User"], resources := ["Group"], context := .record [("level", true, .long)] false,
    descendants := [], ancestors := [⟨"Action", "read"⟩], attrs := [] }
def ex2Schema : Schema :=
  { ets := [("Group", ex2Group), ("User", ex2User)], acts := [(⟨"Action", "read"⟩, ex2Read), (⟨"Action", "view"⟩, ex2View)] }
/-- the environment of `view`, linked for `?principal` -/
def ex2Env : RequestEnv :=
  { principal := "User", action := ⟨"Action", "view"⟩, resource := "Group", context := ex2View.context,
    principalSlot := some "User", resourceSlot := none }
def ex2World : World :=
  { q := { principal := ⟨"User", "alice"⟩, action := ⟨"Action", "view"⟩, resource := ⟨"Group", "admins"⟩,
           context := [("level", .prim (.int 3))] },
    es := [(⟨"User", "alice"⟩, { attrs := [("name", .prim (.string "Alice"))], ancestors := [⟨"Group", "admins"⟩],
                                 tags := [("team", .prim (.string "blue"))] }),
           (⟨"Group", "admins"⟩, { attrs := [], ancestors := [], tags := [] }),
           (⟨"Action", "read"⟩, { attrs := [], ancestors := [], tags := [] }),
           (⟨"Action", "view"⟩, { attrs := [], ancestors := [⟨"Action", "read"⟩], tags := [] })],
    sl := [(.principal, ⟨"User", "alice"⟩)] }

def ex2Team : Expr := .lit (.string "team")
/-- `principal in resource && action in Action::"read" && ?principal == principal
    && principal.hasTag("team") && principal.getTag("team") like "b*"
    && context.level < 5 && [1, 2, 3].contains(context.level) && !([resource].isEmpty())
    && (if principal has age then principal.age else 0) <= 3 && {a: 1, b: "x"}.a == 1
    && decimal("1.5").lessThan(decimal("2.0")) && !(resource in principal)` -/
def ex2Cond : Expr :=
  .and (.binaryApp .mem principal (.var .resource))
  (.and (.binaryApp .mem (.var .action) (.lit (.entityUID ⟨"Action", "read"⟩)))
  (.and (.binaryApp .eq (.slot .principal) principal)
  (.and (.binaryApp .hasTag principal ex2Team)
  (.and (.like (.binaryApp .getTag principal ex2Team) [.char 'b', .star])
  (.and (.binaryApp .less (.getAttr context "level") (.lit (.int 5)))
  (.and (.binaryApp .contains (.set [.lit (.int 1), .lit (.int 2), .lit (.int 3)]) (.getAttr context "level"))
  (.and (.unaryApp .not (.unaryApp .isEmpty (.set [.var .resource])))
  (.and (.binaryApp .lessEq (.ite (.hasAttr principal "age") (.getAttr principal "age") (.lit (.int 0))) (.lit (.int 3)))
  (.and (.binaryApp .eq (.getAttr (.record [("a", .lit (.int 1)), ("b", .lit (.string "x"))]) "a") (.lit (.int 1)))
  (.and (.call "lessThan" [.call "decimal" [.lit (.string "1.5")], .call "decimal" [.lit (.string "2.0")]])
        (.unaryApp .not (.binaryApp .mem (.var .resource) principal))))))))))))

/-- `e` evaluates to `true` (as a `Bool`: `Value` has no decidable equality) -/
def evalsToTrue (w : World) (e : Expr) : Bool :=
  match w.eval e with
  | .ok (.prim (.bool true)) => true
  | _ => false
/-- the policy-level theorem on a slot-free condition: `checkPolicy` lists the single environment of the schema -/
def ex2Static : Expr :=
  .and (.binaryApp .mem principal (.var .resource))
  (.and (.binaryApp .hasTag principal ex2Team) (.like (.binaryApp .getTag principal ex2Team) [.char 'b', .star]))
/-- strict ⇒ permissive on a condition with an `if` (flat else-branch) and a set literal of flat elements -/
def ex2Sip : Expr :=
  .and ex2Static
  (.and (.binaryApp .contains (.set [.lit (.int 1), .lit (.int 2)]) (.getAttr context "level"))
        (.binaryApp .lessEq (.ite (.hasAttr principal "age") (.getAttr principal "age") (.lit (.int 0))) (.lit (.int 3))))

/-- Everything that is evaluated about the sample, in ONE declaration — the kernel shares work only inside one evaluation,
and what it would pay again each time is reading the string-keyed tables of the sample: (1) the premises (the tests of
`schemaWF3_of_check`, of `SchemaND`, of `conforms_of_check`, the action entities), (2) `ex2Cond`, (3) `ex2Static`,
(4) `ex2Sip`, (5) four small verdicts. -/
theorem ex2_checked :
    (schemaWF3B ex2Schema = true ∧
      ex2Schema.ets.all (fun p => ndTy (.record p.2.attrs false) && p.2.tags.all ndTy) = true ∧
      ex2Schema.acts.all (fun p => ndTy p.2.context) = true ∧
      (ex2Schema.schematic && Manifest.isOkB (checkRequest ex2Schema ex2World.q) &&
        ex2World.es.all (fun p => Manifest.isOkB (checkEntity ex2Schema p.1 p.2))) = true ∧
      ex2Schema.acts.all (fun p => (ex2World.es.find? p.1).isSome) = true) ∧
    ((InFragment2 ex2Env ex2Cond = true ∧ checkEnv .strict ex2Schema ex2Env ex2Cond = some .bool) ∧
      evalsToTrue ex2World ex2Cond = true) ∧
    (checkPolicy .strict ex2Schema .absent .absent ex2Static).map accepted = some true ∧
    ((SIPFragment ex2Sip = true ∧ InFragment2 ex2Env ex2Sip = true ∧ checkEnv .strict ex2Schema ex2Env ex2Sip = some .bool) ∧
      InFragmentM .permissive ex2Env ex2Sip = true) ∧
    (checkEnv .strict ex2Schema ex2Env (.binaryApp .mem (.var .resource) principal) = some .ff ∧
      checkEnv .strict ex2Schema ex2Env (.binaryApp .mem (.var .action) (.lit (.entityUID ⟨"Action", "read"⟩))) = some .tt ∧
      checkEnv .strict ex2Schema ex2Env (.like (.binaryApp .getTag principal ex2Team) [.star]) = some .fail ∧
      checkEnv .strict ex2Schema ex2Env (.unaryApp .isEmpty (.set [.lit (.int 1), .lit (.string "x")])) = some .fail) := by
  decide +kernel

theorem ex2_schemaWF3 : SchemaWF3 ex2Schema := schemaWF3_of_check ex2_checked.1.1

theorem ex2_schemaWF : SchemaWF2 ex2Schema := ex2_schemaWF3.toSchemaWF2

theorem ex2_envMatches : EnvMatches ex2Schema ex2Env ex2World.q := ⟨rfl, rfl, rfl, ex2View, rfl, rfl⟩

theorem ex2_request : ConformsRequest ex2Schema ex2World.q := (Cedar.C11.conforms_of_check ex2_checked.1.2.2.2.1).1

theorem ex2_store : StoreConforms ex2Schema ex2World.es := (Cedar.C11.conforms_of_check ex2_checked.1.2.2.2.1).2

theorem ex2_actions : ActionsPresent ex2Schema ex2World.es := actionsPresent_of_check ex2_checked.1.2.2.2.2

theorem ex2_slots : SlotsMatch ex2Env ex2World.sl :=
  ⟨fun t ht => ⟨⟨"User", "alice"⟩, rfl, by cases ht; rfl⟩, fun t ht => by cases ht⟩

theorem ex2Cond_checked : InFragment2 ex2Env ex2Cond = true ∧ checkEnv .strict ex2Schema ex2Env ex2Cond = some .bool :=
  ex2_checked.2.1.1
example : InFragment2 ex2Env ex2Cond = true := ex2Cond_checked.1
example : checkEnv .strict ex2Schema ex2Env ex2Cond = some .bool := ex2Cond_checked.2
/-- the condition is satisfied by the request … -/
example : evalsToTrue ex2World ex2Cond = true := ex2_checked.2.1.2
/-- … and every premise of the soundness theorem (schema well-formedness, environment, conformance of request and store,
action entities, slots, capabilities) holds for it -/
example : (∃ b, ex2World.eval ex2Cond = .ok (.prim (.bool b))) ∨ (∃ err, ex2World.eval ex2Cond = .error err ∧ Permitted err) :=
  accepted_boolean_or_permitted_error2 ex2Schema ex2Env ex2World ex2_schemaWF ex2_envMatches ex2_request ex2_store
    ex2_actions ex2_slots ex2Cond ex2Cond_checked.1 .bool ex2Cond_checked.2 (by decide)
example : (∃ b, ex2World.eval ex2Static = .ok (.prim (.bool b))) ∨ (∃ err, ex2World.eval ex2Static = .error err ∧ Permitted err) :=
  let ⟨vs, hcp, hacc⟩ := checkPolicy_accepted_of ex2_checked.2.2.1
  strict_validation_sound_static ex2Schema ex2Static vs ex2World ex2_schemaWF ex2_request ex2_store ex2_actions (fun _ => rfl) hcp hacc
theorem ex2Sip_checked : SIPFragment ex2Sip = true ∧ InFragment2 ex2Env ex2Sip = true ∧
    checkEnv .strict ex2Schema ex2Env ex2Sip = some .bool := ex2_checked.2.2.2.1.1
theorem ex2Sip_permissive : checkEnv .permissive ex2Schema ex2Env ex2Sip = some .bool :=
  strict_accepted_implies_permissive_accepted ex2Schema ex2Env ex2World.q ex2_schemaWF ex2_envMatches ex2Sip ex2Sip_checked.2.1
    ex2Sip_checked.1 .bool ex2Sip_checked.2.2 (by decide)
example : SIPFragment ex2Sip = true := ex2Sip_checked.1
example : checkEnv .permissive ex2Schema ex2Env ex2Sip = some .bool := ex2Sip_permissive
/-- the both-modes theorem instantiated in permissive mode -/
example : (∃ b, ex2World.eval ex2Sip = .ok (.prim (.bool b))) ∨ (∃ err, ex2World.eval ex2Sip = .error err ∧ Permitted err) :=
  accepted_boolean_or_permitted_errorM .permissive ex2Schema ex2Env ex2World ex2_schemaWF ex2_envMatches ex2_request ex2_store
    ex2_actions ex2_slots ex2Sip ex2_checked.2.2.2.1.2 .bool ex2Sip_permissive (by decide)

/-- strict ⇒ permissive at policy level on a condition whose `if`s join record types (`{x: True}` with `{x: False}`) and
set types — outside `SIPFragment`, inside the strict fragment -/
def ex2NonFlat : Expr :=
  .and (.getAttr (.ite (.binaryApp .less (.getAttr context "level") (.lit (.int 5)))
                       (.record [("x", .lit (.bool true))]) (.record [("x", .lit (.bool false))])) "x")
       (.binaryApp .contains (.ite (.binaryApp .less (.getAttr context "level") (.lit (.int 5)))
                                   (.set [principal]) (.set [principal, principal])) principal)
example : SIPFragment ex2NonFlat = false := by decide +kernel
example : checkPolicy .permissive ex2Schema .absent .absent ex2NonFlat =
    some [(⟨"User", ⟨"Action", "view"⟩, "Group", ex2View.context, none, none⟩, .bool)] :=
  strict_accepted_policy_permissive_accepted ex2Schema .absent .absent ex2NonFlat _ ex2_schemaWF3 (fun _ _ => rfl) rfl rfl

/-- `False` from the hierarchy: a `Group` is never in a `User`; `True` from the action hierarchy: `view` is in `read` -/
example : checkEnv .strict ex2Schema ex2Env (.binaryApp .mem (.var .resource) principal) = some .ff := ex2_checked.2.2.2.2.1
example : checkEnv .strict ex2Schema ex2Env (.binaryApp .mem (.var .action) (.lit (.entityUID ⟨"Action", "read"⟩))) = some .tt :=
  ex2_checked.2.2.2.2.2.1
/-- an unguarded `getTag` and a set literal of mixed types are rejected in strict mode -/
example : checkEnv .strict ex2Schema ex2Env (.like (.binaryApp .getTag principal ex2Team) [.star]) = some .fail :=
  ex2_checked.2.2.2.2.2.2.1
example : checkEnv .strict ex2Schema ex2Env (.unaryApp .isEmpty (.set [.lit (.int 1), .lit (.string "x")])) = some .fail :=
  ex2_checked.2.2.2.2.2.2.2

/-- `typeOf_sound` with `m := .permissive`, for every expression with distinct record keys and linked slots (proved:
`permissive_sound_full`); on the premise `SchemaND` see the header. -/
def PermissiveSoundFull : Prop :=
  ∀ (s : Schema) (env : RequestEnv) (w : World),
    SchemaWF2 s → SchemaND s → EnvMatches s env w.q → ConformsRequest s w.q → StoreConforms s w.es → ActionsPresent s w.es →
    SlotsBound env w.sl →
    ∀ (e : Expr) (caps : Capabilities) (τ : CedarType) (c' : Capabilities), RecordKeysDistinct e = true →
      SlotsLinked env e = true →
      typeOf .permissive s env e caps = .ok (τ, c') → CapsHold w caps →
      TySound w e τ c' ∧ (τ = .bool .tt → CapsHold w c')

/-- THE FULL STATEMENT IN PERMISSIVE MODE: every expression (distinct record-literal keys, linked slots), no restriction on
the static types of sub-expressions — `if` / set literals joining arbitrary types, `has` `.` `hasTag` `getTag` `in` `is` `<`
on operands typed with an entity-type union or a joined (open) record type, `in` / `is` also on `AnyEntity` (the model answers
`outside` for `has` `.` `hasTag` `getTag` on `AnyEntity`, so the theorem says nothing there). -/
theorem typeOf_sound_permissive (s : Schema) (env : RequestEnv) (w : World)
    (hWF : SchemaWF2 s) (hND : SchemaND s) (henv : EnvMatches s env w.q) (hreq : ConformsRequest s w.q)
    (hst : StoreConforms s w.es) (hact : ActionsPresent s w.es) (hsl : SlotsMatch env w.sl)
    (e : Expr) (caps : Capabilities) (τ : CedarType) (c' : Capabilities) (hk : RecordKeysDistinct e = true)
    (hlinked : SlotsLinked env e = true)
    (h : typeOf .permissive s env e caps = .ok (τ, c')) (hc : CapsHold w caps) :
    TySound w e τ c' ∧ (τ = .bool .tt → CapsHold w c') :=
  (soundPF hWF hND henv e hk hlinked caps τ c' h).2 ⟨hreq, hst, hsl, hact⟩ hc

theorem permissive_sound_full : PermissiveSoundFull :=
  fun s env w hWF hND henv hreq hst hact hsl e caps τ c' hk hlinked h hc =>
    typeOf_sound_permissive s env w hWF hND henv hreq hst hact hsl.slotsMatch e caps τ c' hk hlinked h hc

/-- `typeOf` yields types with distinct record keys everywhere inside (and `Never` only as a set element type), permissive
mode: what the left half of `instance_of_lub` needs of a `then` branch / a set element. -/
theorem typeOf_ndTy (s : Schema) (env : RequestEnv) (q : Request) (hWF : SchemaWF2 s) (hND : SchemaND s)
    (henv : EnvMatches s env q) (e : Expr) (hk : RecordKeysDistinct e = true) (hlinked : SlotsLinked env e = true)
    (caps : Capabilities) (τ : CedarType) (c' : Capabilities) (h : typeOf .permissive s env e caps = .ok (τ, c')) :
    ndTy τ = true ∧ τ ≠ .never :=
  have hok := (soundPF (w := ⟨q, [], []⟩) hWF hND henv e hk hlinked caps τ c' h).1
  ⟨hok.1, hok.ne_never⟩

/-- … and strict mode (there the types are those of permissive mode, `strict_implies_permissive_strict`) -/
theorem typeOf_ndTy_strict (s : Schema) (env : RequestEnv) (q : Request) (hWF : SchemaWF3 s) (hND : SchemaND s)
    (henv : EnvMatches s env q) (e : Expr) (hk : RecordKeysDistinct e = true) (hlinked : SlotsLinked env e = true)
    (caps : Capabilities) (τ : CedarType) (c' : Capabilities) (h : typeOf .strict s env e caps = .ok (τ, c')) :
    ndTy τ = true ∧ τ ≠ .never :=
  typeOf_ndTy s env q hWF.toSchemaWF2 hND henv e hk hlinked caps τ c'
    (sipG hWF henv e (inFragment2_of env e hk hlinked) caps _ h)

/-- SUBTYPING LEMMA (both modes): every value of either argument of `lub m` is a value of the least upper bound — for the
permissive bound too: unions of entity types, `AnyEntity`, records joined with width / depth subtyping (dropped attributes,
open records), `Set<Never>`.  The left half needs distinct record keys inside the
left type (`ndTy`; `Attributes` is a `BTreeMap` in Rust): with a duplicate key the model's bound may keep the second entry. -/
theorem instance_of_lub (m : ValidationMode) {v : Value} {τ1 τ2 τ : CedarType} (h : lub m τ1 τ2 = some τ) :
    (ndTy τ1 = true → InstanceOfType v τ1 → InstanceOfType v τ) ∧ (InstanceOfType v τ2 → InstanceOfType v τ) :=
  ⟨fun hnd => (lub_inst h).1 (Or.inr hnd) v, (lub_inst h).2 v⟩

/-- the permissive bound of `User` and `Group` is their union, and `alice` is a value of it -/
example : InstanceOfType (.prim (.entityUID ⟨"User", "alice"⟩)) (.entity ["Group", "User"]) :=
  (instance_of_lub .permissive (τ1 := .entity ["User"]) (τ2 := .entity ["Group"]) rfl).1 rfl
    (.entity _ _ (by simp))

/-- `typeOf_sound` in PERMISSIVE mode for the expressions of `InFragmentP env` (Lemmas/TypecheckPSound.lean): the
permissive fragment of `typeOf_sound_partialM` closed under
  * `if` typechecked in both branches with ARBITRARY branch types (joined by the permissive least upper bound: an
    entity-type union, a record join, …), the `then` branch being of an evident kind (`ndBase`: a literal, `principal`,
    `action`, `resource`, a slot, or a flat expression);
  * set literals of such elements with ARBITRARY element types (`[principal, resource]`), and `[]` (typed `Set<Never>`);
  * `==`, `contains`, `containsAll`, `containsAny`, `isEmpty`, `&&`, `||`, `!` over operands of the fragment. -/
theorem typeOf_sound_permissive_partial (s : Schema) (env : RequestEnv) (w : World)
    (hWF : SchemaWF2 s) (henv : EnvMatches s env w.q) (hreq : ConformsRequest s w.q) (hst : StoreConforms s w.es)
    (hact : ActionsPresent s w.es) (hsl : SlotsMatch env w.sl)
    (e : Expr) (hf : InFragmentP env e = true) (caps : Capabilities) (τ : CedarType) (c' : Capabilities)
    (h : typeOf .permissive s env e caps = .ok (τ, c')) (hc : CapsHold w caps) :
    TySound w e τ c' ∧ (τ = .bool .tt → CapsHold w c') :=
  (soundP hWF henv e hf caps τ c' h).2 ⟨hreq, hst, hsl, hact⟩ hc

/-- Corollary (permissive): a condition the permissive typechecker does not reject in the environment of a conformant
request evaluates to a boolean, or fails with a permitted error. -/
theorem accepted_boolean_or_permitted_errorP (s : Schema) (env : RequestEnv) (w : World)
    (hWF : SchemaWF2 s) (henv : EnvMatches s env w.q) (hreq : ConformsRequest s w.q) (hst : StoreConforms s w.es)
    (hact : ActionsPresent s w.es) (hsl : SlotsMatch env w.sl)
    (e : Expr) (hf : InFragmentP env e = true) (v : Verdict) (hv : checkEnv .permissive s env e = some v) (hne : v ≠ .fail) :
    (∃ b, w.eval e = .ok (.prim (.bool b))) ∨ (∃ err, w.eval e = .error err ∧ Permitted err) :=
  checkEnv_accepted (fun τ c' ht => (typeOf_sound_permissive_partial s env w hWF henv hreq hst hact hsl e hf [] τ c' ht (capsHold_nil w)).1) hv hne

/-- Corollary (permissive): a condition typed `False` in the request's environment is never satisfied. -/
theorem typed_false_never_satisfiedP (s : Schema) (env : RequestEnv) (w : World)
    (hWF : SchemaWF2 s) (henv : EnvMatches s env w.q) (hreq : ConformsRequest s w.q) (hst : StoreConforms s w.es)
    (hact : ActionsPresent s w.es) (hsl : SlotsMatch env w.sl)
    (e : Expr) (hf : InFragmentP env e = true) (hv : checkEnv .permissive s env e = some .ff) :
    w.eval e ≠ .ok (.prim (.bool true)) :=
  checkEnv_ff (fun τ c' ht => (typeOf_sound_permissive_partial s env w hWF henv hreq hst hact hsl e hf [] τ c' ht (capsHold_nil w)).1) hv

/-- POLICY LEVEL, permissive (policies and templates): if the permissive typechecker accepts the condition in every request
environment, then in every world whose request environment is one of them evaluation yields a boolean or fails with an
entity / overflow / extension error only. -/
theorem permissive_validation_sound_partial (s : Schema) (pu ru : SlotUse) (cond : Expr) (vs : List (RequestEnv × Verdict))
    (w : World) (env : RequestEnv)
    (hWF : SchemaWF2 s) (hmem : env ∈ s.envs pu ru) (henv : EnvMatches s env w.q) (hreq : ConformsRequest s w.q)
    (hst : StoreConforms s w.es) (hact : ActionsPresent s w.es) (hsl : SlotsMatch env w.sl)
    (hf : InFragmentP env cond = true)
    (hcp : checkPolicy .permissive s pu ru cond = some vs) (hacc : accepted vs = true) :
    (∃ b, w.eval cond = .ok (.prim (.bool b))) ∨ (∃ err, w.eval cond = .error err ∧ Permitted err) :=
  let ⟨v, hv, hne⟩ := checkPolicy_accepted hcp hacc hmem
  accepted_boolean_or_permitted_errorP s env w hWF henv hreq hst hact hsl cond hf v hv hne

/-- POLICY LEVEL, permissive (static policies): on EVERY conformant request and store. -/
theorem permissive_validation_sound_static_partial (s : Schema) (cond : Expr) (vs : List (RequestEnv × Verdict)) (w : World)
    (hWF : SchemaWF2 s) (hreq : ConformsRequest s w.q) (hst : StoreConforms s w.es) (hact : ActionsPresent s w.es)
    (hf : ∀ env, InFragmentP env cond = true)
    (hcp : checkPolicy .permissive s .absent .absent cond = some vs) (hacc : accepted vs = true) :
    (∃ b, w.eval cond = .ok (.prim (.bool b))) ∨ (∃ err, w.eval cond = .error err ∧ Permitted err) :=
  let ⟨env, hmem, henv, hsl⟩ := static_env hreq
  permissive_validation_sound_partial s .absent .absent cond vs w env hWF hmem henv hreq hst hact hsl (hf env) hcp hacc

/-- POLICY LEVEL, permissive: a static policy flagged impossible is satisfied by no conformant request -/
theorem impossible_policy_never_satisfied_static_permissive (s : Schema) (cond : Expr) (vs : List (RequestEnv × Verdict))
    (w : World) (hWF : SchemaWF2 s) (hreq : ConformsRequest s w.q) (hst : StoreConforms s w.es) (hact : ActionsPresent s w.es)
    (hf : ∀ env, InFragmentP env cond = true)
    (hcp : checkPolicy .permissive s .absent .absent cond = some vs) (himp : impossible vs = true) :
    w.eval cond ≠ .ok (.prim (.bool true)) :=
  let ⟨env, hmem, henv, hsl⟩ := static_env hreq
  typed_false_never_satisfiedP s env w hWF henv hreq hst hact hsl cond (hf env) (checkPolicy_impossible hcp himp hmem)

/-- Corollary (permissive, every expression): a condition the permissive typechecker does not reject in the environment of a
conformant request evaluates to a boolean, or fails with a permitted error. -/
theorem accepted_boolean_or_permitted_error_permissive (s : Schema) (env : RequestEnv) (w : World)
    (hWF : SchemaWF2 s) (hND : SchemaND s) (henv : EnvMatches s env w.q) (hreq : ConformsRequest s w.q)
    (hst : StoreConforms s w.es) (hact : ActionsPresent s w.es) (hsl : SlotsMatch env w.sl)
    (e : Expr) (hk : RecordKeysDistinct e = true) (hlinked : SlotsLinked env e = true)
    (v : Verdict) (hv : checkEnv .permissive s env e = some v) (hne : v ≠ .fail) :
    (∃ b, w.eval e = .ok (.prim (.bool b))) ∨ (∃ err, w.eval e = .error err ∧ Permitted err) :=
  checkEnv_accepted (fun τ c' ht => (typeOf_sound_permissive s env w hWF hND henv hreq hst hact hsl e [] τ c' hk hlinked ht (capsHold_nil w)).1) hv hne

/-- Corollary (permissive, every expression): a condition typed `False` in the request's environment is never satisfied. -/
theorem typed_false_never_satisfied_permissive (s : Schema) (env : RequestEnv) (w : World)
    (hWF : SchemaWF2 s) (hND : SchemaND s) (henv : EnvMatches s env w.q) (hreq : ConformsRequest s w.q)
    (hst : StoreConforms s w.es) (hact : ActionsPresent s w.es) (hsl : SlotsMatch env w.sl)
    (e : Expr) (hk : RecordKeysDistinct e = true) (hlinked : SlotsLinked env e = true)
    (hv : checkEnv .permissive s env e = some .ff) :
    w.eval e ≠ .ok (.prim (.bool true)) :=
  checkEnv_ff (fun τ c' ht => (typeOf_sound_permissive s env w hWF hND henv hreq hst hact hsl e [] τ c' hk hlinked ht (capsHold_nil w)).1) hv

/-- POLICY LEVEL, PERMISSIVE MODE, NO FRAGMENT (policies and templates): if the permissive typechecker accepts the condition
in every request environment, then in every world whose request environment is one of them (with the policy's slots linked
in it) evaluation yields a boolean or fails with an entity / overflow / extension error only. -/
theorem permissive_validation_sound (s : Schema) (pu ru : SlotUse) (cond : Expr) (vs : List (RequestEnv × Verdict))
    (w : World) (env : RequestEnv)
    (hWF : SchemaWF2 s) (hND : SchemaND s) (hmem : env ∈ s.envs pu ru) (henv : EnvMatches s env w.q)
    (hreq : ConformsRequest s w.q) (hst : StoreConforms s w.es) (hact : ActionsPresent s w.es) (hsl : SlotsMatch env w.sl)
    (hk : RecordKeysDistinct cond = true) (hlinked : SlotsLinked env cond = true)
    (hcp : checkPolicy .permissive s pu ru cond = some vs) (hacc : accepted vs = true) :
    (∃ b, w.eval cond = .ok (.prim (.bool b))) ∨ (∃ err, w.eval cond = .error err ∧ Permitted err) :=
  let ⟨v, hv, hne⟩ := checkPolicy_accepted hcp hacc hmem
  accepted_boolean_or_permitted_error_permissive s env w hWF hND henv hreq hst hact hsl cond hk hlinked v hv hne

/-- POLICY LEVEL, permissive, static policies (no slots): on EVERY conformant request and store. -/
theorem permissive_validation_sound_static (s : Schema) (cond : Expr) (vs : List (RequestEnv × Verdict)) (w : World)
    (hWF : SchemaWF2 s) (hND : SchemaND s) (hreq : ConformsRequest s w.q) (hst : StoreConforms s w.es)
    (hact : ActionsPresent s w.es) (hk : RecordKeysDistinct cond = true) (hlinked : ∀ env, SlotsLinked env cond = true)
    (hcp : checkPolicy .permissive s .absent .absent cond = some vs) (hacc : accepted vs = true) :
    (∃ b, w.eval cond = .ok (.prim (.bool b))) ∨ (∃ err, w.eval cond = .error err ∧ Permitted err) :=
  let ⟨env, hmem, henv, hsl⟩ := static_env hreq
  permissive_validation_sound s .absent .absent cond vs w env hWF hND hmem henv hreq hst hact hsl hk (hlinked env) hcp hacc

/-- POLICY LEVEL, permissive, no fragment: a static policy flagged impossible is satisfied by no conformant request -/
theorem impossible_policy_never_satisfied_permissive (s : Schema) (cond : Expr) (vs : List (RequestEnv × Verdict))
    (w : World) (hWF : SchemaWF2 s) (hND : SchemaND s) (hreq : ConformsRequest s w.q) (hst : StoreConforms s w.es)
    (hact : ActionsPresent s w.es) (hk : RecordKeysDistinct cond = true) (hlinked : ∀ env, SlotsLinked env cond = true)
    (hcp : checkPolicy .permissive s .absent .absent cond = some vs) (himp : impossible vs = true) :
    w.eval cond ≠ .ok (.prim (.bool true)) :=
  let ⟨env, hmem, henv, hsl⟩ := static_env hreq
  typed_false_never_satisfied_permissive s env w hWF hND henv hreq hst hact hsl cond hk (hlinked env)
    (checkPolicy_impossible hcp himp hmem)

/-! #### non-vacuity: policies that PERMISSIVE mode accepts and STRICT mode rejects -/

def evalsToBool (w : World) (e : Expr) : Option Bool :=
  match w.eval e with
  | .ok (.prim (.bool b)) => some b
  | _ => none

/-- `(if principal has age then principal else resource) == resource`: the `if` joins `User` and `Group` -/
def exJoinEq : Expr := .binaryApp .eq (.ite (.hasAttr principal "age") principal (.var .resource)) (.var .resource)
/-- `[principal, resource].contains(principal)`: a set literal of two entity types -/
def exSetMixed : Expr := .binaryApp .contains (.set [principal, .var .resource]) principal
/-- `principal in resource && ((if … ) == resource || [principal, resource].contains(principal)) && [].isEmpty()` -/
def exPermissivePolicy : Expr :=
  .and (.binaryApp .mem principal (.var .resource))
    (.and (.or exJoinEq exSetMixed) (.unaryApp .isEmpty (.set [])))

/-- the verdicts and values of the three conditions, evaluated together -/
theorem exPermissivePolicy_checked :
    (checkEnv .permissive ex2Schema ex2Env exPermissivePolicy = some .bool ∧
      InFragmentM .permissive ex2Env exJoinEq = false ∧ InFragmentM .permissive ex2Env exSetMixed = false ∧
      InFragmentP ex2Env exJoinEq = true ∧ InFragmentP ex2Env exSetMixed = true ∧ InFragmentP ex2Env exPermissivePolicy = true) ∧
    (checkEnv .strict ex2Schema ex2Env exJoinEq = some .fail ∧ checkEnv .permissive ex2Schema ex2Env exJoinEq = some .bool ∧
      checkEnv .strict ex2Schema ex2Env exSetMixed = some .fail ∧ checkEnv .permissive ex2Schema ex2Env exSetMixed = some .bool ∧
      checkEnv .strict ex2Schema ex2Env exPermissivePolicy = some .fail) ∧
    (evalsToBool ex2World exJoinEq = some true ∧ evalsToBool ex2World exSetMixed = some true ∧
      evalsToBool ex2World exPermissivePolicy = some true) ∧
    (checkPolicy .permissive ex2Schema .absent .absent exJoinEq).map accepted = some true := by
  decide +kernel
example : checkEnv .strict ex2Schema ex2Env exJoinEq = some .fail := exPermissivePolicy_checked.2.1.1
example : checkEnv .permissive ex2Schema ex2Env exJoinEq = some .bool := exPermissivePolicy_checked.2.1.2.1
example : checkEnv .strict ex2Schema ex2Env exSetMixed = some .fail := exPermissivePolicy_checked.2.1.2.2.1
example : checkEnv .permissive ex2Schema ex2Env exSetMixed = some .bool := exPermissivePolicy_checked.2.1.2.2.2.1
example : checkEnv .strict ex2Schema ex2Env exPermissivePolicy = some .fail := exPermissivePolicy_checked.2.1.2.2.2.2
example : checkEnv .permissive ex2Schema ex2Env exPermissivePolicy = some .bool := exPermissivePolicy_checked.1.1
/-- outside `InFragmentM .permissive`, inside `InFragmentP` -/
example : InFragmentM .permissive ex2Env exJoinEq = false ∧ InFragmentM .permissive ex2Env exSetMixed = false ∧
    InFragmentP ex2Env exJoinEq = true ∧ InFragmentP ex2Env exSetMixed = true ∧ InFragmentP ex2Env exPermissivePolicy = true :=
  exPermissivePolicy_checked.1.2
/-- the evaluation results on the conformant request / store `ex2World` are booleans -/
example : evalsToBool ex2World exJoinEq = some true := exPermissivePolicy_checked.2.2.1.1
example : evalsToBool ex2World exSetMixed = some true := exPermissivePolicy_checked.2.2.1.2.1
example : evalsToBool ex2World exPermissivePolicy = some true := exPermissivePolicy_checked.2.2.1.2.2
/-- … as the theorem says, all its premises instantiated -/
example : (∃ b, ex2World.eval exPermissivePolicy = .ok (.prim (.bool b))) ∨
    (∃ err, ex2World.eval exPermissivePolicy = .error err ∧ Permitted err) :=
  accepted_boolean_or_permitted_errorP ex2Schema ex2Env ex2World ex2_schemaWF ex2_envMatches ex2_request ex2_store
    ex2_actions ex2_slots exPermissivePolicy exPermissivePolicy_checked.1.2.2.2.2.2 .bool exPermissivePolicy_checked.1.1 (by decide)
/-- policy level, every environment of the schema -/
example : (∃ b, ex2World.eval exJoinEq = .ok (.prim (.bool b))) ∨ (∃ err, ex2World.eval exJoinEq = .error err ∧ Permitted err) :=
  let ⟨vs, hcp, hacc⟩ := checkPolicy_accepted_of exPermissivePolicy_checked.2.2.2
  permissive_validation_sound_static_partial ex2Schema exJoinEq vs ex2World ex2_schemaWF ex2_request ex2_store ex2_actions
    (fun _ => rfl) hcp hacc

/-! #### non-vacuity of the full permissive theorem: access and membership on UNION-typed operands -/

theorem ex2_schemaND : SchemaND ex2Schema where
  et_nd := fun T et h => by
    simpa only [Bool.and_eq_true, Option.all_eq_true] using entityType?_all ex2_checked.1.2.1 h
  act_nd := fun _ _ h => action?_all ex2_checked.1.2.2.1 h

/-- `principal ⊔ resource` : `User ⊔ Group` -/
def exPR : Expr := .ite (.hasAttr principal "name") principal (.var .resource)
/-- `(if … then principal else resource) has name && (…) is User && (…) in resource && (…).hasTag("team")
    && (…).getTag("team") like "b*" && (if … then {a: principal, b: 1} else {a: resource}).a in [principal, resource]
    && [if … then [] else [1]].isEmpty() == false` -/
def exUnionCond : Expr :=
  .and (.hasAttr exPR "name")
  (.and (.is exPR "User")
  (.and (.binaryApp .mem exPR (.var .resource))
  (.and (.binaryApp .hasTag exPR ex2Team)
  (.and (.like (.binaryApp .getTag exPR ex2Team) [.char 'b', .star])
  (.and (.binaryApp .mem
          (.getAttr (.ite (.hasAttr principal "name") (.record [("a", principal), ("b", .lit (.int 1))])
                          (.record [("a", .var .resource)])) "a")
          (.set [principal, .var .resource]))
        (.binaryApp .eq (.unaryApp .isEmpty (.set [.ite (.hasAttr principal "name") (.set []) (.set [.lit (.int 1)])]))
          (.lit (.bool false))))))))

/-- the verdicts and the value of `exUnionCond`, evaluated together -/
theorem exUnionCond_checked :
    (checkEnv .permissive ex2Schema ex2Env exUnionCond = some .bool ∧
      RecordKeysDistinct exUnionCond = true ∧ SlotsLinked ex2Env exUnionCond = true) ∧
    checkEnv .strict ex2Schema ex2Env exUnionCond = some .fail ∧ InFragmentP ex2Env exUnionCond = false ∧
    evalsToBool ex2World exUnionCond = some true ∧
    (checkPolicy .permissive ex2Schema .absent .absent exUnionCond).map accepted = some true := by decide +kernel
example : checkEnv .strict ex2Schema ex2Env exUnionCond = some .fail := exUnionCond_checked.2.1
example : checkEnv .permissive ex2Schema ex2Env exUnionCond = some .bool := exUnionCond_checked.1.1
example : InFragmentP ex2Env exUnionCond = false := exUnionCond_checked.2.2.1
example : evalsToBool ex2World exUnionCond = some true := exUnionCond_checked.2.2.2.1
/-- the full theorem, all its premises instantiated -/
example : (∃ b, ex2World.eval exUnionCond = .ok (.prim (.bool b))) ∨
    (∃ err, ex2World.eval exUnionCond = .error err ∧ Permitted err) :=
  accepted_boolean_or_permitted_error_permissive ex2Schema ex2Env ex2World ex2_schemaWF ex2_schemaND ex2_envMatches ex2_request
    ex2_store ex2_actions ex2_slots exUnionCond exUnionCond_checked.1.2.1 exUnionCond_checked.1.2.2 .bool exUnionCond_checked.1.1 (by decide)
/-- policy level, every environment of the schema, no fragment -/
example : (∃ b, ex2World.eval exUnionCond = .ok (.prim (.bool b))) ∨
    (∃ err, ex2World.eval exUnionCond = .error err ∧ Permitted err) :=
  let ⟨vs, hcp, hacc⟩ := checkPolicy_accepted_of exUnionCond_checked.2.2.2.2
  permissive_validation_sound_static ex2Schema exUnionCond vs ex2World ex2_schemaWF ex2_schemaND ex2_request
    ex2_store ex2_actions exUnionCond_checked.1.2.1 (fun _ => rfl) hcp hacc

end Cedar.C03
