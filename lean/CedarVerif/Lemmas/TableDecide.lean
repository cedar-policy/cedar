import CedarVerif.Cedar.Partial
/- `Table.decide`, the decision table that partial evaluation (C13) and the TPE (C14) share: a definite answer is the concrete
   decision (`decide_sound`, stated over two propositions `P`, `F` so that either cluster supplies its own reading of the
   flags), and it survives every refinement of the flags (`decide_refines`, the batched loop of C15). -/
namespace Cedar

theorem Decision.eq_of_allow_iff {a b : Decision} (h : a = .allow ↔ b = .allow) : a = b := by
  cases a <;> cases b <;> simp_all

/-- **the table lemma** (DESIGN.md appendix C) for `PartialResponse::decision` and `tpe::Response::new`.
    `P` / `F`: some permit / forbid policy ends up satisfied; the hypotheses say what the four flags guarantee about them. -/
theorem Table.decide_sound {tf tp rp rf : Bool} {P F : Prop} {d : Decision} (hd : Table.decide tf tp rp rf = some d)
    (htf : tf = true → F) (htp : tp = true → P) (hP : P → tp = true ∨ rp = true) (hF : F → tf = true ∨ rf = true) :
    d = .allow ↔ P ∧ ¬ F := by
  cases tf
  · cases rf
    · -- no forbid flag at all: `F` is excluded, the permit flags decide
      have hnF : ¬ F := fun f => by simpa using hF f
      cases tp
      · cases rp <;> simp only [Table.decide] at hd <;> cases hd
        exact ⟨(nomatch ·), fun h => by simpa using hP h.1⟩
      · cases hd
        exact ⟨fun _ => ⟨htp rfl, hnF⟩, fun _ => rfl⟩
    · cases tp <;> cases rp <;> simp only [Table.decide] at hd <;> cases hd
      exact ⟨(nomatch ·), fun h => by simpa using hP h.1⟩
  · cases hd
    exact ⟨(nomatch ·), fun h => absurd (htf rfl) h.2⟩

/-- a definite answer survives every refinement of the flags (a finite table: eight Booleans) -/
theorem Table.decide_refines : ∀ {tf tp rp rf tf' tp' rp' rf' : Bool}, (Table.decide tf tp rp rf).isSome = true →
    (tf = true → tf' = true) → (tp = true → tp' = true) → (rp = false → rp' = false) → (rf = false → rf' = false) →
    (tf = false → rf = false → tf' = false) → (tp = false → rp = false → tp' = false) →
    Table.decide tf' tp' rp' rf' = Table.decide tf tp rp rf := by
  decide +kernel

end Cedar
