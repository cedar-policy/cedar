import CedarVerif.Cedar.Authorizer
import CedarVerif.Lemmas.ManifestEnd
import CedarVerif.Lemmas.ManifestConf
import CedarVerif.Lemmas.TypecheckSound
/-
The link to C03, definitions.  `typedAst`: the expression annotated with the types `typeOf` computes, transformed where the
typechecker short-circuits (written from typecheck.rs).  `FragE`: the core fragment plus extension calls, on untyped
expressions; `NoRecOps`: its syntactic side condition on the typed AST.
-/
namespace Cedar.Manifest
open Cedar Cedar.C03

def tyOf (s : Schema) (env : RequestEnv) (e : Expr) (caps : Capabilities) : Option CedarType :=
  match typeOf .strict s env e caps with
  | .ok (τ, _) => some τ
  | .error _ => none

-- The typed AST `SingleEnvTypechecker::typecheck` builds in strict mode, as far as the manifest analysis reads it: every
-- unary / binary node carries the operand types; the capabilities are threaded as `typeOf` threads them; where the
-- typechecker short-circuits the tree is transformed as typecheck.rs transforms it:
--   `a && b`, `a : False`  ↦  typed `a`                      (`TypecheckAnswer::success(typ_left)`)
--   `a || b`, `a : True`   ↦  typed `a`
--   `if c then t else e`, `c : True`  ↦ `if c then t else t`  ("we use a copy of the `then` branch"); `c : False` ↦ `if c then e else e`.
mutual
def typedAst (s : Schema) (env : RequestEnv) : Expr → Capabilities → TExpr
  | .lit p, _ => .lit p
  | .var x, _ => .var x
  | .slot x, _ => .slot x
  | .unknown n _, _ => .unknown n
  | .ite c t e, caps =>
    match typeOf .strict s env c caps with
    | .ok (τc, cc) =>
      if τc.isTrue then .ite (typedAst s env c caps) (typedAst s env t (caps.union cc)) (typedAst s env t (caps.union cc))
      else if τc.isFalse then .ite (typedAst s env c caps) (typedAst s env e caps) (typedAst s env e caps)
      else .ite (typedAst s env c caps) (typedAst s env t (caps.union cc)) (typedAst s env e caps)
    | .error _ => .ite (typedAst s env c caps) (typedAst s env t caps) (typedAst s env e caps)
  | .and a b, caps =>
    match typeOf .strict s env a caps with
    | .ok (τa, ca) =>
      if τa.isFalse then typedAst s env a caps else .and (typedAst s env a caps) (typedAst s env b (caps.union ca))
    | .error _ => .and (typedAst s env a caps) (typedAst s env b caps)
  | .or a b, caps =>
    match typeOf .strict s env a caps with
    | .ok (τa, _) =>
      if τa.isTrue then typedAst s env a caps else .or (typedAst s env a caps) (typedAst s env b caps)
    | .error _ => .or (typedAst s env a caps) (typedAst s env b caps)
  | .unaryApp op a, caps => .unaryApp op (tyOf s env a caps) (typedAst s env a caps)
  | .binaryApp op a b, caps => .binaryApp op (tyOf s env a caps) (tyOf s env b caps) (typedAst s env a caps) (typedAst s env b caps)
  | .call fn args, caps => .call fn (typedAstList s env args caps)
  | .getAttr e a, caps => .getAttr (typedAst s env e caps) a
  | .hasAttr e a, caps => .hasAttr (typedAst s env e caps) a
  | .like e p, caps => .like (typedAst s env e caps) p
  | .is e ty, caps => .is (typedAst s env e caps) ty
  | .set es, caps => .set (typedAstList s env es caps)
  | .record kvs, caps => .record (typedAstKVs s env kvs caps)
def typedAstList (s : Schema) (env : RequestEnv) : List Expr → Capabilities → List TExpr
  | [], _ => []
  | x :: xs, caps => typedAst s env x caps :: typedAstList s env xs caps
def typedAstKVs (s : Schema) (env : RequestEnv) : List (String × Expr) → Capabilities → List (String × TExpr)
  | [], _ => []
  | (k, x) :: xs, caps => (k, typedAst s env x caps) :: typedAstKVs s env xs caps
end

-- the core fragment (`InFrag` on the typed AST) plus extension function calls, on untyped expressions
mutual
def FragE : Expr → Prop
  | .lit _ => True
  | .var _ => True
  | .ite c t e => FragE c ∧ FragE t ∧ FragE e
  | .and a b => FragE a ∧ FragE b
  | .or a b => FragE a ∧ FragE b
  | .unaryApp _ a => FragE a
  | .binaryApp op a b => FragOp op ∧ FragE a ∧ FragE b
  | .getAttr e _ => FragE e
  | .hasAttr e _ => FragE e
  | .like e _ => FragE e
  | .is e _ => FragE e
  | .call _ args => FragEList args
  | _ => False
def FragEList : List Expr → Prop
  | [] => True
  | x :: xs => FragE x ∧ FragEList xs
end

def RecFree : Option CedarType → Prop
  | some τ => τ.isRecord = false
  | none => True

-- the (syntactic) side condition of the proved fragment: `==` does not compare records, `contains` does not look for a
-- record — stated on the type annotations of the typed AST.  (Every other binary operator answers a record operand with a
-- type error over the store and over the slice alike: `applyBinary_trim`.)
mutual
def NoRecOps : TExpr → Prop
  | .ite c t e => NoRecOps c ∧ NoRecOps t ∧ NoRecOps e
  | .and a b => NoRecOps a ∧ NoRecOps b
  | .or a b => NoRecOps a ∧ NoRecOps b
  | .unaryApp _ _ a => NoRecOps a
  | .binaryApp op ty1 ty2 a b =>
    (op = .eq → RecFree ty1 ∧ RecFree ty2) ∧ (op = .contains → RecFree ty2) ∧ NoRecOps a ∧ NoRecOps b
  | .getAttr e _ => NoRecOps e
  | .hasAttr e _ => NoRecOps e
  | .like e _ => NoRecOps e
  | .is e _ => NoRecOps e
  | .call _ args => NoRecOpsList args
  | _ => True
def NoRecOpsList : List TExpr → Prop
  | [] => True
  | x :: xs => NoRecOps x ∧ NoRecOpsList xs
end

def recFreeB : Option CedarType → Bool
  | some τ => !τ.isRecord
  | none => true

mutual
def noRecOpsB : TExpr → Bool
  | .ite c t e => noRecOpsB c && noRecOpsB t && noRecOpsB e
  | .and a b => noRecOpsB a && noRecOpsB b
  | .or a b => noRecOpsB a && noRecOpsB b
  | .unaryApp _ _ a => noRecOpsB a
  | .binaryApp op ty1 ty2 a b =>
    (op != .eq || (recFreeB ty1 && recFreeB ty2)) && (op != .contains || recFreeB ty2) && noRecOpsB a && noRecOpsB b
  | .getAttr e _ => noRecOpsB e
  | .hasAttr e _ => noRecOpsB e
  | .like e _ => noRecOpsB e
  | .is e _ => noRecOpsB e
  | .call _ args => noRecOpsListB args
  | _ => true
def noRecOpsListB : List TExpr → Bool
  | [] => true
  | x :: xs => noRecOpsB x && noRecOpsListB xs
end

theorem recFreeB_sound {o : Option CedarType} (h : recFreeB o = true) : RecFree o := by
  cases o with
  | none => trivial
  | some τ => simpa [recFreeB, RecFree] using h

mutual
theorem noRecOpsB_sound : ∀ (e : TExpr), noRecOpsB e = true → NoRecOps e
  | .ite c t e => fun h => by
    unfold noRecOpsB at h
    simp only [Bool.and_eq_true] at h
    exact ⟨noRecOpsB_sound c h.1.1, noRecOpsB_sound t h.1.2, noRecOpsB_sound e h.2⟩
  | .and a b => fun h => by
    unfold noRecOpsB at h
    simp only [Bool.and_eq_true] at h
    exact ⟨noRecOpsB_sound a h.1, noRecOpsB_sound b h.2⟩
  | .or a b => fun h => by
    unfold noRecOpsB at h
    simp only [Bool.and_eq_true] at h
    exact ⟨noRecOpsB_sound a h.1, noRecOpsB_sound b h.2⟩
  | .unaryApp _ _ a => fun h => noRecOpsB_sound a h
  | .binaryApp op ty1 ty2 a b => fun h => by
    unfold noRecOpsB at h
    simp only [Bool.and_eq_true, Bool.or_eq_true, bne_iff_ne, ne_eq] at h
    obtain ⟨⟨⟨h1, h2⟩, h3⟩, h4⟩ := h
    refine ⟨fun he => ?_, fun he => ?_, noRecOpsB_sound a h3, noRecOpsB_sound b h4⟩
    · rcases h1 with h1 | h1
      · exact absurd he h1
      · exact ⟨recFreeB_sound h1.1, recFreeB_sound h1.2⟩
    · rcases h2 with h2 | h2
      · exact absurd he h2
      · exact recFreeB_sound h2
  | .getAttr e _ => fun h => noRecOpsB_sound e h
  | .hasAttr e _ => fun h => noRecOpsB_sound e h
  | .like e _ => fun h => noRecOpsB_sound e h
  | .is e _ => fun h => noRecOpsB_sound e h
  | .lit _ => fun _ => trivial
  | .var _ => fun _ => trivial
  | .slot _ => fun _ => trivial
  | .unknown _ => fun _ => trivial
  | .call _ args => fun h => noRecOpsListB_sound args h
  | .set _ => fun _ => trivial
  | .record _ => fun _ => trivial
theorem noRecOpsListB_sound : ∀ (es : List TExpr), noRecOpsListB es = true → NoRecOpsList es
  | [] => fun _ => trivial
  | x :: xs => fun h => by
    unfold noRecOpsListB at h
    simp only [Bool.and_eq_true] at h
    exact ⟨noRecOpsB_sound x h.1, noRecOpsListB_sound xs h.2⟩
end

theorem inst_flat_scalar {v : Value} {τ : CedarType} (hi : InstanceOfType v τ) (hf : τ.flat = true) : Scalar v := by
  cases hi <;> simp [CedarType.flat, Scalar] at hf ⊢

theorem sound_tt_val {w : World} {e : Expr} {c : Capabilities} (h : TySound w e (.bool .tt) c) :
    (∀ v, evaluate w.q w.es w.sl e = .ok v → v = .prim (.bool true)) ∧
    (evaluate w.q w.es w.sl e = .ok (.prim (.bool true)) → CapsHold w c) :=
  ⟨fun _ hv => by cases (h.of_ok hv).1; rfl, fun hv => (h.of_ok hv).2 rfl⟩

theorem sound_ff_val {w : World} {e : Expr} {c : Capabilities} (h : TySound w e (.bool .ff) c) :
    ∀ v, evaluate w.q w.es w.sl e = .ok v → v = .prim (.bool false) :=
  fun _ hv => by cases (h.of_ok hv).1; rfl

theorem sound_true_caps {w : World} {e : Expr} {τ : CedarType} {c : Capabilities} (h : TySound w e τ c)
    (hv : evaluate w.q w.es w.sl e = .ok (.prim (.bool true))) : CapsHold w c :=
  (h.of_ok hv).2 rfl

mutual
theorem typeUK_of_cn : ∀ (τ : CedarType), cn τ = true → TypeUK τ
  | .record attrs o => fun h => by
    simp only [cn, Bool.and_eq_true, decide_eq_true_eq] at h
    simp only [TypeUK]
    exact attrsUK_of_cn attrs h.1.2 h.2
  | .set (some t) => fun h => by
    simp only [cn] at h
    simp only [TypeUK]
    exact typeUK_of_cn t h
  | .set none => fun _ => by simp [TypeUK]
  | .never => fun _ => by simp [TypeUK]
  | .bool _ => fun _ => by simp [TypeUK]
  | .long => fun _ => by simp [TypeUK]
  | .string => fun _ => by simp [TypeUK]
  | .entity _ => fun _ => by simp [TypeUK]
  | .anyEntity => fun _ => by simp [TypeUK]
  | .ext _ => fun _ => by simp [TypeUK]
theorem attrsUK_of_cn : ∀ (attrs : List (String × Bool × CedarType)), cnAttrs attrs = true → (attrs.map (·.1)).Nodup →
    AttrsUK attrs
  | [] => fun _ _ => by simp [AttrsUK]
  | (k, r, t) :: rest => fun h hnd => by
    simp only [cnAttrs, Bool.and_eq_true] at h
    simp only [List.map_cons, List.nodup_cons] at hnd
    simp only [AttrsUK]
    exact ⟨by rw [lookupField_attrsToFields, find_none_iff.2 hnd.1]; rfl, typeUK_of_cn t h.1, attrsUK_of_cn rest h.2 hnd.2⟩
end

theorem slice_of_valid {s : Schema} (hWF : SchemaClosed s) {env : RequestEnv} {req : Request} {es es' : Entities}
    {ps : List Policy} {t : RootAccessTrie} (henv : EnvMatches s env req) (hreq : ConformsRequest s req)
    (hst : StoreConforms s es) (hctx : CtxWF req) (huk : ∀ p, p ∈ ps → TypesUK (typedAst s env p.condition []))
    (hm : manifestOfEnvs s ⟨env.principal, env.action, env.resource⟩ (ps.map (fun p => typedAst s env p.condition [])) = .ok t)
    (hs : sliceStore (some t) req es = .ok es') :
    SubStore es es' ∧
      ∀ p, p ∈ ps → ∃ r, manifestOfExpr (typedAst s env p.condition []) = .ok r ∧ CoverRoots es es' req r.global := by
  obtain ⟨h1, h2, h3, _⟩ := henv
  have huk' : ∀ e, e ∈ ps.map (fun p => typedAst s env p.condition []) → TypesUK e := by
    intro e he
    obtain ⟨p, hp, rfl⟩ := List.mem_map.1 he
    exact huk p hp
  obtain ⟨hsub, hcov⟩ := slice_of_manifest s _ req es es' _ t hctx huk' hm
    (fun t0 _ => confRoots_all hWF hst hreq h1.symm h2.symm h3.symm t0) hs
  exact ⟨hsub, fun p hp => hcov _ (List.mem_map.2 ⟨p, hp, rfl⟩)⟩

theorem sem_of_conformant {s : Schema} {env : RequestEnv} {req : Request} {es : Entities}
    (hslots : env.principalSlot = none ∧ env.resourceSlot = none) (hreq : ConformsRequest s req)
    (hst : StoreConforms s es) (hact : ActionsPresent s es) : Sem s env ⟨req, es, []⟩ :=
  ⟨hreq, hst, ⟨fun t ht => (by rw [hslots.1] at ht; cases ht), fun t ht => (by rw [hslots.2] at ht; cases ht)⟩, hact⟩

end Cedar.Manifest
