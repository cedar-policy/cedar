import CedarVerif.Cedar.Ext
import CedarVerif.Cedar.Expr
import CedarVerif.Lemmas.Beq
import CedarVerif.Lemmas.Assoc
import CedarVerif.Lemmas.Except
/-
What the basic operations of `Cedar/Data.lean` do, and the coercions `asBool` … of `Cedar/Ext.lean`. `lookupKV` and `Entities.find?` are
`assoc?` of `Assoc.lean`. A strictly key-sorted list (`CJson.Sorted`) is a `BTreeMap` in iteration order: the `insertKV` fold that builds a
record value is the identity on it.
-/
namespace Cedar

theorem isEmpty_congr {α} {l1 l2 : List α} (h : ∀ x, x ∈ l1 ↔ x ∈ l2) : l1.isEmpty = l2.isEmpty := by
  rw [Bool.eq_iff_iff]
  simp only [List.isEmpty_iff, List.eq_nil_iff_forall_not_mem, h]

section
variable {α : Type _} [BEq α] [LawfulBEq α]

theorem contains_congr {l1 l2 : List α} (h : ∀ y, y ∈ l1 ↔ y ∈ l2) (x : α) : l1.contains x = l2.contains x := by
  rw [Bool.eq_iff_iff]; simp [h x]

theorem all_contains_congr {a1 a2 b1 b2 : List α} (ha : ∀ y, y ∈ a1 ↔ y ∈ a2) (hb : ∀ y, y ∈ b1 ↔ y ∈ b2) :
    a1.all (fun x => b1.contains x) = a2.all (fun x => b2.contains x) := by
  rw [Bool.eq_iff_iff]
  simp only [List.all_eq_true, List.contains_iff_mem, ha, hb]

theorem nonempty_eq_any {E as bs : List α} (h : ∀ y, y ∈ E ↔ (y ∈ as ∧ y ∈ bs)) :
    (!E.isEmpty) = as.any (fun x => bs.contains x) := by
  rw [Bool.eq_iff_iff]
  simp [List.eq_nil_iff_forall_not_mem, h]

end

theorem lookupKV_eq_assoc {α} (k : String) : ∀ kvs : List (String × α), lookupKV kvs k = assoc? kvs k
  | [] => rfl
  | (k', v) :: rest => by rw [lookupKV, assoc?_cons, lookupKV_eq_assoc k rest]

theorem lookupKV_mem {α : Type} {kvs : List (String × α)} {k : String} {v : α} (h : lookupKV kvs k = some v) : (k, v) ∈ kvs :=
  mem_of_assoc? (lookupKV_eq_assoc k kvs ▸ h)

theorem mem_lookupKV {α : Type} {kvs : List (String × α)} {k : String} {v : α} (h : (k, v) ∈ kvs) : (lookupKV kvs k).isSome = true := by
  rw [lookupKV_eq_assoc, assoc?_isSome_iff]
  exact List.mem_map_of_mem (f := (·.1)) h

theorem any_key_eq {α} (kvs : List (String × α)) (a : String) :
    kvs.any (fun kv => kv.1 == a) = (lookupKV kvs a).isSome := by
  induction kvs with
  | nil => rfl
  | cons p kvs ih =>
    obtain ⟨k, v⟩ := p
    simp only [List.any_cons, lookupKV, ih]
    by_cases hk : (k == a) = true <;> simp [hk]

theorem lookupKV_cons_self {α} (k : String) (v : α) (kvs : List (String × α)) :
    lookupKV ((k, v) :: kvs) k = some v := by simp [lookupKV]

theorem lookupKV_cons_ne {α} (k' k : String) (v : α) (kvs : List (String × α)) (h : k' ≠ k) :
    lookupKV ((k', v) :: kvs) k = lookupKV kvs k := by
  have : (k' == k) = false := by simpa using h
  simp [lookupKV, this]

theorem lookupKV_none_iff {α} {k : String} {kvs : List (String × α)} : lookupKV kvs k = none ↔ k ∉ kvs.map (·.1) := by
  rw [lookupKV_eq_assoc]
  exact assoc?_eq_none_iff

theorem lookupKV_of_mem_nodup {α : Type} {kvs : List (String × α)} (hn : (kvs.map (·.1)).Nodup) {k : String} {v : α}
    (h : (k, v) ∈ kvs) : lookupKV kvs k = some v := by
  rw [lookupKV_eq_assoc]
  exact assoc?_of_mem_nodup hn h

theorem Entities.find?_eq_assoc (u : EntityUID) : ∀ es : Entities, es.find? u = assoc? es u
  | [] => rfl
  | (u', d) :: rest => by rw [Entities.find?, assoc?_cons, Entities.find?_eq_assoc u rest]

theorem Entities.find?_mem {es : Entities} {u : EntityUID} {d : EntityData} (h : es.find? u = some d) : (u, d) ∈ es :=
  mem_of_assoc? (Entities.find?_eq_assoc u es ▸ h)

theorem lookupKV_insertKV {α} (k k' : String) (v : α) (l : List (String × α)) :
    lookupKV (insertKV k v l) k' = if k == k' then some v else lookupKV l k' := by
  induction l with
  | nil => rfl
  | cons hd tl ih =>
    obtain ⟨k0, v0⟩ := hd
    unfold insertKV
    split
    · rfl
    · split
      · rename_i h
        obtain rfl : k = k0 := by simpa using h
        simp only [lookupKV]
        split <;> rfl
      · rename_i h
        simp only [lookupKV, ih]
        by_cases h1 : (k0 == k') = true
        · have : (k == k') = false := by
            have e : k0 = k' := by simpa using h1
            subst e; simpa using h
          simp only [h1, this, if_true, Bool.false_eq_true, if_false]
        · simp only [h1, Bool.false_eq_true, if_false]

theorem mem_insertKV {α} {k : String} {v : α} {acc : List (String × α)} {p : String × α}
    (h : p ∈ insertKV k v acc) : p = (k, v) ∨ p ∈ acc := by
  induction acc with
  | nil => simp [insertKV] at h; exact Or.inl h
  | cons q acc ih =>
    obtain ⟨k', v'⟩ := q
    simp only [insertKV] at h
    split at h
    · rcases List.mem_cons.mp h with h | h
      · exact Or.inl h
      · exact Or.inr h
    · split at h
      · rcases List.mem_cons.mp h with h | h
        · exact Or.inl h
        · exact Or.inr (List.mem_cons_of_mem _ h)
      · rcases List.mem_cons.mp h with h | h
        · exact Or.inr (h ▸ List.mem_cons_self ..)
        · rcases ih h with h | h
          · exact Or.inl h
          · exact Or.inr (List.mem_cons_of_mem _ h)

theorem insertKV_self {α} {k : String} {v : α} : ∀ (l : List (String × α)), (k, v) ∈ insertKV k v l
  | [] => by simp [insertKV]
  | (k', v') :: rest => by
    simp only [insertKV]
    split
    · exact List.mem_cons_self
    · split
      · exact List.mem_cons_self
      · exact List.mem_cons_of_mem _ (insertKV_self rest)

theorem keys_insertKV {α} (k : String) (v : α) : ∀ (l : List (String × α)) (x : String),
    x ∈ (insertKV k v l).map (·.1) ↔ x = k ∨ x ∈ l.map (·.1)
  | [], x => by simp [insertKV]
  | (k', v') :: rest, x => by
    rw [insertKV]
    by_cases h1 : k < k'
    · rw [if_pos h1]; exact List.mem_cons
    · rw [if_neg h1]
      by_cases h2 : (k == k') = true
      · rw [if_pos h2]
        obtain rfl := eq_of_beq h2
        simp
      · rw [if_neg h2, List.map_cons, List.mem_cons, keys_insertKV k v rest x, List.map_cons, List.mem_cons]
        exact or_left_comm

theorem foldl_insertKV_mem {α} : ∀ (vs acc : List (String × α)) (x : String × α),
    x ∈ vs.foldl (fun acc kv => insertKV kv.1 kv.2 acc) acc → x ∈ acc ∨ x ∈ vs
  | [], acc, x, h => Or.inl h
  | kv :: vs, acc, x, h => by
    simp only [List.foldl_cons] at h
    rcases foldl_insertKV_mem vs _ x h with h | h
    · rcases mem_insertKV h with h | h
      · exact Or.inr (h ▸ List.mem_cons_self)
      · exact Or.inl h
    · exact Or.inr (List.mem_cons_of_mem _ h)

theorem foldl_insertKV_keeps {α : Type} : ∀ (vs acc : List (String × α)) (k : String) (v : α),
    ((k, v) ∈ acc ∨ (k, v) ∈ vs) → ∃ v', (k, v') ∈ vs.foldl (fun acc kv => insertKV kv.1 kv.2 acc) acc
  | [], acc, k, v, h => by
    rcases h with h | h
    · exact ⟨v, h⟩
    · cases h
  | kv :: vs, acc, k, v, h => by
    simp only [List.foldl_cons]
    rcases h with h | h
    · obtain ⟨⟨_, v'⟩, h', rfl⟩ := List.mem_map.1 ((keys_insertKV kv.1 kv.2 acc k).2 (.inr (List.mem_map_of_mem h)))
      exact foldl_insertKV_keeps vs _ _ v' (Or.inl h')
    · rcases List.mem_cons.mp h with h | h
      · subst h
        exact foldl_insertKV_keeps vs _ k v (Or.inl (insertKV_self acc))
      · exact foldl_insertKV_keeps vs _ k v (Or.inr h)

theorem lookupKV_foldl_nodup {α} (a : String) : ∀ (vs acc : List (String × α)), (vs.map (·.1)).Nodup →
    lookupKV (vs.foldl (fun acc kv => insertKV kv.1 kv.2 acc) acc) a =
      match lookupKV vs a with
      | some x => some x
      | none => lookupKV acc a
  | [], acc, _ => by simp [lookupKV]
  | (k, v) :: rest, acc, hnd => by
    simp only [List.map_cons, List.nodup_cons] at hnd
    simp only [List.foldl_cons, lookupKV_foldl_nodup a rest _ hnd.2, lookupKV, lookupKV_insertKV]
    by_cases hk : k = a
    · subst hk
      simp [lookupKV_none_iff.2 hnd.1]
    · have : (k == a) = false := by simpa using hk
      simp [this]

namespace CJson

/-- strictly increasing keys (a `BTreeMap` in iteration order) -/
def Sorted : List String → Prop
  | [] => True
  | k :: rest => (∀ k', k' ∈ rest → k < k') ∧ Sorted rest

theorem insertKV_append {α} (k : String) (v : α) (acc : List (String × α))
    (h : ∀ p, p ∈ acc → p.1 < k) : insertKV k v acc = acc ++ [(k, v)] := by
  induction acc with
  | nil => rfl
  | cons p acc ih =>
    obtain ⟨k', v'⟩ := p
    have hk : k' < k := h (k', v') (List.mem_cons_self ..)
    have h1 : ¬ k < k' := String.lt_asymm hk
    have h2 : (k == k') = false := by
      simp only [beq_eq_false_iff_ne, ne_eq]
      intro he; subst he; exact String.lt_irrefl _ hk
    simp only [insertKV, h1, if_false, h2, Bool.false_eq_true, List.cons_append, List.cons.injEq, true_and]
    exact ih (fun p hp => h p (List.mem_cons_of_mem _ hp))

theorem foldl_insertKV_sorted {α} (rest acc : List (String × α))
    (hs : Sorted ((acc ++ rest).map Prod.fst)) :
    rest.foldl (fun acc kv => insertKV kv.1 kv.2 acc) acc = acc ++ rest := by
  induction rest generalizing acc with
  | nil => simp
  | cons p rest ih =>
    simp only [List.foldl_cons]
    have hlt : ∀ q, q ∈ acc → q.1 < p.1 := by
      intro q hq
      clear ih
      induction acc with
      | nil => cases hq
      | cons a acc iha =>
        simp only [List.cons_append, List.map_cons, Sorted] at hs
        rcases List.mem_cons.mp hq with rfl | hq
        · exact hs.1 p.1 (by simp)
        · exact iha hs.2 hq
    rw [insertKV_append p.1 p.2 acc hlt]
    have : acc ++ [(p.1, p.2)] ++ rest = acc ++ p :: rest := by simp
    rw [ih (acc ++ [(p.1, p.2)]) (by rw [this]; exact hs), this]

theorem Sorted.not_mem {k : String} {rest : List String} (h : Sorted (k :: rest)) : ¬ k ∈ rest := by
  intro hm
  exact String.lt_irrefl _ (h.1 k hm)

theorem Sorted.nodup : ∀ {ks : List String}, Sorted ks → ks.Nodup
  | [], _ => List.nodup_nil
  | _ :: _, h => List.nodup_cons.mpr ⟨h.not_mem, Sorted.nodup h.2⟩

end CJson

theorem insertKV_sorted {α} (k : String) (v : α) (acc : List (String × α)) (hs : CJson.Sorted (acc.map Prod.fst)) :
    CJson.Sorted ((insertKV k v acc).map Prod.fst) := by
  induction acc with
  | nil => simp [insertKV, CJson.Sorted]
  | cons q acc ih =>
    obtain ⟨k', v'⟩ := q
    simp only [List.map_cons, CJson.Sorted] at hs
    simp only [insertKV]
    split
    · rename_i hlt
      simp only [List.map_cons, CJson.Sorted]
      refine ⟨?_, hs⟩
      intro x hx
      rcases List.mem_cons.mp hx with rfl | hx
      · exact hlt
      · exact String.lt_trans hlt (hs.1 x hx)
    · rename_i hnlt
      split
      · rename_i heq
        have : k = k' := by simpa using heq
        subst this
        simp only [List.map_cons, CJson.Sorted]
        exact hs
      · rename_i hne
        have hne' : k ≠ k' := by simpa using hne
        have hlt : k' < k := ((Std.lt_trichotomy k k').resolve_left hnlt).resolve_left hne'
        simp only [List.map_cons, CJson.Sorted]
        refine ⟨?_, ih hs.2⟩
        intro x hx
        obtain ⟨p, hp, rfl⟩ := List.mem_map.mp hx
        rcases mem_insertKV hp with rfl | hp
        · exact hlt
        · exact hs.1 _ (List.mem_map_of_mem hp)

theorem foldl_insertKV_keys_sorted {α} : ∀ (kvs acc : List (String × α)), CJson.Sorted (acc.map Prod.fst) →
    CJson.Sorted ((kvs.foldl (fun acc kv => insertKV kv.1 kv.2 acc) acc).map Prod.fst)
  | [], _, hs => hs
  | kv :: kvs, acc, hs => foldl_insertKV_keys_sorted kvs _ (insertKV_sorted kv.1 kv.2 acc hs)

theorem mem_mkSet {w : Value} {vs : List Value} (h : w ∈ Value.mkSet vs) : w ∈ vs := by
  induction vs with
  | nil => simp [Value.mkSet] at h
  | cons v vs ih =>
    simp only [Value.mkSet] at h
    split at h
    · exact List.mem_cons_of_mem _ (ih h)
    · rcases List.mem_cons.mp h with rfl | h
      · exact List.mem_cons_self ..
      · exact List.mem_cons_of_mem _ (ih h)

theorem mkSet_isEmpty : ∀ (l : List Value), (Value.mkSet l).isEmpty = l.isEmpty
  | [] => by simp [Value.mkSet]
  | v :: vs => by
    simp only [Value.mkSet, List.isEmpty_cons]
    split
    · rename_i h
      cases hm : Value.mkSet vs with
      | nil => rw [hm] at h; simp [Value.elem] at h
      | cons a as => rfl
    · rfl

theorem elem_mkSet (xs : List Value) (v : Value) : Value.elem v (Value.mkSet xs) = Value.elem v xs := by
  induction xs generalizing v with
  | nil => rfl
  | cons x xs ih =>
    simp only [Value.mkSet]
    by_cases hx : Value.elem x (Value.mkSet xs) = true
    · simp only [hx, if_true]
      rw [ih v]
      rw [ih x] at hx
      rw [Value.elem]
      cases hvx : Value.beq v x
      · simp
      · simp only [Bool.true_or]
        obtain ⟨w, hw, hxw⟩ := (Value.elem_iff x xs).mp hx
        exact (Value.elem_iff v xs).mpr ⟨w, hw, Value.beq_trans hvx hxw⟩
    · simp only [hx, Bool.false_eq_true, if_false]
      rw [Value.elem, Value.elem, ih v]

theorem mkSet_rep (ws : List Value) (w : Value) (h : w ∈ ws) : ∃ x, x ∈ Value.mkSet ws ∧ Value.beq w x = true :=
  (Value.elem_iff w _).1 ((elem_mkSet ws w).trans ((Value.elem_iff w ws).2 ⟨w, h, Value.beq_rfl w⟩))

def NoDupB : List Value → Prop
  | [] => True
  | v :: vs => Value.elem v vs = false ∧ NoDupB vs

theorem mkSet_noDup (vs : List Value) : NoDupB (Value.mkSet vs) := by
  induction vs with
  | nil => trivial
  | cons v vs ih =>
    simp only [Value.mkSet]
    cases he : Value.elem v (Value.mkSet vs) with
    | true => simpa using ih
    | false => simp only [Bool.false_eq_true, if_false]; exact ⟨he, ih⟩

theorem mkSet_of_noDup {ws : List Value} (h : NoDupB ws) : Value.mkSet ws = ws := by
  induction ws with
  | nil => rfl
  | cons w ws ih =>
    simp only [Value.mkSet, ih h.2, h.1, Bool.false_eq_true, if_false]

theorem mkSet_idem (vs : List Value) : Value.mkSet (Value.mkSet vs) = Value.mkSet vs :=
  mkSet_of_noDup (mkSet_noDup vs)

theorem Value.asBool_of_ne_bool {v : Value} (hv : ∀ x, v ≠ .prim (.bool x)) : v.asBool = .error .type := by
  cases v with
  | prim p => cases p <;> first | rfl | exact absurd rfl (hv _)
  | _ => rfl

theorem asBool_ok {v : Value} {b : Bool} (h : v.asBool = .ok b) : v = .prim (.bool b) := by
  unfold Value.asBool at h
  split at h
  · cases h; rfl
  · cases h

theorem asEntity_ok {v : Value} {u : EntityUID} (h : v.asEntity = .ok u) : v = .prim (.entityUID u) := by
  unfold Value.asEntity at h
  split at h
  · cases h; rfl
  · cases h

theorem asString_ok {v : Value} {s : String} (h : v.asString = .ok s) : v = .prim (.string s) := by
  unfold Value.asString at h
  split at h
  · cases h; rfl
  · cases h

end Cedar
