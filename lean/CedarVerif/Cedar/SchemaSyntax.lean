/-
C09 model (import-free, thin by design): *type expressions* of Cedar schemas in both syntaxes, the printer
(JSON form → Cedar tokens), the parser (Cedar tokens → JSON form) and *name resolution* of type references.

Mirrors (cedar-policy-core/src/validator/…):
  `TyJson`            json_schema.rs  `Type<RawName>` / `TypeVariant` (after the `TypeVisitor` deserializer)
  `TyCedar`           cedar_schema/ast.rs `Type` (`Ident(Path) | Set | Record`)
  `printTy`           cedar_schema/fmt.rs  `impl Display for json_schema::Type` / `RecordType` (quoting by `is_normalized_ident`)
  `parseC`/`parseTy`  cedar_schema/grammar.lalrpop (`Type`, `AttrDecls`, `Name`, `Path`, `Ident`) + to_json_schema.rs
                      (`cedar_type_to_json_type`: every identifier becomes `EntityOrCommon`; records are collected into a BTreeMap)
  `possibilities`     schema/raw_name.rs  `RawName::conditionally_qualify_with`
  `resolveRef`        schema/raw_name.rs  `ConditionalName::resolve` + json_schema.rs `resolve_type_variant_entity_or_common`
  `Env.isCommon/isEntity` schema.rs `AllDefs` as `ValidatorSchema::from_schema_fragments` builds it: user declarations,
                      the `__cedar` fragment, the primitive/extension aliases in the empty namespace (only where the user declared
                      nothing of that name there), the `Action` entity type of every namespace that declares actions
  `shadowing`         schema.rs `AllDefs::rfc_70_shadowing_checks` (types only)

Token level: the lexer (regexes, string-literal escapes `escape_debug` / `to_unescaped_string`) and indentation are NOT
modelled; a string token carries the unescaped contents.  (Annotations: `Cedar/SchemaAnnot.lean`.)
-/
namespace Cedar.SchemaSyntax

/-- a name as written: namespace components and base name (`A::B::T` = ⟨["A","B"], "T"⟩) -/
structure QName where
  path : List String
  base : String
deriving DecidableEq, Repr, Inhabited

def QName.comps (n : QName) : List String := n.path ++ [n.base]

/-- name from its first component and the remaining ones -/
def QName.ofComps : String → List String → QName
  | s, [] => ⟨[], s⟩
  | s, t :: r => let q := QName.ofComps t r; ⟨s :: q.path, q.base⟩

mutual
/-- JSON-syntax type expression -/
inductive TyJson where
  | bool
  | long
  | string
  | set (e : TyJson)
  | record (attrs : AttrsJ)
  | entity (n : QName)
  | entityOrCommon (n : QName)
  | ext (n : String)
  | commonRef (n : QName)
/-- record attributes in `BTreeMap` iteration order: name, required, type -/
inductive AttrsJ where
  | nil
  | cons (name : String) (req : Bool) (ty : TyJson) (rest : AttrsJ)
end

mutual
/-- Cedar-syntax type expression (AST of the schema grammar) -/
inductive TyCedar where
  | ident (p : QName)
  | set (e : TyCedar)
  | record (attrs : AttrsC)
/-- attribute declarations in source order -/
inductive AttrsC where
  | nil
  | cons (name : String) (req : Bool) (ty : TyCedar) (rest : AttrsC)
end

/-- tokens of the Cedar schema syntax that occur in type expressions -/
inductive Tok where
  | id (s : String)      -- IDENTIFIER or keyword token (all keywords are `AnyIdent`s)
  | str (s : String)     -- STRINGLIT, unescaped
  | dcolon | lt | gt | lb | rb | colon | comma | q
  | other (s : String)   -- any other token (`;`, `=`, `[`, …): never part of a type expression
deriving DecidableEq, Repr

/-! ## identifiers -/

def isIdentStart (c : Char) : Bool := c = '_' || ('a' ≤ c && c ≤ 'z') || ('A' ≤ c && c ≤ 'Z')
def isIdentChar (c : Char) : Bool := isIdentStart c || ('0' ≤ c && c ≤ '9')

/-- `^[_a-zA-Z][_a-zA-Z0-9]*$` -/
def identShape (s : String) : Bool :=
  match s.toList with
  | [] => false
  | c :: cs => isIdentStart c && cs.all isIdentChar

/-- words `Id::from_str` refuses (cst_to_ast.rs `to_valid_ident`) -/
def reservedWords : List String := ["true", "false", "if", "then", "else", "in", "is", "like", "has"]

/-- grammar `Ident`: an `AnyIdent` token accepted by `Id::from_str` -/
def validId (s : String) : Bool := !reservedWords.contains s

/-- ast/name.rs `is_normalized_ident`: may be printed without quotes (`RESERVED_IDS` also contains `__cedar`) -/
def isNormalizedIdent (s : String) : Bool := identShape s && !reservedWords.contains s && s != "__cedar"

/-! ## printer (fmt.rs) -/

def printPathTail : List String → List Tok
  | [] => []
  | s :: r => .dcolon :: .id s :: printPathTail r

def printName (n : QName) : List Tok :=
  match n.comps with
  | [] => []
  | s :: r => .id s :: printPathTail r

def cedarName (b : String) : QName := ⟨["__cedar"], b⟩

/-- attribute name: bare when it is a normalized identifier, else a string literal -/
def attrName (n : String) : Tok := if isNormalizedIdent n then .id n else .str n

mutual
/-- `impl Display for json_schema::Type` -/
def printTy : TyJson → List Tok
  | .bool => printName (cedarName "Bool")
  | .long => printName (cedarName "Long")
  | .string => printName (cedarName "String")
  | .ext n => printName (cedarName n)
  | .entity n => printName n
  | .entityOrCommon n => printName n
  | .commonRef n => printName n
  | .set e => .id "Set" :: .lt :: (printTy e ++ [.gt])
  | .record attrs => .lb :: (printAttrsJ attrs ++ [.rb])
/-- `impl IndentedDisplay for RecordType`: `name?: type` separated by commas, no trailing comma -/
def printAttrsJ : AttrsJ → List Tok
  | .nil => []
  | .cons n req t rest =>
    attrName n :: ((if req then [] else [.q]) ++ .colon :: (printTy t ++
      (match rest with
       | .nil => []
       | .cons .. => .comma :: printAttrsJ rest)))
end

mutual
/-- the same printer on the Cedar AST -/
def printC : TyCedar → List Tok
  | .ident p => printName p
  | .set e => .id "Set" :: .lt :: (printC e ++ [.gt])
  | .record attrs => .lb :: (printAttrsC attrs ++ [.rb])
def printAttrsC : AttrsC → List Tok
  | .nil => []
  | .cons n req t rest =>
    attrName n :: ((if req then [] else [.q]) ++ .colon :: (printC t ++
      (match rest with
       | .nil => []
       | .cons .. => .comma :: printAttrsC rest)))
end

mutual
/-- the Cedar AST the printer's output denotes: primitives and extension types become `__cedar::…` paths,
every kind of reference becomes a bare path -/
def toCedar : TyJson → TyCedar
  | .bool => .ident (cedarName "Bool")
  | .long => .ident (cedarName "Long")
  | .string => .ident (cedarName "String")
  | .ext n => .ident (cedarName n)
  | .entity n => .ident n
  | .entityOrCommon n => .ident n
  | .commonRef n => .ident n
  | .set e => .set (toCedar e)
  | .record attrs => .record (toCedarAttrs attrs)
def toCedarAttrs : AttrsJ → AttrsC
  | .nil => .nil
  | .cons n req t rest => .cons n req (toCedar t) (toCedarAttrs rest)
end

/-! ## parser (grammar.lalrpop `Type`) -/

/-- `{'::' IDENT}`: a `::` must be followed by a valid identifier -/
def parsePathTail : List Tok → Option (List String × List Tok)
  | .dcolon :: .id s :: r =>
    if validId s then
      match parsePathTail r with
      | some (cs, r') => some (s :: cs, r')
      | none => none
    else none
  | .dcolon :: _ => none
  | r => some ([], r)

def parsePath (s : String) (r : List Tok) : Option (TyCedar × List Tok) :=
  if validId s then
    match parsePathTail r with
    | some (cs, r') => some (.ident (QName.ofComps s cs), r')
    | none => none
  else none

/-- grammar `Name := IDENT | STR` -/
def parseAttrNameTok : Tok → Option String
  | .id s => if validId s then some s else none
  | .str s => some s
  | _ => none

mutual
/-- `Type := Path | 'Set' '<' Type '>' | '{' [AttrDecls] '}'`; fuel bounds the nesting depth -/
def parseC : Nat → List Tok → Option (TyCedar × List Tok)
  | 0, _ => none
  | fuel + 1, .id s :: r =>
    if s = "Set" then
      match r with
      | .lt :: r1 =>
        match parseC fuel r1 with
        | some (e, .gt :: r2) => some (.set e, r2)
        | _ => none
      | _ => parsePath s r
    else parsePath s r
  | _ + 1, .lb :: .rb :: r => some (.record .nil, r)
  | fuel + 1, .lb :: r =>
    match parseDecls fuel r with
    | some (attrs, r') => some (.record attrs, r')
    | none => none
  | _ + 1, _ => none
/-- `AttrDecls := Name ['?'] ':' Type [',' | ',' AttrDecls]` followed by the closing `}` -/
def parseDecls : Nat → List Tok → Option (AttrsC × List Tok)
  | 0, _ => none
  | _ + 1, [] => none
  | fuel + 1, t :: r =>
    match parseAttrNameTok t with
    | none => none
    | some n =>
      let (req, r1) := match r with
        | .q :: r1 => (false, r1)
        | _ => (true, r)
      match r1 with
      | .colon :: r2 =>
        match parseC fuel r2 with
        | some (ty, .rb :: r4) => some (.cons n req ty .nil, r4)
        | some (ty, .comma :: .rb :: r4) => some (.cons n req ty .nil, r4)
        | some (ty, .comma :: r4) =>
          match parseDecls fuel r4 with
          | some (rest, r5) => some (.cons n req ty rest, r5)
          | none => none
        | _ => none
      | _ => none
end

/-- parse a complete token list -/
def parseCedar (toks : List Tok) : Option TyCedar :=
  match parseC (toks.length + 1) toks with
  | some (c, []) => some c
  | _ => none

/-! ## Cedar AST → JSON form (to_json_schema.rs) -/

/-- `BTreeMap::insert`: sorted by key, a later binding of the same key replaces the earlier one -/
def insertJ (n : String) (req : Bool) (t : TyJson) : AttrsJ → AttrsJ
  | .nil => .cons n req t .nil
  | .cons n' req' t' rest =>
    if n < n' then .cons n req t (.cons n' req' t' rest)
    else if n = n' then .cons n req t rest
    else .cons n' req' t' (insertJ n req t rest)

mutual
/-- `cedar_type_to_json_type` -/
def toJson : TyCedar → TyJson
  | .ident p => .entityOrCommon p
  | .set e => .set (toJson e)
  | .record attrs => .record (collectJ .nil attrs)
/-- `fields.into_iter().map(convert_attr_decl).collect::<BTreeMap<_,_>>()` -/
def collectJ (acc : AttrsJ) : AttrsC → AttrsJ
  | .nil => acc
  | .cons n req t rest => collectJ (insertJ n req (toJson t) acc) rest
end

/-- Cedar tokens → JSON-syntax type expression -/
def parseTy (toks : List Tok) : Option TyJson := (parseCedar toks).map toJson

/-- what a JSON type expression becomes after `to_cedarschema` and re-parsing -/
def normalize (τ : TyJson) : TyJson := toJson (toCedar τ)

/-! ## name resolution -/

inductive RefKind where
  | common    -- `{"type": n}`
  | entity    -- `{"type":"Entity","name":n}`, `memberOfTypes`, `appliesTo`
  | either    -- `{"type":"EntityOrCommon","name":n}`, every reference written in the Cedar syntax
deriving DecidableEq, Repr

/-- declared names of all fragments, fully qualified -/
structure Env where
  commons : List QName
  entities : List QName
  /-- namespaces that declare at least one action (their `Action` entity type exists) -/
  actionNs : List (List String)

def primitiveNames : List String := ["Bool", "Long", "String"]
def extensionNames : List String := ["datetime", "decimal", "duration", "ipaddr"]
def builtinNames : List String := primitiveNames ++ extensionNames

/-- user declaration (subject to RFC 70, decides whether an alias is added) -/
def Env.userDeclared (env : Env) (q : QName) : Bool := env.commons.contains q || env.entities.contains q

/-- `AllDefs::is_defined_as_common` after `from_schema_fragments` has completed `all_defs` -/
def Env.isCommon (env : Env) (q : QName) : Bool :=
  env.commons.contains q
  || (q.path == ["__cedar"] && builtinNames.contains q.base)
  || (q.path == [] && builtinNames.contains q.base && !env.userDeclared q)

/-- `AllDefs::is_defined_as_entity` (incl. `add_action_entity_types`) -/
def Env.isEntity (env : Env) (q : QName) : Bool :=
  env.entities.contains q || (q.base == "Action" && env.actionNs.contains q.path)

/-- `RawName::conditionally_qualify_with`: candidates in descending priority -/
def possibilities (ns : List String) (n : QName) : List QName :=
  if n.path = [] then
    if ns = [] then [n] else [⟨ns, n.base⟩, n]
  else [n]

inductive Resolved where
  | common (q : QName)
  | entity (q : QName)
deriving DecidableEq, Repr

/-- one candidate: common type first (RFC 24), then entity type -/
def tryCandidate (env : Env) (kind : RefKind) (p : QName) : Option Resolved :=
  if kind ≠ .entity && env.isCommon p then some (.common p)
  else if kind ≠ .common && env.isEntity p then some (.entity p)
  else none

/-- `ConditionalName::resolve`; `none` = `TypeNotDefinedError` -/
def resolveRef (env : Env) (ns : List String) (kind : RefKind) (n : QName) : Option Resolved :=
  (possibilities ns n).findSome? (tryCandidate env kind)

def QName.isReserved (q : QName) : Bool := q.path.contains "__cedar" || q.base == "__cedar"

/-- `AllDefs::rfc_70_shadowing_checks` (entity and common type names; run before aliases and action types are added) -/
def shadowing (env : Env) : Bool :=
  let all := env.entities ++ env.commons
  all.any fun q => q.path != [] && !q.isReserved && all.any fun u => u.path == [] && u.base == q.base

/-- resolved type expression: leaves are builtin types, user common types (by name) and entity types -/
inductive RTy where
  | builtin (n : String)
  | common (q : QName)
  | entity (q : QName)
  | set (e : RTy)
  | record (attrs : List (String × Bool × RTy))
deriving Repr

/-- a resolved common-type name is either a user declaration or one of the builtin definitions / aliases -/
def classify (env : Env) : Resolved → RTy
  | .entity q => .entity q
  | .common q => if env.commons.contains q then .common q else .builtin q.base

def resolveLeaf (env : Env) (ns : List String) (kind : RefKind) (n : QName) : Option RTy :=
  (resolveRef env ns kind n).map (classify env)

mutual
/-- resolution of every reference of a JSON type expression written in namespace `ns` -/
def resolveTy (env : Env) (ns : List String) : TyJson → Option RTy
  | .bool => some (.builtin "Bool")
  | .long => some (.builtin "Long")
  | .string => some (.builtin "String")
  | .ext n => if extensionNames.contains n then some (.builtin n) else none
  | .entity n => resolveLeaf env ns .entity n
  | .entityOrCommon n => resolveLeaf env ns .either n
  | .commonRef n => resolveLeaf env ns .common n
  | .set e => (resolveTy env ns e).map .set
  | .record attrs => (resolveAttrs env ns attrs).map .record
def resolveAttrs (env : Env) (ns : List String) : AttrsJ → Option (List (String × Bool × RTy))
  | .nil => some []
  | .cons n req t rest =>
    match resolveTy env ns t, resolveAttrs env ns rest with
    | some t', some rest' => some ((n, req, t') :: rest')
    | _, _ => none
end

end Cedar.SchemaSyntax
