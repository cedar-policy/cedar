import CedarVerif.Lemmas.TpeArms
import CedarVerif.Lemmas.ValueUids
/- C14 / C15: what `ArmOut` (TpeArmOut) reads off the arms of `interpret`: a list of interpreted operands that is neither
   all-concrete nor erroneous has a `Partial` member; where the ids of the value an arm builds come from (`viewStore`: a store at
   which `interpretBinary_spec` is read for the binary arm). -/
namespace Cedar.Tpe
open Cedar

/-- the one-entity store that holds, of the entity `v1`, exactly the ancestors and tags `pes` knows -/
def viewStore (pes : PEntities) : Value → Entities
  | .prim (.entityUID u) => [(u, ⟨[], (pes.ancestors? u).getD [], (pes.tags? u).getD []⟩)]
  | _ => []

theorem knownAt_viewStore (pes : PEntities) (v1 : Value) : KnownAt pes (viewStore pes v1) v1 := by
  rintro u rfl
  have hf : (viewStore pes (.prim (.entityUID u))).find? u = some ⟨[], (pes.ancestors? u).getD [], (pes.tags? u).getD []⟩ := by
    simp only [viewStore, Entities.find?, beq_self_eq_true, if_true]
  exact ⟨fun anc h => ⟨_, hf, fun _ => by rw [h]; rfl⟩, fun t h => ⟨_, hf, by rw [h]; rfl⟩⟩

theorem viewStore_tags {pes : PEntities} {v1 : Value} {u : EntityUID} {d : EntityData} (hf : (viewStore pes v1).find? u = some d) {t : String}
    {w : Value} (hl : lookupKV d.tags t = some w) : pes.tags? u = some d.tags := by
  unfold viewStore at hf
  split at hf
  · rename_i u'
    simp only [Entities.find?] at hf
    split at hf
    · rename_i he
      obtain rfl : u' = u := by simpa using he
      cases hf
      cases ht : pes.tags? u' with
      | none => rw [ht] at hl; cases hl
      | some tags => rfl
    · cases hf
  · cases hf

theorem mem_uidsList {rs : List Residual} {r : Residual} (hr : r ∈ rs) {u : EntityUID} (hu : u ∈ r.uids) :
    u ∈ Residual.uidsList rs := by
  induction rs with
  | nil => cases hr
  | cons a l ih =>
    simp only [Residual.uidsList, List.mem_append]
    rcases List.mem_cons.mp hr with rfl | hr
    · exact Or.inl hu
    · exact Or.inr (ih hr)

theorem mem_uidsKVs {rs : List (String × Residual)} {kv : String × Residual} (hr : kv ∈ rs) {u : EntityUID} (hu : u ∈ kv.2.uids) :
    u ∈ Residual.uidsKVs rs := by
  induction rs with
  | nil => cases hr
  | cons a l ih =>
    obtain ⟨k, r⟩ := a
    simp only [Residual.uidsKVs, List.mem_append]
    rcases List.mem_cons.mp hr with rfl | hr
    · exact Or.inl hu
    · exact Or.inr (ih hr)

theorem exists_partial {rs : List Residual} (h1 : allConcrete rs = none) (h2 : rs.any Residual.isError = false) :
    ∃ r, r ∈ rs ∧ r.isPartial = true := by
  induction rs with
  | nil => simp [allConcrete] at h1
  | cons a l ih =>
    simp only [List.any_cons, Bool.or_eq_false_iff] at h2
    cases a with
    | part k t => exact ⟨.part k t, by simp, rfl⟩
    | error t => simp [Residual.isError] at h2
    | concrete v t =>
      simp only [allConcrete, Option.map_eq_none_iff] at h1
      obtain ⟨r, hr, hp⟩ := ih h1 h2.2
      exact ⟨r, by simp [hr], hp⟩

theorem exists_partialKVs {rs : List (String × Residual)} (h1 : allConcreteKVs rs = none)
    (h2 : rs.any (fun kv => kv.2.isError) = false) : ∃ kv, kv ∈ rs ∧ kv.2.isPartial = true := by
  induction rs with
  | nil => simp [allConcreteKVs] at h1
  | cons a l ih =>
    obtain ⟨key, a⟩ := a
    simp only [List.any_cons, Bool.or_eq_false_iff] at h2
    cases a with
    | part k t => exact ⟨(key, .part k t), by simp, rfl⟩
    | error t => simp [Residual.isError] at h2
    | concrete v t =>
      simp only [allConcreteKVs, Option.map_eq_none_iff] at h1
      obtain ⟨r, hr, hp⟩ := ih h1 h2.2
      exact ⟨r, by simp [hr], hp⟩

def NoUids (r : Result Value) : Prop := ∀ w, r = .ok w → valueUids w = []

theorem allConcrete_uids {rs : List Residual} {vals : List Value} (h : allConcrete rs = some vals) :
    valueUidsList vals = Residual.uidsList rs := by
  induction rs generalizing vals with
  | nil => simp only [allConcrete, Option.some.injEq] at h; subst h; rfl
  | cons r rs ih =>
    cases r with
    | concrete v t =>
      simp only [allConcrete, Option.map_eq_some_iff] at h
      obtain ⟨vs, hvs, rfl⟩ := h
      simp [valueUidsList, Residual.uidsList, Residual.uids, ih hvs]
    | part k t => simp [allConcrete] at h
    | error t => simp [allConcrete] at h

theorem allConcreteKVs_uids {rs : List (String × Residual)} {vals : List (String × Value)} (h : allConcreteKVs rs = some vals) :
    valueUidsKVs vals = Residual.uidsKVs rs := by
  induction rs generalizing vals with
  | nil => simp only [allConcreteKVs, Option.some.injEq] at h; subst h; rfl
  | cons kr rs ih =>
    obtain ⟨k, r⟩ := kr
    cases r with
    | concrete v t =>
      simp only [allConcreteKVs, Option.map_eq_some_iff] at h
      obtain ⟨vs, hvs, rfl⟩ := h
      simp [valueUidsKVs, Residual.uidsKVs, Residual.uids, ih hvs]
    | part k t => simp [allConcreteKVs] at h
    | error t => simp [allConcreteKVs] at h

end Cedar.Tpe
