import CedarVerif.Lemmas.TpeBridge
import CedarVerif.Lemmas.TpeTypeSafe
/- C15 helpers, in C14's vocabulary: **missing ≡ empty**.  Padding a store with EMPTY entities (no attributes, no parents, no tags)
   for ids it does not hold changes no evaluation result up to the error class: `has` / `hasTag` are `false` in both
   stores, `.attr` / `getTag` error in both (`entity` error vs `attr` error), `in` is decided by `==` in both.
   Type safety (`TypeSafe`) transfers along such paddings. -/
namespace Cedar.Tpe
open Cedar

/-- the entity `Entity::with_uid` builds for an id the loader does not know -/
def emptyData : EntityData := ⟨[], [], []⟩

def PadsEmpty (es es' : Entities) : Prop :=
  ∀ u, es'.find? u = es.find? u ∨ (es.find? u = none ∧ es'.find? u = some emptyData)

theorem PadsEmpty.refl (es : Entities) : PadsEmpty es es := fun _ => Or.inl rfl

variable {req : Request} {es es' : Entities}

theorem inE_pad (h : PadsEmpty es es') (u1 u2 : EntityUID) : inE es' u1 u2 = inE es u1 u2 := by
  unfold inE
  rcases h u1 with h1 | ⟨h1, h2⟩
  · rw [h1]
  · rw [h1, h2]; simp [emptyData]

theorem applyBinary_pad (h : PadsEmpty es es') (op : BinaryOp) (v1 v2 : Value) :
    Agree (applyBinary es' op v1 v2) (applyBinary es op v1 v2) := by
  cases op with
  | mem =>
    have : applyBinary es' .mem v1 v2 = applyBinary es .mem v1 v2 := by simp only [applyBinary, inE_pad h]
    rw [this]; exact Agree.rfl' _
  | getTag =>
    -- a missing entity is an `entity` error, an empty one an `attr` error
    refine agree_bind fun u => agree_bind fun t => ?_
    rcases h u with h1 | ⟨h1, h2⟩
    · rw [h1]; exact Agree.rfl' _
    · rw [h1, h2]; exact True.intro
  | hasTag =>
    refine agree_bind fun u => agree_bind fun t => ?_
    rcases h u with h1 | ⟨h1, h2⟩
    · rw [h1]; exact Agree.rfl' _
    · rw [h1, h2]; exact Agree.rfl' _
  | _ => exact Agree.rfl' _

theorem getAttrV_pad (h : PadsEmpty es es') (a : String) (v : Value) : Agree (getAttrV es' a v) (getAttrV es a v) := by
  cases v with
  | prim p =>
    cases p with
    | entityUID u =>
      simp only [getAttrV]
      rcases h u with h1 | ⟨h1, h2⟩
      · rw [h1]; exact Agree.rfl' _
      · rw [h1, h2]; simp [emptyData, lookupKV, Agree]
    | _ => exact Agree.rfl' _
  | _ => exact Agree.rfl' _

theorem hasAttrV_pad (h : PadsEmpty es es') (a : String) (v : Value) : Agree (hasAttrV es' a v) (hasAttrV es a v) := by
  cases v with
  | prim p =>
    cases p with
    | entityUID u =>
      simp only [hasAttrV]
      rcases h u with h1 | ⟨h1, h2⟩
      · rw [h1]; exact Agree.rfl' _
      · rw [h1, h2]; simp [emptyData, lookupKV, Agree]
    | _ => exact Agree.rfl' _
  | _ => exact Agree.rfl' _

theorem evalList_pad (xs : List Residual) (h : ∀ r, r ∈ xs → Agree (r.eval req es') (r.eval req es)) :
    AgreeL (Residual.evalList req es' xs) (Residual.evalList req es xs) := by
  induction xs with
  | nil => exact AgreeL.rfl' _
  | cons a l ih => exact evalList_cons_congr (h a List.mem_cons_self) (ih fun r hr => h r (List.mem_cons_of_mem _ hr))

theorem evalKVs_pad (xs : List (String × Residual)) (h : ∀ kv, kv ∈ xs → Agree (kv.2.eval req es') (kv.2.eval req es)) :
    AgreeL (Residual.evalKVs req es' xs) (Residual.evalKVs req es xs) := by
  induction xs with
  | nil => exact AgreeL.rfl' _
  | cons a l ih => exact evalKVs_cons_congr (h a List.mem_cons_self) (ih fun r hr => h r (List.mem_cons_of_mem _ hr))

/-- **missing ≡ empty** (batched_evaluator.rs: "missing entities are equivalent to empty entities"), up to the error class -/
theorem eval_pad (h : PadsEmpty es es') (r : Residual) : Agree (r.eval req es') (r.eval req es) := by
  induction Residual.all r with
  | concrete v ty => exact Agree.rfl' _
  | error ty => exact Agree.rfl' _
  | var x ty => cases x <;> exact Agree.rfl' _
  | and _ _ ihl ihr => simp only [Residual.eval, RKind.eval]; exact andR_congr ihl ihr
  | or _ _ ihl ihr => simp only [Residual.eval, RKind.eval]; exact orR_congr ihl ihr
  | ite _ _ _ ihc iht ihe => simp only [Residual.eval, RKind.eval]; exact iteR_congr ihc iht ihe
  | unary _ ih => simp only [Residual.eval, RKind.eval]; exact bindR_congr _ ih
  | @binary op _ _ _ _ _ iha ihb =>
    simp only [Residual.eval, RKind.eval]
    exact bindR_congr2' _ _ (fun a b => applyBinary_pad h op a b) iha ihb
  | @getAttr _ a _ _ ih => simp only [Residual.eval, RKind.eval]; exact bindR_congr' _ _ (getAttrV_pad h a) ih
  | @hasAttr _ a _ _ ih => simp only [Residual.eval, RKind.eval]; exact bindR_congr' _ _ (hasAttrV_pad h a) ih
  | like _ ih => simp only [Residual.eval, RKind.eval]; exact bindR_congr _ ih
  | is _ ih => simp only [Residual.eval, RKind.eval]; exact bindR_congr _ ih
  | @call fn args ty _ ih => simp only [Residual.eval, eval_call]; exact listR_congr _ (evalList_pad args ih)
  | @set xs ty _ ih => simp only [Residual.eval, eval_set]; exact listR_congr _ (evalList_pad xs ih)
  | @record kvs ty _ ih => simp only [Residual.eval, eval_record]; exact listR_congr _ (evalKVs_pad kvs ih)

theorem ok_pad (h : PadsEmpty es es') {r : Residual} {v : Value} (hv : r.eval req es' = .ok v) : r.eval req es = .ok v := by
  have := eval_pad (req := req) h r
  rw [hv] at this; exact agree_ok_left this

theorem ok_pad' (h : PadsEmpty es es') {r : Residual} {v : Value} (hv : r.eval req es = .ok v) : r.eval req es' = .ok v := by
  rcases agree_cases (eval_pad (req := req) h r) with ⟨_, h1, h2⟩ | ⟨_, _, _, h2⟩
  · exact h1.trans (h2.symm.trans hv)
  · rw [hv] at h2; cases h2

theorem typeSafe_pad (h : PadsEmpty es es') {r : Residual} (ts : TypeSafe req es r) : TypeSafe req es' r := by
  induction ts with
  | concrete v ty => exact .concrete _ _
  | error ty => exact .error _
  | var x ty => exact .var _ _
  | and _ hbl _ hbr ihl ihr =>
    exact .and ihl (fun v hv => hbl v (ok_pad h hv)) (fun ht => ihr (ok_pad h ht)) (fun ht v hv => hbr (ok_pad h ht) v (ok_pad h hv))
  | or _ hbl _ hbr ihl ihr =>
    exact .or ihl (fun v hv => hbl v (ok_pad h hv)) (fun ht => ihr (ok_pad h ht)) (fun ht v hv => hbr (ok_pad h ht) v (ok_pad h hv))
  | ite _ hbc _ _ ihc iht ihe =>
    exact .ite ihc (fun v hv => hbc v (ok_pad h hv)) (fun ht => iht (ok_pad h ht)) (fun ht => ihe (ok_pad h ht))
  | unary _ hsh ih => exact .unary ih (fun v hv => hsh v (ok_pad h hv))
  | binary _ _ hsh iha ihb => exact .binary iha ihb (fun v1 v2 h1 h2 => hsh v1 v2 (ok_pad h h1) (ok_pad h h2))
  | getAttr _ ih => exact .getAttr ih
  | hasAttr _ hsh ih => exact .hasAttr ih (fun v hv => hsh v (ok_pad h hv))
  | like _ hsh ih => exact .like ih (fun v hv => hsh v (ok_pad h hv))
  | is _ hsh ih => exact .is ih (fun v hv => hsh v (ok_pad h hv))
  | call _ ih => exact .call ih
  | set _ ih => exact .set ih
  | record _ ih => exact .record ih

end Cedar.Tpe
