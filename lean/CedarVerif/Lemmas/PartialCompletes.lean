import CedarVerif.Lemmas.PartialInvariant
/-
The completion relations for partial stores and residual contexts, and the leaves of the first pass that read them.

`StoreCompletes σ pes es`: the concrete store `es` completes the partial store `pes` under σ —
  * an entity present in `pes` is present in `es` with the same ancestors; attribute / tag by attribute / tag: absent in
    both, or a known value equal to the concrete one, or a residual (`PartialValue::Residual`, a restricted expression with
    unknowns) that lies in `Frag2 σ` (σ defines its unknowns) and whose substitution evaluates to the concrete value;
  * an entity missing from a concrete-mode store is absent from `es`;
  * an entity missing from a `.partial()` store (it becomes `unknown(uid)` on dereference) is bound by σ *to itself*
    (`Bound`); what `es` holds for it is arbitrary.  "absent and unbound" is NOT enough: `has` / `in` / `hasTag` on an absent
    entity are values concretely, but errors on the unsubstituted `unknown(uid)` (`missing_unbound_counterexample`).
    This is asked of EVERY missing uid, and σ is a finite list: in partial mode no σ and `es` satisfy `StoreCompletes`;
    `StoreCompletesOn U` asks it of the uids in `U` only and is the relation to use for `.partial()` stores.
-/
namespace Cedar
namespace PS

/-- the unknown a `.partial()` store creates for the missing entity `u` is bound by σ to `u` itself -/
def Bound (σ : Mapper) (u : EntityUID) : Prop := lookupKV σ (uidName u) = some (.prim (.entityUID u))

/- Not `Cedar.AttrCompletes` / `Cedar.AttrsComplete` / `Cedar.StoreCompletes` of Lemmas/PartialFull.lean (the vocabulary of
   `PinterpSoundFull`: completion through `rinterp`, position by position, no `Canon`); outside `namespace PS` the bare names mean
   those. -/
def AttrCompletes (σ : Mapper) (es : Entities) (pv : PartialValue) (v : Value) : Prop :=
  match pv with
  | .value w => w = v ∧ v.Canon
  | .residual r => Frag2 σ r ∧ v.Canon ∧ ∀ req env, Y σ req es env r = .ok v

/-- key by key (first binding, as `lookupKV` / the Rust maps see it) -/
def AttrsComplete (σ : Mapper) (es : Entities) (pkvs : List (String × PartialValue)) (kvs : List (String × Value)) : Prop :=
  ∀ a, match lookupKV pkvs a with
    | none => lookupKV kvs a = none
    | some pv => ∃ v, lookupKV kvs a = some v ∧ AttrCompletes σ es pv v

def StoreCompletes (σ : Mapper) (pes : PEntities) (es : Entities) : Prop :=
  ∀ u, match PEntities.find? pes.ents u with
    | some d => ∃ d', es.find? u = some d' ∧ d'.ancestors = d.ancestors ∧
        AttrsComplete σ es d.attrs d'.attrs ∧ AttrsComplete σ es d.tags d'.tags
    | none => if pes.partialMode then Bound σ u else es.find? u = none

/-- `StoreCompletes` relativised to a set `U` of uids: the uid-named unknown of an entity missing from a `.partial()` store has
    to be bound only if the uid is in `U` (`U` = the uids the first pass can dereference: `pinterp_in`) -/
def StoreCompletesOn (U : EntityUID → Prop) (σ : Mapper) (pes : PEntities) (es : Entities) : Prop :=
  ∀ u, match PEntities.find? pes.ents u with
    | some d => ∃ d', es.find? u = some d' ∧ d'.ancestors = d.ancestors ∧
        AttrsComplete σ es d.attrs d'.attrs ∧ AttrsComplete σ es d.tags d'.tags
    | none => if pes.partialMode then (U u → Bound σ u) else es.find? u = none

/-- the concrete context completes the partial one: a value, entirely unknown (σ maps `context`), or a residual record
    (`Context::Residual` / `RestrictedResidual`) in the fragment whose substitution evaluates to the concrete context -/
def CtxCompletes (σ : Mapper) (es : Entities) (pc : Option PContext) (ctx : List (String × Value)) : Prop :=
  match pc with
  | some (.value kvs) => kvs = ctx
  | none => lookupKV σ "context" = some (.record ctx)
  | some (.residual kvs) => Frag2 σ (.record kvs) ∧ ∀ req env, Y σ req es env (.record kvs) = .ok (.record ctx)

/-- `Concretizes` with residual contexts -/
structure Concretizes2 (σ : Mapper) (es : Entities) (preq : PRequest) (req : Request) : Prop where
  principal : preq.principal.Conc σ "principal" req.principal
  action : preq.action.Conc σ "action" req.action
  resource : preq.resource.Conc σ "resource" req.resource
  context : CtxCompletes σ es preq.context req.context

theorem concretizes2_of (σ : Mapper) (es : Entities) {preq : PRequest} {req : Request} (h : Concretizes σ preq req) :
    Concretizes2 σ es preq req := by
  refine ⟨h.principal, h.action, h.resource, ?_⟩
  have hc := h.context
  unfold CtxCompletes
  cases hp : preq.context with
  | none => rw [hp] at hc; exact hc
  | some c =>
    cases c with
    | value kvs => rw [hp] at hc; exact hc
    | residual kvs => rw [hp] at hc; exact hc.elim

theorem concretizes2_ofConcrete (σ : Mapper) (es : Entities) (req : Request) : Concretizes2 σ es (.ofConcrete req) req :=
  concretizes2_of σ es (concretizes_ofConcrete σ req)

section
variable {σ : Mapper} {pes : PEntities} {es : Entities}

theorem StoreCompletes.noSuch (h : StoreCompletes σ pes es) {u : EntityUID}
    (hf : PEntities.find? pes.ents u = none) (hp : pes.partialMode = false) : es.find? u = none := by
  have := h u; rw [hf] at this; simpa [hp] using this

theorem StoreCompletes.bound (h : StoreCompletes σ pes es) {u : EntityUID}
    (hf : PEntities.find? pes.ents u = none) (hp : pes.partialMode = true) : Bound σ u := by
  have := h u; rw [hf] at this; simpa [hp] using this

variable {U U' : EntityUID → Prop}

theorem StoreCompletesOn.data (h : StoreCompletesOn U σ pes es) {u : EntityUID} {d : PEntityData}
    (hf : PEntities.find? pes.ents u = some d) :
    ∃ d', es.find? u = some d' ∧ d'.ancestors = d.ancestors ∧
      AttrsComplete σ es d.attrs d'.attrs ∧ AttrsComplete σ es d.tags d'.tags := by
  have := h u; rw [hf] at this; exact this

theorem StoreCompletesOn.noSuch (h : StoreCompletesOn U σ pes es) {u : EntityUID}
    (hf : PEntities.find? pes.ents u = none) (hp : pes.partialMode = false) : es.find? u = none := by
  have := h u; rw [hf] at this; simpa [hp] using this

theorem StoreCompletesOn.bound (h : StoreCompletesOn U σ pes es) {u : EntityUID}
    (hf : PEntities.find? pes.ents u = none) (hp : pes.partialMode = true) (hu : U u) : Bound σ u := by
  have := h u; rw [hf] at this; simp only [hp, if_true] at this; exact this hu

theorem StoreCompletesOn.mono (hU : ∀ u, U' u → U u) (h : StoreCompletesOn U σ pes es) : StoreCompletesOn U' σ pes es := by
  intro u
  have := h u
  cases hf : PEntities.find? pes.ents u with
  | some d => rw [hf] at this; exact this
  | none =>
    rw [hf] at this
    cases hp : pes.partialMode with
    | false => simpa [hp] using this
    | true => simp only [hp, if_true] at this ⊢; exact fun hu => this (hU u hu)

/-- in concrete mode nothing is asked of a missing uid beyond its absence from `es`: `U` does not matter -/
theorem StoreCompletesOn.concreteMode (hp : pes.partialMode = false) (h : StoreCompletesOn U σ pes es) :
    StoreCompletesOn U' σ pes es := by
  intro u
  have := h u
  cases hf : PEntities.find? pes.ents u with
  | some d => rw [hf] at this; exact this
  | none => rw [hf] at this; simpa [hp] using this

theorem storeCompletes_iff_on : StoreCompletes σ pes es ↔ StoreCompletesOn (fun _ => True) σ pes es := by
  refine forall_congr' fun u => ?_
  cases PEntities.find? pes.ents u with
  | some d => exact Iff.rfl
  | none => cases pes.partialMode <;> simp

theorem storeCompletesOn_of (h : StoreCompletes σ pes es) : StoreCompletesOn U σ pes es :=
  (storeCompletes_iff_on.mp h).mono fun _ _ => trivial

theorem storeCompletes_of_on (h : StoreCompletesOn (fun _ => True) σ pes es) : StoreCompletes σ pes es :=
  storeCompletes_iff_on.mpr h

theorem AttrsComplete.get_none {pkvs : List (String × PartialValue)} {kvs : List (String × Value)}
    (h : AttrsComplete σ es pkvs kvs) {a : String} (hl : lookupKV pkvs a = none) : lookupKV kvs a = none := by
  have := h a; rw [hl] at this; exact this

theorem AttrsComplete.get_some {pkvs : List (String × PartialValue)} {kvs : List (String × Value)}
    (h : AttrsComplete σ es pkvs kvs) {a : String} {pv : PartialValue} (hl : lookupKV pkvs a = some pv) :
    ∃ v, lookupKV kvs a = some v ∧ AttrCompletes σ es pv v := by
  have := h a; rw [hl] at this; exact this

theorem AttrsComplete.isSome {pkvs : List (String × PartialValue)} {kvs : List (String × Value)}
    (h : AttrsComplete σ es pkvs kvs) (a : String) : (lookupKV pkvs a).isSome = (lookupKV kvs a).isSome := by
  cases hl : lookupKV pkvs a with
  | none => rw [h.get_none hl]; rfl
  | some pv => obtain ⟨v, hv, _⟩ := h.get_some hl; rw [hv]; rfl

end

section
variable {σ : Mapper} (req : Request) (es : Entities) (env : SlotEnv)

theorem unkOK_of_bound {u : EntityUID} (h : Bound σ u) : UnkOK σ (uidName u) (some (.entity u.ty)) :=
  ⟨_, h, trivial, by intro t ht; cases ht; rfl⟩

theorem Y_bound {u : EntityUID} (h : Bound σ u) :
    Y σ req es env (.unknown (uidName u) (some (.entity u.ty))) = .ok (.prim (.entityUID u)) :=
  Y_unknown σ req es env h trivial

end

/-- what `get_attr` returns for an attribute value of an entity: a known value; a *direct* `Unknown` goes through the
    mapper; any other residual is returned unchanged (unknowns nested in it stay undiscovered in this pass) -/
def attrRes (m0 : Mapper) : PartialValue → PRes
  | .value v => .val v
  | .residual (.unknown name ty) => unknownToPV m0 name ty
  | .residual r => .res r

section
variable {σ : Mapper} {req : Request} {es : Entities} {env : SlotEnv}

theorem s2_completes {r : Expr} {v : Value} (hf : Frag2 σ r) (hy : Y σ req es env r = .ok v) :
    Sound2 σ req es env (.ok v) (.res r) := by
  rw [← hy]; exact s2_res_self hf

theorem sound2_attrRes {m0 : Mapper} (hm : MapLE m0 σ) {pv : PartialValue} {v : Value} (h : AttrCompletes σ es pv v) :
    Sound2 σ req es env (.ok v) (attrRes m0 pv) := by
  cases pv with
  | value w =>
    obtain ⟨rfl, hc⟩ := h
    exact s2_val rfl hc
  | residual r =>
    obtain ⟨hf, _, hy⟩ := h
    cases r with
    | unknown name ty =>
      rw [← hy req env]
      cases hf with
      | unknown _ _ hu => exact sound2_unknownToPV hm hu
    | _ => exact s2_completes hf (hy req env)

/-- tags are returned as they are (`PRes.ofPV`): no mapper, not even for a direct `Unknown` -/
theorem sound2_ofPV {pv : PartialValue} {v : Value} (h : AttrCompletes σ es pv v) :
    Sound2 σ req es env (.ok v) (PRes.ofPV pv) := by
  cases pv with
  | value w =>
    obtain ⟨rfl, hc⟩ := h
    exact s2_val rfl hc
  | residual r =>
    exact s2_completes h.1 (h.2.2 req env)

end

theorem sound2_var {σ : Mapper} {req : Request} {es : Entities} {env : SlotEnv} (hctx : (Value.record req.context).Canon)
    {m0 : Mapper} {preq : PRequest} {pes : PEntities} (hC : Concretizes2 σ es preq req) (v : Var) (n : Nat) :
    Sound2 σ req es env (Y σ req es env (.var v)) (pinterp m0 preq pes env (n + 1) (.var v)) := by
  simp only [Y, Expr.substUnk]
  cases v with
  | principal => exact sound2_entry hC.principal
  | action => exact sound2_entry hC.action
  | resource => exact sound2_entry hC.resource
  | context =>
    have hc := hC.context
    unfold CtxCompletes at hc
    simp only [pinterp, evaluate]
    cases hpc : preq.context with
    | none =>
      rw [hpc] at hc
      exact s2_completes (.unknown "context" none ⟨_, hc, hctx, by intro t ht; cases ht⟩) (Y_unknown σ req es env hc hctx)
    | some c =>
      rw [hpc] at hc
      cases c with
      | value kvs => subst hc; exact s2_val rfl hctx
      | residual kvs => exact s2_completes hc.1 (hc.2 req env)

section
variable {σ : Mapper} {es : Entities}

theorem attrsComplete_nil : AttrsComplete σ es [] [] := by intro a; simp [lookupKV]

theorem attrsComplete_cons (k : String) {pv : PartialValue} {v : Value} (h : AttrCompletes σ es pv v)
    {pkvs : List (String × PartialValue)} {kvs : List (String × Value)} (hr : AttrsComplete σ es pkvs kvs) :
    AttrsComplete σ es ((k, pv) :: pkvs) ((k, v) :: kvs) := by
  intro a
  simp only [lookupKV]
  by_cases hk : (k == a) = true
  · simp only [hk, if_true]; exact ⟨v, rfl, h⟩
  · simp only [hk, Bool.false_eq_true, if_false]; exact hr a

theorem storeCompletes_single (u : EntityUID) (d : PEntityData) (d' : EntityData) (hanc : d'.ancestors = d.ancestors)
    (ha : AttrsComplete σ [(u, d')] d.attrs d'.attrs) (ht : AttrsComplete σ [(u, d')] d.tags d'.tags) :
    StoreCompletes σ ⟨[(u, d)], false⟩ [(u, d')] := by
  intro w
  simp only [PEntities.find?, Entities.find?]
  by_cases hk : (u == w) = true
  · simp only [hk, if_true]; exact ⟨d', rfl, hanc, ha, ht⟩
  · simp [hk]

theorem storeCompletes_ofConcrete_nil (σ : Mapper) : StoreCompletes σ (.ofConcrete []) [] := by
  intro w; simp [PEntities.ofConcrete, PEntities.find?, Entities.find?]

theorem attrsComplete_values {kvs : List (String × Value)} (h : Value.CanonKVs kvs) :
    AttrsComplete σ es (kvs.map fun kv => (kv.1, PartialValue.value kv.2)) kvs := by
  intro a
  rw [lookupKV_map_value]
  cases hl : lookupKV kvs a with
  | none => rfl
  | some v => exact ⟨v, rfl, rfl, canonKVs_lookup h hl⟩

theorem storeCompletesOn_ofConcrete {U : EntityUID → Prop} (σ : Mapper) (hstore : StoreCanon es) :
    StoreCompletesOn U σ (.ofConcrete es) es := by
  intro u
  simp only [PEntities.ofConcrete, find_ofConcrete]
  cases hf : es.find? u with
  | none => simp
  | some d =>
    exact ⟨d, rfl, rfl, attrsComplete_values (hstore u d hf).1, attrsComplete_values (hstore u d hf).2⟩

end

end PS
end Cedar
