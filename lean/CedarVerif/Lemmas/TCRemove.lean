import CedarVerif.Lemmas.TCEdit
/-
C04: `remove_entities` for arbitrary uid lists.
The uids are processed one after the other and the intermediate stores are *not* closed. Removing a uid that has a
record invalidates it in the sense of TCEdit.lean (`stripNode_stripped`); a uid without record (absent, or removed
earlier in the list) is skipped. `RSt` is `SInv` plus what only `remove` has: removed uids have no record, so parent
links are only taken away (`RSt.reach_old`) and `finish_spec` applies without the touched pass.
-/
namespace Cedar.TC
set_option linter.unusedSectionVars false

variable {α : Type} [DecidableEq α]

def stripNode (u : α) (r : Node α) (n : Node α) : Node α := if u ∈ n.out then stripRemoved u r n else n

theorem mem_strip_parents (u : α) (r n : Node α) (y : α) :
    y ∈ (stripNode u r n).parents ↔ y ∈ n.parents ∧ y ≠ u := by
  unfold stripNode
  by_cases hu : u ∈ n.out
  · rw [if_pos hu]
    simp only [stripRemoved, List.mem_filter, decide_eq_true_eq]
  · rw [if_neg hu]
    exact ⟨fun h => ⟨h, fun e => hu (mem_out.mpr (Or.inl (e ▸ h)))⟩, And.left⟩

theorem mem_strip_indirect (u : α) (r n : Node α) (y : α) :
    y ∈ (stripNode u r n).indirect ↔ y ∈ n.indirect ∧ y ≠ u ∧ (u ∈ n.out → y ∉ r.out) := by
  unfold stripNode
  by_cases hu : u ∈ n.out
  · rw [if_pos hu]
    simp only [stripRemoved, List.mem_filter, Bool.and_eq_true, decide_eq_true_eq, hu, true_imp_iff]
  · rw [if_neg hu]
    exact ⟨fun h => ⟨h, fun e => hu (mem_out.mpr (Or.inr (e ▸ h))), fun h' => absurd h' hu⟩, And.left⟩

theorem strip_tag (u : α) (r n : Node α) : (stripNode u r n).tag = n.tag := by
  unfold stripNode; split <;> rfl

theorem removeOne_none {s : Store α} {t : List α} {u : α} (h : get s u = none) : removeOne (s, t) u = (s, t) := by
  simp [removeOne, h]

theorem get_removeOne {s : Store α} {t : List α} {u : α} {r : Node α} (h : get s u = some r) (x : α) :
    get (removeOne (s, t) u).1 x = if x = u then none else (get s x).map (stripNode u r) := by
  simp only [removeOne, h]
  rw [get_map_node (erase s u) _ (fun _ => stripNode u r), get_erase]
  · split <;> simp
  · intro kn
    unfold stripNode
    split <;> rfl

theorem fold_touch_sub (u : α) (s1 : Store α) : ∀ (t : List α) a, a ∈ t →
    a ∈ s1.foldl (fun t kn => if u ∈ kn.2.out then tinsert kn.1 t else t) t :=
  foldl_tinsert_sub (fun kn => u ∈ kn.2.out) s1

theorem removeOne_untouched {s : Store α} {t : List α} {u : α} {r : Node α} (h : get s u = some r) (x : α)
    (hx : x ∉ (removeOne (s, t) u).2) : x ∉ t ∧ ∀ n, get s x = some n → x ≠ u → u ∉ n.out := by
  simp only [removeOne, h] at hx
  obtain ⟨h1, h2⟩ := foldl_tinsert_untouched (fun kn => u ∈ kn.2.out) (erase s u) t x hx
  refine ⟨h1, fun n hn hxu => h2 n (get_some_mem ?_)⟩
  rw [get_erase]; simp [hxu, hn]

theorem stripNode_stripped (u : α) (r n : Node α) : Stripped u r.out True n (stripNode u r n) := by
  refine ⟨fun y hy => ((mem_strip_parents u r n y).mp hy).1, ?_, ?_⟩
  · intro y hy
    by_cases hyu : y = u
    · exact Or.inr ⟨hyu, trivial⟩
    · exact Or.inl ((mem_strip_parents u r n y).mpr ⟨hy, hyu⟩)
  · intro y
    rw [mem_strip_indirect]
    constructor
    · rintro ⟨h1, h2, h3⟩; exact ⟨h1, fun hu => ⟨h2, h3 hu⟩⟩
    · rintro ⟨h1, h2⟩
      exact ⟨h1, fun e' => (h2 (mem_out.mpr (Or.inr (e' ▸ h1)))).1 e', fun hu => (h2 hu).2⟩

structure RSt (s0 : Store α) (R : List α) (s : Store α) (t : List α) : Prop where
  inv : SInv s0 R s
  gone : ∀ x, x ∈ R → get s x = none
  frame : Frame s0 s t

theorem RSt.step {s0 s : Store α} {R t : List α} (h0 : StoreInv s0) (h : RSt s0 R s t) (u : α) (r : Node α)
    (hu : get s u = some r) : RSt s0 (u :: R) (removeOne (s, t) u).1 (removeOne (s, t) u).2 := by
  have G := fun x => get_removeOne (t := t) hu x
  have huR : u ∉ R := fun hR => by rw [h.gone u hR] at hu; cases hu
  refine ⟨h.inv.step h0 hu huR (del := True) (fun _ => by rw [G, if_pos rfl]) (fun hn => absurd trivial hn) ?_ ?_, ?_, ?_⟩
  · intro x n hxu hn
    exact ⟨stripNode u r n, by rw [G, if_neg hxu, hn]; rfl⟩
  · intro x n' hxu hx
    rw [G, if_neg hxu] at hx
    obtain ⟨n, hn, rfl⟩ := Option.map_eq_some_iff.mp hx
    exact ⟨n, hn, stripNode_stripped u r n⟩
  · intro x hx
    rw [G]
    split
    · rfl
    · rw [h.gone x ((List.mem_cons.mp hx).resolve_left ‹_›)]; rfl
  · intro x n' hx hxt
    have hxu : x ≠ u := fun e' => by rw [G, if_pos e'] at hx; cases hx
    rw [G, if_neg hxu] at hx
    obtain ⟨n, hn, rfl⟩ := Option.map_eq_some_iff.mp hx
    obtain ⟨hxt0, hun⟩ := removeOne_untouched hu x hxt
    have : stripNode u r n = n := by unfold stripNode; rw [if_neg (hun n hn hxu)]
    rw [this]
    exact h.frame x n hn hxt0

theorem RSt.fold {s0 : Store α} (h0 : StoreInv s0) (us : List α) (s : Store α) (t R : List α) (h : RSt s0 R s t) :
    ∃ R', RSt s0 R' (us.foldl removeOne (s, t)).1 (us.foldl removeOne (s, t)).2 := by
  refine List.foldlRecOn (motive := fun (st : Store α × List α) => ∃ R, RSt s0 R st.1 st.2) us removeOne ⟨R, h⟩ ?_
  rintro ⟨s, t⟩ ⟨R, h⟩ u _
  cases hu : get s u with
  | none => rw [removeOne_none hu]; exact ⟨R, h⟩
  | some r => exact ⟨_, h.step h0 u r hu⟩

theorem RSt.reach_old {s0 s : Store α} {R t : List α} (h : RSt s0 R s t) :
    ∀ x y, Reach (shape s) x y → Reach (shape s0) x y := by
  intro x _ hr
  refine Reach.mono ?_ hr
  intro a ps ha
  obtain ⟨n, hn, hps⟩ := shape_some_inv ha
  have haR : a ∉ R := fun hR => by rw [h.gone a hR] at hn; cases hn
  obtain ⟨n0, hn0, hp, _⟩ := h.inv.form a n hn haR
  exact ⟨n0.parents, shape_some hn0, fun b hb => hp b (hps ▸ hb)⟩

theorem pg_removeOne (st : Store α × List α) (u : α) :
    parentGraph (removeOne st u).1 = specRemoveOne (parentGraph st.1) u := by
  obtain ⟨s, t⟩ := st
  cases hu : get s u with
  | none =>
    rw [removeOne_none hu]
    have : PGraph.get (parentGraph s) u = none := by rw [pg_get]; simp [shape, hu]
    simp [specRemoveOne, this]
  | some r =>
    have hpg : PGraph.get (parentGraph s) u = some r.parents := by rw [pg_get]; exact shape_some hu
    simp only [removeOne, hu, specRemoveOne, hpg]
    simp only [parentGraph, erase, List.map_map, List.filter_map]
    -- both sides map over the same filtered list; a record without out-edge to `u` has no parent `u`
    apply List.map_congr_left
    intro kn _
    by_cases huv : u ∈ kn.2.out
    · simp [huv, stripRemoved]
    · have : kn.2.parents.filter (fun y => decide (y ≠ u)) = kn.2.parents :=
        List.filter_eq_self.mpr fun a ha => decide_eq_true fun e => huv (mem_out.mpr (Or.inl (e ▸ ha)))
      simp only [Function.comp, huv, if_false, this]

theorem pg_removeFold (us : List α) : ∀ st : Store α × List α,
    parentGraph (us.foldl removeOne st).1 = specRemove (parentGraph st.1) us := by
  induction us with
  | nil => intro st; rfl
  | cons u us ih =>
    intro st
    simp only [List.foldl_cons, specRemove]
    rw [ih, pg_removeOne]
    rfl

theorem removeEntities_ok (s : Store α) (us : List α) (hinv : StoreInv s) :
    ∃ s', removeEntities .compute s us = .ok s' ∧ StoreInv s' ∧ parentGraph s' = specRemove (parentGraph s) us := by
  obtain ⟨R, hR⟩ := RSt.fold hinv us s [] [] ⟨SInv.init s, fun _ h => (nomatch h), fun _ _ h _ => h⟩
  obtain ⟨f1, f2⟩ := finish_spec false hinv (hR.inv.sound hinv) (hR.inv.disjoint hinv) hR.frame
    (fun _ => hR.reach_old)
  rw [pg_removeFold] at f1
  exact Res.ok_of_spec f1 (fun e => (f2 e).mp) fun e he => he.2.elim fun x hx => hinv.acyclic x (hR.reach_old x x hx)

end Cedar.TC
