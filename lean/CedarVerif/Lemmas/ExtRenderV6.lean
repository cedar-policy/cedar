import CedarVerif.Lemmas.ExtRenderIP
/-
C10 / C07, IPv6 literals: `Display` of an IPv6 `IPAddr` (`renderIp true`: lower-case hex groups without leading
zeros, `::` for the first longest run of at least two zero groups, `/prefix`) parses back through `IPAddr.parse`
to the same value — for every address that is not IPv4-mapped (`parse_renderIp_v6`).  For IPv4-mapped addresses
(`::ffff:a.b.c.d`) `Display` prints the dotted form, which Cedar's `ip()` refuses (`parse_renderIp_v6_mapped`).
-/
namespace Cedar
namespace CJson
open Ext Ext.IPAddr

theorem hexChar_props : ∀ k, k < 16 → isHexDigit (hexChar k) = true ∧ hexVal (hexChar k) = k ∧
    (hexChar k).toNat < 128 ∧ hexChar k ≠ ':' ∧ hexChar k ≠ '/' ∧ hexChar k ≠ '.' := by decide +kernel

/-- a character printed by `{:x}`: lower-case hex digit -/
def v6_hexOut (c : Char) : Prop := ∃ k, k < 16 ∧ c = hexChar k

theorem v6_hexOut_isHex {c : Char} (h : v6_hexOut c) : isHexDigit c = true := by
  obtain ⟨k, hk, rfl⟩ := h; exact (hexChar_props k hk).1
theorem v6_hexOut_ascii {c : Char} (h : v6_hexOut c) : c.toNat < 128 := by
  obtain ⟨k, hk, rfl⟩ := h; exact (hexChar_props k hk).2.2.1
theorem v6_hexOut_ne_colon {c : Char} (h : v6_hexOut c) : c ≠ ':' := by
  obtain ⟨k, hk, rfl⟩ := h; exact (hexChar_props k hk).2.2.2.1
theorem v6_hexOut_ne_slash {c : Char} (h : v6_hexOut c) : c ≠ '/' := by
  obtain ⟨k, hk, rfl⟩ := h; exact (hexChar_props k hk).2.2.2.2.1
theorem v6_hexOut_ne_dot {c : Char} (h : v6_hexOut c) : c ≠ '.' := by
  obtain ⟨k, hk, rfl⟩ := h; exact (hexChar_props k hk).2.2.2.2.2

theorem v6_hexDigits_spec (g : Nat) :
    hexDigits g ≠ [] ∧ (∀ c, c ∈ hexDigits g → v6_hexOut c) ∧
      (hexDigits g).foldl (fun acc c => acc * 16 + hexVal c) 0 = g ∧
      (∀ k, 0 < k → g < 16 ^ k → (hexDigits g).length ≤ k) := by
  obtain ⟨D, hD, hne, hdig, hval, hlen⟩ := digitsAux_spec (b := 16) (by decide) (aux := hexDigitsAux) (P := v6_hexOut)
    (val := hexVal) (fun _ _ _ => rfl) (fun k hk => ⟨⟨k, hk, rfl⟩, (hexChar_props k hk).2.1⟩) (g + 1) g []
    (Nat.lt_succ_self g)
  have : hexDigits g = D := by rw [hexDigits, hD, List.append_nil]
  rw [this]
  exact ⟨hne, hdig, by rw [hval 0, Nat.zero_mul, Nat.zero_add], hlen⟩

theorem hexDigits_length_le4 (g : Nat) (hg : g < 65536) : (hexDigits g).length ≤ 4 :=
  (v6_hexDigits_spec g).2.2.2 4 (by decide) (by simpa using hg)

theorem hexDigits_pos (g : Nat) : 0 < (hexDigits g).length := by
  have := (v6_hexDigits_spec g).1
  cases h : hexDigits g with
  | nil => exact absurd h this
  | cons => simp

theorem readGroup_hexDigits (g : Nat) (rest : List Char) (hg : g < 65536) (hr : noHexHead rest) :
    readGroup (hexDigits g ++ rest) = some (g, rest) := by
  obtain ⟨hne, hdig, hval, _⟩ := v6_hexDigits_spec g
  have hsp := spanHex_append (hexDigits g) rest (fun c hc => v6_hexOut_isHex (hdig c hc)) hr
  have hlen := hexDigits_length_le4 g hg
  have h1 : ((hexDigits g).isEmpty || decide ((hexDigits g).length > 4)) = false := by
    have : (hexDigits g).isEmpty = false := by
      cases hd : hexDigits g with
      | nil => exact absurd hd hne
      | cons => rfl
    simp [this]; omega
  simp only [readGroup, hsp, h1, hval, if_false, Bool.false_eq_true]

/-- `:g1:g2…` -/
def v6_sepText (gs : List Nat) : List Char := gs.flatMap (fun g => ':' :: hexDigits g)

theorem v6_sepText_nil : v6_sepText [] = [] := rfl
theorem v6_sepText_cons (g : Nat) (gs : List Nat) : v6_sepText (g :: gs) = ':' :: (hexDigits g ++ v6_sepText gs) := by
  simp [v6_sepText]

theorem v6_joinWith_cons (g : Nat) (gs : List Nat) :
    joinWith ':' ((g :: gs).map hexDigits) = hexDigits g ++ v6_sepText gs := by
  induction gs generalizing g with
  | nil => simp [joinWith, v6_sepText]
  | cons g' gs ih =>
    have := ih g'
    simp only [List.map_cons] at this ⊢
    simp only [joinWith, this, v6_sepText_cons]

/-- where a group list may end: end of text, the `/` of the prefix, or the `::` of a compression -/
def v6_Stop (rest : List Char) : Prop :=
  rest = [] ∨ (∃ r, rest = '/' :: r) ∨ (∃ r, rest = ':' :: ':' :: r)

theorem v6_Stop_noHexHead {rest : List Char} (h : v6_Stop rest) : noHexHead rest := by
  rcases h with rfl | ⟨r, rfl⟩ | ⟨r, rfl⟩
  · intro c r' h; cases h
  · exact noHexHead_cons (by decide)
  · exact noHexHead_cons (by decide)

theorem v6_sepText_noHexHead (gs : List Nat) (rest : List Char) (h : v6_Stop rest) :
    noHexHead (v6_sepText gs ++ rest) := by
  cases gs with
  | nil => simpa [v6_sepText] using v6_Stop_noHexHead h
  | cons g gs => rw [v6_sepText_cons]; exact noHexHead_cons (by decide)

theorem readGroups_stop (limit i : Nat) (rest : List Char) (hi : 0 < i) (h : v6_Stop rest) :
    readGroups limit i rest = ([], rest) := by
  cases limit with
  | zero => rfl
  | succ limit =>
    have hi0 : i ≠ 0 := by omega
    rcases h with rfl | ⟨r, rfl⟩ | ⟨r, rfl⟩
    · simp [readGroups, hi0]
    · simp [readGroups, hi0]
    · have : readGroup (':' :: r) = none := readGroup_noHexHead _ (noHexHead_cons (by decide))
      simp [readGroups, hi0, this]

theorem readGroups_sepText (gs : List Nat) : ∀ (limit i : Nat) (rest : List Char), 0 < i → gs.length ≤ limit →
    (∀ g, g ∈ gs → g < 65536) → v6_Stop rest → readGroups limit i (v6_sepText gs ++ rest) = (gs, rest) := by
  induction gs with
  | nil =>
    intro limit i rest hi _ _ hs
    simpa [v6_sepText] using readGroups_stop limit i rest hi hs
  | cons g gs ih =>
    intro limit i rest hi hl hg hs
    cases limit with
    | zero => simp at hl
    | succ limit =>
      have hi0 : i ≠ 0 := by omega
      have hrg := readGroup_hexDigits g (v6_sepText gs ++ rest) (hg g (List.mem_cons_self ..))
        (v6_sepText_noHexHead gs rest hs)
      have hrec := ih limit (i + 1) rest (by omega) (by simpa using hl)
        (fun g' h' => hg g' (List.mem_cons_of_mem _ h')) hs
      rw [v6_sepText_cons]
      simp only [readGroups, hi0, if_false, List.cons_append, List.append_assoc, hrg, hrec]

theorem readGroups_joinWith (gs : List Nat) (limit : Nat) (rest : List Char) (hl : gs.length ≤ limit)
    (hg : ∀ g, g ∈ gs → g < 65536) (hs : v6_Stop rest) :
    readGroups limit 0 (joinWith ':' (gs.map hexDigits) ++ rest) = (gs, rest) := by
  cases gs with
  | nil =>
    cases limit with
    | zero => rfl
    | succ limit =>
      have : readGroup rest = none := readGroup_noHexHead _ (v6_Stop_noHexHead hs)
      simp [readGroups, joinWith, this]
  | cons g gs =>
    cases limit with
    | zero => simp at hl
    | succ limit =>
      have hrg := readGroup_hexDigits g (v6_sepText gs ++ rest) (hg g (List.mem_cons_self ..))
        (v6_sepText_noHexHead gs rest hs)
      have hrec := readGroups_sepText gs limit 1 rest (by omega) (by simpa using hl)
        (fun g' h' => hg g' (List.mem_cons_of_mem _ h')) hs
      rw [v6_joinWith_cons]
      simp only [readGroups, if_true, List.append_assoc, hrg, hrec]

theorem v6_joinWith_chars (gs : List Nat) (c : Char) (hc : c ∈ joinWith ':' (gs.map hexDigits)) :
    v6_hexOut c ∨ c = ':' := by
  induction gs with
  | nil => simp [joinWith] at hc
  | cons g gs ih =>
    cases gs with
    | nil =>
      simp only [List.map_cons, List.map_nil, joinWith] at hc
      exact Or.inl ((v6_hexDigits_spec g).2.1 c hc)
    | cons g' gs =>
      simp only [List.map_cons, joinWith, List.mem_append, List.mem_cons] at hc ih
      rcases hc with h | rfl | h
      · exact Or.inl ((v6_hexDigits_spec g).2.1 c h)
      · exact Or.inr rfl
      · exact ih h

theorem v6_joinWith_length (gs : List Nat) (hg : ∀ g, g ∈ gs → g < 65536) :
    (joinWith ':' (gs.map hexDigits)).length + 1 ≤ 5 * gs.length + (if gs = [] then 1 else 0) := by
  induction gs with
  | nil => simp [joinWith]
  | cons g gs ih =>
    have hl := hexDigits_length_le4 g (hg g (List.mem_cons_self ..))
    cases gs with
    | nil => simp [joinWith]; omega
    | cons g' gs =>
      have := ih (fun x hx => hg x (List.mem_cons_of_mem _ hx))
      simp only [List.map_cons, joinWith, List.length_append, List.length_cons, reduceCtorEq, if_false] at this ⊢
      omega

/-- the loop body of `zeroRun`, which is anonymous there (`let step := fun …`, Cedar/Json/Value.lean): `zeroRun_split` passes from
the fold of this function to `zeroRun` by unfolding alone, so the two texts have to stay the same -/
def v6_runStep (st : Nat × Nat × Nat × Nat × Nat) (seg : Nat) : Nat × Nat × Nat × Nat × Nat :=
  let (i, ls, ll, cs, cl) := st
  if seg = 0 then
    let cs := if cl = 0 then i else cs
    let cl := cl + 1
    if cl > ll then (i + 1, cs, cl, cs, cl) else (i + 1, ls, ll, cs, cl)
  else (i + 1, ls, ll, 0, 0)

/-- loop invariant after the prefix `pre`, for the state `(i, ls, ll, cs, cl)`: the best run is a block of `ll`
    zeros after `ls` segments, the current run is the last `cl` segments -/
structure ZeroRunInv (pre : List Nat) (st : Nat × Nat × Nat × Nat × Nat) : Prop where
  idx : st.1 = pre.length
  best : ∃ a b, pre = a ++ (List.replicate st.2.2.1 0 ++ b) ∧ a.length = st.2.1
  cur : ∃ a, pre = a ++ List.replicate st.2.2.2.2 0 ∧ (0 < st.2.2.2.2 → a.length = st.2.2.2.1)

theorem ZeroRunInv.step {pre : List Nat} {st : Nat × Nat × Nat × Nat × Nat} (seg : Nat) (h : ZeroRunInv pre st) :
    ZeroRunInv (pre ++ [seg]) (v6_runStep st seg) := by
  obtain ⟨i, ls, ll, cs, cl⟩ := st
  obtain ⟨hidx, ⟨a, b, hab, hla⟩, ⟨a', hcur, hcs⟩⟩ := h
  simp only at hidx hab hla hcur hcs
  -- the best run stays where it is when the list grows at the end
  have keep : ∃ a b, pre ++ [seg] = a ++ (List.replicate ll 0 ++ b) ∧ a.length = ls :=
    ⟨a, b ++ [seg], by rw [hab, List.append_assoc, List.append_assoc], hla⟩
  simp only [v6_runStep]
  by_cases hseg : seg = 0
  · subst hseg
    -- the current run grows by one; it starts here if it was empty
    have grow : pre ++ [0] = a' ++ List.replicate (cl + 1) 0 := by
      rw [List.replicate_succ', ← List.append_assoc, ← hcur]
    have start : a'.length = if cl = 0 then i else cs := by
      by_cases h0 : cl = 0
      · subst h0; rw [if_pos rfl, hidx, hcur, List.replicate_zero, List.append_nil]
      · rw [if_neg h0]; exact hcs (Nat.pos_of_ne_zero h0)
    simp only [if_true]
    split
    · exact ⟨by simp [hidx], ⟨a', [], by rw [List.append_nil]; exact grow, start⟩, ⟨a', grow, fun _ => start⟩⟩
    · exact ⟨by simp [hidx], keep, ⟨a', grow, fun _ => start⟩⟩
  · simp only [hseg, if_false]
    exact ⟨by simp [hidx], keep, ⟨pre ++ [seg], by simp, fun h => absurd h (Nat.lt_irrefl 0)⟩⟩

theorem ZeroRunInv.foldl (rest : List Nat) : ∀ {pre : List Nat} {st : Nat × Nat × Nat × Nat × Nat},
    ZeroRunInv pre st → ZeroRunInv (pre ++ rest) (rest.foldl v6_runStep st) := by
  induction rest with
  | nil => intro pre st h; simpa using h
  | cons seg rest ih => intro pre st h; simpa using ih (h.step seg)

theorem zeroRun_split (segs : List Nat) :
    ∃ a b, segs = a ++ (List.replicate (zeroRun segs).2 0 ++ b) ∧ a.length = (zeroRun segs).1 := by
  have h := ZeroRunInv.foldl segs (pre := []) (st := (0, 0, 0, 0, 0)) ⟨rfl, ⟨[], [], rfl, rfl⟩, ⟨[], rfl, fun _ => rfl⟩⟩
  rw [List.nil_append] at h
  exact h.best

/-- the form the renderer uses: what is before the run and what is after it -/
theorem zeroRun_spec (segs : List Nat) :
    (zeroRun segs).1 + (zeroRun segs).2 ≤ segs.length ∧
      segs = segs.take (zeroRun segs).1 ++
        (List.replicate (zeroRun segs).2 0 ++ segs.drop ((zeroRun segs).1 + (zeroRun segs).2)) := by
  obtain ⟨a, b, hab, hla⟩ := zeroRun_split segs
  rw [← hla]
  generalize (zeroRun segs).2 = l at hab
  have ht : segs.take a.length = a := by rw [hab, List.take_left' rfl]
  have hd : segs.drop (a.length + l) = b := by
    rw [hab, ← List.append_assoc, List.drop_left' (by simp)]
  refine ⟨by rw [hab]; simp, ?_⟩
  rw [ht, hd]
  exact hab

example : zeroRun [1, 0, 0, 2, 0, 0, 0, 3] = (4, 3) := by decide
example : zeroRun [0, 0, 1, 0, 0, 2, 3, 4] = (0, 2) := by decide

theorem v6_div_pow (a k : Nat) : a / 65536 ^ (k + 1) = a / 65536 ^ k / 65536 := by
  rw [Nat.pow_succ, Nat.div_div_eq_div_mul]

theorem v6Segments_length (a : Nat) : (v6Segments a).length = 8 := rfl

theorem v6Segments_lt (a g : Nat) (h : g ∈ v6Segments a) : g < 65536 := by
  simp only [v6Segments, List.mem_cons, List.not_mem_nil, or_false] at h
  rcases h with rfl | rfl | rfl | rfl | rfl | rfl | rfl | rfl <;> exact Nat.mod_lt _ (by decide)

/-- the segments of a 128-bit number put together again: the top segment is the whole quotient, and each step of
    the fold undoes one division by 65536 -/
theorem groupsToNat_v6Segments (a : Nat) (ha : a < 2 ^ 128) : groupsToNat (v6Segments a) = a := by
  have htop : a / 65536 ^ 7 % 65536 = a / 65536 ^ 7 :=
    Nat.mod_eq_of_lt (Nat.div_lt_of_lt_mul ((by decide : (2 : Nat) ^ 128 = 65536 ^ 7 * 65536) ▸ ha))
  simp only [v6Segments, groupsToNat, List.foldl_cons, List.foldl_nil, Nat.zero_mul, Nat.zero_add, htop]
  rw [v6_div_pow a 6, Nat.div_add_mod', v6_div_pow a 5, Nat.div_add_mod', v6_div_pow a 4, Nat.div_add_mod',
    v6_div_pow a 3, Nat.div_add_mod', v6_div_pow a 2, Nat.div_add_mod', v6_div_pow a 1, Nat.div_add_mod',
    Nat.pow_one, Nat.div_add_mod']

/-- the condition under which `Display for Ipv6Addr` prints the dotted IPv4-mapped form (exactly the test of
    `renderV6`) -/
def isV4Mapped (a : Nat) : Bool :=
  (v6Segments a).take 5 == [0, 0, 0, 0, 0] && ((v6Segments a).drop 5).head? == some 65535

def v6_mappedPrefix : List Char := "::ffff:".toList

theorem v6_renderV6_mapped (a : Nat) (hm : isV4Mapped a = true) :
    renderV6 a = v6_mappedPrefix ++ renderV4 (a % 4294967296) := by
  unfold isV4Mapped at hm
  simp only [renderV6, hm, if_true]
  rfl

theorem v6_renderV6_unmapped (a s l : Nat) (hm : isV4Mapped a = false) (hz : zeroRun (v6Segments a) = (s, l)) :
    renderV6 a =
      if l > 1 then
        joinWith ':' (((v6Segments a).take s).map hexDigits) ++
          ':' :: ':' :: joinWith ':' (((v6Segments a).drop (s + l)).map hexDigits)
      else joinWith ':' ((v6Segments a).map hexDigits) := by
  unfold isV4Mapped at hm
  simp only [renderV6, hm, hz, Bool.false_eq_true, if_false]
  split
  · simp only [List.append_assoc, List.cons_append, List.nil_append]
  · rfl

theorem v6_readV6_full (gs : List Nat) (hlen : gs.length = 8) (hg : ∀ g, g ∈ gs → g < 65536) :
    readV6 (joinWith ':' (gs.map hexDigits)) = some (groupsToNat gs, []) := by
  have h := readGroups_joinWith gs 8 [] (by omega) hg (Or.inl rfl)
  rw [List.append_nil] at h
  simp only [readV6, h, hlen, if_true]

theorem v6_readV6_compressed (hd tl : List Nat) (l : Nat) (hlen : hd.length + l + tl.length = 8) (hl : 1 ≤ l)
    (hgh : ∀ g, g ∈ hd → g < 65536) (hgt : ∀ g, g ∈ tl → g < 65536) :
    readV6 (joinWith ':' (hd.map hexDigits) ++ ':' :: ':' :: joinWith ':' (tl.map hexDigits)) =
      some (groupsToNat (hd ++ (List.replicate l 0 ++ tl)), []) := by
  have h1 := readGroups_joinWith hd 8 (':' :: ':' :: joinWith ':' (tl.map hexDigits)) (by omega) hgh
    (Or.inr (Or.inr ⟨_, rfl⟩))
  have h2 := readGroups_joinWith tl (8 - (hd.length + 1)) [] (by omega) hgt (Or.inl rfl)
  rw [List.append_nil] at h2
  have hne : ¬ hd.length = 8 := by omega
  have hz : 8 - hd.length - tl.length = l := by omega
  simp only [readV6, h1, hne, if_false, h2, hz, List.append_assoc]

example : readV6 "1::".toList = some (2 ^ 112, []) := by decide +kernel

/-- an IPv6 address text as `Display` writes it: hex groups and colons, at most 39 characters, read by `readV6` as `a` -/
def V6Text (t : List Char) (a : Nat) : Prop :=
  (∀ c, c ∈ t → v6_hexOut c ∨ c = ':') ∧ t.length ≤ 39 ∧ readV6 t = some (a, [])

theorem V6Text.parse {t : List Char} {a : Nat} (h : V6Text t a) (p : Nat) (hp : p ≤ 128) :
    IPAddr.parse (String.ofList (t ++ '/' :: decDigits p)) = some (.ipaddr true a p) := by
  obtain ⟨hch, hlen, hrd⟩ := h
  have hdot : '.' ∉ t := by
    intro h
    rcases hch _ h with h' | h'
    · exact v6_hexOut_ne_dot h' rfl
    · revert h'; decide
  refine parse_text_prefix t true a p (fun c hc => ?_) (Or.inr hdot) hlen ?_ hp
  · rcases hch c hc with h' | rfl
    · exact ⟨v6_hexOut_ascii h', v6_hexOut_ne_slash h'⟩
    · decide
  · simp only [parseAddr, readV4_none_of_noDot _ hdot, hrd]

theorem V6Text.full (gs : List Nat) (hlen : gs.length = 8) (hg : ∀ g, g ∈ gs → g < 65536) :
    V6Text (joinWith ':' (gs.map hexDigits)) (groupsToNat gs) := by
  refine ⟨fun c hc => v6_joinWith_chars _ c hc, ?_, v6_readV6_full gs hlen hg⟩
  have l1 := v6_joinWith_length gs hg
  have hne : gs ≠ [] := by intro h; rw [h] at hlen; cases hlen
  rw [hlen, if_neg hne] at l1
  omega

theorem V6Text.compressed (hd tl : List Nat) (l : Nat) (hlen : hd.length + l + tl.length = 8) (hl : 1 ≤ l)
    (hgh : ∀ g, g ∈ hd → g < 65536) (hgt : ∀ g, g ∈ tl → g < 65536) :
    V6Text (joinWith ':' (hd.map hexDigits) ++ ':' :: ':' :: joinWith ':' (tl.map hexDigits))
      (groupsToNat (hd ++ (List.replicate l 0 ++ tl))) := by
  refine ⟨?_, ?_, v6_readV6_compressed hd tl l hlen hl hgh hgt⟩
  · intro c hc
    simp only [List.mem_append, List.mem_cons] at hc
    rcases hc with h | rfl | rfl | h
    · exact v6_joinWith_chars _ c h
    · exact Or.inr rfl
    · exact Or.inr rfl
    · exact v6_joinWith_chars _ c h
  · have l1 := v6_joinWith_length _ hgh
    have l2 := v6_joinWith_length _ hgt
    simp only [List.length_append, List.length_cons]
    split at l1 <;> split at l2 <;> omega

theorem V6Text.renderV6 (a : Nat) (ha : a < 2 ^ 128) (hm : isV4Mapped a = false) : V6Text (renderV6 a) a := by
  have hlt := v6Segments_lt a
  cases hz : zeroRun (v6Segments a) with
  | mk s l =>
    have hspec := zeroRun_spec (v6Segments a)
    rw [hz] at hspec
    simp only [v6Segments_length] at hspec
    obtain ⟨hle, hsplit⟩ := hspec
    rw [v6_renderV6_unmapped a s l hm hz]
    by_cases hl : l > 1
    · rw [if_pos hl]
      have := V6Text.compressed ((v6Segments a).take s) ((v6Segments a).drop (s + l)) l
        (by rw [List.length_take, List.length_drop, v6Segments_length]; omega) (by omega)
        (fun g h => hlt g (List.mem_of_mem_take h)) (fun g h => hlt g (List.mem_of_mem_drop h))
      rwa [← hsplit, groupsToNat_v6Segments a ha] at this
    · rw [if_neg hl]
      have := V6Text.full _ (v6Segments_length a) hlt
      rwa [groupsToNat_v6Segments a ha] at this

theorem parse_renderIp_v6 (a p : Nat) (ha : a < 2 ^ 128) (hp : p ≤ 128) (hm : isV4Mapped a = false) :
    IPAddr.parse (String.ofList (renderIp true a p)) = some (.ipaddr true a p) := by
  simpa only [renderIp, if_true] using (V6Text.renderV6 a ha hm).parse p hp

/-- `Display` prints an IPv4-mapped IPv6 address as `::ffff:a.b.c.d`, and `ip()` refuses
    that text (at least two ':' and at least two '.'), whatever the prefix -/
theorem parse_renderIp_v6_mapped (a p : Nat) (hm : isV4Mapped a = true) :
    IPAddr.parse (String.ofList (renderIp true a p)) = none := by
  have happ : ∀ (c : Char) (x y : List Char), countChar c (x ++ y) = countChar c x + countChar c y := by
    intro c x y; simp [countChar, List.filter_append]
  have hcons : ∀ (c : Char) (x : List Char), countChar c (c :: x) = countChar c x + 1 := by
    intro c x; simp [countChar]
  apply parse_colonsAndDots
  · simp only [String.toList_ofList, renderIp, if_true, v6_renderV6_mapped a hm, happ]
    have : countChar ':' v6_mappedPrefix = 3 := by decide +kernel
    omega
  · simp only [String.toList_ofList, renderIp, if_true, v6_renderV6_mapped a hm, renderV4, joinWith,
      happ, hcons]
    omega

example : IPAddr.parse "::1/128" = some (.ipaddr true 1 128) := by
  have h := parse_renderIp_v6 1 128 (by decide) (by decide) (by decide +kernel)
  have e : String.ofList (renderIp true 1 128) = "::1/128" := by decide +kernel
  exact (congrArg IPAddr.parse e).symm.trans h

example : IPAddr.parse "ff00::/8" = some (.ipaddr true (255 * 2 ^ 120) 8) := by
  have h := parse_renderIp_v6 (255 * 2 ^ 120) 8 (by decide) (by decide) (by decide +kernel)
  have e : String.ofList (renderIp true (255 * 2 ^ 120) 8) = "ff00::/8" := by decide +kernel
  exact (congrArg IPAddr.parse e).symm.trans h

example : IPAddr.parse "1:2:3:4:5:6:7:8/64" = some (.ipaddr true 0x00010002000300040005000600070008 64) := by
  have h := parse_renderIp_v6 0x00010002000300040005000600070008 64 (by decide) (by decide) (by decide +kernel)
  have e : String.ofList (renderIp true 0x00010002000300040005000600070008 64) = "1:2:3:4:5:6:7:8/64" := by
    decide +kernel
  exact (congrArg IPAddr.parse e).symm.trans h

example : IPAddr.parse "1::/16" = some (.ipaddr true (2 ^ 112) 16) := by
  have h := parse_renderIp_v6 (2 ^ 112) 16 (by decide) (by decide) (by decide +kernel)
  have e : String.ofList (renderIp true (2 ^ 112) 16) = "1::/16" := by decide +kernel
  exact (congrArg IPAddr.parse e).symm.trans h

example : IPAddr.parse "::/0" = some (.ipaddr true 0 0) := by
  have h := parse_renderIp_v6 0 0 (by decide) (by decide) (by decide +kernel)
  have e : String.ofList (renderIp true 0 0) = "::/0" := by decide +kernel
  exact (congrArg IPAddr.parse e).symm.trans h

-- a single zero group is not compressed; the first of two equally long runs is
example : String.ofList (renderIp true 0x20010db8000000010000000000000001 128) = "2001:db8:0:1::1/128" := by
  decide +kernel
example : IPAddr.parse "1::2:0:0:3:4/128" = some (.ipaddr true 0x00010000000000020000000000030004 128) := by
  have h := parse_renderIp_v6 0x00010000000000020000000000030004 128 (by decide) (by decide) (by decide +kernel)
  have e : String.ofList (renderIp true 0x00010000000000020000000000030004 128) = "1::2:0:0:3:4/128" := by
    decide +kernel
  exact (congrArg IPAddr.parse e).symm.trans h

example : isV4Mapped 0xffff01020304 = true := by decide +kernel
example : IPAddr.parse "::ffff:1.2.3.4/128" = none := by
  have h := parse_renderIp_v6_mapped 0xffff01020304 128 (by decide +kernel)
  have e : String.ofList (renderIp true 0xffff01020304 128) = "::ffff:1.2.3.4/128" := by decide +kernel
  exact (congrArg IPAddr.parse e).symm.trans h

end CJson
end Cedar
