import CedarVerif.Lemmas.ManifestSlice
/-
`merge_values` (`mergeValues` / `mergeKVs`) on slices of one value.  Two slices `v₁ v₂` of the same value `w` (`Trim vᵢ w`)
merge into a slice of `w` that keeps what either kept.  "Keeps at least" is `Le` (Lemmas/ManifestSlice.lean).
-/
namespace Cedar.Manifest
open Cedar

theorem mergeValues_nonrecord (v1 v2 : Value) (h : ∀ r2, v2 ≠ .record r2) : mergeValues v1 v2 = v1 := by
  cases v2 with
  | record r2 => exact absurd rfl (h r2)
  | prim p => simp [mergeValues]
  | set s => simp [mergeValues]
  | ext x => simp [mergeValues]

mutual
theorem mergeValues_left : ∀ (v2 v1 a : Value), Trim a v1 → Trim a (mergeValues v1 v2)
  | .record r2 => fun v1 a h => by
    cases v1 with
    | record r1 =>
      obtain ⟨ra, e, hra⟩ := trim_record_inv h
      subst e
      simp only [mergeValues, Trim]
      exact ⟨_, rfl, mergeKVs_left r2 r1 ra hra⟩
    | _ => simpa [mergeValues] using h
  | .prim p => fun v1 a h => by rw [mergeValues_nonrecord v1 _ (by intro r2; simp)]; exact h
  | .set s => fun v1 a h => by rw [mergeValues_nonrecord v1 _ (by intro r2; simp)]; exact h
  | .ext x => fun v1 a h => by rw [mergeValues_nonrecord v1 _ (by intro r2; simp)]; exact h
theorem mergeKVs_left : ∀ (r2 r1 ra : List (String × Value)), TrimKVs ra r1 → TrimKVs ra (mergeKVs r1 r2)
  | [] => fun r1 ra h => by simpa [mergeKVs] using h
  | (k, v2) :: rest => fun r1 ra h => by
    unfold mergeKVs
    -- whatever is put at `k`, if it keeps what `r1` had there the new list keeps what `r1` kept
    have key : ∀ x, (∀ v1 a, lookupKV r1 k = some v1 → Trim a v1 → Trim a x) → TrimKVs ra (insertKV k x r1) := by
      intro x hx
      apply trimKVs_of_lookup
      intro k' a' hm
      obtain ⟨b, hb1, hb2⟩ := trimKVs_mem _ _ h k' a' hm
      rw [lookupKV_insertKV]
      by_cases e : k = k'
      · subst e
        simp only [beq_self_eq_true, if_true]
        exact ⟨_, rfl, hx b a' hb1 hb2⟩
      · have e' : (k == k') = false := by simpa using e
        simp only [e']
        exact ⟨b, hb1, hb2⟩
    cases hl : lookupKV r1 k with
    | some v1 =>
      exact mergeKVs_left rest _ ra (key _ fun v1' a hv ha => by rw [hl] at hv; cases hv; exact mergeValues_left v2 v1 a ha)
    | none => exact mergeKVs_left rest _ ra (key _ fun v1' a hv _ => by rw [hl] at hv; cases hv)
end

mutual
theorem mergeValues_below : ∀ (v2 v1 w : Value), Trim v1 w → Trim v2 w → Trim (mergeValues v1 v2) w
  | .record r2 => fun v1 w h1 h2 => by
    simp only [Trim] at h2
    obtain ⟨kvs, e, h2⟩ := h2
    subst e
    obtain ⟨r1, e, h1'⟩ := trim_record_inv h1
    subst e
    simp only [mergeValues, Trim]
    exact ⟨kvs, rfl, mergeKVs_below r2 r1 kvs h1' h2⟩
  | .prim p => fun v1 w h1 _ => by rw [mergeValues_nonrecord v1 _ (by intro r2; simp)]; exact h1
  | .set s => fun v1 w h1 _ => by rw [mergeValues_nonrecord v1 _ (by intro r2; simp)]; exact h1
  | .ext x => fun v1 w h1 _ => by rw [mergeValues_nonrecord v1 _ (by intro r2; simp)]; exact h1
theorem mergeKVs_below : ∀ (r2 r1 kvs : List (String × Value)), TrimKVs r1 kvs → TrimKVs r2 kvs → TrimKVs (mergeKVs r1 r2) kvs
  | [] => fun r1 kvs h1 _ => by simpa [mergeKVs] using h1
  | (k, v2) :: rest => fun r1 kvs h1 h2 => by
    simp only [TrimKVs] at h2
    obtain ⟨⟨w, hw, hv2⟩, h2⟩ := h2
    unfold mergeKVs
    cases hl : lookupKV r1 k with
    | some v1 =>
      simp only
      apply mergeKVs_below rest _ kvs _ h2
      obtain ⟨w1, hw1, hv1⟩ := trimKVs_lookup r1 kvs k v1 h1 hl
      rw [hw] at hw1
      cases hw1
      exact trimKVs_insertKV h1 hw (mergeValues_below v2 v1 w hv1 hv2)
    | none =>
      simp only
      apply mergeKVs_below rest _ kvs _ h2
      exact trimKVs_insertKV h1 hw hv2
end

theorem mergeValues_right_nonrecord {v1 v2 w b : Value} (hv2 : ∀ r2, v2 ≠ .record r2) (h1 : Trim v1 w) (h2 : Trim v2 w)
    (hb : Trim b v2) : Trim b (mergeValues v1 v2) := by
  rw [mergeValues_nonrecord v1 _ hv2]
  have e : w = v2 := by
    cases v2 with
    | record r2 => exact absurd rfl (hv2 r2)
    | _ => exact h2
  subst e
  rw [trim_nonrecord h1 hv2]
  exact hb

mutual
theorem mergeValues_right : ∀ (v2 v1 w b : Value), Trim v1 w → Trim v2 w → Trim b v2 → Trim b (mergeValues v1 v2)
  | .record r2 => fun v1 w b h1 h2 hb => by
    simp only [Trim] at h2
    obtain ⟨kvs, e, h2⟩ := h2
    subst e
    obtain ⟨r1, e, h1'⟩ := trim_record_inv h1
    subst e
    obtain ⟨rb, e, hb'⟩ := trim_record_inv hb
    subst e
    simp only [mergeValues, Trim]
    refine ⟨_, rfl, ?_⟩
    apply trimKVs_of_lookup
    intro k b' hm
    obtain ⟨x, hx1, hx2⟩ := trimKVs_mem _ _ hb' k b' hm
    exact mergeKVs_right r2 r1 kvs h1' h2 k b' x (lookupKV_mem hx1) hx2
  | .prim p => fun v1 w b h1 h2 hb => mergeValues_right_nonrecord (by intro r2; simp) h1 h2 hb
  | .set s => fun v1 w b h1 h2 hb => mergeValues_right_nonrecord (by intro r2; simp) h1 h2 hb
  | .ext x => fun v1 w b h1 h2 hb => mergeValues_right_nonrecord (by intro r2; simp) h1 h2 hb
termination_by structural v2 => v2
theorem mergeKVs_right : ∀ (r2 r1 kvs : List (String × Value)), TrimKVs r1 kvs → TrimKVs r2 kvs →
    ∀ (k : String) (b x : Value), (k, x) ∈ r2 → Trim b x → ∃ y, lookupKV (mergeKVs r1 r2) k = some y ∧ Trim b y
  | [] => fun _ _ _ _ _ _ _ hm _ => by simp at hm
  | (k0, v2) :: rest => fun r1 kvs h1 h2 k b x hm hb => by
    simp only [TrimKVs] at h2
    obtain ⟨⟨w, hw, hv2⟩, h2⟩ := h2
    unfold mergeKVs
    simp only [List.mem_cons, Prod.mk.injEq] at hm
    -- the head binding is present after the insertion and preserved by the remaining merges (`mergeKVs_left`)
    have head : ∀ y, Trim b y → ∃ z, lookupKV (mergeKVs (insertKV k0 y r1) rest) k0 = some z ∧ Trim b z := by
      intro y hy
      have hk : TrimKVs [(k0, b)] (insertKV k0 y r1) := by
        simp only [TrimKVs, and_true]
        exact ⟨_, by rw [lookupKV_insertKV]; simp, hy⟩
      have := mergeKVs_left rest _ _ hk
      simp only [TrimKVs, and_true] at this
      exact this
    cases hl : lookupKV r1 k0 with
    | some v1 =>
      simp only
      obtain ⟨w1, hw1, hv1⟩ := trimKVs_lookup r1 kvs k0 v1 h1 hl
      rw [hw] at hw1
      cases hw1
      rcases hm with ⟨e1, e2⟩ | hm
      · subst e1; rw [e2] at hb
        exact head _ (mergeValues_right v2 v1 w b hv1 hv2 hb)
      · exact mergeKVs_right rest _ kvs (trimKVs_insertKV h1 hw (mergeValues_below v2 v1 w hv1 hv2)) h2 k b x hm hb
    | none =>
      simp only
      rcases hm with ⟨e1, e2⟩ | hm
      · subst e1; rw [e2] at hb
        exact head _ hb
      · exact mergeKVs_right rest _ kvs (trimKVs_insertKV h1 hw hv2) h2 k b x hm hb
termination_by structural r2 => r2
end

end Cedar.Manifest
