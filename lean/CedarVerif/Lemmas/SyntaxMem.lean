import CedarVerif.Lemmas.SyntaxParse
import CedarVerif.Lemmas.SyntaxSplitOn
/-
C05: the `Member` level in continuation form (`MemK`): a primary followed by `.field`, `["index"]`, `.method(args)`
accessors stays open for further accessors.
-/
namespace Cedar.Syntax
open Cedar

/-- after reading `A` the accessor loop has collected `accs` and goes on with what follows -/
def AccK (pe : P EOS) (A : List Token) (accs : List Acc) : Prop :=
  ∀ R fuel, noCall R = true →
    accesses pe (fuel + accs.length) (A ++ R) = (accesses pe fuel R).map (fun x => (accs ++ x.1, x.2))

theorem accK_snoc {pe : P EOS} {A T : List Token} {accs : List Acc} {acc : Acc} (h : AccK pe A accs)
    (hT : ∀ R, noCall (T ++ R) = true)
    (step : ∀ R fuel, noCall R = true →
      accesses pe (fuel + 1) (T ++ R) = (accesses pe fuel R).map (fun x => (acc :: x.1, x.2))) :
    AccK pe (A ++ T) (accs ++ [acc]) := by
  intro R fuel hR
  have h1 := h (T ++ R) (fuel + 1) (hT R)
  have e1 : fuel + (accs ++ [acc]).length = fuel + 1 + accs.length := by simp; omega
  rw [e1, List.append_assoc, h1, step R fuel hR]
  cases accesses pe fuel R <;> simp

theorem acc_field_step (pe : P EOS) (a : String) (ha : unreservedIdent a = true) (R : List Token) (fuel : Nat)
    (hR : noCall R = true) :
    accesses pe (fuel + 1) ([.dot, .ident a] ++ R) = (accesses pe fuel R).map (fun x => (Acc.field a :: x.1, x.2)) := by
  simp only [List.cons_append, List.nil_append]
  rw [accesses]
  · simp only [ha, if_true]
    cases accesses pe fuel R <;> rfl
  · intro ts h; subst h; simp [noCall] at hR

theorem acc_index_step (pe : P EOS) (raw : List Char) (s : String) (hs : strOfRaw raw = some s) (R : List Token) (fuel : Nat)
    (hpe : pe (.str raw :: .rbrack :: R) = some (.strLit raw, .rbrack :: R)) :
    accesses pe (fuel + 1) ([.lbrack, .str raw, .rbrack] ++ R) = (accesses pe fuel R).map (fun x => (Acc.index s :: x.1, x.2)) := by
  simp only [List.cons_append, List.nil_append]
  rw [accesses]
  simp only [hpe, hs]
  cases accesses pe fuel R <;> rfl

theorem acc_meth_step (pe : P EOS) (m : String) (hm : unreservedIdent m = true) (args : List Expr) (AT R : List Token) (fuel : Nat)
    (hl : exprList pe .rparen ((AT ++ .rparen :: R).length + 1) (AT ++ .rparen :: R) = some (args, R)) :
    accesses pe (fuel + 1) (.dot :: .ident m :: .lparen :: (AT ++ [.rparen]) ++ R) =
      (accesses pe fuel R).map (fun x => (Acc.meth m args :: x.1, x.2)) := by
  simp only [List.cons_append, List.append_assoc, List.nil_append]
  rw [accesses]
  simp only [hm, if_true, hl]
  cases accesses pe fuel R <;> rfl

/-- `toks` is a primary `P` followed by accessors `A`; the lowering of primary + accessors is `e`, and stays
"open": further accessors apply to `e` -/
def MemK (pe : P EOS) (toks : List Token) (e : Expr) : Prop :=
  ∃ (Pt A : List Token) (prim : EOS) (accs : List Acc),
    toks = Pt ++ A ∧
    (∀ R, noPath R = true → noPath (A ++ R) = true) ∧
    (∀ R, noPath R = true → primary pe (Pt ++ R) = some (prim, R)) ∧
    AccK pe A accs ∧ accs.length ≤ A.length ∧
    (∀ more, more ≠ [] → lowerMember prim (accs ++ more) = (applyAccs e more).map .expr) ∧
    (∃ s, lowerMember prim accs = some s ∧ s.toExpr = some e)

theorem memK_member {pe : P EOS} {toks : List Token} {e : Expr} (h : MemK pe toks e) (R : List Token) (hR : 1 ≤ headLv R) :
    ∃ s, member pe (toks ++ R) = some (s, R) ∧ s.toExpr = some e := by
  obtain ⟨Pt, A, prim, accs, rfl, hA, hprim, hacc, hlen, _, s, hs1, hs2⟩ := h
  refine ⟨s, ?_, hs2⟩
  unfold member
  rw [List.append_assoc, hprim (A ++ R) (hA R (noPath_of_lv hR))]
  simp only
  have e1 : (A ++ R).length + 1 = ((A ++ R).length + 1 - accs.length) + accs.length := by
    simp only [List.length_append]; omega
  rw [e1, hacc R _ (noCall_of_lv hR), accesses_stop pe _ hR]
  simp [hs1]

theorem lowerMember_of_toExpr {prim : EOS} {e : Expr} (he : prim.toExpr = some e)
    {more : List Acc} (hm : more ≠ []) : lowerMember prim more = (applyAccs e more).map .expr := by
  cases more with
  | nil => exact absurd rfl hm
  | cons x xs =>
    cases prim with
    | name p i => cases he
    | var v => simp only [EOS.toExpr, Option.some.injEq] at he; subst he; simp [lowerMember]
    | expr e' => simp only [EOS.toExpr, Option.some.injEq] at he; subst he; simp [lowerMember, EOS.toExpr]
    | strLit raw => simp [lowerMember, he]
    | boolLit b => simp [lowerMember, he]
    | num n => simp [lowerMember, he]

theorem memK_prim {pe : P EOS} {Pt : List Token} {prim : EOS} {e : Expr}
    (hprim : ∀ R, noPath R = true → primary pe (Pt ++ R) = some (prim, R)) (he : prim.toExpr = some e) : MemK pe Pt e := by
  refine ⟨Pt, [], prim, [], by simp, fun R h => by simpa using h, hprim, fun R fuel _ => by simp, by simp, ?_, prim, ?_, he⟩
  · intro more hm
    simpa using lowerMember_of_toExpr he hm
  · cases prim <;> rfl

theorem memK_ext {pe : P EOS} {L T : List Token} {a e' : Expr} {acc : Acc} (h : MemK pe L a)
    (hT1 : ∀ R, noCall (T ++ R) = true) (hT2 : ∀ R, noPath (T ++ R) = true) (hT3 : 1 ≤ T.length)
    (step : ∀ R fuel, noCall R = true →
      accesses pe (fuel + 1) (T ++ R) = (accesses pe fuel R).map (fun x => (acc :: x.1, x.2)))
    (happ : ∀ more, applyAccs a (acc :: more) = applyAccs e' more) : MemK pe (L ++ T) e' := by
  obtain ⟨Pt, A, prim, accs, rfl, hA, hprim, hacc, hlen, L1, _⟩ := h
  refine ⟨Pt, A ++ T, prim, accs ++ [acc], by simp, ?_, hprim, accK_snoc hacc hT1 step, by simp; omega, ?_, .expr e', ?_, rfl⟩
  · intro R _
    rw [List.append_assoc]
    exact hA _ (hT2 R)
  · intro more hm
    rw [List.append_assoc, L1 _ (by simp)]
    simp [happ]
  · rw [L1 _ (by simp), happ]
    rfl


/-- what the induction supplies for a sub-expression inside brackets -/
def TopOK (me : Char → Bool) (pe : P EOS) (a : Expr) : Prop :=
  ∀ rest, headLv rest = 7 → ∃ s, pe (printE me a ++ rest) = some (s, rest) ∧ s.toExpr = some a

theorem exprList_comma {pe : P EOS} {close : Token} {ts rest : List Token} {s : EOS} {e : Expr} (f : Nat)
    (hclose : ∀ ts, pe (close :: ts) = none)
    (hp : pe ts = some (s, .comma :: rest)) (hs : s.toExpr = some e) (hne : ts ≠ []) :
    exprList pe close (f + 1) ts =
      match exprList pe close f rest with
      | none => none
      | some (es, r) => some (e :: es, r) := by
  cases ts with
  | nil => exact absurd rfl hne
  | cons t r =>
    rw [exprList]
    have : t ≠ close := by
      intro h; subst h; rw [hclose] at hp; cases hp
    simp only [this, if_false, hp, hs]
    rfl

theorem exprList_last {pe : P EOS} {close : Token} {ts rest : List Token} {s : EOS} {e : Expr} (f : Nat)
    (hclose : ∀ ts, pe (close :: ts) = none) (hcc : close ≠ .comma)
    (hp : pe ts = some (s, close :: rest)) (hs : s.toExpr = some e) (hne : ts ≠ []) :
    exprList pe close (f + 1) ts = some ([e], rest) := by
  cases ts with
  | nil => exact absurd rfl hne
  | cons t r =>
    rw [exprList]
    have : t ≠ close := by
      intro h; subst h; rw [hclose] at hp; cases hp
    simp only [this, if_false, hp, hs]
    exact if_pos trivial

theorem exprList_tail (me : Char → Bool) (pe : P EOS) (close : Token) (hclose : ∀ ts, pe (close :: ts) = none)
    (hc7 : tokLevel close = 7) (hcc : close ≠ .comma) (R : List Token) :
    ∀ (es : List Expr) (e : Expr), TopOK me pe e → (∀ a ∈ es, TopOK me pe a) → ∀ fuel, es.length + 1 ≤ fuel →
      exprList pe close fuel (printE me e ++ (printEsTail me es ++ close :: R)) = some (e :: es, R) := by
  intro es
  induction es with
  | nil =>
    intro e he _ fuel hf
    obtain ⟨f, rfl⟩ : ∃ f, fuel = f + 1 := ⟨fuel - 1, by omega⟩
    obtain ⟨s, h1, h2⟩ := he (close :: R) (by simp [headLv, hc7])
    exact exprList_last f hclose hcc h1 h2 (by simp)
  | cons e2 es ih =>
    intro e he hes fuel hf
    obtain ⟨f, rfl⟩ : ∃ f, fuel = f + 1 := ⟨fuel - 1, by omega⟩
    obtain ⟨s, h1, h2⟩ := he (.comma :: (printE me e2 ++ (printEsTail me es ++ close :: R))) (by simp [headLv, tokLevel])
    simp only [printEsTail, List.cons_append, List.append_assoc]
    rw [exprList_comma f hclose h1 h2 (by simp)]
    simp only [List.length_cons] at hf
    simp only [ih e2 (hes e2 (by simp)) (fun a ha => hes a (by simp [ha])) f (by omega)]

theorem printEsTail_length (me : Char → Bool) : ∀ es, es.length ≤ (printEsTail me es).length
  | [] => by simp
  | e :: es => by have := printEsTail_length me es; simp only [printEsTail, List.length_cons, List.length_append]; omega

/-- with the fuel that `primary` (sets) and `accesses` (argument lists) supply -/
theorem exprList_print (me : Char → Bool) (pe : P EOS) (close : Token) (hclose : ∀ ts, pe (close :: ts) = none)
    (hc7 : tokLevel close = 7) (hcc : close ≠ .comma) (R : List Token) (es : List Expr) (hes : ∀ a ∈ es, TopOK me pe a) :
    exprList pe close ((printEs me es ++ close :: R).length + 1) (printEs me es ++ close :: R) = some (es, R) := by
  cases es with
  | nil => simp [printEs, exprList]
  | cons e es =>
    simp only [printEs, List.append_assoc]
    exact exprList_tail me pe close hclose hc7 hcc R es e (hes e (by simp)) (fun a ha => hes a (by simp [ha])) _
      (by have := printEsTail_length me es; simp only [List.length_append, List.length_cons]; omega)

theorem keyTok_ne_if (me : Char → Bool) (k : String) : keyTok me k ≠ .ident "if" := by
  unfold keyTok
  split
  · rename_i h
    intro hc
    simp only [Token.ident.injEq] at hc
    subst hc
    revert h
    decide
  · simp [strTok]

theorem keyTok_ne_rbrace (me : Char → Bool) (k : String) : keyTok me k ≠ .rbrace := by
  unfold keyTok
  split <;> simp [strTok]

/-- what the induction supplies for a record key -/
def KeyOK (me : Char → Bool) (pe : P EOS) : Prop :=
  ∀ k rest, ∃ x, pe (keyTok me k :: .colon :: rest) = some (x, .colon :: rest) ∧ x.toAttr = some k

theorem recInits_one {pe : P EOS} (me : Char → Bool) (hk : KeyOK me pe) (f : Nat) (k : String) (e : Expr) (T rest1 : List Token)
    {s : EOS} (hp : pe T = some (s, rest1)) (hs : s.toExpr = some e) :
    recInits pe (f + 1) (keyTok me k :: .colon :: T) =
      match rest1 with
      | .comma :: rest' =>
        match recInits pe f rest' with
        | none => none
        | some (kvs, r) => some ((k, e) :: kvs, r)
      | .rbrace :: rest' => some ([(k, e)], rest')
      | _ => none := by
  obtain ⟨x, hx1, hx2⟩ := hk k T
  rw [recInits]
  · simp only [keyTok_ne_rbrace, if_false, hx1, hx2, Option.map_some, hp, hs]
    cases rest1 with
    | nil => rfl
    | cons t' r' => cases t' <;> rfl
  · intro tail h _; exact absurd h (keyTok_ne_if me k)

theorem recInits_tail (me : Char → Bool) (pe : P EOS) (hk : KeyOK me pe) (R : List Token) :
    ∀ (kvs : List (String × Expr)) (k : String) (e : Expr), TopOK me pe e → (∀ kv ∈ kvs, TopOK me pe kv.2) →
      ∀ fuel, kvs.length + 1 ≤ fuel →
      recInits pe fuel (keyTok me k :: .colon :: (printE me e ++ (printKVsTail me kvs ++ .rbrace :: R))) = some ((k, e) :: kvs, R) := by
  intro kvs
  induction kvs with
  | nil =>
    intro k e he _ fuel hf
    obtain ⟨f, rfl⟩ : ∃ f, fuel = f + 1 := ⟨fuel - 1, by omega⟩
    obtain ⟨s, h1, h2⟩ := he (.rbrace :: R) (by simp [headLv, tokLevel])
    simp only [printKVsTail, List.nil_append]
    rw [recInits_one me hk f k e _ _ h1 h2]
  | cons kv kvs ih =>
    intro k e he hes fuel hf
    obtain ⟨k2, e2⟩ := kv
    obtain ⟨f, rfl⟩ : ∃ f, fuel = f + 1 := ⟨fuel - 1, by omega⟩
    obtain ⟨s, h1, h2⟩ := he (.comma :: keyTok me k2 :: .colon :: (printE me e2 ++ (printKVsTail me kvs ++ .rbrace :: R))) (by simp [headLv, tokLevel])
    simp only [printKVsTail, List.cons_append, List.append_assoc]
    rw [recInits_one me hk f k e _ _ h1 h2]
    simp only [List.length_cons] at hf
    simp only [ih k2 e2 (hes (k2, e2) (by simp)) (fun a ha => hes a (by simp [ha])) f (by omega)]

theorem printKVsTail_length (me : Char → Bool) : ∀ kvs, kvs.length ≤ (printKVsTail me kvs).length
  | [] => by simp
  | (k, e) :: kvs => by have := printKVsTail_length me kvs; simp only [printKVsTail, List.length_cons, List.length_append]; omega

theorem recInits_print (me : Char → Bool) (pe : P EOS) (hk : KeyOK me pe) (R : List Token) (kvs : List (String × Expr))
    (hes : ∀ kv ∈ kvs, TopOK me pe kv.2) :
    recInits pe ((printKVs me kvs ++ .rbrace :: R).length + 1) (printKVs me kvs ++ .rbrace :: R) = some (kvs, R) := by
  cases kvs with
  | nil => simp [printKVs, recInits]
  | cons kv kvs =>
    obtain ⟨k, e⟩ := kv
    simp only [printKVs, List.cons_append, List.append_assoc]
    exact recInits_tail me pe hk R kvs k e (hes (k, e) (by simp)) (fun a ha => hes a (by simp [ha])) _
      (by have := printKVsTail_length me kvs; simp only [List.length_append, List.length_cons]; omega)

theorem mkRecord_sorted {kvs : List (String × Expr)} (h : sortedKeys3 kvs = true) : mkRecord kvs = some (.record kvs) := by
  rw [sortedKeys3_eq_keysSorted] at h
  simp [mkRecord, hasDupKey_eq_hasDupKeys, insertKV_eq_insertByKey, hasDupKeys_sorted h, foldr_insertByKey_sorted h]

theorem typeName_split {ty : String} (h : typeNameOk ty = true) :
    ∃ c cs, ty.splitOn "::" = c :: cs ∧ (c :: cs).all unreservedIdent = true ∧ joinName (c :: cs) = ty := by
  unfold typeNameOk at h
  simp only [Bool.and_eq_true, beq_iff_eq] at h
  cases hs : ty.splitOn "::" with
  | nil => exact absurd hs (splitOn_ne_nil ty)
  | cons c cs =>
    rw [hs] at h
    refine ⟨c, cs, rfl, ?_, h.2⟩
    have h1 := h.1
    simp only [List.all_eq_true, Bool.and_eq_true] at h1 ⊢
    exact fun x hx => (h1 x hx).2

theorem pathRest_flatMap : ∀ (cs : List String) (R : List Token), (∀ s r, R ≠ .dcolon :: .ident s :: r) →
    pathRest (cs.flatMap (fun x => [Token.dcolon, Token.ident x]) ++ R) = (cs, R)
  | [], R, h => by
    simp only [List.flatMap_nil, List.nil_append]
    unfold pathRest
    split
    · exact absurd rfl (h _ _)
    · rfl
  | c :: cs, R, h => by simp [pathRest, pathRest_flatMap cs R h]

theorem primary_euid (me : Char → Bool) (pe : P EOS) (u : EntityUID) (h : typeNameOk u.ty = true) (R : List Token) :
    primary pe (nameTokens u.ty ++ (.dcolon :: strTok me u.eid :: R)) = some (.expr (.lit (.entityUID u)), R) := by
  obtain ⟨c, cs, hs, hall, hj⟩ := typeName_split h
  simp only [nameTokens, hs, List.cons_append, strTok]
  rw [primary]
  simp only [pathRest_flatMap cs (.dcolon :: .str (escapeStr me u.eid.toList) :: R) (by intro s r h; cases h)]
  simp only [hall, if_true, strOfRaw_escapeStr, Option.map_some, hj]

theorem varOfName_some {s : String} {v : Var} (h : varOfName s = some v) : varName v = s := by
  revert h
  -- one arm per variable name (`s = "principal"` …), the last one answers `none`
  fun_cases varOfName s <;> intro h <;> cases h <;> exact Eq.symm ‹_›

/-- a type name read at the `Add` level (after `is`; `R` may start with `in`) -/
theorem add_typeName_lt (pe : P EOS) (ty : String) (h : typeNameOk ty = true) (R : List Token) (hR : 3 < headLv R) :
    ∃ x, add pe (nameTokens ty ++ R) = some (x, R) ∧ x.toTypeName = some ty := by
  obtain ⟨c, cs, hs, hall, hj⟩ := typeName_split h
  have hc : unreservedIdent c = true := by simp only [List.all_cons, Bool.and_eq_true] at hall; exact hall.1
  obtain ⟨hc1, hc2, hc3⟩ := unreserved_ne hc
  simp only [nameTokens, hs, List.cons_append]
  have hplain : startsPlain (Token.ident c :: (cs.flatMap (fun x => [Token.dcolon, Token.ident x]) ++ R)) = true := by
    simp [startsPlain, hc3]
  have hR1 : 1 ≤ headLv R := by omega
  suffices hp : ∃ x, primary pe (Token.ident c :: (cs.flatMap (fun x => [Token.dcolon, Token.ident x]) ++ R)) = some (x, R) ∧
      x.toTypeName = some ty by
    obtain ⟨x, hx1, hx2⟩ := hp
    exact ⟨x, m_add (member_of_primary hx1 hR1) hplain hR, hx2⟩
  cases cs with
  | nil =>
    simp only [List.flatMap_nil, List.nil_append]
    rw [primary_ident pe c (noPath_of_lv hR1)]
    simp only [hc1, hc2, if_false, hc, if_true]
    cases hv : varOfName c with
    | some v => exact ⟨.var v, rfl, by simp [EOS.toTypeName, varOfName_some hv, ← hj, joinName]⟩
    | none => exact ⟨.name [] c, rfl, by simp [EOS.toTypeName, ← hj]⟩
  | cons c2 cs' =>
    refine ⟨.name (c :: c2 :: cs').dropLast ((c :: c2 :: cs').getLast?.getD c), ?_, ?_⟩
    · rw [primary]
      simp only [pathRest_flatMap (c2 :: cs') R (by
        intro s r h; subst h; simp [headLv, tokLevel] at hR)]
      simp only [hall, if_true]
      cases R with
      | nil => rfl
      | cons t r => cases t <;> first | rfl | simp [headLv, tokLevel] at hR
    · simp only [EOS.toTypeName, dropLast_getLast c (c :: c2 :: cs') (by simp), hj]

theorem add_typeName (pe : P EOS) (ty : String) (h : typeNameOk ty = true) (R : List Token) (hR : headLv R = 7) :
    ∃ x, add pe (nameTokens ty ++ R) = some (x, R) ∧ x.toTypeName = some ty :=
  add_typeName_lt pe ty h R (by omega)

theorem extMethods_facts :
    extMethods.all (fun m => !builtinMethods.contains m && unreservedIdent m) = true := by decide +kernel

theorem toMeth_ext {fn : String} (h : isExtMethod fn = true) (e : Expr) (args : List Expr) :
    toMeth fn e args = some (.call fn (e :: args)) ∧ unreservedIdent fn = true := by
  have := List.all_eq_true.mp extMethods_facts fn (by simpa [isExtMethod] using h)
  simp only [Bool.and_eq_true, Bool.not_eq_true', builtinMethods, List.contains_cons, List.contains_nil, Bool.or_false,
    Bool.or_eq_false_iff, beq_eq_false_iff_ne, ne_eq] at this
  obtain ⟨⟨h1, h2, h3, h4, h5, h6⟩, hu⟩ := this
  exact ⟨by simp only [toMeth, h1, h2, h3, h4, h5, h6, if_false, h, if_true], hu⟩

theorem extName_ident {fn : String} (h : isExtFunction fn = true ∨ isExtMethod fn = true) : isIdentChars fn.toList = true := by
  have key : (extFunctions ++ extMethods).all (fun f => isIdentChars f.toList) = true := by
    -- the names are read as `String.ofList […]`, which spares the kernel the UTF-8 decoding
    simp only [extFunctions, extMethods, List.cons_append, List.nil_append, List.all_cons, List.all_nil]
    repeat rw [String.toList_ofList]
    decide +kernel
  simp only [isExtFunction, isExtMethod, List.contains_iff_mem] at h
  exact List.all_eq_true.mp key fn (List.mem_append.mpr h)

theorem extFunctions_facts : extFunctions.all (fun f => !isExtMethod f && !builtinMethods.contains f &&
    unreservedIdent f && (varOfName f).isNone) = true := by decide +kernel

theorem extFunction_facts {fn : String} (h : isExtFunction fn = true) (args : List Expr) :
    intoFunc [] fn args = some (.call fn args) ∧ isExtMethod fn = false ∧ nameTokens fn = [.ident fn] ∧
      unreservedIdent fn = true ∧ varOfName fn = none := by
  have := List.all_eq_true.mp extFunctions_facts fn (by simpa [isExtFunction] using h)
  simp only [Bool.and_eq_true, Bool.not_eq_true', Option.isNone_iff_eq_none] at this
  obtain ⟨⟨⟨hm, hb⟩, hu⟩, hv⟩ := this
  have hs : fn.splitOn "::" = [fn] := by
    simpa [joinName] using splitOn_joinName [fn] (by simp) (by simpa using extName_ident (.inl h))
  exact ⟨by simp only [intoFunc, List.isEmpty_nil, hm, hb, h, Bool.or_self, Bool.and_false, Bool.and_self,
    Bool.false_eq_true, if_false, if_true], hm, by simp [nameTokens, hs], hu, hv⟩

theorem keyOK_exprLevel (me : Char → Bool) (pe : P EOS) : KeyOK me (exprLevel pe) := by
  intro k rest
  have hr : headLv (Token.colon :: rest) = 7 := by simp [headLv, tokLevel]
  unfold keyTok
  cases hn : isNormalizedIdent k
  · simp only [Bool.false_eq_true, if_false, strTok]
    refine ⟨.strLit (escapeStr me k.toList), ?_, by simp [EOS.toAttr, strOfRaw_escapeStr]⟩
    exact m_top (member_of_primary (by simp [primary]) (by omega)) (by simp [startsPlain]) hr
  · simp only [if_true]
    have hu := unreserved_of_normalized hn
    obtain ⟨h1, h2, h3⟩ := unreserved_ne hu
    have hp := primary_ident (exprLevel pe) k (ts := Token.colon :: rest) rfl
    simp only [h1, h2, if_false, hu, if_true] at hp
    have hs : startsPlain (Token.ident k :: Token.colon :: rest) = true := by simp [startsPlain, h3]
    cases hv : varOfName k with
    | some v =>
      rw [hv] at hp
      exact ⟨.var v, m_top (member_of_primary hp (by omega)) hs hr, by simp [EOS.toAttr, varOfName_some hv]⟩
    | none =>
      rw [hv] at hp
      exact ⟨.name [] k, m_top (member_of_primary hp (by omega)) hs hr, rfl⟩

def isAtom3 : Expr → Bool
  | .lit _ | .var _ | .slot _ => true
  | _ => false

theorem memK_atom (me : Char → Bool) (pe : P EOS) (e : Expr) (hf : inFrag3 e = true) (ha : isAtom3 e = true) :
    MemK (exprLevel pe) (printE me e) e := by
  cases e <;> simp [isAtom3] at ha
  case var v =>
    refine memK_prim (prim := .var v) (fun R hR => ?_) rfl
    simp only [printE, List.cons_append, List.nil_append]
    rw [primary_ident _ _ hR]
    cases v <;> simp [varName, varOfName]
  case slot s =>
    refine memK_prim (prim := .expr (.slot s)) (fun R hR => ?_) rfl
    cases s <;> simp [printE, slotName, primary]
  case lit p =>
    cases p with
    | bool b =>
      refine memK_prim (prim := .boolLit b) (fun R hR => ?_) rfl
      simp only [printE, List.cons_append, List.nil_append]
      rw [primary_ident _ _ hR]
      cases b <;> simp
    | string s =>
      refine memK_prim (prim := .strLit (escapeStr me s.toList)) (fun R hR => ?_) ?_
      · simp [printE, strTok, primary]
      · simp [EOS.toExpr, strOfRaw_escapeStr]
    | entityUID u =>
      simp only [inFrag3] at hf
      refine memK_prim (prim := .expr (.lit (.entityUID u))) (fun R hR => ?_) rfl
      simp only [printE, List.append_assoc, List.cons_append, List.nil_append]
      exact primary_euid me _ u hf R
    | int i =>
      simp only [inFrag3, decide_eq_true_eq, Int.ofNat_eq_natCast] at hf
      by_cases hneg : i < 0
      · have hk : i.natAbs ≤ i64Max + 1 := by omega
        have hi : -(Int.ofNat i.natAbs) = i := by simp only [Int.ofNat_eq_natCast]; omega
        refine memK_prim (prim := .expr (.lit (.int i))) (fun R hR => ?_) rfl
        simp only [printE, hneg, if_true, List.cons_append, List.nil_append]
        simp only [primary, negLit_expr pe i.natAbs hk R]
        simp [EOS.toExpr]
        omega
      · have h0 := i64Max_le_u64Max
        have h1 : i.toNat ≤ u64Max := by omega
        have h3 : i.toNat ≤ i64Max := by omega
        have h2 : Int.ofNat i.toNat = i := by simp only [Int.ofNat_eq_natCast]; omega
        refine memK_prim (prim := .num i.toNat) (fun R hR => ?_) ?_
        · simp [printE, hneg, primary, h1]
        · simp only [EOS.toExpr, h3, if_true, h2]

theorem atom3_plain (me : Char → Bool) (e : Expr) (hf : inFrag3 e = true) (ha : isAtom3 e = true) (R : List Token) :
    startsPlain (printE me e ++ R) = true := by
  cases e <;> simp [isAtom3] at ha
  case var v => cases v <;> simp [printE, startsPlain, varName]
  case slot s => simp [printE, startsPlain]
  case lit p =>
    cases p with
    | bool b => cases b <;> simp [printE, startsPlain]
    | int i => by_cases h : i < 0 <;> simp [printE, startsPlain, h]
    | string s => simp [printE, startsPlain, strTok]
    | entityUID u =>
      simp only [inFrag3] at hf
      obtain ⟨c, cs, hs, hall, hj⟩ := typeName_split hf
      have hc : unreservedIdent c = true := by simp only [List.all_cons, Bool.and_eq_true] at hall; exact hall.1
      simp [printE, nameTokens, hs, startsPlain, (unreserved_ne hc).2.2]

theorem memK_paren (me : Char → Bool) (pe : P EOS) (a : Expr) (h : TopOK me pe a) :
    MemK pe (.lparen :: (printE me a ++ [.rparen])) a := by
  refine memK_prim (prim := .expr a) (fun R hR => ?_) rfl
  obtain ⟨s, h1, h2⟩ := h (.rparen :: R) (by simp [headLv, tokLevel])
  simp only [List.cons_append, List.append_assoc, List.nil_append]
  simp only [primary, h1]
  simp [h2]

theorem memK_set (me : Char → Bool) (pe : P EOS) (hclose : ∀ ts, pe (.rbrack :: ts) = none) (es : List Expr)
    (hes : ∀ a ∈ es, TopOK me pe a) : MemK pe (.lbrack :: (printEs me es ++ [.rbrack])) (.set es) := by
  refine memK_prim (prim := .expr (.set es)) (fun R hR => ?_) rfl
  simp only [List.cons_append, List.append_assoc, List.nil_append]
  simp only [primary, exprList_print me pe .rbrack hclose rfl (by simp) R es hes]

theorem memK_record (me : Char → Bool) (pe : P EOS) (hk : KeyOK me pe) (kvs : List (String × Expr))
    (hes : ∀ kv ∈ kvs, TopOK me pe kv.2) (hs : sortedKeys3 kvs = true) :
    MemK pe (.lbrace :: (printKVs me kvs ++ [.rbrace])) (.record kvs) := by
  refine memK_prim (prim := .expr (.record kvs)) (fun R hR => ?_) rfl
  simp only [List.cons_append, List.append_assoc, List.nil_append]
  simp only [primary, recInits_print me pe hk R kvs hes, mkRecord_sorted hs, Option.map_some]

theorem printE_call_fun (me : Char → Bool) (fn : String) (args : List Expr) (h : isExtMethod fn = false) :
    printE me (.call fn args) = nameTokens fn ++ (.lparen :: (printEs me args ++ [.rparen])) := by
  cases args <;> simp [printE, h]

theorem memK_meth (me : Char → Bool) {pe : P EOS} (hclose : ∀ ts, pe (.rparen :: ts) = none) {L : List Token} {a e' : Expr}
    (m : String) (hm : unreservedIdent m = true) (args : List Expr) (h : MemK pe L a)
    (hargs : ∀ x ∈ args, TopOK me pe x) (ht : toMeth m a args = some e') :
    MemK pe (L ++ (.dot :: .ident m :: .lparen :: (printEs me args ++ [.rparen]))) e' := by
  refine memK_ext (acc := .meth m args) h (fun R => rfl) (fun R => rfl) (by simp) (fun R fuel _ => ?_) (fun more => ?_)
  · exact acc_meth_step pe m hm args (printEs me args) R fuel (exprList_print me pe .rparen hclose rfl (by simp) R args hargs)
  · simp [applyAccs, ht]

theorem memK_getAttr (me : Char → Bool) {pe : P EOS} {L : List Token} {a : Expr} (x : String) (h : MemK pe L a)
    (hstr : ∀ raw R, pe (.str raw :: .rbrack :: R) = some (.strLit raw, .rbrack :: R)) :
    MemK pe (L ++ (if isNormalizedIdent x then [.dot, .ident x] else [.lbrack, strTok me x, .rbrack])) (.getAttr a x) := by
  cases hn : isNormalizedIdent x
  · exact memK_ext (acc := .index x) h (fun R => rfl) (fun R => rfl) (by simp)
      (fun R fuel _ => acc_index_step _ _ x (strOfRaw_escapeStr me x) R fuel (hstr _ R)) (fun more => rfl)
  · exact memK_ext (acc := .field x) h (fun R => rfl) (fun R => rfl) (by simp)
      (fun R fuel hR => acc_field_step _ x (unreserved_of_normalized hn) R fuel hR) (fun more => rfl)

/-- `contains containsAll containsAny getTag hasTag` -/
theorem memK_binMeth (me : Char → Bool) {pe : P EOS} (hclose : ∀ ts, pe (.rparen :: ts) = none) {L : List Token} {a b : Expr}
    {op : BinaryOp} (hop : toMeth (methodName op) a [b] = some (.binaryApp op a b))
    (hun : unreservedIdent (methodName op) = true) (h : MemK pe L a) (hb : TopOK me pe b) :
    MemK pe (L ++ (.dot :: .ident (methodName op) :: .lparen :: (printE me b ++ [.rparen]))) (.binaryApp op a b) := by
  simpa [printEs, printEsTail] using memK_meth me hclose (methodName op) hun [b] h (by simpa using hb) hop

theorem memK_extFun (me : Char → Bool) {pe : P EOS} (hclose : ∀ ts, pe (.rparen :: ts) = none) {fn : String}
    (hfun : isExtFunction fn = true) (args : List Expr) (hargs : ∀ x ∈ args, TopOK me pe x) :
    MemK pe (printE me (.call fn args)) (.call fn args) ∧ ∀ R, startsPlain (printE me (.call fn args) ++ R) = true := by
  obtain ⟨hint, hmth, hnt, hun, hvar⟩ := extFunction_facts hfun args
  obtain ⟨hn1, hn2, hn3⟩ := unreserved_ne hun
  rw [printE_call_fun me fn args hmth, hnt]
  refine ⟨⟨[.ident fn], .lparen :: (printEs me args ++ [.rparen]), .name [] fn, [.call args], rfl, fun R _ => rfl, fun R hR => ?_,
    fun R fuel _ => ?_, by simp, fun more _ => ?_, .expr (.call fn args), ?_, rfl⟩, fun R => by simp [startsPlain, hn3]⟩
  · rw [List.singleton_append, primary_ident _ _ hR]
    simp [hn1, hn2, hvar, hun]
  · simp only [List.cons_append, List.append_assoc, List.nil_append, List.length_cons, List.length_nil]
    rw [accesses]
    simp only [exprList_print me pe .rparen hclose rfl (by simp) R args hargs]
    cases accesses pe fuel R <;> rfl
  · simp [lowerMember, hint]
  · simp [lowerMember, hint, applyAccs]

end Cedar.Syntax
