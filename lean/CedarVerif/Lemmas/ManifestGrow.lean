import CedarVerif.Lemmas.ManifestMono
import CedarVerif.Lemmas.ManifestTyped
/-
The ingredients of `manifest_union_grows` (Thm/C17: adding a policy grows the manifest).  `t₀ ≤ t ⇒ t₀ ≤ t ∪ v` (no
well-formedness needed), `to_typed` maps `≤` to the order with annotations `leA` (both tries are annotated from the same
schema types along the same paths), and the fold of `compute_entity_manifest` over `ps ++ [p]` is the fold over `ps`
followed by one union.
-/
namespace Cedar.Manifest
open Cedar

theorem le_union_right : ∀ (v t t0 : AccessTrie), AccessTrie.le t0 t → AccessTrie.le t0 (t.union v) :=
  AccessTrie.induct fun c2 a2 i2 e2 hc ha t t0 h => by
    obtain ⟨c, a, i, e⟩ := t
    obtain ⟨c0, a0, i0, e0⟩ := t0
    simp only [AccessTrie.le, AccessTrie.children, AccessTrie.ancestors, AccessTrie.isAncestor, fieldsLe_iff, rootsLe_iff] at h
    simp only [AccessTrie.union, AccessTrie.le, AccessTrie.children, AccessTrie.ancestors, AccessTrie.isAncestor,
      fieldsLe_iff, rootsLe_iff]
    refine ⟨fun k t hm => ?_, fun k t hm => ?_, fun hi => by simp [h.2.2 hi]⟩
    · obtain ⟨t2, h1, h2⟩ := h.1 k t hm
      obtain ⟨T, h3, h4⟩ := fieldsMap.look_uni_left AccessTrie.le c2 c hc k t2 h1
      exact ⟨T, h3, h4 t h2⟩
    · obtain ⟨t2, h1, h2⟩ := h.2.1 k t hm
      obtain ⟨T, h3, h4⟩ := rootsMap.look_uni_left AccessTrie.le a2 a ha k t2 h1
      exact ⟨T, h3, h4 t h2⟩

theorem fieldsLe_union_right : ∀ (c2 c c0 : Fields), fieldsLe c0 c → fieldsLe c0 (unionFields c c2) :=
  fun c2 c _ h => (fieldsLe_iff _ _).2 fun k t hm =>
    let ⟨t2, h1, h2⟩ := (fieldsLe_iff _ _).1 h k t hm
    let ⟨T, h3, h4⟩ := fieldsMap.look_uni_left AccessTrie.le c2 c (fun _ v _ => le_union_right v) k t2 h1
    ⟨T, h3, h4 t h2⟩

theorem rootsLe_union_right : ∀ (c2 c c0 : RootAccessTrie), rootsLe c0 c → rootsLe c0 (unionRoots c c2) :=
  fun c2 c _ h => (rootsLe_iff _ _).2 fun k t hm =>
    let ⟨t2, h1, h2⟩ := (rootsLe_iff _ _).1 h k t hm
    let ⟨T, h3, h4⟩ := rootsMap.look_uni_left AccessTrie.le c2 c (fun _ v _ => le_union_right v) k t2 h1
    ⟨T, h3, h4 t h2⟩

theorem go_snoc (p : TExpr) : ∀ (xs : List TExpr) (acc : RootAccessTrie),
    manifestOfEnvs.go acc (xs ++ [p]) =
      match manifestOfEnvs.go acc xs with
      | .error x => .error x
      | .ok a => match manifestOfExpr p with
        | .error x => .error x
        | .ok r => .ok (unionRoots a r.global)
  | [] => fun acc => by
    simp only [List.nil_append, manifestOfEnvs.go]
    cases manifestOfExpr p <;> rfl
  | x :: xs => fun acc => by
    simp only [List.cons_append, manifestOfEnvs.go]
    cases manifestOfExpr x with
    | error e => rfl
    | ok r => exact go_snoc p xs _

theorem lookupField_toTypedFields_some (s : Schema) (rt : ReqType) (attrs : Attrs) (k : String) (t : AccessTrie)
    (q : Bool) (fty : CedarType) (hf : Attrs.find? attrs k = some (q, fty)) : ∀ (c C : Fields),
    toTypedFields s rt attrs c = .ok C → lookupField c k = some t →
    ∃ T, AccessTrie.toTyped s rt t fty = .ok T ∧ lookupField C k = some T
  | [] => fun _ _ hl => by simp [lookupField] at hl
  | (f, t0) :: rest => fun C h hl => by
    simp only [lookupField] at hl
    by_cases e : (f == k) = true
    · have e' : f = k := by simpa using e
      subst e'
      simp only [beq_self_eq_true, if_true, Option.some.injEq] at hl
      subst hl
      obtain ⟨rest', _, ⟨hf0, _⟩ | ⟨q0, fty0, T0, hf0, ht0, rfl⟩⟩ := toTypedFields_cons_inv h <;> rw [hf] at hf0 <;> cases hf0
      exact ⟨T0, ht0, by simp [lookupField]⟩
    · simp only [e, Bool.false_eq_true, if_false] at hl
      obtain ⟨rest', hr, ⟨_, rfl⟩ | ⟨q0, fty0, T0, _, _, rfl⟩⟩ := toTypedFields_cons_inv h
      · exact lookupField_toTypedFields_some s rt attrs k t q fty hf rest _ hr hl
      · obtain ⟨T, h3, h4⟩ := lookupField_toTypedFields_some s rt attrs k t q fty hf rest rest' hr hl
        exact ⟨T, h3, by simp only [lookupField, e, Bool.false_eq_true, if_false]; exact h4⟩

theorem lookupRoot_toTypedRoots_some (s : Schema) (rt : ReqType) (k : EntityRoot) (t : AccessTrie) : ∀ (a A : RootAccessTrie),
    toTypedRoots s rt a = .ok A → lookupRoot a k = some t →
    ∃ ty T, rootType s rt k = .ok ty ∧ AccessTrie.toTyped s rt t ty = .ok T ∧ lookupRoot A k = some T
  | [] => fun _ _ hl => by simp [lookupRoot] at hl
  | (r, t0) :: rest => fun A h hl => by
    simp only [lookupRoot] at hl
    obtain ⟨ty, T0, rest', hty, h1, h2, rfl⟩ := toTypedRoots_cons_inv h
    by_cases e : (r == k) = true
    · have e' : r = k := by simpa using e
      subst e'
      simp only [beq_self_eq_true, if_true, Option.some.injEq] at hl
      subst hl
      exact ⟨ty, T0, hty, h1, by simp [lookupRoot]⟩
    · simp only [e, Bool.false_eq_true, if_false] at hl
      obtain ⟨ty', T, h3, h4, h5⟩ := lookupRoot_toTypedRoots_some s rt k t rest rest' h2 hl
      exact ⟨ty', T, h3, h4, by simp only [lookupRoot, e, Bool.false_eq_true, if_false]; exact h5⟩

mutual
theorem toTyped_mono (s : Schema) (rt : ReqType) : ∀ (t1 t2 : AccessTrie) (ty : CedarType) (T1 T2 : AccessTrie),
    AccessTrie.le t1 t2 → AccessTrie.toTyped s rt t1 ty = .ok T1 → AccessTrie.toTyped s rt t2 ty = .ok T2 →
    AccessTrie.leA T1 T2
  | .mk c1 a1 i1 e1, .mk c2 a2 i2 e2, ty, T1, T2, hle, h1, h2 => by
    simp only [AccessTrie.le, AccessTrie.children, AccessTrie.ancestors, AccessTrie.isAncestor] at hle
    obtain ⟨A1, hA1, x1⟩ := toTyped_inv h1
    obtain ⟨A2, hA2, x2⟩ := toTyped_inv h2
    have hA := rootsLe_of_rootsLeA _ _ (toTypedRoots_mono s rt a1 a2 A1 A2 hle.2.1 hA1 hA2)
    rcases x1 with ⟨_, _, rfl⟩ | ⟨attrs, C1, ha, hC1, rfl⟩
    · rcases x2 with ⟨_, _, rfl⟩ | ⟨_, _, _, _, rfl⟩ <;>
        exact ⟨by simp [fieldsLeA], hA, hle.2.2, fun h => h⟩
    · rcases x2 with ⟨ha2, _, _⟩ | ⟨attrs2, C2, ha2, hC2, rfl⟩ <;> rw [ha] at ha2 <;> cases ha2
      exact ⟨toTypedFields_mono s rt c1 c2 attrs C1 C2 hle.1 hC1 hC2, hA, hle.2.2, fun h => h⟩
termination_by structural t1 => t1
theorem toTypedFields_mono (s : Schema) (rt : ReqType) : ∀ (c1 c2 : Fields) (attrs : Attrs) (C1 C2 : Fields),
    fieldsLe c1 c2 → toTypedFields s rt attrs c1 = .ok C1 → toTypedFields s rt attrs c2 = .ok C2 → fieldsLeA C1 C2
  | [] => fun _ _ C1 _ _ h1 _ => by
    simp only [toTypedFields, Except.ok.injEq] at h1
    subst h1
    simp [fieldsLeA]
  | (f, t) :: rest => fun c2 attrs C1 C2 hle h1 h2 => by
    simp only [fieldsLe] at hle
    obtain ⟨rest', hr, ⟨_, rfl⟩ | ⟨q, fty, T, hfa, ht, rfl⟩⟩ := toTypedFields_cons_inv h1
    · exact toTypedFields_mono s rt rest c2 attrs _ C2 hle.2 hr h2
    · obtain ⟨t2, hl2, hle2⟩ := hle.1
      obtain ⟨T2, hT2, hL2⟩ := lookupField_toTypedFields_some s rt attrs f t2 q fty hfa c2 C2 h2 hl2
      simp only [fieldsLeA]
      exact ⟨⟨T2, hL2, toTyped_mono s rt t t2 fty T T2 hle2 ht hT2⟩,
        toTypedFields_mono s rt rest c2 attrs rest' C2 hle.2 hr h2⟩
termination_by structural c1 => c1
theorem toTypedRoots_mono (s : Schema) (rt : ReqType) : ∀ (a1 a2 A1 A2 : RootAccessTrie),
    rootsLe a1 a2 → toTypedRoots s rt a1 = .ok A1 → toTypedRoots s rt a2 = .ok A2 → rootsLeA A1 A2
  | [] => fun _ A1 _ _ h1 _ => by
    simp only [toTypedRoots, Except.ok.injEq] at h1
    subst h1
    simp [rootsLeA]
  | (r, t) :: rest => fun a2 A1 A2 hle h1 h2 => by
    simp only [rootsLe] at hle
    obtain ⟨ty, T, rest', hty, ht, hr, rfl⟩ := toTypedRoots_cons_inv h1
    obtain ⟨t2, hl2, hle2⟩ := hle.1
    obtain ⟨ty', T2, hty', hT2, hL2⟩ := lookupRoot_toTypedRoots_some s rt r t2 a2 A2 h2 hl2
    rw [hty] at hty'
    cases hty'
    simp only [rootsLeA]
    exact ⟨⟨T2, hL2, toTyped_mono s rt t t2 ty T T2 hle2 ht hT2⟩,
      toTypedRoots_mono s rt rest a2 rest' A2 hle.2 hr h2⟩
termination_by structural a1 => a1
end

end Cedar.Manifest
