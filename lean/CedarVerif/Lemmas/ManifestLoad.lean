import CedarVerif.Lemmas.ManifestMerge
import CedarVerif.Lemmas.ManifestCover
/-
The loading loop of the slicer (`loadAll`, `insertOrMerge`, `addAncestors`): what the store it builds contains, per
entity request.
-/
namespace Cedar.Manifest
open Cedar

theorem find?_insertOrMerge (u : EntityUID) (d : EntityData) : ∀ (m : Entities) (x : EntityUID),
    (insertOrMerge m u d).find? x =
      if u == x then some (match m.find? u with | some d0 => mergeEntities d0 d | none => d) else m.find? x
  | [] => fun x => by
    simp only [insertOrMerge, Entities.find?]
  | (u0, d0) :: rest => fun x => by
    have ih := find?_insertOrMerge u d rest x
    simp only [insertOrMerge]
    by_cases e : u0 = u
    · subst e
      simp only [beq_self_eq_true, if_true, Entities.find?]
      by_cases h : (u0 == x) = true <;> simp [h]
    · have e' : (u0 == u) = false := by simpa using e
      simp only [e', Bool.false_eq_true, if_false, Entities.find?, ih]
      by_cases e2 : u0 = x
      · subst e2
        have : (u == u0) = false := by simpa using (fun h : u = u0 => e h.symm)
        simp [this]
      · have e2' : (u0 == x) = false := by simpa using e2
        simp only [e2', Bool.false_eq_true, if_false]

def ancStep (u : EntityUID) (new : List EntityUID) (d' : EntityData) : EntityData :=
  { d' with ancestors := d'.ancestors ++ new.filter (fun a => !d'.ancestors.contains a) }

theorem find?_map_ancStep (u : EntityUID) (new : List EntityUID) (acc : Entities) (x : EntityUID) :
    Entities.find? (acc.map (fun (p : EntityUID × EntityData) => if p.1 == u then (p.1, ancStep u new p.2) else (p.1, p.2))) x =
      (acc.find? x).map (fun d' => if x == u then ancStep u new d' else d') := by
  have : ∀ p : EntityUID × EntityData, (if p.1 == u then (p.1, ancStep u new p.2) else (p.1, p.2)) =
      (p.1, if p.1 == u then ancStep u new p.2 else p.2) := fun p => by cases p.1 == u <;> rfl
  simp only [this, Entities.find?_eq_assoc]
  exact assoc?_map (fun k d' => if k == u then ancStep u new d' else d') acc x

/-- the request `(u, tr)` has been served: the entry of `u` keeps at least the slice by `tr` -/
def Served (es m : Entities) (u : EntityUID) (tr : AccessTrie) : Prop :=
  ∀ d, es.find? u = some d → ∃ d1, m.find? u = some d1 ∧ Le (.record (sliceEntity tr d).attrs) (.record d1.attrs)

theorem sliceEntity_trim (tr : AccessTrie) (d : EntityData) : TrimKVs (sliceEntity tr d).attrs d.attrs := by
  simp only [sliceEntity]
  exact sliceFields_trim _ _

theorem attrsBelow_step {m M : Entities} (h : AttrsBelow m M) {u : EntityUID} {d : EntityData} {tr : AccessTrie} {d2 : EntityData}
    (h1 : M.find? u = some d2) (h2 : TrimKVs (sliceEntity tr d).attrs d2.attrs) :
    AttrsBelow (insertOrMerge m u (sliceEntity tr d)) M := by
  intro x d1 hx
  rw [find?_insertOrMerge] at hx
  by_cases e : u = x
  · subst e
    simp only [beq_self_eq_true, if_true, Option.some.injEq] at hx
    cases hm : m.find? u with
    | none =>
      simp only [hm] at hx
      subst hx
      exact ⟨d2, h1, h2⟩
    | some d0 =>
      simp only [hm] at hx
      subst hx
      obtain ⟨d2', h1', h2'⟩ := h u d0 hm
      rw [h1] at h1'
      cases h1'
      exact ⟨d2, h1, by simp only [mergeEntities]; exact mergeKVs_below _ _ _ h2' h2⟩
  · have e' : (u == x) = false := by simpa using e
    simp only [e', Bool.false_eq_true, if_false] at hx
    exact h x d1 hx

theorem loadAll_below (es M : Entities) : ∀ (reqs : List (EntityUID × AccessTrie)) (m : Entities),
    (∀ u tr, (u, tr) ∈ reqs → ∀ d, es.find? u = some d → ∃ d2, M.find? u = some d2 ∧ TrimKVs (sliceEntity tr d).attrs d2.attrs) →
    AttrsBelow m M → AttrsBelow (loadAll es reqs m) M
  | [] => fun m _ h => by simpa [loadAll] using h
  | (u, t) :: rest => fun m hreq h => by
    simp only [loadAll]
    have hrest : ∀ u' tr, (u', tr) ∈ rest → ∀ d, es.find? u' = some d →
        ∃ d2, M.find? u' = some d2 ∧ TrimKVs (sliceEntity tr d).attrs d2.attrs :=
      fun u' tr hm => hreq u' tr (by simp [hm])
    cases hd : es.find? u with
    | none => exact loadAll_below es M rest m hrest h
    | some d =>
      obtain ⟨d2, h1, h2⟩ := hreq u t (by simp) d hd
      exact loadAll_below es M rest _ hrest (attrsBelow_step h h1 h2)

theorem loadAll_sub (es : Entities) (reqs : List (EntityUID × AccessTrie)) (m : Entities) (h : AttrsBelow m es) :
    AttrsBelow (loadAll es reqs m) es :=
  loadAll_below es es reqs m (fun _ tr _ d hd => ⟨d, hd, sliceEntity_trim tr d⟩) h

theorem loadAll_noAnc (es : Entities) : ∀ (reqs : List (EntityUID × AccessTrie)) (m : Entities),
    (∀ u d, m.find? u = some d → d.ancestors = []) → ∀ u d, (loadAll es reqs m).find? u = some d → d.ancestors = []
  | [] => fun m h => by simpa [loadAll] using h
  | (u, t) :: rest => fun m h => by
    simp only [loadAll]
    cases hd : es.find? u with
    | none => exact loadAll_noAnc es rest m h
    | some d =>
      refine loadAll_noAnc es rest _ fun x d1 hx => ?_
      rw [find?_insertOrMerge] at hx
      by_cases e : u = x
      · subst e
        simp only [beq_self_eq_true, if_true, Option.some.injEq] at hx
        cases hm : m.find? u with
        | none => simp only [hm] at hx; subst hx; rfl
        | some d0 => simp only [hm] at hx; subst hx; exact h u d0 hm
      · have e' : (u == x) = false := by simpa using e
        simp only [e', Bool.false_eq_true, if_false] at hx
        exact h x d1 hx

theorem step_mono {m : Entities} (u : EntityUID) (d : EntityData) (tr : AccessTrie) (x : EntityUID) (d1 : EntityData)
    (hx : m.find? x = some d1) :
    ∃ d2, (insertOrMerge m u (sliceEntity tr d)).find? x = some d2 ∧ Le (.record d1.attrs) (.record d2.attrs) := by
  rw [find?_insertOrMerge]
  by_cases e : u = x
  · subst e
    simp only [beq_self_eq_true, if_true, hx]
    refine ⟨_, rfl, ?_⟩
    simp only [mergeEntities]
    exact le_record_of_kvs (fun ra hra => mergeKVs_left _ _ ra hra)
  · have e' : (u == x) = false := by simpa using e
    simp only [e', Bool.false_eq_true, if_false]
    exact ⟨d1, hx, Le.refl _⟩

theorem step_served {es m : Entities} (h : AttrsBelow m es) {u : EntityUID} {d : EntityData} (hd : es.find? u = some d)
    (tr : AccessTrie) : Served es (insertOrMerge m u (sliceEntity tr d)) u tr := by
  intro d' hd'
  rw [hd] at hd'
  cases hd'
  rw [find?_insertOrMerge]
  simp only [beq_self_eq_true, if_true]
  refine ⟨_, rfl, ?_⟩
  cases hm : m.find? u with
  | none => exact Le.refl _
  | some d0 =>
    simp only [mergeEntities]
    obtain ⟨d', hd', h1⟩ := h u d0 hm
    rw [hd] at hd'
    cases hd'
    apply le_record_of_kvs
    intro ra hra
    apply trimKVs_of_lookup
    intro k b hm'
    obtain ⟨x, hx1, hx2⟩ := trimKVs_mem _ _ hra k b hm'
    exact mergeKVs_right _ _ _ h1 (sliceEntity_trim tr d) k b x (lookupKV_mem hx1) hx2

theorem loadAll_mono (es : Entities) : ∀ (reqs : List (EntityUID × AccessTrie)) (m : Entities),
    ∀ x d1, m.find? x = some d1 → ∃ d2, (loadAll es reqs m).find? x = some d2 ∧ Le (.record d1.attrs) (.record d2.attrs)
  | [] => fun m x d1 hx => ⟨d1, by simpa [loadAll] using hx, Le.refl _⟩
  | (u, t) :: rest => fun m x d1 hx => by
    simp only [loadAll]
    cases hd : es.find? u with
    | none => exact loadAll_mono es rest m x d1 hx
    | some d =>
      simp only
      obtain ⟨d2, h1, h2⟩ := step_mono u d t x d1 hx
      obtain ⟨d3, h3, h4⟩ := loadAll_mono es rest _ x d2 h1
      exact ⟨d3, h3, Le.trans h2 h4⟩

theorem loadAll_served (es : Entities) : ∀ (reqs : List (EntityUID × AccessTrie)) (m : Entities), AttrsBelow m es →
    ∀ u tr, (u, tr) ∈ reqs → Served es (loadAll es reqs m) u tr
  | [] => fun _ _ _ _ hm => by simp at hm
  | (u0, t0) :: rest => fun m h u tr hm => by
    simp only [List.mem_cons, Prod.mk.injEq] at hm
    simp only [loadAll]
    cases hd : es.find? u0 with
    | none =>
      simp only
      rcases hm with ⟨e1, e2⟩ | hm
      · subst e1; subst e2
        intro d hd'
        rw [hd] at hd'
        cases hd'
      · exact loadAll_served es rest m h u tr hm
    | some d =>
      simp only
      rcases hm with ⟨e1, e2⟩ | hm
      · subst e1; subst e2
        intro d' hd'
        obtain ⟨d1, h1, h2⟩ := step_served h hd tr d' hd'
        obtain ⟨d2, h3, h4⟩ := loadAll_mono es rest _ u d1 h1
        exact ⟨d2, h3, Le.trans h2 h4⟩
      · exact loadAll_served es rest _ (attrsBelow_step h hd (sliceEntity_trim t0 d)) u tr hm

theorem attrsBelow_nil (M : Entities) : AttrsBelow [] M := fun u d1 h => by simp [Entities.find?] at h

theorem addAncestors_cons (es m : Entities) (req : Request) (u : EntityUID) (t : AccessTrie)
    (rest : List (EntityUID × AccessTrie)) (acc : Entities) :
    addAncestors es m req ((u, t) :: rest) acc =
      addAncestors es m req rest
        (acc.map (fun (p : EntityUID × EntityData) =>
          if p.1 == u then
            (p.1, ancStep u ((match es.find? u with
              | some d => (ancRequest m req t.ancestors).filter (fun a => d.ancestors.contains a)
              | none => [])) p.2)
          else (p.1, p.2))) := by
  rfl

theorem addAncestors_find_req (es m : Entities) (req : Request) : ∀ (reqs : List (EntityUID × AccessTrie)) (acc : Entities)
    (x : EntityUID),
    match acc.find? x with
    | none => (addAncestors es m req reqs acc).find? x = none
    | some da => ∃ d', (addAncestors es m req reqs acc).find? x = some d' ∧ d'.attrs = da.attrs ∧
        (∀ a, a ∈ da.ancestors → a ∈ d'.ancestors) ∧
        (∀ a, a ∈ d'.ancestors → a ∈ da.ancestors ∨
          ∃ t d, (x, t) ∈ reqs ∧ es.find? x = some d ∧ a ∈ ancRequest m req t.ancestors ∧ a ∈ d.ancestors) ∧
        (∀ t, (x, t) ∈ reqs → ∀ d, es.find? x = some d → ∀ a, a ∈ ancRequest m req t.ancestors → a ∈ d.ancestors →
          a ∈ d'.ancestors)
  | [] => fun acc x => by
    cases h : acc.find? x with
    | none => simpa [addAncestors] using h
    | some da =>
      simp only [addAncestors]
      exact ⟨da, h, rfl, fun a ha => ha, fun a ha => Or.inl ha, by intro t ht; simp at ht⟩
  | (u, t) :: rest => fun acc x => by
    rw [addAncestors_cons]
    generalize hnew : (match es.find? u with
              | some d => (ancRequest m req t.ancestors).filter (fun a => d.ancestors.contains a)
              | none => []) = new
    have ih := addAncestors_find_req es m req rest
      (acc.map (fun (p : EntityUID × EntityData) => if p.1 == u then (p.1, ancStep u new p.2) else (p.1, p.2))) x
    rw [find?_map_ancStep] at ih
    cases h : acc.find? x with
    | none =>
      simp only [h, Option.map_none] at ih ⊢
      exact ih
    | some da =>
      simp only [h, Option.map_some] at ih ⊢
      obtain ⟨d', h1, h2, h3, h4, h5⟩ := ih
      refine ⟨d', h1, ?_, ?_, ?_, ?_⟩
      · rw [h2]; split <;> simp [ancStep]
      · intro a ha
        apply h3
        split
        · simp only [ancStep, List.mem_append]; exact Or.inl ha
        · exact ha
      · intro a ha
        rcases h4 a ha with h4 | h4
        · by_cases e : x = u
          · subst e
            simp only [beq_self_eq_true, if_true, ancStep, List.mem_append, List.mem_filter] at h4
            rcases h4 with h4 | ⟨h4, _⟩
            · exact Or.inl h4
            · right
              cases hd : es.find? x with
              | none => simp [hd] at hnew; subst hnew; simp at h4
              | some d =>
                simp only [hd] at hnew
                subst hnew
                simp only [List.mem_filter, List.contains_eq_mem, decide_eq_true_eq] at h4
                exact ⟨t, d, by simp, rfl, h4.1, h4.2⟩
          · have e' : (x == u) = false := by simpa using e
            simp only [e', Bool.false_eq_true, if_false] at h4
            exact Or.inl h4
        · obtain ⟨t0, d, h1, h2, h3, h4⟩ := h4
          exact Or.inr ⟨t0, d, by simp [h1], h2, h3, h4⟩
      · intro t' ht' d hd a ha had
        simp only [List.mem_cons, Prod.mk.injEq] at ht'
        rcases ht' with ⟨e1, e2⟩ | ht'
        · subst e1; subst e2
          apply h3
          simp only [beq_self_eq_true, if_true, ancStep, List.mem_append, List.mem_filter]
          by_cases hin : a ∈ da.ancestors
          · exact Or.inl hin
          · right
            simp only [hd] at hnew
            subst hnew
            simp only [List.mem_filter, List.contains_eq_mem, decide_eq_true_eq]
            exact ⟨⟨ha, had⟩, by simpa using hin⟩
        · exact h5 t' ht' d hd a ha had

theorem addAncestors_find (es m : Entities) (req : Request) : ∀ (reqs : List (EntityUID × AccessTrie)) (acc : Entities)
    (x : EntityUID),
    match acc.find? x with
    | none => (addAncestors es m req reqs acc).find? x = none
    | some da => ∃ d', (addAncestors es m req reqs acc).find? x = some d' ∧ d'.attrs = da.attrs ∧
        (∀ a, a ∈ da.ancestors → a ∈ d'.ancestors) ∧
        (∀ a, a ∈ d'.ancestors → a ∈ da.ancestors ∨ ∃ d, es.find? x = some d ∧ a ∈ d.ancestors) ∧
        (∀ t, (x, t) ∈ reqs → ∀ d, es.find? x = some d → ∀ a, a ∈ ancRequest m req t.ancestors → a ∈ d.ancestors →
          a ∈ d'.ancestors) := fun reqs acc x => by
  have h := addAncestors_find_req es m req reqs acc x
  cases hf : acc.find? x with
  | none => rwa [hf] at h
  | some da =>
    rw [hf] at h
    obtain ⟨d', h1, h2, h3, h4, h5⟩ := h
    exact ⟨d', h1, h2, h3, fun a ha => (h4 a ha).imp_right fun ⟨_, d, _, hd, _, had⟩ => ⟨d, hd, had⟩, h5⟩

theorem sliceStorePure_served (t : RootAccessTrie) (req : Request) (es : Entities) (u : EntityUID) (tr : AccessTrie)
    (hm : (u, tr) ∈ allRequests es req t) (d : EntityData) (hd : es.find? u = some d) :
    ∃ d', (sliceStorePure t req es).find? u = some d' ∧
      Le (.record (sliceEntity tr d).attrs) (.record d'.attrs) ∧
      (∀ x, x ∈ ancRequest (sliceStorePure t req es) req tr.ancestors → x ∈ d.ancestors → x ∈ d'.ancestors) := by
  obtain ⟨d1, h1, h2⟩ := loadAll_served es (allRequests es req t) [] (attrsBelow_nil es) u tr hm d hd
  have hall := addAncestors_find_req es (loadAll es (allRequests es req t) []) req (allRequests es req t)
    (loadAll es (allRequests es req t) [])
  have hu := hall u
  simp only [h1] at hu
  obtain ⟨d', h3, h4, _, _, h7⟩ := hu
  refine ⟨d', h3, by rw [h4]; exact h2, ?_⟩
  intro x hx hxa
  apply h7 tr hm d hd x _ hxa
  -- the ancestors pass changes no attributes, and `ancRequest` reads attributes only
  refine ancRequest_sub _ _ (fun y dy' hy' => ?_) req x _ _ (rootsSub_refl _) hx
  have hy := hall y
  simp only [sliceStorePure] at hy'
  cases hf : (loadAll es (allRequests es req t) []).find? y with
  | none => simp only [hf] at hy; rw [hy] at hy'; cases hy'
  | some dy =>
    simp only [hf] at hy
    obtain ⟨dy2, e1, e2, _⟩ := hy
    rw [e1] at hy'
    cases hy'
    exact ⟨dy, rfl, by rw [e2]; exact Le.refl _⟩

theorem sliceStorePure_sub (t : RootAccessTrie) (req : Request) (es : Entities) : SubStore es (sliceStorePure t req es) := by
  intro u d' hf
  have hsub := loadAll_sub es (allRequests es req t) [] (attrsBelow_nil es)
  have hnone := loadAll_noAnc es (allRequests es req t) [] (fun u d h => by simp [Entities.find?] at h)
  have hu := addAncestors_find_req es (loadAll es (allRequests es req t) []) req (allRequests es req t)
    (loadAll es (allRequests es req t) []) u
  simp only [sliceStorePure] at hf
  cases hl : (loadAll es (allRequests es req t) []).find? u with
  | none => simp only [hl] at hu; rw [hu] at hf; cases hf
  | some d1 =>
    simp only [hl] at hu
    obtain ⟨d2, h1, h2, _, h4, _⟩ := hu
    rw [h1] at hf
    cases hf
    obtain ⟨d, hd, ht⟩ := hsub u d1 hl
    refine ⟨d, hd, by rw [h2]; exact ht, ?_⟩
    intro a ha
    rcases h4 a ha with h | ⟨_, d0, _, hd0, _, h⟩
    · rw [hnone u d1 hl] at h; cases h
    · rw [hd] at hd0; cases hd0; exact h

end Cedar.Manifest
