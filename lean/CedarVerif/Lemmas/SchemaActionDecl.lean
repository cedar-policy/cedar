import CedarVerif.Lemmas.SchemaEntityDecl
/-
The parser of action declarations inverts the printer (`Cedar/SchemaDecl2.lean`): names, parents (`in`), the `appliesTo` block with its
three kinds of item; what is lost on the way is said by `normParents`, `normApply`, `normCtx`.
-/
namespace Cedar.SchemaSyntax

theorem parseNames_single (n : String) (cont : List Tok) (h : NoComma cont) :
    parseNames (.str n :: cont) = some ([n], cont) := by
  unfold parseNames
  split
  · rename_i heq
    obtain ⟨-, rfl⟩ := List.cons.inj heq
    exact h.elim
  · rename_i heq
    obtain ⟨rfl, rfl⟩ := List.cons.inj heq
    rfl
  · rename_i heq
    cases heq

theorem parseQualTail_print (cs : List String) (e : String) (rest : List Tok) (hv : ∀ c ∈ cs, validId c = true) :
    parseQualTail (printPathTail cs ++ .dcolon :: .str e :: rest) = some (cs, e, rest) := by
  induction cs with
  | nil => simp [printPathTail, parseQualTail]
  | cons c cs ih =>
    have hc := hv c (by simp)
    have ih' := ih (fun x hx => hv x (by simp [hx]))
    simp [printPathTail, parseQualTail, hc, ih']

/-- what the Cedar syntax can say about a parent: its type is always written (`Action` when absent) -/
def normActRef (r : ActRef) : ActRef := ⟨some (r.ty.getD actionTy), r.id⟩

def WFRef (r : ActRef) : Prop := ∀ q, r.ty = some q → ∀ c ∈ q.comps, validId c = true

theorem parseQualName_print (r : ActRef) (rest : List Tok) (hv : WFRef r) :
    parseQualName (printActRef r ++ rest) = some (normActRef r, rest) := by
  have hvq : ∀ c ∈ (r.ty.getD actionTy).comps, validId c = true := by
    cases hty : r.ty with
    | none => decide
    | some q => exact hv q hty
  simp only [printActRef, normActRef]
  generalize r.ty.getD actionTy = q at hvq ⊢
  obtain ⟨s, cs, hc, hp, hq⟩ := printName_eq q
  rw [hc] at hvq
  have hq' := parseQualTail_print cs r.id rest (fun c h => hvq c (List.mem_cons_of_mem _ h))
  rw [hp, ← hq]
  cases cs with
  | nil => simp [printPathTail, parseQualName, parseQualTail, hvq s (by simp), QName.ofComps]
  | cons c cs =>
    simp only [printPathTail, List.cons_append, List.append_assoc, List.nil_append] at hq' ⊢
    simp only [parseQualName, hvq s (by simp), if_true, hq']
theorem parseQualNamesTail_print (rs : List ActRef) (fuel : Nat) (rest : List Tok) (hne : rs ≠ []) (hf : rs.length ≤ fuel)
    (hv : ∀ r ∈ rs, WFRef r) :
    parseQualNamesTail fuel (printActRefs rs ++ tRbrack :: rest) = some (rs.map normActRef, rest) := by
  induction rs generalizing fuel with
  | nil => exact absurd rfl hne
  | cons r rs ih =>
    cases fuel with
    | zero => exact absurd hf (Nat.not_succ_le_zero _)
    | succ fuel =>
      cases rs with
      | nil =>
        have := parseQualName_print r (tRbrack :: rest) (hv r (by simp))
        simp only [tRbrack] at this
        simp only [printActRefs, parseQualNamesTail, tRbrack, this]
        simp
      | cons r2 more =>
        have ih := ih fuel (by simp) (Nat.le_of_succ_le_succ hf) (fun x hx => hv x (List.mem_cons_of_mem _ hx))
        have h1 := parseQualName_print r (.comma :: (printActRefs (r2 :: more) ++ tRbrack :: rest)) (hv r (by simp))
        simp only [printActRefs, List.append_assoc, List.cons_append]
        simp only [parseQualNamesTail, h1, ih]
        simp

/-- `Some([])` and `None` both print nothing -/
def normParents : Option (List ActRef) → Option (List ActRef)
  | some (p :: ps) => some ((p :: ps).map normActRef)
  | _ => none

theorem parseParentsPart_print (m : Option (List ActRef)) (fuel : Nat) (R : List Tok)
    (hv : ∀ l, m = some l → ∀ r ∈ l, WFRef r) (hf : ∀ l, m = some l → l.length ≤ fuel)
    (hR : StartsWith [.id "appliesTo", tSemi] R) :
    parseParentsPart fuel (printParentsPart m ++ R) = some (normParents m, R) := by
  have hnone : parseParentsPart fuel R = some (none, R) := by
    obtain ⟨t, tl, rfl, ht⟩ := hR
    simp only [List.mem_cons, List.not_mem_nil, or_false] at ht
    rcases ht with rfl | rfl <;> simp [parseParentsPart, tSemi]
  rcases m with _ | _ | ⟨p, ps⟩
  · exact hnone
  · exact hnone
  · have h := parseQualNamesTail_print (p :: ps) fuel R (by simp) (hf _ rfl) (hv _ rfl)
    simp only [printParentsPart, List.cons_append, List.append_assoc, List.nil_append, parseParentsPart, tLbrack, normParents]
    rw [h]

/-- a context the Cedar syntax can write: a record or a name (`context: Set<…>` is not in the grammar) -/
def CtxOK (t : TyJson) : Prop := ∀ e, t ≠ .set e

def ctxItemOfC : TyCedar → AppItem
  | .record as => .ctxRec as
  | .ident q => .ctxPath q
  | .set _ => .ctxRec .nil

def ctxItemOf (t : TyJson) : AppItem := ctxItemOfC (toCedar t)

theorem parseAppItem_ctx (ctx : TyJson) (hw : WFJ ctx) (hok : CtxOK ctx) (fuel : Nat) (hf : sizeC (toCedar ctx) ≤ fuel)
    (rest : List Tok) :
    parseAppItem fuel (.id "context" :: .colon :: (printTy ctx ++ .rb :: rest)) = some (ctxItemOf ctx, .rb :: rest) := by
  have hwc := wfc_toCedar ctx hw
  have hc : ∀ e, toCedar ctx ≠ .set e := by
    intro e
    cases ctx <;> simp [toCedar]
    exact absurd rfl (hok _)
  rw [printTy_eq_printC]
  simp only [ctxItemOf]
  generalize toCedar ctx = c at hwc hc hf ⊢
  cases c with
  | set e => exact absurd rfl (hc e)
  | ident q =>
    obtain ⟨s, tl, h1, h2⟩ := parsePath_print q (.rb :: rest) (by simpa [WFC] using hwc) trivial
    simp only [printC]
    rw [h1]
    simp [parseAppItem, h2, ctxItemOfC]
  | record as =>
    have := parseC_print (.record as) hwc fuel (.rb :: rest) hf trivial
    simp only [printC, List.cons_append, List.append_assoc, List.nil_append] at this ⊢
    simp only [parseAppItem, this, ctxItemOfC]

def WFSpec (s : ApplySpecJ) : Prop :=
  (∀ q ∈ s.principals, ∀ c ∈ q.comps, validId c = true) ∧ (∀ q ∈ s.resources, ∀ c ∈ q.comps, validId c = true) ∧
  WFJ s.context ∧ CtxOK s.context

def appItemsOf : Option ApplySpecJ → Option (List AppItem)
  | some ⟨p :: ps, r :: rs, ctx⟩ => some [.pr true (p :: ps), .pr false (r :: rs), ctxItemOf ctx]
  | _ => none

/-- what a context becomes: a record keeps its shape (leaves entity-or-common), a name of any kind (primitive, extension, entity,
common, entity-or-common) is re-read as a MUST-BE-COMMON reference (to_json_schema.rs `convert_context_decl`) -/
def normCtx : TyJson → TyJson
  | .record as => .record (eocFormAttrs as)
  | .set e => .set e
  | .bool => .commonRef (cedarName "Bool")
  | .long => .commonRef (cedarName "Long")
  | .string => .commonRef (cedarName "String")
  | .ext n => .commonRef (cedarName n)
  | .entity n => .commonRef n
  | .entityOrCommon n => .commonRef n
  | .commonRef n => .commonRef n

/-- an `appliesTo` with an empty principal or resource list — or none at all — comes back as the EMPTY `ApplySpec`
(fmt.rs prints nothing: the other list and the context are lost) -/
def normApply : Option ApplySpecJ → ApplySpecJ
  | some ⟨p :: ps, r :: rs, ctx⟩ => ⟨p :: ps, r :: rs, normCtx ctx⟩
  | _ => ⟨[], [], .record .nil⟩

theorem appliesTo_printed_or (a : Option ApplySpecJ) :
    (∃ p ps r rs ctx, a = some ⟨p :: ps, r :: rs, ctx⟩) ∨
    (printAppliesPart a = [] ∧ appItemsOf a = none ∧ normApply a = ⟨[], [], .record .nil⟩) := by
  rcases a with _ | ⟨_ | ⟨p, ps⟩, _ | ⟨r, rs⟩, ctx⟩
  iterate 4 exact Or.inr ⟨rfl, rfl, rfl⟩
  exact Or.inl ⟨p, ps, r, rs, ctx, rfl⟩

theorem parseAppItem_pr (kw : String) (isP : Bool) (hk : kw = "principal" ∧ isP = true ∨ kw = "resource" ∧ isP = false)
    (qs : List QName) (fuel : Nat) (rest : List Tok) (hne : qs ≠ []) (hf : qs.length ≤ fuel)
    (hv : ∀ q ∈ qs, ∀ c ∈ q.comps, validId c = true) :
    parseAppItem fuel (.id kw :: .colon :: tLbrack :: (printNames qs ++ tRbrack :: rest)) = some (.pr isP qs, rest) := by
  have h := parseEntTypes_list qs fuel rest hne hf hv
  rcases hk with ⟨rfl, rfl⟩ | ⟨rfl, rfl⟩ <;> simp only [parseAppItem, h]

theorem parseAppDecls_cons (fuel : Nat) (toks : List Tok) (it : AppItem) (k : String) (r r' : List Tok) (its : List AppItem)
    (h1 : parseAppItem fuel toks = some (it, .comma :: .id k :: r)) (h2 : parseAppDecls fuel (.id k :: r) = some (its, r')) :
    parseAppDecls (fuel + 1) toks = some (it :: its, r') := by
  simp only [parseAppDecls, h1, h2]

theorem parseAppDecls_last (fuel : Nat) (toks : List Tok) (it : AppItem) (r : List Tok)
    (h1 : parseAppItem fuel toks = some (it, .rb :: r)) : parseAppDecls (fuel + 1) toks = some ([it], r) := by
  simp only [parseAppDecls, h1]

theorem parseAppliesPart_print (a : Option ApplySpecJ) (fuel : Nat) (rest : List Tok)
    (hw : ∀ s, a = some s → WFSpec s) (hf : (printAppliesPart a).length ≤ fuel) :
    parseAppliesPart fuel (printAppliesPart a ++ tSemi :: rest) = some (appItemsOf a, tSemi :: rest) := by
  rcases appliesTo_printed_or a with ⟨p, ps, r, rs, ctx, rfl⟩ | ⟨h1, h2, -⟩
  · obtain ⟨hp, hr, hwc, hok⟩ := hw _ rfl
    -- each list needs one unit of fuel per name, the context its nesting depth: all bounded by the tokens printed
    have hlen : ps.length + rs.length + sizeC (toCedar ctx) + 5 ≤ fuel := by
      have h1 := printNames_length (p :: ps)
      have h2 := printNames_length (r :: rs)
      have h3 := sizeC_le_length (toCedar ctx)
      simp only [printAppliesPart, printTy_eq_printC, List.length_cons, List.length_append] at h1 h2 hf
      omega
    clear hf
    obtain ⟨f, rfl⟩ : ∃ f, fuel = f + 3 := ⟨fuel - 3, by omega⟩
    simp only [printAppliesPart, List.cons_append, List.append_assoc, List.nil_append, parseAppliesPart, appItemsOf]
    rw [parseAppDecls_cons (f + 2) _ _ _ _ _ _ (parseAppItem_pr "principal" true (.inl ⟨rfl, rfl⟩) (p :: ps) (f + 2) _ (by simp) (by simp only [List.length_cons]; omega) hp)
      (parseAppDecls_cons (f + 1) _ _ _ _ _ _ (parseAppItem_pr "resource" false (.inr ⟨rfl, rfl⟩) (r :: rs) (f + 1) _ (by simp) (by simp only [List.length_cons]; omega) hr)
        (parseAppDecls_last f _ _ _ (parseAppItem_ctx ctx hwc hok f (by omega) (tSemi :: rest))))]
  · rw [h1, h2]; rfl
def WFAct (a : ActionJ) : Prop :=
  (∀ l, a.memberOf = some l → ∀ r ∈ l, WFRef r) ∧ (∀ s, a.appliesTo = some s → WFSpec s)

def ActionJ.toDecl (name : String) (a : ActionJ) : ActionDeclC := ⟨[name], normParents a.memberOf, appItemsOf a.appliesTo⟩

theorem printActRefs_length (rs : List ActRef) : rs.length ≤ (printActRefs rs).length := by
  induction rs with
  | nil => simp [printActRefs]
  | cons r rs ih =>
    cases rs with
    | nil => simp [printActRefs, printActRef]
    | cons r2 more =>
      simp only [printActRefs, printActRef, List.length_append, List.length_cons] at ih ⊢
      omega

theorem startsWith_applies (a : Option ApplySpecJ) (rest : List Tok) :
    StartsWith [.id "appliesTo", tSemi] (printAppliesPart a ++ tSemi :: rest) := by
  rcases appliesTo_printed_or a with ⟨p, ps, r, rs, ctx, rfl⟩ | ⟨h1, -, -⟩
  · exact ⟨.id "appliesTo", _, rfl, List.mem_cons_self ..⟩
  · exact ⟨tSemi, rest, by rw [h1]; rfl, List.mem_cons_of_mem _ (List.mem_cons_self ..)⟩

theorem parentsCont_noComma (m : Option (List ActRef)) (R : List Tok) (hR : StartsWith [.id "appliesTo", tSemi] R) :
    NoComma (printParentsPart m ++ R) := by
  rcases m with _ | _ | ⟨p, ps⟩
  · exact hR.noComma (by decide)
  · exact hR.noComma (by decide)
  · trivial

theorem parseAction_print (name : String) (a : ActionJ) (hw : WFAct a) (fuel : Nat) (hf : (printActionJ name a).length ≤ fuel)
    (rest : List Tok) : parseAction fuel (printActionJ name a ++ rest) = some (a.toDecl name, rest) := by
  obtain ⟨m, ap⟩ := a
  obtain ⟨hwm, hws⟩ := hw
  simp only at hwm hws
  have hR := startsWith_applies ap rest
  simp only [printActionJ, List.length_cons, List.length_append] at hf
  have hf1 : ∀ l, m = some l → l.length ≤ fuel := by
    intro l hl; subst hl
    rcases l with _ | ⟨p, ps⟩
    · exact Nat.zero_le _
    · have := printActRefs_length (p :: ps)
      simp only [printParentsPart, List.length_cons, List.length_append, List.length_nil] at this hf ⊢
      omega
  simp only [printActionJ, List.cons_append, List.append_assoc, List.nil_append, parseAction,
    parseNames_single name _ (parentsCont_noComma m _ hR), parseParentsPart_print m fuel _ hwm hf1 hR,
    parseAppliesPart_print ap fuel rest hws (by omega)]
  simp [tSemi, ActionJ.toDecl]

end Cedar.SchemaSyntax
