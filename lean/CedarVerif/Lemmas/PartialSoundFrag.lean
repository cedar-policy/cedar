import CedarVerif.Lemmas.PartialPolicyAgrees
import CedarVerif.Lemmas.Data
/- Soundness of the first pass of `pinterp` on the fragment `Frag`, by induction on the fragment derivation, and what it gives
   at the policy level. -/
namespace Cedar

/-- the first-pass invariant on `Frag`: values found survive `Value.toExpr`; a residual agrees in the second pass with the
    concrete result.  `nr` is instantiated with `NR e`: under it a residual is not a record literal, so `get_attr`/`has_attr`
    on it do not take the projection arm. -/
def Sound (σ : Mapper) (req : Request) (es : Entities) (env : SlotEnv) (nr : Prop) (y : Result Value) (x : PRes) : Prop :=
  SoundG Value.DRT (fun r y => (nr → NotRecord r) ∧ TypedOK r y ∧
    Means σ (.ofConcrete req) (.ofConcrete es) env r y) y x

theorem sem_toExpr {v : Value} (h : v.DRT) (m : Mapper) (preq : PRequest) (pes : PEntities) (env : SlotEnv) :
    Means m preq pes env v.toExpr (.ok v) := by
  intro n
  rcases h.rt m preq pes env n with h | h <;> rw [h]
  · exact Sem.fuel _
  · exact Sem.val v

theorem applyUnary_DRT {op : UnaryOp} {v w : Value} (h : applyUnary op v = .ok w) : w.DRT :=
  applyUnary_out (fun _ => trivial) (fun _ => trivial) h

theorem applyBinary_DRT {es : Entities} (hstore : StoreDRT es) {op : BinaryOp} {v1 v2 w : Value}
    (h : applyBinary es op v1 v2 = .ok w) : w.DRT :=
  applyBinary_out (fun _ => trivial) (fun _ => trivial) (fun _ u d t w hf hl => (hstore u d hf).2 t w hl) h

theorem getAttrV_DRT {es : Entities} (hstore : StoreDRT es) {attr : String} {v w : Value} (hd : v.DRT)
    (h : Tpe.getAttrV es attr v = .ok w) : w.DRT := by
  cases v with
  | record kvs =>
    simp only [Tpe.getAttrV] at h
    cases hl : lookupKV kvs attr <;> rw [hl] at h <;> cases h
    simp only [Value.DRT] at hd
    exact DRTKVs_lookup hd.2 hl
  | prim p =>
    cases p with
    | entityUID u =>
      simp only [Tpe.getAttrV] at h
      split at h
      · cases h
      · rename_i d hf
        split at h
        · rename_i hl; cases h; exact (hstore u d hf).1 attr _ hl
        · cases h
    | _ => cases h
  | _ => cases h

theorem hasAttrV_DRT {es : Entities} {attr : String} {v w : Value} (h : Tpe.hasAttrV es attr v = .ok w) : w.DRT := by
  cases v with
  | record kvs => cases h; trivial
  | prim p =>
    cases p with
    | entityUID u => simp only [Tpe.hasAttrV] at h; split at h <;> (cases h; trivial)
    | _ => cases h
  | _ => cases h

theorem ofCollect_toExprList (f : Expr → PRes) (ws : List Value)
    (h : ∀ w, w ∈ ws → f w.toExpr = .fuel ∨ f w.toExpr = .val w) (k : List Value → PRes) (g : List Expr → PRes) :
    PRes.ofCollect (collectPV f (Value.toExprList ws)) k g = .fuel ∨
    PRes.ofCollect (collectPV f (Value.toExprList ws)) k g = k ws := by
  induction ws generalizing k g with
  | nil => right; rfl
  | cons w ws ih =>
    rw [Value.toExprList, ofCollect_cons]
    rcases h w (List.mem_cons_self ..) with hw | hw <;> rw [hw]
    · left; rfl
    · exact ih (fun w' hw' => h w' (List.mem_cons_of_mem _ hw')) _ _

theorem RT_set {ws : List Value} (h : ∀ w, w ∈ ws → RT w) (hid : Value.mkSet ws = ws) : RT (.set ws) := by
  intro m req es env n
  cases n with
  | zero => left; rfl
  | succ n =>
    rw [Value.toExpr, pinterp_set]
    rcases ofCollect_toExprList (pinterp m req es env n) ws (fun w hw => h w hw m req es env n) _ _ with hc | hc <;> rw [hc]
    · left; rfl
    · right; rw [hid]

theorem RT_record {R : List (String × Value)} (hs : CJson.Sorted (R.map Prod.fst)) (h : ∀ p, p ∈ R → RT p.2) :
    RT (.record R) := by
  intro m req es env n
  cases n with
  | zero => left; rfl
  | succ n =>
    rw [Value.toExpr, pinterp_record, toExprKVs_fst, toExprKVs_snd]
    rcases ofCollect_toExprList (pinterp m req es env n) (R.map (·.2)) (fun w hw => by
      obtain ⟨p, hp, rfl⟩ := List.mem_map.mp hw; exact h p hp m req es env n) _ _ with hc | hc <;> rw [hc]
    · left; rfl
    · right
      rw [← List.zip_of_prod rfl rfl, CJson.foldl_insertKV_sorted R [] hs]; rfl

theorem record_DRT (kvs : List (String × Value)) (h : ∀ p, p ∈ kvs → p.2.DRT) :
    (Value.record (kvs.foldl (fun acc kv => insertKV kv.1 kv.2 acc) [])).DRT := by
  have hs := foldl_insertKV_keys_sorted kvs [] trivial
  have hall : ∀ p, p ∈ kvs.foldl (fun acc kv => insertKV kv.1 kv.2 acc) [] → p.2.DRT := by
    intro p hp
    rcases foldl_insertKV_mem kvs [] p hp with h' | h'
    · cases h'
    · exact h p h'
  simp only [Value.DRT]
  exact ⟨RT_record hs (fun p hp => (hall p hp).rt), (DRTKVs_iff _).mpr hall⟩

theorem RT_emptyRecord : RT (.record []) := RT_record trivial nofun

section
variable {σ : Mapper} {req : Request} {es : Entities} {env : SlotEnv} {nr : Prop} {y : Result Value}

theorem sound_val {v : Value} (h1 : y = .ok v) (h2 : v.DRT) : Sound σ req es env nr y (.val v) := ⟨h1, h2⟩
theorem sound_err {c : ErrClass} (c' : ErrClass) (h : y = .error c') : Sound σ req es env nr y (.err c) := ⟨c', h⟩
theorem sound_res {r : Expr} (h1 : nr → NotRecord r) (h2 : TypedOK r y)
    (h3 : Means σ (.ofConcrete req) (.ofConcrete es) env r y) : Sound σ req es env nr y (.res r) := ⟨h1, h2, h3⟩
theorem sound_fuel : Sound σ req es env nr y .fuel := True.intro

/-- without fuel the outcome is `fuel`, which is sound for anything: only positive budgets need an argument -/
theorem Sound.step {m0 : Mapper} {preq : PRequest} {pes : PEntities} {e : Expr}
    (h : ∀ n, Sound σ req es env nr y (pinterp m0 preq pes env (n + 1) e)) :
    ∀ n, Sound σ req es env nr y (pinterp m0 preq pes env n e)
  | 0 => by rw [pinterp_zero]; exact sound_fuel
  | n + 1 => h n

def Compound : Expr → Prop
  | .record _ => False
  | .unknown _ _ => False
  | _ => True

theorem sound_compound {r : Expr} (hr : Compound r)
    (h3 : Means σ (.ofConcrete req) (.ofConcrete es) env r y) : Sound σ req es env nr y (.res r) :=
  ⟨fun _ => by cases r <;> first | trivial | exact hr, fun _ _ h => by subst h; exact hr.elim, h3⟩

theorem sound_ofResult (h : ∀ w, y = .ok w → w.DRT) : Sound σ req es env nr y (PRes.ofResult y) := SoundG.ofResult h

theorem Sound.mono {nr' : Prop} {x : PRes} (hn : nr' → nr) (h : Sound σ req es env nr y x) : Sound σ req es env nr' y x :=
  SoundG.mono h (fun _ _ hd => hd) fun _ hr => ⟨fun h' => hr.1 (hn h'), hr.2⟩

theorem sound_bestEffort {b : Expr} (hfb : Frag b)
    (ih : ∀ (m0 : Mapper) (preq : PRequest) (n : Nat), Concretizes σ preq req →
      Sound σ req es env (NR b) (evaluate req es env b) (pinterp m0 preq (.ofConcrete es) env n b))
    {xb : PRes} (hs : Sound σ req es env nr (evaluate req es env b) xb) {nr' : Prop} {y' : Result Value} {k : Expr → PRes}
    (hk : ∀ X, (Means σ (.ofConcrete req) (.ofConcrete es) env X (evaluate req es env b)) →
      Sound σ req es env nr' y' (k X)) : Sound σ req es env nr' y' (bestEffort xb b k) := by
  refine SoundG.bestEffort hs (fun v h1 h2 => by rw [h1]; exact sem_toExpr h2 _ _ _ _) (fun r hr => hr.2.2)
    (fun c' hc' n' => ?_) hk
  -- the second pass interprets `b` again, on the concrete request: no residual, and an error by soundness
  have h2 := ih σ (.ofConcrete req) n' (concretizes_ofConcrete σ req)
  have h3 := hfb.noRes req es env σ n'
  cases hx : pinterp σ (.ofConcrete req) (.ofConcrete es) env n' b with
  | val v => rw [hx, hc'] at h2; cases h2.1
  | err c2 => rw [hc']; exact Sem.err _ _
  | res r => exact (h3 r hx).elim
  | fuel => exact Sem.fuel _
  | panic => exact Sem.panic _

theorem Sound.ofCollect' {go : Expr → PRes} {xs : List Expr} {nr' : Prop} {y' : Result Value}
    (h : ∀ x, x ∈ xs → Sound σ req es env (NR x) (evaluate req es env x) (go x))
    {k : List Value → PRes} {g : List Expr → PRes}
    (hk : ∀ vs, evaluateList req es env xs = .ok vs → (∀ v, v ∈ vs → v.DRT) → Sound σ req es env nr' y' (k vs))
    (he : ∀ c, evaluateList req es env xs = .error c → ∃ c', y' = .error c')
    (hg : ∀ rs, ListRel (fun r x => Means σ (.ofConcrete req) (.ofConcrete es) env r (evaluate req es env x))
      rs xs → Sound σ req es env nr' y' (g rs)) :
    Sound σ req es env nr' y' (.ofCollect (collectPV go xs) k g) := by
  rw [evaluateList_eq_collectR] at hk he
  exact SoundG.ofCollect' (fun x v hv hd => by rw [hv]; exact sem_toExpr hd _ _ _ _) h (fun x r _ hr => hr.2.2) hk he hg

theorem Sound.ofCollect {go : Expr → PRes} {xs : List Expr} {nr' : Prop}
    (h : ∀ x, x ∈ xs → Sound σ req es env (NR x) (evaluate req es env x) (go x))
    {k : List Value → PRes} {g : List Expr → PRes} {k' : List Value → Result Value}
    (hk : ∀ vs, (∀ v, v ∈ vs → v.DRT) → Sound σ req es env nr' (k' vs) (k vs))
    (hg : ∀ rs, ListRel (fun r x => Means σ (.ofConcrete req) (.ofConcrete es) env r (evaluate req es env x))
      rs xs → Sound σ req es env nr' (listR (evaluateList req es env xs) k') (g rs)) :
    Sound σ req es env nr' (listR (evaluateList req es env xs) k') (.ofCollect (collectPV go xs) k g) :=
  Sound.ofCollect' h (fun vs hvs hds => by rw [hvs]; exact hk vs hds) (fun c hc => ⟨c, by rw [hc]; rfl⟩) hg

end

section
variable (σ : Mapper) (req : Request) (es : Entities) (env : SlotEnv)

theorem sound_var {nr : Prop} (hctx : (Value.record req.context).DRT) (v : Var) (m0 : Mapper) (preq : PRequest) (n : Nat)
    (hC : Concretizes σ preq req) :
    Sound σ req es env nr (evaluate req es env (.var v)) (pinterp m0 preq (.ofConcrete es) env n (.var v)) := by
  cases n with
  | zero => exact sound_fuel
  | succ n =>
    have entry : ∀ (en : UidEntry) (key : String) (uid : EntityUID), en.Conc σ key uid →
        Sound σ req es env nr (.ok (.prim (.entityUID uid))) (en.eval key) := by
      intro en key uid h
      cases en with
      | known u => simp only [UidEntry.Conc] at h; subst h; exact sound_val rfl trivial
      | unknown ty =>
        cases ty with
        | none =>
          simp only [UidEntry.Conc] at h
          exact sound_res (fun _ => trivial) nofun (sem_unknown h nofun)
        | some t =>
          simp only [UidEntry.Conc] at h
          refine sound_res (fun _ => trivial) ?_ (sem_unknown h.1 ?_)
          · intro name t' hh; cases hh; exact ⟨uid, rfl, h.2⟩
          · intro t' ht; cases ht; exact congrArg TyAnn.entity h.2
    cases v with
    | principal => exact entry _ _ _ hC.principal
    | action => exact entry _ _ _ hC.action
    | resource => exact entry _ _ _ hC.resource
    | context =>
      have hc := hC.context
      simp only [pinterp, evaluate]
      cases hpc : preq.context with
      | none =>
        rw [hpc] at hc
        exact sound_res (fun _ => trivial) (fun _ _ hh => by cases hh) (sem_unknown hc nofun)
      | some c =>
        cases c with
        | value kvs => rw [hpc] at hc; simp only at hc; subst hc; exact sound_val rfl hctx
        | residual kvs => rw [hpc] at hc; exact hc.elim

theorem pinterp_sound_frag (hctx : (Value.record req.context).DRT) (hstore : StoreDRT es) {e : Expr} (hf : Frag e) :
    ∀ (m0 : Mapper) (preq : PRequest) (n : Nat), Concretizes σ preq req →
      Sound σ req es env (NR e) (evaluate req es env e) (pinterp m0 preq (.ofConcrete es) env n e) := by
  induction hf with
  | lit p => intro m0 preq n hC; exact Sound.step (fun n => sound_val (v := .prim p) rfl trivial) n
  | var v => intro m0 preq n hC; exact sound_var σ req es env hctx v m0 preq n hC
  | slot s =>
    intro m0 preq n hC
    refine Sound.step (fun n => ?_) n
    simp only [pinterp, evaluate]
    cases env.lookup s with
    | none => exact sound_err .slot rfl
    | some u => exact sound_val rfl trivial
  | @and a b hfa hfb iha ihb =>
    intro m0 preq n hC
    refine Sound.step (fun n => ?_) n
    have sb := ihb m0 preq n hC
    rw [pinterp_and, evaluate_and, andR_eq]
    refine (iha m0 preq n hC).bind (fun v _ => SoundG.iteV ?_ (sound_val rfl trivial)) (fun l sa => ?_)
    · exact sb.bind (fun w _ => SoundG.boolV fun _ => trivial) fun rb sb' =>
        sound_compound trivial (sem_and (y1 := .ok (.prim (.bool true))) (sem_lit _ _ _ _ _) sb'.2.2)
    · exact sound_bestEffort hfb ihb sb fun X hX => sound_compound trivial (andR_eq _ _ ▸ sem_and sa.2.2 hX)
  | @or a b hfa hfb iha ihb =>
    intro m0 preq n hC
    refine Sound.step (fun n => ?_) n
    have sb := ihb m0 preq n hC
    rw [pinterp_or, evaluate_or, orR_eq]
    refine (iha m0 preq n hC).bind (fun v _ => SoundG.iteV (sound_val rfl trivial) ?_) (fun l sa => ?_)
    · exact sb.bind (fun w _ => SoundG.boolV fun _ => trivial) fun rb sb' =>
        sound_compound trivial (sem_or (y1 := .ok (.prim (.bool false))) (sem_lit _ _ _ _ _) sb'.2.2)
    · exact sound_bestEffort hfb ihb sb fun X hX => sound_compound trivial (orR_eq _ _ ▸ sem_or sa.2.2 hX)
  | @ite c t e hfc hft hfe ihc iht ihe =>
    intro m0 preq n hC
    refine Sound.step (fun n => ?_) n
    have st := iht m0 preq n hC
    have se := ihe m0 preq n hC
    rw [pinterp_ite, evaluate_ite, iteR_eq]
    refine (ihc m0 preq n hC).bind (fun v _ => SoundG.iteV (st.mono fun h => h.1) (se.mono fun h => h.2)) (fun g sc => ?_)
    exact sound_bestEffort hft iht st fun T hT => sound_bestEffort hfe ihe se fun E hE =>
      sound_compound trivial (iteR_eq _ _ _ ▸ sem_ite sc.2.2 hT hE)
  | @unaryApp op a hfa iha =>
    intro m0 preq n hC
    refine Sound.step (fun n => ?_) n
    rw [pinterp_unary, evaluate_unary]
    exact (iha m0 preq n hC).bind (fun v _ => sound_ofResult fun w hw => applyUnary_DRT hw)
      fun l sa => sound_compound trivial (sem_unary op sa.2.2)
  | @binaryApp op a b hfa hfb iha ihb =>
    intro m0 preq n hC
    refine Sound.step (fun n => ?_) n
    have sb := ihb m0 preq n hC
    rw [pinterp_binary, evaluate_binary]
    refine (iha m0 preq n hC).bind (fun v1 hd1 => sb.bind (fun v2 _ => ?_) (fun e2 sb' => ?_)) (fun e1 sa => ?_)
    · rw [papplyBinary_ofConcrete]
      exact sound_ofResult fun w hw => applyBinary_DRT hstore hw
    · cases hsc : shortCircuitVR v1 e2 op with
      | some r =>
        obtain ⟨u1, name, t, rfl, rfl, rfl, hne, rfl⟩ := shortCircuitVR_some hsc
        obtain ⟨u, hu, hty⟩ := sb'.2.1 name t rfl
        have hbq := beq_uid_ne (u1 := u1) (u2 := u) (fun h => hne (h.trans hty))
        exact sound_val (by rw [hu]; simp [Tpe.bindR, applyBinary, hbq]) trivial
      | none => exact sound_compound trivial (sem_binary op (sem_toExpr hd1 _ _ _ _) sb'.2.2)
    · refine sb.bind' (fun v2 hevb hd2 => ?_)
        (fun c hc => by rw [hc]; cases evaluate req es env a <;> exact ⟨_, rfl⟩) (fun e2 sb' => ?_)
      · cases hsc : shortCircuitRV e1 v2 op with
        | some r =>
          obtain ⟨u2, name, t, rfl, rfl, rfl, hne, rfl⟩ := shortCircuitRV_some hsc
          obtain ⟨u, hu, hty⟩ := sa.2.1 name t rfl
          have hbq := beq_uid_ne (u1 := u) (u2 := u2) (fun h => hne (h ▸ hty))
          exact sound_val (by rw [hu, hevb]; simp [Tpe.bindR, applyBinary, hbq]) trivial
        | none =>
          exact sound_compound trivial (sem_binary op sa.2.2 (by rw [hevb]; exact sem_toExpr hd2 _ _ _ _))
      · cases hsc : shortCircuitRR e1 e2 op with
        | some r =>
          obtain ⟨n1, t1, n2, t2, rfl, rfl, rfl, hne, rfl⟩ := shortCircuitRR_some hsc
          obtain ⟨ua, hua, htya⟩ := sa.2.1 n1 t1 rfl
          obtain ⟨ub, hub, htyb⟩ := sb'.2.1 n2 t2 rfl
          have hbq := beq_uid_ne (u1 := ua) (u2 := ub) (by rw [htya, htyb]; exact hne)
          exact sound_val (by rw [hua, hub]; simp [Tpe.bindR, applyBinary, hbq]) trivial
        | none => exact sound_compound trivial (sem_binary op sa.2.2 sb'.2.2)
  | @getAttr e attr hnr hfe ihe =>
    intro m0 preq n hC
    refine Sound.step (fun n => ?_) n
    rw [pinterp_getAttr, evaluate_getAttr]
    refine (ihe m0 preq n hC).bind (fun v hd => ?_) (fun r se => ?_)
    · rw [getAttrVal_ofConcrete]
      exact sound_ofResult fun w hw => getAttrV_DRT hstore hd hw
    · split
      · exact (se.1 hnr).elim
      · exact sound_compound trivial (sem_getAttr attr se.2.2)
  | @hasAttr e attr hnr hfe ihe =>
    intro m0 preq n hC
    refine Sound.step (fun n => ?_) n
    rw [pinterp_hasAttr, evaluate_hasAttr]
    refine (ihe m0 preq n hC).bind (fun v hd => ?_) (fun r se => ?_)
    · rw [hasAttrVal_ofConcrete]
      exact sound_ofResult fun w hw => hasAttrV_DRT hw
    · split
      · exact (se.1 hnr).elim
      · exact sound_compound trivial (sem_hasAttr attr se.2.2)
  | @like e p hfe ihe =>
    intro m0 preq n hC
    refine Sound.step (fun n => ?_) n
    rw [pinterp_like, evaluate_like]
    refine (ihe m0 preq n hC).bind (fun v _ => ?_) fun r se => sound_compound trivial (sem_like p se.2.2)
    unfold Tpe.likeV
    cases v.asString with
    | error c => exact sound_err c rfl
    | ok s => exact sound_val rfl trivial
  | @is e ty hfe ihe =>
    intro m0 preq n hC
    refine Sound.step (fun n => ?_) n
    rw [pinterp_is, evaluate_is]
    refine (ihe m0 preq n hC).bind (fun v _ => ?_) (fun r se => ?_)
    · unfold Tpe.isV
      cases v.asEntity with
      | error c => exact sound_err c rfl
      | ok u => exact sound_val rfl trivial
    · split
      · rename_i name t
        obtain ⟨u, hu, hty⟩ := se.2.1 name t rfl
        exact sound_val (by rw [hu]; simp [Tpe.bindR, Tpe.isV, Value.asEntity, hty]) trivial
      · exact sound_compound trivial (sem_is ty se.2.2)
  | @set xs hxs ih =>
    intro m0 preq n hC
    refine Sound.step (fun n => ?_) n
    rw [pinterp_set, evaluate_set]
    refine Sound.ofCollect (fun x hx => ih x hx m0 preq n hC) (fun vs hd => sound_val rfl ?_)
      fun rs hrs => sound_compound trivial (sem_set hrs)
    simp only [Value.DRT]
    exact RT_set (fun w hw => (hd w (mem_mkSet hw)).rt) (mkSet_idem vs)
  | @call fn args hfn hdrt hxs ih =>
    intro m0 preq n hC
    refine Sound.step (fun n => ?_) n
    rw [pinterp_call, evaluate_call]
    refine Sound.ofCollect (fun x hx => ih x hx m0 preq n hC) (fun vs _ => ?_)
      fun rs hrs => sound_compound trivial (sem_call hfn hrs)
    rw [pcallExt_ne_unknown hfn]
    exact sound_ofResult fun w hw => hdrt vs w hw
  | @record kvs hkvs ih =>
    intro m0 preq n hC
    refine Sound.step (fun n => ?_) n
    rw [pinterp_record, evaluate_record_unzip]
    refine Sound.ofCollect (fun x hx => ?_)
      (fun vs hd => sound_val rfl (record_DRT _ fun p hp => hd p.2 (List.of_mem_zip hp).2))
      fun rs hrs => sound_res (fun h => h.elim) nofun (sem_record hrs)
    obtain ⟨kv, hkv, rfl⟩ := List.mem_map.mp hx
    exact ih kv hkv m0 preq n hC

end

theorem policyAgrees_of_frag (σ : Mapper) (req : Request) (es : Entities) (hctx : (Value.record req.context).DRT)
    (hstore : StoreDRT es) (preq : PRequest) (hC : Concretizes σ preq req) (p : Policy) (henv : p.env = [])
    (hf : Frag p.condition)
    (hns2 : ∀ q, residualPolicy (partialEvaluate [] preq (.ofConcrete es) p) p = some q →
      partialEvaluate σ (.ofConcrete req) (.ofConcrete es) q ≠ .stuck)
    (hns1 : partialEvaluate [] preq (.ofConcrete es) p ≠ .stuck) :
    PolicyAgrees σ preq (.ofConcrete es) req es p :=
  policyAgreesOn_of_soundG σ req es _ preq _ p
    (SoundG.mono (pinterp_sound_frag σ req es p.env hctx hstore hf [] preq defaultFuel hC) (fun _ _ h => h)
      fun r hr => by rw [henv] at hr ⊢; exact hr.2.2) hns2 hns1

end Cedar
