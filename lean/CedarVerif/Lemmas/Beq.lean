import CedarVerif.Cedar.Data
/- `Value.beq` is an equivalence relation; `elem`/`subset` characterised by membership modulo `beq`. -/
namespace Cedar

theorem Value.elem_iff (v : Value) (ws : List Value) :
    Value.elem v ws = true ↔ ∃ w, w ∈ ws ∧ Value.beq v w = true := by
  induction ws with
  | nil => simp [Value.elem]
  | cons w ws ih =>
    rw [Value.elem]
    simp only [Bool.or_eq_true, ih, List.mem_cons]
    constructor
    · rintro (h | ⟨x, hx, hb⟩)
      · exact ⟨w, Or.inl rfl, h⟩
      · exact ⟨x, Or.inr hx, hb⟩
    · rintro ⟨x, (rfl | hx), hb⟩
      · exact Or.inl hb
      · exact Or.inr ⟨x, hx, hb⟩

theorem Value.subset_iff (as bs : List Value) :
    Value.subset as bs = true ↔ ∀ a, a ∈ as → Value.elem a bs = true := by
  induction as with
  | nil => simp [Value.subset]
  | cons a as ih =>
    rw [Value.subset]
    simp only [Bool.and_eq_true, ih, List.mem_cons]
    constructor
    · rintro ⟨h1, h2⟩ x (rfl | hx)
      · exact h1
      · exact h2 x hx
    · intro h
      exact ⟨h a (Or.inl rfl), fun x hx => h x (Or.inr hx)⟩

theorem Value.size_mem {v : Value} {vs : List Value} (h : v ∈ vs) : v.size < 1 + Value.sizeList vs := by
  induction vs with
  | nil => cases h
  | cons w ws ih =>
    simp only [List.mem_cons] at h
    simp only [Value.sizeList]
    rcases h with rfl | h
    · omega
    · have := ih h; omega

/- `Value` is nested through `List Value`, so the three laws of `beq` go by induction on a bound `n` for the sizes involved
   (`…_le`); the laws themselves are `Value.beq_rfl`, `Value.beq_comm`, `Value.beq_trans`. -/
theorem Value.beq_refl_le : ∀ (n : Nat) (v : Value), v.size ≤ n → Value.beq v v = true := by
  intro n
  induction n with
  | zero =>
    intro v h
    cases v <;> simp [Value.size] at h
  | succ n ih =>
    intro v h
    cases v with
    | prim p => simp [Value.beq]
    | ext x => simp [Value.beq]
    | set vs =>
      rw [Value.beq]
      simp only [Bool.and_self, Value.subset_iff]
      intro a ha
      rw [Value.elem_iff]
      refine ⟨a, ha, ih a ?_⟩
      have := Value.size_mem ha
      simp only [Value.size] at h
      omega
    | record kvs =>
      rw [Value.beq]
      simp only [Value.size] at h
      have : ∀ (kvs : List (String × Value)), Value.sizeKVs kvs ≤ n → Value.beqKVs kvs kvs = true := by
        intro kvs
        induction kvs with
        | nil => intro _; simp [Value.beqKVs]
        | cons kv kvs ih2 =>
          obtain ⟨k, v⟩ := kv
          intro hs
          simp only [Value.sizeKVs] at hs
          rw [Value.beqKVs]
          simp only [beq_self_eq_true, Bool.true_and, Bool.and_eq_true]
          exact ⟨ih v (by omega), ih2 (by omega)⟩
      exact this kvs (by omega)

theorem Value.beq_rfl (v : Value) : Value.beq v v = true := Value.beq_refl_le v.size v (Nat.le_refl _)

theorem Value.beq_symm_le : ∀ (n : Nat) (a b : Value), a.size ≤ n → Value.beq a b = Value.beq b a := by
  intro n
  induction n with
  | zero => intro a b h; cases a <;> simp [Value.size] at h
  | succ n ih =>
    intro a b h
    cases a with
    | prim p =>
      cases b <;> simp only [Value.beq]
      rw [Bool.eq_iff_iff]; simp only [beq_iff_eq]; exact eq_comm
    | ext x =>
      cases b <;> simp only [Value.beq]
      rw [Bool.eq_iff_iff]; simp only [beq_iff_eq]; exact eq_comm
    | set vs =>
      cases b <;> simp [Value.beq]
      rw [Bool.and_comm]
    | record kvs =>
      cases b with
      | record kvs' =>
        rw [Value.beq, Value.beq]
        simp only [Value.size] at h
        have : ∀ (xs ys : List (String × Value)), Value.sizeKVs xs ≤ n →
            Value.beqKVs xs ys = Value.beqKVs ys xs := by
          intro xs
          induction xs with
          | nil => intro ys _; cases ys <;> simp [Value.beqKVs]
          | cons kv xs ih2 =>
            obtain ⟨k, v⟩ := kv
            intro ys hs
            cases ys with
            | nil => simp [Value.beqKVs]
            | cons kv' ys =>
              obtain ⟨k', v'⟩ := kv'
              simp only [Value.sizeKVs] at hs
              rw [Value.beqKVs, Value.beqKVs, ih v v' (by omega), ih2 ys (by omega)]
              have hk : (k == k') = (k' == k) := by rw [Bool.eq_iff_iff]; simp only [beq_iff_eq]; exact eq_comm
              rw [hk]
        exact this kvs kvs' (by omega)
      | _ => simp [Value.beq]

theorem Value.beq_comm (a b : Value) : Value.beq a b = Value.beq b a := Value.beq_symm_le a.size a b (Nat.le_refl _)

theorem Value.beq_trans_le : ∀ (n : Nat) (a b c : Value), a.size + b.size + c.size ≤ n →
    Value.beq a b = true → Value.beq b c = true → Value.beq a c = true := by
  intro n
  induction n with
  | zero => intro a b c h; cases a <;> simp [Value.size] at h
  | succ n ih =>
    intro a b c h hab hbc
    cases a with
    | prim p =>
      cases b <;> simp [Value.beq] at hab
      cases c <;> simp [Value.beq] at hbc
      simp [Value.beq, hab, hbc]
    | ext x =>
      cases b <;> simp [Value.beq] at hab
      cases c <;> simp [Value.beq] at hbc
      simp [Value.beq, hab, hbc]
    | set as =>
      cases b with
      | set bs =>
        cases c with
        | set cs =>
          rw [Value.beq] at hab hbc ⊢
          simp only [Bool.and_eq_true, Value.subset_iff] at hab hbc ⊢
          simp only [Value.size] at h
          have key : ∀ (xs ys zs : List Value), Value.sizeList xs + Value.sizeList ys + Value.sizeList zs ≤ n →
              (∀ a, a ∈ xs → Value.elem a ys = true) → (∀ a, a ∈ ys → Value.elem a zs = true) →
              ∀ a, a ∈ xs → Value.elem a zs = true := by
            intro xs ys zs hs h1 h2 a ha
            obtain ⟨b, hb, hab'⟩ := (Value.elem_iff _ _).mp (h1 a ha)
            obtain ⟨c, hc, hbc'⟩ := (Value.elem_iff _ _).mp (h2 b hb)
            refine (Value.elem_iff _ _).mpr ⟨c, hc, ih a b c ?_ hab' hbc'⟩
            have := Value.size_mem ha; have := Value.size_mem hb; have := Value.size_mem hc
            omega
          exact ⟨key as bs cs (by omega) hab.1 hbc.1, key cs bs as (by omega) hbc.2 hab.2⟩
        | _ => simp [Value.beq] at hbc
      | _ => simp [Value.beq] at hab
    | record as =>
      cases b with
      | record bs =>
        cases c with
        | record cs =>
          rw [Value.beq] at hab hbc ⊢
          simp only [Value.size] at h
          have key : ∀ (xs ys zs : List (String × Value)),
              Value.sizeKVs xs + Value.sizeKVs ys + Value.sizeKVs zs ≤ n →
              Value.beqKVs xs ys = true → Value.beqKVs ys zs = true → Value.beqKVs xs zs = true := by
            intro xs
            induction xs with
            | nil =>
              intro ys zs _ h1 h2
              cases ys with
              | nil => exact h2
              | cons _ _ => simp [Value.beqKVs] at h1
            | cons kv xs ih2 =>
              obtain ⟨k, v⟩ := kv
              intro ys zs hs h1 h2
              cases ys with
              | nil => simp [Value.beqKVs] at h1
              | cons kv' ys =>
                obtain ⟨k', v'⟩ := kv'
                cases zs with
                | nil => simp [Value.beqKVs] at h2
                | cons kv'' zs =>
                  obtain ⟨k'', v''⟩ := kv''
                  rw [Value.beqKVs] at h1 h2 ⊢
                  simp only [Bool.and_eq_true, beq_iff_eq] at h1 h2 ⊢
                  simp only [Value.sizeKVs] at hs
                  refine ⟨⟨h1.1.1.trans h2.1.1, ih v v' v'' (by omega) h1.1.2 h2.1.2⟩,
                    ih2 ys zs (by omega) h1.2 h2.2⟩
          exact key as bs cs (by omega) hab hbc
        | _ => simp [Value.beq] at hbc
      | _ => simp [Value.beq] at hab

theorem Value.beq_trans {a b c : Value} (hab : Value.beq a b = true) (hbc : Value.beq b c = true) : Value.beq a c = true :=
  Value.beq_trans_le _ a b c (Nat.le_refl _) hab hbc

#print axioms Value.beq_trans

theorem Value.beq_prim_eq {p : Prim} {v : Value} (h : Value.beq (.prim p) v = true) : v = .prim p := by
  cases v <;> simp [Value.beq] at h
  rw [h]

theorem Value.beq_prim (p q : Prim) : Value.beq (.prim p) (.prim q) = (p == q) := by simp [Value.beq]

theorem Value.beq_prim_nonprim (p : Prim) (v : Value) (h : ∀ q, v ≠ .prim q) : Value.beq v (.prim p) = false := by
  cases v with
  | prim q => exact absurd rfl (h q)
  | _ => simp [Value.beq]

end Cedar
