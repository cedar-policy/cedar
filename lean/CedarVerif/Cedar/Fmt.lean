/-
Model of the Cedar policy formatter (cedar-policy-formatter/src/pprint/{lexer,token,utils,doc,fmt}.rs) — C12.
Import-free, total, computable.

  §1  mirror of the formatter's lexer (`token.rs`, logos rules) and of the comment-attachment rule of
      `lexer.rs::get_token_stream` (text between two tokens is split at its first '\n': the part before is the
      *trailing* comment of the left token, the comments of the part after are the *leading* comments of the
      right token; what follows the first '\n' after the last token are the end-of-file comments).
      Checked against the real lexer by the driver op `(fmt-tokens "text")` on every generated text.
  §2  an abstract document algebra (`nil | text | space | line | softline | hardline | nest | group | cat`)
      with a Wadler-style renderer `render w` (worklist formulation, `fits` as in Wadler / the `pretty` crate);
      the renderer is parameterised by an arbitrary *chooser* of flat/break per group (`bestWith`), `render w`
      is the instance `fits w`.
  §3  the wrapped-token → doc rule of `utils.rs::add_comment`, a core of the expression CST with *resolved*
      tokens (each terminal carries the wrapped token that the span lookup of `utils.rs` finds for it) and the
      mirror `toDocFixed` of `doc.rs` for that core, including the way `doc.rs` treats a trailing comma
      (`Comma<E>` of the grammar): the comma token is not emitted, its comments are (`get_trailing_comma_comment`,
      /repo commit e8fc4bb).  `toDoc` is `doc.rs` before that commit: nobody fetches the comments of the dropped comma.
  §4  the policy level with resolved tokens: `Annotation`, `VariableDef` (`is` type, `==`/`in` constraint), `Cond`
      (`when`/`unless` with braces, hoisting of the body's leading comments), `Policy` (scope with its commas, the
      trailing comma whose comments are kept since /repo commit e8fc4bb, the bare / constrained scope layouts) —
      `policyToDoc` — and the joining of policies + end-of-file comments of fmt.rs (`renderPolicies`).
-/
namespace Cedar.Fmt

/-! ## §1 lexer mirror -/

/-- Unicode `White_Space` (what `\s` of the regex/logos crates and `str::trim` use) -/
def isWs (c : Char) : Bool :=
  let n := c.toNat
  (9 ≤ n && n ≤ 13) || n == 32 || n == 0x85 || n == 0xA0 || n == 0x1680 || (0x2000 ≤ n && n ≤ 0x200A)
    || n == 0x2028 || n == 0x2029 || n == 0x202F || n == 0x205F || n == 0x3000

def isDigit (c : Char) : Bool := '0' ≤ c && c ≤ '9'
def isIdStart (c : Char) : Bool := c == '_' || ('a' ≤ c && c ≤ 'z') || ('A' ≤ c && c ≤ 'Z')
def isIdCont (c : Char) : Bool := isIdStart c || isDigit c
def isEol (c : Char) : Bool := c == '\n' || c == '\r'

structure Tok where
  kind : String
  text : List Char
deriving Repr, DecidableEq

/-- keyword table of `token.rs` (`#[token("…")]` beats the identifier regex on equal length) -/
def keywordKind (s : String) : String :=
  match s with
  | "true" => "True" | "false" => "False" | "if" => "If" | "permit" => "Permit" | "forbid" => "Forbid"
  | "when" => "When" | "unless" => "Unless" | "in" => "In" | "has" => "Has" | "like" => "Like" | "is" => "Is"
  | "then" => "Then" | "else" => "Else" | "principal" => "Principal" | "action" => "Action"
  | "resource" => "Resource" | "context" => "Context"
  | _ => "Identifier"

/-- `span p xs = (longest prefix satisfying p, rest)` -/
def spanChars (p : Char → Bool) : List Char → List Char × List Char
  | [] => ([], [])
  | c :: cs => if p c then let (a, b) := spanChars p cs; (c :: a, b) else ([], c :: cs)

/-- body of a string literal after the opening quote: `(\\.|[^"\\])*"`; `.` does not match '\n'.
    returns (body including the closing quote, rest) -/
def lexStrBody : List Char → Option (List Char × List Char)
  | [] => none
  | '"' :: rest => some (['"'], rest)
  | '\\' :: c :: rest =>
    if c == '\n' then none
    else match lexStrBody rest with
      | some (b, r) => some ('\\' :: c :: b, r)
      | none => none
  | ['\\'] => none
  | c :: rest =>
    match lexStrBody rest with
    | some (b, r) => some (c :: b, r)
    | none => none

def startsWith (p : List Char) (xs : List Char) : Bool := p.isPrefixOf xs

/-- one token at the head of `xs` (which does not start with whitespace or a comment); `none` = lexer error.
    Longest match, as logos does. -/
def lexOne (xs : List Char) : Option (Tok × List Char) :=
  match xs with
  | [] => none
  | '"' :: rest =>
    match lexStrBody rest with
    | some (b, r) => some (⟨"Str", '"' :: b⟩, r)
    | none => none
  | '?' :: rest =>
    if startsWith "principal".toList rest then some (⟨"PrincipalSlot", "?principal".toList⟩, rest.drop 9)
    else if startsWith "resource".toList rest then some (⟨"ResourceSlot", "?resource".toList⟩, rest.drop 8)
    else none
  | '@' :: r => some (⟨"At", ['@']⟩, r)
  | '.' :: r => some (⟨"Dot", ['.']⟩, r)
  | ',' :: r => some (⟨"Comma", [',']⟩, r)
  | ';' :: r => some (⟨"SemiColon", [';']⟩, r)
  | ':' :: ':' :: r => some (⟨"DoubleColon", [':', ':']⟩, r)
  | ':' :: r => some (⟨"Colon", [':']⟩, r)
  | '(' :: r => some (⟨"LParen", ['(']⟩, r)
  | ')' :: r => some (⟨"RParen", [')']⟩, r)
  | '{' :: r => some (⟨"LBrace", ['{']⟩, r)
  | '}' :: r => some (⟨"RBrace", ['}']⟩, r)
  | '[' :: r => some (⟨"LBracket", ['[']⟩, r)
  | ']' :: r => some (⟨"RBracket", [']']⟩, r)
  | '=' :: '=' :: r => some (⟨"Equal", ['=', '=']⟩, r)
  | '!' :: '=' :: r => some (⟨"NotEqual", ['!', '=']⟩, r)
  | '!' :: r => some (⟨"Neg", ['!']⟩, r)
  | '<' :: '=' :: r => some (⟨"Le", ['<', '=']⟩, r)
  | '<' :: r => some (⟨"Lt", ['<']⟩, r)
  | '>' :: '=' :: r => some (⟨"Ge", ['>', '=']⟩, r)
  | '>' :: r => some (⟨"Gt", ['>']⟩, r)
  | '|' :: '|' :: r => some (⟨"Or", ['|', '|']⟩, r)
  | '&' :: '&' :: r => some (⟨"And", ['&', '&']⟩, r)
  | '+' :: r => some (⟨"Add", ['+']⟩, r)
  | '-' :: r => some (⟨"Dash", ['-']⟩, r)
  | '*' :: r => some (⟨"Mul", ['*']⟩, r)
  | '/' :: r => some (⟨"Div", ['/']⟩, r)
  | '%' :: r => some (⟨"Modulo", ['%']⟩, r)
  | c :: r =>
    if isIdStart c then
      let (a, rest) := spanChars isIdCont r
      some (⟨keywordKind (String.ofList (c :: a)), c :: a⟩, rest)
    else if isDigit c then
      let (a, rest) := spanChars isDigit r
      some (⟨"Number", c :: a⟩, rest)
    else none

/-- the skipped text at the head of `xs`: whitespace (`\s+`) and comments (`//[^\n\r]*[\n\r]*`); fuel = length -/
def skipGap : Nat → List Char → List Char × List Char
  | 0, xs => ([], xs)
  | fuel + 1, xs =>
    match xs with
    | '/' :: '/' :: rest =>
      let (body, r1) := spanChars (fun c => !isEol c) rest
      let (eols, r2) := spanChars isEol r1
      let (g, r3) := skipGap fuel r2
      ('/' :: '/' :: (body ++ eols ++ g), r3)
    | c :: rest =>
      if isWs c then
        let (g, r) := skipGap fuel rest
        (c :: g, r)
      else ([], xs)
    | [] => ([], [])

/-- a token together with the skipped text before it -/
structure Raw where
  gap : List Char
  tok : Tok
deriving Repr

/-- all tokens with the gaps before them, and the final gap; `none` = some lexer error (then
    `get_token_stream` returns `None`). fuel = length + 1 -/
def lexAll : Nat → List Char → Option (List Raw × List Char)
  | 0, _ => none
  | fuel + 1, xs =>
    let (g, r) := skipGap (fuel + 1) xs
    match r with
    | [] => some ([], g)
    | _ =>
      match lexOne r with
      | none => none
      | some (t, r') =>
        match lexAll fuel r' with
        | none => none
        | some (ts, fin) => some (⟨g, t⟩ :: ts, fin)

def trimLeft : List Char → List Char
  | [] => []
  | c :: cs => if isWs c then trimLeft cs else c :: cs

def trim (xs : List Char) : List Char := (trimLeft (trimLeft xs).reverse).reverse

/-- `get_comment`: all matches of `//[^\n\r]*`, each trimmed -/
def getComments : Nat → List Char → List (List Char)
  | 0, _ => []
  | fuel + 1, xs =>
    match xs with
    | '/' :: '/' :: rest =>
      let (body, r) := spanChars (fun c => !isEol c) rest
      trim ('/' :: '/' :: body) :: getComments fuel r
    | _ :: rest => getComments fuel rest
    | [] => []

def comments (xs : List Char) : List (List Char) := getComments (xs.length + 1) xs

/-- `str::split_once('\n')` with the `unwrap_or((text, ""))` default -/
def splitNl : List Char → List Char × List Char
  | [] => ([], [])
  | c :: cs => if c == '\n' then ([], cs) else let (a, b) := splitNl cs; (c :: a, b)

/-- a token with its attached comments (`WrappedToken` + `Comment` of token.rs) -/
structure WTok where
  kind : String
  text : List Char
  leading : List (List Char)
  trailing : List Char
deriving Repr, DecidableEq

/-- the attachment loop of `get_token_stream`: `lead` = leading comments of the current token -/
def attach : List (List Char) → Tok → List Raw → List Char → List WTok × List (List Char)
  | lead, cur, [], fin =>
    let (tr, eof) := splitNl fin
    ([⟨cur.kind, cur.text, lead, trim tr⟩], comments eof)
  | lead, cur, nxt :: rest, fin =>
    let (tr, ld) := splitNl nxt.gap
    let (ws, eof) := attach (comments ld) nxt.tok rest fin
    (⟨cur.kind, cur.text, lead, trim tr⟩ :: ws, eof)

/-- `get_token_stream` -/
def tokenStream (input : List Char) : Option (List WTok × List (List Char)) :=
  match lexAll (input.length + 1) input with
  | none => none
  | some ([], fin) => some ([], comments fin)
  | some (first :: rest, fin) => some (attach (comments first.gap) first.tok rest fin)

/-! ## §2 documents and the renderer -/

/-- what a `text` can be: a token or a comment (`//…`) -/
inductive Atom where
  | tok (s : List Char)
  | com (s : List Char)
deriving Repr, DecidableEq

def Atom.width : Atom → Nat
  | .tok s => s.length
  | .com s => s.length

inductive Doc where
  | nil
  | text (a : Atom)
  | space                       -- RcDoc::space()  = text " "
  | line                        -- RcDoc::line()   : " " when flat, newline when broken
  | softline                    -- RcDoc::line_()  : ""  when flat, newline when broken
  | hardline
  | nest (i : Nat) (d : Doc)
  | group (d : Doc)
  | cat (a b : Doc)
deriving Repr

instance : Append Doc := ⟨Doc.cat⟩

inductive Item where
  | atom (a : Atom)
  | sp
  | nl (indent : Nat)
deriving Repr, DecidableEq

def Doc.size : Doc → Nat
  | .nest _ d => d.size + 1
  | .group d => d.size + 1
  | .cat a b => a.size + b.size + 1
  | _ => 1

/-- (indentation, flat?, document) -/
abbrev Cmd := Nat × Bool × Doc

def cmdsSize : List Cmd → Nat
  | [] => 0
  | (_, _, d) :: r => d.size + cmdsSize r

/-- does the rest of the current line fit into width `w`?  (Wadler's `fits`; the head command is normally in
    flat mode, the rest of the worklist in its own modes; a newline ends the line) -/
def fits (w : Nat) : Nat → List Cmd → Bool
  | _, [] => true
  | col, (_, _, .nil) :: r => fits w col r
  | col, (_, _, .text a) :: r => if col + a.width > w then false else fits w (col + a.width) r
  | col, (_, _, .space) :: r => if col + 1 > w then false else fits w (col + 1) r
  | col, (_, true, .line) :: r => if col + 1 > w then false else fits w (col + 1) r
  | _, (_, false, .line) :: _ => true
  | col, (_, true, .softline) :: r => fits w col r
  | _, (_, false, .softline) :: _ => true
  | _, (_, flat, .hardline) :: _ => !flat
  | col, (i, m, .nest j d) :: r => fits w col ((i + j, m, d) :: r)
  | col, (i, m, .group d) :: r => fits w col ((i, m, d) :: r)   -- `fitting` of pretty 0.12 keeps the mode (the head group is flat, groups of the rest are in break mode)
  | col, (i, m, .cat a b) :: r => fits w col ((i, m, a) :: (i, m, b) :: r)
termination_by _ cs => cmdsSize cs
decreasing_by all_goals (simp only [cmdsSize, Doc.size]; omega)

/-- the layout loop with an arbitrary decision procedure `ch col worklist` for "lay this group out flat?" -/
def bestWith (ch : Nat → List Cmd → Bool) : Nat → List Cmd → List Item
  | _, [] => []
  | col, (_, _, .nil) :: r => bestWith ch col r
  | col, (_, _, .text a) :: r => .atom a :: bestWith ch (col + a.width) r
  | col, (_, _, .space) :: r => .sp :: bestWith ch (col + 1) r
  | col, (_, true, .line) :: r => .sp :: bestWith ch (col + 1) r
  | _, (i, false, .line) :: r => .nl i :: bestWith ch i r
  | col, (_, true, .softline) :: r => bestWith ch col r
  | _, (i, false, .softline) :: r => .nl i :: bestWith ch i r
  | _, (i, _, .hardline) :: r => .nl i :: bestWith ch i r
  | col, (i, m, .nest j d) :: r => bestWith ch col ((i + j, m, d) :: r)
  | col, (i, true, .group d) :: r => bestWith ch col ((i, true, d) :: r)
  | col, (i, false, .group d) :: r => bestWith ch col ((i, ch col ((i, true, d) :: r), d) :: r)
  | col, (i, m, .cat a b) :: r => bestWith ch col ((i, m, a) :: (i, m, b) :: r)
termination_by _ cs => cmdsSize cs
decreasing_by all_goals (simp only [cmdsSize, Doc.size]; omega)

/-- Wadler-style pretty printing to width `w` -/
def render (w : Nat) (d : Doc) : List Item := bestWith (fits w) 0 [(0, false, d)]

def Item.chars : Item → List Char
  | .atom (.tok s) => s
  | .atom (.com s) => s
  | .sp => [' ']
  | .nl i => '\n' :: List.replicate i ' '

def itemsToString (xs : List Item) : String := String.ofList (xs.flatMap Item.chars)

/-- the atoms of a layout: everything that is not whitespace -/
def itemsAtoms : List Item → List Atom
  | [] => []
  | .atom a :: r => a :: itemsAtoms r
  | _ :: r => itemsAtoms r

/-- the atoms of a document, left to right -/
def docAtoms : Doc → List Atom
  | .text a => [a]
  | .nest _ d => docAtoms d
  | .group d => docAtoms d
  | .cat a b => docAtoms a ++ docAtoms b
  | _ => []

def cmdsAtoms : List Cmd → List Atom
  | [] => []
  | (_, _, d) :: r => docAtoms d ++ cmdsAtoms r

/-! ### comment safety: a `//` comment swallows the rest of its line -/

/-- what a lexer sees in a layout: a comment swallows every atom up to the next newline.
    `pending` = a comment has been emitted on the current line. `none` = some token was swallowed. -/
def itemsVisible : Bool → List Item → Option (List Atom)
  | _, [] => some []
  | pending, .atom (.com c) :: r => (itemsVisible true r).map (fun as => Atom.com c :: as) |> fun x => if pending then none else x
  | pending, .atom (.tok t) :: r => if pending then none else (itemsVisible false r).map (fun as => Atom.tok t :: as)
  | pending, .sp :: r => itemsVisible pending r
  | _, .nl _ :: r => itemsVisible false r

/-- the document-level discipline that makes every layout comment-safe: after a comment the next thing that is
    not `space`/`nil` is a `hardline` (only a hardline is a newline in *every* layout). State machine over the
    left-to-right leaves: `some pending` / `none` = violated. -/
def docSafe : Bool → Doc → Option Bool
  | pending, .nil => some pending
  | pending, .text (.com _) => if pending then none else some true
  | pending, .text (.tok _) => if pending then none else some false
  | pending, .space => some pending
  | pending, .line => some pending        -- may be a space: does not discharge a pending comment
  | pending, .softline => some pending
  | _, .hardline => some false
  | pending, .nest _ d => docSafe pending d
  | pending, .group d => docSafe pending d
  | pending, .cat a b => match docSafe pending a with
    | some p => docSafe p b
    | none => none

def cmdsSafe : Bool → List Cmd → Option Bool
  | pending, [] => some pending
  | pending, (_, _, d) :: r => match docSafe pending d with
    | some p => cmdsSafe p r
    | none => none

/-! ## §3 wrapped tokens → documents; the CST core -/

def hardSep : List (List Char) → Doc
  | [] => .nil
  | [c] => .text (.com c)
  | c :: cs => .text (.com c) ++ (.hardline ++ hardSep cs)

/-- `get_leading_comment_doc_from_str` -/
def leadingDoc (cs : List (List Char)) : Doc :=
  if cs.isEmpty then .nil else .hardline ++ (hardSep cs ++ .hardline)

/-- `get_trailing_comment_doc_from_str` -/
def trailingDoc (t : List Char) (next : Doc) : Doc :=
  if t.isEmpty then next else .space ++ (.text (.com t) ++ .hardline)

/-- `add_comment(d, comment, next_doc)` -/
def addComment (d : Doc) (lead : List (List Char)) (trail : List Char) (next : Doc) : Doc :=
  leadingDoc lead ++ (d ++ trailingDoc trail next)

/-- a token printed with its comments: `add_comment(text(tok), comment_of(tok), next)` -/
def tokDoc (t : WTok) (next : Doc := .nil) : Doc :=
  addComment (.text (.tok t.text)) t.leading t.trailing next

/-- only the comments of a token that is itself dropped (`get_dropped_token_comment_doc` of doc.rs, for trailing commas) -/
def commentsOnlyDoc (t : WTok) : Doc := addComment .nil t.leading t.trailing .nil

/-- the atoms a wrapped token stands for in the source, in source order -/
def wtokAtoms (t : WTok) : List Atom :=
  t.leading.map Atom.com ++ [Atom.tok t.text] ++ (if t.trailing.isEmpty then [] else [Atom.com t.trailing])

def wtokComments (t : WTok) : List Atom :=
  t.leading.map Atom.com ++ (if t.trailing.isEmpty then [] else [Atom.com t.trailing])

inductive ChainKind where
  | or | and | add | mult | path
deriving Repr, DecidableEq

mutual
/-- core of the expression CST (cst.rs) with resolved tokens -/
inductive Cst where
  /-- Literal / Ident / Slot / Str: one token -/
  | leaf (t : WTok)
  /-- Primary::Expr `( e )` -/
  | paren (l : WTok) (e : Cst) (r : WTok)
  /-- Unary: `!`/`-` operators (1..4) and the operand -/
  | unary (ops : List WTok) (e : Cst)
  /-- Or / And / Add / Mult (`initial` + `extended`), and a Name path / entity reference `A::B::"x"` -/
  | chain (k : ChainKind) (first : Cst) (rest : Chain)
  /-- Relation::Common with one operator, Relation::Has, Relation::Like, `e is T` -/
  | rel (a : Cst) (op : WTok) (b : Cst)
  /-- Relation::IsIn with the `in` part -/
  | isIn (a : Cst) (isT : WTok) (ty : Cst) (inT : WTok) (e : Cst)
  /-- if c then t else e -/
  | ite (i : WTok) (c : Cst) (t : WTok) (a : Cst) (e : WTok) (b : Cst)
  /-- Primary::EList `[ … ]` and Primary::RInits `{ … }` (`Comma<E>`) -/
  | brack (l : WTok) (args : Args) (r : WTok)
  /-- RecInit `k : v` -/
  | recInit (k : Cst) (colon : WTok) (v : Cst)
  /-- Member: item followed by accesses -/
  | member (item : Cst) (accs : Accs)
/-- `Comma<E>`: `(E ",")* E?` -/
inductive Args where
  | nil
  /-- the last element, optionally followed by a trailing comma -/
  | last (e : Cst) (trailingComma : Option WTok)
  | cons (e : Cst) (comma : WTok) (rest : Args)
inductive Chain where
  | nil
  | cons (op : WTok) (e : Cst) (rest : Chain)
/-- MemAccess list -/
inductive Accs where
  | nil
  | field (dot : WTok) (name : WTok) (rest : Accs)
  | call (l : WTok) (args : Args) (r : WTok) (rest : Accs)
  | index (l : WTok) (e : Cst) (r : WTok) (rest : Accs)
end

/-- `RcDoc::intersperse(member.access, line_())`: a soft line BETWEEN two accesses, none after the last -/
def accSep : Accs → Doc
  | .nil => .nil
  | _ => .softline

def Args.isNil : Args → Bool
  | .nil => true
  | _ => false

/-- the arguments of a method call: nothing between the parentheses of `f()`, otherwise
    `line_().append(args).nest(iw).append(line_())` -/
def callArgsDoc (iw : Nat) (isNil : Bool) (argsDoc : Doc) : Doc :=
  if isNil then .nil else .nest iw (.softline ++ argsDoc) ++ .softline

def opsDoc : List WTok → Doc
  | [] => .nil
  | t :: ts => tokDoc t ++ opsDoc ts

def opsAtoms : List WTok → List Atom
  | [] => []
  | t :: ts => wtokAtoms t ++ opsAtoms ts

/-- what to do with a trailing comma: `true` = doc.rs (the token is dropped, its comments are emitted),
    `false` = doc.rs before /repo commit e8fc4bb (dropped with its comments) -/
def trailingCommaDoc (fixed : Bool) : Option WTok → Doc
  | none => .nil
  | some t => if fixed then commentsOnlyDoc t else .nil

mutual
/-- mirror of the `Doc` impls of doc.rs for the core (indent width `iw`) -/
def toDocW (fixed : Bool) (iw : Nat) : Cst → Doc
  | .leaf t => tokDoc t
  | .paren l e r => .group (tokDoc l ++ (.nest 1 (toDocW fixed iw e) ++ tokDoc r))
  | .unary ops e => opsDoc ops ++ toDocW fixed iw e
  | .chain k first rest =>
    match k with
    | .or | .and => toDocW fixed iw first ++ chainDocW fixed iw k rest
    | .add | .mult => .group (toDocW fixed iw first ++ chainDocW fixed iw k rest)
    | .path => toDocW fixed iw first ++ chainDocW fixed iw k rest
  | .rel a op b => toDocW fixed iw a ++ (.space ++ (tokDoc op ++ (.space ++ toDocW fixed iw b)))
  | .isIn a isT ty inT e =>
    .group (toDocW fixed iw a ++ (.space ++ (tokDoc isT ++ (.space ++ (.nest iw (toDocW fixed iw ty) ++
      (.line ++ (tokDoc inT ++ (.space ++ .nest iw (toDocW fixed iw e)))))))))
  | .ite i c t a e b =>
    .group ((tokDoc i ++ .nest iw (.line ++ toDocW fixed iw c)) ++ (.line ++
      ((tokDoc t ++ .nest iw (.line ++ toDocW fixed iw a)) ++ (.line ++
        (tokDoc e ++ .nest iw (.line ++ toDocW fixed iw b))))))
  | .brack l args r => tokDoc l ++ (.nest iw (argsDocW fixed iw args) ++ tokDoc r)
  | .recInit k colon v => toDocW fixed iw k ++ (tokDoc colon ++ (.space ++ toDocW fixed iw v))
  | .member item accs => .group (toDocW fixed iw item ++ .nest iw (accsDocW fixed iw accs))
def argsDocW (fixed : Bool) (iw : Nat) : Args → Doc
  | .nil => .nil
  | .last e tc => toDocW fixed iw e ++ trailingCommaDoc fixed tc
  | .cons e comma rest => toDocW fixed iw e ++ (tokDoc comma ++ (.line ++ argsDocW fixed iw rest))
def chainDocW (fixed : Bool) (iw : Nat) (k : ChainKind) : Chain → Doc
  | .nil => .nil
  | .cons op e rest =>
    match k with
    | .or | .and => .space ++ (tokDoc op .line ++ (toDocW fixed iw e ++ chainDocW fixed iw k rest))
    | .add | .mult => .space ++ (tokDoc op ++ (.line ++ (toDocW fixed iw e ++ chainDocW fixed iw k rest)))
    | .path => tokDoc op ++ (toDocW fixed iw e ++ chainDocW fixed iw k rest)
def accsDocW (fixed : Bool) (iw : Nat) : Accs → Doc
  | .nil => .nil
  | .field dot name rest => tokDoc dot ++ (tokDoc name ++ (accSep rest ++ accsDocW fixed iw rest))
  | .call l args r rest =>
    tokDoc l ++ (callArgsDoc iw args.isNil (argsDocW fixed iw args) ++ (tokDoc r ++ (accSep rest ++ accsDocW fixed iw rest)))
  | .index l e r rest => tokDoc l ++ (toDocW fixed iw e ++ (tokDoc r ++ (accSep rest ++ accsDocW fixed iw rest)))
end

/-- doc.rs before /repo commit e8fc4bb -/
def toDoc (iw : Nat) (c : Cst) : Doc := toDocW false iw c
/-- doc.rs -/
def toDocFixed (iw : Nat) (c : Cst) : Doc := toDocW true iw c

/-- what survives of a trailing comma: `keepTok` = the `,` token itself, `keepCom` = its comments -/
def trailingCommaAtoms (keepTok keepCom : Bool) : Option WTok → List Atom
  | none => []
  | some t =>
    if keepTok then wtokAtoms t else if keepCom then wtokComments t else []

mutual
/-- the atoms (tokens and comments) of a CST in source order; the flags say what is kept of trailing commas:
    (true, _) = the source itself; (false, true) = tokens minus trailing commas, all comments;
    (false, false) = trailing commas dropped together with their comments -/
def cstAtomsW (kt kc : Bool) : Cst → List Atom
  | .leaf t => wtokAtoms t
  | .paren l e r => wtokAtoms l ++ cstAtomsW kt kc e ++ wtokAtoms r
  | .unary ops e => opsAtoms ops ++ cstAtomsW kt kc e
  | .chain _ first rest => cstAtomsW kt kc first ++ chainAtomsW kt kc rest
  | .rel a op b => cstAtomsW kt kc a ++ wtokAtoms op ++ cstAtomsW kt kc b
  | .isIn a isT ty inT e => cstAtomsW kt kc a ++ wtokAtoms isT ++ cstAtomsW kt kc ty ++ wtokAtoms inT ++ cstAtomsW kt kc e
  | .ite i c t a e b => wtokAtoms i ++ cstAtomsW kt kc c ++ wtokAtoms t ++ cstAtomsW kt kc a ++ wtokAtoms e ++ cstAtomsW kt kc b
  | .brack l args r => wtokAtoms l ++ argsAtomsW kt kc args ++ wtokAtoms r
  | .recInit k colon v => cstAtomsW kt kc k ++ wtokAtoms colon ++ cstAtomsW kt kc v
  | .member item accs => cstAtomsW kt kc item ++ accsAtomsW kt kc accs
def argsAtomsW (kt kc : Bool) : Args → List Atom
  | .nil => []
  | .last e tc => cstAtomsW kt kc e ++ trailingCommaAtoms kt kc tc
  | .cons e comma rest => cstAtomsW kt kc e ++ wtokAtoms comma ++ argsAtomsW kt kc rest
def chainAtomsW (kt kc : Bool) : Chain → List Atom
  | .nil => []
  | .cons op e rest => wtokAtoms op ++ cstAtomsW kt kc e ++ chainAtomsW kt kc rest
def accsAtomsW (kt kc : Bool) : Accs → List Atom
  | .nil => []
  | .field dot name rest => wtokAtoms dot ++ wtokAtoms name ++ accsAtomsW kt kc rest
  | .call l args r rest => wtokAtoms l ++ argsAtomsW kt kc args ++ wtokAtoms r ++ accsAtomsW kt kc rest
  | .index l e r rest => wtokAtoms l ++ cstAtomsW kt kc e ++ wtokAtoms r ++ accsAtomsW kt kc rest
end

/-- the source: every token and every comment, in order -/
def cstAtoms (c : Cst) : List Atom := cstAtomsW true true c

def isCom : Atom → Bool
  | .com _ => true
  | .tok _ => false

/-- the comments of an atom sequence, in order -/
def commentsOf (as : List Atom) : List Atom := as.filter isCom
/-- the tokens of an atom sequence, in order -/
def tokensOf (as : List Atom) : List Atom := as.filter (fun a => !isCom a)

mutual
/-- no trailing comma of the CST carries a comment -/
def noCommentedTrailingComma : Cst → Bool
  | .leaf _ => true
  | .paren _ e _ => noCommentedTrailingComma e
  | .unary _ e => noCommentedTrailingComma e
  | .chain _ first rest => noCommentedTrailingComma first && chainNoCTC rest
  | .rel a _ b => noCommentedTrailingComma a && noCommentedTrailingComma b
  | .isIn a _ ty _ e => noCommentedTrailingComma a && noCommentedTrailingComma ty && noCommentedTrailingComma e
  | .ite _ c _ a _ b => noCommentedTrailingComma c && noCommentedTrailingComma a && noCommentedTrailingComma b
  | .brack _ args _ => argsNoCTC args
  | .recInit k _ v => noCommentedTrailingComma k && noCommentedTrailingComma v
  | .member item accs => noCommentedTrailingComma item && accsNoCTC accs
def argsNoCTC : Args → Bool
  | .nil => true
  | .last e none => noCommentedTrailingComma e
  | .last e (some t) => noCommentedTrailingComma e && t.leading.isEmpty && t.trailing.isEmpty
  | .cons e _ rest => noCommentedTrailingComma e && argsNoCTC rest
def chainNoCTC : Chain → Bool
  | .nil => true
  | .cons _ e rest => noCommentedTrailingComma e && chainNoCTC rest
def accsNoCTC : Accs → Bool
  | .nil => true
  | .field _ _ rest => accsNoCTC rest
  | .call _ args _ rest => argsNoCTC args && accsNoCTC rest
  | .index _ e _ rest => noCommentedTrailingComma e && accsNoCTC rest
end

/-! ## §4 the policy level: `Annotation`, `VariableDef`, `Cond`, `Policy` of doc.rs, and `policies_str_to_pretty` -/

/-- `@key` or `@key("value")` (cst.rs `Annotation`); every terminal is a resolved wrapped token -/
structure AnnotCst where
  atT : WTok
  key : WTok
  /-- `(` string `)` -/
  value : Option (WTok × WTok × WTok)

/-- `principal [is T] [op e]` (cst.rs `VariableDef`; the obsolete `var : Type` form does not reach the formatter:
    `to_policyset` rejects it) -/
structure VarDefCst where
  var : WTok
  /-- `is` and the entity type (`Node<Add>`) -/
  isPart : Option (WTok × Cst)
  /-- `==` / `in` / … and the right-hand side -/
  ineq : Option (WTok × Cst)

/-- `when { e }` / `unless { e }` (cst.rs `Cond`; `expr = none` is the empty body `when {}`) -/
structure CondCst where
  kw : WTok
  lb : WTok
  expr : Option Cst
  rb : WTok

/-- `annotations effect ( principal… , action… , resource… [,] ) conds ;` (cst.rs `PolicyImpl`) -/
structure PolicyCst where
  annots : List AnnotCst
  effect : WTok
  lp : WTok
  principal : VarDefCst
  comma1 : WTok
  action : VarDefCst
  comma2 : WTok
  resource : VarDefCst
  /-- the optional trailing comma of the scope (`Comma<VariableDef>` of the grammar) -/
  trailingComma : Option WTok
  rp : WTok
  conds : List CondCst
  semi : WTok

/-- the token after `consume_leading_comment` / `consume_comment` took its leading comments -/
def WTok.noLead (t : WTok) : WTok := { t with leading := [] }

/-- the leading comments of the first token of an expression: what
    `get_leading_comment_at_start(expr.loc)` finds (token.rs `consume_leading_comment`) -/
def firstLeading : Cst → List (List Char)
  | .leaf t => t.leading
  | .paren l _ _ => l.leading
  | .unary [] e => firstLeading e
  | .unary (t :: _) _ => t.leading
  | .chain _ first _ => firstLeading first
  | .rel a _ _ => firstLeading a
  | .isIn a _ _ _ _ => firstLeading a
  | .ite i _ _ _ _ _ => i.leading
  | .brack l _ _ => l.leading
  | .recInit k _ _ => firstLeading k
  | .member item _ => firstLeading item

/-- … and the expression as the later `expr.to_doc` sees it: the leading comments of its first token are gone -/
def clearFirstLeading : Cst → Cst
  | .leaf t => .leaf t.noLead
  | .paren l e r => .paren l.noLead e r
  | .unary [] e => .unary [] (clearFirstLeading e)
  | .unary (t :: ts) e => .unary (t.noLead :: ts) e
  | .chain k first rest => .chain k (clearFirstLeading first) rest
  | .rel a op b => .rel (clearFirstLeading a) op b
  | .isIn a isT ty inT e => .isIn (clearFirstLeading a) isT ty inT e
  | .ite i c t a e b => .ite i.noLead c t a e b
  | .brack l args r => .brack l.noLead args r
  | .recInit k colon v => .recInit (clearFirstLeading k) colon v
  | .member item accs => .member (clearFirstLeading item) accs

/-- `impl Doc for Node<Option<Annotation>>` -/
def annotDoc (a : AnnotCst) : Doc :=
  tokDoc a.atT ++ (tokDoc a.key ++
    (match a.value with
     | none => .hardline
     | some (l, v, r) => tokDoc l ++ (tokDoc v ++ tokDoc r .hardline)))

/-- `RcDoc::intersperse(annotations, nil)` -/
def annotsDoc : List AnnotCst → Doc
  | [] => .nil
  | a :: as => annotDoc a ++ annotsDoc as

/-- the `is_doc` of `VariableDef`: the type's own `to_doc` has already consumed the comment of its first token,
    so the `add_comment` around it sees an empty comment -/
def isPartDoc (iw : Nat) : Option (WTok × Cst) → Doc
  | none => .nil
  | some (isT, ty) =>
    .group (.nest iw (.group (.line ++ tokDoc isT) ++ (.line ++ addComment (toDocFixed iw ty) [] [] .nil)))

/-- `impl Doc for Node<Option<VariableDef>>` -/
def varDefDoc (iw : Nat) (v : VarDefCst) : Doc :=
  match v.ineq with
  | some (op, rhs) =>
    leadingDoc v.var.leading ++
      .group (.group (.text (.tok v.var.text) ++ (trailingDoc v.var.trailing .nil ++ (isPartDoc iw v.isPart ++
          (.line ++ tokDoc op)))) ++
        .nest iw (.line ++ toDocFixed iw rhs))
  | none => tokDoc v.var ++ isPartDoc iw v.isPart

/-- `impl Doc for Node<Option<Cond>>`: the comments of `when`, `{`, `}` are fetched first (so the keyword's own
    `to_doc` sees an empty comment), the leading comments of the body's first token are hoisted out of its group -/
def condDoc (iw : Nat) (c : CondCst) : Doc :=
  let kwDoc := addComment (.text (.tok c.kw.text)) [] [] .nil
  let rbDoc := tokDoc c.rb
  match c.expr with
  | some e =>
    leadingDoc c.kw.leading ++
      .group (kwDoc ++ (trailingDoc c.kw.trailing .line ++
        (leadingDoc c.lb.leading ++ (.text (.tok c.lb.text) ++
          .group (.nest iw (trailingDoc c.lb.trailing .line ++
              (leadingDoc (firstLeading e) ++ .group (toDocFixed iw (clearFirstLeading e)))) ++
            (.line ++ rbDoc))))))
  | none =>
    leadingDoc c.kw.leading ++
      .group (kwDoc ++ (trailingDoc c.kw.trailing .line ++
        (leadingDoc c.lb.leading ++ .group (.text (.tok c.lb.text) ++ (trailingDoc c.lb.trailing .line ++ rbDoc)))))

/-- `RcDoc::intersperse(conds, hardline)` -/
def condsDoc (iw : Nat) : List CondCst → Doc
  | [] => .nil
  | [c] => condDoc iw c
  | c :: cs => condDoc iw c ++ (.hardline ++ condsDoc iw cs)

/-- `get_dropped_token_comment_doc(get_trailing_comma_comment(..))`: the comments of the scope's trailing comma
    (`Comment::default()` when there is none) without the comma itself — /repo commit e8fc4bb -/
def droppedCommaDoc : Option WTok → Doc
  | none => addComment .nil [] [] .nil
  | some t => commentsOnlyDoc t

def VarDefCst.isBare (v : VarDefCst) : Bool := v.ineq.isNone && v.isPart.isNone

/-- the `vars_doc` of `impl Doc for Node<Option<Policy>>`: on one line (if it fits) when no scope variable is
    constrained, otherwise one variable per line -/
def scopeDoc (iw : Nat) (p : PolicyCst) : Doc :=
  let resourceDoc := varDefDoc iw p.resource ++ droppedCommaDoc p.trailingComma
  if p.principal.isBare && p.action.isBare && p.resource.isBare then
    .group (.nest iw (varDefDoc iw p.principal ++ (tokDoc p.comma1 .space ++ (varDefDoc iw p.action ++
      (tokDoc p.comma2 .space ++ resourceDoc)))))
  else
    .nest iw (.hardline ++ (varDefDoc iw p.principal ++ (tokDoc p.comma1 .hardline ++ (varDefDoc iw p.action ++
      (tokDoc p.comma2 .hardline ++ resourceDoc))))) ++ .hardline

/-- `impl Doc for Node<Option<Policy>>` -/
def policyToDoc (iw : Nat) (p : PolicyCst) : Doc :=
  annotsDoc p.annots ++
    ((leadingDoc p.effect.leading ++ .group (tokDoc p.effect.noLead ++ (.line ++ tokDoc p.lp))) ++
      (scopeDoc iw p ++ (tokDoc p.rp (if p.conds.isEmpty then .nil else .hardline) ++
        (condsDoc iw p.conds ++ tokDoc p.semi))))

/-- one document for a policy set (policies separated by a blank line); `renderPolicies` is what fmt.rs does -/
def policiesToDoc (iw : Nat) : List PolicyCst → Doc
  | [] => .nil
  | [p] => policyToDoc iw p
  | p :: ps => policyToDoc iw p ++ (.hardline ++ (.hardline ++ policiesToDoc iw ps))

def eofItems : List (List Char) → List Item
  | [] => []
  | c :: cs => .atom (.com c) :: .nl 0 :: eofItems cs

def joinPolicies : List (List Item) → List Item
  | [] => []
  | [x] => x
  | x :: xs => x ++ (.nl 0 :: .nl 0 :: joinPolicies xs)

/-- `policies_str_to_pretty` at the layout level, for an arbitrary flat/break chooser: every policy is laid out
    on its own (`tree_to_pretty`), the layouts are joined with `"\n\n"`, a final newline and the end-of-file
    comments (one per line) follow.  (`remove_empty_lines` works on the string: it deletes blank lines and trims the ends.) -/
def renderPoliciesWith (ch : Nat → List Cmd → Bool) (iw : Nat) (ps : List PolicyCst) (eof : List (List Char)) : List Item :=
  joinPolicies (ps.map (fun p => bestWith ch 0 [(0, false, policyToDoc iw p)])) ++ (.nl 0 :: eofItems eof)

def renderPolicies (w iw : Nat) (ps : List PolicyCst) (eof : List (List Char)) : List Item :=
  renderPoliciesWith (fits w) iw ps eof

/-! ### the source atoms of the policy level -/

def annotAtoms (a : AnnotCst) : List Atom :=
  wtokAtoms a.atT ++ wtokAtoms a.key ++
    (match a.value with
     | none => []
     | some (l, v, r) => wtokAtoms l ++ wtokAtoms v ++ wtokAtoms r)

def annotsAtoms : List AnnotCst → List Atom
  | [] => []
  | a :: as => annotAtoms a ++ annotsAtoms as

def varDefAtomsW (kt kc : Bool) (v : VarDefCst) : List Atom :=
  wtokAtoms v.var ++
    (match v.isPart with
     | none => []
     | some (isT, ty) => wtokAtoms isT ++ cstAtomsW kt kc ty) ++
    (match v.ineq with
     | none => []
     | some (op, rhs) => wtokAtoms op ++ cstAtomsW kt kc rhs)

def condAtomsW (kt kc : Bool) (c : CondCst) : List Atom :=
  wtokAtoms c.kw ++ wtokAtoms c.lb ++
    (match c.expr with
     | none => []
     | some e => cstAtomsW kt kc e) ++ wtokAtoms c.rb

def condsAtomsW (kt kc : Bool) : List CondCst → List Atom
  | [] => []
  | c :: cs => condAtomsW kt kc c ++ condsAtomsW kt kc cs

/-- the atoms (tokens and comments) of a policy in source order; flags as for `cstAtomsW`:
    (true, true) = the source; (false, true) = the source minus the `,` TOKENS in trailing position (of the scope
    and of every `Comma<E>` inside the expressions), all comments kept -/
def policyAtomsW (kt kc : Bool) (p : PolicyCst) : List Atom :=
  annotsAtoms p.annots ++ wtokAtoms p.effect ++ wtokAtoms p.lp ++
    varDefAtomsW kt kc p.principal ++ wtokAtoms p.comma1 ++
    varDefAtomsW kt kc p.action ++ wtokAtoms p.comma2 ++
    varDefAtomsW kt kc p.resource ++ trailingCommaAtoms kt kc p.trailingComma ++
    wtokAtoms p.rp ++ condsAtomsW kt kc p.conds ++ wtokAtoms p.semi

/-- the source of a policy: every token and every comment, in order -/
def policyAtoms (p : PolicyCst) : List Atom := policyAtomsW true true p

def policiesAtomsW (kt kc : Bool) : List PolicyCst → List Atom
  | [] => []
  | p :: ps => policyAtomsW kt kc p ++ policiesAtomsW kt kc ps

/-- the source of a policy set: the policies, then the end-of-file comments -/
def policySetAtomsW (kt kc : Bool) (ps : List PolicyCst) (eof : List (List Char)) : List Atom :=
  policiesAtomsW kt kc ps ++ eof.map Atom.com


end Cedar.Fmt
