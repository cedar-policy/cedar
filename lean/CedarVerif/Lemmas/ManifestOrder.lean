import CedarVerif.Lemmas.ManifestSlice
/-
`t₁ ⊑ t₂` (`AccessTrie.sub`): `t₂` requests everything `t₁` requests, entries matched by MEMBERSHIP, where `AccessTrie.le`
matches them by lookup.  A trie has two kinds of reader.  Those that walk every entry (`ancRequest`, `Cover*`) are monotone
in `⊑` (Lemmas/ManifestCover.lean); the one that overwrites (`sliceFields`, through `insertKV`) sees what a lookup sees and
is monotone in `le` only: `[(a, big)] ⊑ [(a, small), (a, big)]`, but the slice by the right-hand list keeps `small`'s part.
`le` implies `⊑`; unlike `le`, `⊑` is reflexive on every trie (association lists may repeat keys), and a union is an upper
bound of its parts in `⊑` with no well-formedness hypothesis (`sub_union`).
-/
namespace Cedar.Manifest
open Cedar

mutual
def AccessTrie.sub : AccessTrie → AccessTrie → Prop
  | .mk c1 a1 i1 _, t2 => fieldsSub c1 t2.children ∧ rootsSub a1 t2.ancestors ∧ (i1 = true → t2.isAncestor = true)
def fieldsSub : Fields → Fields → Prop
  | [], _ => True
  | (k, t) :: rest, c2 => (∃ t2, (k, t2) ∈ c2 ∧ AccessTrie.sub t t2) ∧ fieldsSub rest c2
def rootsSub : RootAccessTrie → RootAccessTrie → Prop
  | [], _ => True
  | (k, t) :: rest, c2 => (∃ t2, (k, t2) ∈ c2 ∧ AccessTrie.sub t t2) ∧ rootsSub rest c2
end

theorem fieldsSub_iff (c1 c2 : Fields) :
    fieldsSub c1 c2 ↔ ∀ k t, (k, t) ∈ c1 → ∃ t2, (k, t2) ∈ c2 ∧ AccessTrie.sub t t2 :=
  forall_mem_of_eqns (S := fun c => fieldsSub c c2) trivial (fun _ _ _ => Iff.rfl) c1

theorem rootsSub_iff (c1 c2 : RootAccessTrie) :
    rootsSub c1 c2 ↔ ∀ k t, (k, t) ∈ c1 → ∃ t2, (k, t2) ∈ c2 ∧ AccessTrie.sub t t2 :=
  forall_mem_of_eqns (S := fun c => rootsSub c c2) trivial (fun _ _ _ => Iff.rfl) c1

theorem sub_refl : ∀ t : AccessTrie, AccessTrie.sub t t :=
  AccessTrie.induct fun c a _ _ hc ha =>
    ⟨(fieldsSub_iff c c).2 fun k t hm => ⟨t, hm, hc k t hm⟩, (rootsSub_iff a a).2 fun k t hm => ⟨t, hm, ha k t hm⟩, id⟩

theorem rootsSub_refl (c : RootAccessTrie) : rootsSub c c :=
  (rootsSub_iff c c).2 fun _ t hm => ⟨t, hm, sub_refl t⟩

theorem sub_of_le : ∀ (t1 t2 : AccessTrie), AccessTrie.le t1 t2 → AccessTrie.sub t1 t2 :=
  AccessTrie.induct fun c a _ _ hc ha _ h =>
    ⟨(fieldsSub_iff c _).2 fun k t hm =>
        let ⟨t', h1, h2⟩ := (fieldsLe_iff c _).1 h.1 k t hm
        ⟨t', fieldsMap.mem_of_look h1, hc k t hm t' h2⟩,
     (rootsSub_iff a _).2 fun k t hm =>
        let ⟨t', h1, h2⟩ := (rootsLe_iff a _).1 h.2.1 k t hm
        ⟨t', rootsMap.mem_of_look h1, ha k t hm t' h2⟩,
     h.2.2⟩

theorem rootsSub_of_le (c1 c2 : RootAccessTrie) (h : rootsLe c1 c2) : rootsSub c1 c2 :=
  (rootsSub_iff c1 c2).2 fun k t hm =>
    let ⟨t', h1, h2⟩ := (rootsLe_iff c1 c2).1 h k t hm
    ⟨t', rootsMap.mem_of_look h1, sub_of_le t t' h2⟩

theorem sub_into {κ : Type} {c0 c c' : List (κ × AccessTrie)}
    (h0 : ∀ k t, (k, t) ∈ c0 → ∃ t2, (k, t2) ∈ c ∧ AccessTrie.sub t t2)
    (h : ∀ k t2, (k, t2) ∈ c → ∃ T, (k, T) ∈ c' ∧ ∀ t0, AccessTrie.sub t0 t2 → AccessTrie.sub t0 T) :
    ∀ k t, (k, t) ∈ c0 → ∃ T, (k, T) ∈ c' ∧ AccessTrie.sub t T := fun k t hm =>
  let ⟨t2, h1, h2⟩ := h0 k t hm
  let ⟨T, h3, h4⟩ := h k t2 h1
  ⟨T, h3, h4 t h2⟩

theorem sub_union : ∀ (v t t0 : AccessTrie), AccessTrie.sub t0 t ∨ AccessTrie.sub t0 v → AccessTrie.sub t0 (t.union v) :=
  AccessTrie.induct fun c2 a2 i2 e2 hc ha t t0 h => by
    obtain ⟨c, a, i, e⟩ := t
    obtain ⟨c0, a0, i0, e0⟩ := t0
    simp only [AccessTrie.sub, AccessTrie.children, AccessTrie.ancestors, AccessTrie.isAncestor, fieldsSub_iff,
      rootsSub_iff] at h
    simp only [AccessTrie.union, AccessTrie.sub, AccessTrie.children, AccessTrie.ancestors, AccessTrie.isAncestor,
      fieldsSub_iff, rootsSub_iff]
    have hf := fieldsMap.mem_uni_ge AccessTrie.sub c2 c hc
    have hr := rootsMap.mem_uni_ge AccessTrie.sub a2 a ha
    rcases h with h | h
    · exact ⟨sub_into h.1 fun k t2 hm => hf k t2 (.inl hm), sub_into h.2.1 fun k t2 hm => hr k t2 (.inl hm),
        fun hi => by simp [h.2.2 hi]⟩
    · exact ⟨sub_into h.1 fun k t2 hm => hf k t2 (.inr hm), sub_into h.2.1 fun k t2 hm => hr k t2 (.inr hm),
        fun hi => by simp [h.2.2 hi]⟩

theorem rootsSub_union_left {g0 g : RootAccessTrie} (a : RootAccessTrie) (h : rootsSub g0 g) : rootsSub g0 (unionRoots g a) :=
  (rootsSub_iff _ _).2 (sub_into ((rootsSub_iff _ _).1 h) fun k t2 hm =>
    rootsMap.mem_uni_ge AccessTrie.sub a g (fun _ v _ => sub_union v) k t2 (.inl hm))

theorem rootsSub_union (a1 a2 : RootAccessTrie) : rootsSub a1 (unionRoots a1 a2) ∧ rootsSub a2 (unionRoots a1 a2) :=
  ⟨rootsSub_union_left a2 (rootsSub_refl a1),
   (rootsSub_iff _ _).2 fun k t hm =>
    let ⟨T, h1, h2⟩ := rootsMap.mem_uni_ge AccessTrie.sub a2 a1 (fun _ v _ => sub_union v) k t (.inr hm)
    ⟨T, h1, h2 t (sub_refl t)⟩⟩

theorem fieldsSub_union (c1 c2 : Fields) : fieldsSub c1 (unionFields c1 c2) ∧ fieldsSub c2 (unionFields c1 c2) :=
  ⟨(fieldsSub_iff _ _).2 fun k t hm =>
    let ⟨T, h1, h2⟩ := fieldsMap.mem_uni_ge AccessTrie.sub c2 c1 (fun _ v _ => sub_union v) k t (.inl hm)
    ⟨T, h1, h2 t (sub_refl t)⟩,
   (fieldsSub_iff _ _).2 fun k t hm =>
    let ⟨T, h1, h2⟩ := fieldsMap.mem_uni_ge AccessTrie.sub c2 c1 (fun _ v _ => sub_union v) k t (.inr hm)
    ⟨T, h1, h2 t (sub_refl t)⟩⟩

end Cedar.Manifest
