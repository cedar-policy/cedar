import CedarVerif.Lemmas.TCOps
/-
C04: what `upsert_entities` and `remove_entities` share. Both walk over a batch and, for every uid `u` that has a
record, INVALIDATE it: every other record with `u` among its ancestors loses `u` and the (current) ancestors of `u`
from its indirect ancestors — `remove` also deletes `u` from the direct parents — and is put into the touched set;
the record of `u` is then deleted or replaced by one without indirect ancestors. The intermediate stores are not
closed. `SInv s0 R s` relates the store `s` reached after invalidating the uids `R` (each once) to the original
`s0`, which satisfies `StoreInv`; `SInv.step` is the one induction step (against any store `s1` that is pointwise
`Stripped`), `SInv.sound` / `SInv.disjoint` are what `finish_spec` needs at the end.
The intermediate store has a closed form (`SInv.form`): a record that is not invalidated keeps exactly those original
indirect ancestors `y` for which no invalidated uid is `y` or lies between the record and `y` in the ORIGINAL graph
(`Cut`); in particular it does not depend on the order of the batch.
-/
namespace Cedar.TC
set_option linter.unusedSectionVars false

variable {α : Type} [DecidableEq α]

/-- `n'` is the record `n` after `u` (whose ancestors were `oa`) has been invalidated; `del`: the record of `u` is
    deleted, and with it the parent links to `u` -/
structure Stripped (u : α) (oa : List α) (del : Prop) (n n' : Node α) : Prop where
  par : ∀ y, y ∈ n'.parents → y ∈ n.parents
  keep : ∀ y, y ∈ n.parents → y ∈ n'.parents ∨ (y = u ∧ del)
  ind : ∀ y, y ∈ n'.indirect ↔ y ∈ n.indirect ∧ (u ∈ n.out → y ≠ u ∧ y ∉ oa)

def Cut (s0 : Store α) (R : List α) (x y : α) : Prop :=
  ∃ v, v ∈ R ∧ (∃ m, get s0 v = some m) ∧ (v = y ∨ (Reach (shape s0) x v ∧ Reach (shape s0) v y))

theorem Cut.cons {s0 : Store α} {R : List α} {u x y : α} :
    Cut s0 (u :: R) x y ↔ Cut s0 R x y ∨
      ((∃ m, get s0 u = some m) ∧ (u = y ∨ (Reach (shape s0) x u ∧ Reach (shape s0) u y))) := by
  constructor
  · rintro ⟨v, hv, hm, hc⟩
    rcases List.mem_cons.mp hv with rfl | hv
    · exact Or.inr ⟨hm, hc⟩
    · exact Or.inl ⟨v, hv, hm, hc⟩
  · rintro (⟨v, hv, hm, hc⟩ | ⟨hm, hc⟩)
    · exact ⟨v, List.mem_cons_of_mem _ hv, hm, hc⟩
    · exact ⟨u, List.mem_cons_self, hm, hc⟩

theorem Cut.below {s0 : Store α} {R : List α} {x w y : α} (hxw : Reach (shape s0) x w) (h : Cut s0 R w y) :
    Cut s0 R x y := by
  obtain ⟨v, hv, hm, hc⟩ := h
  exact ⟨v, hv, hm, hc.imp_right fun hc => ⟨hxw.trans hc.1, hc.2⟩⟩

theorem Cut.above {s0 : Store α} {R : List α} {x w y : α} (hwy : Reach (shape s0) w y) (hxw : Reach (shape s0) x w)
    (h : Cut s0 R x w) : Cut s0 R x y := by
  obtain ⟨v, hv, hm, hc⟩ := h
  refine ⟨v, hv, hm, Or.inr ?_⟩
  rcases hc with rfl | hc
  · exact ⟨hxw, hwy⟩
  · exact ⟨hc.1, hc.2.trans hwy⟩

structure SInv (s0 : Store α) (R : List α) (s : Store α) : Prop where
  bare : ∀ x n, get s x = some n → x ∈ R → n.indirect = []
  /-- an inserted uid is in `R` too, but cuts nothing -/
  had : ∀ x, x ∈ R → get s x = none → ∃ m, get s0 x = some m
  stays : ∀ x n0, get s0 x = some n0 → x ∉ R → ∃ n, get s x = some n
  form : ∀ x n, get s x = some n → x ∉ R → ∃ n0, get s0 x = some n0 ∧ (∀ y, y ∈ n.parents → y ∈ n0.parents) ∧
        (∀ y, y ∈ n0.parents → y ∈ n.parents ∨ (y ∈ R ∧ get s y = none)) ∧
        (∀ y, y ∈ n.indirect ↔ y ∈ n0.indirect ∧ ¬ Cut s0 R x y)

theorem SInv.init (s0 : Store α) : SInv s0 [] s0 := by
  refine ⟨fun x n _ h => (by cases h), fun x h => (by cases h), fun x n0 h _ => ⟨n0, h⟩, ?_⟩
  intro x n hx _
  exact ⟨n, hx, fun y hy => hy, fun y hy => Or.inl hy, fun y => ⟨fun hy => ⟨hy, fun ⟨_, h, _⟩ => by cases h⟩, And.left⟩⟩

theorem SInv.out_sub {s0 s : Store α} {R : List α} (h : SInv s0 R s) {x : α} {n : Node α}
    (hx : get s x = some n) (hxR : x ∉ R) : ∃ n0, get s0 x = some n0 ∧ ∀ y, y ∈ n.out → y ∈ n0.out := by
  obtain ⟨n0, h0, hp, _, hi⟩ := h.form x n hx hxR
  refine ⟨n0, h0, ?_⟩
  intro y hy
  rcases mem_out.mp hy with hy | hy
  · exact mem_out.mpr (Or.inl (hp y hy))
  · exact mem_out.mpr (Or.inr ((hi y).mp hy).1)

theorem SInv.kept {s0 s : Store α} {R : List α} (h0 : StoreInv s0) (h : SInv s0 R s) {x w : α} {n : Node α}
    (hx : get s x = some n) (hxR : x ∉ R) (hxw : Reach (shape s0) x w) (hc : ¬ Cut s0 R x w) : w ∈ n.out := by
  obtain ⟨n0, hn0, _, hk, hi⟩ := h.form x n hx hxR
  rcases mem_out.mp ((h0.exact x n0 hn0 w).mpr hxw) with hw | hw
  · rcases hk w hw with hw' | ⟨hwR, hnone⟩
    · exact mem_out.mpr (Or.inl hw')
    · exact absurd ⟨w, hwR, h.had w hwR hnone, Or.inl rfl⟩ hc
  · exact mem_out.mpr (Or.inr ((hi w).mpr ⟨hw, hc⟩))

theorem SInv.insert {s0 s s1 : Store α} {R : List α} (h : SInv s0 R s) {u : α} (hu : get s u = none) (huR : u ∉ R)
    (hnew : ∃ m, get s1 u = some m ∧ m.indirect = []) (hsame : ∀ x, x ≠ u → get s1 x = get s x) :
    SInv s0 (u :: R) s1 := by
  have hu0 : get s0 u = none := by
    cases hg : get s0 u with
    | none => rfl
    | some n0 => obtain ⟨n, hn⟩ := h.stays u n0 hg huR; rw [hu] at hn; cases hn
  obtain ⟨m, hm, hmi⟩ := hnew
  refine ⟨?_, ?_, ?_, ?_⟩
  · intro x n hx hxR
    by_cases hxu : x = u
    · subst hxu; rw [hm] at hx; cases hx; exact hmi
    · exact h.bare x n (hsame x hxu ▸ hx) ((List.mem_cons.mp hxR).resolve_left hxu)
  · intro x hxR hx
    by_cases hxu : x = u
    · subst hxu; rw [hm] at hx; cases hx
    · exact h.had x ((List.mem_cons.mp hxR).resolve_left hxu) (hsame x hxu ▸ hx)
  · intro x n0 hx0 hxR
    simp only [List.mem_cons, not_or] at hxR
    rw [hsame x hxR.1]
    exact h.stays x n0 hx0 hxR.2
  · intro x n hx hxR
    simp only [List.mem_cons, not_or] at hxR
    obtain ⟨n0, hn0, hp, hk, hi⟩ := h.form x n (hsame x hxR.1 ▸ hx) hxR.2
    refine ⟨n0, hn0, hp, fun y hy => (hk y hy).imp_right fun hy' => ?_, fun y => ?_⟩
    · have hyu : y ≠ u := fun e' => huR (e' ▸ hy'.1)
      exact ⟨List.mem_cons_of_mem _ hy'.1, by rw [hsame y hyu]; exact hy'.2⟩
    · rw [hi y, Cut.cons]
      have : ¬ ∃ m, get s0 u = some m := fun ⟨m, hm⟩ => by rw [hu0] at hm; cases hm
      simp only [this, false_and, or_false]

theorem SInv.step {s0 s s1 : Store α} {R : List α} (h0 : StoreInv s0) (h : SInv s0 R s) {u : α} {old : Node α}
    {del : Prop} (hu : get s u = some old) (huR : u ∉ R)
    (hdel : del → get s1 u = none) (hnew : ¬ del → ∃ m, get s1 u = some m ∧ m.indirect = [])
    (hfwd : ∀ x n, x ≠ u → get s x = some n → ∃ n', get s1 x = some n')
    (hback : ∀ x n', x ≠ u → get s1 x = some n' → ∃ n, get s x = some n ∧ Stripped u old.out del n n') :
    SInv s0 (u :: R) s1 := by
  obtain ⟨old0, hold0, holdsub⟩ := h.out_sub hu huR
  have hrout : ∀ y, y ∈ old.out → Reach (shape s0) u y :=
    fun y hy => (h0.exact u old0 hold0 y).mp (holdsub y hy)
  refine ⟨?_, ?_, ?_, ?_⟩
  · intro x n' hx hxR
    by_cases hxu : x = u
    · subst hxu
      by_cases hd : del
      · rw [hdel hd] at hx; cases hx
      · obtain ⟨m, hm, hmi⟩ := hnew hd
        rw [hm] at hx; cases hx; exact hmi
    · obtain ⟨n, hn, st⟩ := hback x n' hxu hx
      have hn0 := h.bare x n hn ((List.mem_cons.mp hxR).resolve_left hxu)
      apply List.eq_nil_iff_forall_not_mem.mpr
      intro y hy
      have := ((st.ind y).mp hy).1
      rw [hn0] at this; cases this
  · intro x hxR hx
    by_cases hxu : x = u
    · exact ⟨old0, hxu ▸ hold0⟩
    · refine h.had x ((List.mem_cons.mp hxR).resolve_left hxu) ?_
      cases hg : get s x with
      | none => rfl
      | some n => obtain ⟨n', hn'⟩ := hfwd x n hxu hg; rw [hx] at hn'; cases hn'
  · intro x n0 hx0 hxR
    simp only [List.mem_cons, not_or] at hxR
    obtain ⟨n, hn⟩ := h.stays x n0 hx0 hxR.2
    exact hfwd x n hxR.1 hn
  · intro x n' hx hxR
    simp only [List.mem_cons, not_or] at hxR
    obtain ⟨n, hn, st⟩ := hback x n' hxR.1 hx
    obtain ⟨n0, hn0, hp, hk, hi⟩ := h.form x n hn hxR.2
    refine ⟨n0, hn0, fun y hy => hp y (st.par y hy), ?_, ?_⟩
    · intro y hy
      rcases hk y hy with hy' | ⟨hyR, hnone⟩
      · rcases st.keep y hy' with hy'' | ⟨rfl, hd⟩
        · exact Or.inl hy''
        · exact Or.inr ⟨List.mem_cons_self, hdel hd⟩
      · refine Or.inr ⟨List.mem_cons_of_mem _ hyR, ?_⟩
        cases hg : get s1 y with
        | none => rfl
        | some m =>
          obtain ⟨m', hm', _⟩ := hback y m (fun e' => by rw [e', hu] at hnone; cases hnone) hg
          rw [hnone] at hm'; cases hm'
    · -- `x` loses `y` now iff `u` is `y` or lies between `x` and `y`
      intro y
      rw [st.ind y, hi y, Cut.cons, not_or, and_assoc]
      refine and_congr_right fun hy0 => and_congr_right fun hcut => ?_
      have hyn : y ∈ n.indirect := (hi y).mpr ⟨hy0, hcut⟩
      constructor
      · rintro H ⟨_, rfl | ⟨hxu, huy⟩⟩
        · exact (H (mem_out.mpr (Or.inr hyn))).1 rfl
        · -- nothing cuts `u` off from `x`, nor `y` from `u`: it would cut `y` off from `x`
          have hun : u ∈ n.out := h.kept h0 hn hxR.2 hxu fun hc => hcut (hc.above huy hxu)
          have hyo : y ∈ old.out := h.kept h0 hu huR huy fun hc => hcut (hc.below hxu)
          exact (H hun).2 hyo
      · intro H hun
        have hxu : Reach (shape s0) x u := by
          obtain ⟨n0', hn0', hsub⟩ := h.out_sub hn hxR.2
          rw [hn0] at hn0'; cases hn0'
          exact (h0.exact x n0 hn0 u).mp (hsub u hun)
        exact ⟨fun e' => H ⟨⟨old0, hold0⟩, Or.inl e'.symm⟩,
          fun hyo => H ⟨⟨old0, hold0⟩, Or.inr ⟨hxu, hrout y hyo⟩⟩⟩

/-- every edge of the intermediate store is justified in ITS parent graph: on an original path from `x` to a kept
    `y` no uid is invalidated, so all its links are still there -/
theorem SInv.sound {s0 s : Store α} {R : List α} (h0 : StoreInv s0) (h : SInv s0 R s) : Sound (shape s) s := by
  intro x n hx y hy
  rcases mem_out.mp hy with hyp | hyi
  · exact Reach.edge (shape_some hx) hyp
  · by_cases hxR : x ∈ R
    · rw [h.bare x n hx hxR] at hyi; cases hyi
    · obtain ⟨n0, hn0, _, _, hi⟩ := h.form x n hx hxR
      obtain ⟨hy0, hcut⟩ := (hi y).mp hyi
      refine ((h0.exact x n0 hn0 y).mp (mem_out.mpr (Or.inr hy0))).mono_on
        (fun a => a ∉ R ∧ (a = x ∨ Reach (shape s0) x a)) ?_ ⟨hxR, Or.inl rfl⟩
      intro a ps b ha hps hb hby
      have hxb : Reach (shape s0) x b := by
        rcases ha.2 with rfl | ha'
        · exact Reach.edge hps hb
        · exact ha'.trans (Reach.edge hps hb)
      have hbcut : (∃ m, get s0 b = some m) → b ∉ R := fun hm hbR =>
        hcut ⟨b, hbR, hm, hby.imp_right fun hby => ⟨hxb, hby⟩⟩
      obtain ⟨na0, hna0, hpa0⟩ := shape_some_inv hps
      obtain ⟨na, hna⟩ := h.stays a na0 hna0 ha.1
      obtain ⟨na0', hna0', _, hk, _⟩ := h.form a na hna ha.1
      rw [hna0] at hna0'; cases hna0'
      refine ⟨⟨na.parents, shape_some hna, ?_⟩, fun hby' => ⟨hbcut ?_, Or.inr hxb⟩⟩
      · rcases hk b (hpa0 ▸ hb) with hb' | ⟨hbR, hnone⟩
        · exact hb'
        · exact absurd hbR (hbcut (h.had b hbR hnone))
      · obtain ⟨pb, hpb⟩ := hby'.src_some
        obtain ⟨nb, hnb, _⟩ := shape_some_inv hpb
        exact ⟨nb, hnb⟩

theorem SInv.disjoint {s0 s : Store α} {R : List α} (h0 : StoreInv s0) (h : SInv s0 R s) : Disjoint s := by
  intro x n hx y hyp hyi
  by_cases hxR : x ∈ R
  · rw [h.bare x n hx hxR] at hyi; cases hyi
  · obtain ⟨n0, hn0, hp, _, hi⟩ := h.form x n hx hxR
    exact h0.disjoint x n0 hn0 y (hp y hyp) ((hi y).mp hyi).1

end Cedar.TC
