import CedarVerif.Lemmas.PartialArms
/- What the two soundness chains of C13 share: the first-pass invariant `SoundG`, with what is known of values and of residuals
   left open, through strict arms, list arms and best-effort positions; and `Means`, what a residual means in the second pass,
   a congruence for the functions of `evaluate`'s arms (`EvalArms`). -/
namespace Cedar
open Tpe (bindR iteR andR orR likeV isV getAttrV hasAttrV)

/-- agreement of a (second-pass) partial-interpretation outcome with a concrete evaluation result:
    equal values, or both errors (the error *class* may differ); `fuel`/`panic` are the model's own stuck outcomes -/
def Sem (x : PRes) (y : Result Value) : Prop :=
  x = .fuel ∨ x = .panic ∨ (∃ v, x = .val v ∧ y = .ok v) ∨ (∃ c c', x = .err c ∧ y = .error c')

theorem Sem.fuel (y : Result Value) : Sem .fuel y := Or.inl rfl
theorem Sem.panic (y : Result Value) : Sem .panic y := Or.inr (Or.inl rfl)
theorem Sem.val (v : Value) : Sem (.val v) (.ok v) := Or.inr (Or.inr (Or.inl ⟨v, rfl, rfl⟩))
theorem Sem.err (c c' : ErrClass) : Sem (.err c) (.error c') := Or.inr (Or.inr (Or.inr ⟨c, c', rfl, rfl⟩))
theorem Sem.ofResult (y : Result Value) : Sem (PRes.ofResult y) y := by
  cases y with
  | ok v => exact Sem.val v
  | error c => exact Sem.err c c
theorem Sem.not_res {r : Expr} {y : Result Value} (h : Sem (.res r) y) : False := by
  rcases h with h | h | ⟨_, h, _⟩ | ⟨_, _, h, _⟩ <;> cases h

/-- the expression `r`, interpreted with mapper `m` on `preq` and `pes` — the way `reauthorize` interprets a residual — means
    `y`, whatever the recursion budget -/
def Means (m : Mapper) (preq : PRequest) (pes : PEntities) (env : SlotEnv) (r : Expr) (y : Result Value) : Prop :=
  ∀ n, Sem (pinterp m preq pes env n r) y

/-- the value survives `Value.toExpr` followed by (partial) interpretation -/
def RT (v : Value) : Prop :=
  ∀ (m : Mapper) (req : PRequest) (es : PEntities) (env : SlotEnv) (n : Nat),
    pinterp m req es env n v.toExpr = .fuel ∨ pinterp m req es env n v.toExpr = .val v

-- deep round-trip: the value and every record component reachable by `.`-projection round-trips
mutual
def Value.DRT : Value → Prop
  | .prim _ => True
  | .ext x => RT (.ext x)
  | .set vs => RT (.set vs)
  | .record kvs => RT (.record kvs) ∧ Value.DRTKVs kvs
def Value.DRTKVs : List (String × Value) → Prop
  | [] => True
  | (_, v) :: r => v.DRT ∧ Value.DRTKVs r
end

theorem RT_prim (p : Prim) : RT (.prim p) := by
  intro m req es env n
  cases n with
  | zero => left; simp [pinterp]
  | succ n => right; simp [Value.toExpr, pinterp]

theorem Value.DRT.rt {v : Value} (h : v.DRT) : RT v := by
  cases v with
  | prim p => exact RT_prim p
  | ext x => simpa [Value.DRT] using h
  | set vs => simpa [Value.DRT] using h
  | record kvs => simp only [Value.DRT] at h; exact h.1

theorem DRTKVs_iff (kvs : List (String × Value)) : Value.DRTKVs kvs ↔ ∀ p, p ∈ kvs → p.2.DRT := by
  induction kvs with
  | nil => exact ⟨fun _ _ h => (nomatch h), fun _ => True.intro⟩
  | cons p kvs ih => obtain ⟨k, v⟩ := p; simp only [Value.DRTKVs, ih, List.forall_mem_cons]

theorem DRTKVs_lookup {kvs : List (String × Value)} (h : Value.DRTKVs kvs) {a : String} {v : Value}
    (hl : lookupKV kvs a = some v) : v.DRT :=
  (DRTKVs_iff kvs).mp h (a, v) (lookupKV_mem hl)

theorem DRT_bool (b : Bool) : (Value.prim (.bool b)).DRT := by simp [Value.DRT]

def StoreDRT (es : Entities) : Prop :=
  ∀ u d, es.find? u = some d →
    (∀ a v, lookupKV d.attrs a = some v → v.DRT) ∧ (∀ a v, lookupKV d.tags a = some v → v.DRT)

/-- `entry` is the partial view of the concrete `uid` under the substitution σ (typed unknowns: σ respects the type) -/
def UidEntry.Conc (σ : Mapper) (key : String) (entry : UidEntry) (uid : EntityUID) : Prop :=
  match entry with
  | .known u => u = uid
  | .unknown none => lookupKV σ key = some (.prim (.entityUID uid))
  | .unknown (some t) => lookupKV σ key = some (.prim (.entityUID uid)) ∧ uid.ty = t

/-- the concrete request `req` is the partial request `preq` with its unknowns substituted by σ
    (fragment: the context is a value or entirely unknown) -/
structure Concretizes (σ : Mapper) (preq : PRequest) (req : Request) : Prop where
  principal : preq.principal.Conc σ "principal" req.principal
  action : preq.action.Conc σ "action" req.action
  resource : preq.resource.Conc σ "resource" req.resource
  context : match preq.context with
    | some (.value kvs) => kvs = req.context
    | none => lookupKV σ "context" = some (.record req.context)
    | some (.residual _) => False

theorem concretizes_ofConcrete (σ : Mapper) (req : Request) : Concretizes σ (.ofConcrete req) req :=
  ⟨rfl, rfl, rfl, rfl⟩

/-- the values `fn` returns survive `Value.toExpr`: for the constructors the print/parse round trip of the canonical rendering
    (Rust keeps the original constructor call instead).  Holds for every `fn`: `callDRT_all` (PartialExt). -/
def CallDRT (fn : String) : Prop := ∀ vs w, callExt fn vs = .ok w → w.DRT

/-- expressions whose partial interpretation never leaves a record literal as residual: not a record constructor,
    and not an `if` with such a branch -/
def NR : Expr → Prop
  | .record _ => False
  | .ite _ t e => NR t ∧ NR e
  | _ => True

/-- the fragment of expressions covered by `pinterp_sound_partial` (no unknowns in the policy text; extension calls
    for functions satisfying `CallDRT`; `.`/`has` not directly on a record constructor — `NR` —, whose residual
    `get_attr` would project into and re-interpret) -/
inductive Frag : Expr → Prop
  | lit (p : Prim) : Frag (.lit p)
  | var (v : Var) : Frag (.var v)
  | slot (s : SlotId) : Frag (.slot s)
  | ite {c t e : Expr} : Frag c → Frag t → Frag e → Frag (.ite c t e)
  | and {a b : Expr} : Frag a → Frag b → Frag (.and a b)
  | or {a b : Expr} : Frag a → Frag b → Frag (.or a b)
  | unaryApp (op : UnaryOp) {a : Expr} : Frag a → Frag (.unaryApp op a)
  | binaryApp (op : BinaryOp) {a b : Expr} : Frag a → Frag b → Frag (.binaryApp op a b)
  | getAttr {e : Expr} (a : String) : NR e → Frag e → Frag (.getAttr e a)
  | hasAttr {e : Expr} (a : String) : NR e → Frag e → Frag (.hasAttr e a)
  | like {e : Expr} (p : Pattern) : Frag e → Frag (.like e p)
  | is {e : Expr} (ty : EntityType) : Frag e → Frag (.is e ty)
  | set {xs : List Expr} : (∀ x, x ∈ xs → Frag x) → Frag (.set xs)
  | record {kvs : List (String × Expr)} : (∀ kv, kv ∈ kvs → Frag kv.2) → Frag (.record kvs)
  | call (fn : String) {args : List Expr} : fn ≠ "unknown" → CallDRT fn → (∀ x, x ∈ args → Frag x) → Frag (.call fn args)

/-- residuals produced in the fragment are never record literals (so `get_attr`'s projection arm is not taken) -/
def NotRecord : Expr → Prop
  | .record _ => False
  | _ => True

def TypedOK (r : Expr) (y : Result Value) : Prop :=
  ∀ name t, r = .unknown name (some (.entity t)) → ∃ u, y = .ok (.prim (.entityUID u)) ∧ u.ty = t

@[simp] theorem Sem_val_error (v : Value) (c : ErrClass) : Sem (.val v) (.error c) ↔ False := by simp [Sem]
@[simp] theorem Sem_err_ok (c : ErrClass) (v : Value) : Sem (.err c) (.ok v) ↔ False := by simp [Sem]
@[simp] theorem Sem_res (r : Expr) (y : Result Value) : Sem (.res r) y ↔ False := by
  simp only [iff_false]; exact Sem.not_res

theorem Sem.bind {x : PRes} {y : Result Value} (h : Sem x y) {f : Value → PRes} {g : Expr → PRes}
    {k : Value → Result Value} (hf : ∀ v, Sem (f v) (k v)) : Sem (x.bind f g) (bindR y k) := by
  rcases h with rfl | rfl | ⟨v, rfl, rfl⟩ | ⟨c, c', rfl, rfl⟩
  · exact Sem.fuel _
  · exact Sem.panic _
  · exact hf v
  · exact Sem.err c c'

section
variable {m : Mapper} {preq : PRequest} {pes : PEntities} {env : SlotEnv}

theorem sem_boolV {w : Value} : Sem (PRes.boolV w) (boolV w) := by
  unfold boolV PRes.boolV
  cases w.asBool with
  | error c => exact Sem.err c c
  | ok r => exact Sem.val _

theorem Sem.iteV {v : Value} {xt xe : PRes} {t e : Result Value} (ht : Sem xt t) (he : Sem xe e) :
    Sem (PRes.iteV xt xe v) (iteV t e v) := by
  unfold Cedar.iteV PRes.iteV
  cases v.asBool with
  | error c => exact Sem.err c c
  | ok b => cases b with
    | true => exact ht
    | false => exact he

theorem sem_and {l X : Expr} {y1 y2 : Result Value}
    (h1 : Means m preq pes env l y1) (h2 : Means m preq pes env X y2) : Means m preq pes env (.and l X) (andR y1 y2)
  | 0 => Sem.fuel _
  | n + 1 => by
    rw [pinterp_and, andR_eq]
    exact (h1 n).bind fun v => Sem.iteV ((h2 n).bind fun w => sem_boolV) (Sem.val _)

theorem sem_or {l X : Expr} {y1 y2 : Result Value}
    (h1 : Means m preq pes env l y1) (h2 : Means m preq pes env X y2) : Means m preq pes env (.or l X) (orR y1 y2)
  | 0 => Sem.fuel _
  | n + 1 => by
    rw [pinterp_or, orR_eq]
    exact (h1 n).bind fun v => Sem.iteV (Sem.val _) ((h2 n).bind fun w => sem_boolV)

theorem sem_ite {g T E : Expr} {y1 y2 y3 : Result Value} (h1 : Means m preq pes env g y1)
    (h2 : Means m preq pes env T y2) (h3 : Means m preq pes env E y3) : Means m preq pes env (.ite g T E) (iteR y1 y2 y3)
  | 0 => Sem.fuel _
  | n + 1 => by
    rw [pinterp_ite, iteR_eq]
    exact (h1 n).bind fun v => Sem.iteV (h2 n) (h3 n)

theorem sem_lit (p : Prim) (m : Mapper) (preq : PRequest) (pes : PEntities) (env : SlotEnv) :
    Means m preq pes env (.lit p) (.ok (.prim p))
  | 0 => Sem.fuel _
  | _ + 1 => Sem.val _

theorem sem_unknown {name : String} {ty : Option TyAnn} {v : Value} (hl : lookupKV m name = some v)
    (hty : ∀ t, ty = some t → v.typeOf = t) : Means m preq pes env (.unknown name ty) (.ok v)
  | 0 => Sem.fuel _
  | _ + 1 => by
    show Sem (unknownToPV m name ty) _
    unfold unknownToPV
    rw [hl]
    cases ty with
    | none => exact Sem.val v
    | some t => simp only [hty t rfl, if_true]; exact Sem.val v

theorem sem_unary (op : UnaryOp) {l : Expr} {y : Result Value} (h1 : Means m preq pes env l y) :
    Means m preq pes env (.unaryApp op l) (bindR y (applyUnary op))
  | 0 => Sem.fuel _
  | n + 1 => by
    rw [pinterp_unary]
    exact (h1 n).bind fun v => Sem.ofResult _

theorem sem_like (p : Pattern) {l : Expr} {y : Result Value} (h1 : Means m preq pes env l y) :
    Means m preq pes env (.like l p) (bindR y (likeV p))
  | 0 => Sem.fuel _
  | n + 1 => by
    rw [pinterp_like]
    refine (h1 n).bind fun v => ?_
    unfold likeV
    cases v.asString with
    | error c => exact Sem.err c c
    | ok s => exact Sem.val _

theorem sem_is (ty : EntityType) {l : Expr} {y : Result Value} (h1 : Means m preq pes env l y) :
    Means m preq pes env (.is l ty) (bindR y (isV ty))
  | 0 => Sem.fuel _
  | n + 1 => by
    rw [pinterp_is]
    refine (h1 n).bind fun v => ?_
    unfold isV
    cases v.asEntity with
    | error c => exact Sem.err c c
    | ok u => exact Sem.val _

end

theorem evaluateKVs_eq (req : Request) (es : Entities) (env : SlotEnv) (kvs : List (String × Expr)) :
    evaluateKVs req es env kvs = (evaluateList req es env (kvs.map (·.2))).map fun vs => (kvs.map (·.1)).zip vs := by
  induction kvs with
  | nil => rfl
  | cons kv kvs ih =>
    obtain ⟨k, x⟩ := kv
    simp only [evaluateKVs, evaluateList, List.map_cons, ih]
    cases evaluate req es env x <;> first | rfl | (cases evaluateList req es env (kvs.map (·.2)) <;> rfl)

section
variable (req : Request) (es : Entities) (env : SlotEnv)

theorem evaluate_record_unzip (kvs : List (String × Expr)) : evaluate req es env (.record kvs) =
    listR (evaluateList req es env (kvs.map (·.2))) fun vs =>
      .ok (.record (((kvs.map (·.1)).zip vs).foldl (fun acc kv => insertKV kv.1 kv.2 acc) [])) := by
  rw [evaluate, evaluateKVs_eq]; cases evaluateList req es env (kvs.map (·.2)) <;> rfl

end

/-- the results of a list of expressions under a reference semantics `yx` (`evaluate`, or `evaluate ∘ substUnk σ`):
    the first error wins -/
def collectR (yx : Expr → Result Value) : List Expr → Result (List Value)
  | [] => .ok []
  | x :: xs => (yx x).bind fun v => (collectR yx xs).bind fun vs => .ok (v :: vs)

theorem evaluateList_eq_collectR (req : Request) (es : Entities) (env : SlotEnv) (xs : List Expr) :
    evaluateList req es env xs = collectR (evaluate req es env) xs := by
  induction xs with
  | nil => rfl
  | cons x xs ih =>
    rw [evaluateList, collectR, ← ih]
    cases evaluate req es env x <;> first | rfl | (cases evaluateList req es env xs <;> rfl)

theorem collectR_cons (yx : Expr → Result Value) (x : Expr) (xs : List Expr) (k : List Value → Result Value) :
    listR (collectR yx (x :: xs)) k = bindR (yx x) fun v => listR (collectR yx xs) fun vs => k (v :: vs) := by
  rw [collectR]
  cases yx x <;> first | rfl | (cases collectR yx xs <;> rfl)

/-- what the first-pass outcome `x` of an expression whose reference result is `y` must satisfy.  `G` is what is known of a
    value that was found, `K r y` what is known of a residual `r`; the soundness theorems of C13 instantiate them. -/
def SoundG (G : Value → Prop) (K : Expr → Result Value → Prop) (y : Result Value) : PRes → Prop
  | .val v => y = .ok v ∧ G v
  | .err _ => ∃ c', y = .error c'
  | .res r => K r y
  | .fuel => True
  | .panic => True

section
variable {G : Value → Prop} {K K' : Expr → Result Value → Prop} {y y' : Result Value}

theorem SoundG.ofResult (h : ∀ w, y = .ok w → G w) : SoundG G K y (PRes.ofResult y) := by
  cases y with
  | ok v => exact ⟨rfl, h v rfl⟩
  | error c => exact ⟨c, rfl⟩

theorem SoundG.boolV (hb : ∀ b, G (.prim (.bool b))) {w : Value} : SoundG G K (boolV w) (PRes.boolV w) := by
  unfold Cedar.boolV PRes.boolV
  cases w.asBool with
  | error c => exact ⟨c, rfl⟩
  | ok r => exact ⟨rfl, hb r⟩

theorem SoundG.iteV {v : Value} {xt xe : PRes} {t e : Result Value} (ht : SoundG G K t xt) (he : SoundG G K e xe) :
    SoundG G K (iteV t e v) (PRes.iteV xt xe v) := by
  unfold Cedar.iteV PRes.iteV
  cases v.asBool with
  | error c => exact ⟨c, rfl⟩
  | ok b => cases b with
    | true => exact ht
    | false => exact he

theorem SoundG.bind' {x : PRes} (hx : SoundG G K y x) {f : Value → PRes} {g : Expr → PRes}
    (hv : ∀ v, y = .ok v → G v → SoundG G K' y' (f v))
    (he : ∀ c, y = .error c → ∃ c', y' = .error c')
    (hg : ∀ r, K r y → SoundG G K' y' (g r)) : SoundG G K' y' (x.bind f g) := by
  cases x with
  | val v => exact hv v hx.1 hx.2
  | res r => exact hg r hx
  | err c => obtain ⟨c', hc⟩ := hx; exact he c' hc
  | fuel => trivial
  | panic => trivial

theorem SoundG.bind {x : PRes} (hx : SoundG G K y x) {f : Value → PRes} {g : Expr → PRes} {k : Value → Result Value}
    (hv : ∀ v, G v → SoundG G K' (k v) (f v))
    (hg : ∀ r, K r y → SoundG G K' (bindR y k) (g r)) : SoundG G K' (bindR y k) (x.bind f g) :=
  hx.bind' (fun v hy hd => by subst hy; exact hv v hd) (fun c hy => by subst hy; exact ⟨c, rfl⟩) hg

theorem SoundG.mono {G' : Value → Prop} {x : PRes} (h : SoundG G K y x) (hG : ∀ v, y = .ok v → G v → G' v)
    (hK : ∀ r, K r y → K' r y) : SoundG G' K' y x := by
  cases x with
  | val v => exact ⟨h.1, hG v h.1 h.2⟩
  | res r => exact hK r h
  | err c => exact h
  | fuel => trivial
  | panic => trivial

/-- a best-effort position.  `E X`: the expression `X` may be kept for `b`; it holds of the expression of the value found,
    of the residual, and — where `b` fails — of `b` itself -/
theorem SoundG.bestEffort {xb : PRes} {b : Expr} (hs : SoundG G K y xb) {E : Expr → Prop}
    (hval : ∀ v, y = .ok v → G v → E v.toExpr) (hres : ∀ r, K r y → E r) (herr : ∀ c, y = .error c → E b)
    {k : Expr → PRes} (hk : ∀ X, E X → SoundG G K' y' (k X)) : SoundG G K' y' (bestEffort xb b k) := by
  cases xb with
  | val v => exact hk _ (hval v hs.1 hs.2)
  | res r => exact hk r (hres r hs)
  | err c => obtain ⟨c', hc'⟩ := hs; exact hk b (herr c' hc')
  | fuel => trivial
  | panic => trivial

end

section
variable {G : Value → Prop} {Kx : Expr → Expr → Result Value → Prop} {K' : Expr → Result Value → Prop}
  {yx : Expr → Result Value} {E : Expr → Expr → Prop}

theorem listRel_toExpr (hval : ∀ x v, yx x = .ok v → G v → E v.toExpr x) {xs : List Expr} {vs : List Value}
    (he : collectR yx xs = .ok vs) (hd : ∀ v, v ∈ vs → G v) : ListRel E (vs.map Value.toExpr) xs := by
  induction xs generalizing vs with
  | nil => cases he; exact .nil
  | cons x xs ih =>
    rw [collectR] at he
    cases hx : yx x with
    | error c => rw [hx] at he; cases he
    | ok w =>
      cases hxs : collectR yx xs with
      | error c => rw [hx, hxs] at he; cases he
      | ok ws =>
        rw [hx, hxs] at he; cases he
        exact .cons (hval x w hx (hd w (List.mem_cons_self ..))) (ih hxs fun w' hw' => hd w' (List.mem_cons_of_mem _ hw'))

/-- a list arm.  `E r x`: the expression `r` kept in the residual stands for the element `x`; it holds of the expression of a
    value found (`hval`) and of a residual (`hres`) -/
theorem SoundG.ofCollect' (hval : ∀ x v, yx x = .ok v → G v → E v.toExpr x)
    {go : Expr → PRes} {xs : List Expr} (h : ∀ x, x ∈ xs → SoundG G (Kx x) (yx x) (go x))
    (hres : ∀ x r, x ∈ xs → Kx x r (yx x) → E r x) {y' : Result Value}
    {k : List Value → PRes} {g : List Expr → PRes}
    (hk : ∀ vs, collectR yx xs = .ok vs → (∀ v, v ∈ vs → G v) → SoundG G K' y' (k vs))
    (he : ∀ c, collectR yx xs = .error c → ∃ c', y' = .error c')
    (hg : ∀ rs, ListRel E rs xs → SoundG G K' y' (g rs)) :
    SoundG G K' y' (.ofCollect (collectPV go xs) k g) := by
  induction xs generalizing k g with
  | nil => exact hk [] rfl nofun
  | cons x xs ih =>
    have ih' := @ih (fun z hz => h z (List.mem_cons_of_mem _ hz)) (fun z r hz => hres z r (List.mem_cons_of_mem _ hz))
    rw [ofCollect_cons]
    refine (h x (List.mem_cons_self ..)).bind' (fun v hv hd => ?_) (fun c hc => he c (by rw [collectR, hc]; rfl)) (fun e se => ?_)
    · refine ih' (fun vs hvs hds => hk (v :: vs) (by rw [collectR, hv, hvs]; rfl) ?_)
        (fun c hc => he c (by rw [collectR, hv, hc]; rfl))
        (fun rs hrs => hg _ (.cons (hval x v hv hd) hrs))
      intro w hw
      rcases List.mem_cons.mp hw with rfl | hw
      · exact hd
      · exact hds w hw
    · have hE := hres x e (List.mem_cons_self ..) se
      refine ih' (fun vs hvs hds => hg _ (.cons hE (listRel_toExpr hval hvs hds))) (fun c hc => ?_)
        (fun rs hrs => hg _ (.cons hE hrs))
      cases hev : yx x with
      | error c3 => exact he c3 (by rw [collectR, hev]; rfl)
      | ok v => exact he c (by rw [collectR, hev, hc]; rfl)

theorem SoundG.ofCollect (hval : ∀ x v, yx x = .ok v → G v → E v.toExpr x)
    {go : Expr → PRes} {xs : List Expr} (h : ∀ x, x ∈ xs → SoundG G (Kx x) (yx x) (go x))
    (hres : ∀ x r, x ∈ xs → Kx x r (yx x) → E r x)
    {k : List Value → PRes} {g : List Expr → PRes} {k' : List Value → Result Value}
    (hk : ∀ vs, (∀ v, v ∈ vs → G v) → SoundG G K' (k' vs) (k vs))
    (hg : ∀ rs, ListRel E rs xs → SoundG G K' (listR (collectR yx xs) k') (g rs)) :
    SoundG G K' (listR (collectR yx xs) k') (.ofCollect (collectPV go xs) k g) :=
  SoundG.ofCollect' hval h hres (fun vs hvs hds => by rw [hvs]; exact hk vs hds) (fun c hc => ⟨c, by rw [hc]; rfl⟩) hg

end

section
variable {m : Mapper} {preq : PRequest} {pes : PEntities} {env : SlotEnv} {req : Request} {es : Entities}

theorem Sem.ofCollect {rs xs : List Expr}
    (h : ListRel (fun r x => Means m preq pes env r (evaluate req es env x)) rs xs) (n : Nat)
    {k : List Value → PRes} {g : List Expr → PRes} {k' : List Value → Result Value} (hk : ∀ vs, Sem (k vs) (k' vs)) :
    Sem (.ofCollect (collectPV (pinterp m preq pes env n) rs) k g) (listR (evaluateList req es env xs) k') := by
  induction h generalizing k g k' with
  | nil => exact hk []
  | cons hrx _ ih =>
    rw [ofCollect_cons, evaluateList_eq_collectR, collectR_cons, ← evaluateList_eq_collectR]
    exact (hrx n).bind fun v => ih fun vs => hk (v :: vs)

theorem sem_set {rs xs : List Expr}
    (h : ListRel (fun r x => Means m preq pes env r (evaluate req es env x)) rs xs) :
    Means m preq pes env (.set rs)
      (listR (evaluateList req es env xs) fun vs => .ok (.set (Value.mkSet vs)))
  | 0 => Sem.fuel _
  | n + 1 => by
    rw [pinterp_set]
    exact Sem.ofCollect h n fun vs => Sem.val _

theorem sem_call {fn : String} (hfn : fn ≠ "unknown") {rs xs : List Expr}
    (h : ListRel (fun r x => Means m preq pes env r (evaluate req es env x)) rs xs) :
    Means m preq pes env (.call fn rs) (listR (evaluateList req es env xs) (callExt fn))
  | 0 => Sem.fuel _
  | n + 1 => by
    rw [pinterp_call]
    exact Sem.ofCollect h n fun vs => by rw [pcallExt_ne_unknown hfn]; exact Sem.ofResult _

theorem sem_record {rs : List Expr} {kvs : List (String × Expr)}
    (h : ListRel (fun r x => Means m preq pes env r (evaluate req es env x)) rs (kvs.map (·.2))) :
    Means m preq pes env (.record ((kvs.map (·.1)).zip rs))
      (listR (evaluateList req es env (kvs.map (·.2))) fun vs =>
        .ok (.record (((kvs.map (·.1)).zip vs).foldl (fun acc kv => insertKV kv.1 kv.2 acc) [])))
  | 0 => Sem.fuel _
  | n + 1 => by
    have hl : (kvs.map (·.1)).length = rs.length := by rw [h.length, List.length_map, List.length_map]
    rw [pinterp_record, List.map_snd_zip (Nat.le_of_eq hl.symm), List.map_fst_zip (Nat.le_of_eq hl)]
    exact Sem.ofCollect h n fun vs => Sem.val _

end

section
variable {m : Mapper} {preq : PRequest} {env : SlotEnv} {es : Entities}

theorem sem_binary (op : BinaryOp) {l X : Expr} {y1 y2 : Result Value}
    (h1 : Means m preq (.ofConcrete es) env l y1) (h2 : Means m preq (.ofConcrete es) env X y2) :
    Means m preq (.ofConcrete es) env (.binaryApp op l X)
      (bindR y1 fun v1 => bindR y2 (applyBinary es op v1))
  | 0 => Sem.fuel _
  | n + 1 => by
    rw [pinterp_binary]
    refine (h1 n).bind fun v1 => (h2 n).bind fun v2 => ?_
    rw [papplyBinary_ofConcrete]; exact Sem.ofResult _

theorem sem_getAttr (attr : String) {l : Expr} {y : Result Value}
    (h1 : Means m preq (.ofConcrete es) env l y) :
    Means m preq (.ofConcrete es) env (.getAttr l attr) (bindR y (getAttrV es attr))
  | 0 => Sem.fuel _
  | n + 1 => by
    rw [pinterp_getAttr]
    refine (h1 n).bind fun v => ?_
    rw [getAttrVal_ofConcrete]; exact Sem.ofResult _

theorem sem_hasAttr (attr : String) {l : Expr} {y : Result Value}
    (h1 : Means m preq (.ofConcrete es) env l y) :
    Means m preq (.ofConcrete es) env (.hasAttr l attr) (bindR y (hasAttrV es attr))
  | 0 => Sem.fuel _
  | n + 1 => by
    rw [pinterp_hasAttr]
    refine (h1 n).bind fun v => ?_
    rw [hasAttrVal_ofConcrete]; exact Sem.ofResult _

end

theorem ofResult_noRes (y : Result Value) (r : Expr) : PRes.ofResult y ≠ .res r := by
  cases y <;> nofun

theorem iteV_noRes {xt xe : PRes} (ht : ∀ r, xt ≠ .res r) (he : ∀ r, xe ≠ .res r) (v : Value) : ∀ r, PRes.iteV xt xe v ≠ .res r := by
  unfold PRes.iteV
  split
  · nofun
  · exact ht
  · exact he

theorem boolV_noRes (w : Value) (r : Expr) : PRes.boolV w ≠ .res r := by
  unfold PRes.boolV; split <;> nofun

theorem bind_noRes {x : PRes} {f : Value → PRes} {g : Expr → PRes} (hx : ∀ r, x ≠ .res r) (hf : ∀ v r, f v ≠ .res r) :
    ∀ r, x.bind f g ≠ .res r := by
  cases x with
  | val v => exact hf v
  | res e => exact (hx e rfl).elim
  | _ => nofun

theorem ofCollect_noRes {f : Expr → PRes} {xs : List Expr} (h : ∀ x, x ∈ xs → ∀ r, f x ≠ .res r)
    {k : List Value → PRes} {g : List Expr → PRes} (hk : ∀ vs r, k vs ≠ .res r) :
    ∀ r, PRes.ofCollect (collectPV f xs) k g ≠ .res r := by
  induction xs generalizing k g with
  | nil => exact hk []
  | cons x xs ih =>
    rw [ofCollect_cons]
    exact bind_noRes (h x (List.mem_cons_self ..)) fun v =>
      ih (fun y hy => h y (List.mem_cons_of_mem _ hy)) fun vs => hk (v :: vs)

/-- the expression does not call the `unknown` extension function, and the mapper gives every unknown in it a value -/
inductive Closed (m : Mapper) : Expr → Prop
  | lit (p : Prim) : Closed m (.lit p)
  | var (v : Var) : Closed m (.var v)
  | slot (s : SlotId) : Closed m (.slot s)
  | unknown {name : String} (ty : Option TyAnn) {v : Value} : lookupKV m name = some v → Closed m (.unknown name ty)
  | ite {c t e : Expr} : Closed m c → Closed m t → Closed m e → Closed m (.ite c t e)
  | and {a b : Expr} : Closed m a → Closed m b → Closed m (.and a b)
  | or {a b : Expr} : Closed m a → Closed m b → Closed m (.or a b)
  | unaryApp (op : UnaryOp) {a : Expr} : Closed m a → Closed m (.unaryApp op a)
  | binaryApp (op : BinaryOp) {a b : Expr} : Closed m a → Closed m b → Closed m (.binaryApp op a b)
  | getAttr {e : Expr} (a : String) : Closed m e → Closed m (.getAttr e a)
  | hasAttr {e : Expr} (a : String) : Closed m e → Closed m (.hasAttr e a)
  | like {e : Expr} (p : Pattern) : Closed m e → Closed m (.like e p)
  | is {e : Expr} (ty : EntityType) : Closed m e → Closed m (.is e ty)
  | set {xs : List Expr} : (∀ x, x ∈ xs → Closed m x) → Closed m (.set xs)
  | record {kvs : List (String × Expr)} : (∀ kv, kv ∈ kvs → Closed m kv.2) → Closed m (.record kvs)
  | call {fn : String} {args : List Expr} : fn ≠ "unknown" → (∀ x, x ∈ args → Closed m x) → Closed m (.call fn args)

/-- the three store accesses of `pinterp` return no residual (no entity is unknown, no stored tag is a residual, a
    stored residual attribute is an unknown that the mapper resolves) -/
structure GroundStore (m : Mapper) (pes : PEntities) : Prop where
  binary : ∀ op v1 v2 r, papplyBinary pes op v1 v2 ≠ .res r
  getAttr : ∀ attr v r, getAttrVal m pes attr v ≠ .res r
  hasAttr : ∀ attr v r, hasAttrVal pes attr v ≠ .res r

theorem groundStore_ofConcrete (m : Mapper) (es : Entities) : GroundStore m (.ofConcrete es) where
  binary op v1 v2 := by rw [papplyBinary_ofConcrete]; exact ofResult_noRes _
  getAttr attr v := by rw [getAttrVal_ofConcrete]; exact ofResult_noRes _
  hasAttr attr v := by rw [hasAttrVal_ofConcrete]; exact ofResult_noRes _

theorem unknownToPV_noRes {m : Mapper} {name : String} {v : Value} (h : lookupKV m name = some v) (ty : Option TyAnn) :
    ∀ r, unknownToPV m name ty ≠ .res r := by
  unfold unknownToPV
  rw [h]
  cases ty with
  | none => nofun
  | some t => intro r; simp only; split <;> nofun

theorem pinterp_noRes {m : Mapper} {pes : PEntities} (hS : GroundStore m pes) (req : Request) (env : SlotEnv)
    {e : Expr} (hc : Closed m e) : ∀ (n : Nat) (r : Expr), pinterp m (.ofConcrete req) pes env n e ≠ .res r := by
  induction hc with
  | lit p => intro n; cases n <;> nofun
  | var v => intro n; cases n <;> cases v <;> nofun
  | slot s =>
    intro n
    cases n with
    | zero => nofun
    | succ n => intro r; simp only [pinterp]; split <;> nofun
  | unknown ty h =>
    intro n
    cases n with
    | zero => nofun
    | succ n => exact unknownToPV_noRes h ty
  | ite _ _ _ ihc iht ihe =>
    intro n
    cases n with
    | zero => nofun
    | succ n =>
      rw [pinterp_ite]
      exact bind_noRes (ihc n) (iteV_noRes (iht n) (ihe n))
  | and _ _ iha ihb =>
    intro n
    cases n with
    | zero => nofun
    | succ n =>
      rw [pinterp_and]
      exact bind_noRes (iha n) (iteV_noRes (bind_noRes (ihb n) boolV_noRes) nofun)
  | or _ _ iha ihb =>
    intro n
    cases n with
    | zero => nofun
    | succ n =>
      rw [pinterp_or]
      exact bind_noRes (iha n) (iteV_noRes nofun (bind_noRes (ihb n) boolV_noRes))
  | unaryApp op _ iha =>
    intro n
    cases n with
    | zero => nofun
    | succ n => rw [pinterp_unary]; exact bind_noRes (iha n) fun v => ofResult_noRes _
  | binaryApp op _ _ iha ihb =>
    intro n
    cases n with
    | zero => nofun
    | succ n => rw [pinterp_binary]; exact bind_noRes (iha n) fun v1 => bind_noRes (ihb n) (hS.binary op v1)
  | getAttr a _ ihe =>
    intro n
    cases n with
    | zero => nofun
    | succ n => rw [pinterp_getAttr]; exact bind_noRes (ihe n) (hS.getAttr a)
  | hasAttr a _ ihe =>
    intro n
    cases n with
    | zero => nofun
    | succ n => rw [pinterp_hasAttr]; exact bind_noRes (ihe n) (hS.hasAttr a)
  | like p _ ihe =>
    intro n
    cases n with
    | zero => nofun
    | succ n => rw [pinterp_like]; exact bind_noRes (ihe n) fun v r => by split <;> nofun
  | is ty _ ihe =>
    intro n
    cases n with
    | zero => nofun
    | succ n => rw [pinterp_is]; exact bind_noRes (ihe n) fun v r => by split <;> nofun
  | set _ ih =>
    intro n
    cases n with
    | zero => nofun
    | succ n => rw [pinterp_set]; exact ofCollect_noRes (fun x hx => ih x hx n) (fun vs => nofun)
  | call hfn _ ih =>
    intro n
    cases n with
    | zero => nofun
    | succ n =>
      rw [pinterp_call]
      exact ofCollect_noRes (fun x hx => ih x hx n) fun vs => by rw [pcallExt_ne_unknown hfn]; exact ofResult_noRes _
  | record _ ih =>
    intro n
    cases n with
    | zero => nofun
    | succ n =>
      rw [pinterp_record]
      refine ofCollect_noRes (fun x hx => ?_) (fun vs => nofun)
      obtain ⟨kv, hkv, rfl⟩ := List.mem_map.mp hx
      exact ih kv hkv n

theorem Frag.closed (m : Mapper) {e : Expr} (hf : Frag e) : Closed m e := by
  induction hf with
  | lit p => exact .lit p
  | var v => exact .var v
  | slot s => exact .slot s
  | ite _ _ _ ihc iht ihe => exact .ite ihc iht ihe
  | and _ _ iha ihb => exact .and iha ihb
  | or _ _ iha ihb => exact .or iha ihb
  | unaryApp op _ iha => exact .unaryApp op iha
  | binaryApp op _ _ iha ihb => exact .binaryApp op iha ihb
  | getAttr a _ _ ihe => exact .getAttr a ihe
  | hasAttr a _ _ ihe => exact .hasAttr a ihe
  | like p _ ihe => exact .like p ihe
  | is ty _ ihe => exact .is ty ihe
  | set _ ih => exact .set ih
  | record _ ih => exact .record ih
  | call fn hfn _ _ ih => exact .call hfn ih

theorem Frag.noRes {e : Expr} (hf : Frag e) (req : Request) (es : Entities) (env : SlotEnv) :
    ∀ (m : Mapper) (n : Nat) (r : Expr), pinterp m (.ofConcrete req) (.ofConcrete es) env n e ≠ .res r :=
  fun m => pinterp_noRes (groundStore_ofConcrete m es) req env (hf.closed m)

end Cedar
