import CedarVerif.Cedar.Eval
import CedarVerif.Lemmas.Except
/- The evaluator reads the store only through `Entities.find?` (extensionality in the store), and among the binary operators only
   `in`, `getTag` and `hasTag` read it at all. What the operators return: Booleans and longs, `getTag` alone a stored value. -/
namespace Cedar

theorem ok_bool_eq_true {b : Bool} :
    (Except.ok (Value.prim (.bool b)) : Result Value) = .ok (.prim (.bool true)) ↔ b = true :=
  ⟨fun h => by injection h with h; injection h with h; injection h, fun h => by rw [h]⟩

variable (req : Request) (env : SlotEnv) (es₁ es₂ : Entities)

def BinaryOp.storeFree : BinaryOp → Bool
  | .mem | .getTag | .hasTag => false
  | _ => true

/-- `in`, `getTag` and `hasTag` look up their left operand, an entity, and nothing else -/
theorem applyBinary_store {op : BinaryOp} {v1 : Value}
    (h : op.storeFree = false → ∀ u, v1.asEntity = .ok u → es₁.find? u = es₂.find? u) (v2 : Value) :
    applyBinary es₁ op v1 v2 = applyBinary es₂ op v1 v2 := by
  cases op with
  | mem | getTag | hasTag =>
    cases hv : v1.asEntity with
    | error _ => simp only [applyBinary, hv, bind, Except.bind]
    | ok u => simp only [applyBinary, hv, bind, Except.bind, inE, h rfl u hv]
  | _ => rfl

theorem applyBinary_ext (h : ∀ u, es₁.find? u = es₂.find? u) (op : BinaryOp) (v1 v2 : Value) :
    applyBinary es₁ op v1 v2 = applyBinary es₂ op v1 v2 :=
  applyBinary_store es₁ es₂ (fun _ u _ => h u) v2

theorem applyBinary_storeFree {op : BinaryOp} (h : op.storeFree = true) (es es' : Entities) (v1 v2 : Value) :
    applyBinary es op v1 v2 = applyBinary es' op v1 v2 :=
  applyBinary_store es es' (fun hf => nomatch h.symm.trans hf) v2

section out
variable {G : Value → Prop} (hb : ∀ b, G (.prim (.bool b))) (hi : ∀ i, G (.prim (.int i)))
include hb hi

omit hb in
theorem intOrErr_out {i : Int} {w : Value} (h : intOrErr i = .ok w) : G w := by
  unfold intOrErr at h
  split at h <;> cases h
  exact hi i

theorem applyUnary_out {op : UnaryOp} {v w : Value} (h : applyUnary op v = .ok w) : G w := by
  cases op <;> simp only [applyUnary] at h
  · exact of_bind_ok h fun b hb' => by cases hb'; exact hb _
  · exact of_bind_ok h fun i hi' => intOrErr_out hi hi'
  · exact of_bind_ok h fun s hs => by cases hs; exact hb _

omit hi in
theorem applyCmp_out {s : Bool} {v1 v2 w : Value} (h : applyCmp s v1 v2 = .ok w) : G w := by
  cases s <;> simp only [applyCmp] at h <;> split at h <;> first | (cases h; exact hb _) | cases h

theorem applyBinary_out {es : Entities} {op : BinaryOp}
    (htag : op = .getTag → ∀ u d t w, es.find? u = some d → lookupKV d.tags t = some w → G w) {v1 v2 w : Value}
    (h : applyBinary es op v1 v2 = .ok w) : G w := by
  cases op <;> simp only [applyBinary] at h
  · cases h; exact hb _
  · exact applyCmp_out hb h
  · exact applyCmp_out hb h
  · exact of_bind_ok h fun a ha => of_bind_ok ha fun b hb' => intOrErr_out hi hb'
  · exact of_bind_ok h fun a ha => of_bind_ok ha fun b hb' => intOrErr_out hi hb'
  · exact of_bind_ok h fun a ha => of_bind_ok ha fun b hb' => intOrErr_out hi hb'
  · refine of_bind_ok h fun u hu => ?_
    split at hu
    · cases hu; exact hb _
    · exact of_bind_ok hu fun us hus => by cases hus; exact hb _
    · cases hu
  · exact of_bind_ok h fun s hs => by cases hs; exact hb _
  · exact of_bind_ok h fun s1 h1 => of_bind_ok h1 fun s2 h2 => by cases h2; exact hb _
  · exact of_bind_ok h fun s1 h1 => of_bind_ok h1 fun s2 h2 => by cases h2; exact hb _
  · refine of_bind_ok h fun u hu => of_bind_ok hu fun t ht => ?_
    split at ht
    · cases ht
    · rename_i d hf
      split at ht
      · rename_i hl; cases ht; exact htag rfl u d t _ hf hl
      · cases ht
  · refine of_bind_ok h fun u hu => of_bind_ok hu fun t ht => ?_
    split at ht <;> cases ht <;> exact hb _

end out

mutual
theorem evaluate_ext (h : ∀ u, es₁.find? u = es₂.find? u) :
    ∀ e, evaluate req es₁ env e = evaluate req es₂ env e
  | .lit _ => by simp only [evaluate]
  | .var v => by cases v <;> simp only [evaluate]
  | .slot _ => by simp only [evaluate]
  | .unknown _ _ => by simp only [evaluate]
  | .ite c t e => by simp only [evaluate, evaluate_ext h c, evaluate_ext h t, evaluate_ext h e]
  | .and a b => by simp only [evaluate, evaluate_ext h a, evaluate_ext h b]
  | .or a b => by simp only [evaluate, evaluate_ext h a, evaluate_ext h b]
  | .unaryApp _ a => by simp only [evaluate, evaluate_ext h a]
  | .binaryApp op a b => by
      simp only [evaluate, evaluate_ext h a, evaluate_ext h b]
      cases evaluate req es₂ env a <;> simp only
      cases evaluate req es₂ env b <;> simp only
      exact applyBinary_ext es₁ es₂ h op _ _
  | .call _ args => by simp only [evaluate, evaluateList_ext h args]
  | .getAttr e _ => by simp only [evaluate, evaluate_ext h e, h]
  | .hasAttr e _ => by simp only [evaluate, evaluate_ext h e, h]
  | .like e _ => by simp only [evaluate, evaluate_ext h e]
  | .is e _ => by simp only [evaluate, evaluate_ext h e]
  | .set xs => by simp only [evaluate, evaluateList_ext h xs]
  | .record kvs => by simp only [evaluate, evaluateKVs_ext h kvs]
termination_by structural e => e
theorem evaluateList_ext (h : ∀ u, es₁.find? u = es₂.find? u) :
    ∀ xs, evaluateList req es₁ env xs = evaluateList req es₂ env xs
  | [] => by simp only [evaluateList]
  | x :: xs => by simp only [evaluateList, evaluate_ext h x, evaluateList_ext h xs]
termination_by structural xs => xs
theorem evaluateKVs_ext (h : ∀ u, es₁.find? u = es₂.find? u) :
    ∀ kvs, evaluateKVs req es₁ env kvs = evaluateKVs req es₂ env kvs
  | [] => by simp only [evaluateKVs]
  | (k, x) :: kvs => by simp only [evaluateKVs, evaluate_ext h x, evaluateKVs_ext h kvs]
termination_by structural kvs => kvs
end

theorem evaluateList_error_of_mem {req : Request} {es : Entities} {env : SlotEnv} {xs : List Expr} {x : Expr}
    (hx : x ∈ xs) {c : ErrClass} (he : evaluate req es env x = .error c) : ∃ c', evaluateList req es env xs = .error c' := by
  induction xs with
  | nil => cases hx
  | cons y ys ih =>
    simp only [evaluateList]
    rcases List.mem_cons.mp hx with rfl | hx
    · rw [he]; exact ⟨c, rfl⟩
    · cases evaluate req es env y with
      | error c1 => exact ⟨c1, rfl⟩
      | ok v =>
        obtain ⟨c', hc'⟩ := ih hx
        rw [hc']; exact ⟨c', rfl⟩

section
variable (req : Request) (es : Entities) (env : SlotEnv)

theorem evaluateKVs_error_head {k : String} {x : Expr} {kvs : List (String × Expr)} {c : ErrClass}
    (he : evaluate req es env x = .error c) : evaluateKVs req es env ((k, x) :: kvs) = .error c := by
  simp [evaluateKVs, he]

end

end Cedar
