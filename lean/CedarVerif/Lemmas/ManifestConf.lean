import CedarVerif.Lemmas.ManifestTyped
import CedarVerif.Lemmas.TypecheckSIP
/-
The link to C11.  `ConfRoots` — conformance of the data to the schema as far as a trie looks —
holds for EVERY trie as soon as request and store conform to the schema in the sense of C11 / C03 (`ConformsRequest`,
`StoreConforms`: Cedar/Validation/Conformance.lean, characterised by the executable checkers in Thm/C11.lean), for a
schema whose declared record types are closed with distinct keys (`SchemaWF3`) and whose entity types have no open
attribute records (`SchemaClosed`; both hold of every schema Rust constructs without partial-schema support).
-/
namespace Cedar.Manifest
open Cedar Cedar.C03

/-- `SchemaWF3` plus: no entity type has an open attributes record (`open_attributes()` is `ClosedAttributes` for every
schema constructed without partial-schema support) -/
structure SchemaClosed (s : Schema) : Prop extends SchemaWF3 s where
  et_closed : ∀ T et, s.entityType? T = some et → et.isOpen = false

theorem confF_nil_data (s : Schema) (rt : ReqType) (es : Entities) (req : Request) (attrs : Attrs) (c : Fields) :
    ConfF s rt es req c attrs [] :=
  (confF_iff c attrs []).2 fun _ _ _ w hw => by simp [lookupKV] at hw

theorem euidLiteralType_some {s : Schema} {u : EntityUID} {ty : CedarType}
    (h : Manifest.euidLiteralType s u = some ty) : ty = .entity [u.ty] := by
  unfold Manifest.euidLiteralType at h
  split at h
  · split at h
    · simp only [Option.some.injEq] at h; exact h.symm
    · cases h
  · split at h
    · simp only [Option.some.injEq] at h; exact h.symm
    · cases h

theorem inst_entity_ty {v : Value} {lub : List EntityType} (h : InstanceOfType v (.entity lub)) :
    ∃ u, v = .prim (.entityUID u) ∧ u.ty ∈ lub := by
  cases h with
  | entity u _ hm => exact ⟨u, rfl, hm⟩

section
variable {s : Schema} {rt : ReqType} {es : Entities} {req : Request}

theorem confF_inst_of {c : Fields} {attrs : Attrs} {kvs : List (String × Value)}
    (hV : ∀ f t, (f, t) ∈ c → ∀ τ w, cn τ = true → InstanceOfType w τ → ConfV s rt es req t τ w)
    (h : ∀ k w, lookupKV kvs k = some w → ∃ q τ, Attrs.find? attrs k = some (q, τ) ∧ cn τ = true ∧ InstanceOfType w τ) :
    ConfF s rt es req c attrs kvs :=
  (confF_iff c attrs kvs).2 fun f t hm w hw =>
    let ⟨q, τ, h1, h2, h3⟩ := h f w hw
    ⟨q, τ, h1, hV f t hm τ w h2 h3⟩

variable (hWF : SchemaClosed s) (hst : StoreConforms s es) (hreq : ConformsRequest s req)
variable (hp : req.principal.ty = rt.principal) (ha : req.action = rt.action) (hr : req.resource.ty = rt.resource)
include hWF hst hreq hp ha hr

omit hst in
theorem confRoot_inst_of {root : EntityRoot} {t : AccessTrie}
    (hV : ∀ ty v, cn ty = true → InstanceOfType v ty → ConfV s rt es req t ty v) :
    ∀ ty, rootType s rt root = .ok ty → ConfV s rt es req t ty (rootVal req root) := by
  intro ty hty
  cases root with
  | literal u =>
    simp only [rootType] at hty
    cases hl : Manifest.euidLiteralType s u with
    | none => simp [hl] at hty
    | some ty' =>
      simp only [hl, Except.ok.injEq] at hty
      subst hty
      rw [euidLiteralType_some hl]
      exact hV _ _ rfl (.entity u _ (by simp))
  | var x =>
    cases x with
    | principal =>
      simp only [rootType, Except.ok.injEq] at hty
      subst hty
      exact hV _ _ rfl (.entity req.principal _ (by simp [hp]))
    | resource =>
      simp only [rootType, Except.ok.injEq] at hty
      subst hty
      exact hV _ _ rfl (.entity req.resource _ (by simp [hr]))
    | action =>
      simp only [rootType] at hty
      cases hl : Manifest.euidLiteralType s rt.action with
      | none => simp [hl] at hty
      | some ty' =>
        simp only [hl, Except.ok.injEq] at hty
        subst hty
        rw [euidLiteralType_some hl]
        exact hV _ _ rfl (.entity req.action _ (by simp [ha]))
    | context =>
      simp only [rootType] at hty
      cases hact : s.action? rt.action with
      | none => simp [hact] at hty
      | some act =>
        simp only [hact, Except.ok.injEq] at hty
        subst hty
        obtain ⟨_, _, _, _, _, ⟨act', hact', _, hinst⟩⟩ := hreq
        rw [ha, hact] at hact'
        cases hact'
        exact hV _ _ (hWF.act_cn _ _ hact) hinst

theorem confV_inst : ∀ (t : AccessTrie) (ty : CedarType) (v : Value), cn ty = true → InstanceOfType v ty →
    ConfV s rt es req t ty v :=
  AccessTrie.induct fun c a i e hc ha' ty v hcn hi => by
    simp only [ConfV]
    refine ⟨(confRoots_iff a).2 fun root t hm => confRoot_inst_of hWF hreq hp ha hr (ha' root t hm), ?_, ?_⟩
    · cases hi <;> simp [isEntityTy]
    · intro attrs hattrs
      cases hi with
      | record kvs attrs' o h1 h2 h3 =>
        simp only [attrsOfType, Except.ok.injEq, Option.some.injEq] at hattrs
        subst hattrs
        simp only [cn, Bool.and_eq_true, Bool.not_eq_true', decide_eq_true_eq] at hcn
        obtain ⟨⟨ho, hca⟩, _⟩ := hcn
        subst ho
        simp only
        refine confF_inst_of hc ?_
        intro k w hw
        have hm := lookupKV_mem hw
        cases hf : Attrs.find? attrs' k with
        | none => exact absurd (h2 k w hm hf) (by simp)
        | some qt =>
          obtain ⟨q, τ⟩ := qt
          exact ⟨q, τ, rfl, cn_find hca hf, h1 k w hm q τ hf⟩
      | entity u lub hmem =>
        simp only
        intro d hd
        have hce := hst u d hd
        unfold ConformsEntity at hce
        -- `attrsOfType` answers only for singleton lubs
        cases lub with
        | nil => simp at hmem
        | cons ety tl =>
          cases tl with
          | cons _ _ => simp [attrsOfType] at hattrs
          | nil =>
            simp only [List.mem_singleton] at hmem
            simp only [attrsOfType] at hattrs
            by_cases hact : isActionType ety = true
            · simp only [hact, if_true, Except.ok.injEq, Option.some.injEq] at hattrs
              subst hattrs
              rw [hmem, if_pos hact] at hce
              obtain ⟨act, hact', hbeq, _⟩ := hce
              rw [(hWF.act_wf _ _ hact').2] at hbeq
              cases hda : d.attrs with
              | nil => exact confF_nil_data s rt es req [] c
              | cons kv rest => rw [hda] at hbeq; simp [Value.beqKVs] at hbeq
            · simp only [hact, Bool.false_eq_true, if_false] at hattrs
              cases het : s.entityType? ety with
              | none => simp [het] at hattrs
              | some et =>
                simp only [het, Except.ok.injEq, Option.some.injEq] at hattrs
                subst hattrs
                rw [hmem, if_neg hact] at hce
                obtain ⟨et', het', _, _, htyped, hopen, _⟩ := hce
                rw [het] at het'
                cases het'
                refine confF_inst_of hc ?_
                intro k w hw
                have hm := lookupKV_mem hw
                cases hf : Attrs.find? et.attrs k with
                | none =>
                  have := hopen k w hm hf
                  rw [hWF.et_closed _ _ het] at this
                  cases this
                | some qt =>
                  obtain ⟨q, τ⟩ := qt
                  exact ⟨q, τ, rfl, cn_find (hWF.et_cn _ _ het).1 hf, htyped k w hm q τ hf⟩
      | anyEntity u => simp [attrsOfType] at hattrs
      | _ => trivial

theorem confF_inst : ∀ (c : Fields) (attrs : Attrs) (kvs : List (String × Value)),
    (∀ k w, lookupKV kvs k = some w → ∃ q τ, Attrs.find? attrs k = some (q, τ) ∧ cn τ = true ∧ InstanceOfType w τ) →
    ConfF s rt es req c attrs kvs :=
  fun _ _ _ => confF_inst_of fun _ t _ => confV_inst hWF hst hreq hp ha hr t

theorem confRoots_all (g : RootAccessTrie) : ConfRoots s rt es req g :=
  (confRoots_iff g).2 fun _ t _ => confRoot_inst_of hWF hreq hp ha hr (confV_inst hWF hst hreq hp ha hr t)

end

end Cedar.Manifest
