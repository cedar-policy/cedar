import CedarVerif.Lemmas.TypecheckSound
import CedarVerif.Lemmas.TypecheckModes
/-
C03: strict acceptance implies permissive acceptance with the SAME type and capabilities (`Transfers`).  The two modes differ
only where a least upper bound is taken.  Either the bounds are taken with a flat side (`SIPFragment`), where subtyping and
bounds agree in the two modes, or the schema is `SchemaWF3`: then the types strict typing assigns are "good" (closed records
with distinct keys, single entity types), and on good types the two bounds agree (both in TypecheckModes.lean).  One induction
serves both: `sipCore_of`, on the strict typing derivation — the same rule applies in permissive mode.
-/
namespace Cedar.C03

open Cedar

-- expressions whose `lub`s have a flat side: `if` with a syntactically flat branch, set literals of flat elements
mutual
def SIPFragment : Expr → Bool
  | .lit _ | .var _ | .slot _ | .unknown _ _ => true
  | .ite c t e => SIPFragment c && SIPFragment t && SIPFragment e && (FlatExpr t || FlatExpr e)
  | .and a b | .or a b | .binaryApp _ a b => SIPFragment a && SIPFragment b
  | .unaryApp _ a | .getAttr a _ | .hasAttr a _ | .like a _ | .is a _ => SIPFragment a
  | .call _ args => SIPFragmentList args
  | .set es => SIPFragmentList es && es.all FlatExpr
  | .record kvs => SIPFragmentKVs kvs
def SIPFragmentList : List Expr → Bool
  | [] => true
  | e :: es => SIPFragment e && SIPFragmentList es
def SIPFragmentKVs : List (String × Expr) → Bool
  | [] => true
  | (_, e) :: es => SIPFragment e && SIPFragmentKVs es
end

def Transfers (r r' : TcResult) : Prop := ∀ x, r = .ok x → r' = .ok x

theorem Transfers.expect {r r' : TcResult} (h : Transfers r r') (l : List CedarType) :
    Transfers (expectOneOf r l) (expectOneOf r' l) := by
  intro x hx
  obtain ⟨τ, c⟩ := x
  obtain ⟨h1, _⟩ := expectOneOf_ok hx
  rw [h _ h1]; rw [h1] at hx; exact hx

theorem transfers_strictGuard {c c' : Bool} {r : TcResult} :
    Transfers (if (ValidationMode.strict.isStrict && c) = true then .error .fail else r)
      (if (ValidationMode.permissive.isStrict && c') = true then .error .fail else r) := by
  intro x hx
  simp only [ValidationMode.isStrict, Bool.false_and, Bool.false_eq_true, if_false]
  split at hx
  · cases hx
  · exact hx

theorem transfers_refl (r : TcResult) : Transfers r r := fun _ h => h

/-- `SchemaWF2` plus: the record types the schema declares are closed with distinct keys (true of every schema Rust
constructs without partial-schema support: `Attributes` is a map, `OpenTag::ClosedAttributes`) -/
structure SchemaWF3 (s : Schema) : Prop extends SchemaWF2 s where
  et_cn : ∀ T et, s.entityType? T = some et → cnAttrs et.attrs = true ∧ ∀ t, et.tags = some t → cn t = true
  act_cn : ∀ u a, s.action? u = some a → cn a.context = true
  acts_map : ∀ p, p ∈ s.acts → s.action? p.1 = some p.2

theorem flat_cn {τ : CedarType} (h : τ.flat = true) : cn τ = true := by
  cases τ <;> simp [CedarType.flat] at h <;> rfl

theorem bool_cn (b : BoolType) : cn (.bool b) = true := rfl

theorem cn_find {attrs : Attrs} {k : String} {r : Bool} {t : CedarType} (hc : cnAttrs attrs = true)
    (h : Attrs.find? attrs k = some (r, t)) : cn t = true :=
  (cnAttrs_iff.mp hc) k r t (find_mem h)

theorem lookupAttr_cn {s : Schema} {τe : CedarType} {a : String} {req : Bool} {τa : CedarType} (hWF : SchemaWF3 s)
    (hm : τe.mono = true) (hc : cn τe = true) (h : lookupAttr s τe a = some (req, τa)) : cn τa = true := by
  cases τe <;> simp only [lookupAttr] at h <;> try (cases h)
  · simp only [cn, Bool.and_eq_true] at hc
    exact cn_find hc.1.2 h
  · obtain ⟨T, rfl⟩ := mono_entity hm
    rw [lubAttrs_single, attrsOfTy] at h
    cases het : s.entityType? T with
    | none => rw [het] at h; simp [Attrs.find?] at h
    | some et => rw [het] at h; exact cn_find (hWF.et_cn _ _ het).1 h

/-- strict typing only assigns closed record types with distinct keys: `cn` is carried through the soundness induction -/
theorem cn_inv {s : Schema} {env : RequestEnv} {q : Request} (hWF : SchemaWF3 s) (henv : EnvMatches s env q) :
    TyInv .strict s env (fun τ => cn τ = true) where
  flat := fun _ h => flat_cn h
  entity := fun _ => rfl
  context := by
    obtain ⟨_, _, _, act, hact, hctx⟩ := henv
    rw [hctx]; exact hWF.act_cn _ _ hact
  attr := fun hm hc hl => lookupAttr_cn hWF hm hc hl
  tag := fun het htag => (hWF.et_cn _ _ het).2 _ htag
  join := fun ht he hl => (lub_good ht he hl).2
  set := fun hall hne hlub => (lubAll_strict_perm hall hne hlub).2.2
  record := fun attrs hq hn => by
    simp only [cn, Bool.not_false, Bool.true_and, Bool.and_eq_true, decide_eq_true_eq]
    exact ⟨cnAttrs_iff.mpr hq, hn⟩

/-- the type half of the soundness induction, with `cn` carried along -/
theorem typeOf_goodTy {s : Schema} {env : RequestEnv} {q : Request} (hWF : SchemaWF3 s) (henv : EnvMatches s env q) :
    ∀ (e : Expr), InFragment2 env e = true → ∀ (caps : Capabilities) (τ : CedarType) (c' : Capabilities),
      typeOf .strict s env e caps = .ok (τ, c') → GoodTy τ
  | e, hf, caps, τ, c', h =>
    (soundCore false (w := ⟨q, [], []⟩) hWF.toSchemaWF henv (cn_inv hWF henv) e hf nofun caps τ c' h).1
theorem typeOf_cn {s : Schema} {env : RequestEnv} {q : Request} (hWF : SchemaWF3 s) (henv : EnvMatches s env q) :
    ∀ (e : Expr), InFragment2 env e = true → ∀ (caps : Capabilities) (τ : CedarType) (c' : Capabilities),
      typeOf .strict s env e caps = .ok (τ, c') → cn τ = true
  | e, hf, caps, τ, c', h => (typeOf_goodTy hWF henv e hf caps τ c' h).2
theorem typeOfKVs_cn {s : Schema} {env : RequestEnv} {q : Request} (hWF : SchemaWF3 s) (henv : EnvMatches s env q) :
    ∀ (kvs : List (String × Expr)), InFragment2KVs env kvs = true → ∀ (caps : Capabilities) (attrs : Attrs),
      typeOfKVs .strict s env kvs caps = .ok attrs → cnAttrs attrs = true
  | kvs, hf, caps, attrs, h =>
    cnAttrs_iff.mpr fun k r t ht =>
      ((soundCoreKVs false (w := ⟨q, [], []⟩) hWF.toSchemaWF henv (cn_inv hWF henv) rfl kvs hf caps attrs h).1 k r t ht).2

theorem sipFragmentList_mem {es : List Expr} : SIPFragmentList es = true → ∀ x, x ∈ es → SIPFragment x = true :=
  listAll_mem (fun _ _ => rfl)

theorem sipFragmentKVs_mem {kvs : List (String × Expr)} : SIPFragmentKVs kvs = true → ∀ kv, kv ∈ kvs → SIPFragment kv.2 = true :=
  listAll_mem (F := fun (kv : String × Expr) => SIPFragment kv.2) (fun _ _ => rfl)

section
variable {s : Schema} {env : RequestEnv} {caps : Capabilities}

theorem Transfers.expectTy {k k' : TcResult} (h : Transfers k k') (τ : CedarType) (l : List CedarType) :
    Transfers (expectTy τ l k) (expectTy τ l k') := by
  intro x hx
  obtain ⟨hs, hk⟩ := expectTy_ok hx
  rw [expectTy_of hs]; exact h x hk

theorem strictGuard_modes {l r l' r' : Option CedarType} :
    Transfers (strictGuard .strict l r) (strictGuard .permissive l' r') := by
  unfold strictGuard; exact transfers_strictGuard

/-- the rule of a binary operator other than `getTag` looks at the mode only to refuse in strict mode -/
theorem binaryRule_modes {op : BinaryOp} {a b : Expr} {τa τb : CedarType} (hop : op ≠ .getTag) :
    Transfers (binaryRule .strict s env op a b caps τa τb) (binaryRule .permissive s env op a b caps τa τb) := by
  cases op with
  | eq => exact transfers_strictGuard (c' := !strictEqualityOk .permissive (eqType env a b τa τb) (some τa) (some τb))
  | contains => exact strictGuard_modes.expectTy _ _
  | containsAll | containsAny => exact (strictGuard_modes.expectTy _ _).expectTy _ _
  | getTag => exact (hop rfl).elim
  | _ => exact transfers_refl _

/-- a single entity type has a single tag type, which is its own bound in either mode -/
theorem getTagRule_modes {a b : Expr} {τa τb : CedarType} (hma : τa.mono = true) :
    Transfers (binaryRule .strict s env .getTag a b caps τa τb) (binaryRule .permissive s env .getTag a b caps τa τb) := by
  refine Transfers.expectTy (Transfers.expectTy ?_ _ _) _ _
  cases τa <;> (try exact transfers_refl _)
  obtain ⟨T, rfl⟩ := mono_entity hma
  intro y hy
  simp only [getTagCont] at hy ⊢
  split at hy
  · rename_i hcap
    rw [if_pos hcap]
    rw [tagTypes_single] at hy ⊢
    cases het : s.entityType? T with
    | none => simp only [het] at hy; cases hy
    | some et =>
      simp only [het] at hy ⊢
      cases htag : et.tags with
      | none => simp only [htag] at hy; cases hy
      | some t =>
        simp only [htag, lubAll_single] at hy
        simp only [lubAll_single]
        exact hy
  · cases hy

/-- permissive mode drops one of the three reasons to refuse a call -/
theorem callRule_modes {fn : String} {args : List Expr} {τs : List CedarType} :
    Transfers (callRule .strict fn args τs) (callRule .permissive fn args τs) := by
  intro x hx
  unfold callRule at hx ⊢
  cases hsig : extSig fn with
  | none => rw [hsig] at hx; cases hx
  | some sig =>
    rw [hsig] at hx
    simp only at hx ⊢
    split at hx
    · cases hx
    · rename_i hnf
      have hnf' : ¬ (args.length != sig.args.length || !constructorArgOk fn args ||
          (ValidationMode.permissive.isStrict && sig.isConstructor && !args.all isLit)) = true := by
        intro h
        apply hnf
        simp only [ValidationMode.isStrict, Bool.false_and, Bool.or_false] at h
        simp only [Bool.or_eq_true] at h ⊢
        exact Or.inl h
      rw [if_neg hnf']; exact hx

variable {q : Request} {τ : CedarType} {c : Capabilities}

/-- strict ⇒ permissive: the same rule applies in the other mode; only the bounds (`if`, set literals) need an argument -/
theorem sipCore_of (hWF : SchemaWF2 s) (henv : EnvMatches s env q) {e : Expr} (d : HasType .strict s env e caps τ c) :
    InFragment2 env e = true → (SIPFragment e = true ∨ SchemaWF3 s) → HasType .permissive s env e caps τ c := by
  induction d with
  | lit h => exact fun _ _ => .lit h
  | var h => exact fun _ _ => .var h
  | slot h => exact fun _ _ => .slot h
  | iteTrue _ _ ihc iht =>
    intro hf hs
    simp only [InFragment2, InFragmentM, SIPFragment, Bool.and_eq_true] at hf hs
    exact .iteTrue (ihc hf.1.1.1 (hs.imp_left (·.1.1.1))) (iht hf.1.1.2 (hs.imp_left (·.1.1.2)))
  | iteFalse _ _ ihc ihe =>
    intro hf hs
    simp only [InFragment2, InFragmentM, SIPFragment, Bool.and_eq_true] at hf hs
    exact .iteFalse (ihc hf.1.1.1 (hs.imp_left (·.1.1.1))) (ihe hf.1.2 (hs.imp_left (·.1.2)))
  | @ite _ t e _ _ _ τt ct τe ce τl _ hbc hT hF dt de hl ihc iht ihe =>
    intro hf hs
    simp only [InFragment2, InFragmentM, SIPFragment, Bool.and_eq_true, Bool.or_eq_true] at hf hs
    have hlub : lub .permissive τt τe = some τl := by
      rcases hs with hs | hWF3
      · rw [← lub_flat_modes (hs.2.imp dt.flat de.flat)]; exact hl
      · exact lub_strict_perm hl (typeOf_goodTy hWF3 henv t hf.1.1.2 _ τt ct dt.typeOf_eq)
          (typeOf_goodTy hWF3 henv e hf.1.2 _ τe ce de.typeOf_eq)
    exact .ite (ihc hf.1.1.1 (hs.imp_left (·.1.1.1))) hbc hT hF (iht hf.1.1.2 (hs.imp_left (·.1.1.2)))
      (ihe hf.1.2 (hs.imp_left (·.1.2))) hlub
  | andFalse _ iha =>
    intro hf hs
    simp only [InFragment2, InFragmentM, SIPFragment, Bool.and_eq_true] at hf hs
    exact .andFalse (iha hf.1 (hs.imp_left (·.1)))
  | and _ hba hF _ hbb iha ihb =>
    intro hf hs
    simp only [InFragment2, InFragmentM, SIPFragment, Bool.and_eq_true] at hf hs
    exact .and (iha hf.1 (hs.imp_left (·.1))) hba hF (ihb hf.2 (hs.imp_left (·.2))) hbb
  | orTrue _ iha =>
    intro hf hs
    simp only [InFragment2, InFragmentM, SIPFragment, Bool.and_eq_true] at hf hs
    exact .orTrue (iha hf.1 (hs.imp_left (·.1)))
  | or _ hba hT _ hbb iha ihb =>
    intro hf hs
    simp only [InFragment2, InFragmentM, SIPFragment, Bool.and_eq_true] at hf hs
    exact .or (iha hf.1 (hs.imp_left (·.1))) hba hT (ihb hf.2 (hs.imp_left (·.2))) hbb
  | unary _ hr iha =>
    intro hf hs
    simp only [InFragment2, InFragmentM, SIPFragment] at hf hs
    exact .unary (iha hf hs) hr
  | @binary op a _ _ τa ca _ _ _ _ da _ hr iha ihb =>
    intro hf hs
    simp only [InFragment2, InFragmentM, SIPFragment, Bool.and_eq_true] at hf hs
    refine .binary (iha hf.1.2 (hs.imp_left (·.1))) (ihb hf.2 (hs.imp_left (·.2))) ?_
    by_cases hop : op = .getTag
    · subst hop
      exact getTagRule_modes (typeOf_mono_strict hWF henv a hf.1.2 _ τa ca da.typeOf_eq) _ hr
    · exact binaryRule_modes hop _ hr
  | getAttr _ hr ihe =>
    intro hf hs
    simp only [InFragment2, InFragmentM, SIPFragment] at hf hs
    exact .getAttr (ihe hf hs) hr
  | hasAttr _ hr ihe =>
    intro hf hs
    simp only [InFragment2, InFragmentM, SIPFragment] at hf hs
    exact .hasAttr (ihe hf hs) hr
  | like _ hse ihe =>
    intro hf hs
    simp only [InFragment2, InFragmentM, SIPFragment] at hf hs
    exact .like (ihe hf hs) hse
  | is _ hr ihe =>
    intro hf hs
    simp only [InFragment2, InFragmentM, SIPFragment] at hf hs
    exact .is (ihe hf hs) hr
  | call _ hL hr ih =>
    intro hf hs
    simp only [InFragment2, InFragmentM, SIPFragment] at hf hs
    exact .call (fun x _ => typeOf_hasType x _) (typeOfList_modes hL fun x hx τx cx h =>
      (ih x hx τx cx h (inFragmentMList_mem hf x hx) (hs.imp_left (sipFragmentList_mem · x hx))).typeOf_eq) (callRule_modes _ hr)
  | @set es _ τs _ _ hL hne hlub ih =>
    intro hf hs
    simp only [InFragment2, InFragmentM, SIPFragment, Bool.and_eq_true] at hf hs
    have hL' := typeOfList_modes hL fun x hx τx cx h =>
      (ih x hx τx cx h (inFragmentMList_mem hf.1 x hx) (hs.imp_left (sipFragmentList_mem ·.1 x hx))).typeOf_eq
    refine .set (fun x _ => typeOf_hasType x _) hL' rfl ?_
    rcases hs with hs | hWF3
    · rw [← show lubAll .strict τs = lubAll .permissive τs from
        foldl_lub_flat_modes τs .never rfl (typeOfList_flat hs.2 hL)]; exact hlub
    · have hne' : τs ≠ [] := typeOfList_ne_nil hL (by rintro rfl; simp [ValidationMode.isStrict] at hne)
      exact (lubAll_strict_perm (typeOfList_all hL fun x hx τx cx h =>
        typeOf_goodTy hWF3 henv x (inFragmentMList_mem hf.1 x hx) _ τx cx h) hne' hlub).1
  | record _ hL ih =>
    intro hf hs
    simp only [InFragment2, InFragmentM, SIPFragment, Bool.and_eq_true] at hf hs
    exact .record (fun kv _ => typeOf_hasType kv.2 _) (typeOfKVs_modes hL fun kv hkv τx cx h =>
      (ih kv hkv τx cx h (inFragmentMKVs_mem hf.1 kv hkv) (hs.imp_left (sipFragmentKVs_mem · kv hkv))).typeOf_eq)

end

theorem sipCore {s : Schema} {env : RequestEnv} {q : Request} (hWF : SchemaWF2 s) (henv : EnvMatches s env q) :
    ∀ (e : Expr), InFragment2 env e = true → (SIPFragment e = true ∨ SchemaWF3 s) → ∀ (caps : Capabilities),
      Transfers (typeOf .strict s env e caps) (typeOf .permissive s env e caps) :=
  fun e hf hs caps x hx => (sipCore_of hWF henv (typeOf_hasType e caps x.1 x.2 hx) hf hs).typeOf_eq

theorem sipCoreList {s : Schema} {env : RequestEnv} {q : Request} (hWF : SchemaWF2 s) (henv : EnvMatches s env q) :
    ∀ (es : List Expr), InFragment2List env es = true → (SIPFragmentList es = true ∨ SchemaWF3 s) →
      ∀ (caps : Capabilities) (τs : List CedarType),
      typeOfList .strict s env es caps = .ok τs → typeOfList .permissive s env es caps = .ok τs :=
  fun es hf hs caps _ h => typeOfList_modes h fun x hx τx cx hx' =>
    sipCore hWF henv x (inFragmentMList_mem hf x hx) (hs.imp_left (sipFragmentList_mem · x hx)) caps (τx, cx) hx'

theorem sipCoreKVs {s : Schema} {env : RequestEnv} {q : Request} (hWF : SchemaWF2 s) (henv : EnvMatches s env q) :
    ∀ (kvs : List (String × Expr)), InFragment2KVs env kvs = true → (SIPFragmentKVs kvs = true ∨ SchemaWF3 s) →
      ∀ (caps : Capabilities) (attrs : Attrs),
      typeOfKVs .strict s env kvs caps = .ok attrs → typeOfKVs .permissive s env kvs caps = .ok attrs :=
  fun kvs hf hs caps _ h => typeOfKVs_modes h fun kv hkv τx cx hx' =>
    sipCore hWF henv kv.2 (inFragmentMKVs_mem hf kv hkv) (hs.imp_left (sipFragmentKVs_mem · kv hkv)) caps (τx, cx) hx'

theorem sip {s : Schema} {env : RequestEnv} {q : Request} (hWF : SchemaWF2 s) (henv : EnvMatches s env q) :
    ∀ (e : Expr), InFragment2 env e = true → SIPFragment e = true → ∀ (caps : Capabilities),
      Transfers (typeOf .strict s env e caps) (typeOf .permissive s env e caps)
  | e, hf, hs => sipCore hWF henv e hf (Or.inl hs)
theorem sipList {s : Schema} {env : RequestEnv} {q : Request} (hWF : SchemaWF2 s) (henv : EnvMatches s env q) :
    ∀ (es : List Expr), InFragment2List env es = true → SIPFragmentList es = true → ∀ (caps : Capabilities) (τs : List CedarType),
      typeOfList .strict s env es caps = .ok τs → typeOfList .permissive s env es caps = .ok τs
  | es, hf, hs => sipCoreList hWF henv es hf (Or.inl hs)
theorem sipKVs {s : Schema} {env : RequestEnv} {q : Request} (hWF : SchemaWF2 s) (henv : EnvMatches s env q) :
    ∀ (kvs : List (String × Expr)), InFragment2KVs env kvs = true → SIPFragmentKVs kvs = true →
      ∀ (caps : Capabilities) (attrs : Attrs),
      typeOfKVs .strict s env kvs caps = .ok attrs → typeOfKVs .permissive s env kvs caps = .ok attrs
  | kvs, hf, hs => sipCoreKVs hWF henv kvs hf (Or.inl hs)

theorem sipG {s : Schema} {env : RequestEnv} {q : Request} (hWF : SchemaWF3 s) (henv : EnvMatches s env q) :
    ∀ (e : Expr), InFragment2 env e = true → ∀ (caps : Capabilities),
      Transfers (typeOf .strict s env e caps) (typeOf .permissive s env e caps)
  | e, hf => sipCore hWF.toSchemaWF2 henv e hf (Or.inr hWF)
theorem sipGList {s : Schema} {env : RequestEnv} {q : Request} (hWF : SchemaWF3 s) (henv : EnvMatches s env q) :
    ∀ (es : List Expr), InFragment2List env es = true → ∀ (caps : Capabilities) (τs : List CedarType),
      typeOfList .strict s env es caps = .ok τs → typeOfList .permissive s env es caps = .ok τs
  | es, hf => sipCoreList hWF.toSchemaWF2 henv es hf (Or.inr hWF)
theorem sipGKVs {s : Schema} {env : RequestEnv} {q : Request} (hWF : SchemaWF3 s) (henv : EnvMatches s env q) :
    ∀ (kvs : List (String × Expr)), InFragment2KVs env kvs = true →
      ∀ (caps : Capabilities) (attrs : Attrs),
      typeOfKVs .strict s env kvs caps = .ok attrs → typeOfKVs .permissive s env kvs caps = .ok attrs
  | kvs, hf => sipCoreKVs hWF.toSchemaWF2 henv kvs hf (Or.inr hWF)

end Cedar.C03
