import CedarVerif.Lemmas.ExtDigits
/-
Datetime literals: the declarative forms `YYYY-MM-DD` and `YYYY-MM-DDThh:mm:ss(.SSS)?(Z|(+|-)hhmm)`. Each recogniser
of `Datetime.parse` accepts exactly the renderings of its form and returns their values (`…_iff`); hence every string `parse`
accepts is one of the two forms, its guards hold and the result is the value of the form (`parse_inv`; the converse is
`C07.datetime_parse_exact(_date)`).
-/
namespace Cedar.Ext.Datetime

theorem takeDigits_append (n : Nat) (ds r : List Char) (hd : allDigits ds = true) (hn : ds.length = n) :
    takeDigits n (ds ++ r) = some (ds, r) := by
  induction ds generalizing n with
  | nil => subst hn; rfl
  | cons c cs ih =>
    subst hn
    simp only [allDigits_cons, Bool.and_eq_true] at hd
    simp only [List.length_cons, List.cons_append, takeDigits, hd.1, if_true, ih _ hd.2 rfl]

theorem takeDigits_inv (n : Nat) (s ds r : List Char) (h : takeDigits n s = some (ds, r)) :
    s = ds ++ r ∧ allDigits ds = true ∧ ds.length = n := by
  induction n generalizing s ds with
  | zero =>
    simp only [takeDigits, Option.some.injEq, Prod.mk.injEq] at h
    obtain ⟨rfl, rfl⟩ := h
    exact ⟨rfl, rfl, rfl⟩
  | succ n ih =>
    cases s with
    | nil => cases h
    | cons c cs =>
      unfold takeDigits at h
      split at h
      · rename_i hc
        split at h
        · rename_i ds' r' ht
          cases h
          obtain ⟨e, ha, hl⟩ := ih cs ds' ht
          exact ⟨by rw [e]; rfl, by simp [hc, ha], by simp [hl]⟩
        · cases h
      · cases h

theorem expect_self (c : Char) (r : List Char) : expect c (c :: r) = some r := by simp [expect]

theorem expect_inv (c : Char) (s r : List Char) (h : expect c s = some r) : s = c :: r := by
  unfold expect at h
  split at h
  · split at h
    · rename_i hc; cases h; rw [eq_of_beq hc]
    · cases h
  · cases h

/-- UTC offset: `none` = `Z`, `some (positive, hh, mm)` = `(+|-)hhmm` -/
abbrev Off := Option (Bool × List Char × List Char)

def renderOffset : Off → List Char
  | none => ['Z']
  | some (pos, hh, mm) => (if pos then '+' else '-') :: (hh ++ mm)

def renderMs : Option (List Char) → List Char → List Char
  | none, r => r
  | some m3, r => '.' :: (m3 ++ r)

def renderDate (ys ms ds rest : List Char) : List Char := ys ++ '-' :: (ms ++ '-' :: (ds ++ rest))

def renderTime (hs mis ss : List Char) (m3 : Option (List Char)) (off : Off) : List Char :=
  'T' :: (hs ++ ':' :: (mis ++ ':' :: (ss ++ renderMs m3 (renderOffset off))))

def digitsN (n : Nat) (ds : List Char) : Prop := allDigits ds = true ∧ ds.length = n
instance (n : Nat) (ds : List Char) : Decidable (digitsN n ds) := by unfold digitsN; infer_instance

def offWF : Off → Prop
  | none => True
  | some (_, hh, mm) => digitsN 2 hh ∧ digitsN 2 mm
def msWF : Option (List Char) → Prop
  | none => True
  | some m3 => digitsN 3 m3

def offSecs : Off → Int
  | none => 0
  | some (pos, hh, mm) =>
    if pos then ((natOfDigits hh * 3600 + natOfDigits mm * 60 : Nat) : Int)
    else -((natOfDigits hh * 3600 + natOfDigits mm * 60 : Nat) : Int)
def offOk : Off → Bool
  | none => true
  | some (_, hh, mm) => decide (natOfDigits hh < 24) && decide (natOfDigits mm < 60)
def msVal : Option (List Char) → Nat
  | none => 0
  | some m3 => natOfDigits m3

/-- `^([0-9]{n})c([0-9]{2})c([0-9]{2})`: the shape shared by `parseDate` and (after the `T`) `parseHMS` -/
def fields3 (n : Nat) (c : Char) (s : List Char) : Option ((Nat × Nat × Nat) × List Char) :=
  match takeDigits n s with
  | none => none
  | some (as, s) => match expect c s with
    | none => none
    | some s => match takeDigits 2 s with
      | none => none
      | some (bs, s) => match expect c s with
        | none => none
        | some s => match takeDigits 2 s with
          | none => none
          | some (cs, s) => some ((natOfDigits as, natOfDigits bs, natOfDigits cs), s)

theorem fields3_iff (n : Nat) (c : Char) (s : List Char) (v : Nat × Nat × Nat) (r : List Char) :
    fields3 n c s = some (v, r) ↔
      ∃ as bs cs, digitsN n as ∧ digitsN 2 bs ∧ digitsN 2 cs ∧ s = as ++ c :: (bs ++ c :: (cs ++ r)) ∧
        v = (natOfDigits as, natOfDigits bs, natOfDigits cs) := by
  constructor
  · intro h
    unfold fields3 at h
    split at h; · cases h
    split at h; · cases h
    split at h; · cases h
    split at h; · cases h
    split at h; · cases h
    rename_i _ as s1 h1 _ s2 h2 _ bs s3 h3 _ s4 h4 _ cs s5 h5
    cases h
    obtain ⟨rfl, d1⟩ := takeDigits_inv _ _ _ _ h1
    obtain ⟨rfl, d3⟩ := takeDigits_inv _ _ _ _ h3
    obtain ⟨rfl, d5⟩ := takeDigits_inv _ _ _ _ h5
    rw [expect_inv _ _ _ h2, expect_inv _ _ _ h4]
    exact ⟨as, bs, cs, d1, d3, d5, rfl, rfl⟩
  · rintro ⟨as, bs, cs, h1, h2, h3, rfl, rfl⟩
    simp only [fields3, takeDigits_append n as _ h1.1 h1.2, expect_self, takeDigits_append 2 bs _ h2.1 h2.2,
      takeDigits_append 2 cs _ h3.1 h3.2]

theorem parseDate_iff (s : List Char) (v : Nat × Nat × Nat) (r : List Char) :
    parseDate s = some (v, r) ↔
      ∃ ys ms ds, digitsN 4 ys ∧ digitsN 2 ms ∧ digitsN 2 ds ∧ s = renderDate ys ms ds r ∧
        v = (natOfDigits ys, natOfDigits ms, natOfDigits ds) :=
  -- `parseDate` (Cedar/Ext.lean) is written with the same text as `fields3 4 '-'`: unfolding identifies them
  fields3_iff 4 '-' s v r

theorem parseHMS_iff (s : List Char) (v : Nat × Nat × Nat) (r : List Char) :
    parseHMS s = some (v, r) ↔
      ∃ hs mis ss, digitsN 2 hs ∧ digitsN 2 mis ∧ digitsN 2 ss ∧
        s = 'T' :: (hs ++ ':' :: (mis ++ ':' :: (ss ++ r))) ∧
        v = (natOfDigits hs, natOfDigits mis, natOfDigits ss) := by
  have e : parseHMS s = match expect 'T' s with | none => none | some s => fields3 2 ':' s := rfl
  rw [e]
  constructor
  · intro h
    split at h; · cases h
    rename_i s0 h0
    obtain ⟨hs, mis, ss, d1, d2, d3, rfl, hv⟩ := (fields3_iff _ _ _ _ _).mp h
    exact ⟨hs, mis, ss, d1, d2, d3, expect_inv _ _ _ h0, hv⟩
  · rintro ⟨hs, mis, ss, d1, d2, d3, rfl, hv⟩
    rw [expect_self]
    exact (fields3_iff _ _ _ _ _).mpr ⟨hs, mis, ss, d1, d2, d3, rfl, hv⟩

theorem parseDate_render (ys ms ds rest : List Char) (h1 : digitsN 4 ys) (h2 : digitsN 2 ms) (h3 : digitsN 2 ds) :
    parseDate (renderDate ys ms ds rest) = some ((natOfDigits ys, natOfDigits ms, natOfDigits ds), rest) :=
  (parseDate_iff _ _ _).mpr ⟨ys, ms, ds, h1, h2, h3, rfl, rfl⟩

theorem parseHMS_render (hs mis ss rest : List Char) (h1 : digitsN 2 hs) (h2 : digitsN 2 mis) (h3 : digitsN 2 ss) :
    parseHMS ('T' :: (hs ++ ':' :: (mis ++ ':' :: (ss ++ rest)))) =
      some ((natOfDigits hs, natOfDigits mis, natOfDigits ss), rest) :=
  (parseHMS_iff _ _ _).mpr ⟨hs, mis, ss, h1, h2, h3, rfl, rfl⟩

theorem parseOffset_iff (s : List Char) (v : Int × Bool) :
    parseOffset s = some v ↔ ∃ off, offWF off ∧ s = renderOffset off ∧ v = (offSecs off, offOk off) := by
  constructor
  · intro h
    unfold parseOffset at h
    split at h
    · cases h; exact ⟨none, trivial, rfl, rfl⟩
    · rename_i sign r _
      split at h
      case isFalse => cases h
      split at h; · cases h
      split at h; · cases h
      split at h; · cases h
      rename_i hs _ hh r1 h1 _ mm r2 h2 hemp
      cases h
      obtain ⟨rfl, d1⟩ := takeDigits_inv _ _ _ _ h1
      obtain ⟨rfl, d2⟩ := takeDigits_inv _ _ _ _ h2
      have hr2 : r2 = [] := by simpa using hemp
      subst hr2
      have hs' : sign = '+' ∨ sign = '-' := by simpa using hs
      rcases hs' with rfl | rfl
      · exact ⟨some (true, hh, mm), ⟨d1, d2⟩, by simp [renderOffset], rfl⟩
      · exact ⟨some (false, hh, mm), ⟨d1, d2⟩, by simp [renderOffset], rfl⟩
    · cases h
  · rintro ⟨off, hw, rfl, rfl⟩
    match off, hw with
    | none, _ => rfl
    | some (pos, hh, mm), ⟨h1, h2⟩ =>
      have e := takeDigits_append 2 mm [] h2.1 h2.2
      rw [List.append_nil] at e
      cases pos <;>
        simp [renderOffset, parseOffset, takeDigits_append 2 hh _ h1.1 h1.2, e, offSecs, offOk]

theorem parseMsOffset_iff (s : List Char) (v : Nat × Int × Bool) :
    parseMsOffset s = some v ↔
      ∃ m3 off, msWF m3 ∧ offWF off ∧ s = renderMs m3 (renderOffset off) ∧ v = (msVal m3, offSecs off, offOk off) := by
  constructor
  · intro h
    unfold parseMsOffset at h
    split at h
    · split at h; · cases h
      split at h; · cases h
      rename_i _ m3 r1 h1 _ o ok h2
      cases h
      obtain ⟨rfl, d1⟩ := takeDigits_inv _ _ _ _ h1
      obtain ⟨off, hw, rfl, hv⟩ := (parseOffset_iff _ _).mp h2
      cases hv
      exact ⟨some m3, off, d1, hw, rfl, rfl⟩
    · split at h; · cases h
      rename_i _ o ok h2
      cases h
      obtain ⟨off, hw, rfl, hv⟩ := (parseOffset_iff _ _).mp h2
      cases hv
      exact ⟨none, off, trivial, hw, rfl, rfl⟩
  · rintro ⟨m3, off, hm, hw, rfl, rfl⟩
    have hp := (parseOffset_iff _ _).mpr ⟨off, hw, rfl, rfl⟩
    match m3, hm with
    | some ds, hm => simp only [renderMs, parseMsOffset, takeDigits_append 3 ds _ hm.1 hm.2, hp, msVal]
    | none, _ =>
      unfold parseMsOffset
      split
      · -- an offset does not start with '.'
        rename_i r heq
        match off with
        | none => simp [renderMs, renderOffset] at heq
        | some (pos, _, _) => cases pos <;> simp [renderMs, renderOffset] at heq
      · simp only [renderMs, hp, msVal]

theorem parseMsOffset_render (m3 : Option (List Char)) (off : Off) (hm : msWF m3) (hw : offWF off) :
    parseMsOffset (renderMs m3 (renderOffset off)) = some (msVal m3, offSecs off, offOk off) :=
  (parseMsOffset_iff _ _).mpr ⟨m3, off, hm, hw, rfl, rfl⟩

/-- the three validity tests of `parse` (date, time of day, offset), taken together -/
theorem ite_not_chain {α} (a b c : Bool) (x : α) :
    (if (!a) = true then none else if (!b) = true then none else if (!c) = true then none else some x) =
      if a = true ∧ b = true ∧ c = true then some x else none := by
  cases a <;> cases b <;> cases c <;> rfl

def dateValue (ys ms ds : List Char) : Int :=
  daysFromCivil (natOfDigits ys) (natOfDigits ms) (natOfDigits ds) * msPerDay

def timeOk (hs mis ss : List Char) (off : Off) : Prop :=
  natOfDigits hs < 24 ∧ natOfDigits mis < 60 ∧ natOfDigits ss < 60 ∧ offOk off = true

theorem parse_inv {s : String} {v : Int} (h : Datetime.parse s = some v) :
    (∃ ys ms ds, digitsN 4 ys ∧ digitsN 2 ms ∧ digitsN 2 ds ∧ s.toList = renderDate ys ms ds [] ∧
      dateOk (natOfDigits ys) (natOfDigits ms) (natOfDigits ds) = true ∧ v = dateValue ys ms ds) ∨
    (∃ ys ms ds hs mis ss m3 off, digitsN 4 ys ∧ digitsN 2 ms ∧ digitsN 2 ds ∧
      digitsN 2 hs ∧ digitsN 2 mis ∧ digitsN 2 ss ∧ msWF m3 ∧ offWF off ∧
      s.toList = renderDate ys ms ds (renderTime hs mis ss m3 off) ∧
      dateOk (natOfDigits ys) (natOfDigits ms) (natOfDigits ds) = true ∧ timeOk hs mis ss off ∧
      v = dateValue ys ms ds + ((natOfDigits hs * 3600 + natOfDigits mis * 60 + natOfDigits ss : Nat) : Int) * 1000 +
        (msVal m3 : Int) - offSecs off * 1000) := by
  unfold Datetime.parse at h
  cases h1 : parseDate s.toList with
  | none => simp [h1] at h
  | some p1 =>
    obtain ⟨⟨y, mo, d⟩, r1⟩ := p1
    obtain ⟨ys, ms, ds, d1, d2, d3, e1, v1⟩ := (parseDate_iff _ _ _).mp h1
    cases v1
    simp only [h1] at h
    cases r1 with
    | nil =>
      simp only [List.isEmpty_nil, if_true, Option.ite_none_right_eq_some, Option.some.injEq] at h
      exact Or.inl ⟨ys, ms, ds, d1, d2, d3, e1, h.1, h.2.symm⟩
    | cons c cs =>
      simp only [List.isEmpty_cons, Bool.false_eq_true, if_false] at h
      cases h2 : parseHMS (c :: cs) with
      | none => simp [h2] at h
      | some p2 =>
        obtain ⟨⟨hh, mi, sec⟩, r2⟩ := p2
        obtain ⟨hs, mis, ss, d4, d5, d6, e2, v2⟩ := (parseHMS_iff _ _ _).mp h2
        cases v2
        simp only [h2] at h
        cases h3 : parseMsOffset r2 with
        | none => simp [h3] at h
        | some p3 =>
          obtain ⟨m3, off, d7, d8, e3, v3⟩ := (parseMsOffset_iff _ _).mp h3
          cases v3
          simp only [h3, ite_not_chain, Bool.and_eq_true, decide_eq_true_eq, Option.ite_none_right_eq_some,
            Option.some.injEq] at h
          obtain ⟨⟨hd, ⟨⟨g1, g2⟩, g3⟩, g4⟩, rfl⟩ := h
          exact Or.inr ⟨ys, ms, ds, hs, mis, ss, m3, off, d1, d2, d3, d4, d5, d6, d7, d8, by rw [e1, e2, e3, renderTime],
            hd, ⟨g1, g2, g3, g4⟩, rfl⟩

theorem parse_only_lang (s : String) (v : Int) (h : Datetime.parse s = some v) :
    (∃ ys ms ds, digitsN 4 ys ∧ digitsN 2 ms ∧ digitsN 2 ds ∧ s.toList = renderDate ys ms ds []) ∨
    (∃ ys ms ds hs mis ss m3 off, digitsN 4 ys ∧ digitsN 2 ms ∧ digitsN 2 ds ∧
      digitsN 2 hs ∧ digitsN 2 mis ∧ digitsN 2 ss ∧ msWF m3 ∧ offWF off ∧
      s.toList = renderDate ys ms ds (renderTime hs mis ss m3 off)) := by
  rcases parse_inv h with ⟨ys, ms, ds, d1, d2, d3, e, _⟩ | ⟨ys, ms, ds, hs, mis, ss, m3, off, d1, d2, d3, d4, d5, d6, d7, d8, e, _⟩
  · exact Or.inl ⟨ys, ms, ds, d1, d2, d3, e⟩
  · exact Or.inr ⟨ys, ms, ds, hs, mis, ss, m3, off, d1, d2, d3, d4, d5, d6, d7, d8, e⟩

example : Datetime.parse "2024-02-29T23:59:59.999+0530" = some 1709231399999 ∧
    Datetime.parse "2024-02-29" = some 1709164800000 ∧ Datetime.parse "1969-12-31T23:59:59Z" = some (-1000) ∧
    Datetime.parse "1970-01-02T00:00:00.001-0100" = some 90000001 := by
  and_intros
  all_goals
    show Datetime.parse (String.ofList _) = _
    rw [Datetime.parse, String.toList_ofList]
    decide +kernel
example : ∃ ys ms ds hs mis ss m3 off, digitsN 4 ys ∧ digitsN 2 ms ∧ digitsN 2 ds ∧
      digitsN 2 hs ∧ digitsN 2 mis ∧ digitsN 2 ss ∧ msWF m3 ∧ offWF off ∧
      "2024-02-29T23:59:59.999+0530".toList = renderDate ys ms ds (renderTime hs mis ss m3 off) := by
  have hp : Datetime.parse "2024-02-29T23:59:59.999+0530" = some 1709231399999 := by
    show Datetime.parse (String.ofList _) = _
    rw [Datetime.parse, String.toList_ofList]
    decide +kernel
  rcases parse_only_lang _ _ hp with h | h
  · obtain ⟨ys, ms, ds, h1, h2, h3, e⟩ := h
    exfalso
    have hl := congrArg List.length e
    simp only [renderDate, List.length_append, List.length_cons, List.length_nil, h1.2, h2.2, h3.2] at hl
    revert hl; decide +kernel
  · exact h

end Cedar.Ext.Datetime
