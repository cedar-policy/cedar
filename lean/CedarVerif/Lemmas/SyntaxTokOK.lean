import CedarVerif.Lemmas.SyntaxLexSpace
import CedarVerif.Lemmas.SyntaxPolicy
import CedarVerif.Lemmas.SyntaxSound
/-
The printers only emit lexer-producible tokens (`TokOK`), C05.  `escape_debug` output is a `STRINGLIT` body `(\\.|[^"\\])*` for
every table: `escapeChar` escapes `"` and `\` in hard-wired arms (as `char::escape_debug_ext`), before any table lookup.  On the
image predicates every token of `printE` / `printPolicy` is `TokOK`, for `printPolicy` provided the annotation keys are
identifier-shaped (`annKeysOK`: `AnyId`s in Rust, `String`s in the model's `TemplateBody`).  Lexer-producible tokens are what the parser
theorems call well-formed (`TokWF`), so whatever `lex` returns is.
-/
namespace Cedar.Syntax
open Cedar

theorem hexDigitChar_plain : ∀ k, k < 16 → plainC (hexDigitChar k) = true := by decide +kernel

theorem hexDigits_plain : ∀ f n, ∀ x ∈ hexDigits f n, plainC x = true
  | 0, _, x, hx => by simp [hexDigits] at hx
  | f + 1, n, x, hx => by
    simp only [hexDigits] at hx
    split at hx
    · simp only [List.mem_singleton] at hx; subst hx; exact hexDigitChar_plain n (by assumption)
    · simp only [List.mem_append, List.mem_singleton] at hx
      rcases hx with hx | hx
      · exact hexDigits_plain f _ x hx
      · subst hx; exact hexDigitChar_plain _ (Nat.mod_lt _ (by decide +kernel))

theorem rawOK_ite {p : Prop} [Decidable p] {x y b : List Char} (hx : p → rawOK (x ++ b) = rawOK b)
    (hy : ¬p → rawOK (y ++ b) = rawOK b) : rawOK ((if p then x else y) ++ b) = rawOK b := by
  split
  · exact hx ‹_›
  · exact hy ‹_›

/-- one escaped character is transparent for the `STRINGLIT` body test, whatever the table says: the seven fixed escapes
are `\` + a character other than a line feed and come first, so the last two arms see neither `"` nor `\` -/
theorem rawOK_escapeChar (esc : Bool) (c : Char) (b : List Char) : rawOK (escapeChar esc c ++ b) = rawOK b := by
  unfold escapeChar
  refine rawOK_ite (fun _ => rawOK_esc2 (by decide) b) fun _ => ?_
  refine rawOK_ite (fun _ => rawOK_esc2 (by decide) b) fun _ => ?_
  refine rawOK_ite (fun _ => rawOK_esc2 (by decide) b) fun _ => ?_
  refine rawOK_ite (fun _ => rawOK_esc2 (by decide) b) fun _ => ?_
  refine rawOK_ite (fun _ => rawOK_esc2 (by decide) b) fun hb => ?_
  refine rawOK_ite (fun _ => rawOK_esc2 (by decide) b) fun hq => ?_
  refine rawOK_ite (fun _ => rawOK_esc2 (by decide) b) fun _ => ?_
  refine rawOK_ite (fun _ => ?_) fun _ => rawOK_plain_cons (by simp [plainC, hb, hq]) b
  show rawOK ('\\' :: 'u' :: ('{' :: (hexDigits 6 c.toNat ++ ['}']) ++ b)) = rawOK b
  rw [rawOK_esc2 (by decide), rawOK_plain_append]
  intro x hx
  simp only [List.mem_cons, List.mem_append, List.not_mem_nil, or_false] at hx
  rcases hx with rfl | hx | rfl
  · decide
  · exact hexDigits_plain _ _ x hx
  · decide

theorem rawOK_escapeStrAt (me : Nat → Char → Bool) : ∀ (s : List Char) (i : Nat), rawOK (escapeStrAt me i s) = true
  | [], _ => rfl
  | c :: cs, i => by rw [escapeStrAt, rawOK_escapeChar]; exact rawOK_escapeStrAt me cs (i + 1)

theorem rawOK_escapeStr (me : Char → Bool) (s : List Char) : rawOK (escapeStr me s) = true :=
  rawOK_escapeStrAt _ s 0

theorem rawOK_escapePattern (me : Char → Bool) : ∀ p : Pattern, rawOK (escapePattern me p) = true
  | [] => rfl
  | .star :: ps => by
    rw [escapePattern, rawOK_plain_cons (by decide +kernel)]; exact rawOK_escapePattern me ps
  | .char c :: ps => by
    rw [escapePattern]
    split
    · exact (rawOK_esc2 (by decide +kernel) _).trans (rawOK_escapePattern me ps)
    · rw [rawOK_escapeChar]; exact rawOK_escapePattern me ps

def allOK (ts : List Token) : Bool := ts.all TokOK

theorem allOK_nil : allOK [] = true := rfl
theorem allOK_cons (t : Token) (ts : List Token) : allOK (t :: ts) = (TokOK t && allOK ts) := by simp [allOK]
theorem allOK_append (a b : List Token) : allOK (a ++ b) = (allOK a && allOK b) := by simp [allOK]
theorem allOK_mem {ts : List Token} (h : allOK ts = true) : ∀ t ∈ ts, TokOK t = true := by
  simpa [allOK] using h
theorem allOK_paren (b : Bool) (ts : List Token) : allOK (paren b ts) = allOK ts := by
  cases b <;> simp [paren, allOK_cons, allOK_append, allOK_nil, TokOK]

theorem tokOK_strTok (me : Char → Bool) (s : String) : TokOK (strTok me s) = true := rawOK_escapeStr me s.toList

theorem tokOK_keyTok (me : Char → Bool) (s : String) : TokOK (keyTok me s) = true := by
  unfold keyTok
  split
  · rename_i h
    simp only [isNormalizedIdent, Bool.and_eq_true] at h
    exact h.1.1
  · exact tokOK_strTok me s

theorem allOK_nameList : ∀ cs : List String, (cs.all (fun c => isIdentChars c.toList && unreservedIdent c)) = true →
    allOK (cs.flatMap (fun x => [Token.dcolon, Token.ident x])) = true
  | [], _ => rfl
  | c :: cs, h => by
    simp only [List.all_cons, Bool.and_eq_true] at h
    simp only [List.flatMap_cons, allOK_append, allOK_cons, allOK_nil, Bool.and_eq_true, Bool.and_true]
    exact ⟨⟨rfl, h.1.1⟩, allOK_nameList cs h.2⟩

theorem allOK_nameTokens {ty : String} (h : typeNameOk ty = true) : allOK (nameTokens ty) = true := by
  simp only [typeNameOk, Bool.and_eq_true] at h
  have h1 := h.1
  unfold nameTokens
  generalize ty.splitOn "::" = l at h1
  cases l with
  | nil => rfl
  | cons c cs =>
    simp only [List.all_cons, Bool.and_eq_true] at h1
    simp only [allOK_cons, Bool.and_eq_true]
    exact ⟨h1.1.1, allOK_nameList cs h1.2⟩

theorem tokOK_varName (v : Var) : TokOK (.ident (varName v)) = true := by cases v <;> decide +kernel
theorem tokOK_slotName (s : SlotId) : TokOK (.slot (slotName s)) = true := by cases s <;> decide +kernel
theorem tokOK_infixTok (op : BinaryOp) : TokOK (infixTok op) = true := by cases op <;> decide +kernel
theorem tokOK_methodName (op : BinaryOp) (h : op = .contains ∨ op = .containsAll ∨ op = .containsAny ∨ op = .getTag ∨ op = .hasTag) :
    TokOK (.ident (methodName op)) = true := by
  rcases h with h | h | h | h | h <;> subst h <;> decide +kernel
theorem tokOK_boolName (b : Bool) : TokOK (.ident (if b then "true" else "false")) = true := by cases b <;> decide +kernel

theorem tokOK_kw_if : TokOK (.ident "if") = true := by decide +kernel
theorem tokOK_kw_then : TokOK (.ident "then") = true := by decide +kernel
theorem tokOK_kw_else : TokOK (.ident "else") = true := by decide +kernel
theorem tokOK_kw_in : TokOK (.ident "in") = true := by decide +kernel
theorem tokOK_kw_is : TokOK (.ident "is") = true := by decide +kernel
theorem tokOK_kw_like : TokOK (.ident "like") = true := by decide +kernel
theorem tokOK_kw_has : TokOK (.ident "has") = true := by decide +kernel
theorem tokOK_kw_isEmpty : TokOK (.ident "isEmpty") = true := by decide +kernel
theorem tokOK_kw_unknown : TokOK (.ident "unknown") = true := by decide +kernel
theorem tokOK_kw_when : TokOK (.ident "when") = true := by decide +kernel
theorem tokOK_kw_action : TokOK (.ident "action") = true := by decide +kernel
theorem tokOK_kw_principal : TokOK (.ident "principal") = true := by decide +kernel
theorem tokOK_kw_resource : TokOK (.ident "resource") = true := by decide +kernel

theorem allOK_printEsTail (me : Char → Bool) : ∀ es, allOK (printEsTail me es) = allOK (printEs me es)
  | [] => rfl
  | _ :: _ => rfl

theorem allOK_printKVsTail (me : Char → Bool) : ∀ kvs, allOK (printKVsTail me kvs) = allOK (printKVs me kvs)
  | [] => rfl
  | _ :: _ => rfl

mutual
theorem printE_allOK (me : Char → Bool) : ∀ e, inFrag3 e = true → allOK (printE me e) = true
  | .lit (.bool b), _ => by simp only [printE, allOK_cons, allOK_nil, tokOK_boolName, Bool.and_true]
  | .lit (.int i), _ => by simp only [printE]; split <;> rfl
  | .lit (.string s), _ => by simp only [printE, allOK_cons, allOK_nil, tokOK_strTok, Bool.and_true]
  | .lit (.entityUID u), hf => by
    simp only [inFrag3] at hf
    simp only [printE, allOK_append, allOK_cons, allOK_nil, tokOK_strTok, allOK_nameTokens hf, Bool.and_true]
    rfl
  | .var v, _ => by simp only [printE, allOK_cons, allOK_nil, tokOK_varName, Bool.and_true]
  | .slot s, _ => by simp only [printE, allOK_cons, allOK_nil, tokOK_slotName, Bool.and_true]
  | .unknown _ _, hf => by cases hf
  | .ite c t e, hf => by
    simp only [inFrag3, Bool.and_eq_true] at hf
    simp only [printE, allOK_cons, allOK_append, tokOK_kw_if, tokOK_kw_then, tokOK_kw_else, printE_allOK me c hf.1.1,
      printE_allOK me t hf.1.2, printE_allOK me e hf.2, Bool.and_true]
  | .and a b, hf => by
    simp only [inFrag3, Bool.and_eq_true] at hf
    simp only [printE, allOK_cons, allOK_append, allOK_paren, printE_allOK me a hf.1.1, printE_allOK me b hf.1.2, Bool.and_true]
    rfl
  | .or a b, hf => by
    simp only [inFrag3, Bool.and_eq_true] at hf
    simp only [printE, allOK_cons, allOK_append, allOK_paren, printE_allOK me a hf.1.1, printE_allOK me b hf.1.2, Bool.and_true]
    rfl
  | .unaryApp op a, hf => by
    simp only [inFrag3] at hf
    have iha := printE_allOK me a hf
    cases op <;>
      simp only [printE, allOK_cons, allOK_append, allOK_paren, allOK_nil, iha, tokOK_kw_isEmpty, Bool.and_true, Bool.true_and] <;> rfl
  | .binaryApp op a b, hf => by
    simp only [inFrag3, Bool.and_eq_true] at hf
    have iha := printE_allOK me a hf.1
    have ihb := printE_allOK me b hf.2
    cases op <;>
      simp only [printE, allOK_cons, allOK_append, allOK_paren, allOK_nil, iha, ihb, tokOK_infixTok, Bool.and_true, Bool.true_and] <;>
      decide +kernel
  | .call fn args, hf => by
    simp only [inFrag3, Bool.and_eq_true, Bool.or_eq_true] at hf
    have hargs := printEs_allOK me args hf.2
    have hid : TokOK (.ident fn) = true := extName_ident (hf.1.imp id And.left)
    by_cases hm : isExtMethod fn = true
    · cases args with
      | nil => simp [hm] at hf; exact absurd hm (by rw [(extFunction_facts hf.1 []).2.1]; simp)
      | cons r rest =>
        -- the receiver and the remaining arguments are printed inside `printEs (r :: rest)`
        simp only [printEs, allOK_append, allOK_printEsTail, Bool.and_eq_true] at hargs
        simp only [printE, hm, if_true, allOK_cons, allOK_append, allOK_paren, allOK_nil, hargs.1, hargs.2, hid, Bool.and_true,
          Bool.true_and]
        rfl
    · have hfun : isExtFunction fn = true := hf.1.resolve_right (fun h => hm h.1)
      rw [printE_call_fun me fn args (by simpa using hm)]
      simp only [(extFunction_facts hfun args).2.2.1, allOK_cons, allOK_append, allOK_nil, hargs, hid, Bool.and_true, Bool.true_and]
      rfl
  | .getAttr a x, hf => by
    simp only [inFrag3] at hf
    simp only [printE, allOK_append, allOK_paren, printE_allOK me a hf, Bool.true_and]
    split
    · rename_i h
      simp only [isNormalizedIdent, Bool.and_eq_true] at h
      simp only [allOK_cons, allOK_nil, Bool.and_true, Bool.and_eq_true]
      exact ⟨rfl, h.1.1⟩
    · simp only [allOK_cons, allOK_nil, tokOK_strTok, Bool.and_true]; rfl
  | .hasAttr a x, hf => by
    simp only [inFrag3] at hf
    simp only [printE, allOK_append, allOK_cons, allOK_nil, allOK_paren, printE_allOK me a hf, tokOK_kw_has, tokOK_keyTok, Bool.and_true]
  | .like a x, hf => by
    simp only [inFrag3] at hf
    simp only [printE, allOK_append, allOK_cons, allOK_nil, allOK_paren, printE_allOK me a hf, tokOK_kw_like, Bool.and_true, Bool.true_and]
    exact rawOK_escapePattern me x
  | .is a x, hf => by
    simp only [inFrag3, Bool.and_eq_true] at hf
    simp only [printE, allOK_append, allOK_cons, allOK_paren, printE_allOK me a hf.1, tokOK_kw_is, allOK_nameTokens hf.2, Bool.and_true]
  | .set es, hf => by
    simp only [inFrag3] at hf
    simp only [printE, allOK_cons, allOK_append, allOK_nil, printEs_allOK me es hf, Bool.and_true, Bool.true_and]
    rfl
  | .record kvs, hf => by
    simp only [inFrag3, Bool.and_eq_true] at hf
    simp only [printE, allOK_cons, allOK_append, allOK_nil, printKVs_allOK me kvs hf.2, Bool.and_true, Bool.true_and]
    rfl
theorem printEs_allOK (me : Char → Bool) : ∀ es, inFrag3L es = true → allOK (printEs me es) = true
  | [], _ => rfl
  | e :: es, hf => by
    simp only [inFrag3L, Bool.and_eq_true] at hf
    simp only [printEs, allOK_append, allOK_printEsTail, printE_allOK me e hf.1, printEs_allOK me es hf.2, Bool.and_self]
theorem printKVs_allOK (me : Char → Bool) : ∀ kvs, inFrag3K kvs = true → allOK (printKVs me kvs) = true
  | [], _ => rfl
  | (k, e) :: kvs, hf => by
    simp only [inFrag3K, Bool.and_eq_true] at hf
    simp only [printKVs, allOK_cons, allOK_append, allOK_printKVsTail, tokOK_keyTok, printE_allOK me e hf.1,
      printKVs_allOK me kvs hf.2, Bool.true_and]
    rfl
end

theorem printAnnots_allOK (me : Char → Bool) : ∀ as, annKeysOK as = true → allOK (printAnnots me as) = true
  | [], _ => rfl
  | (k, v) :: as, h => by
    simp only [annKeysOK, List.all_cons, Bool.and_eq_true] at h
    simp only [printAnnots, allOK_cons, Bool.and_eq_true]
    exact ⟨rfl, h.1, rfl, tokOK_strTok me v, rfl, printAnnots_allOK me as h.2⟩

theorem refExpr_allOK (me : Char → Bool) (slot : SlotId) {r : EntityRef} (h : refOKW typeNameOk r = true) :
    allOK (printE me (refExpr slot r)) = true := by
  cases r with
  | euid u => exact printE_allOK me _ (by simpa [refOKW, refExpr, inFrag3] using h)
  | slot => exact printE_allOK me _ (by simp [refExpr, inFrag3])

theorem printScope_allOK (me : Char → Bool) (v : String) (hv : TokOK (.ident v) = true) (slot : SlotId) {c : ScopeC}
    (h : scopeOKW typeNameOk c = true) : allOK (printScope me v slot c) = true := by
  cases c <;> simp only [scopeOKW, Bool.and_eq_true] at h <;>
    simp only [printScope, allOK_cons, allOK_append, allOK_nil, hv, tokOK_kw_in, tokOK_kw_is, Bool.true_and, Bool.and_true]
  · exact refExpr_allOK me slot h
  · exact (Bool.and_eq_true _ _).mpr ⟨rfl, refExpr_allOK me slot h⟩
  · exact allOK_nameTokens h
  · simp only [allOK_nameTokens h.1, refExpr_allOK me slot h.2, Bool.and_true]

theorem printAction_allOK (me : Char → Bool) {c : ActionC} (h : actionOKW typeNameOk c = true) :
    allOK (printAction me c) = true := by
  cases c with
  | any => simp only [printAction, allOK_cons, allOK_nil, tokOK_kw_action, Bool.and_true]
  | eq u =>
    simp only [actionOKW, Bool.and_eq_true] at h
    simp only [printAction, allOK_cons, tokOK_kw_action, Bool.true_and]
    exact (Bool.and_eq_true _ _).mpr ⟨rfl, printE_allOK me _ (by simpa [inFrag3] using h.1)⟩
  | mem us =>
    simp only [actionOKW] at h
    simp only [printAction, allOK_cons, tokOK_kw_action, tokOK_kw_in, Bool.true_and]
    exact printE_allOK me _ (by simpa [uidSet, inFrag3] using uidSet_frag us h)

theorem printCond_allOK (me : Char → Bool) {c : Option Expr} (h : condOKW inFrag3 c = true) : allOK (printCond me c) = true := by
  cases c with
  | none => rfl
  | some e =>
    simp only [condOKW, Bool.and_eq_true] at h
    simp only [printCond, allOK_cons, allOK_append, allOK_nil, tokOK_kw_when, printE_allOK me e h.1,
      Bool.true_and, Bool.and_true]
    rfl

theorem tokOK_effectName (e : Effect) : TokOK (.ident (effectName e)) = true := by cases e <;> decide +kernel

theorem printPolicy_allOK (me : Char → Bool) (b : TemplateBody) (h : policyOKW typeNameOk inFrag3 b = true)
    (hk : annKeysOK b.annotations = true) : allOK (printPolicy me b) = true := by
  simp only [policyOKW, Bool.and_eq_true] at h
  obtain ⟨⟨⟨⟨_, hp⟩, hac⟩, hr⟩, hc⟩ := h
  simp only [printPolicy, allOK_cons, allOK_append, printAnnots_allOK me _ hk, tokOK_effectName,
    printScope_allOK me "principal" tokOK_kw_principal .principal hp, printAction_allOK me hac,
    printScope_allOK me "resource" tokOK_kw_resource .resource hr, printCond_allOK me hc, Bool.true_and, Bool.and_true]
  rfl

theorem tokWF_of_tokOK {ts : List Token} (h : ∀ t ∈ ts, TokOK t = true) : TokWF ts := fun s hs => h (.ident s) hs

theorem lexFuel_tokWF (f : Nat) (cs : List Char) (ts : List Token) (h : lexFuel f cs = some ts) : TokWF ts :=
  tokWF_of_tokOK (lexFuel_tokOK f cs ts h)

theorem tokWF_lex_getD (cs : List Char) : TokWF ((lex cs).getD []) := by
  cases h : lex cs with
  | none => intro s hs; cases hs
  | some ts => exact lexFuel_tokWF _ cs ts h

end Cedar.Syntax
