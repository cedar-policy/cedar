import CedarVerif.Lemmas.ManifestLit
import CedarVerif.Lemmas.ManifestValid
import CedarVerif.Lemmas.TypecheckJudgment
/-
The link to C03 for the fragment with record and set literals (`FragL`), without `NoRecOps`.
`sim_typedL`: over a conformant request and store, the typed AST (`typedAst`) of a well-typed expression of `FragL` is a
typed AST of it in the sense of `SimL`: the premises `TypedRes` (operands of `== in contains containsAll containsAny
isEmpty` have the annotated type, a closed type with distinct attribute names) and `ScalarRes` (operands of `< <= + - *`
and of extension functions are scalars) follow from type soundness (`soundM`) and from `typeOf_cn`.
-/
namespace Cedar.Manifest
open Cedar Cedar.C03

-- `FragE` plus set literals and record literals with distinct keys (the parser and `Expr::record` reject duplicates)
mutual
def FragL : Expr → Prop
  | .lit _ => True
  | .var _ => True
  | .ite c t e => FragL c ∧ FragL t ∧ FragL e
  | .and a b => FragL a ∧ FragL b
  | .or a b => FragL a ∧ FragL b
  | .unaryApp _ a => FragL a
  | .binaryApp op a b => FragOp op ∧ FragL a ∧ FragL b
  | .getAttr e _ => FragL e
  | .hasAttr e _ => FragL e
  | .like e _ => FragL e
  | .is e _ => FragL e
  | .call _ args => FragLList args
  | .set xs => FragLList xs
  | .record kvs => FragLKVs kvs ∧ (kvs.map (·.1)).Nodup
  | _ => False
def FragLList : List Expr → Prop
  | [] => True
  | x :: xs => FragL x ∧ FragLList xs
def FragLKVs : List (String × Expr) → Prop
  | [] => True
  | (_, x) :: xs => FragL x ∧ FragLKVs xs
end

mutual
theorem fragE_fragL : ∀ (e : Expr), FragE e → FragL e
  | .lit _, _ => trivial
  | .var _, _ => trivial
  | .ite c t e, h => ⟨fragE_fragL c h.1, fragE_fragL t h.2.1, fragE_fragL e h.2.2⟩
  | .and a b, h => ⟨fragE_fragL a h.1, fragE_fragL b h.2⟩
  | .or a b, h => ⟨fragE_fragL a h.1, fragE_fragL b h.2⟩
  | .unaryApp _ a, h => fragE_fragL a h
  | .binaryApp _ a b, h => ⟨h.1, fragE_fragL a h.2.1, fragE_fragL b h.2.2⟩
  | .getAttr a _, h => fragE_fragL a h
  | .hasAttr a _, h => fragE_fragL a h
  | .like a _, h => fragE_fragL a h
  | .is a _, h => fragE_fragL a h
  | .call _ args, h => fragEList_fragL args h
  | .slot _, h => h.elim
  | .unknown _ _, h => h.elim
  | .set _, h => h.elim
  | .record _, h => h.elim
theorem fragEList_fragL : ∀ (es : List Expr), FragEList es → FragLList es
  | [], _ => trivial
  | e :: es, h => ⟨fragE_fragL e h.1, fragEList_fragL es h.2⟩
end

mutual
theorem fragL_inFragment2 (env : RequestEnv) : ∀ (e : Expr), FragL e → InFragment2 env e = true
  | .lit _, _ => rfl
  | .var _, _ => rfl
  | .ite c t e, h => by
    simp only [InFragment2, InFragmentM, fragL_inFragment2 env c h.1, fragL_inFragment2 env t h.2.1,
      fragL_inFragment2 env e h.2.2, ValidationMode.isStrict, Bool.true_or, Bool.and_self]
  | .and a b, h => by
    simp only [InFragment2, InFragmentM, fragL_inFragment2 env a h.1, fragL_inFragment2 env b h.2, Bool.and_self]
  | .or a b, h => by
    simp only [InFragment2, InFragmentM, fragL_inFragment2 env a h.1, fragL_inFragment2 env b h.2, Bool.and_self]
  | .unaryApp _ a, h => by simp only [InFragment2, InFragmentM, fragL_inFragment2 env a h]
  | .binaryApp op a b, h => by
    simp only [InFragment2, InFragmentM, binOpOK_all, fragL_inFragment2 env a h.2.1, fragL_inFragment2 env b h.2.2,
      Bool.and_self]
  | .getAttr a _, h => by simp only [InFragment2, InFragmentM, fragL_inFragment2 env a h]
  | .hasAttr a _, h => by simp only [InFragment2, InFragmentM, fragL_inFragment2 env a h]
  | .like a _, h => by simp only [InFragment2, InFragmentM, fragL_inFragment2 env a h]
  | .is a _, h => by simp only [InFragment2, InFragmentM, fragL_inFragment2 env a h]
  | .slot _, h => h.elim
  | .unknown _ _, h => h.elim
  | .call _ args, h => by simp only [InFragment2, InFragmentM, fragLList_inFragment2 env args h]
  | .set xs, h => by
    simp only [InFragment2, InFragmentM, fragLList_inFragment2 env xs h, ValidationMode.isStrict, Bool.true_or,
      Bool.and_self]
  | .record kvs, h => by
    simp only [InFragment2, InFragmentM, fragLKVs_inFragment2 env kvs h.1, h.2, decide_true, Bool.and_self]
theorem fragLList_inFragment2 (env : RequestEnv) : ∀ (es : List Expr), FragLList es → InFragment2List env es = true
  | [], _ => rfl
  | e :: es, h => by
    simp only [InFragment2List, InFragmentMList, fragL_inFragment2 env e h.1, fragLList_inFragment2 env es h.2,
      Bool.and_self]
theorem fragLKVs_inFragment2 (env : RequestEnv) : ∀ (es : List (String × Expr)), FragLKVs es → InFragment2KVs env es = true
  | [], _ => rfl
  | (k, e) :: es, h => by
    simp only [InFragment2KVs, InFragmentMKVs, fragL_inFragment2 env e h.1, fragLKVs_inFragment2 env es h.2,
      Bool.and_self]
end

theorem comparable_flat {t : CedarType} (h : isComparable t = true) : t.flat = true := by
  cases t <;> simp [isComparable, CedarType.flat] at h ⊢

theorem cmpType_flat {τa τb : CedarType} {x : CedarType × Capabilities} (h : cmpType τa τb = .ok x) :
    τa.flat = true ∧ τb.flat = true :=
  have ⟨_, ha, hb, _⟩ := cmpType_ok h
  ⟨ha.elim (· ▸ rfl) comparable_flat, hb.elim (· ▸ rfl) comparable_flat⟩

theorem sub_flat1 {τ t : CedarType} (h : isSubtype .permissive τ t = true) (ht : t.flat = true) : τ.flat = true := by
  cases t <;> simp [CedarType.flat] at ht <;> cases τ <;> simp [isSubtype, CedarType.flat] at h ⊢

theorem arithRule_flat {m : ValidationMode} {s : Schema} {env : RequestEnv} {op : BinaryOp} {a b : Expr} {caps : Capabilities}
    {τa τb : CedarType} {x : CedarType × Capabilities} (hop : ArithOp op)
    (hr : binaryRule m s env op a b caps τa τb = .ok x) : τa.flat = true ∧ τb.flat = true := by
  have long : ∀ {τ : CedarType}, [CedarType.long].any (fun t => isSubtype .permissive τ t) = true → τ.flat = true :=
    fun hs => sub_flat1 (by simpa only [List.any_cons, List.any_nil, Bool.or_false] using hs) rfl
  rcases hop with e | e | e | e | e <;> subst e
  · exact cmpType_flat hr
  · exact cmpType_flat hr
  all_goals exact have ⟨hsa, h1⟩ := expectTy_ok hr; ⟨long hsa, long (expectTy_ok h1).1⟩

theorem typedAstList_length (s : Schema) (env : RequestEnv) (caps : Capabilities) : ∀ (xs : List Expr),
    (typedAstList s env xs caps).length = xs.length
  | [] => rfl
  | x :: xs => by simp [typedAstList, typedAstList_length s env caps xs]

theorem typedAstKVs_keys (s : Schema) (env : RequestEnv) (caps : Capabilities) : ∀ (kvs : List (String × Expr)),
    (typedAstKVs s env kvs caps).map (·.1) = kvs.map (·.1)
  | [] => rfl
  | (k, x) :: xs => by simp [typedAstKVs, typedAstKVs_keys s env caps xs]

theorem fragLList_mem : ∀ {xs : List Expr}, FragLList xs → ∀ x, x ∈ xs → FragL x
  | [], _ => nofun
  | _ :: _, h => List.forall_mem_cons.mpr ⟨h.1, fragLList_mem h.2⟩

theorem fragLKVs_mem : ∀ {kvs : List (String × Expr)}, FragLKVs kvs → ∀ kv, kv ∈ kvs → FragL kv.2
  | [], _ => nofun
  | _ :: _, h => List.forall_mem_cons.mpr ⟨h.1, fragLKVs_mem h.2⟩

theorem typeOfList_sub {s : Schema} {env : RequestEnv} {caps : Capabilities} : ∀ {args : List Expr} {τs ts : List CedarType},
    typeOfList .strict s env args caps = .ok τs → args.length = ts.length →
    (τs.zip ts).all (fun p => isSubtype .permissive p.1 p.2) = true →
    ∀ a, a ∈ args → ∃ τa ca t, typeOf .strict s env a caps = .ok (τa, ca) ∧ t ∈ ts ∧ isSubtype .permissive τa t = true
  | _ :: _, _, [], _, hlen, _, _, _ => by simp at hlen
  | x :: xs, _, t :: ts, hL, hlen, hall, a, ha => by
    obtain ⟨τ, c, τs', h1, h2, rfl⟩ := typeOfList_cons hL
    simp only [List.zip_cons_cons, List.all_cons, Bool.and_eq_true] at hall
    rcases List.mem_cons.mp ha with rfl | ha
    · exact ⟨τ, c, t, h1, by simp, hall.1⟩
    · obtain ⟨τa, ca, u, r1, r2, r3⟩ := typeOfList_sub h2 (by simpa using hlen) hall.2 a ha
      exact ⟨τa, ca, u, r1, List.mem_cons_of_mem _ r2, r3⟩

theorem inst_of_sound {w : World} {e : Expr} {τ : CedarType} {c : Capabilities} (h : TySound w e τ c) {v : Value}
    (hk : evaluate w.q w.es w.sl e = .ok v) : InstanceOfType v τ :=
  (h.of_ok hk).1

theorem scalarRes_of_sound {w : World} {e : Expr} {τ : CedarType} {c : Capabilities} (h : TySound w e τ c)
    (hτ : τ.flat = true) : ScalarRes (evaluate w.q w.es w.sl e) :=
  fun _ hk => inst_flat_scalar (inst_of_sound h hk) hτ

theorem typedRes_of_sound {w : World} {e : Expr} {τ : CedarType} {c : Capabilities} (h : TySound w e τ c)
    (hτ : cn τ = true) : TypedRes (evaluate w.q w.es w.sl e) (some τ) :=
  ⟨τ, rfl, hτ, fun _ hk => inst_of_sound h hk⟩

section sim
variable {s : Schema} {env : RequestEnv} {req : Request} {es : Entities}
variable (hWF : SchemaWF3 s) (henv : EnvMatches s env req) (hsem : Sem s env ⟨req, es, []⟩)
include hWF henv hsem

theorem sound_ofL (e : Expr) (hf : FragL e) (caps : Capabilities) (τ : CedarType) (c' : Capabilities)
    (h : typeOf .strict s env e caps = .ok (τ, c')) (hc : CapsHold ⟨req, es, []⟩ caps) :
    TySound ⟨req, es, []⟩ e τ c' :=
  ((soundM (w := ⟨req, es, []⟩) hWF.toSchemaWF2 henv e (fragL_inFragment2 env e hf) caps τ c' h).2 hsem hc).1

omit hsem in
theorem cn_ofL (e : Expr) (hf : FragL e) (caps : Capabilities) (τ : CedarType) (c' : Capabilities)
    (h : typeOf .strict s env e caps = .ok (τ, c')) : cn τ = true :=
  typeOf_cn hWF henv e (fragL_inFragment2 env e hf) caps τ c' h

theorem simL_call {fn : String} {args : List Expr} (hf : FragLList args) {caps : Capabilities} {τs : List CedarType}
    {τ : CedarType} {c' : Capabilities} (hL : typeOfList .strict s env args caps = .ok τs)
    (hr : callRule .strict fn args τs = .ok (τ, c')) (hc : CapsHold ⟨req, es, []⟩ caps)
    (ih : ∀ x tx, (x, tx) ∈ args.zip (typedAstList s env args caps) → SimL req es x tx) :
    SimL req es (.call fn args) (typedAst s env (.call fn args) caps) := by
  have h : typeOf .strict s env (.call fn args) caps = .ok (τ, c') := by rw [typeOf_call, hL]; exact hr
  obtain ⟨sig, hsig, hlen, hall, hτ, _⟩ := callRule_inv hr
  obtain ⟨hflat, -, hargs, harity⟩ := extSig_facts hsig
  have hscal : ∀ w, evaluate req es [] (.call fn args) = .ok w → Scalar w := by
    subst hτ
    exact scalarRes_of_sound (sound_ofL hWF henv hsem (.call fn args) hf caps _ c' h hc) hflat
  have harg : ∀ a, a ∈ args → ScalarRes (evaluate req es [] a) := by
    intro a ha
    obtain ⟨τa, ca, t, hta, ht, hsub⟩ := typeOfList_sub hL hlen hall a ha
    exact scalarRes_of_sound (sound_ofL hWF henv hsem a (fragLList_mem hf a ha) caps τa ca hta hc)
      (sub_flat1 hsub (hargs t ht))
  simp only [typedAst]
  rcases args with _ | ⟨a, _ | ⟨b, _ | ⟨c, rest⟩⟩⟩
  · simp only [List.length_nil] at hlen; omega
  · exact .call1 fn (ih _ _ (by simp [typedAstList])) (harg a (by simp)) hscal
  · exact .call2 fn (ih _ _ (by simp [typedAstList])) (ih _ _ (by simp [typedAstList])) (harg a (by simp))
      (harg b (by simp)) hscal
  · simp only [List.length_cons] at hlen; omega

omit hWF henv hsem in
theorem simL_list {caps : Capabilities} : ∀ {xs : List Expr} {τs : List CedarType}, typeOfList .strict s env xs caps = .ok τs →
    (∀ x, x ∈ xs → ∀ τx cx, typeOf .strict s env x caps = .ok (τx, cx) → SimL req es x (typedAst s env x caps)) →
    ∀ x tx, (x, tx) ∈ xs.zip (typedAstList s env xs caps) → SimL req es x tx
  | [], _, _, _, _, _, hm => by simp [typedAstList] at hm
  | x :: xs, _, h, ih, _, _, hm => by
    obtain ⟨τ, c, τs', h1, h2, _⟩ := typeOfList_cons h
    simp only [typedAstList, List.zip_cons_cons, List.mem_cons, Prod.mk.injEq] at hm
    rcases hm with ⟨rfl, rfl⟩ | hm
    · exact ih _ List.mem_cons_self τ c h1
    · exact simL_list h2 (fun y hy => ih y (List.mem_cons_of_mem _ hy)) _ _ hm

omit hWF henv hsem in
theorem simL_kvs {caps : Capabilities} : ∀ {kvs : List (String × Expr)} {attrs : Attrs},
    typeOfKVs .strict s env kvs caps = .ok attrs →
    (∀ kv, kv ∈ kvs → ∀ τx cx, typeOf .strict s env kv.2 caps = .ok (τx, cx) → SimL req es kv.2 (typedAst s env kv.2 caps)) →
    ∀ x tx, (x, tx) ∈ (kvs.map (·.2)).zip ((typedAstKVs s env kvs caps).map (·.2)) → SimL req es x tx
  | [], _, _, _, _, _, hm => by simp [typedAstKVs] at hm
  | (k, x) :: xs, _, h, ih, _, _, hm => by
    obtain ⟨τ, c, attrs', h1, h2, _⟩ := typeOfKVs_cons h
    simp only [typedAstKVs, List.map_cons, List.zip_cons_cons, List.mem_cons, Prod.mk.injEq] at hm
    rcases hm with ⟨rfl, rfl⟩ | hm
    · exact ih (k, _) List.mem_cons_self τ c h1
    · exact simL_kvs h2 (fun y hy => ih y (List.mem_cons_of_mem _ hy)) _ _ hm

/-- induction on the typing derivation: where the typechecker visited an operand, and under which capabilities, the typed
AST has the operand's typed AST; the semantic premises of `SimL` at a node come from type soundness for its operands -/
theorem sim_typedL_of {e : Expr} {caps : Capabilities} {τ : CedarType} {c' : Capabilities}
    (d : HasType .strict s env e caps τ c') : FragL e → CapsHold ⟨req, es, []⟩ caps → SimL req es e (typedAst s env e caps) := by
  induction d with
  | lit _ => exact fun _ _ => by simp only [typedAst]; exact .lit _
  | var _ => exact fun _ _ => by simp only [typedAst]; exact .var _
  | slot _ => intro hf; simp [FragL] at hf
  | andFalse da iha =>
    intro hf hc
    simp only [typedAst, da.typeOf_eq, CedarType.isFalse, if_true]
    exact .andFalse (iha hf.1 hc) (sound_ff_val (sound_ofL hWF henv hsem _ hf.1 _ _ _ da.typeOf_eq hc))
  | and da _ hF _ _ iha ihb =>
    intro hf hc
    simp only [typedAst, da.typeOf_eq, hF, Bool.false_eq_true, if_false]
    exact .and (iha hf.1 hc) (fun htrue => ihb hf.2
      (capsHold_union.mpr ⟨hc, sound_true_caps (sound_ofL hWF henv hsem _ hf.1 _ _ _ da.typeOf_eq hc) htrue⟩))
  | orTrue da iha =>
    intro hf hc
    simp only [typedAst, da.typeOf_eq, CedarType.isTrue, if_true]
    exact .orTrue (iha hf.1 hc) (sound_tt_val (sound_ofL hWF henv hsem _ hf.1 _ _ _ da.typeOf_eq hc)).1
  | or da _ hT _ _ iha ihb =>
    intro hf hc
    simp only [typedAst, da.typeOf_eq, hT, Bool.false_eq_true, if_false]
    exact .or (iha hf.1 hc) (fun _ => ihb hf.2 hc)
  | iteTrue dc _ ihc iht =>
    intro hf hc
    simp only [typedAst, dc.typeOf_eq, CedarType.isTrue, if_true]
    have sc := sound_tt_val (sound_ofL hWF henv hsem _ hf.1 _ _ _ dc.typeOf_eq hc)
    exact .iteTrue (ihc hf.1 hc) sc.1 (fun hv => iht hf.2.1 (capsHold_union.mpr ⟨hc, sc.2 hv⟩))
  | iteFalse dc _ ihc ihe =>
    intro hf hc
    simp only [typedAst, dc.typeOf_eq, CedarType.isTrue, CedarType.isFalse, Bool.false_eq_true, if_false, if_true]
    exact .iteFalse (ihc hf.1 hc) (sound_ff_val (sound_ofL hWF henv hsem _ hf.1 _ _ _ dc.typeOf_eq hc))
      (fun _ => ihe hf.2.2 hc)
  | ite dc _ hT hF _ _ _ ihc iht ihe =>
    intro hf hc
    simp only [typedAst, dc.typeOf_eq, hT, hF, Bool.false_eq_true, if_false]
    exact .ite (ihc hf.1 hc) (fun hv => iht hf.2.1
      (capsHold_union.mpr ⟨hc, sound_true_caps (sound_ofL hWF henv hsem _ hf.1 _ _ _ dc.typeOf_eq hc) hv⟩))
      (fun _ => ihe hf.2.2 hc)
  | @unary op a caps τa ca _ _ da _ iha =>
    intro hf hc
    unfold typedAst
    by_cases hop : op = .isEmpty
    · subst hop
      refine .isEmpty _ (iha hf hc) ?_
      simp only [tyOf, da.typeOf_eq]
      exact typedRes_of_sound (sound_ofL hWF henv hsem a hf caps τa ca da.typeOf_eq hc)
        (cn_ofL hWF henv a hf caps τa ca da.typeOf_eq)
    · exact .unary op _ hop (iha hf hc)
  | @binary op a b caps τa ca τb cb _ _ da db hr iha ihb =>
    intro hf hc
    unfold typedAst
    have sa := sound_ofL hWF henv hsem a hf.2.1 caps τa ca da.typeOf_eq hc
    have sb := sound_ofL hWF henv hsem b hf.2.2 caps τb cb db.typeOf_eq hc
    rcases fragOp_cases hf.1 with hop | hop
    · obtain ⟨f1, f2⟩ := arithRule_flat hop hr
      exact .arith op _ _ hop (iha hf.2.1 hc) (ihb hf.2.2 hc) (scalarRes_of_sound sa f1) (scalarRes_of_sound sb f2)
    · refine .full op _ _ hop (iha hf.2.1 hc) (ihb hf.2.2 hc) ?_ ?_
      · simp only [tyOf, da.typeOf_eq]
        exact typedRes_of_sound sa (cn_ofL hWF henv a hf.2.1 caps τa ca da.typeOf_eq)
      · simp only [tyOf, db.typeOf_eq]
        exact typedRes_of_sound sb (cn_ofL hWF henv b hf.2.2 caps τb cb db.typeOf_eq)
  | getAttr _ _ ihe => exact fun hf hc => by unfold typedAst; exact .getAttr _ (ihe hf hc)
  | hasAttr _ _ ihe => exact fun hf hc => by unfold typedAst; exact .hasAttr _ (ihe hf hc)
  | like _ _ ihe => exact fun hf hc => by unfold typedAst; exact .like _ (ihe hf hc)
  | is _ _ ihe => exact fun hf hc => by unfold typedAst; exact .is _ (ihe hf hc)
  | call _ hL hr ih =>
    exact fun hf hc => simL_call hWF henv hsem hf hL hr hc
      (simL_list hL fun x hx τx cx h => ih x hx τx cx h (fragLList_mem hf x hx) hc)
  | set _ hL _ _ ih =>
    intro hf hc
    unfold typedAst
    exact .set (typedAstList_length s env _ _).symm (simL_list hL fun x hx τx cx h => ih x hx τx cx h (fragLList_mem hf x hx) hc)
  | record _ hL ih =>
    intro hf hc
    unfold typedAst
    exact .record hf.2 (typedAstKVs_keys s env _ _).symm
      (simL_kvs hL fun kv hkv τx cx h => ih kv hkv τx cx h (fragLKVs_mem hf.1 kv hkv) hc)

theorem sim_typedL : ∀ (e : Expr), FragL e → ∀ (caps : Capabilities) (τ : CedarType) (c' : Capabilities),
    typeOf .strict s env e caps = .ok (τ, c') → CapsHold ⟨req, es, []⟩ caps →
    SimL req es e (typedAst s env e caps) :=
  fun e hf caps τ c' h => sim_typedL_of hWF henv hsem (typeOf_hasType e caps τ c' h) hf

theorem sim_typedL_kvs : ∀ (kvs : List (String × Expr)), FragLKVs kvs → ∀ (caps : Capabilities) (attrs : Attrs),
    typeOfKVs .strict s env kvs caps = .ok attrs → CapsHold ⟨req, es, []⟩ caps →
    ∀ x tx, (x, tx) ∈ (kvs.map (·.2)).zip ((typedAstKVs s env kvs caps).map (·.2)) → SimL req es x tx :=
  fun _ hf caps _ h hc => simL_kvs h fun kv hkv τx cx hx' =>
    sim_typedL hWF henv hsem kv.2 (fragLKVs_mem hf kv hkv) caps τx cx hx' hc

end sim

section uk
variable {s : Schema} {env : RequestEnv} {q : Request} (hWF : SchemaWF3 s) (henv : EnvMatches s env q)
include hWF henv

theorem optUK_tyOfL (e : Expr) (hf : FragL e) (caps : Capabilities) : optUK (tyOf s env e caps) := by
  unfold tyOf
  cases hT : typeOf .strict s env e caps with
  | error err => simp [optUK]
  | ok p =>
    obtain ⟨τ, c⟩ := p
    simp only [optUK]
    exact typeUK_of_cn τ (typeOf_cn hWF henv e (fragL_inFragment2 env e hf) caps τ c hT)

set_option linter.unusedSectionVars false in
mutual
theorem typesUK_typedL : ∀ (e : Expr), FragL e → ∀ (caps : Capabilities), TypesUK (typedAst s env e caps)
  | .lit p, _, _ => by simp [typedAst, TypesUK]
  | .var x, _, _ => by simp [typedAst, TypesUK]
  | .and a b, hf, caps => by
    unfold typedAst
    split
    · split
      · exact typesUK_typedL a hf.1 caps
      · simp only [TypesUK]; exact ⟨typesUK_typedL a hf.1 caps, typesUK_typedL b hf.2 _⟩
    · simp only [TypesUK]; exact ⟨typesUK_typedL a hf.1 caps, typesUK_typedL b hf.2 _⟩
  | .or a b, hf, caps => by
    unfold typedAst
    split
    · split
      · exact typesUK_typedL a hf.1 caps
      · simp only [TypesUK]; exact ⟨typesUK_typedL a hf.1 caps, typesUK_typedL b hf.2 _⟩
    · simp only [TypesUK]; exact ⟨typesUK_typedL a hf.1 caps, typesUK_typedL b hf.2 _⟩
  | .ite c t e, hf, caps => by
    unfold typedAst
    split
    · split
      · simp only [TypesUK]; exact ⟨typesUK_typedL c hf.1 caps, typesUK_typedL t hf.2.1 _, typesUK_typedL t hf.2.1 _⟩
      · split
        · simp only [TypesUK]; exact ⟨typesUK_typedL c hf.1 caps, typesUK_typedL e hf.2.2 _, typesUK_typedL e hf.2.2 _⟩
        · simp only [TypesUK]; exact ⟨typesUK_typedL c hf.1 caps, typesUK_typedL t hf.2.1 _, typesUK_typedL e hf.2.2 _⟩
    · simp only [TypesUK]; exact ⟨typesUK_typedL c hf.1 caps, typesUK_typedL t hf.2.1 _, typesUK_typedL e hf.2.2 _⟩
  | .unaryApp op a, hf, caps => by
    unfold typedAst TypesUK
    exact ⟨optUK_tyOfL hWF henv a hf caps, typesUK_typedL a hf caps⟩
  | .binaryApp op a b, hf, caps => by
    unfold typedAst TypesUK
    exact ⟨optUK_tyOfL hWF henv a hf.2.1 caps, optUK_tyOfL hWF henv b hf.2.2 caps, typesUK_typedL a hf.2.1 caps,
      typesUK_typedL b hf.2.2 caps⟩
  | .getAttr e _, hf, caps => by unfold typedAst TypesUK; exact typesUK_typedL e hf caps
  | .hasAttr e _, hf, caps => by unfold typedAst TypesUK; exact typesUK_typedL e hf caps
  | .like e _, hf, caps => by unfold typedAst TypesUK; exact typesUK_typedL e hf caps
  | .is e _, hf, caps => by unfold typedAst TypesUK; exact typesUK_typedL e hf caps
  | .call _ args, hf, caps => by unfold typedAst TypesUK; exact typesUKList_typedL args hf caps
  | .set xs, hf, caps => by unfold typedAst TypesUK; exact typesUKList_typedL xs hf caps
  | .record kvs, hf, caps => by unfold typedAst TypesUK; exact typesUKKVs_typedL kvs hf.1 caps
  | .slot _, hf, _ => hf.elim
  | .unknown _ _, hf, _ => hf.elim
theorem typesUKList_typedL : ∀ (es : List Expr), FragLList es → ∀ (caps : Capabilities), TypesUKList (typedAstList s env es caps)
  | [], _, _ => by simp only [typedAstList, TypesUKList]
  | e :: es, hf, caps => by
    simp only [typedAstList, TypesUKList]
    exact ⟨typesUK_typedL e hf.1 caps, typesUKList_typedL es hf.2 caps⟩
theorem typesUKKVs_typedL : ∀ (es : List (String × Expr)), FragLKVs es → ∀ (caps : Capabilities),
    TypesUKKVs (typedAstKVs s env es caps)
  | [], _, _ => by simp only [typedAstKVs, TypesUKKVs]
  | (k, e) :: es, hf, caps => by
    simp only [typedAstKVs, TypesUKKVs]
    exact ⟨typesUK_typedL e hf.1 caps, typesUKKVs_typedL es hf.2 caps⟩
end

end uk

end Cedar.Manifest
