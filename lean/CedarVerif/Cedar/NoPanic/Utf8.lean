import CedarVerif.Cedar.Ext
/-
Byte-level model of a Rust `&str` for the C20 mirrors: a string is its list of chars; a char occupies
`utf8Len c` bytes (`char::len_utf8`); byte offsets are sums of the lengths of the preceding chars; the char
boundaries are exactly those sums. Mirrors of `str::find(char)`, `str::get(n..)` / `&s[n..]`, and of
`contains_at_least_two` (cedar-policy-core/src/extensions/ipaddr.rs) with its `unwrap` kept as an outcome.
Imports only the model file `Ext` (for `utf8Len`).
-/
namespace Cedar
namespace NoPanic
open Cedar.Ext.IPAddr (utf8Len)

/-- byte length of a string -/
def bytes : List Char → Nat
  | [] => 0
  | c :: cs => utf8Len c + bytes cs

/-- `str::find(c: char)`: byte offset of the first occurrence -/
def find (c : Char) : List Char → Option Nat
  | [] => none
  | x :: xs => if x == c then some 0 else (find c xs).map (· + utf8Len x)

/-- `str::get(n..)`: `Some(suffix)` iff `n <= len` and `n` is a char boundary (`&s[n..]` panics exactly when this is `None`) -/
def sliceFrom : List Char → Nat → Option (List Char)
  | s, 0 => some s
  | [], _ + 1 => none
  | x :: xs, n + 1 => if n + 1 < utf8Len x then none else sliceFrom xs (n + 1 - utf8Len x)

inductive BoolOutcome where
  | result (b : Bool)
  | panic (site : String)
deriving Repr, DecidableEq

/-- ```
fn contains_at_least_two(s: &str, c: char) -> bool {
    match s.find(c) {
        Some(i) => { let idx = s.get(i + c.len_utf8()..).unwrap().find(c); idx.is_some() }
        None => false,
    }
}``` -/
def containsAtLeastTwo (s : List Char) (c : Char) : BoolOutcome :=
  match find c s with
  | none => .result false
  | some i =>
    match sliceFrom s (i + utf8Len c) with
    | none => .panic "s.get(i + c.len_utf8()..).unwrap()"
    | some rest => .result (find c rest).isSome

end NoPanic
end Cedar
