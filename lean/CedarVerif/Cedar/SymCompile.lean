import CedarVerif.Cedar.Expr
/-
SymCompile: a first FRAGMENT of cedar-policy-symcc's symbolic compiler and term factory, on a LITERAL environment.
Model file (imports only the model's `Expr`).  Everything lives in `Cedar.SymC`.

Mirrors, function by function (read next to the Rust):
  * symcc/term.rs       `Term` (Prim / None / Some / App), `type_of`, `is_literal`  — restricted to the term
                        types bool, bitvec 64, string, entity, option, set, record; `App` nodes are kept (arity 1/2/3) because the
                        compiler really builds them on literal inputs (`option_get(None)` is an `App`), they are only
                        *folded away* afterwards by `if_some`;
  * symcc/factory.rs    `not opposites and or eq ite  bvneg bvadd bvsub bvmul bvslt bvsle bvnego bvsaddo bvssubo bvsmulo
                        option_get is_none if_false if_some some_of none_of`, every branch of each function
                        (also the non-literal ones);
  * symcc/bitvec.rs     a 64-bit `BitVec` is Lean's `BitVec 64` (the Rust type is a port of it): `of_i128` = `ofInt`,
                        `to_int` = `toInt`, `add/sub/mul/neg` wrap, `overflows(64, i)` = `i < -2^63 || i > 2^63-1`;
  * symcc/compiler.rs   `compile_prim compile_var compile_app1 compile_app2 reducible_eq compile_if compile_and compile_or`
                        and the corresponding arms of `compile` (eager compilation of both operands, `r2`/`r3` inspected
                        only where the Rust code applies `?`).

SECOND FRAGMENT (`SFrag2`): record terms / record term types (`recNil`/`recCons`), `context` (`compile_var`), attribute
access `e.a` and `e has a` on RECORD-typed terms (`compile_attrs_of`, `compile_has_attr`, `compile_get_attr`, factory
`record_get`, `is_some`), the context term of a FLAT context type as `Term::from_value` builds it (`ctxTermOf`: required
attribute ↦ literal, optional present ↦ `some lit`, optional absent ↦ `none ty`).

LATER ADDITION to `SFrag2`: `e like pat` (`compile_like`, factory `string_like`) and `e is T` (`compile_is`), both wrapped
in `if_some(t1, …)` exactly as symcc/compiler.rs AND symccopt/compiler.rs do (an erroring operand gives `none`).

Sets (`SFrag3`, below): set literals, `isEmpty`, `contains`, `containsAll`, `containsAny`, `==` on sets.

Outside this model (`CErr.outside`): slots, unknowns, `has`/`.` on ENTITY-typed terms, record
literals, extension calls, `in`, `hasTag/getTag`, extension-typed terms, non-flat contexts.
-/
namespace Cedar.SymC
open Cedar

abbrev Attr := String

inductive TermType where
  | bool
  | bitvec64
  | string
  | entity (ety : EntityType)
  | option (ty : TermType)
  /-- `TermType::Set { ty }` -/
  | set (ty : TermType)
  /-- `TermType::Record { rty : BTreeMap<Attr, TermType> }` as its sorted listing, inlined as cons cells (a nested
      `List` would lose `deriving DecidableEq`): `recNil` = the empty map, `recCons a ty rest` = entry `a ↦ ty` then `rest` -/
  | recNil
  | recCons (a : Attr) (ty : TermType) (rest : TermType)
deriving DecidableEq, Repr, Inhabited

inductive TermPrim where
  | bool (b : Bool)
  | bitvec (bv : BitVec 64)
  | string (s : String)
  | entity (uid : EntityUID)
deriving DecidableEq, Repr, Inhabited

inductive Op where
  | not | and | or | eq | ite
  | bvneg | bvadd | bvsub | bvmul | bvslt | bvsle | bvnego | bvsaddo | bvssubo | bvsmulo
  | optionGet
  | recordGet (a : Attr)
  | stringLike (p : Pattern)
  | setMember | setSubset | setInter
deriving DecidableEq, Repr, Inhabited

/-- `Term`; `App { op, args, ret_ty }` with 1, 2 or 3 arguments -/
inductive Term where
  | prim (p : TermPrim)
  | none (ty : TermType)
  | some (t : Term)
  /-- `Term::Record(BTreeMap<Attr, Term>)`, sorted listing as cons cells (see `TermType.recCons`) -/
  | recNil
  | recCons (a : Attr) (t : Term) (rest : Term)
  /-- `Term::Set { elts : BTreeSet<Term>, elts_ty }` as cons cells: `setNil ty` = the empty set of element type `ty`
      (`elts_ty` sits at the end of the spine), `setCons t rest` = element `t` then `rest`.  The BTreeSet invariant
      (strictly sorted, hence duplicate-free) is the separate predicate `setWF`; `setOf` inserts with `setInsert`, which
      sorts primitive elements only (`termLt` compares nothing else). -/
  | setNil (ty : TermType)
  | setCons (t : Term) (rest : Term)
  | app1 (op : Op) (a : Term) (retTy : TermType)
  | app2 (op : Op) (a b : Term) (retTy : TermType)
  | app3 (op : Op) (a b c : Term) (retTy : TermType)
deriving DecidableEq, Repr, Inhabited

def TermPrim.typeOf : TermPrim → TermType
  | .bool _ => .bool
  | .bitvec _ => .bitvec64
  | .string _ => .string
  | .entity uid => .entity uid.ty

/-- `Term::type_of` -/
def Term.typeOf : Term → TermType
  | .prim p => p.typeOf
  | .none ty => .option ty
  | .some t => .option t.typeOf
  | .recNil => .recNil
  | .recCons a t rest => .recCons a t.typeOf rest.typeOf
  | .setNil ty => .set ty
  | .setCons _ rest => rest.typeOf
  | .app1 _ _ ty => ty
  | .app2 _ _ _ ty => ty
  | .app3 _ _ _ _ ty => ty

/-- `Term::is_literal` -/
def Term.isLiteral : Term → Bool
  | .prim _ => true
  | .none _ => true
  | .some t => t.isLiteral
  | .recNil => true
  | .recCons _ t rest => t.isLiteral && rest.isLiteral
  | .setNil _ => true
  | .setCons t rest => t.isLiteral && rest.isLiteral
  | _ => false

def TermType.isPrimType : TermType → Bool
  | .bool | .bitvec64 | .string | .entity _ => true
  | _ => false

def TermType.isOptionType : TermType → Bool
  | .option _ => true
  | _ => false

def TermType.isRecordType : TermType → Bool
  | .recNil | .recCons _ _ _ => true
  | _ => false

/-- the term is a `Term::Record` (a well-formed cons spine) -/
def Term.isRecord : Term → Bool
  | .recNil => true
  | .recCons _ _ rest => rest.isRecord
  | _ => false

/-- `BTreeMap::get` on the fields of a `Term::Record` -/
def recFind? : Term → Attr → Option Term
  | .recCons a t rest, b => if a == b then some t else recFind? rest b
  | _, _ => none

/-- `BTreeMap::get` on the fields of a `TermType::Record` -/
def tyFind? : TermType → Attr → Option TermType
  | .recCons a ty rest, b => if a == b then some ty else tyFind? rest b
  | _, _ => none

def TermType.isEntityType : TermType → Bool
  | .entity _ => true
  | _ => false

abbrev tTrue : Term := .prim (.bool true)
abbrev tFalse : Term := .prim (.bool false)

/-! ### factory.rs -/

def someOf (t : Term) : Term := .some t
def noneOf (ty : TermType) : Term := .none ty

/-- `factory::not` -/
def fnot : Term → Term
  | .prim (.bool b) => .prim (.bool (!b))
  | .app1 .not a _ => a
  | t => .app1 .not t .bool

/-- `factory::opposites` -/
def opposites (t1 t2 : Term) : Bool :=
  match t1, t2 with
  | t1, .app1 .not a _ => t1 == a
  | .app1 .not a _, t2 => a == t2
  | _, _ => false

/-- `factory::and` -/
def fand (t1 t2 : Term) : Term :=
  if t1 == t2 || t2 == tTrue then t1
  else if t1 == tTrue then t2
  else if t1 == tFalse || t2 == tFalse || opposites t1 t2 then tFalse
  else .app2 .and t1 t2 .bool

/-- `factory::or` -/
def for' (t1 t2 : Term) : Term :=
  if t1 == t2 || t2 == tFalse then t1
  else if t1 == tFalse then t2
  else if t1 == tTrue || t2 == tTrue || opposites t1 t2 then tTrue
  else .app2 .or t1 t2 .bool

/-- the closure `simplify` of `factory::eq` -/
def eqSimplify (t1 t2 : Term) : Term :=
  if t1 == t2 then tTrue
  else if t1.isLiteral && t2.isLiteral then tFalse
  else if t1 == tTrue && t2.typeOf == .bool then t2
  else if t2 == tTrue && t1.typeOf == .bool then t1
  else if t1 == tFalse && t2.typeOf == .bool then fnot t2
  else if t2 == tFalse && t1.typeOf == .bool then fnot t1
  else .app2 .eq t1 t2 .bool

/-- `factory::eq` -/
def feq (t1 t2 : Term) : Term :=
  match t1, t2 with
  | .some a, .some b => eqSimplify a b
  | .some _, .none _ => tFalse
  | .none _, .some _ => tFalse
  | t1, t2 => eqSimplify t1 t2

/-- the closure `simplify` of `factory::ite` (captures `t1`) -/
def iteSimplify (t1 t2 t3 : Term) : Term :=
  if t1 == tTrue || t2 == t3 then t2
  else if t1 == tFalse then t3
  else match t2, t3 with
    | .prim (.bool true), .prim (.bool false) => t1
    | .prim (.bool false), .prim (.bool true) => fnot t1
    | t2, .prim (.bool false) => fand t1 t2
    | .prim (.bool true), t3 => for' t1 t3
    | t2, t3 => .app3 .ite t1 t2 t3 t2.typeOf

/-- `factory::ite` -/
def fite (t1 t2 t3 : Term) : Term :=
  match t2, t3 with
  | .some a, .some b => .some (iteSimplify t1 a b)
  | t2, t3 => iteSimplify t1 t2 t3

/-- `BitVec::overflows(64, i)` -/
def overflows (i : Int) : Bool := decide (i < -9223372036854775808) || decide (i > 9223372036854775807)

/-- `factory::bvneg` -/
def bvneg : Term → Term
  | .prim (.bitvec b) => .prim (.bitvec (-b))
  | .app1 .bvneg a _ => a
  | t => .app1 .bvneg t t.typeOf

/-- `factory::bvapp` -/
def bvapp (op : Op) (f : BitVec 64 → BitVec 64 → BitVec 64) (t1 t2 : Term) : Term :=
  match t1, t2 with
  | .prim (.bitvec b1), .prim (.bitvec b2) => .prim (.bitvec (f b1 b2))
  | t1, t2 => .app2 op t1 t2 t1.typeOf

def bvadd (t1 t2 : Term) : Term := bvapp .bvadd (· + ·) t1 t2
def bvsub (t1 t2 : Term) : Term := bvapp .bvsub (· - ·) t1 t2
def bvmul (t1 t2 : Term) : Term := bvapp .bvmul (· * ·) t1 t2

/-- `factory::bvcmp` -/
def bvcmp (op : Op) (cmp : BitVec 64 → BitVec 64 → Bool) (t1 t2 : Term) : Term :=
  match t1, t2 with
  | .prim (.bitvec b1), .prim (.bitvec b2) => .prim (.bool (cmp b1 b2))
  | t1, t2 => .app2 op t1 t2 .bool

/-- `BitVec::slt` / `sle`: comparison of `to_int` -/
def bvslt (t1 t2 : Term) : Term := bvcmp .bvslt (fun a b => decide (a.toInt < b.toInt)) t1 t2
def bvsle (t1 t2 : Term) : Term := bvcmp .bvsle (fun a b => decide (a.toInt ≤ b.toInt)) t1 t2

/-- `factory::bvnego` -/
def bvnego : Term → Term
  | .prim (.bitvec b) => .prim (.bool (overflows (-b.toInt)))
  | t => .app1 .bvnego t .bool

/-- `factory::bvso` -/
def bvso (op : Op) (f : Int → Int → Int) (t1 t2 : Term) : Term :=
  match t1, t2 with
  | .prim (.bitvec b1), .prim (.bitvec b2) => .prim (.bool (overflows (f b1.toInt b2.toInt)))
  | t1, t2 => .app2 op t1 t2 .bool

def bvsaddo (t1 t2 : Term) : Term := bvso .bvsaddo (· + ·) t1 t2
def bvssubo (t1 t2 : Term) : Term := bvso .bvssubo (· - ·) t1 t2
def bvsmulo (t1 t2 : Term) : Term := bvso .bvsmulo (· * ·) t1 t2

/-- `factory::option_get` -/
def optionGet (t : Term) : Term :=
  match t with
  | .some a => a
  | t => match t.typeOf with
    | .option ty => .app1 .optionGet t ty
    | _ => t

/-- `factory::record_get` -/
def recordGet (t : Term) (a : Attr) : Term :=
  if t.isRecord then
    match recFind? t a with
    | some ta => ta
    | none => t
  else
    match tyFind? t.typeOf a with
    | some ty => .app1 (.recordGet a) t ty
    | none => t

/-- `factory::string_like` (`OrdPattern::wildcard_match` is the evaluator's `Pattern::wildcard_match`, model `wm`) -/
def stringLike (t : Term) (p : Pattern) : Term :=
  match t with
  | .prim (.string s) => .prim (.bool (wm p s.toList))
  | t => .app1 (.stringLike p) t .bool

/-- the fall-through arm of `factory::is_none` -/
def isNoneDefault (t : Term) : Term :=
  match t.typeOf with
  | .option ty => feq t (.none ty)
  | _ => tFalse

/-- `factory::is_none` -/
def isNone (t : Term) : Term :=
  match t with
  | .none _ => tTrue
  | .some _ => tFalse
  | .app3 .ite g a b _ =>
    match a, b with
    | .some _, .some _ => tFalse
    | .some _, .none _ => fnot g
    | .none _, .some _ => g
    | _, _ => isNoneDefault t
  | t => isNoneDefault t

/-- `factory::is_some` -/
def isSome (t : Term) : Term := fnot (isNone t)

/-- `factory::if_false` -/
def ifFalse (g t : Term) : Term := fite g (noneOf t.typeOf) (someOf t)

/-- `factory::if_some` -/
def ifSome (g t : Term) : Term :=
  match t.typeOf with
  | .option ty => fite (isNone g) (noneOf ty) t
  | _ => ifFalse (isNone g) t

/-! ### set terms (`Term::Set`) and the finite-set part of factory.rs -/

/-- the term is a `Term::Set` (a well-formed cons spine) -/
def Term.isSet : Term → Bool
  | .setNil _ => true
  | .setCons _ rest => rest.isSet
  | _ => false

/-- `elts` (in BTreeSet iteration order) -/
def setElts : Term → List Term
  | .setCons t rest => t :: setElts rest
  | _ => []

/-- `elts_ty` -/
def setEltsTy : Term → TermType
  | .setNil ty => ty
  | .setCons _ rest => setEltsTy rest
  | _ => .bool

def setMk (ty : TermType) : List Term → Term
  | [] => .setNil ty
  | t :: ts => .setCons t (setMk ty ts)

/-- the derived `Ord for Term` restricted to two `Prim`s of the same kind (all a well-typed set literal of primitives
    ever compares): `BitVec` = `(width, BigUint)`, i.e. UNSIGNED order; `bool`; `EntityUID` type then id; `SmolStr` bytewise
    (= code-point order).  Only membership / equality / emptiness of BTreeSets are consumed by the modelled functions, so
    for sets of primitives the order itself is not observable; it fixes the canonical form.  Elements that are not
    primitives (nested sets) compare `false` both ways and stay in input order. -/
def termLt : Term → Term → Bool
  | .prim (.bitvec a), .prim (.bitvec b) => decide (a.toNat < b.toNat)
  | .prim (.bool a), .prim (.bool b) => !a && b
  | .prim (.string a), .prim (.string b) => decide (a < b)
  | .prim (.entity a), .prim (.entity b) => decide (a.ty < b.ty) || (a.ty == b.ty && decide (a.eid < b.eid))
  | _, _ => false

/-- `BTreeSet::insert` on the sorted listing -/
def setInsert (x : Term) : List Term → List Term
  | [] => [x]
  | y :: ys => if x == y then y :: ys else if termLt x y then x :: y :: ys else y :: setInsert x ys

/-- the BTreeSet invariant: strictly sorted listing -/
def sortedLt : List Term → Bool
  | [] => true
  | [_] => true
  | x :: y :: ys => termLt x y && sortedLt (y :: ys)

/-- well-formedness of a set term (kept separate from the type) -/
def setWF (t : Term) : Bool := t.isSet && sortedLt (setElts t)

/-- `factory::set_of` (`collect()` into a BTreeSet) -/
def setOf (ts : List Term) (ty : TermType) : Term := setMk ty (ts.foldl (fun acc t => setInsert t acc) [])

/-- `factory::set_member` -/
def setMember (t ts : Term) : Term :=
  if ts.isSet then
    if (setElts ts).isEmpty then tFalse
    else if t.isLiteral && ts.isLiteral then .prim (.bool ((setElts ts).contains t))
    else .app2 .setMember t ts .bool
  else .app2 .setMember t ts .bool

/-- `factory::set_subset` -/
def setSubset (sub sup : Term) : Term :=
  if sub == sup then tTrue
  else if sub.isSet && (setElts sub).isEmpty then tTrue
  else if sub.isSet && sup.isSet && sub.isLiteral && sup.isLiteral then
    .prim (.bool ((setElts sub).all (fun x => (setElts sup).contains x)))
  else .app2 .setSubset sub sup .bool

/-- `factory::set_inter` -/
def setInter (ts1 ts2 : Term) : Term :=
  if ts1 == ts2 then ts1
  else if ts1.isSet && (setElts ts1).isEmpty then ts1
  else if ts2.isSet && (setElts ts2).isEmpty then ts2
  else if ts1.isSet && ts2.isSet && ts1.isLiteral && ts2.isLiteral then
    setMk (setEltsTy ts1) ((setElts ts1).filter (fun x => (setElts ts2).contains x))
  else .app2 .setInter ts1 ts2 ts1.typeOf

/-- `factory::set_is_empty` -/
def setIsEmpty (t : Term) : Term :=
  if t.isSet then .prim (.bool (setElts t).isEmpty)
  else match t.typeOf with
    | .set ty => feq t (.setNil ty)
    | _ => tFalse

/-- `factory::set_intersects` -/
def setIntersects (ts1 ts2 : Term) : Term := fnot (setIsEmpty (setInter ts1 ts2))

/-- `factory::any_none` = `any_true(is_none, gs)`: a left fold with `or(is_none(g), acc)` -/
def anyNone (gs : List Term) : Term := gs.foldl (fun acc g => for' (isNone g) acc) tFalse

/-- `factory::if_all_some` -/
def ifAllSome (gs : List Term) (t : Term) : Term :=
  match t.typeOf with
  | .option ty => fite (anyNone gs) (noneOf ty) t
  | _ => ifFalse (anyNone gs) t

/-! ### the literal environment -/

/-- what the fragment reads of `SymEnv::from_concrete_env(req, store)`: the three request terms (literal entity uids) and,
    per entity type of the schema, `SymEntityData::members` (`none` = standard type: every eid is valid;
    `some ids` = enum / action type) for `SymEntities::is_valid_entity_uid` -/
structure SymEnvLit where
  principal : EntityUID
  action : EntityUID
  resource : EntityUID
  etys : List (EntityType × Option (List String))
  /-- `SymRequest::context`: on a literal environment the record term `Term::from_value(context, context_type)` -/
  context : Term
deriving Repr, Inhabited

def lookupEty (etys : List (EntityType × Option (List String))) (ty : EntityType) : Option (Option (List String)) :=
  match etys with
  | [] => none
  | (k, v) :: rest => if k == ty then some v else lookupEty rest ty

/-- `SymEntities::is_valid_entity_uid` -/
def SymEnvLit.isValidEntityUID (env : SymEnvLit) (uid : EntityUID) : Bool :=
  match lookupEty env.etys uid.ty with
  | some (some eids) => eids.contains uid.eid
  | some none => true
  | none => false

/-- the literal environment of a concrete request WITHOUT its context (entity-type table given separately: it comes from
    the schema).  The context slot holds a non-record dummy, so `compile_var` rejects `context` on it. -/
def litEnv (req : Request) (etys : List (EntityType × Option (List String))) : SymEnvLit :=
  { principal := req.principal, action := req.action, resource := req.resource, etys := etys, context := .prim (.bool false) }

/-- the literal environment with the context term `ctxT` (what `Term::from_value(req.context, context_type)` builds) -/
def litEnv2 (req : Request) (etys : List (EntityType × Option (List String))) (ctxT : Term) : SymEnvLit :=
  { litEnv req etys with context := ctxT }

/-- the context attribute types the model covers (FLAT contexts: primitive attribute types) -/
inductive CtxAttrTy where
  | bool | long | string | entity (ety : EntityType)
deriving DecidableEq, Repr, Inhabited

def CtxAttrTy.termType : CtxAttrTy → TermType
  | .bool => .bool
  | .long => .bitvec64
  | .string => .string
  | .entity ety => .entity ety

/-- `Term::from_literal` -/
def termOfPrim : Prim → Term
  | .bool b => .prim (.bool b)
  | .int i => .prim (.bitvec (BitVec.ofInt 64 i))
  | .string s => .prim (.string s)
  | .entityUID uid => .prim (.entity uid)

/-- the `Record` arm of `Term::from_value` for a flat context type `attrs` (sorted by attribute name, `required` flag):
    required attribute ↦ its literal, optional present ↦ `some lit`, absent ↦ `none ty`.
    `none` = `SymbolizeError` (a non-primitive value) -/
def ctxTermOf (ctx : List (Attr × Value)) : List (Attr × CtxAttrTy × Bool) → Option Term
  | [] => some .recNil
  | (a, ty, required) :: rest =>
    match ctxTermOf ctx rest with
    | none => none
    | some restT =>
      match lookupKV ctx a with
      | some (.prim p) => some (.recCons a (if required then termOfPrim p else someOf (termOfPrim p)) restT)
      | some _ => none
      | none => some (.recCons a (noneOf ty.termType) restT)

/-! ### compiler.rs -/

inductive CErr where
  | typeError       -- `CompileError::TypeError`
  | noSuchAttr      -- `CompileError::NoSuchAttribute`
  | unsupported     -- `CompileError::UnsupportedFeature` (the empty set literal)
  | outside         -- construct outside this model (NOT a Rust outcome)
deriving DecidableEq, Repr, Inhabited

abbrev CResult := Except CErr Term

/-- `compile_prim` -/
def compilePrim (p : Prim) (env : SymEnvLit) : CResult :=
  match p with
  | .bool b => .ok (someOf (.prim (.bool b)))
  | .int i => .ok (someOf (.prim (.bitvec (BitVec.ofInt 64 i))))
  | .string s => .ok (someOf (.prim (.string s)))
  | .entityUID uid =>
    if env.isValidEntityUID uid then .ok (someOf (.prim (.entity uid))) else .error .typeError

/-- `compile_var` (on a literal environment `req.principal` is the term `Prim(Entity uid)`) -/
def compileVar (v : Var) (env : SymEnvLit) : CResult :=
  match v with
  | .principal =>
    let t : Term := .prim (.entity env.principal)
    if t.typeOf.isEntityType then .ok (someOf t) else .error .typeError
  | .action =>
    let t : Term := .prim (.entity env.action)
    if t.typeOf.isEntityType then .ok (someOf t) else .error .typeError
  | .resource =>
    let t : Term := .prim (.entity env.resource)
    if t.typeOf.isEntityType then .ok (someOf t) else .error .typeError
  | .context =>
    if env.context.typeOf.isRecordType then .ok (someOf env.context) else .error .typeError

/-- `compile_attrs_of` (entity-typed terms need `SymEntities::attrs`: outside this model) -/
def compileAttrsOf (t : Term) : CResult :=
  match t.typeOf with
  | .entity _ => .error .outside
  | .recNil | .recCons _ _ _ => .ok t
  | _ => .error .typeError

/-- `compile_has_attr` -/
def compileHasAttr (t : Term) (a : Attr) : CResult :=
  match compileAttrsOf t with
  | .error e => .error e
  | .ok attrs =>
    if attrs.typeOf.isRecordType then
      match tyFind? attrs.typeOf a with
      | some ty => if ty.isOptionType then .ok (someOf (isSome (recordGet attrs a))) else .ok (someOf tTrue)
      | none => .ok (someOf tFalse)
    else .error .typeError

/-- `compile_get_attr` -/
def compileGetAttr (t : Term) (a : Attr) : CResult :=
  match compileAttrsOf t with
  | .error e => .error e
  | .ok attrs =>
    if attrs.typeOf.isRecordType then
      match tyFind? attrs.typeOf a with
      | some ty => if ty.isOptionType then .ok (recordGet attrs a) else .ok (someOf (recordGet attrs a))
      | none => .error .noSuchAttr
    else .error .typeError

/-- `compile_app1` -/
def compileApp1 (op : UnaryOp) (t : Term) : CResult :=
  match op, t.typeOf with
  | .not, .bool => .ok (someOf (fnot t))
  | .neg, .bitvec64 => .ok (ifFalse (bvnego t) (bvneg t))
  | .isEmpty, .set _ => .ok (someOf (setIsEmpty t))
  | _, _ => .error .typeError

/-- `compile_like` -/
def compileLike (t : Term) (p : Pattern) : CResult :=
  match t.typeOf with
  | .string => .ok (someOf (stringLike t p))
  | _ => .error .typeError

/-- `compile_is` -/
def compileIs (t : Term) (ety1 : EntityType) : CResult :=
  match t.typeOf with
  | .entity ety2 => .ok (someOf (.prim (.bool (ety1 == ety2))))
  | _ => .error .typeError

/-- `reducible_eq` -/
def reducibleEq (ty1 ty2 : TermType) : Except CErr Bool :=
  if ty1 == ty2 then .ok true
  else if ty1.isPrimType && ty2.isPrimType then .ok false
  else .error .typeError

/-- `compile_app2`, arms for `== < <= + - *` and the set operators; the other operators need the hierarchy / tags -/
def compileApp2 (op : BinaryOp) (t1 t2 : Term) : CResult :=
  match op, t1.typeOf, t2.typeOf with
  | .eq, ty1, ty2 =>
    match reducibleEq ty1 ty2 with
    | .error e => .error e
    | .ok true => .ok (someOf (feq t1 t2))
    | .ok false => .ok (someOf tFalse)
  | .less, .bitvec64, .bitvec64 => .ok (someOf (bvslt t1 t2))
  | .lessEq, .bitvec64, .bitvec64 => .ok (someOf (bvsle t1 t2))
  | .add, .bitvec64, .bitvec64 => .ok (ifFalse (bvsaddo t1 t2) (bvadd t1 t2))
  | .sub, .bitvec64, .bitvec64 => .ok (ifFalse (bvssubo t1 t2) (bvsub t1 t2))
  | .mul, .bitvec64, .bitvec64 => .ok (ifFalse (bvsmulo t1 t2) (bvmul t1 t2))
  | .contains, .set ty1, ty2 =>
    if ty1 == ty2 then .ok (someOf (setMember t2 t1)) else .error .typeError
  | .containsAll, .set ty1, .set ty2 =>
    if ty1 == ty2 then .ok (someOf (setSubset t2 t1)) else .error .typeError
  | .containsAny, .set ty1, .set ty2 =>
    if ty1 == ty2 then .ok (someOf (setIntersects t1 t2)) else .error .typeError
  | .less, _, _ | .lessEq, _, _ | .add, _, _ | .sub, _, _ | .mul, _, _ => .error .typeError
  | .contains, _, _ | .containsAll, _, _ | .containsAny, _, _ => .error .typeError
  | _, _, _ => .error .outside

/-- `compile_if` -/
def compileIf (t1 : Term) (r2 r3 : CResult) : CResult :=
  match t1 with
  | .some (.prim (.bool true)) => r2
  | .some (.prim (.bool false)) => r3
  | _ =>
    match t1.typeOf with
    | .option .bool =>
      match r2 with
      | .error e => .error e
      | .ok t2 =>
        match r3 with
        | .error e => .error e
        | .ok t3 =>
          if t2.typeOf == t3.typeOf then .ok (ifSome t1 (fite (optionGet t1) t2 t3))
          else .error .typeError
    | _ => .error .typeError

/-- `compile_and` -/
def compileAnd (t1 : Term) (r2 : CResult) : CResult :=
  match t1 with
  | .some (.prim (.bool false)) => .ok t1
  | _ =>
    match t1.typeOf with
    | .option .bool =>
      match r2 with
      | .error e => .error e
      | .ok t2 =>
        if t2.typeOf == .option .bool then .ok (ifSome t1 (fite (optionGet t1) t2 (someOf tFalse)))
        else .error .typeError
    | _ => .error .typeError

/-- `compile_or` -/
def compileOr (t1 : Term) (r2 : CResult) : CResult :=
  match t1 with
  | .some (.prim (.bool true)) => .ok t1
  | _ =>
    match t1.typeOf with
    | .option .bool =>
      match r2 with
      | .error e => .error e
      | .ok t2 =>
        if t2.typeOf == .option .bool then .ok (ifSome t1 (fite (optionGet t1) (someOf tTrue) t2))
        else .error .typeError
    | _ => .error .typeError

/-- `compile_set` -/
def compileSet (ts : List Term) : CResult :=
  match ts with
  | [] => .error .unsupported
  | t0 :: _ =>
    match t0.typeOf with
    | .option ity =>
      if ts.all (fun it => it.typeOf == .option ity) then .ok (ifAllSome ts (someOf (setOf (ts.map optionGet) ity)))
      else .error .typeError
    | _ => .error .typeError

mutual
/-- `compile` (both operands are compiled eagerly, as in Rust; an operand's error matters only where Rust applies `?`) -/
def compile (env : SymEnvLit) : Expr → CResult
  | .lit p => compilePrim p env
  | .var v => compileVar v env
  | .ite x1 x2 x3 =>
    match compile env x1 with
    | .error e => .error e
    | .ok t1 => compileIf t1 (compile env x2) (compile env x3)
  | .and x1 x2 =>
    match compile env x1 with
    | .error e => .error e
    | .ok t1 => compileAnd t1 (compile env x2)
  | .or x1 x2 =>
    match compile env x1 with
    | .error e => .error e
    | .ok t1 => compileOr t1 (compile env x2)
  | .unaryApp op a =>
    match compile env a with
    | .error e => .error e
    | .ok t1 =>
      match compileApp1 op (optionGet t1) with
      | .error e => .error e
      | .ok r => .ok (ifSome t1 r)
  | .binaryApp op a b =>
    match compile env a with
    | .error e => .error e
    | .ok t1 =>
      match compile env b with
      | .error e => .error e
      | .ok t2 =>
        match compileApp2 op (optionGet t1) (optionGet t2) with
        | .error e => .error e
        | .ok r => .ok (ifSome t1 (ifSome t2 r))
  | .hasAttr a attr =>
    match compile env a with
    | .error e => .error e
    | .ok t1 =>
      match compileHasAttr (optionGet t1) attr with
      | .error e => .error e
      | .ok r => .ok (ifSome t1 r)
  | .getAttr a attr =>
    match compile env a with
    | .error e => .error e
    | .ok t1 =>
      match compileGetAttr (optionGet t1) attr with
      | .error e => .error e
      | .ok r => .ok (ifSome t1 r)
  | .like a p =>
    match compile env a with
    | .error e => .error e
    | .ok t1 =>
      match compileLike (optionGet t1) p with
      | .error e => .error e
      | .ok r => .ok (ifSome t1 r)
  | .is a ety =>
    match compile env a with
    | .error e => .error e
    | .ok t1 =>
      match compileIs (optionGet t1) ety with
      | .error e => .error e
      | .ok r => .ok (ifSome t1 r)
  | .set xs =>
    match compileList env xs with
    | .error e => .error e
    | .ok ts => compileSet ts
  | _ => .error .outside
/-- `xs.iter().map(|x| compile(x, env)).collect::<Result<Vec<_>>>()`: the first error wins -/
def compileList (env : SymEnvLit) : List Expr → Except CErr (List Term)
  | [] => .ok []
  | x :: xs =>
    match compile env x with
    | .error e => .error e
    | .ok t =>
      match compileList env xs with
      | .error e => .error e
      | .ok ts => .ok (t :: ts)
end

/-! ### the declared fragment and the reading of a folded term -/

/-- expressions of the fragment: bool / long (in range, as the parser guarantees) / string / entity literals,
    `principal action resource`, `! - && || if == < <= + - *` -/
inductive SFrag : Expr → Prop where
  | litBool (b : Bool) : SFrag (.lit (.bool b))
  | litInt (i : Int) (h : inI64 i = true) : SFrag (.lit (.int i))
  | litString (s : String) : SFrag (.lit (.string s))
  | litEntity (uid : EntityUID) : SFrag (.lit (.entityUID uid))
  | principal : SFrag (.var .principal)
  | action : SFrag (.var .action)
  | resource : SFrag (.var .resource)
  | ite {c t e : Expr} : SFrag c → SFrag t → SFrag e → SFrag (.ite c t e)
  | and {a b : Expr} : SFrag a → SFrag b → SFrag (.and a b)
  | or {a b : Expr} : SFrag a → SFrag b → SFrag (.or a b)
  | not {a : Expr} : SFrag a → SFrag (.unaryApp .not a)
  | neg {a : Expr} : SFrag a → SFrag (.unaryApp .neg a)
  | eq {a b : Expr} : SFrag a → SFrag b → SFrag (.binaryApp .eq a b)
  | less {a b : Expr} : SFrag a → SFrag b → SFrag (.binaryApp .less a b)
  | lessEq {a b : Expr} : SFrag a → SFrag b → SFrag (.binaryApp .lessEq a b)
  | add {a b : Expr} : SFrag a → SFrag b → SFrag (.binaryApp .add a b)
  | sub {a b : Expr} : SFrag a → SFrag b → SFrag (.binaryApp .sub a b)
  | mul {a b : Expr} : SFrag a → SFrag b → SFrag (.binaryApp .mul a b)

/-- the second fragment: `SFrag` + `context`, `e.a`, `e has a` (on record-typed terms; FLAT contexts), `e like pat`, `e is T` -/
inductive SFrag2 : Expr → Prop where
  | litBool (b : Bool) : SFrag2 (.lit (.bool b))
  | litInt (i : Int) (h : inI64 i = true) : SFrag2 (.lit (.int i))
  | litString (s : String) : SFrag2 (.lit (.string s))
  | litEntity (uid : EntityUID) : SFrag2 (.lit (.entityUID uid))
  | principal : SFrag2 (.var .principal)
  | action : SFrag2 (.var .action)
  | resource : SFrag2 (.var .resource)
  | context : SFrag2 (.var .context)
  | ite {c t e : Expr} : SFrag2 c → SFrag2 t → SFrag2 e → SFrag2 (.ite c t e)
  | and {a b : Expr} : SFrag2 a → SFrag2 b → SFrag2 (.and a b)
  | or {a b : Expr} : SFrag2 a → SFrag2 b → SFrag2 (.or a b)
  | not {a : Expr} : SFrag2 a → SFrag2 (.unaryApp .not a)
  | neg {a : Expr} : SFrag2 a → SFrag2 (.unaryApp .neg a)
  | eq {a b : Expr} : SFrag2 a → SFrag2 b → SFrag2 (.binaryApp .eq a b)
  | less {a b : Expr} : SFrag2 a → SFrag2 b → SFrag2 (.binaryApp .less a b)
  | lessEq {a b : Expr} : SFrag2 a → SFrag2 b → SFrag2 (.binaryApp .lessEq a b)
  | add {a b : Expr} : SFrag2 a → SFrag2 b → SFrag2 (.binaryApp .add a b)
  | sub {a b : Expr} : SFrag2 a → SFrag2 b → SFrag2 (.binaryApp .sub a b)
  | mul {a b : Expr} : SFrag2 a → SFrag2 b → SFrag2 (.binaryApp .mul a b)
  | getAttr {a : Expr} (attr : Attr) : SFrag2 a → SFrag2 (.getAttr a attr)
  | hasAttr {a : Expr} (attr : Attr) : SFrag2 a → SFrag2 (.hasAttr a attr)
  /-- FOURTH addition: `e like pat` (string-typed operand) and `e is T` (entity-typed operand) -/
  | like {a : Expr} (p : Pattern) : SFrag2 a → SFrag2 (.like a p)
  | is {a : Expr} (ety : EntityType) : SFrag2 a → SFrag2 (.is a ety)

/-- decidable version of `SFrag2` (the driver tests `inFrag` and `inFrag3`) -/
def inFrag2 : Expr → Bool
  | .lit (.int i) => inI64 i
  | .lit _ => true
  | .var _ => true
  | .ite c t e => inFrag2 c && inFrag2 t && inFrag2 e
  | .and a b => inFrag2 a && inFrag2 b
  | .or a b => inFrag2 a && inFrag2 b
  | .unaryApp .not a => inFrag2 a
  | .unaryApp .neg a => inFrag2 a
  | .binaryApp op a b =>
    (match op with | .eq | .less | .lessEq | .add | .sub | .mul => true | _ => false) && inFrag2 a && inFrag2 b
  | .getAttr a _ => inFrag2 a
  | .hasAttr a _ => inFrag2 a
  | .like a _ => inFrag2 a
  | .is a _ => inFrag2 a
  | _ => false

/-- THIRD fragment: `SFrag2` + set literals `[e, …]`, `contains containsAll containsAny isEmpty` (and `==` on sets) -/
inductive SFrag3 : Expr → Prop where
  | litBool (b : Bool) : SFrag3 (.lit (.bool b))
  | litInt (i : Int) (h : inI64 i = true) : SFrag3 (.lit (.int i))
  | litString (s : String) : SFrag3 (.lit (.string s))
  | litEntity (uid : EntityUID) : SFrag3 (.lit (.entityUID uid))
  | principal : SFrag3 (.var .principal)
  | action : SFrag3 (.var .action)
  | resource : SFrag3 (.var .resource)
  | context : SFrag3 (.var .context)
  | ite {c t e : Expr} : SFrag3 c → SFrag3 t → SFrag3 e → SFrag3 (.ite c t e)
  | and {a b : Expr} : SFrag3 a → SFrag3 b → SFrag3 (.and a b)
  | or {a b : Expr} : SFrag3 a → SFrag3 b → SFrag3 (.or a b)
  | not {a : Expr} : SFrag3 a → SFrag3 (.unaryApp .not a)
  | neg {a : Expr} : SFrag3 a → SFrag3 (.unaryApp .neg a)
  | isEmpty {a : Expr} : SFrag3 a → SFrag3 (.unaryApp .isEmpty a)
  | eq {a b : Expr} : SFrag3 a → SFrag3 b → SFrag3 (.binaryApp .eq a b)
  | less {a b : Expr} : SFrag3 a → SFrag3 b → SFrag3 (.binaryApp .less a b)
  | lessEq {a b : Expr} : SFrag3 a → SFrag3 b → SFrag3 (.binaryApp .lessEq a b)
  | add {a b : Expr} : SFrag3 a → SFrag3 b → SFrag3 (.binaryApp .add a b)
  | sub {a b : Expr} : SFrag3 a → SFrag3 b → SFrag3 (.binaryApp .sub a b)
  | mul {a b : Expr} : SFrag3 a → SFrag3 b → SFrag3 (.binaryApp .mul a b)
  | contains {a b : Expr} : SFrag3 a → SFrag3 b → SFrag3 (.binaryApp .contains a b)
  | containsAll {a b : Expr} : SFrag3 a → SFrag3 b → SFrag3 (.binaryApp .containsAll a b)
  | containsAny {a b : Expr} : SFrag3 a → SFrag3 b → SFrag3 (.binaryApp .containsAny a b)
  | getAttr {a : Expr} (attr : Attr) : SFrag3 a → SFrag3 (.getAttr a attr)
  | hasAttr {a : Expr} (attr : Attr) : SFrag3 a → SFrag3 (.hasAttr a attr)
  | like {a : Expr} (p : Pattern) : SFrag3 a → SFrag3 (.like a p)
  | is {a : Expr} (ety : EntityType) : SFrag3 a → SFrag3 (.is a ety)
  | set {xs : List Expr} : (∀ x, x ∈ xs → SFrag3 x) → SFrag3 (.set xs)

mutual
/-- decidable version of `SFrag3`, for the driver -/
def inFrag3 : Expr → Bool
  | .lit (.int i) => inI64 i
  | .lit _ => true
  | .var _ => true
  | .ite c t e => inFrag3 c && inFrag3 t && inFrag3 e
  | .and a b => inFrag3 a && inFrag3 b
  | .or a b => inFrag3 a && inFrag3 b
  | .unaryApp .not a => inFrag3 a
  | .unaryApp .neg a => inFrag3 a
  | .unaryApp .isEmpty a => inFrag3 a
  | .binaryApp op a b =>
    (match op with
     | .eq | .less | .lessEq | .add | .sub | .mul | .contains | .containsAll | .containsAny => true
     | _ => false) && inFrag3 a && inFrag3 b
  | .getAttr a _ => inFrag3 a
  | .hasAttr a _ => inFrag3 a
  | .like a _ => inFrag3 a
  | .is a _ => inFrag3 a
  | .set xs => inFrag3List xs
  | _ => false
def inFrag3List : List Expr → Bool
  | [] => true
  | x :: xs => inFrag3 x && inFrag3List xs
end

/-- decidable version, for the driver -/
def inFrag : Expr → Bool
  | .lit (.int i) => inI64 i
  | .lit _ => true
  | .var .context => false
  | .var _ => true
  | .ite c t e => inFrag c && inFrag t && inFrag e
  | .and a b => inFrag a && inFrag b
  | .or a b => inFrag a && inFrag b
  | .unaryApp .not a => inFrag a
  | .unaryApp .neg a => inFrag a
  | .binaryApp op a b =>
    (match op with | .eq | .less | .lessEq | .add | .sub | .mul => true | _ => false) && inFrag a && inFrag b
  | _ => false

/-- the literal term of a primitive value -/
def litPrim : Prim → TermPrim
  | .bool b => .bool b
  | .int i => .bitvec (BitVec.ofInt 64 i)
  | .string s => .string s
  | .entityUID uid => .entity uid

/-- a folded condition read as the option-boolean constant of the skeleton (`Cedar.SymCC.CPolicy.term`) -/
def optBoolOf : Term → Option (Option Bool)
  | .some (.prim (.bool b)) => some (some b)
  | .none _ => some none
  | _ => none

end Cedar.SymC
