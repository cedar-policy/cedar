import CedarVerif.Lemmas.TpeValidTotal
import CedarVerif.Thm.C03
/-
C14 — type-aware partial evaluation and permission queries are sound.  Property theorems only
(helpers: Lemmas/Tpe*.lean).  Model: Cedar/Tpe.lean (`Residual`, `interpret`, `Tpe.Response`, views, `reauthorize`, queries).

  * The `…_valid` theorems carry VALIDATION-LEVEL hypotheses only (Lemmas/TpeValid*.lean derive `TypedSafe`, `TypedAgrees` and
    `CondsBool` from C03's strict soundness): `SchemaWF2 s`; `ValidTyped s env tps` (every policy is static, inside the strict
    fragment, accepted by `checkPolicy .strict` in every environment — C03's `strict_validation_sound_static` premises — and its
    typed condition is `(Level.annotate .strict s env cond []).erase`: `annotate` is C16's mirror of the AST `typecheck` hands
    back, incl. its short-circuit simplifications; `typed.into_expr()` in harness/src/c14.rs); `env` is the unlinked request
    environment of the partial request; the completion is `Conformant` (C11 `ConformsRequest`, `StoreConforms`; C03
    `ActionsPresent`) and `Completes` the partial inputs.
  * NOT proved: the passage `Residual → Expr` of the real `reauthorize` (a `Concrete` residual is re-parsed as
    `Value → Expr`) — covered by the differential run (tpe-re lines).
  * `IsTypedFor` / `typedPolicy` ("the typed condition is the erasure of `annotate .strict s env cond []`") is a statement
    about the Rust typechecker's output and cannot be proved here; it is CHECKED on every `./check C14` (and C16) by the
    `typedast` correspondence stream `c14typed` (harness/src/c14_typed.rs; driver op Driver/Ops/TypedAst.lean): for generated
    (schema, strictly valid / near-valid policy, request environment) triples
      - `(typedast shape …)`: `(annotate …).erase` against `typecheck_by_single_request_env(…).into_expr()`, with the verdict
        (`PolicyCheck::Success` / `Irrelevant` / `Fail` = success / irrelevant / `(err)`);
      - `(typedast types …)`: the `Type` annotation of EVERY node (`expr.data()`) against `typeOf` under the capabilities in
        force at that node; the decorated tree the op prints is checked at run time to be literally `annotate`'s `TExpr`
        (incl. the `TKind`s the level checker reads), else the op answers `(model-mismatch)`.
    Shapes outside the model (the op answers `(outside-model)`, never diffed): `unknown` expressions; entity literals whose
    type / action id the schema does not declare; `AnyEntity`-typed operands of `.`/`has`/tags (partial-schema validation
    only); templates (slots) are not sent by the stream (the theorems are about static policies).
-/
namespace Cedar.C14
open Cedar Cedar.Tpe Cedar.Tpe.Valid

/-- **tpe_table_sound** (full, combinatorial; the table of `tpe::Response::new` is `Cedar.Table.decide`, the same five
rows as C13's).  For an arbitrary response (any list of residual policies) and every concrete request / store on which
each policy of a definite bucket has the outcome its bucket names (residual buckets: arbitrary), a definite TPE
decision is the decision of the concrete authorizer over the original policies; and it is the decision of every
abstract completion `out` of the residual policies to final outcomes. -/
theorem tpe_table_sound (r : Tpe.Response) :
    (∀ (out : ResidualPolicy → Outcome), (∀ rp, rp ∈ r.residuals → rp.residual.cls.Consistent (out rp)) →
        ∀ d, r.decision = some d → decisionOf r.residuals out = d) ∧
    (r.WF → ∀ (req : Request) (es : Entities),
        (∀ rp, rp ∈ r.residuals → rp.residual.cls.Consistent (rp.original.outcome req es)) →
        ∀ d, r.decision = some d → (Cedar.isAuthorized req es (r.residuals.map (·.original))).decision = d) := by
  refine ⟨fun out hc => table_sound_core r out hc, ?_⟩
  intro hwf req es hc d hd
  have h := concrete_decision_eq r hwf req es
  unfold Tpe.Response.policySet at h
  rw [h]
  exact table_sound_core r _ hc d hd

/-- non-vacuity of `tpe_table_sound`: a true permit, a residual permit, an erroring forbid: decision `allow` -/
example :
    let mk (id : String) (eff : Effect) (res : Residual) : ResidualPolicy := ⟨id, eff, res, ⟨id, eff, .lit (.bool true), []⟩⟩
    let r : Tpe.Response := ⟨[mk "p1" .permit (.concrete (.prim (.bool true)) ""), mk "p2" .permit (.part (.var .context) ""),
                          mk "p3" .forbid (.error "")], ⟨⟨"U", none⟩, ⟨"A", "a"⟩, ⟨"R", some "r"⟩, none⟩, []⟩
    r.decision = some .allow ∧ r.WF := by
  refine ⟨by decide, ?_⟩
  intro rp hrp
  simp only [List.mem_cons, List.not_mem_nil, or_false] at hrp
  rcases hrp with rfl | rfl | rfl <;> exact ⟨rfl, rfl⟩

/-- **Full statement of the views clause** ("all views of a response — the residual policies, their collection as a
policy set, lookup by id and reauthorization — present those same residuals").  On the model of the code
as it is this is FALSE for the `policy_set()` view (and hence for what `reauthorize` evaluates), see
`policy_set_presents_originals` and the known finding C14-policy-set-view-original. -/
def ViewsAgreeFull (r : Tpe.Response) : Prop :=
  (∀ p, p ∈ r.policiesView ↔ ∃ rp, rp ∈ r.residuals ∧ p = rp.toPolicy) ∧
  (∀ rp, rp ∈ r.residuals → r.getPolicyView rp.id = some rp.toPolicy) ∧
  (∀ p, p ∈ r.residualPoliciesView ↔ ∃ rp, rp ∈ r.residuals ∧ rp.residual.cls = .res ∧ p = rp.toPolicy) ∧
  (∀ p, p ∈ r.policySet ↔ ∃ rp, rp ∈ r.residuals ∧ p = rp.toPolicy) ∧
  (∀ req es, r.reauthorize req es = r.reauthorizeSpec req es)

/-- **views_agree** (full for the views that are projections of the one map): `policies()`, `get_policy(id)` (ids
unique), `residual_policies()` and every bucket present exactly the residual policies `rp.toPolicy` — whose condition
is the residual (`residualCondition rp.residual.toExpr`), not the original condition — of the one map `residuals`;
nothing is dropped, nothing invented. -/
theorem views_agree (r : Tpe.Response) (hu : r.UniqueIds) :
    (∀ p, p ∈ r.policiesView ↔ ∃ rp, rp ∈ r.residuals ∧ p = rp.toPolicy) ∧
    (∀ rp, rp ∈ r.residuals → r.getPolicyView rp.id = some rp.toPolicy) ∧
    (∀ id p, r.getPolicyView id = some p → ∃ rp, rp ∈ r.residuals ∧ rp.id = id ∧ p = rp.toPolicy) ∧
    (∀ p, p ∈ r.residualPoliciesView ↔ ∃ rp, rp ∈ r.residuals ∧ rp.residual.cls = .res ∧ p = rp.toPolicy) ∧
    (∀ eff c rp, rp ∈ r.bucket eff c ↔ rp ∈ r.residuals ∧ rp.effect = eff ∧ rp.residual.cls = c) ∧
    (∀ rp, rp ∈ r.residuals → rp.toPolicy.condition = residualCondition rp.residual.toExpr ∧ rp.toPolicy.id = rp.id ∧
        rp.toPolicy.effect = rp.effect) := by
  refine ⟨?_, ?_, ?_, ?_, ?_, ?_⟩
  · intro p
    simp only [Tpe.Response.policiesView, Tpe.Response.policies, List.mem_map]
    constructor
    · rintro ⟨rp, h, rfl⟩; exact ⟨rp, h, rfl⟩
    · rintro ⟨rp, h, rfl⟩; exact ⟨rp, h, rfl⟩
  · intro rp h
    simp only [Tpe.Response.getPolicyView, Tpe.Response.getPolicy, find?_of_nodup hu h, Option.map_some]
  · intro id p h
    simp only [Tpe.Response.getPolicyView, Tpe.Response.getPolicy] at h
    cases hf : r.residuals.find? (fun x => x.id == id) with
    | none => simp [hf] at h
    | some rp =>
      simp only [hf, Option.map_some, Option.some.injEq] at h
      have h1 := List.find?_some hf
      have h2 := List.mem_of_find?_eq_some hf
      exact ⟨rp, h2, by simpa using h1, h.symm⟩
  · intro p
    simp only [Tpe.Response.residualPoliciesView, Tpe.Response.residualPolicies, List.mem_map, List.mem_append, mem_bucket]
    constructor
    · rintro ⟨rp, (⟨h, _, hc⟩ | ⟨h, _, hc⟩), rfl⟩ <;> exact ⟨rp, h, hc, rfl⟩
    · rintro ⟨rp, h, hc, rfl⟩
      cases he : rp.effect
      · exact ⟨rp, Or.inl ⟨h, he, hc⟩, rfl⟩
      · exact ⟨rp, Or.inr ⟨h, he, hc⟩, rfl⟩
  · intro eff c rp; exact mem_bucket
  · intro rp _; exact ⟨rfl, rfl, rfl⟩

/-- the `policy_set()` view of the code as it is presents the ORIGINAL policies (and `reauthorize` evaluates them):
the part of `ViewsAgreeFull` that does not hold.  (`reauthorize` then trivially equals the concrete authorizer over the
originals; nothing is proved about `reauthorizeSpec`, which would need the passage `Residual.toExpr`.) -/
theorem policy_set_presents_originals (r : Tpe.Response) :
    r.policySet = r.residuals.map (·.original) ∧
    (∀ req es resp, r.reauthorize req es = some resp → resp = Cedar.isAuthorized req es (r.residuals.map (·.original))) := by
  refine ⟨rfl, ?_⟩
  intro req es resp h
  unfold Tpe.Response.reauthorize at h
  split at h
  · simpa [Tpe.Response.policySet] using h.symm
  · cases h

/-- the views clause fails on the model of the code: a response whose `policy_set()` differs from its residuals
    (the minimal input of the known finding: `principal == User::"a"` in the scope, resource id unknown) -/
theorem views_agree_full_fails : ∃ r : Tpe.Response, r.UniqueIds ∧ r.WF ∧ ¬ ViewsAgreeFull r := by
  let orig : Policy := ⟨"p0", .permit, .binaryApp .eq (.getAttr (.var .resource) "owner") (.var .principal), []⟩
  let res : Residual := .part (.binaryApp .eq (.part (.getAttr (.part (.var .resource) "") "owner") "")
    (.concrete (.prim (.entityUID ⟨"User", "a"⟩)) "")) ""
  let r : Tpe.Response := ⟨[⟨"p0", .permit, res, orig⟩], ⟨⟨"User", some "a"⟩, ⟨"Action", "view"⟩, ⟨"Doc", none⟩, some []⟩, []⟩
  refine ⟨r, by simp [Tpe.Response.UniqueIds, r], ?_, ?_⟩
  · intro rp hrp
    simp only [r, List.mem_singleton] at hrp
    subst hrp; exact ⟨rfl, rfl⟩
  · intro h
    have h4 := (h.2.2.2.1 orig).mp (by simp [Tpe.Response.policySet, r])
    obtain ⟨rp, hrp, heq⟩ := h4
    simp only [r, List.mem_singleton] at hrp
    subst hrp
    have : orig.condition = (ResidualPolicy.toPolicy ⟨"p0", .permit, res, orig⟩).condition := by rw [← heq]
    simp [orig, ResidualPolicy.toPolicy, residualCondition] at this

/-- **query_exact** (given TPE soundness of the definite decision for the candidate completions, `hsound` — which is
`tpe_table_sound` + `interpret` soundness): `query_resource` returns exactly the candidate entities (the entities of
the store of the queried type) for which the concrete request is allowed by the input policies; likewise
`query_principal`.  The undecided arm is exact outright (it re-authorizes every candidate over `policy_set()`). -/
theorem query_exact (tps : List TPolicy) (ctx : List (String × Value)) (es : Entities) :
    (∀ (principal action : EntityUID) (rty : EntityType) (us : List EntityUID),
      queryResource tps principal action rty ctx es = some us →
      (∀ resp, Tpe.isAuthorized ⟨⟨principal.ty, some principal.eid⟩, action, ⟨rty, none⟩, some ctx⟩ (Tpe.PEntities.ofConcrete es) tps = some resp →
        ∀ d, resp.decision = some d → ∀ u, u ∈ candidates es rty →
          (Cedar.isAuthorized ⟨principal, action, u, ctx⟩ es (tps.map (·.policy))).decision = d) →
      ∀ u, u ∈ us ↔ u ∈ candidates es rty ∧
        (Cedar.isAuthorized ⟨principal, action, u, ctx⟩ es (tps.map (·.policy))).decision = .allow) ∧
    (∀ (pty : EntityType) (action resource : EntityUID) (us : List EntityUID),
      queryPrincipal tps pty action resource ctx es = some us →
      (∀ resp, Tpe.isAuthorized ⟨⟨pty, none⟩, action, ⟨resource.ty, some resource.eid⟩, some ctx⟩ (Tpe.PEntities.ofConcrete es) tps = some resp →
        ∀ d, resp.decision = some d → ∀ u, u ∈ candidates es pty →
          (Cedar.isAuthorized ⟨u, action, resource, ctx⟩ es (tps.map (·.policy))).decision = d) →
      ∀ u, u ∈ us ↔ u ∈ candidates es pty ∧
        (Cedar.isAuthorized ⟨u, action, resource, ctx⟩ es (tps.map (·.policy))).decision = .allow) := by
  constructor
  · intro principal action rty us h hsound
    obtain ⟨resp, hr, rfl⟩ := queryResource_some h
    exact mem_queryArms (hsound resp hr)
  · intro pty action resource us h hsound
    obtain ⟨resp, hr, rfl⟩ := queryPrincipal_some h
    exact mem_queryArms (hsound resp hr)

/-- **query_action_sound** (given TPE soundness of the definite decision, `hsound`): for an action `a` of the list with
TPE response `resp`, and a concrete completion whose decision is `dc`: if the completion is allowed, `a` is returned
(never omitted); if `a` is labelled definitely allowed, the completion is allowed; and everything returned stems from
an action whose TPE decision is not `Deny`, labelled with exactly that decision. -/
theorem query_action_sound (acts : List (EntityUID × List TPolicy)) (p r : PUid) (ctx : Option (List (String × Value)))
    (pes : Tpe.PEntities) :
    (∀ a tps resp, (a, tps) ∈ acts → Tpe.isAuthorized ⟨p, a, r, ctx⟩ pes tps = some resp →
      ∀ dc : Decision, (∀ d, resp.decision = some d → dc = d) →
        (dc = .allow → (a, resp.decision) ∈ queryAction acts p r ctx pes) ∧ (resp.decision = some .allow → dc = .allow)) ∧
    (∀ x, x ∈ queryAction acts p r ctx pes → ∃ tps resp, (x.1, tps) ∈ acts ∧
      Tpe.isAuthorized ⟨p, x.1, r, ctx⟩ pes tps = some resp ∧ x.2 = resp.decision ∧ x.2 ≠ some .deny) := by
  constructor
  · intro a tps resp ha hr dc hsound
    refine ⟨?_, fun h => hsound _ h⟩
    intro hdc
    unfold queryAction
    apply List.mem_filterMap.mpr
    refine ⟨(a, tps), ha, ?_⟩
    simp only [hr]
    have hne : (resp.decision == some Decision.deny) = false := by
      cases hd : resp.decision with
      | none => rfl
      | some d => have := hsound d hd; subst this; subst hdc; rfl
    simp [hne]
  · intro x hx
    unfold queryAction at hx
    obtain ⟨⟨a, tps⟩, hm, hf⟩ := List.mem_filterMap.mp hx
    simp only at hf
    cases hr : Tpe.isAuthorized ⟨p, a, r, ctx⟩ pes tps with
    | none => simp [hr] at hf
    | some resp =>
      simp only [hr] at hf
      split at hf
      · cases hf
      · rename_i hne
        simp only [Option.some.injEq] at hf; subst hf
        exact ⟨tps, resp, hm, hr, rfl, by simpa using hne⟩

/-- a trap: this statement of `interpret` soundness is vacuously true.  Its premise `∀ r, OpBool … r` quantifies over
ALL residuals and is unsatisfiable (`opBool_all_unsatisfiable`: a `Concrete` long is not a boolean).
`InterpretSoundFull` below asks `TypeSafe` of the one residual interpreted instead. -/
def InterpretSoundFull_v1 : Prop :=
  ∀ (preq : Tpe.PRequest) (pes : Tpe.PEntities) (req : Request) (es : Entities), Completes preq pes req es →
    (∀ r, ErrFreeSound preq pes req es r) → (∀ r, OpBool preq pes req es r) →
    ∀ r : Residual, Agree ((interpret preq pes r).eval req es) (r.eval req es)

theorem opBool_all_unsatisfiable (preq : Tpe.PRequest) (pes : Tpe.PEntities) (req : Request) (es : Entities) :
    ¬ ∀ r, OpBool preq pes req es r := by
  intro h
  obtain ⟨b, hb⟩ := h (.concrete (.prim (.int 0)) "") (.prim (.int 0)) (by simp [interpret, Residual.eval])
  cases hb

/-- **Full statement of `interpret` soundness** (DESIGN.md §6 C14).  For every completion consistent with the partial
inputs, EVERY residual evaluates like its interpretation (equal values, or both errors) — hence a residual policy is
satisfied / unsatisfied / erroring exactly when its original is — for all arms, given that the residual is type-safe on
the completion (`TypeSafe`: no node raises a type error; consequence of validation). -/
def InterpretSoundFull : Prop :=
  ∀ (preq : Tpe.PRequest) (pes : Tpe.PEntities) (req : Request) (es : Entities), Completes preq pes req es →
    ∀ r : Residual, TypeSafe req es r → Agree ((interpret preq pes r).eval req es) (r.eval req es)

/-- **interpret_sound**: the full statement (Lemmas/TpeTypeSafe.lean, by induction on the type-safety derivation,
simultaneously with `interpret_keeps_typeSafe`). -/
theorem interpret_sound : InterpretSoundFull :=
  fun _ _ _ _ hC _ hts => (interpret_typeSafe hC hts).1

/-- `interpret_sound` in the three forms the property uses: equal results; same boolean; erroring together -/
theorem interpret_sound_outcomes (preq : Tpe.PRequest) (pes : Tpe.PEntities) (req : Request) (es : Entities)
    (hC : Completes preq pes req es) {r : Residual} (hts : TypeSafe req es r) :
    Agree ((interpret preq pes r).eval req es) (r.eval req es) ∧
    (∀ b, (interpret preq pes r).eval req es = .ok (.prim (.bool b)) ↔ r.eval req es = .ok (.prim (.bool b))) ∧
    ((∃ e, (interpret preq pes r).eval req es = .error e) ↔ ∃ e, r.eval req es = .error e) := by
  have h := interpret_sound preq pes req es hC r hts
  exact ⟨h, h.outcomes⟩

/-- **interpret_keeps_typeSafe**: the residual `interpret` returns is type-safe on the completion again -/
theorem interpret_keeps_typeSafe (preq : Tpe.PRequest) (pes : Tpe.PEntities) (req : Request) (es : Entities)
    (hC : Completes preq pes req es) {r : Residual} (hts : TypeSafe req es r) : TypeSafe req es (interpret preq pes r) :=
  (interpret_typeSafe hC hts).2

/-- **can_error_analysis_sound** (discharges `ErrFreeSound`): a residual that `can_error_assuming_well_formed` declares
error-free evaluates without error on every request / store on which it is type-safe; in particular this holds for the
residuals `interpret` produces from type-safe inputs, which is `ErrFreeSound`. -/
theorem can_error_analysis_sound (req : Request) (es : Entities) :
    (∀ r : Residual, TypeSafe req es r → r.canError = false → ∃ v, r.eval req es = .ok v) ∧
    (∀ (preq : Tpe.PRequest) (pes : Tpe.PEntities), Completes preq pes req es → ∀ r, TypeSafe req es r →
      ErrFreeSound preq pes req es r ∧ (IsBoolR req es r → OpBool preq pes req es r)) := by
  refine ⟨fun r hts => typeSafe_errFree hts, ?_⟩
  intro preq pes hC r hts
  obtain ⟨hag, hts'⟩ := interpret_typeSafe hC hts
  exact ⟨typeSafe_errFree hts', fun hb => isBoolR_of_agree hag hb⟩

/-- non-vacuity of `interpret_sound`: principal id unknown,
`User::"a" in Group::"g"` with UNKNOWN ancestors stays a residual, `principal.hasTag("t")`-style lookup on known tags
evaluates, a record constructor over a residual stays a residual; the input is type-safe on the completion. -/
example :
    let preq : Tpe.PRequest := ⟨⟨"User", none⟩, ⟨"Action", "view"⟩, ⟨"Doc", some "d"⟩, some []⟩
    let pes : Tpe.PEntities := [(⟨"User", "a"⟩, ⟨some [], none, some [("t", .prim (.bool true))]⟩)]
    let req : Request := ⟨⟨"User", "a"⟩, ⟨"Action", "view"⟩, ⟨"Doc", "d"⟩, []⟩
    let es : Entities := [(⟨"User", "a"⟩, ⟨[], [⟨"Group", "g"⟩], [("t", .prim (.bool true))]⟩)]
    let ua : Residual := .concrete (.prim (.entityUID ⟨"User", "a"⟩)) ""
    let mem : Residual := .part (.binaryApp .mem ua (.concrete (.prim (.entityUID ⟨"Group", "g"⟩)) "")) ""
    let tag : Residual := .part (.binaryApp .hasTag ua (.concrete (.prim (.string "t")) "")) ""
    let st : Residual := .part (.is (.part (.getAttr (.part (.record [("k", .part (.var .principal) "")]) "") "k") "") "User") ""
    let r : Residual := .part (.and mem (.part (.and tag st) "")) ""
    TypeSafe req es r ∧ (interpret preq pes r).isPartial = true ∧ r.eval req es = .ok (.prim (.bool true)) := by
  intro preq pes req es ua mem tag st r
  have hm : mem.eval req es = .ok (.prim (.bool true)) := by rfl
  have ht : tag.eval req es = .ok (.prim (.bool true)) := by rfl
  have hs : st.eval req es = .ok (.prim (.bool true)) := by rfl
  have hts : (Residual.part (.and tag st) "").eval req es = .ok (.prim (.bool true)) := by rfl
  refine ⟨?_, by decide, by rfl⟩
  refine .and (.binary (.concrete _ _) (.concrete _ _) ?_) ?_ (fun _ => .and (.binary (.concrete _ _) (.concrete _ _) ?_) ?_
    (fun _ => .is (.getAttr (.record ?_)) ?_) ?_) ?_
  · intro v1 v2 h1 h2; cases h1; cases h2; simp [applyBinary, Value.asEntity, bind, Except.bind]
  · intro v hv; rw [hm] at hv; cases hv; exact ⟨true, rfl⟩
  · intro v1 v2 h1 h2; cases h1; cases h2; simp [applyBinary, Value.asEntity, Value.asString, bind, Except.bind, Entities.find?]
  · intro v hv; rw [ht] at hv; cases hv; exact ⟨true, rfl⟩
  · intro x hx; simp only [List.mem_singleton] at hx; subst hx; exact .var _ _
  · intro v hv
    have : (Residual.part (.getAttr (.part (.record [("k", .part (.var .principal) "")]) "") "k") "").eval req es =
        .ok (.prim (.entityUID ⟨"User", "a"⟩)) := by rfl
    rw [this] at hv; cases hv; simp [isV, Value.asEntity]
  · intro _ v hv; rw [hs] at hv; cases hv; exact ⟨true, rfl⟩
  · intro _ v hv; rw [hts] at hv; cases hv; exact ⟨true, rfl⟩

/-- **tpe_decision_sound**: `interpret_sound` + `tpe_table_sound`.  For the response `tpe::is_authorized` builds on partial
inputs, and every completion on which the typed conditions are type-safe (`TypedSafe`) and evaluate like the policy
conditions (`TypedAgrees`): every residual policy sits in a bucket consistent with the outcome of its original, and a
definite TPE decision is the decision of the concrete authorizer over the input policies. -/
theorem tpe_decision_sound (preq : Tpe.PRequest) (pes : Tpe.PEntities) (tps : List TPolicy) (resp : Tpe.Response)
    (h : Tpe.isAuthorized preq pes tps = some resp) (req : Request) (es : Entities) (hC : Completes preq pes req es)
    (hT : TypedSafe req es tps) (hE : TypedAgrees req es tps) :
    (∀ rp, rp ∈ resp.residuals → rp.residual.cls.Consistent (rp.original.outcome req es)) ∧
    (∀ d, resp.decision = some d → (Cedar.isAuthorized req es (tps.map (·.policy))).decision = d) := by
  have hc := isAuthorized_consistent hC hT hE h
  refine ⟨hc, ?_⟩
  intro d hd
  have := (tpe_table_sound resp).2 (isAuthorized_wf h) req es hc d hd
  have hp := isAuthorized_policySet h
  unfold Tpe.Response.policySet at hp
  rw [hp] at this; exact this

/-- **interpret_sound_partial**: soundness of `interpret` on `Frag` — every constructor of `Residual` / `ResidualKind` —
where the facts about validation are attached to the `&&`/`||` nodes as hypotheses about the residuals `interpret` PRODUCES: `OpBool`
(the interpreted operands are booleans when they evaluate) and `ErrFreeSound` (the can-error analysis is right about the
interpreted left operand).  `interpret_sound` asks `TypeSafe` of the input instead (and proves both:
`can_error_analysis_sound`).  `Agree` = equal values, or both errors (classes not compared). -/
theorem interpret_sound_partial (preq : Tpe.PRequest) (pes : Tpe.PEntities) (req : Request) (es : Entities)
    (hC : Completes preq pes req es) {r : Residual} (hf : Frag preq pes req es r) :
    Agree ((interpret preq pes r).eval req es) (r.eval req es) ∧
    (∀ b, (interpret preq pes r).eval req es = .ok (.prim (.bool b)) ↔ r.eval req es = .ok (.prim (.bool b))) ∧
    ((∃ e, (interpret preq pes r).eval req es = .error e) ↔ ∃ e, r.eval req es = .error e) := by
  have h := interpret_sound_frag hC hf
  exact ⟨h, h.outcomes⟩

/-- non-vacuity of `interpret_sound_partial`: resource id unknown, `User::"a"` with unknown attributes:
`resource is Doc && User::"a" has manager` — the `is` short-circuits to `true` on the partial request, the `has`
stays a residual; the fragment hypotheses hold on the completion. -/
example :
    let preq : Tpe.PRequest := ⟨⟨"User", some "a"⟩, ⟨"Action", "view"⟩, ⟨"Doc", none⟩, some []⟩
    let pes : Tpe.PEntities := [(⟨"User", "a"⟩, ⟨none, some [], some []⟩)]
    let req : Request := ⟨⟨"User", "a"⟩, ⟨"Action", "view"⟩, ⟨"Doc", "d"⟩, []⟩
    let es : Entities := [(⟨"User", "a"⟩, ⟨[("manager", .prim (.entityUID ⟨"User", "b"⟩))], [], []⟩)]
    let l : Residual := .part (.is (.part (.var .resource) "") "Doc") ""
    let r : Residual := .part (.hasAttr (.concrete (.prim (.entityUID ⟨"User", "a"⟩)) "") "manager") ""
    Frag preq pes req es (.part (.and l r) "") ∧ (interpret preq pes (.part (.and l r) "")).isPartial = true ∧
    (Residual.part (.and l r) "").eval req es = .ok (.prim (.bool true)) := by
  intro preq pes req es l r
  refine ⟨?_, by decide, by rfl⟩
  refine Frag.and (Frag.is (Frag.var _ _)) (Frag.hasAttr (Frag.concrete _ _)) ?_ ?_ ?_
  · intro v hv
    have : (interpret preq pes l).eval req es = .ok (.prim (.bool true)) := by rfl
    rw [this] at hv; cases hv; exact ⟨true, rfl⟩
  · intro v hv
    have : (interpret preq pes r).eval req es = .ok (.prim (.bool true)) := by rfl
    rw [this] at hv; cases hv; exact ⟨true, rfl⟩
  · intro _
    exact ⟨.prim (.bool true), by rfl⟩

/-- **query_resource_exact / query_principal_exact**: `query_exact` with its soundness premise DISCHARGED by
`tpe_decision_sound`: every candidate request completes the partial inputs of the query (`completes_ofConcrete`), so the
queries return exactly the candidates the concrete authorizer allows — given, for each candidate request, type safety of
the typed conditions and their agreement with the policy conditions. -/
theorem query_resource_exact (tps : List TPolicy) (ctx : List (String × Value)) (es : Entities)
    (principal action : EntityUID) (rty : EntityType) (us : List EntityUID)
    (h : queryResource tps principal action rty ctx es = some us)
    (hT : ∀ u, u ∈ candidates es rty → TypedSafe ⟨principal, action, u, ctx⟩ es tps)
    (hE : ∀ u, u ∈ candidates es rty → TypedAgrees ⟨principal, action, u, ctx⟩ es tps) :
    ∀ u, u ∈ us ↔ u ∈ candidates es rty ∧
      (Cedar.isAuthorized ⟨principal, action, u, ctx⟩ es (tps.map (·.policy))).decision = .allow :=
  (query_exact tps ctx es).1 principal action rty us h (fun resp hr d hd u hu =>
    (tpe_decision_sound _ _ tps resp hr ⟨principal, action, u, ctx⟩ es
      (completes_ofConcrete _ _ es (by intro x hx; simp only [PUid.uid?, Option.map_some, Option.some.injEq] at hx; rw [← hx])
        (by intro x hx; simp [PUid.uid?] at hx) rfl (candidates_ty hu) rfl
        (by intro c hc; simp only [Option.some.injEq] at hc; exact hc))
      (hT u hu) (hE u hu)).2 d hd)

theorem query_principal_exact (tps : List TPolicy) (ctx : List (String × Value)) (es : Entities)
    (pty : EntityType) (action resource : EntityUID) (us : List EntityUID)
    (h : queryPrincipal tps pty action resource ctx es = some us)
    (hT : ∀ u, u ∈ candidates es pty → TypedSafe ⟨u, action, resource, ctx⟩ es tps)
    (hE : ∀ u, u ∈ candidates es pty → TypedAgrees ⟨u, action, resource, ctx⟩ es tps) :
    ∀ u, u ∈ us ↔ u ∈ candidates es pty ∧
      (Cedar.isAuthorized ⟨u, action, resource, ctx⟩ es (tps.map (·.policy))).decision = .allow :=
  (query_exact tps ctx es).2 pty action resource us h (fun resp hr d hd u hu =>
    (tpe_decision_sound _ _ tps resp hr ⟨u, action, resource, ctx⟩ es
      (completes_ofConcrete _ _ es (by intro x hx; simp [PUid.uid?] at hx)
        (by intro x hx; simp only [PUid.uid?, Option.map_some, Option.some.injEq] at hx; rw [← hx])
        (candidates_ty hu) rfl rfl (by intro c hc; simp only [Option.some.injEq] at hc; exact hc))
      (hT u hu) (hE u hu)).2 d hd)

/-- **tpe_decision_sound_valid**: `tpe_decision_sound` with `TypedSafe` / `TypedAgrees` DERIVED from C03's strict soundness.
For strictly valid static policies `tps` whose typed conditions are the typechecker's typed AST for the request environment
`env` of the partial request (`ValidTyped`, `EnvOfPartial`), on EVERY conformant completion of the partial inputs: every
residual policy sits in a bucket consistent with the outcome of its original, and a definite TPE decision is the decision
of the concrete authorizer over the input policies. -/
theorem tpe_decision_sound_valid (s : Schema) (hWF : C03.SchemaWF2 s) (env : RequestEnv)
    (preq : Tpe.PRequest) (pes : Tpe.PEntities) (tps : List TPolicy) (resp : Tpe.Response)
    (h : Tpe.isAuthorized preq pes tps = some resp) (hV : ValidTyped s env tps) (hE : EnvOfPartial s env preq)
    (req : Request) (es : Entities) (hC : Completes preq pes req es) (hq : Conformant s req es) :
    (∀ rp, rp ∈ resp.residuals → rp.residual.cls.Consistent (rp.original.outcome req es)) ∧
    (∀ d, resp.decision = some d → (Cedar.isAuthorized req es (tps.map (·.policy))).decision = d) :=
  tpe_decision_sound preq pes tps resp h req es hC (valid_typedSafe hWF hV hq (hE.envOf hC))
    (valid_typedAgrees hWF hV hq (hE.envOf hC))

/-- **tpe_total_valid**: on validated static policies `tpe::is_authorized` answers (no `TpeError`), and the typed policies
exist for the environment of every conformant request (`policy_residual_map` does not fail at the typechecking step). -/
theorem tpe_total_valid (s : Schema) (env : RequestEnv) :
    (∀ (tps : List TPolicy), ValidTyped s env tps → env.principalSlot = none → env.resourceSlot = none →
      ∀ preq pes, ∃ resp, Tpe.isAuthorized preq pes tps = some resp) ∧
    (∀ (p : Policy) (q : Request), ValidStatic s p → EnvOf s env q → Cedar.ConformsRequest s q →
      ∃ tp, typedPolicy s env p = some tp ∧ tp.policy = p ∧ IsTypedFor s env tp) := by
  refine ⟨fun tps hV hp hr preq pes => valid_isAuthorized_some hV hp hr preq pes, ?_⟩
  intro p q hv he hreq
  obtain ⟨tp, htp⟩ := hv.typedPolicy_some he hreq
  exact ⟨tp, htp, typedPolicy_isTypedFor htp⟩

/-- **query_resource_exact_valid / query_principal_exact_valid**: the queries return exactly the candidates the concrete
authorizer allows — for strictly valid static policies typed for the environment of the query, a conformant store holding
the action entities, and conformant candidate requests.  No semantic hypothesis. -/
theorem query_resource_exact_valid (s : Schema) (hWF : C03.SchemaWF2 s) (env : RequestEnv)
    (tps : List TPolicy) (ctx : List (String × Value)) (es : Entities)
    (principal action : EntityUID) (rty : EntityType) (us : List EntityUID)
    (h : queryResource tps principal action rty ctx es = some us) (hV : ValidTyped s env tps)
    (hE : EnvOfPartial s env ⟨⟨principal.ty, some principal.eid⟩, action, ⟨rty, none⟩, some ctx⟩)
    (hst : StoreConforms s es) (hact : C03.ActionsPresent s es)
    (hreq : ∀ u, u ∈ candidates es rty → ConformsRequest s ⟨principal, action, u, ctx⟩) :
    ∀ u, u ∈ us ↔ u ∈ candidates es rty ∧
      (Cedar.isAuthorized ⟨principal, action, u, ctx⟩ es (tps.map (·.policy))).decision = .allow :=
  query_resource_exact tps ctx es principal action rty us h
    (fun u hu => valid_typedSafe hWF hV ⟨hreq u hu, hst, hact⟩ (hE.envOf_types rfl rfl (candidates_ty hu)))
    (fun u hu => valid_typedAgrees hWF hV ⟨hreq u hu, hst, hact⟩ (hE.envOf_types rfl rfl (candidates_ty hu)))

theorem query_principal_exact_valid (s : Schema) (hWF : C03.SchemaWF2 s) (env : RequestEnv)
    (tps : List TPolicy) (ctx : List (String × Value)) (es : Entities)
    (pty : EntityType) (action resource : EntityUID) (us : List EntityUID)
    (h : queryPrincipal tps pty action resource ctx es = some us) (hV : ValidTyped s env tps)
    (hE : EnvOfPartial s env ⟨⟨pty, none⟩, action, ⟨resource.ty, some resource.eid⟩, some ctx⟩)
    (hst : StoreConforms s es) (hact : C03.ActionsPresent s es)
    (hreq : ∀ u, u ∈ candidates es pty → ConformsRequest s ⟨u, action, resource, ctx⟩) :
    ∀ u, u ∈ us ↔ u ∈ candidates es pty ∧
      (Cedar.isAuthorized ⟨u, action, resource, ctx⟩ es (tps.map (·.policy))).decision = .allow :=
  query_principal_exact tps ctx es pty action resource us h
    (fun u hu => valid_typedSafe hWF hV ⟨hreq u hu, hst, hact⟩ (hE.envOf_types (candidates_ty hu) rfl rfl))
    (fun u hu => valid_typedAgrees hWF hV ⟨hreq u hu, hst, hact⟩ (hE.envOf_types (candidates_ty hu) rfl rfl))

/-- **query_action_sound_valid**: `query_action_sound` with its soundness premise discharged: for an action `a` of the list,
whose policies are validated and typed for `a`'s environment `env`, and every conformant completion: if the completion is
allowed, `a` is returned; if `a` is labelled definitely allowed, the completion is allowed. -/
theorem query_action_sound_valid (s : Schema) (hWF : C03.SchemaWF2 s) (acts : List (EntityUID × List TPolicy))
    (p r : PUid) (ctx : Option (List (String × Value))) (pes : Tpe.PEntities)
    (a : EntityUID) (tps : List TPolicy) (resp : Tpe.Response) (ha : (a, tps) ∈ acts)
    (hr : Tpe.isAuthorized ⟨p, a, r, ctx⟩ pes tps = some resp) (env : RequestEnv) (hV : ValidTyped s env tps)
    (hE : EnvOfPartial s env ⟨p, a, r, ctx⟩)
    (req : Request) (es : Entities) (hC : Completes ⟨p, a, r, ctx⟩ pes req es) (hq : Conformant s req es) :
    ((Cedar.isAuthorized req es (tps.map (·.policy))).decision = .allow → (a, resp.decision) ∈ queryAction acts p r ctx pes) ∧
    (resp.decision = some .allow → (Cedar.isAuthorized req es (tps.map (·.policy))).decision = .allow) :=
  (query_action_sound acts p r ctx pes).1 a tps resp ha hr _
    (fun d hd => (tpe_decision_sound_valid s hWF env _ pes tps resp hr hV hE req es hC hq).2 d hd)

/-- non-vacuity of the `…_valid` theorems: C03's example schema (`entity User in [Group] {…} tags String; action view …`),
the static condition `principal in resource && principal.hasTag("team") && principal.getTag("team") like "b*"`, the world of
C03's example as the completion of a partial request whose principal id is unknown and an empty partial store: every
hypothesis of `tpe_decision_sound_valid` holds, and TPE answers. -/
example :
    let p : Policy := ⟨"p0", .permit, C03.ex2Static, []⟩
    let env : RequestEnv := ⟨"User", ⟨"Action", "view"⟩, "Group", C03.ex2View.context, none, none⟩
    let preq : Tpe.PRequest := ⟨⟨"User", none⟩, ⟨"Action", "view"⟩, ⟨"Group", some "admins"⟩, some [("level", .prim (.int 3))]⟩
    C03.SchemaWF2 C03.ex2Schema ∧ ValidStatic C03.ex2Schema p ∧ EnvOfPartial C03.ex2Schema env preq ∧
    Completes preq [] C03.ex2World.q C03.ex2World.es ∧ Conformant C03.ex2Schema C03.ex2World.q C03.ex2World.es ∧
    ∃ tp resp, tp.policy = p ∧ ValidTyped C03.ex2Schema env [tp] ∧ Tpe.isAuthorized preq [] [tp] = some resp := by
  intro p env preq
  have hv : ValidStatic C03.ex2Schema p := ⟨rfl, fun _ => rfl, ⟨_, rfl, rfl⟩⟩
  have hE : EnvOfPartial C03.ex2Schema env preq := ⟨rfl, rfl, rfl, ⟨C03.ex2View, rfl, rfl⟩, rfl, rfl⟩
  have hC : Completes preq [] C03.ex2World.q C03.ex2World.es :=
    ⟨fun u hu => by simp [preq, PUid.uid?] at hu, fun u hu => by simp only [preq, PUid.uid?, Option.map_some, Option.some.injEq] at hu; rw [← hu]; rfl,
     rfl, rfl, rfl, fun c hc => by simp only [preq, Option.some.injEq] at hc; rw [← hc]; rfl,
     fun u a h => (by rw [show PEntities.attrs? ([] : Tpe.PEntities) u = none from rfl] at h; cases h),
     fun u a h => (by rw [show PEntities.ancestors? ([] : Tpe.PEntities) u = none from rfl] at h; cases h),
     fun u a h => (by rw [show PEntities.tags? ([] : Tpe.PEntities) u = none from rfl] at h; cases h)⟩
  have hq : Conformant C03.ex2Schema C03.ex2World.q C03.ex2World.es := ⟨C03.ex2_request, C03.ex2_store, C03.ex2_actions⟩
  refine ⟨C03.ex2_schemaWF, hv, hE, hC, hq, ?_⟩
  obtain ⟨tp, htp⟩ := hv.typedPolicy_some (hE.envOf hC) hq.req
  obtain ⟨hp, hty⟩ := typedPolicy_isTypedFor htp
  have hV : ValidTyped C03.ex2Schema env [tp] :=
    ⟨fun x hx => by rw [List.mem_singleton] at hx; rw [hx, hp]; exact hv, fun x hx => by rw [List.mem_singleton] at hx; rw [hx]; exact hty⟩
  obtain ⟨resp, hresp⟩ := valid_isAuthorized_some hV rfl rfl preq []
  exact ⟨tp, resp, hp, hV, hresp⟩

end Cedar.C14
