import CedarVerif.Cedar.SchemaAnnot
import CedarVerif.Lemmas.SchemaCollect
/-
Annotated schema text (`Cedar/SchemaAnnot.lean`).  Every fact about a single declaration is reused through `GoodDecl`; only the two
loops and the namespace header are gone through again with `parseAnnotations` in front, and `strip` leads back to the un-annotated items.
-/
namespace Cedar.SchemaSyntax

/-- the continuation does not start with a punctuation token of the `other` class (`@`, `(`, …): it is empty or starts with an
identifier / keyword (`namespace`, `entity`, `action`, `type`) or `}` -/
def startsId : List Tok → Bool
  | .other _ :: _ => false
  | _ => true

theorem startsId_of_isDeclStart (R : List Tok) (h : isDeclStart R = true) : startsId R = true := by
  obtain ⟨k, tl, rfl, -⟩ := isDeclStart_id R h
  rfl

/-- annotation keys are identifier-shaped (`AnyId`) -/
def WFAnns (a : AnnsJ) : Prop := ∀ x ∈ a, identShape x.1 = true

theorem parseAnns_startsId (R : List Tok) (h : startsId R = true) : parseAnns R = some ([], R) := by
  unfold parseAnns
  split
  · cases h
  · cases h
  · cases h
  · rfl

theorem parseAnns_print (a : AnnsJ) (hw : WFAnns a) (R : List Tok) (hR : startsId R = true) :
    parseAnns (printAnns a ++ R) = some (a, R) := by
  induction a with
  | nil => exact parseAnns_startsId R hR
  | cons x rest ih =>
    obtain ⟨k, v⟩ := x
    have ih := ih (fun y hy => hw y (List.mem_cons_of_mem _ hy))
    have hk : identShape k = true := hw (k, v) (List.mem_cons_self ..)
    cases v with
    | some v => simp [printAnns, parseAnns, hk, ih]
    | none =>
      -- `@k` is not followed by `(`: the next token is `@` or starts the continuation
      have hnext : ∀ v' r, printAnns rest ++ R = .other "(" :: .str v' :: .other ")" :: r → False := by
        intro v' r heq
        cases rest with
        | nil =>
          cases R with
          | nil => cases heq
          | cons t tl =>
            simp only [printAnns, List.nil_append, List.cons.injEq] at heq
            rw [heq.1] at hR
            cases hR
        | cons y ys =>
          obtain ⟨k', v''⟩ := y
          cases v'' <;> simp [printAnns] at heq
      simp only [printAnns, List.cons_append]
      rw [parseAnns]
      · simp [hk, ih]
      · exact hnext

theorem dedupAnns_sorted (a : AnnsJ) (hk : KeysSorted a) : dedupAnns a = some (normAnns a) := by
  have h1 := keysSorted_noDup a hk
  have h2 : KeysSorted (normAnns a) := keysSorted_map a (fun x => some (x.2.getD "")) hk
  simp only [dedupAnns, h1, Bool.false_eq_true, if_false]
  rw [sortKeys_of_pairwise _ _ h2]

theorem parseAnnotations_print (a : AnnsJ) (hw : WFAnns a) (hk : KeysSorted a) (R : List Tok) (hR : startsId R = true) :
    parseAnnotations (printAnns a ++ R) = some (normAnns a, R) := by
  simp [parseAnnotations, parseAnns_print a hw R hR, dedupAnns_sorted a hk]

/-- annotated declarations as (annotations, printed tokens, denoted declaration) -/
def printTriples : List (AnnsJ × List Tok × DeclC) → List Tok
  | [] => []
  | (a, P, _) :: l => printAnns a ++ (P ++ printTriples l)

theorem printTriples_append (x y : List (AnnsJ × List Tok × DeclC)) : printTriples (x ++ y) = printTriples x ++ printTriples y := by
  induction x with
  | nil => simp [printTriples]
  | cons t x ih => obtain ⟨a, P, D⟩ := t; simp [printTriples, ih]

theorem parseDeclListA_triples (L : List (AnnsJ × List Tok × DeclC)) (fuel : Nat) (rest : List Tok)
    (hg : ∀ x ∈ L, WFAnns x.1 ∧ KeysSorted x.1 ∧ GoodDecl x.2.1 x.2.2) (hr : isDeclStart rest = false)
    (hs : startsId rest = true) (hf : L.length < fuel) :
    parseDeclListA fuel (printTriples L ++ rest) = some (L.map (fun x => (normAnns x.1, x.2.2)), rest) := by
  induction L generalizing fuel with
  | nil =>
    cases fuel with
    | zero => exact absurd hf (Nat.lt_irrefl 0)
    | succ f =>
      have := parseAnnotations_print [] (fun x hx => nomatch hx) List.Pairwise.nil rest hs
      simp only [printAnns, List.nil_append, normAnns, List.map_nil] at this
      simp [printTriples, parseDeclListA, this, hr]
  | cons x L ih =>
    cases fuel with
    | zero => exact absurd hf (Nat.not_lt_zero _)
    | succ f =>
      obtain ⟨a, P, D⟩ := x
      have ih := ih f (fun y hy => hg y (List.mem_cons_of_mem _ hy)) (Nat.lt_of_succ_lt_succ hf)
      obtain ⟨hwa, hka, hgd⟩ := hg (a, P, D) (List.mem_cons_self ..)
      obtain ⟨hst, hp⟩ := hgd (printTriples L ++ rest)
      have hann := parseAnnotations_print a hwa hka (P ++ (printTriples L ++ rest)) (startsId_of_isDeclStart _ hst)
      simp only [printTriples, List.append_assoc]
      simp only [parseDeclListA, hann, hst, if_true, hp, ih, List.map_cons]

def triplesOfNsA (d : NamespaceA) : List (AnnsJ × List Tok × DeclC) :=
  (d.commons.map fun x => (x.1, printCommonJ x.2.1 x.2.2, DeclC.common x.2.1 (toCedar x.2.2))) ++
  ((d.entities.map fun x => (x.1, printEntityKindJ x.2.1 x.2.2, DeclC.ent (entDeclOf x.2.1 x.2.2))) ++
   (d.actions.map fun x => (x.1, printActionJ x.2.1 x.2.2, DeclC.action (x.2.2.toDecl x.2.1))))

theorem printTriples_map {α : Type} (f : α → AnnsJ × List Tok × DeclC) (pr : List α → List Tok) (h0 : pr [] = [])
    (hc : ∀ x l, pr (x :: l) = printAnns (f x).1 ++ ((f x).2.1 ++ pr l)) (l : List α) : printTriples (l.map f) = pr l := by
  induction l with
  | nil => exact h0.symm
  | cons x l ih => rw [List.map_cons, hc, ← ih]; rfl

theorem printTriples_nsA (d : NamespaceA) : printTriples (triplesOfNsA d) = printNsA d := by
  simp only [triplesOfNsA, printTriples_append, printNsA]
  rw [printTriples_map _ printCommonsA rfl (fun _ _ => rfl), printTriples_map _ printEntitiesA rfl (fun _ _ => rfl),
    printTriples_map _ printActionsA rfl (fun _ _ => rfl)]

/-- all annotation maps of the namespace body have identifier keys in `BTreeMap` order -/
def AnnsOKNs (d : NamespaceA) : Prop :=
  (∀ x ∈ d.commons, WFAnns x.1 ∧ KeysSorted x.1) ∧ (∀ x ∈ d.entities, WFAnns x.1 ∧ KeysSorted x.1) ∧
  (∀ x ∈ d.actions, WFAnns x.1 ∧ KeysSorted x.1)

theorem good_triplesOfNsA (d : NamespaceA) (hw : WFNs d.strip) (ha : AnnsOKNs d) :
    ∀ x ∈ triplesOfNsA d, WFAnns x.1 ∧ KeysSorted x.1 ∧ GoodDecl x.2.1 x.2.2 := by
  intro x hx
  simp only [triplesOfNsA, List.mem_append, List.mem_map] at hx
  rcases hx with ⟨y, hy, rfl⟩ | ⟨y, hy, rfl⟩ | ⟨y, hy, rfl⟩
  · obtain ⟨h1, h2, h3, h4⟩ := hw.1 y.2 (by simp only [NamespaceA.strip, List.mem_map]; exact ⟨y, hy, rfl⟩)
    exact ⟨(ha.1 y hy).1, (ha.1 y hy).2, goodDecl_common _ _ h1 h2 h3 h4⟩
  · have := hw.2.1 y.2 (by simp only [NamespaceA.strip, List.mem_map]; exact ⟨y, hy, rfl⟩)
    exact ⟨(ha.2.1 y hy).1, (ha.2.1 y hy).2, goodDecl_entity _ _ this⟩
  · have := hw.2.2 y.2 (by simp only [NamespaceA.strip, List.mem_map]; exact ⟨y, hy, rfl⟩)
    exact ⟨(ha.2.2 y hy).1, (ha.2.2 y hy).2, goodDecl_action _ _ this⟩

theorem parseItemsA_declStart (f : Nat) (toks r : List Tok) (a : AnnsJ) (hne : toks ≠ [])
    (hp : parseAnnotations toks = some (a, r)) (h : isDeclStart r = true) :
    parseItemsA (f + 1) toks = (match parseDecl r with
      | some (d, r') =>
        (match parseItemsA f r' with
          | some its => some (.decl a d :: its)
          | none => none)
      | none => none) := by
  obtain ⟨k, tl, rfl, hk⟩ := isDeclStart_id r h
  cases toks with
  | nil => exact absurd rfl hne
  | cons t ts =>
    simp only [parseItemsA, hp]
    split
    · rename_i heq; simp at heq
    · rename_i heq
      simp only [Option.some.injEq, Prod.mk.injEq, List.cons.injEq, Tok.id.injEq] at heq
      exact absurd heq.2.1 hk
    · rename_i heq
      simp only [Option.some.injEq, Prod.mk.injEq] at heq
      obtain ⟨rfl, rfl⟩ := heq
      rfl

theorem printAnns_append_ne_nil (a : AnnsJ) (R : List Tok) (h : R ≠ []) : printAnns a ++ R ≠ [] := by
  cases a with
  | nil => simpa [printAnns] using h
  | cons x xs => obtain ⟨k, v⟩ := x; cases v <;> simp [printAnns]

theorem parseItemsA_triples (L : List (AnnsJ × List Tok × DeclC)) (fuel : Nat) (rest : List Tok) (its : List ItemA)
    (hg : ∀ x ∈ L, WFAnns x.1 ∧ KeysSorted x.1 ∧ GoodDecl x.2.1 x.2.2)
    (h : ∀ f', fuel ≤ f' → parseItemsA f' rest = some its) (f' : Nat) (hf' : fuel + L.length ≤ f') :
    parseItemsA f' (printTriples L ++ rest) = some (L.map (fun x => ItemA.decl (normAnns x.1) x.2.2) ++ its) := by
  induction L generalizing f' with
  | nil => exact h f' hf'
  | cons x L ih =>
    cases f' with
    | zero => exact absurd hf' (Nat.not_succ_le_zero _)
    | succ g =>
      obtain ⟨a, P, D⟩ := x
      have ih := ih (fun y hy => hg y (List.mem_cons_of_mem _ hy)) g (Nat.le_of_succ_le_succ hf')
      obtain ⟨hwa, hka, hgd⟩ := hg (a, P, D) (List.mem_cons_self ..)
      obtain ⟨hst, hp⟩ := hgd (printTriples L ++ rest)
      have hann := parseAnnotations_print a hwa hka (P ++ (printTriples L ++ rest)) (startsId_of_isDeclStart _ hst)
      have hne : printAnns a ++ (P ++ (printTriples L ++ rest)) ≠ [] := by
        apply printAnns_append_ne_nil
        intro h0; rw [h0] at hst; cases hst
      simp only [printTriples, List.append_assoc]
      rw [parseItemsA_declStart g _ _ _ hne hann hst, hp]
      simp only [ih, List.map_cons, List.cons_append]

def WFNamedA (l : List (QName × AnnsJ × NamespaceA)) : Prop :=
  ∀ x ∈ l, (∀ c ∈ x.1.comps, validId c = true) ∧ x.1.isReserved = false ∧ WFNs x.2.2.strip ∧
    WFAnns x.2.1 ∧ KeysSorted x.2.1 ∧ AnnsOKNs x.2.2

theorem triplesOfNsA_length (d : NamespaceA) : (triplesOfNsA d).length = nsCount d.strip := by
  simp [triplesOfNsA, nsCount, NamespaceA.strip]; omega

theorem printTriples_length (L : List (AnnsJ × List Tok × DeclC)) (hg : ∀ x ∈ L, WFAnns x.1 ∧ KeysSorted x.1 ∧ GoodDecl x.2.1 x.2.2) :
    L.length ≤ (printTriples L).length := by
  induction L with
  | nil => exact Nat.zero_le _
  | cons x L ih =>
    obtain ⟨a, P, D⟩ := x
    have ih := ih (fun y hy => hg y (List.mem_cons_of_mem _ hy))
    have hp : 1 ≤ P.length := (hg (a, P, D) (List.mem_cons_self ..)).2.2.length_pos
    simp only [printTriples, List.length_cons, List.length_append]
    omega

theorem parseItemsA_named (l : List (QName × AnnsJ × NamespaceA)) (hw : WFNamedA l) (f' : Nat) (hf : (printNamedA l).length < f') :
    parseItemsA f' (printNamedA l) =
      some (l.map fun x => ItemA.ns (normAnns x.2.1) x.1 ((triplesOfNsA x.2.2).map fun y => (normAnns y.1, y.2.2))) := by
  induction l generalizing f' with
  | nil =>
    cases f' with
    | zero => exact absurd hf (Nat.not_succ_le_zero _)
    | succ g => simp [printNamedA, parseItemsA]
  | cons x l ih =>
    obtain ⟨q, a, d⟩ := x
    cases f' with
    | zero => exact absurd hf (Nat.not_lt_zero _)
    | succ g =>
      obtain ⟨hq, hres, hd, hwa, hka, hao⟩ := hw (q, a, d) (List.mem_cons_self ..)
      have hb := printTriples_length (triplesOfNsA d) (good_triplesOfNsA d hd hao)
      have hn := printName_length q
      rw [printTriples_nsA] at hb
      simp only [printNamedA, List.length_cons, List.length_append] at hf
      have ih := ih (fun x hx => hw x (List.mem_cons_of_mem _ hx)) g (by omega)
      have hdl := parseDeclListA_triples (triplesOfNsA d) g (.rb :: printNamedA l) (good_triplesOfNsA d hd hao) rfl rfl
        (by omega)
      rw [printTriples_nsA] at hdl
      obtain ⟨s, tl, h1, h2⟩ := parsePath_print q (.lb :: (printNsA d ++ .rb :: printNamedA l)) hq trivial
      have hann := parseAnnotations_print a hwa hka
        (.id "namespace" :: (printName q ++ .lb :: (printNsA d ++ .rb :: printNamedA l))) rfl
      simp only [printNamedA]
      rw [h1] at hann ⊢
      cases htoks : printAnns a ++ (.id "namespace" :: .id s :: tl) with
      | nil => exact absurd htoks (printAnns_append_ne_nil _ _ (List.cons_ne_nil _ _))
      | cons t ts =>
        rw [htoks] at hann
        simp only [parseItemsA, hann, h2, hdl, hres, ih, List.map_cons]
        simp

/-- the annotated items a printed annotated fragment denotes: the declarations of `itemsOf` (un-annotated theorem), every annotation
map in its `normAnns` form -/
def itemsOfA (f : FragmentA) : List ItemA :=
  (match f.empty with
    | some d => (triplesOfNsA d).map (fun x => ItemA.decl (normAnns x.1) x.2.2)
    | none => []) ++
  f.named.map fun x => ItemA.ns (normAnns x.2.1) x.1 ((triplesOfNsA x.2.2).map fun y => (normAnns y.1, y.2.2))

theorem parseItemsA_fragment (f : FragmentA) (hwe : ∀ d, f.empty = some d → WFNs d.strip ∧ AnnsOKNs d) (hwn : WFNamedA f.named) :
    parseItemsA ((printFragmentA f).length + 1) (printFragmentA f) = some (itemsOfA f) := by
  obtain ⟨e, named⟩ := f
  simp only at hwe hwn
  have hn := parseItemsA_named named hwn
  cases e with
  | none =>
    simp only [printFragmentA, itemsOfA, List.nil_append]
    exact hn _ (Nat.lt_succ_self _)
  | some d =>
    have hg := good_triplesOfNsA d (hwe d rfl).1 (hwe d rfl).2
    have h := parseItemsA_triples (triplesOfNsA d) ((printNamedA named).length + 1) (printNamedA named) _ hg hn
    have hl := printTriples_length (triplesOfNsA d) hg
    rw [printTriples_nsA] at h hl
    simp only [printFragmentA, itemsOfA]
    exact h _ (by simp only [List.length_append]; omega)

theorem triplesOfNsA_strip (d : NamespaceA) : (triplesOfNsA d).map (·.2.2) = declsOfNs d.strip := by
  simp [triplesOfNsA, declsOfNs, pairsOfNs, pairsOfCommons, pairsOfEntities, pairsOfActions, NamespaceA.strip, Function.comp_def]

theorem itemsOfA_strip (f : FragmentA) : (itemsOfA f).map ItemA.strip = itemsOf f.strip := by
  obtain ⟨e, named⟩ := f
  have hs := triplesOfNsA_strip
  cases e with
  | none =>
    simp only [itemsOfA, itemsOf, FragmentA.strip, List.nil_append, List.map_map, Option.map_none]
    apply List.map_congr_left
    intro x _
    simp [ItemA.strip, Function.comp_def, ← hs]
  | some d =>
    simp only [itemsOfA, itemsOf, FragmentA.strip, List.map_append, List.map_map, Option.map_some]
    congr 1
    · have := hs d
      simp only [declsOfNs] at this
      have h2 := congrArg (List.map ItemC.decl) this
      simpa [List.map_map, Function.comp_def, ItemA.strip] using h2
    · apply List.map_congr_left
      intro x _
      simp [ItemA.strip, Function.comp_def, ← hs]

/-- well-formedness of an annotated fragment: the un-annotated conditions of `WFFrag` on the content, identifier keys in `BTreeMap`
order in every annotation map -/
def WFFragA (f : FragmentA) : Prop := (∀ d, f.empty = some d → WFNs d.strip ∧ AnnsOKNs d) ∧ WFNamedA f.named

theorem wfFrag_strip (f : FragmentA) (h : WFFragA f) : WFFrag f.strip := by
  obtain ⟨e, named⟩ := f
  obtain ⟨he, hn⟩ := h
  simp only at he hn
  refine ⟨?_, ?_⟩
  · intro d hd
    cases e with
    | none => simp [FragmentA.strip] at hd
    | some d0 =>
      simp only [FragmentA.strip, Option.map_some, Option.some.injEq] at hd
      subst hd
      exact (he d0 rfl).1
  · intro x hx
    simp only [FragmentA.strip, List.mem_map] at hx
    obtain ⟨y, hy, rfl⟩ := hx
    obtain ⟨h1, h2, h3, _⟩ := hn y hy
    exact ⟨h1, h2, h3⟩

end Cedar.SchemaSyntax
