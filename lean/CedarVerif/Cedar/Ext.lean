import CedarVerif.Cedar.Data
/-
Extension types: decimal, ipaddr, datetime, duration.
Mirrors cedar-policy-core/src/extensions/{decimal,ipaddr,datetime}.rs.
Parsers work on `List Char`; each regular language of the Rust code is written out as a recogniser.
The numeric tails are "checked arithmetic" chains over `Int` with explicit i64 guards.
-/
namespace Cedar
namespace Ext

def isDigit (c : Char) : Bool := decide ('0' ≤ c) && decide (c ≤ '9')
def digitVal (c : Char) : Nat := c.toNat - 48

/-- value of a run of ASCII digits (most significant first) -/
def natOfDigits (ds : List Char) : Nat := ds.foldl (fun acc c => acc * 10 + digitVal c) 0

/-- split off the maximal leading run of ASCII digits -/
def spanDigits : List Char → List Char × List Char
  | [] => ([], [])
  | c :: cs => if isDigit c then let (ds, r) := spanDigits cs; (c :: ds, r) else ([], c :: cs)

def checkedI64 (i : Int) : Option Int := if inI64 i then some i else none

/-! ## decimal -/
namespace Decimal

/-- syntactic part: `^(-?\d+)\.(\d+)$` (ASCII digits; a non-ASCII `\d` digit makes `i64::from_str` fail
    in Rust, so such strings are errors on both sides). Returns (negative?, integer digits, fraction digits). -/
def split (s : List Char) : Option (Bool × List Char × List Char) :=
  let (neg, rest) := match s with
    | '-' :: r => (true, r)
    | r => (false, r)
  let (ip, rest) := spanDigits rest
  match rest with
  | '.' :: rest =>
    let (fp, rest) := spanDigits rest
    if ip.isEmpty || fp.isEmpty || !rest.isEmpty then none else some (neg, ip, fp)
  | _ => none

/-- arithmetic tail: mirror of the `i64::from_str` / `checked_mul_pow` / `checked_add|sub` chain -/
def arith (neg : Bool) (ip fp : Nat) (fpLen : Nat) : Option Int := do
  let l ← checkedI64 (if neg then -(ip : Int) else ip)          -- i64::from_str(l_str)
  let l ← checkedI64 (l * 10000)                                 -- checked_mul_pow(l, 4)
  if 4 < fpLen then none else                                    -- TooManyDigits
  let r ← checkedI64 (fp : Int)                                  -- i64::from_str(r_str)
  let r ← checkedI64 (r * (10 ^ (4 - fpLen) : Nat))              -- checked_mul_pow(r, 4 - len)
  if !neg then checkedI64 (l + r) else checkedI64 (l - r)

def parse (s : String) : Option Int :=
  match split s.toList with
  | none => none
  | some (neg, ip, fp) => arith neg (natOfDigits ip) (natOfDigits fp) fp.length

end Decimal

/-! ## ipaddr -/
namespace IPAddr

def isHexDigit (c : Char) : Bool :=
  isDigit c || (decide ('a' ≤ c) && decide (c ≤ 'f')) || (decide ('A' ≤ c) && decide (c ≤ 'F'))
def hexVal (c : Char) : Nat :=
  if isDigit c then c.toNat - 48 else if decide ('a' ≤ c) && decide (c ≤ 'f') then c.toNat - 87 else c.toNat - 55

def spanHex : List Char → List Char × List Char
  | [] => ([], [])
  | c :: cs => if isHexDigit c then let (ds, r) := spanHex cs; (c :: ds, r) else ([], c :: cs)

/-- `read_number(10, Some(3), false)` into a `u8` -/
def readOctet (s : List Char) : Option (Nat × List Char) :=
  let (ds, rest) := spanDigits s
  if ds.isEmpty || ds.length > 3 then none
  else if ds.length > 1 && ds.head? == some '0' then none
  else let n := natOfDigits ds; if n > 255 then none else some (n, rest)

/-- dotted quad, returns the address and the unread rest -/
def readV4 (s : List Char) : Option (Nat × List Char) := do
  let (a, r) ← readOctet s
  let r ← match r with | '.' :: r => some r | _ => none
  let (b, r) ← readOctet r
  let r ← match r with | '.' :: r => some r | _ => none
  let (c, r) ← readOctet r
  let r ← match r with | '.' :: r => some r | _ => none
  let (d, r) ← readOctet r
  some (((a * 256 + b) * 256 + c) * 256 + d, r)

/-- `read_number(16, Some(4), true)` into a `u16` -/
def readGroup (s : List Char) : Option (Nat × List Char) :=
  let (ds, rest) := spanHex s
  if ds.isEmpty || ds.length > 4 then none
  else some (ds.foldl (fun acc c => acc * 16 + hexVal c) 0, rest)

/-- `read_groups`: up to `limit` colon-separated groups, greedy; a failed group restores the position
    before its separator. (No embedded IPv4: excluded beforehand by `containsColonsAndDots`.) -/
def readGroups : Nat → Nat → List Char → List Nat × List Char
  | 0, _, s => ([], s)
  | limit + 1, i, s =>
    let s' := if i = 0 then some s else match s with | ':' :: r => some r | _ => none
    match s' with
    | none => ([], s)
    | some s' => match readGroup s' with
      | none => ([], s)
      | some (g, r) => let (gs, r') := readGroups limit (i + 1) r; (g :: gs, r')

def groupsToNat (gs : List Nat) : Nat := gs.foldl (fun acc g => acc * 65536 + g) 0

def readV6 (s : List Char) : Option (Nat × List Char) :=
  let (head, r) := readGroups 8 0 s
  if head.length = 8 then some (groupsToNat head, r)
  else match r with
    | ':' :: ':' :: r =>
      let limit := 8 - (head.length + 1)
      let (tail, r) := readGroups limit 0 r
      let zeros := List.replicate (8 - head.length - tail.length) 0
      some (groupsToNat (head ++ zeros ++ tail), r)
    | _ => none

def countChar (c : Char) (s : List Char) : Nat := (s.filter (· == c)).length

/-- `str_contains_colons_and_dots` -/
def containsColonsAndDots (s : List Char) : Bool :=
  decide (countChar ':' s ≥ 2) && decide (countChar '.' s ≥ 2)

/-- `std::net::IpAddr::from_str`: v4 first, then v6; all input must be consumed -/
def parseAddr (s : List Char) : Option (Bool × Nat) :=
  match readV4 s with
  | some (a, []) => some (false, a)
  | _ => match readV6 s with
    | some (a, []) => some (true, a)
    | _ => none

def utf8Len (c : Char) : Nat :=
  let n := c.toNat
  if n < 0x80 then 1 else if n < 0x800 then 2 else if n < 0x10000 then 3 else 4

def byteLen (s : List Char) : Nat := s.foldl (fun acc c => acc + utf8Len c) 0

def parsePrefix (s : List Char) (max maxLen : Nat) : Option Nat :=
  if byteLen s > maxLen then none
  else if s.any (fun c => !isDigit c) then none
  else if s.head? == some '0' && s != ['0'] then none
  else if s.isEmpty then none
  else let n := natOfDigits s; if n > 255 then none else if n > max then none else some n

def splitOnceSlash : List Char → Option (List Char × List Char)
  | [] => none
  | '/' :: r => some ([], r)
  | c :: r => match splitOnceSlash r with
    | some (a, b) => some (c :: a, b)
    | none => none

def parse (str : String) : Option Ext :=
  let s := str.toList
  if byteLen s > 43 then none
  else if containsColonsAndDots s then none
  else match splitOnceSlash s with
    | some (a, p) =>
      match parseAddr a with
      | none => none
      | some (v6, addr) =>
        match (if v6 then parsePrefix p 128 3 else parsePrefix p 32 2) with
        | none => none
        | some pl => some (.ipaddr v6 addr pl)
    | none =>
      match parseAddr s with
      | none => none
      | some (v6, addr) => some (.ipaddr v6 addr (if v6 then 128 else 32))

def width (v6 : Bool) : Nat := if v6 then 128 else 32

/-- network address = addr with the host bits cleared; broadcast = addr with the host bits set -/
def network (v6 : Bool) (addr pl : Nat) : Nat := let h := 2 ^ (width v6 - pl); (addr / h) * h
def broadcast (v6 : Bool) (addr pl : Nat) : Nat := let h := 2 ^ (width v6 - pl); (addr / h) * h + (h - 1)

def isInRange (v6a : Bool) (a pa : Nat) (v6b : Bool) (b pb : Nat) : Bool :=
  v6a == v6b && decide (network v6b b pb ≤ network v6a a pa) && decide (broadcast v6a a pa ≤ broadcast v6b b pb)

def isLoopback (v6 : Bool) (addr pl : Nat) : Bool :=
  if v6 then addr == 1 && decide (pl ≥ 128) else addr / 2 ^ 24 == 127 && decide (pl ≥ 8)

def isMulticast (v6 : Bool) (addr pl : Nat) : Bool :=
  if v6 then addr / 2 ^ 120 == 255 && decide (pl ≥ 8) else addr / 2 ^ 28 == 14 && decide (pl ≥ 4)

end IPAddr

/-! ## datetime / duration -/
namespace Datetime

def isLeap (y : Nat) : Bool := (y % 4 == 0 && y % 100 != 0) || y % 400 == 0

def daysInMonth (y m : Nat) : Nat :=
  match m with
  | 1 => 31 | 2 => if isLeap y then 29 else 28 | 3 => 31 | 4 => 30 | 5 => 31 | 6 => 30
  | 7 => 31 | 8 => 31 | 9 => 30 | 10 => 31 | 11 => 30 | 12 => 31 | _ => 0

/-- days since 1970-01-01 of a proleptic-Gregorian civil date (Hinnant's `days_from_civil`) -/
def daysFromCivil (y m d : Nat) : Int :=
  let y' : Int := if m ≤ 2 then (y : Int) - 1 else y
  let era : Int := (if y' ≥ 0 then y' else y' - 399) / 400
  let yoe : Int := y' - era * 400
  let mp : Int := ((m : Int) + 9) % 12
  let doy : Int := (153 * mp + 2) / 5 + (d : Int) - 1
  let doe : Int := yoe * 365 + yoe / 4 - yoe / 100 + doy
  era * 146097 + doe - 719468

/-- take exactly `n` ASCII digits -/
def takeDigits : Nat → List Char → Option (List Char × List Char)
  | 0, s => some ([], s)
  | n + 1, c :: s => if isDigit c then match takeDigits n s with
      | some (ds, r) => some (c :: ds, r)
      | none => none
    else none
  | _ + 1, [] => none

def expect (c : Char) : List Char → Option (List Char)
  | c' :: r => if c == c' then some r else none
  | [] => none

def msPerDay : Int := 86400000

/-- `DATE_PATTERN` = `^([0-9]{4})-([0-9]{2})-([0-9]{2})` -/
def parseDate (s : List Char) : Option ((Nat × Nat × Nat) × List Char) :=
  match takeDigits 4 s with
  | none => none
  | some (ys, s) => match expect '-' s with
    | none => none
    | some s => match takeDigits 2 s with
      | none => none
      | some (ms, s) => match expect '-' s with
        | none => none
        | some s => match takeDigits 2 s with
          | none => none
          | some (ds, s) => some ((natOfDigits ys, natOfDigits ms, natOfDigits ds), s)

/-- `HMS_PATTERN` = `^T([0-9]{2}):([0-9]{2}):([0-9]{2})` -/
def parseHMS (s : List Char) : Option ((Nat × Nat × Nat) × List Char) :=
  match expect 'T' s with
  | none => none
  | some s => match takeDigits 2 s with
    | none => none
    | some (hs, s) => match expect ':' s with
      | none => none
      | some s => match takeDigits 2 s with
        | none => none
        | some (ms, s) => match expect ':' s with
          | none => none
          | some s => match takeDigits 2 s with
            | none => none
            | some (ss, s) => some ((natOfDigits hs, natOfDigits ms, natOfDigits ss), s)

/-- `(Z|((\+|-)([0-9]{2})([0-9]{2})))$`: returns (offset in seconds, offset valid?) -/
def parseOffset (s : List Char) : Option (Int × Bool) :=
  match s with
  | ['Z'] => some (0, true)
  | sign :: r =>
    if sign == '+' || sign == '-' then
      match takeDigits 2 r with
      | none => none
      | some (hh, r) => match takeDigits 2 r with
        | none => none
        | some (mm, r) =>
          if !r.isEmpty then none else
          let hh := natOfDigits hh; let mm := natOfDigits mm
          let secs : Int := ((hh * 3600 + mm * 60 : Nat) : Int)
          some (if sign == '+' then secs else -secs, decide (hh < 24) && decide (mm < 60))
    else none
  | [] => none

/-- `MS_AND_OFFSET_PATTERN` = `^(\.([0-9]{3}))?(Z|((\+|-)([0-9]{2})([0-9]{2})))$` -/
def parseMsOffset (s : List Char) : Option (Nat × Int × Bool) :=
  match s with
  | '.' :: r => match takeDigits 3 r with
    | none => none
    | some (m3, r) => match parseOffset r with
      | none => none
      | some (o, ok) => some (natOfDigits m3, o, ok)
  | _ => match parseOffset s with
    | none => none
    | some (o, ok) => some (0, o, ok)

def dateOk (y mo d : Nat) : Bool :=
  decide (1 ≤ mo) && decide (mo ≤ 12) && decide (1 ≤ d) && decide (d ≤ daysInMonth y mo)

/-- `parse_datetime`: date, optional `Thh:mm:ss` + `(.SSS)?(Z|(+|-)hhmm)` -/
def parse (str : String) : Option Int :=
  match parseDate str.toList with
  | none => none
  | some ((y, mo, d), s) =>
    if s.isEmpty then
      if dateOk y mo d then some (daysFromCivil y mo d * msPerDay) else none
    else match parseHMS s with
      | none => none
      | some ((h, mi, sec), s) => match parseMsOffset s with
        | none => none
        | some (msec, off, offOk) =>
          if !dateOk y mo d then none
          else if !(decide (h < 24) && decide (mi < 60) && decide (sec < 60)) then none
          else if !offOk then none
          else some (daysFromCivil y mo d * msPerDay + ((h * 3600 + mi * 60 + sec : Nat) : Int) * 1000
                      + (msec : Int) - off * 1000)

/-- Rust `%` (truncated remainder) -/
def toTime (epoch : Int) : Int :=
  if epoch < 0 then
    let rem := Int.tmod epoch msPerDay
    if rem == 0 then rem else rem + msPerDay
  else Int.tmod epoch msPerDay

/-- `checked_sub(epoch.checked_rem_euclid(DAY))` -/
def toDate (epoch : Int) : Option Int := checkedI64 (epoch - Int.emod epoch msPerDay)

def offset (epoch dur : Int) : Option Int := checkedI64 (epoch + dur)
def durationSince (a b : Int) : Option Int := checkedI64 (a - b)

end Datetime

namespace Duration

def u64Max : Nat := 18446744073709551615

/-- one optional `<digits><unit>` component; `unit` is the literal unit and `notS` handles `m` vs `ms` -/
def readUnit (unit : List Char) (notS : Bool) (s : List Char) : Option Nat × List Char :=
  let (ds, r) := Ext.spanDigits s
  if ds.isEmpty then (none, s)
  else if unit.isPrefixOf r then
    let r' := r.drop unit.length
    if notS && r'.head? == some 's' then (none, s) else (some (natOfDigits ds), r')
  else (none, s)

/-- `^-?([0-9]+d)?([0-9]+h)?([0-9]+m)?([0-9]+s)?([0-9]+ms)?$` with non-empty and not `"-"`;
    returns (neg, d, h, m, s, ms) with absent components as `none` -/
def split (s : List Char) : Option (Bool × Option Nat × Option Nat × Option Nat × Option Nat × Option Nat) :=
  if s.isEmpty || s == ['-'] then none else
  let (neg, r) := match s with | '-' :: r => (true, r) | r => (false, r)
  let (d, r) := readUnit ['d'] false r
  let (h, r) := readUnit ['h'] false r
  let (m, r) := readUnit ['m'] true r
  let (sec, r) := readUnit ['s'] false r
  let (ms, r) := readUnit ['m', 's'] false r
  if r.isEmpty then some (neg, d, h, m, sec, ms) else none

def getNumber : Option Nat → Option Nat
  | none => some 0
  | some n => if n ≤ u64Max then some n else none

def checkedOp (neg : Bool) (x : Int) (y : Nat) (mul : Int) : Option Int := do
  let y ← checkedI64 (y : Int)
  let p ← checkedI64 (y * mul)
  if neg then checkedI64 (x - p) else checkedI64 (x + p)

def arith (neg : Bool) (d h m sec ms : Option Nat) : Option Int := do
  let d ← getNumber d
  let h ← getNumber h
  let m ← getNumber m
  let sec ← getNumber sec
  let ms ← getNumber ms
  let acc ← checkedI64 (if neg then -(ms : Int) else ms)
  let acc ← checkedOp neg acc sec 1000
  let acc ← checkedOp neg acc m 60000
  let acc ← checkedOp neg acc h 3600000
  checkedOp neg acc d 86400000

def parse (str : String) : Option Int :=
  match split str.toList with
  | none => none
  | some (neg, d, h, m, sec, ms) => arith neg d h m sec ms

end Duration
end Ext

/-! ## dispatch (`Extensions::func` + `ExtensionFunction::call`) -/

inductive ErrClass where
  | type | entity | attr | overflow | ext | slot | residual
deriving Repr, DecidableEq, Inhabited

abbrev Result (α) := Except ErrClass α

def Value.asBool : Value → Result Bool
  | .prim (.bool b) => .ok b
  | _ => .error .type
def Value.asInt : Value → Result Int
  | .prim (.int i) => .ok i
  | _ => .error .type
def Value.asString : Value → Result String
  | .prim (.string s) => .ok s
  | _ => .error .type
def Value.asEntity : Value → Result EntityUID
  | .prim (.entityUID u) => .ok u
  | _ => .error .type
def Value.asSet : Value → Result (List Value)
  | .set vs => .ok vs
  | _ => .error .type

def Value.asDecimal : Value → Result Int
  | .ext (.decimal d) => .ok d
  | _ => .error .type
def Value.asDatetime : Value → Result Int
  | .ext (.datetime d) => .ok d
  | _ => .error .type
def Value.asDuration : Value → Result Int
  | .ext (.duration d) => .ok d
  | _ => .error .type

def optToExt {α} : Option α → Result α
  | some a => .ok a
  | none => .error .ext

def vbool (b : Bool) : Value := .prim (.bool b)
def vint (i : Int) : Value := .prim (.int i)

/-- names of the extension functions available with the default features -/
def extFnArity : String → Option Nat
  | "decimal" | "ip" | "datetime" | "duration" => some 1
  | "lessThan" | "lessThanOrEqual" | "greaterThan" | "greaterThanOrEqual" => some 2
  | "isIpv4" | "isIpv6" | "isLoopback" | "isMulticast" => some 1
  | "isInRange" => some 2
  | "offset" | "durationSince" => some 2
  | "toDate" | "toTime" | "toMilliseconds" | "toSeconds" | "toMinutes" | "toHours" | "toDays" => some 1
  | _ => none

def callExt1 (fn : String) (a : Value) : Result Value :=
  match fn with
  | "decimal" => do let s ← a.asString; let v ← optToExt (Ext.Decimal.parse s); .ok (.ext (.decimal v))
  | "ip" => do let s ← a.asString; let v ← optToExt (Ext.IPAddr.parse s); .ok (.ext v)
  | "datetime" => do let s ← a.asString; let v ← optToExt (Ext.Datetime.parse s); .ok (.ext (.datetime v))
  | "duration" => do let s ← a.asString; let v ← optToExt (Ext.Duration.parse s); .ok (.ext (.duration v))
  | "isIpv4" => match a with | .ext (.ipaddr v6 _ _) => .ok (vbool (!v6)) | _ => .error .type
  | "isIpv6" => match a with | .ext (.ipaddr v6 _ _) => .ok (vbool v6) | _ => .error .type
  | "isLoopback" => match a with | .ext (.ipaddr v6 ad p) => .ok (vbool (Ext.IPAddr.isLoopback v6 ad p)) | _ => .error .type
  | "isMulticast" => match a with | .ext (.ipaddr v6 ad p) => .ok (vbool (Ext.IPAddr.isMulticast v6 ad p)) | _ => .error .type
  | "toDate" => do let d ← a.asDatetime; let v ← optToExt (Ext.Datetime.toDate d); .ok (.ext (.datetime v))
  | "toTime" => do let d ← a.asDatetime; .ok (.ext (.duration (Ext.Datetime.toTime d)))
  | "toMilliseconds" => do let d ← a.asDuration; .ok (vint d)
  | "toSeconds" => do let d ← a.asDuration; .ok (vint (Int.tdiv d 1000))
  | "toMinutes" => do let d ← a.asDuration; .ok (vint (Int.tdiv (Int.tdiv d 1000) 60))
  | "toHours" => do let d ← a.asDuration; .ok (vint (Int.tdiv (Int.tdiv (Int.tdiv d 1000) 60) 60))
  | "toDays" => do let d ← a.asDuration; .ok (vint (Int.tdiv (Int.tdiv (Int.tdiv (Int.tdiv d 1000) 60) 60) 24))
  | _ => .error .ext

def callExt2 (fn : String) (a b : Value) : Result Value :=
  match fn with
  | "lessThan" => do let x ← a.asDecimal; let y ← b.asDecimal; .ok (vbool (decide (x < y)))
  | "lessThanOrEqual" => do let x ← a.asDecimal; let y ← b.asDecimal; .ok (vbool (decide (x ≤ y)))
  | "greaterThan" => do let x ← a.asDecimal; let y ← b.asDecimal; .ok (vbool (decide (x > y)))
  | "greaterThanOrEqual" => do let x ← a.asDecimal; let y ← b.asDecimal; .ok (vbool (decide (x ≥ y)))
  | "isInRange" =>
    match a, b with
    | .ext (.ipaddr v6a x pa), .ext (.ipaddr v6b y pb) => .ok (vbool (Ext.IPAddr.isInRange v6a x pa v6b y pb))
    | _, _ => .error .type
  | "offset" => do let d ← a.asDatetime; let u ← b.asDuration; let v ← optToExt (Ext.Datetime.offset d u); .ok (.ext (.datetime v))
  | "durationSince" => do let x ← a.asDatetime; let y ← b.asDatetime; let v ← optToExt (Ext.Datetime.durationSince x y); .ok (.ext (.duration v))
  | _ => .error .ext

/-- unknown function ⇒ lookup error (class `ext`); wrong arity ⇒ `WrongNumArguments` (class `ext`) -/
def callExt (fn : String) (args : List Value) : Result Value :=
  match extFnArity fn with
  | none => .error .ext
  | some n =>
    if args.length != n then .error .ext else
    match args with
    | [a] => callExt1 fn a
    | [a, b] => callExt2 fn a b
    | _ => .error .ext

end Cedar
