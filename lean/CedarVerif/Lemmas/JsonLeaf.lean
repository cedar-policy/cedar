import CedarVerif.Lemmas.ExtRenderScalar
import CedarVerif.Lemmas.JsonRoundTrip
/-
C10: where the JSON round trip meets the extension parsers — `LeafOK canonRepr` (= `ExtRoundTrip`) for duration, decimal and
datetime values, and for ipaddr values exactly when their canonical text parses back.
-/
namespace Cedar
namespace CJson
open Ext

theorem leaf_duration (ms : Int) (h : inI64 ms = true) : LeafOK canonRepr (.duration ms) :=
  ⟨_, rfl, rt_single "duration" _ _ validName_canon.2.2.2.1 (by decide) (callExt_duration ms h)⟩

theorem leaf_decimal (v : Int) (h : inI64 v = true) : LeafOK canonRepr (.decimal v) :=
  ⟨_, rfl, rt_single "decimal" _ _ validName_canon.1 (by decide) (callExt_decimal v h)⟩

theorem leaf_ip_of_parse (v6 : Bool) (a p : Nat)
    (h : IPAddr.parse (String.ofList (renderIp v6 a p)) = some (.ipaddr v6 a p)) :
    LeafOK canonRepr (.ipaddr v6 a p) :=
  ⟨_, rfl, rt_single "ip" _ _ validName_canon.2.1 (by decide) (by rw [(callExt_ctor _).2.1, h]; rfl)⟩

theorem not_leaf_ip_of_parse (v6 : Bool) (a p : Nat)
    (h : IPAddr.parse (String.ofList (renderIp v6 a p)) ≠ some (.ipaddr v6 a p)) :
    ¬ LeafOK canonRepr (.ipaddr v6 a p) := by
  rintro ⟨c, hc, _, _, _, e, he, v', hev, hb⟩
  cases Except.ok.inj ((fromValue_ext _).symm.trans hc)
  rw [intoExpr_call1 _ _ validName_canon.2.1] at he
  cases he
  rw [ev_call1, (callExt_ctor _).2.1] at hev
  cases hp : IPAddr.parse (String.ofList (renderIp v6 a p)) with
  | none => rw [hp] at hev; cases hev
  | some x =>
    rw [hp] at hev
    cases hev
    cases x <;> simp [Value.beq] at hb
    rename_i v6' a' p'
    exact h (by rw [hp]; simp [hb])

/-- datetimes: `offset(datetime("1970-01-01"), duration("<ms>ms"))` -/
theorem leaf_datetime (ms : Int) (h : inI64 ms = true) : LeafOK canonRepr (.datetime ms) := by
  refine ⟨.extnMulti "offset" [.extnSingle "datetime" (.str "1970-01-01"),
    .extnSingle "duration" (.str (String.ofList (renderDuration ms)))], rfl, ?_, ?_, ?_, .call "offset" [.call "datetime" [.lit (.string "1970-01-01")],
    .call "duration" [.lit (.string (String.ofList (renderDuration ms)))]], ?_, .ext (.datetime ms), ?_, Value.beq_rfl _⟩
  · simp [CJ.toJson, CJ.toJsonList, rawOk, rawOkKVs, rawOkList, hasDup]
  · simp [CJ.toJson, CJ.toJsonList, CJ.ofRaw, CJ.ofRawKVs, CJ.ofRawList, sortKVs, insertKV, CJ.mkRecord, lookupKV]
  · simp [CJ.callsUnknown, CJ.callsUnknownList]
  · simp [CJ.intoExpr, CJ.intoExprList, validName_canon, bind, Except.bind]
  · have hoff := callExt_offset_epoch ms h
    simp [ev, evaluate, evaluateList, callExt_epoch, callExt_duration ms h, hoff]

end CJson
end Cedar

