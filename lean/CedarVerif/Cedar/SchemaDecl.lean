import CedarVerif.Cedar.SchemaSyntax
/-
C09, declaration level: STANDARD ENTITY DECLARATIONS of the Cedar schema syntax as data, the printer of fmt.rs
(`impl Display for json_schema::StandardEntityType` preceded by `entity <name>` and followed by `;` as written by
`NamespaceDefinition`'s `Display`) and the parser of grammar.lalrpop

    Entity   := 'entity' Idents ['in' EntTypes] [['='] '{' [AttrDecls] '}'] ['tags' Type] ';'
    Idents   := Ident {',' Ident}                      (NonEmptyComma: no trailing comma)
    EntTypes := Path | '[' [Path {',' Path}] ']'       (Comma: no trailing comma)

over the token type of `Cedar/SchemaSyntax.lean` (`;`, `=`, `[`, `]` are `Tok.other`; keywords are identifier tokens).
The shape is the attribute-declaration list of a record type (`AttrsC`: name, required?, type — optional fields are `?`),
`memberOf` a list of qualified names, `tags` an optional type.  Import-free (only model files).
A declared name `__cedar` is refused as to_json_schema.rs does (`UnreservedId`).
Not in this file: enum entities, action / common-type / namespace declarations (Cedar/SchemaDecl2.lean), annotations
(Cedar/SchemaAnnot.lean); outside the model: the lexer.
-/
namespace Cedar.SchemaSyntax

/-- `StandardEntityDecl` (cedar_schema/ast.rs) / `json_schema::StandardEntityType` with its names -/
structure EntityDecl where
  names : List String
  memberOf : List QName
  attrs : AttrsC
  tags : Option TyCedar

def tSemi : Tok := .other ";"
def tEq : Tok := .other "="
def tLbrack : Tok := .other "["
def tRbrack : Tok := .other "]"

/-- `fmt_non_empty_slice` without the brackets: `head, e, e` -/
def printNames : List QName → List Tok
  | [] => []
  | [q] => printName q
  | q :: rest => printName q ++ .comma :: printNames rest

def printIdents : List String → List Tok
  | [] => []
  | [s] => [.id s]
  | s :: rest => .id s :: .comma :: printIdents rest

/-- fmt.rs: ` in [..]` only for a non-empty `member_of_types` -/
def printInPart : List QName → List Tok
  | [] => []
  | ms => .id "in" :: tLbrack :: printNames ms ++ [tRbrack]

/-- ` = {..}` only for a non-empty record ("Don't print `= { }`") -/
def printShapePart : AttrsC → List Tok
  | .nil => []
  | as => tEq :: printC (.record as)

/-- ` tags T` when present -/
def printTagsPart : Option TyCedar → List Tok
  | none => []
  | some t => .id "tags" :: printC t

def printEntity (d : EntityDecl) : List Tok :=
  .id "entity" :: (printIdents d.names ++ (printInPart d.memberOf ++ (printShapePart d.attrs ++ (printTagsPart d.tags ++ [tSemi]))))

/-- `Idents` -/
def parseIdents : List Tok → Option (List String × List Tok)
  | .id s :: .comma :: r =>
    if validId s then
      match parseIdents r with
      | some (ns, r') => some (s :: ns, r')
      | none => none
    else none
  | .id s :: r => if validId s then some ([s], r) else none
  | _ => none

/-- `Path {',' Path} ']'` (at least one path; fuel bounds the number of paths) -/
def parsePathsTail : Nat → List Tok → Option (List QName × List Tok)
  | 0, _ => none
  | fuel + 1, .id s :: r =>
    match parsePath s r with
    | some (.ident q, .comma :: r') =>
      (match parsePathsTail fuel r' with
        | some (qs, r'') => some (q :: qs, r'')
        | none => none)
    | some (.ident q, .other "]" :: r') => some ([q], r')
    | _ => none
  | _ + 1, _ => none

/-- `EntTypes` -/
def parseEntTypes (fuel : Nat) : List Tok → Option (List QName × List Tok)
  | .other "[" :: .other "]" :: r => some ([], r)
  | .other "[" :: r => parsePathsTail fuel r
  | .id s :: r =>
    match parsePath s r with
    | some (.ident q, r') => some ([q], r')
    | _ => none
  | _ => none

/-- `['in' EntTypes]` -/
def parseInPart (fuel : Nat) (r1 : List Tok) : Option (List QName × List Tok) :=
  match r1 with
  | .id "in" :: r' => parseEntTypes fuel r'
  | _ => some ([], r1)

/-- `[['='] '{' [AttrDecls] '}']` (an absent block and `{}` both give the empty shape) -/
def parseShapePart (fuel : Nat) (r2 : List Tok) : Option (AttrsC × List Tok) :=
  match r2 with
  | .other "=" :: .lb :: r' =>
    (match parseC fuel (.lb :: r') with
      | some (.record as, r'') => some (as, r'')
      | _ => none)
  | .lb :: r' =>
    (match parseC fuel (.lb :: r') with
      | some (.record as, r'') => some (as, r'')
      | _ => none)
  | .other "=" :: _ => none
  | _ => some (AttrsC.nil, r2)

/-- `['tags' Type]` -/
def parseTagsPart (fuel : Nat) (r3 : List Tok) : Option (Option TyCedar × List Tok) :=
  match r3 with
  | .id "tags" :: r' =>
    (match parseC fuel r' with
      | some (t, r'') => some (some t, r'')
      | none => none)
  | _ => some (none, r3)

/-- `Entity` (standard form) -/
def parseEntity (fuel : Nat) : List Tok → Option (EntityDecl × List Tok)
  | .id "entity" :: r =>
    match parseIdents r with
    | none => none
    | some (names, r1) =>
      match parseInPart fuel r1 with
      | none => none
      | some (memberOf, r2) =>
        match parseShapePart fuel r2 with
        | none => none
        | some (attrs, r3) =>
          match parseTagsPart fuel r3 with
          | some (tags, .other ";" :: r5) =>
            -- to_json_schema.rs `convert_id`: a declared name must be an `UnreservedId` (`__cedar` is refused: `reserved_name`)
            if names.contains "__cedar" then none else some ({ names, memberOf, attrs, tags }, r5)
          | _ => none
  | _ => none

/-- parse one complete declaration -/
def parseEntityDecl (toks : List Tok) : Option EntityDecl :=
  match parseEntity (toks.length + 1) toks with
  | some (d, []) => some d
  | _ => none

/-! ## the JSON side: `json_schema::StandardEntityType` (one entry of `entityTypes`) -/

structure EntityTypeJ where
  memberOf : List QName
  shape : AttrsJ            -- the attributes of the `shape` record type (BTreeMap order)
  tags : Option TyJson

/-- JSON → Cedar (fmt.rs prints one declaration per entity type) -/
def EntityTypeJ.toDecl (name : String) (e : EntityTypeJ) : EntityDecl :=
  { names := [name], memberOf := e.memberOf, attrs := toCedarAttrs e.shape, tags := e.tags.map toCedar }

/-- Cedar → JSON (to_json_schema.rs: one `entityTypes` entry per declared name, all with the same body) -/
def EntityDecl.toJsonTypes (d : EntityDecl) : List (String × EntityTypeJ) :=
  d.names.map (fun n => (n, { memberOf := d.memberOf, shape := collectJ .nil d.attrs, tags := d.tags.map toJson }))

end Cedar.SchemaSyntax
