import CedarVerif.Lemmas.BatchedBudget
import CedarVerif.Lemmas.TpeDecision
import CedarVerif.Lemmas.TpeEmpty
/- C15 helpers: TPE soundness AT THE STATES OF THE LOOP, derived from C14's `interpret_typeSafe` and `eval_pad`
   (missing ≡ empty): the store loaded so far is completed by the real store padded with empty entities for the ids
   that were loaded as missing; every residual of a state evaluates on such a completion like the typed condition it
   started from. -/
namespace Cedar.Batched
open Cedar Cedar.Tpe

def Faithful (loader : Loader) (es : Entities) : Prop := ∀ ids u d, (u, d) ∈ loader ids → d = es.find? u

def LoadedFrom (es : Entities) (pes : Tpe.PEntities) : Prop := ∀ u p, pes.find? u = some p → p = pentityOf (es.find? u)

theorem loadedFrom_nil (es : Entities) : LoadedFrom es [] := by
  intro u p h; simp [Tpe.PEntities.find?] at h

theorem addLoaded_loadedFrom {es : Entities} {pes pes' : Tpe.PEntities} {l : List (EntityUID × Option EntityData)}
    (h0 : LoadedFrom es pes) (hl : ∀ u d, (u, d) ∈ l → d = es.find? u) (h : addLoaded pes l = some pes') : LoadedFrom es pes' := by
  induction l generalizing pes with
  | nil => simp only [addLoaded, Option.some.injEq] at h; subst h; exact h0
  | cons a l ih =>
    obtain ⟨k, d⟩ := a
    simp only [addLoaded] at h
    split at h
    · cases h
    · refine ih ?_ (fun u d hm => hl u d (by simp [hm])) h
      intro u p hp
      rw [find?_append] at hp
      cases hf : Tpe.PEntities.find? pes u with
      | some p' =>
        rw [hf] at hp; simp only [Option.some.injEq] at hp; subst hp; exact h0 u p' hf
      | none =>
        rw [hf] at hp
        simp only [Tpe.PEntities.find?] at hp
        split at hp
        · rename_i hk
          have hk' : k = u := by simpa using hk
          subst hk'
          simp only [Option.some.injEq] at hp
          rw [← hp, hl k d (by simp)]
        · cases hp

theorem addLoaded_sub {pes pes' : Tpe.PEntities} {l : List (EntityUID × Option EntityData)} (h : addLoaded pes l = some pes') :
    ∀ u p, pes.find? u = some p → pes'.find? u = some p := by
  induction l generalizing pes with
  | nil => simp only [addLoaded, Option.some.injEq] at h; subst h; exact fun _ _ hp => hp
  | cons a l ih =>
    obtain ⟨k, d⟩ := a
    simp only [addLoaded] at h
    split at h
    · cases h
    · intro u p hp
      exact ih h u p (by rw [find?_append, hp])

/-- the store that completes a loaded partial store: `es`, and the empty entity for every loaded id that `es` lacks -/
def padStore (es : Entities) (pes : Tpe.PEntities) : Entities :=
  es ++ (pes.filter (fun x => (es.find? x.1).isNone)).map (fun x => (x.1, emptyData))

theorem efind?_append (a b : Entities) (u : EntityUID) :
    Entities.find? (a ++ b) u = (match Entities.find? a u with | some d => some d | none => Entities.find? b u) := by
  simp only [Entities.find?_eq_assoc, assoc?_append]
  cases assoc? a u <;> rfl

theorem efind?_allEmpty (L : Entities) (hL : ∀ x, x ∈ L → x.2 = emptyData) (u : EntityUID) :
    Entities.find? L u = none ∨ Entities.find? L u = some emptyData := by
  induction L with
  | nil => left; rfl
  | cons x L ih =>
    obtain ⟨k, d⟩ := x
    simp only [Entities.find?]
    split
    · right; have := hL (k, d) (by simp); simp only at this; rw [this]
    · exact ih (fun x hx => hL x (by simp [hx]))

theorem pad_hit (es : Entities) (pes : Tpe.PEntities) (u : EntityUID) (p : PEntity) (hp : pes.find? u = some p)
    (hn : es.find? u = none) :
    Entities.find? ((pes.filter (fun x => (es.find? x.1).isNone)).map (fun x => (x.1, emptyData))) u = some emptyData := by
  rw [Entities.find?_eq_assoc, assoc?_map (fun _ _ => emptyData), assoc?_filter (fun x => (es.find? x).isNone), hn,
    ← Tpe.PEntities.find?_eq_assoc, hp]
  rfl

theorem padStore_pads (es : Entities) (pes : Tpe.PEntities) : PadsEmpty es (padStore es pes) := by
  intro u
  unfold padStore
  rw [efind?_append]
  cases hf : Entities.find? es u with
  | some d => left; rfl
  | none =>
    simp only
    rcases efind?_allEmpty ((pes.filter (fun x => (es.find? x.1).isNone)).map (fun x => (x.1, emptyData)))
      (by intro x hx; obtain ⟨y, _, rfl⟩ := List.mem_map.mp hx; rfl) u with h | h
    · left; exact h
    · right; exact ⟨trivial, h⟩

theorem loaded_cases {es : Entities} {pes : Tpe.PEntities} (hL : LoadedFrom es pes) {u : EntityUID} {p : PEntity}
    (hp : pes.find? u = some p) :
    ∃ d, (padStore es pes).find? u = some d ∧ p = ⟨some d.attrs, some d.ancestors, some d.tags⟩ := by
  have hpe := hL u p hp
  unfold padStore
  rw [efind?_append]
  cases hf : Entities.find? es u with
  | some d => exact ⟨d, rfl, by rw [hpe, hf]; rfl⟩
  | none =>
    simp only
    rw [pad_hit es pes u p hp hf]
    exact ⟨emptyData, rfl, by rw [hpe, hf]; rfl⟩

theorem completes_nil (q : Request) (E : Entities) : Completes (prequestOf q) [] q E where
  principal := by intro u h; simp only [prequestOf, PUid.uid?, Option.map_some, Option.some.injEq] at h; rw [← h]
  resource := by intro u h; simp only [prequestOf, PUid.uid?, Option.map_some, Option.some.injEq] at h; rw [← h]
  ptype := rfl
  rtype := rfl
  action := rfl
  context := by intro c h; simp only [prequestOf, Option.some.injEq] at h; exact h
  attrs := by intro u a h; simp [Tpe.PEntities.attrs?, Tpe.PEntities.find?] at h
  ancestors := by intro u a h; simp [Tpe.PEntities.ancestors?, Tpe.PEntities.find?] at h
  tags := by intro u a h; simp [Tpe.PEntities.tags?, Tpe.PEntities.find?] at h

theorem component_pad {α : Type} {es : Entities} {pes : Tpe.PEntities} (hL : LoadedFrom es pes) {u : EntityUID}
    {f : PEntity → Option α} {a : α} (h : (pes.find? u).bind f = some a) :
    ∃ d, (padStore es pes).find? u = some d ∧ f ⟨some d.attrs, some d.ancestors, some d.tags⟩ = some a := by
  cases hp : pes.find? u with
  | none => rw [hp] at h; cases h
  | some p =>
    obtain ⟨d, hd, rfl⟩ := loaded_cases hL hp
    rw [hp] at h
    exact ⟨d, hd, h⟩

theorem completes_pad {es : Entities} {pes : Tpe.PEntities} (hL : LoadedFrom es pes) (q : Request) :
    Completes (prequestOf q) pes q (padStore es pes) :=
  { completes_nil q (padStore es pes) with
    attrs := fun _ _ h => let ⟨d, hd, e⟩ := component_pad hL h; ⟨d, hd, Option.some.inj e⟩
    ancestors := fun _ _ h => let ⟨d, hd, e⟩ := component_pad hL h; ⟨d, hd, fun _ => by rw [← Option.some.inj e]⟩
    tags := fun _ _ h => let ⟨d, hd, e⟩ := component_pad hL h; ⟨d, hd, Option.some.inj e⟩ }

theorem component_mono {α : Type} {pes pes' : Tpe.PEntities} (hsub : ∀ u p, pes.find? u = some p → pes'.find? u = some p)
    {u : EntityUID} {f : PEntity → Option α} {a : α} (h : (pes.find? u).bind f = some a) : (pes'.find? u).bind f = some a := by
  cases hp : pes.find? u with
  | none => rw [hp] at h; cases h
  | some p => rw [hsub u p hp]; rw [hp] at h; exact h

theorem completes_mono {preq : Tpe.PRequest} {pes pes' : Tpe.PEntities} {req : Request} {E : Entities}
    (hsub : ∀ u p, pes.find? u = some p → pes'.find? u = some p) (h : Completes preq pes' req E) : Completes preq pes req E where
  principal := h.principal
  resource := h.resource
  ptype := h.ptype
  rtype := h.rtype
  action := h.action
  context := h.context
  attrs := fun u a ha => h.attrs u a (component_mono hsub ha)
  ancestors := fun u a ha => h.ancestors u a (component_mono hsub ha)
  tags := fun u a ha => h.tags u a (component_mono hsub ha)

/-- a residual policy of a state stems from a typed input policy `tp`; its residual is an output of `interpret` for the
    store of the state, and on every completion of that store (a padding of `es` with empty entities) it evaluates like
    the residual `r0` the typed condition started as, and is type-safe -/
def Tracked (q : Request) (es : Entities) (tps : List TPolicy) (st : State) (rp : ResidualPolicy) : Prop :=
  ∃ tp r0, tp ∈ tps ∧ Residual.ofExpr tp.typed = some r0 ∧ rp.original = tp.policy ∧ rp.effect = tp.policy.effect ∧
    rp.id = tp.policy.id ∧ (∃ r, rp.residual = interpret (prequestOf q) st.entities r) ∧
    ∀ E, PadsEmpty es E → Completes (prequestOf q) st.entities q E →
      Agree (rp.residual.eval q E) (r0.eval q E) ∧ TypeSafe q E rp.residual

structure SInv (q : Request) (es : Entities) (tps : List TPolicy) (st : State) : Prop where
  loaded : LoadedFrom es st.entities
  pols : st.residuals.map (·.original) = tps.map (·.policy)
  tracked : ∀ rp, rp ∈ st.residuals → Tracked q es tps st rp

theorem sinv_init {q : Request} {es : Entities} {tps : List TPolicy} (hT : TypedSafe q es tps) {st0 : State}
    (h0 : initState (prequestOf q) tps = some st0) : SInv q es tps st0 := by
  obtain ⟨rs, hm, rfl⟩ := initState_some h0
  refine ⟨loadedFrom_nil es, mapM?_map (fun tp rp hf => by obtain ⟨_, _, rfl⟩ := residualPolicyOf_some hf; rfl) hm, ?_⟩
  intro rp hrp
  obtain ⟨tp, htp, hf⟩ := (mapM?_spec hm).2 rp hrp
  obtain ⟨r0, ho, rfl⟩ := residualPolicyOf_some hf
  refine ⟨tp, r0, htp, ho, rfl, rfl, rfl, ⟨r0, rfl⟩, ?_⟩
  intro E hpad hC
  exact interpret_typeSafe hC (typeSafe_pad hpad (hT tp htp r0 ho))

theorem sinv_step {q : Request} {es : Entities} {tps : List TPolicy} {loader : Loader} (hF : Faithful loader es)
    {st st' : State} (hi : SInv q es tps st) (hs : step (prequestOf q) loader st = some st') : SInv q es tps st' := by
  obtain ⟨es2, ha, rfl⟩ := step_some hs
  refine ⟨addLoaded_loadedFrom hi.loaded (fun u d hm => hF _ u d hm) ha, ?_, ?_⟩
  · simp only [List.map_map]
    rw [← hi.pols]
    apply List.map_congr_left
    intro rp _; rfl
  · intro rp' hrp'
    simp only [List.mem_map] at hrp'
    obtain ⟨rp, hrp, rfl⟩ := hrp'
    obtain ⟨tp, r0, htp, ho, h1, h2, h3, _, hall⟩ := hi.tracked rp hrp
    refine ⟨tp, r0, htp, ho, h1, h2, h3, ⟨rp.residual, rfl⟩, ?_⟩
    intro E hpad hC
    obtain ⟨hag, hts⟩ := hall E hpad (completes_mono (addLoaded_sub ha) hC)
    have := interpret_typeSafe hC hts
    exact ⟨agree_trans this.1 hag, this.2⟩

theorem sinv_agree {q : Request} {es : Entities} {tps : List TPolicy} (hE : TypedAgrees q es tps) {st : State}
    (hi : SInv q es tps st) {rp : ResidualPolicy} (hrp : rp ∈ st.residuals) :
    Agree (rp.residual.eval q (padStore es st.entities)) (evaluate q es rp.original.env rp.original.condition) := by
  obtain ⟨tp, r0, htp, ho, h1, _, _, _, hall⟩ := hi.tracked rp hrp
  have hpad := padStore_pads es st.entities
  obtain ⟨hag, _⟩ := hall _ hpad (completes_pad hi.loaded q)
  have h2 : Agree (r0.eval q (padStore es st.entities)) (r0.eval q es) := eval_pad hpad r0
  rw [ofExpr_eval (es := es) tp.typed r0 ho] at h2
  rw [h1]
  exact agree_trans hag (agree_trans h2 (hE tp htp))

theorem sinv_sound {q : Request} {es : Entities} {tps : List TPolicy} (hE : TypedAgrees q es tps) {st : State}
    (hi : SInv q es tps st) : ∀ rp, rp ∈ st.residuals → rp.residual.cls.Consistent (rp.original.outcome q es) :=
  fun _ hrp => cls_consistent_of_agree (sinv_agree hE hi hrp)

theorem sinv_wf {q : Request} {es : Entities} {tps : List TPolicy} {st : State} (hi : SInv q es tps st) :
    ∀ rp, rp ∈ st.residuals → rp.effect = rp.original.effect ∧ rp.id = rp.original.id := by
  intro rp hrp
  obtain ⟨tp, r0, _, _, h1, h2, h3, _, _⟩ := hi.tracked rp hrp
  rw [h1]; exact ⟨h2, h3⟩

end Cedar.Batched
