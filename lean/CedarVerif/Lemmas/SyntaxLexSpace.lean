import CedarVerif.Cedar.Syntax.Lex
/-
C05, lexer.  `lex` of a token list written with ARBITRARY separators (blanks, `//` comments ending in a line break, or
nothing at all where the next character cannot extend the token) gives the token list back (`lex_respace`).
`render` (single spaces) and the tightest spacing (`minSep`) are instances.
-/
namespace Cedar.Syntax

def stopC (p : Char → Bool) : List Char → Bool
  | [] => true
  | d :: _ => !p d

theorem spanC_stop (p : Char → Bool) : ∀ (a : List Char) (R : List Char), (∀ x ∈ a, p x = true) → stopC p R = true →
    spanC p (a ++ R) = (a, R)
  | [], [], _, _ => rfl
  | [], d :: R, _, hR => by
    simp only [stopC, Bool.not_eq_true'] at hR
    simp [spanC, hR]
  | x :: a, R, ha, hR => by
    have ih := spanC_stop p a R (fun y hy => ha y (by simp [hy])) hR
    simp [spanC, ha x (by simp), ih]

theorem digitChar_facts : ∀ k : Fin 10, isDig (Nat.digitChar k) = true ∧ (Nat.digitChar k).toNat - 48 = k.val := by decide

theorem digitsVal_snoc (l : List Char) (c : Char) : digitsVal (l ++ [c]) = digitsVal l * 10 + (c.toNat - 48) := by
  simp [digitsVal, List.foldl_append]

theorem toDigits_facts (n : Nat) : digitsVal (Nat.toDigits 10 n) = n ∧ ∀ c ∈ Nat.toDigits 10 n, isDig c = true := by
  induction n using Nat.strongRecOn with
  | _ n ih =>
    rw [Nat.toDigits_eq_if (by decide)]
    split
    · rename_i hlt
      have := digitChar_facts ⟨n, hlt⟩
      refine ⟨?_, ?_⟩
      · simp only [digitsVal, List.foldl_cons, List.foldl_nil, Nat.zero_mul, Nat.zero_add]; exact this.2
      · intro c hc; simp only [List.mem_singleton] at hc; subst hc; exact this.1
    · rename_i hge
      obtain ⟨h1, h2⟩ := ih (n / 10) (by omega)
      have := digitChar_facts ⟨n % 10, Nat.mod_lt _ (by omega)⟩
      refine ⟨?_, ?_⟩
      · rw [digitsVal_snoc, h1, this.2]; simp only; omega
      · intro c hc
        rcases List.mem_append.mp hc with hc | hc
        · exact h2 c hc
        · simp only [List.mem_singleton] at hc; subst hc; exact this.1

def plainC (c : Char) : Bool := c != '"' && c != '\\'

theorem rawOK_plain_cons {c : Char} (h : plainC c = true) (b : List Char) : rawOK (c :: b) = rawOK b := by
  simp only [plainC, Bool.and_eq_true, bne_iff_ne, ne_eq] at h
  conv => lhs; unfold rawOK
  simp only [h.1, h.2, if_false]

theorem rawOK_plain_append : ∀ (a b : List Char), (∀ x ∈ a, plainC x = true) → rawOK (a ++ b) = rawOK b
  | [], _, _ => rfl
  | c :: a, b, h => by
    rw [List.cons_append, rawOK_plain_cons (h c (by simp)), rawOK_plain_append a b (fun x hx => h x (by simp [hx]))]

theorem rawOK_esc2 {d : Char} (hd : d ≠ '\n') (b : List Char) : rawOK ('\\' :: d :: b) = rawOK b := by
  conv => lhs; unfold rawOK
  simp [hd]

theorem strBody_raw (raw R : List Char) (h : rawOK raw = true) : strBody (raw ++ '"' :: R) = some (raw, R) := by
  fun_induction rawOK raw with
  | case1 => unfold strBody; simp
  | case2 cs => cases h
  | case3 _ => cases h
  | case4 d ds _ ih =>
    simp only [Bool.and_eq_true, bne_iff_ne, ne_eq] at h
    simp only [List.cons_append, strBody, h.1, ih h.2, if_false, if_true, Option.map_some, Char.reduceEq]
  | case5 c cs hq hb ih =>
    rw [List.cons_append]
    unfold strBody
    simp only [hq, hb, ih h, if_false, Option.map_some]

theorem rawOK_append : ∀ (k : Nat) (a b : List Char), a.length ≤ k → rawOK a = true → rawOK b = true → rawOK (a ++ b) = true := by
  intro k a b hk ha hb
  clear hk
  fun_induction rawOK a with
  | case1 => exact hb
  | case2 cs => cases ha
  | case3 _ => cases ha
  | case4 d ds _ ih =>
    simp only [Bool.and_eq_true, bne_iff_ne, ne_eq] at ha
    rw [List.cons_append, List.cons_append, rawOK_esc2 ha.1]; exact ih ha.2
  | case5 c cs hq hbs ih =>
    rw [List.cons_append, rawOK_plain_cons (by simp [plainC, hq, hbs])]; exact ih ha

/-- the text `R` that follows token `t` cannot extend it under longest match (a `/` after `/` would open a comment) -/
def stopsTok (t : Token) (R : List Char) : Bool :=
  match t with
  | .ident _ | .slot _ => stopC isIdCont R
  | .num _ => stopC isDig R
  | .colon => stopC (· = ':') R
  | .eq | .bang | .lt | .gt => stopC (· = '=') R
  | .slash => stopC (· = '/') R
  | _ => true

/-- token-level form: `t'` may follow `t` without a separator -/
def NoGlue (t t' : Token) : Bool := stopsTok t (tokChars t')

theorem stopsTok_append (t : Token) {a : List Char} (h : a ≠ []) (b : List Char) : stopsTok t (a ++ b) = stopsTok t a := by
  cases a with
  | nil => exact absurd rfl h
  | cons c cs => cases t <;> rfl

/- `lexStep` returns `t` exactly on `w ++ R` for a spelling `w` of `t` (`Lexeme`) that `R` does not extend: `lexStep_sound` cuts the
spelling off, `lexStep_complete` is longest match.  The punctuation arms `punct1` / `punct2` are `if`-chains over a variable character;
they ARE lookups in a table (`punct1_eq`, by `rfl`), so an arm is inverted by `firstMatch_some` and what holds of every entry is
evaluated on the table. -/

def firstMatch {ι κ α : Type} (m : ι → κ → Prop) [∀ i k, Decidable (m i k)] : List (κ × α) → ι → Option α
  | [], _ => none
  | (k, v) :: l, i => if m i k then some v else firstMatch m l i

theorem firstMatch_some {ι κ α : Type} {m : ι → κ → Prop} [∀ i k, Decidable (m i k)] {i : ι} {v : α} :
    ∀ {l : List (κ × α)}, firstMatch m l i = some v → ∃ k, (k, v) ∈ l ∧ m i k
  | (k, v') :: l, h => by
    unfold firstMatch at h
    split at h
    · cases h; exact ⟨k, List.mem_cons_self, ‹_›⟩
    · obtain ⟨k', hk, hm⟩ := firstMatch_some h
      exact ⟨k', List.mem_cons_of_mem _ hk, hm⟩

def punct1Table : List (Char × Token) :=
  [('@', .at), ('.', .dot), (',', .comma), (';', .semi), (':', .colon), ('(', .lparen), (')', .rparen), ('{', .lbrace),
   ('}', .rbrace), ('[', .lbrack), (']', .rbrack), ('<', .lt), ('>', .gt), ('+', .plus), ('-', .minus), ('*', .star),
   ('/', .slash), ('%', .percent), ('!', .bang), ('=', .eq)]

def punct2Table : List ((Char × Char) × Token) :=
  [((':', ':'), .dcolon), (('=', '='), .eqeq), (('!', '='), .neq), (('<', '='), .le), (('>', '='), .ge), (('|', '|'), .oror),
   (('&', '&'), .andand)]

theorem punct1_eq (c : Char) : punct1 c = firstMatch (fun c k => c = k) punct1Table c := rfl

theorem punct2_eq (c d : Char) :
    punct2 c d = firstMatch (fun (i k : Char × Char) => i.1 = k.1 ∧ i.2 = k.2) punct2Table (c, d) := rfl

theorem punct1_mem {c : Char} {t : Token} (h : punct1 c = some t) : (c, t) ∈ punct1Table := by
  obtain ⟨k, hk, rfl⟩ := firstMatch_some (punct1_eq c ▸ h)
  exact hk

theorem punct2_mem {c d : Char} {t : Token} (h : punct2 c d = some t) : ((c, d), t) ∈ punct2Table := by
  obtain ⟨k, hk, h1, h2⟩ := firstMatch_some (punct2_eq c d ▸ h)
  cases h1; cases h2
  exact hk

/-- a first character that only the comment / blank / punctuation arms of `lexStep` look at -/
def otherCls (c : Char) : Bool := !isIdStart c && !isDig c && c != '"' && c != '?'

theorem lexStep_other {c : Char} (h : otherCls c = true) (cs : List Char) :
    lexStep c cs = if isCommentStart c cs then .skip (spanC (fun x => !(x = '\n' || x = '\r')) cs).2
      else if isWs c then .skip cs else punctStep c cs := by
  simp only [otherCls, Bool.and_eq_true, Bool.not_eq_true', bne_iff_ne, ne_eq] at h
  obtain ⟨⟨⟨h1, h2⟩, h3⟩, h4⟩ := h
  unfold lexStep
  simp only [h1, h2, h3, h4, Bool.false_eq_true, if_false]

/-- every one-character entry: only the last arms of `lexStep` see its key, and the token does not stop before a second character
that makes a two-character entry, or `//`, of it (which is all `stopsTok` has to know about punctuation) -/
theorem punct1Table_facts : ∀ e ∈ punct1Table, otherCls e.1 = true ∧ isWs e.1 = false ∧ TokOK e.2 = true ∧
    (∀ q ∈ punct2Table, q.1.1 = e.1 → stopsTok e.2 [q.1.2] = false) ∧ (e.1 = '/' → stopsTok e.2 ['/'] = false) := by
  decide +kernel

theorem punct2Table_facts : ∀ e ∈ punct2Table, otherCls e.1.1 = true ∧ isWs e.1.1 = false ∧ TokOK e.2 = true ∧
    (e.1.1 = '/' && e.1.2 = '/') = false := by
  decide +kernel

theorem spanC_spec (p : Char → Bool) : ∀ cs, (spanC p cs).1 ++ (spanC p cs).2 = cs ∧ ∀ x ∈ (spanC p cs).1, p x = true
  | [] => ⟨rfl, fun _ hx => nomatch hx⟩
  | c :: cs => by
    unfold spanC
    split
    · exact ⟨congrArg (c :: ·) (spanC_spec p cs).1, List.forall_mem_cons.mpr ⟨‹_›, (spanC_spec p cs).2⟩⟩
    · exact ⟨rfl, fun _ hx => nomatch hx⟩

theorem strBody_sound {cs raw R : List Char} (h : strBody cs = some (raw, R)) : rawOK raw = true ∧ cs = raw ++ '"' :: R := by
  fun_induction strBody cs generalizing raw with
  | case1 => cases h
  | case2 cs => cases h; exact ⟨rfl, rfl⟩
  | case3 _ => cases h
  | case4 cs _ => cases h
  | case5 d ds hd _ ih =>
    obtain ⟨⟨raw', R'⟩, hr, he⟩ := Option.map_eq_some_iff.mp h
    cases he
    obtain ⟨h1, rfl⟩ := ih hr
    exact ⟨(rawOK_esc2 hd raw').trans h1, rfl⟩
  | case6 c cs hq hb ih =>
    obtain ⟨⟨raw', R'⟩, hr, he⟩ := Option.map_eq_some_iff.mp h
    cases he
    obtain ⟨h1, rfl⟩ := ih hr
    exact ⟨(rawOK_plain_cons (by simp [plainC, hq, hb]) raw').trans h1, rfl⟩

/-- `w` is a text the lexer reads as the token `t` (numbers: any digit string of that value) -/
inductive Lexeme : Token → List Char → Prop
  | ident {l : List Char} : isIdentChars l = true → Lexeme (.ident (String.ofList l)) l
  | num {w : List Char} : w ≠ [] → (∀ x ∈ w, isDig x = true) → Lexeme (.num (digitsVal w)) w
  | str {raw : List Char} : rawOK raw = true → Lexeme (.str raw) ('"' :: (raw ++ ['"']))
  | slot {l : List Char} : isIdentChars l = true → Lexeme (.slot (String.ofList ('?' :: l))) ('?' :: l)
  | one {c : Char} {t : Token} : punct1 c = some t → Lexeme t [c]
  | two {c d : Char} {t : Token} : punct2 c d = some t → Lexeme t [c, d]

theorem Lexeme.tokOK {t : Token} {w : List Char} (h : Lexeme t w) : TokOK t = true := by
  cases h with
  | ident h => simp only [TokOK, String.toList_ofList, h]
  | num _ _ => rfl
  | str h => exact h
  | slot h => simp only [TokOK, String.toList_ofList, h, decide_true, Bool.and_self]
  | one h => exact (punct1Table_facts _ (punct1_mem h)).2.2.1
  | two h => exact (punct2Table_facts _ (punct2_mem h)).2.2.1

theorem lexeme_tokChars {t : Token} (h : TokOK t = true) : Lexeme t (tokChars t) := by
  cases t with
  | ident s =>
    have := Lexeme.ident (l := s.toList) h
    rwa [String.ofList_toList] at this
  | num n =>
    have := Lexeme.num (w := Nat.toDigits 10 n) Nat.toDigits_ne_nil (toDigits_facts n).2
    rwa [(toDigits_facts n).1] at this
  | str raw => exact .str h
  | slot s =>
    simp only [TokOK] at h
    split at h
    · simp only [Bool.and_eq_true, decide_eq_true_eq] at h
      rename_i d ds hs
      have := Lexeme.slot h.2
      rwa [← h.1, ← hs, String.ofList_toList] at this
    · cases h
  | dcolon | eqeq | neq | le | ge | oror | andand => exact .two rfl
  | _ => exact .one rfl

theorem Lexeme.ne_nil {t : Token} {w : List Char} (h : Lexeme t w) : w ≠ [] := by
  intro hw
  induction h with
  | ident hid => rw [hw] at hid; cases hid
  | num hne _ => exact hne hw
  | str _ | slot _ | one _ | two _ => cases hw

theorem char_le_toNat (a b : Char) : a ≤ b ↔ a.toNat ≤ b.toNat := Iff.rfl

theorem isDig_not_idStart {c : Char} (h : isDig c = true) : isIdStart c = false := by
  simp only [isDig, Bool.and_eq_true, decide_eq_true_eq, char_le_toNat] at h
  have e0 : ('0' : Char).toNat = 48 := by decide
  have e9 : ('9' : Char).toNat = 57 := by decide
  have : c ≠ '_' := by rintro rfl; revert h; decide
  simp only [isIdStart, this, decide_false, Bool.false_or, Bool.or_eq_false_iff, Bool.and_eq_false_iff, decide_eq_false_iff_not,
    char_le_toNat, show ('a' : Char).toNat = 97 by decide, show ('A' : Char).toNat = 65 by decide]
  omega

-- `fun_cases f …` gives one goal per arm of `f`, with the call replaced by what the arm returns; an arm that does not return a
-- token leaves `h : … = .tok t R` absurd and is closed by `cases h`
theorem punctStep_sound {c : Char} {cs R : List Char} {t : Token} (h : punctStep c cs = .tok t R) :
    ∃ w, Lexeme t w ∧ c :: cs = w ++ R := by
  revert h
  fun_cases punctStep c cs <;> intro h <;> try (cases h; done)
  -- `c d` is a two-character token
  case case1 d ds t' h2 => cases h; exact ⟨_, .two h2, rfl⟩
  -- it is not, or nothing follows `c`: a one-character token
  case case2 d ds _ t' h1 | case4 t' h1 => cases h; exact ⟨_, .one h1, rfl⟩

theorem lexStep_sound {c : Char} {cs R : List Char} {t : Token} (h : lexStep c cs = .tok t R) :
    ∃ w, Lexeme t w ∧ c :: cs = w ++ R := by
  revert h
  fun_cases lexStep c cs <;> intro h <;> try (cases h; done)
  -- identifier
  case case1 h1 =>
    obtain ⟨rfl, rfl⟩ := LexStep.tok.inj h
    refine ⟨_, .ident ?_, congrArg (c :: ·) (spanC_spec _ cs).1.symm⟩
    simp only [isIdentChars, h1, Bool.true_and, List.all_eq_true]
    exact (spanC_spec _ cs).2
  -- number
  case case2 _ h2 =>
    obtain ⟨rfl, rfl⟩ := LexStep.tok.inj h
    exact ⟨c :: (spanC isDig cs).1, .num (List.cons_ne_nil _ _) (List.forall_mem_cons.mpr ⟨h2, (spanC_spec _ cs).2⟩),
      congrArg (c :: ·) (spanC_spec _ cs).1.symm⟩
  -- string literal
  case case3 _ _ hq raw rest hb =>
    obtain ⟨rfl, rfl⟩ := LexStep.tok.inj h
    obtain ⟨hr, rfl⟩ := strBody_sound hb
    exact ⟨_, .str hr, by rw [hq]; simp⟩
  -- slot
  case case5 _ _ _ hq d ds hd =>
    obtain ⟨rfl, rfl⟩ := LexStep.tok.inj h
    subst hq
    refine ⟨_, .slot ?_, congrArg (fun x => '?' :: d :: x) (spanC_spec _ ds).1.symm⟩
    simp only [isIdentChars, hd, Bool.true_and, List.all_eq_true]
    exact (spanC_spec _ ds).2
  -- punctuation
  case case10 => exact punctStep_sound h

/-- longest match -/
theorem lexStep_complete {t : Token} {c : Char} {w R : List Char} (h : Lexeme t (c :: w)) (hR : stopsTok t R = true) :
    lexStep c (w ++ R) = .tok t R := by
  cases h with
  | ident hid =>
    simp only [isIdentChars, Bool.and_eq_true, List.all_eq_true] at hid
    unfold lexStep
    simp only [hid.1, if_true, spanC_stop isIdCont w R hid.2 hR]
  | num _ hd =>
    have hc := hd c List.mem_cons_self
    unfold lexStep
    simp only [isDig_not_idStart hc, hc, Bool.false_eq_true, if_false, if_true,
      spanC_stop isDig w R (fun x hx => hd x (List.mem_cons_of_mem _ hx)) hR]
  | @str raw hraw =>
    unfold lexStep
    simp only [List.append_assoc, List.cons_append, List.nil_append, show isIdStart '"' = false by decide,
      show isDig '"' = false by decide, Bool.false_eq_true, if_false, if_true, strBody_raw raw R hraw]
  | slot hid =>
    cases w with
    | nil => cases hid
    | cons d a =>
      simp only [isIdentChars, Bool.and_eq_true, List.all_eq_true] at hid
      unfold lexStep
      simp only [show isIdStart '?' = false by decide, show isDig '?' = false by decide, show ('?' = '"') = False by decide,
        Bool.false_eq_true, if_false, if_true, List.cons_append, hid.1, spanC_stop isIdCont a R hid.2 hR]
  | one h1 =>
    obtain ⟨ho, hws, -, hg, hsl⟩ := punct1Table_facts _ (punct1_mem h1)
    rw [List.nil_append, lexStep_other ho, hws]
    cases R with
    | nil => simp [isCommentStart, punctStep, h1]
    | cons d ds =>
      -- `t` stops before `d`, so `c d` is neither a two-character token nor `//`
      have hd : stopsTok t [d] = true := (stopsTok_append t (List.cons_ne_nil d []) ds).symm.trans hR
      have h2 : punct2 c d = none := by
        cases h2 : punct2 c d with
        | none => rfl
        | some t' => exact absurd (hg _ (punct2_mem h2) rfl) (by simp [hd])
      have hc : isCommentStart c (d :: ds) = false := by
        cases hc : isCommentStart c (d :: ds) with
        | false => rfl
        | true =>
          simp only [isCommentStart, Bool.and_eq_true, decide_eq_true_eq] at hc
          obtain ⟨rfl, rfl⟩ := hc
          exact absurd (hsl rfl) (by simp [hd])
      simp [hc, punctStep, h2, h1]
  | two h2 =>
    obtain ⟨ho, hws, -, hc⟩ := punct2Table_facts _ (punct2_mem h2)
    rw [lexStep_other ho, hws]
    simp [isCommentStart, punctStep, h2, hc]

theorem lexFuel_tokOK : ∀ (f : Nat) (cs : List Char) (ts : List Token), lexFuel f cs = some ts → ∀ t ∈ ts, TokOK t = true
  | _ + 1, [], _, h => by cases h; exact fun _ ht => nomatch ht
  | f + 1, c :: cs, ts, h => by
    simp only [lexFuel] at h
    split at h
    · exact lexFuel_tokOK f _ ts h
    · rename_i t rest hst
      obtain ⟨ts', hr, rfl⟩ := Option.map_eq_some_iff.mp h
      obtain ⟨w, hw, -⟩ := lexStep_sound hst
      exact List.forall_mem_cons.mpr ⟨hw.tokOK, lexFuel_tokOK f _ ts' hr⟩
    · cases h

theorem isWs_range {c : Char} (h : isWs c = true) : c.toNat ≤ 32 ∨ 133 ≤ c.toNat := by
  simp only [isWs, Bool.or_eq_true, Bool.and_eq_true, decide_eq_true_eq, beq_iff_eq] at h
  omega

/-- a blank is none of the printable ASCII characters `!`…`~` the lexer tests for -/
theorem isWs_ne {c : Char} (h : isWs c = true) (d : Char) (h1 : 32 < d.toNat) (h2 : d.toNat < 133) : c ≠ d := by
  intro hc; subst hc; have := isWs_range h; omega

theorem isWs_not_idCont {c : Char} (h : isWs c = true) : isIdCont c = false := by
  have hr := isWs_range h
  simp only [isIdCont, isIdStart, Bool.or_eq_false_iff, Bool.and_eq_false_iff, decide_eq_false_iff_not, char_le_toNat]
  have : ('a' : Char).toNat = 97 := by decide
  have : ('z' : Char).toNat = 122 := by decide
  have : ('A' : Char).toNat = 65 := by decide
  have : ('Z' : Char).toNat = 90 := by decide
  have : ('0' : Char).toNat = 48 := by decide
  have : ('9' : Char).toNat = 57 := by decide
  refine ⟨⟨⟨isWs_ne h '_' (by decide) (by decide), ?_⟩, ?_⟩, ?_⟩ <;> omega

theorem lexStep_ws {c : Char} (h : isWs c = true) (cs : List Char) : lexStep c cs = .skip cs := by
  have hid := isWs_not_idCont h
  simp only [isIdCont, Bool.or_eq_false_iff] at hid
  have e3 := isWs_ne h '"' (by decide) (by decide)
  have e4 := isWs_ne h '?' (by decide) (by decide)
  have e5 : isCommentStart c cs = false := by simp [isCommentStart, isWs_ne h '/' (by decide) (by decide)]
  unfold lexStep
  simp only [hid.1, show isDig c = false from hid.2, e3, e4, e5, h, Bool.false_eq_true, if_false, if_true]

theorem lexStep_comment (body : List Char) (R : List Char) (hb : ∀ x ∈ body, (x = '\n' || x = '\r') = false)
    (hR : stopC (fun x => !(x = '\n' || x = '\r')) R = true) : lexStep '/' ('/' :: (body ++ R)) = .skip R := by
  have hs := spanC_stop (fun x => !(decide (x = '\n') || decide (x = '\r'))) ('/' :: body) R
    (List.forall_mem_cons.mpr ⟨by decide, fun x hx => by simp only [hb x hx, Bool.not_false]⟩) hR
  rw [lexStep_other (by decide), if_pos (by simp [isCommentStart])]
  exact congrArg (fun p => LexStep.skip p.2) hs

/-- text the lexer skips between two tokens: Unicode blanks and `//` comments closed by a line break -/
inductive Filler : List Char → Prop
  | nil : Filler []
  | ws {c : Char} {s : List Char} : isWs c = true → Filler s → Filler (c :: s)
  | comment {body s : List Char} (nl : Char) : (∀ x ∈ body, (x = '\n' || x = '\r') = false) → (nl = '\n' ∨ nl = '\r') →
      Filler s → Filler ('/' :: '/' :: (body ++ nl :: s))

theorem lexFuel_filler {s : List Char} (hs : Filler s) : ∀ (R : List Char) (f : Nat), (s ++ R).length < f →
    ∃ f', R.length < f' ∧ lexFuel f (s ++ R) = lexFuel f' R := by
  induction hs with
  | nil => intro R f hf; exact ⟨f, hf, rfl⟩
  | ws hc _ ih =>
    intro R f hf
    obtain ⟨f1, rfl⟩ : ∃ f1, f = f1 + 1 := ⟨f - 1, by simp at hf; omega⟩
    obtain ⟨f', h1, h2⟩ := ih R f1 (by simp at hf ⊢; omega)
    exact ⟨f', h1, by simp only [List.cons_append, lexFuel, lexStep_ws hc, h2]⟩
  | @comment body s nl hb hnl _ ih =>
    intro R f hf
    simp only [List.cons_append, List.append_assoc, List.length_cons, List.length_append] at hf
    obtain ⟨f1, rfl⟩ : ∃ f1, f = f1 + 2 := ⟨f - 2, by omega⟩
    obtain ⟨f', h1, h2⟩ := ih R f1 (by simp; omega)
    have hws : isWs nl = true := by rcases hnl with rfl | rfl <;> decide
    have hst : stopC (fun x => !(x = '\n' || x = '\r')) (nl :: (s ++ R)) = true := by
      rcases hnl with rfl | rfl <;> simp [stopC]
    refine ⟨f', h1, ?_⟩
    simp only [List.cons_append, List.append_assoc, lexFuel, lexStep_comment body _ hb hst, lexStep_ws hws, h2]

def respaceGo : List (Token × List Char) → List Char
  | [] => []
  | (t, s) :: r => tokChars t ++ (s ++ respaceGo r)

def Spaced : List (Token × List Char) → Prop
  | [] => True
  | (t, s) :: r => TokOK t = true ∧ Filler s ∧ stopsTok t (s ++ respaceGo r) = true ∧ Spaced r

theorem lexFuel_respaceGo : ∀ (tss : List (Token × List Char)), Spaced tss → ∀ f, (respaceGo tss).length < f →
    lexFuel f (respaceGo tss) = some (tss.map Prod.fst)
  | [], _, f, hf => by
    obtain ⟨f', rfl⟩ : ∃ f', f = f' + 1 := ⟨f - 1, by omega⟩
    rfl
  | (t, s) :: r, ⟨hok, hs, hst, hr⟩, f, hf => by
    have hlx := lexeme_tokChars hok
    obtain ⟨c, cs, hc⟩ := List.exists_cons_of_ne_nil hlx.ne_nil
    rw [hc] at hlx
    simp only [respaceGo, hc, List.length_cons, List.length_append, List.cons_append] at hf ⊢
    obtain ⟨f1, rfl⟩ : ∃ f1, f = f1 + 1 := ⟨f - 1, by omega⟩
    obtain ⟨f', h1, h2⟩ := lexFuel_filler hs (respaceGo r) f1 (by simp; omega)
    have ih := lexFuel_respaceGo r hr f' h1
    simp only [lexFuel, lexStep_complete hlx hst, h2, ih, Option.map_some, List.map_cons]

theorem lex_respace (lead : List Char) (hl : Filler lead) (tss : List (Token × List Char)) (h : Spaced tss) :
    lex (lead ++ respaceGo tss) = some (tss.map Prod.fst) := by
  obtain ⟨f', h1, h2⟩ := lexFuel_filler hl (respaceGo tss) _ (Nat.lt_succ_self _)
  unfold lex
  rw [h2]
  exact lexFuel_respaceGo tss h f' h1

theorem stopsTok_ws (t : Token) {c : Char} (h : isWs c = true) (R : List Char) : stopsTok t (c :: R) = true := by
  have hid := isWs_not_idCont h
  have hdig : isDig c = false := by simp only [isIdCont, Bool.or_eq_false_iff] at hid; exact hid.2
  unfold stopsTok
  split <;> simp [stopC, hid, hdig, isWs_ne h ':' (by decide) (by decide), isWs_ne h '=' (by decide) (by decide),
    isWs_ne h '/' (by decide) (by decide)]

def renderWith (sep : Token → Token → List Char) : List Token → List Char
  | [] => []
  | [t] => tokChars t
  | t :: t' :: ts => tokChars t ++ (sep t t' ++ renderWith sep (t' :: ts))

def pairsWith (sep : Token → Token → List Char) : List Token → List (Token × List Char)
  | [] => []
  | [t] => [(t, [])]
  | t :: t' :: ts => (t, sep t t') :: pairsWith sep (t' :: ts)

/-- an admissible separator choice: skippable text, and it (or, when empty, the next token) does not extend the token before -/
def SepFine (sep : Token → Token → List Char) : Prop :=
  ∀ t t', TokOK t = true → TokOK t' = true → Filler (sep t t') ∧ stopsTok t (sep t t' ++ tokChars t') = true

theorem pairsWith_fst (sep : Token → Token → List Char) : ∀ ts, (pairsWith sep ts).map Prod.fst = ts
  | [] => rfl
  | [_] => rfl
  | t :: t' :: ts => by simp only [pairsWith, List.map_cons, pairsWith_fst sep (t' :: ts)]

theorem respaceGo_pairsWith (sep : Token → Token → List Char) : ∀ ts, respaceGo (pairsWith sep ts) = renderWith sep ts
  | [] => rfl
  | [t] => by simp [pairsWith, respaceGo, renderWith]
  | t :: t' :: ts => by simp only [pairsWith, respaceGo, renderWith, respaceGo_pairsWith sep (t' :: ts)]

theorem spaced_pairsWith (sep : Token → Token → List Char) (hs : SepFine sep) : ∀ ts, (∀ t ∈ ts, TokOK t = true) →
    Spaced (pairsWith sep ts)
  | [], _ => trivial
  | [t], h => ⟨h t (by simp), .nil, by cases t <;> rfl, trivial⟩
  | t :: t' :: ts, h => by
    have h1 := h t (by simp)
    have h2 := h t' (by simp)
    obtain ⟨hf, hst⟩ := hs t t' h1 h2
    refine ⟨h1, hf, ?_, spaced_pairsWith sep hs (t' :: ts) (fun x hx => h x (by simp [hx]))⟩
    obtain ⟨c, cs, hc⟩ := List.exists_cons_of_ne_nil (lexeme_tokChars h2).ne_nil
    rw [respaceGo_pairsWith]
    have hr : ∃ rest, renderWith sep (t' :: ts) = tokChars t' ++ rest := by
      cases ts with
      | nil => exact ⟨[], by simp [renderWith]⟩
      | cons t'' ts => exact ⟨_, rfl⟩
    obtain ⟨rest, hr⟩ := hr
    rw [hr, ← List.append_assoc, stopsTok_append t (by simp [hc])]
    exact hst

def minSep (t t' : Token) : List Char := if NoGlue t t' then [] else [' ']

theorem sepFine_minSep : SepFine minSep := by
  intro t t' _ _
  unfold minSep
  split
  · rename_i h; exact ⟨.nil, h⟩
  · exact ⟨.ws (by decide) .nil, stopsTok_ws t (by decide) _⟩

theorem sepFine_space : SepFine (fun _ _ => [' ']) :=
  fun t _ _ _ => ⟨.ws (by decide) .nil, stopsTok_ws t (by decide) _⟩

theorem lex_renderWith (sep : Token → Token → List Char) (hs : SepFine sep) (ts : List Token) (h : ∀ t ∈ ts, TokOK t = true) :
    lex (renderWith sep ts) = some ts := by
  have := lex_respace [] .nil (pairsWith sep ts) (spaced_pairsWith sep hs ts h)
  rwa [List.nil_append, respaceGo_pairsWith, pairsWith_fst] at this

theorem renderWith_space : ∀ ts, renderWith (fun _ _ => [' ']) ts = render ts
  | [] => rfl
  | [t] => (List.append_nil _).symm
  | t :: t' :: ts => by
    have ih := renderWith_space (t' :: ts)
    simp only [render] at ih
    simp only [renderWith, render, renderTail, ih, List.singleton_append]

theorem lex_render (ts : List Token) (h : ∀ t ∈ ts, TokOK t = true) : lex (render ts) = some ts := by
  rw [← renderWith_space]
  exact lex_renderWith _ sepFine_space ts h

end Cedar.Syntax
