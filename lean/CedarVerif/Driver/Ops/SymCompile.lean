import CedarVerif.Util.Sexp
import CedarVerif.Driver.Codec
import CedarVerif.Cedar.SymCompile
/- Driver op of C18 (compiler fragment): `(symc REQ (etys ETY…) EXPR)`,
   REQ = `(req p a r (ctx …))`, ETY = `(std "Type")` (standard entity type: every eid valid) | `(enum "Type" "eid"…)`
   (enumerated / action type: `SymEntityData::members`), EXPR in the expression grammar.
   Reply: the term `Cedar.SymC.compile` produces on the literal environment, which must be a folded literal option term:
     (some (b true)) | (some (i 3)) | (some (s "x")) | (some (e "T" "id")) | (none) | (reject) (= CompileError::TypeError)
   Second form `(symc REQ (etys …) (ctxty ("attr" req|opt bool|long|string|(entity "T"))…) EXPR)` (attributes sorted by
   name): the context term is `ctxTermOf REQ.context ctxty` (= `Term::from_value`), the fragment is `SFrag3` (tested by
   `inFrag3`): `SFrag2` (+ `context`, `e.a`, `e has a`, `like`, `is`; `(some (rec))` is printed for a folded record term)
   and set literals, `contains containsAll containsAny isEmpty`, set `==`;
   a folded set term is printed `(some (set ELT…))` with the element encodings sorted as strings (canonical on both sides).
   `(outside-model)` for expressions outside the fragment of the form (`SFrag` / `SFrag3`); `(nonliteral)` would be a diff:
   it cannot be printed for the first form (theorem `compile_correct_fragment`) nor for an expression of `SFrag2` in the
   second (`compile_correct_fragment2`); for expressions with sets no theorem says so. -/
namespace CedarVerif.Ops.SymCompileOp
open CedarVerif Cedar Cedar.SymC

def decEty : Sexp → Option (EntityType × Option (List String))
  | .list [.atom "std", .str ty] => some (ty, none)
  | .list (.atom "enum" :: .str ty :: ids) => do
    let ids ← ids.mapM Sexp.asStr?
    some (ty, some ids)
  | _ => none

def encPrimTerm : TermPrim → String
  | .bool b => encValue (.prim (.bool b))
  | .bitvec bv => encValue (.prim (.int bv.toInt))
  | .string s => encValue (.prim (.string s))
  | .entity u => encValue (.prim (.entityUID u))

def decCtxAttrTy : Sexp → Option CtxAttrTy
  | .atom "bool" => some .bool
  | .atom "long" => some .long
  | .atom "string" => some .string
  | .list [.atom "entity", .str ty] => some (.entity ty)
  | _ => none

def decCtxAttr : Sexp → Option (String × CtxAttrTy × Bool)
  | .list [.str a, .atom "req", ty] => do let ty ← decCtxAttrTy ty; some (a, ty, true)
  | .list [.str a, .atom "opt", ty] => do let ty ← decCtxAttrTy ty; some (a, ty, false)
  | _ => none

def encElt : Term → String
  | .prim p => encPrimTerm p
  | _ => "(nonprim)"

def encFolded : CResult → String
  | .ok (.some (.setNil _)) => "(some (set))"
  | .ok (.some (.setCons t rest)) =>
    "(some (set" ++ String.join ((sortStrings ((t :: setElts rest).map encElt)).map (" " ++ ·)) ++ "))"
  | .ok (.some (.prim p)) => "(some " ++ encPrimTerm p ++ ")"
  | .ok (.some .recNil) => "(some (rec))"
  | .ok (.some (.recCons _ _ _)) => "(some (rec))"
  | .error .noSuchAttr => "(reject)"
  | .ok (.none _) => "(none)"
  | .ok _ => "(nonliteral)"
  | .error .typeError => "(reject)"
  | .error .unsupported => "(reject)"
  | .error .outside => "(outside-model)"

def handleSymC (x : Sexp) : Option String :=
  match x with
  | .list [.atom "symc", req, .list (.atom "etys" :: etys), e] =>
    match decRequest req, etys.mapM decEty, decExpr e with
    | some req, some etys, some e =>
      if inFrag e then some (encFolded (compile (litEnv req etys) e)) else some "(outside-model)"
    | _, _, _ => some "(bad-op)"
  | .list [.atom "symc", req, .list (.atom "etys" :: etys), .list (.atom "ctxty" :: attrs), e] =>
    match decRequest req, etys.mapM decEty, attrs.mapM decCtxAttr, decExpr e with
    | some req, some etys, some attrs, some e =>
      if inFrag3 e then
        match ctxTermOf req.context attrs with
        | some ctxT => some (encFolded (compile (litEnv2 req etys ctxT) e))
        | none => some "(outside-model)"
      else some "(outside-model)"
    | _, _, _, _ => some "(bad-op)"
  | _ => none

end CedarVerif.Ops.SymCompileOp
