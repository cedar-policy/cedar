import CedarVerif.Lemmas.ExtDigits
/-
Datetime / duration arithmetic: truncated vs Euclidean division, `toTime`, `toDate`, and the calendar
function `daysFromCivil`.
-/
namespace Cedar.Ext.Datetime

/-! ### truncated division / remainder in terms of the Euclidean ones (which `omega` understands) -/

theorem tmod_neg' (a b : Int) (ha : a ≤ 0) : Int.tmod a b = -((-a) % b) := by
  have : a = -(-a) := by omega
  rw [this, Int.neg_tmod, Int.tmod_eq_emod_of_nonneg (by omega)]; simp
theorem tdiv_neg' (a b : Int) (ha : a ≤ 0) : Int.tdiv a b = -((-a) / b) := by
  have : a = -(-a) := by omega
  rw [this, Int.neg_tdiv, Int.tdiv_eq_ediv_of_nonneg (by omega)]; simp

theorem tdiv_trunc (d n : Int) (hn : 0 < n) :
    (0 ≤ d → Int.tdiv d n * n ≤ d ∧ d < (Int.tdiv d n + 1) * n) ∧
    (d ≤ 0 → (Int.tdiv d n - 1) * n < d ∧ d ≤ Int.tdiv d n * n) := by
  constructor
  · intro h
    rw [Int.tdiv_eq_ediv_of_nonneg h]
    have h1 := Int.ediv_mul_le d (Int.ne_of_gt hn)
    have h2 := Int.lt_ediv_add_one_mul_self d hn
    exact ⟨h1, h2⟩
  · intro h
    rw [tdiv_neg' d n h]
    have h1 := Int.ediv_mul_le (-d) (Int.ne_of_gt hn)
    have h2 := Int.lt_ediv_add_one_mul_self (-d) hn
    generalize (-d) / n = p at *
    have e1 : (p + 1) * n = p * n + n := by rw [Int.add_mul, Int.one_mul]
    have e2 : (-p - 1) * n = -(p * n) - n := by rw [Int.sub_mul, Int.neg_mul, Int.one_mul]
    have e3 : -p * n = -(p * n) := Int.neg_mul _ _
    rw [e2, e3]; rw [e1] at h2
    omega

theorem tdiv_tdiv (d a b : Int) (ha : 0 < a) :
    Int.tdiv (Int.tdiv d a) b = Int.tdiv d (a * b) := by
  by_cases h : 0 ≤ d
  · rw [Int.tdiv_eq_ediv_of_nonneg h, Int.tdiv_eq_ediv_of_nonneg h,
      Int.tdiv_eq_ediv_of_nonneg (Int.ediv_nonneg h (Int.le_of_lt ha))]
    exact Int.ediv_ediv_of_nonneg (Int.le_of_lt ha)
  · have h' : d ≤ 0 := by omega
    have hp : 0 ≤ -d / a := Int.ediv_nonneg (by omega) (Int.le_of_lt ha)
    rw [tdiv_neg' d a h', tdiv_neg' d (a * b) h', tdiv_neg' _ b (by omega), Int.neg_neg]
    rw [Int.ediv_ediv_of_nonneg (Int.le_of_lt ha)]

/-- the Rust case distinction on the sign computes the Euclidean remainder -/
theorem toTime_eq_emod (t : Int) : toTime t = t % 86400000 := by
  unfold toTime msPerDay
  split
  · rw [tmod_neg' t _ (by omega)]
    dsimp only
    split
    · rename_i h; have : -(-t % 86400000) = 0 := by simpa using h
      omega
    · rename_i h; have : -(-t % 86400000) ≠ 0 := by simpa using h
      omega
  · rw [Int.tmod_eq_emod_of_nonneg (by omega)]

theorem toDate_eq (t : Int) : toDate t = checkedI64 (t / 86400000 * 86400000) := by
  unfold toDate msPerDay
  have : t - Int.emod t 86400000 = t / 86400000 * 86400000 := by
    show t - t % 86400000 = t / 86400000 * 86400000
    omega
  rw [this]

/-! ### the calendar

Hinnant's formula counts in internal years that start in March, so that the leap day comes last.  Everything about
`daysFromCivil` follows from one fact about consecutive months, `monthStart_succ`. -/

/-- days from the internal origin (0000-03-01) to March 1 of the internal year `y'` -/
def yearStart (y' : Int) : Int :=
  let era : Int := (if y' ≥ 0 then y' else y' - 399) / 400
  let yoe : Int := y' - era * 400
  era * 146097 + (yoe * 365 + yoe / 4 - yoe / 100)

/-- internal year of a civil (year, month) -/
def internalYear (y m : Nat) : Int := if m ≤ 2 then (y : Int) - 1 else y

/-- month of the internal year: March = 0, …, February = 11 -/
def monthIdx (m : Nat) : Int := ((m : Int) + 9) % 12

/-- days of the internal year before its month `p` -/
def cum (p : Int) : Int := (153 * p + 2) / 5

/-- days from the internal origin to the first of the month -/
def monthStart (y m : Nat) : Int := yearStart (internalYear y m) + cum (monthIdx m)

theorem daysFromCivil_eq (y m d : Nat) : daysFromCivil y m d = monthStart y m + (d : Int) - 719469 := by
  have : daysFromCivil y m d = yearStart (internalYear y m) + (cum (monthIdx m) + (d : Int) - 1) - 719468 := by
    simp only [daysFromCivil, yearStart, internalYear, monthIdx, cum]
    rw [Int.add_assoc (_ * 146097)]
    rfl
  rw [this, monthStart]
  omega

theorem dateOk_iff (y m d : Nat) :
    dateOk y m d = true ↔ 1 ≤ m ∧ m ≤ 12 ∧ 1 ≤ d ∧ d ≤ daysInMonth y m := by
  simp [dateOk, and_assoc]

theorem daysInMonth_le (y m : Nat) : daysInMonth y m ≤ 31 := by
  unfold daysInMonth
  split <;> (try split) <;> omega

theorem daysInMonth_eq (y m : Nat) (hm : m ≠ 2) : daysInMonth y m = daysInMonth 0 m := by
  unfold daysInMonth
  split <;> try rfl
  exact absurd rfl hm

theorem daysInMonth_ge (y m : Nat) (h1 : 1 ≤ m) (h2 : m ≤ 12) : 28 ≤ daysInMonth y m := by
  by_cases hm : m = 2
  · subst hm; simp only [daysInMonth]; split <;> decide
  · rw [daysInMonth_eq y m hm]
    exact (by decide : ∀ m ≤ 12, 1 ≤ m → 28 ≤ daysInMonth 0 m) m h2 h1

theorem yearStart_eq (y : Int) (h : -1 ≤ y) : yearStart y = 365 * y + y / 4 - y / 100 + y / 400 := by
  by_cases h0 : y = -1
  · subst h0; decide
  · have hp : y ≥ 0 := by omega
    simp only [yearStart, if_pos hp]
    generalize hq : y / 400 = q
    generalize hr : y - q * 400 = r
    have hr0 : 0 ≤ r ∧ r < 400 := by omega
    have hy : y = 400 * q + r := by omega
    subst hy
    have e4 : (400 * q + r) / 4 = 100 * q + r / 4 := by omega
    have e100 : (400 * q + r) / 100 = 4 * q + r / 100 := by omega
    rw [e4, e100]
    generalize r / 4 = a
    generalize r / 100 = b
    omega

/-- an internal year has 365 days, 366 when the February at its end lies in a leap year -/
theorem yearStart_succ (y : Nat) :
    yearStart y = yearStart ((y : Int) - 1) + 365 + (if isLeap y then 1 else 0) := by
  rw [yearStart_eq _ (by omega), yearStart_eq _ (by omega)]
  simp only [isLeap, Bool.or_eq_true, Bool.and_eq_true, beq_iff_eq, bne_iff_ne, ne_eq]
  split <;> omega

def nextMonth (y m : Nat) : Nat × Nat := if m < 12 then (y, m + 1) else (y + 1, 1)

theorem nextMonth_spec (y m : Nat) (h1 : 1 ≤ m) (h2 : m ≤ 12) :
    1 ≤ (nextMonth y m).2 ∧ (nextMonth y m).2 ≤ 12 ∧ 12 * (nextMonth y m).1 + (nextMonth y m).2 = 12 * y + m + 1 := by
  unfold nextMonth
  split <;> (dsimp only; omega)

/-- the table behind Hinnant's formula: the months of the internal year have the lengths of the civil months, and February,
    the last one, ends where the next internal year starts -/
theorem monthStart_succ (y m : Nat) (h1 : 1 ≤ m) (h2 : m ≤ 12) :
    monthStart (nextMonth y m).1 (nextMonth y m).2 = monthStart y m + daysInMonth y m := by
  by_cases hm : m = 2
  · subst hm
    show monthStart y 3 = _
    unfold monthStart
    rw [show internalYear y 3 = (y : Int) from rfl, show internalYear y 2 = (y : Int) - 1 from rfl,
      show cum (monthIdx 3) = 0 from rfl, show cum (monthIdx 2) = 337 from rfl, yearStart_succ y]
    simp only [daysInMonth]
    cases isLeap y <;> simp only [Bool.false_eq_true, if_false, if_true] <;> omega
  · have table : ∀ m ≤ 12, 1 ≤ m → m ≠ 2 →
        cum (monthIdx (nextMonth 0 m).2) = cum (monthIdx m) + daysInMonth 0 m := by decide
    have ey : internalYear (nextMonth y m).1 (nextMonth y m).2 = internalYear y m := by
      unfold nextMonth internalYear
      split <;> (dsimp only; split <;> split <;> omega)
    have em : (nextMonth y m).2 = (nextMonth 0 m).2 := by unfold nextMonth; split <;> rfl
    unfold monthStart
    rw [ey, em, table m h2 h1 hm, daysInMonth_eq y m hm]
    omega

theorem monthStart_le : ∀ (n y1 m1 y2 m2 : Nat), 1 ≤ m1 → m1 ≤ 12 → 12 * y1 + m1 + n = 12 * y2 + m2 → 1 ≤ m2 → m2 ≤ 12 →
    monthStart y1 m1 ≤ monthStart y2 m2
  | 0, y1, m1, y2, m2, _, _, h, _, _ => by
    obtain ⟨rfl, rfl⟩ : y1 = y2 ∧ m1 = m2 := by omega
    exact Int.le_refl _
  | n + 1, y1, m1, y2, m2, a1, a2, h, b1, b2 => by
    obtain ⟨c1, c2, c3⟩ := nextMonth_spec y1 m1 a1 a2
    have hs := monthStart_succ y1 m1 a1 a2
    have := monthStart_le n (nextMonth y1 m1).1 (nextMonth y1 m1).2 y2 m2 c1 c2 (by omega) b1 b2
    omega

def nextDay (y m d : Nat) : Nat × Nat × Nat :=
  if d < daysInMonth y m then (y, m, d + 1) else if m < 12 then (y, m + 1, 1) else (y + 1, 1, 1)

theorem nextDay_lt {y m d : Nat} (h : d < daysInMonth y m) : nextDay y m d = (y, m, d + 1) := by
  simp [nextDay, h]
theorem nextDay_last {y m d : Nat} (h : ¬ d < daysInMonth y m) :
    nextDay y m d = ((nextMonth y m).1, (nextMonth y m).2, 1) := by
  unfold nextDay nextMonth
  rw [if_neg h]
  split <;> rfl

theorem daysFromCivil_nextDay (y m d : Nat) (h : dateOk y m d = true) :
    dateOk (nextDay y m d).1 (nextDay y m d).2.1 (nextDay y m d).2.2 = true ∧
    daysFromCivil (nextDay y m d).1 (nextDay y m d).2.1 (nextDay y m d).2.2 = daysFromCivil y m d + 1 := by
  obtain ⟨h1, h2, h3, h4⟩ := (dateOk_iff y m d).mp h
  by_cases hd : d < daysInMonth y m
  · rw [nextDay_lt hd]
    dsimp only
    refine ⟨(dateOk_iff _ _ _).mpr ⟨h1, h2, by omega, by omega⟩, ?_⟩
    rw [daysFromCivil_eq, daysFromCivil_eq]
    omega
  · rw [nextDay_last hd]
    dsimp only
    obtain ⟨c1, c2, _⟩ := nextMonth_spec y m h1 h2
    have := daysInMonth_ge (nextMonth y m).1 (nextMonth y m).2 c1 c2
    refine ⟨(dateOk_iff _ _ _).mpr ⟨c1, c2, Nat.le_refl 1, by omega⟩, ?_⟩
    rw [daysFromCivil_eq, daysFromCivil_eq, monthStart_succ y m h1 h2]
    omega

theorem daysFromCivil_epoch : daysFromCivil 1970 1 1 = 0 := by decide

def dateLt (y1 m1 d1 y2 m2 d2 : Nat) : Prop := y1 < y2 ∨ (y1 = y2 ∧ (m1 < m2 ∨ (m1 = m2 ∧ d1 < d2)))

instance (y1 m1 d1 y2 m2 d2 : Nat) : Decidable (dateLt y1 m1 d1 y2 m2 d2) := by unfold dateLt; infer_instance

/-- an earlier date lies in the same month, or in an earlier one, which ends before the later one starts -/
theorem daysFromCivil_lt {y1 m1 d1 y2 m2 d2 : Nat} (ok1 : dateOk y1 m1 d1 = true) (ok2 : dateOk y2 m2 d2 = true)
    (hlt : dateLt y1 m1 d1 y2 m2 d2) : daysFromCivil y1 m1 d1 < daysFromCivil y2 m2 d2 := by
  obtain ⟨a1, a2, a3, a4⟩ := (dateOk_iff _ _ _).mp ok1
  obtain ⟨b1, b2, b3, b4⟩ := (dateOk_iff _ _ _).mp ok2
  rw [daysFromCivil_eq, daysFromCivil_eq]
  have hK : 12 * y1 + m1 < 12 * y2 + m2 ∨ (y1 = y2 ∧ m1 = m2 ∧ d1 < d2) := by unfold dateLt at hlt; omega
  rcases hK with hK | ⟨rfl, rfl, hd⟩
  · obtain ⟨c1, c2, c3⟩ := nextMonth_spec y1 m1 a1 a2
    have hs := monthStart_succ y1 m1 a1 a2
    have hn : 12 * (nextMonth y1 m1).1 + (nextMonth y1 m1).2 + (12 * y2 + m2 - (12 * y1 + m1 + 1)) = 12 * y2 + m2 := by
      omega
    have := monthStart_le _ _ _ y2 m2 c1 c2 hn b1 b2
    omega
  · omega

/-- the day numbers of the valid dates with a 4-digit year lie between those of 0000-01-01 and 9999-12-31 -/
theorem days_bounds (y m d : Nat) (hy : y < 10000) (hok : dateOk y m d = true) :
    -719528 ≤ daysFromCivil y m d ∧ daysFromCivil y m d ≤ 2932896 := by
  obtain ⟨h1, h2, h3, h4⟩ := (dateOk_iff y m d).mp hok
  have h31 := daysInMonth_le y m
  have lo : (y = 0 ∧ m = 1 ∧ d = 1) ∨ dateLt 0 1 1 y m d := by unfold dateLt; omega
  have hi : (y = 9999 ∧ m = 12 ∧ d = 31) ∨ dateLt y m d 9999 12 31 := by unfold dateLt; omega
  constructor
  · rcases lo with ⟨rfl, rfl, rfl⟩ | lo
    · decide
    · exact Int.le_of_lt (daysFromCivil_lt (y1 := 0) (m1 := 1) (d1 := 1) (by decide) hok lo)
  · rcases hi with ⟨rfl, rfl, rfl⟩ | hi
    · decide
    · exact Int.le_of_lt (daysFromCivil_lt (y2 := 9999) (m2 := 12) (d2 := 31) hok (by decide) hi)

end Cedar.Ext.Datetime
