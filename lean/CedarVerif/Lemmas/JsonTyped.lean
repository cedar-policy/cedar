import CedarVerif.Lemmas.JsonTypedDefs
import CedarVerif.Lemmas.JsonRoundTrip
/-
C10, schema-directed parsing: for a well-formed instance `v` of a closed type `τ`, every document `Form (some τ) v j`
allows (explicit escape, implicit `{type,id}` / `{fn,arg}`, bare constructor argument, per node) is parsed by `typed`
— at any fuel ≥ size of the document + 3 (the canonical datetime is `offset` over a constructor call over a string, a unit of fuel
each, whatever the size of its document) — to the *same* restricted expression, the one `into_expr` produces from the
`CedarValueJson` of `v`; record types by the attribute walk of `typedAttrs` over a key-sorted attribute map.  The
explicit document is one of the `Form`s and every `Form` document is duplicate-free, hence `typed_forms_agree`.
-/
namespace Cedar.C10
open Cedar Cedar.CJson

theorem exprOfJson_prim (p : Prim) (hwf : WF (.prim p)) :
    exprOfJson (CJ.ofPrim p).toJson = .ok (.lit p) := by
  obtain ⟨e, _, h4, hx, _⟩ := (rt_prim p hwf).parse
  have : e = .lit p := by
    cases p with
    | entityUID u =>
      have hv : validName u.ty = true := by simpa [WF] using hwf
      simpa [CJ.ofPrim, CJ.intoExpr, hv] using h4.symm
    | _ => cases h4; rfl
  rw [hx, this]

theorem typed_plain (n : Nat) (τ : SchemaType) (hτ : τ = .bool ∨ τ = .long ∨ τ = .string ∨ τ = .emptySet) (j : Json)
    (hu : explicitUnknown j = false) : typed (n + 1) (some τ) j = exprOfJson j := by
  rcases hτ with rfl | rfl | rfl | rfl <;> simp [typed, hu]

theorem typed_lit (p : Prim) (τ : SchemaType) (n : Nat) (hτ : τ = .bool ∨ τ = .long ∨ τ = .string)
    (hwf : WF (.prim p)) : typed (n + 1) (some τ) (CJ.ofPrim p).toJson = .ok (.lit p) := by
  rw [typed_plain n τ (by rcases hτ with h | h | h <;> simp [h]) _ (by cases p <;> rfl)]
  exact exprOfJson_prim p hwf

theorem typed_entity (ty : EntityType) (u : EntityUID) (n : Nat) (hv : validName u.ty = true) :
    typed (n + 1) (some (.entity ty)) (uidJson u) = .ok (.lit (.entityUID u)) ∧
    typed (n + 1) (some (.entity ty)) (CJ.ofPrim (.entityUID u)).toJson = .ok (.lit (.entityUID u)) := by
  have hu := uidOfJson_uidJson u hv
  rw [uidJson] at hu
  constructor
  · simp [uidJson, typed, explicitUnknown, lookupKV, hu, bind, Except.bind]
  · simp [CJ.ofPrim, CJ.toJson, typed, explicitUnknown, lookupKV, uidOfJson, typeAndId, hv, bind, Except.bind]

theorem singleArgCtor_facts {nm f : String} (hc : singleArgCtor nm = some f) :
    (f == "unknown") = false ∧ validName f = true ∧ extFnSig f = some [.string] := by
  unfold singleArgCtor at hc
  obtain ⟨vd, vi, vt, vu, _⟩ := validName_canon
  split at hc <;> cases hc
  · exact ⟨by decide, vd, rfl⟩
  · exact ⟨by decide, vi, rfl⟩
  · exact ⟨by decide, vt, rfl⟩
  · exact ⟨by decide, vu, rfl⟩

theorem typed_str (s : String) (n : Nat) : typed (n + 1) (some .string) (.str s) = .ok (.lit (.string s)) :=
  typed_lit (.string s) .string n (Or.inr (Or.inr rfl)) (by simp [WF])

theorem fnAndArgs_call1 (f s : String) :
    fnAndArgs (.obj [("fn", .str f), ("arg", .str s)]) = some (f, [.str s]) := by
  simp [fnAndArgs, lookupKV, rawOk, CJ.ofRaw]

theorem typed_ext_call (nm f s : String) (j : Json) (n : Nat) (hu : explicitUnknown j = false)
    (hx : extnOfJson j = .ok (.call f [.str s])) (hf : (f == "unknown") = false) (hv : validName f = true)
    (hs : extFnSig f = some [.string]) :
    typed (n + 2) (some (.ext nm)) j = .ok (.call f [.lit (.string s)]) := by
  rw [typed]
  simp [hu, hx, hf, hv, hs, zipE, CJ.toJson, typed_str, bind, Except.bind]

theorem typed_ext_single (nm f s : String) (n : Nat) (hc : singleArgCtor nm = some f) :
    typed (n + 2) (some (.ext nm)) (.str s) = .ok (.call f [.lit (.string s)]) ∧
    typed (n + 2) (some (.ext nm)) (.obj [("fn", .str f), ("arg", .str s)]) = .ok (.call f [.lit (.string s)]) ∧
    typed (n + 2) (some (.ext nm)) (.obj [("__extn", .obj [("fn", .str f), ("arg", .str s)])])
      = .ok (.call f [.lit (.string s)]) := by
  obtain ⟨hf, hv, hs⟩ := singleArgCtor_facts hc
  refine ⟨?_, typed_ext_call nm f s _ n ?_ ?_ hf hv hs, typed_ext_call nm f s _ n ?_ ?_ hf hv hs⟩
  · rw [typed]
    simp [explicitUnknown, extnOfJson, fnAndArgs, rawOk, CJ.ofRaw, CJ.toJson, hc, typed_str, bind, Except.bind]
  · simp [explicitUnknown, lookupKV]
  · simp [extnOfJson, lookupKV, fnAndArgs_call1]
  · simp [explicitUnknown, lookupKV, fnAndArgs_call1, hf]
  · simp [extnOfJson, lookupKV, fnAndArgs_call1]

theorem typed_ext_offset (s : String) (n : Nat) :
    let payload : Json := .obj [("fn", .str "offset"), ("args", .arr [
        .obj [("__extn", .obj [("fn", .str "datetime"), ("arg", .str "1970-01-01")])],
        .obj [("__extn", .obj [("fn", .str "duration"), ("arg", .str s)])]])]
    let e : Expr := .call "offset" [.call "datetime" [.lit (.string "1970-01-01")], .call "duration" [.lit (.string s)]]
    typed (n + 3) (some (.ext "datetime")) payload = .ok e ∧
    typed (n + 3) (some (.ext "datetime")) (.obj [("__extn", payload)]) = .ok e := by
  intro payload e
  have a1 := (typed_ext_single "datetime" "datetime" "1970-01-01" n rfl).2.2
  have a2 := (typed_ext_single "duration" "duration" s n rfl).2.2
  have hfa : fnAndArgs payload
      = some ("offset", [.extnSingle "datetime" (.str "1970-01-01"), .extnSingle "duration" (.str s)]) := by
    simp [payload, fnAndArgs, lookupKV, rawOkList, rawOk_call1, CJ.ofRawList, ofRaw_call1]
  have vo := validName_canon.2.2.2.2
  -- both documents deserialise to the same two-argument call, whose arguments are explicit escapes
  have call : ∀ j, explicitUnknown j = false → extnOfJson j = .ok (.call "offset"
      [.extnSingle "datetime" (.str "1970-01-01"), .extnSingle "duration" (.str s)]) →
      typed (n + 3) (some (.ext "datetime")) j = .ok e := by
    intro j hu hx
    have so : extFnSig "offset" = some [.ext "datetime", .ext "duration"] := rfl
    rw [typed]
    simp [hu, hx, vo, so, zipE, CJ.toJson, a1, a2, e, bind, Except.bind]
  constructor
  · exact call _ (by simp [payload, explicitUnknown, lookupKV]) (by simp [payload, extnOfJson, lookupKV, hfa])
  · exact call _ (by simp [explicitUnknown, lookupKV, hfa]) (by simp [extnOfJson, lookupKV, hfa])

theorem typed_call1_forms {x : Ext} {nm f s : String} {j : Json} {e : Expr} (n : Nat)
    (hj : toJson (.ext x) = .ok (.obj [("__extn", .obj [("fn", .str f), ("arg", .str s)])]))
    (hc : singleArgCtor nm = some f) (he : (CJ.extnSingle f (.str s)).intoExpr = .ok e)
    (hform : Form (some (.ext nm)) (.ext x) j) :
    typed (n + 2) (some (.ext nm)) j = .ok e := by
  rw [intoExpr_call1 f s (singleArgCtor_facts hc).2.1] at he
  cases he
  obtain ⟨t1, t2, t3⟩ := typed_ext_single nm f s n hc
  cases hform with
  | extExplicit _ _ _ h => rw [hj] at h; cases h; exact t3
  | extImplicit _ _ _ h => rw [hj] at h; cases h; exact t2
  | extBare _ _ _ _ h _ => rw [hj] at h; cases h; exact t1

theorem typed_ext_leaf (x : Ext) (nm : String) (j : Json) (c : CJ) (e : Expr) (n : Nat)
    (hinst : instOf (.ext x) (.ext nm) = true) (hform : Form (some (.ext nm)) (.ext x) j)
    (hc : fromValueWith canonRepr (.ext x) = .ok c) (he : c.intoExpr = .ok e) :
    typed (n + 3) (some (.ext nm)) j = .ok e := by
  rw [fromValue_ext x] at hc
  cases hc
  cases x with
  | decimal _ | ipaddr _ _ _ | duration _ =>
    -- the three types whose canonical document is a call of their constructor on one string
    obtain rfl := beq_iff_eq.mp hinst
    exact typed_call1_forms (n + 1) rfl rfl he hform
  | datetime ms =>
    cases (beq_iff_eq.mp hinst : nm = "datetime")
    have hj : toJson (.ext (.datetime ms)) = .ok (CJ.extnMulti "offset" [.extnSingle "datetime" (.str "1970-01-01"),
        .extnSingle "duration" (.str (String.ofList (renderDuration ms)))]).toJson := rfl
    simp only [CJ.toJson, CJ.toJsonList] at hj
    have he' : e = .call "offset" [.call "datetime" [.lit (.string "1970-01-01")],
        .call "duration" [.lit (.string (String.ofList (renderDuration ms)))]] := by
      simpa [CJ.intoExpr, CJ.intoExprList, validName_canon, bind, Except.bind] using he.symm
    subst he'
    obtain ⟨t2, t3⟩ := typed_ext_offset (String.ofList (renderDuration ms)) n
    cases hform with
    | extExplicit _ _ _ h => rw [hj] at h; cases h; exact t3
    | extImplicit _ _ _ h => rw [hj] at h; cases h; exact t2
    | extBare _ _ _ _ h _ => simp [hj] at h

theorem closedAttrs_lookup : ∀ (attrs : List (String × Bool × SchemaType)) (k : String) (req : Bool) (ty : SchemaType),
    ClosedAttrs attrs → lookupKV attrs k = some (req, ty) → ClosedType ty
  | [], _, _, _, _, h => by simp [lookupKV] at h
  | (k', r', t') :: rest, k, req, ty, hc, h => by
    simp only [ClosedAttrs] at hc
    by_cases hk : k' = k
    · subst hk
      rw [lookupKV_cons_self] at h
      cases h
      exact hc.1
    · rw [lookupKV_cons_ne _ _ _ _ hk] at h
      exact closedAttrs_lookup rest k req ty hc.2 h

theorem typedAttrs_skip (f : SchemaType → Json → R Expr) (k : String) (j : Json) (js : List (String × Json)) :
    ∀ (attrs : List (String × Bool × SchemaType)), k ∉ attrs.map Prod.fst →
      typedAttrs f ((k, j) :: js) attrs = typedAttrs f js attrs
  | [], _ => rfl
  | (ka, req, ty) :: rest, h => by
    simp only [List.map_cons, List.mem_cons, not_or] at h
    have hne : k ≠ ka := h.1
    simp only [typedAttrs, lookupKV_cons_ne k ka j js hne, typedAttrs_skip f k j js rest h.2]

theorem typedAttrs_sorted (f : SchemaType → Json → R Expr) :
    ∀ (attrs : List (String × Bool × SchemaType)) (js : List (String × Json)) (es : List (String × Expr)),
      Sorted (attrs.map Prod.fst) → Sorted (js.map Prod.fst) → Rel2 (PairOK f attrs) js es →
      (∀ a, a ∈ attrs → a.2.1 = true → (lookupKV js a.1).isSome = true) →
      typedAttrs f js attrs = .ok es
  | [], js, es, _, _, hrel, _ => by
    cases hrel with
    | nil => rfl
    | cons hab _ =>
      obtain ⟨_, req, ty, hl, _⟩ := hab
      simp [lookupKV] at hl
  | (ka, reqa, tya) :: rest, js, es, hsa, hsj, hrel, hreq => by
    have hsrest : Sorted (rest.map Prod.fst) := hsa.2
    cases hrel with
    | nil =>
      have hr : reqa = false := by
        cases reqa with
        | false => rfl
        | true => have := hreq (ka, true, tya) (List.mem_cons_self ..) rfl; simp [lookupKV] at this
      subst hr
      have ih := typedAttrs_sorted f rest [] [] hsrest (by simp [Sorted]) .nil
        (fun a ha hr => hreq a (List.mem_cons_of_mem _ ha) hr)
      simp only [typedAttrs, lookupKV] at ih ⊢
      simpa using ih
    | @cons kj ke js' es' hab hrest =>
      obtain ⟨k, j⟩ := kj
      obtain ⟨k', e⟩ := ke
      obtain ⟨hkk, req, ty, hl, hf⟩ := hab
      simp only at hkk hl hf
      subst hkk
      have hjs' : Sorted (js'.map Prod.fst) := hsj.2
      have hgt : ∀ q, q ∈ js' → k < q.1 := fun q hq =>
        hsj.1 _ (List.mem_map_of_mem (f := Prod.fst) hq)
      -- both lists are sorted: on equal heads the walk consumes both; otherwise `ka < k`, so `ka` is absent from the document,
      -- hence optional, and the walk skips it
      by_cases hk : ka = k
      · subst hk
        rw [lookupKV_cons_self] at hl
        cases hl
        have hnot : ka ∉ rest.map Prod.fst := Sorted.not_mem hsa
        have hrel' : Rel2 (PairOK f rest) js' es' := by
          refine rel2_imp_mem hrest ?_
          rintro ⟨k1, j1⟩ ⟨k2, e2⟩ hm ⟨h1, r, t, h2, h3⟩
          have hne : ka ≠ k1 := by
            intro he; subst he; exact String.lt_irrefl ka (hgt (ka, j1) hm)
          rw [lookupKV_cons_ne _ _ _ _ hne] at h2
          exact ⟨h1, r, t, h2, h3⟩
        have hreq' : ∀ a, a ∈ rest → a.2.1 = true → (lookupKV js' a.1).isSome = true := by
          intro a ha hr
          have := hreq a (List.mem_cons_of_mem _ ha) hr
          have hne : ka ≠ a.1 := by
            intro he
            exact hnot (he ▸ List.mem_map_of_mem (f := Prod.fst) ha)
          rwa [lookupKV_cons_ne _ _ _ _ hne] at this
        have ih := typedAttrs_sorted f rest js' es' hsrest hjs' hrel' hreq'
        simp only [typedAttrs, lookupKV_cons_self, hf, typedAttrs_skip f ka j js' rest hnot, ih, bind, Except.bind]
      · rw [lookupKV_cons_ne _ _ _ _ hk] at hl
        have hkr : k ∈ rest.map Prod.fst := List.mem_map_of_mem (f := Prod.fst) (lookupKV_mem hl)
        have hlt : ka < k := hsa.1 _ hkr
        have hnone : lookupKV ((k, j) :: js') ka = none := by
          apply lookupKV_none_iff.2
          simp only [List.map_cons, List.mem_cons, not_or]
          refine ⟨fun he => hk he, ?_⟩
          intro hm
          obtain ⟨q, hq, hq1⟩ := List.mem_map.mp hm
          have := hgt q hq
          rw [hq1] at this
          exact String.lt_asymm hlt this
        have hr : reqa = false := by
          cases reqa with
          | false => rfl
          | true =>
            have := hreq (ka, true, tya) (List.mem_cons_self ..) rfl
            simp [hnone] at this
        subst hr
        have hrel' : Rel2 (PairOK f rest) ((k, j) :: js') ((k, e) :: es') := by
          refine rel2_imp_mem (.cons ⟨rfl, req, ty, by rw [lookupKV_cons_ne _ _ _ _ hk]; exact hl, hf⟩ hrest) ?_
          rintro ⟨k1, j1⟩ ⟨k2, e2⟩ hm ⟨h1, r, t, h2, h3⟩
          have hne : ka ≠ k1 := by
            intro he; subst he
            rcases List.mem_cons.mp hm with hm | hm
            · cases hm; exact hk rfl
            · exact String.lt_asymm hlt (hgt (ka, j1) hm)
          rw [lookupKV_cons_ne _ _ _ _ hne] at h2
          exact ⟨h1, r, t, h2, h3⟩
        have ih := typedAttrs_sorted f rest ((k, j) :: js') ((k, e) :: es') hsrest hsj hrel'
          (fun a ha hr => hreq a (List.mem_cons_of_mem _ ha) hr)
        simp only [typedAttrs, hnone]
        simpa using ih

theorem pairOK_any {f : SchemaType → Json → R Expr} {attrs : List (String × Bool × SchemaType)}
    {js : List (String × Json)} {es : List (String × Expr)} (h : Rel2 (PairOK f attrs) js es) :
    js.any (fun kv => (lookupKV attrs kv.1).isNone) = false := by
  induction h with
  | nil => rfl
  | cons hab _ ih =>
    obtain ⟨_, r, t, h2, _⟩ := hab
    simp [h2, ih]

theorem formKVs_keys {attrs kvs js} (h : FormKVs attrs kvs js) : js.map Prod.fst = kvs.map Prod.fst := by
  induction kvs generalizing js with
  | nil => cases h; rfl
  | cons p kvs ih =>
    cases h with
    | cons _ k v j _ js' _ hrest => simp [ih hrest]

theorem hasReservedKey_false_lookup {α} (kvs : List (String × α)) (h : hasReservedKey kvs = false) :
    lookupKV kvs "__extn" = none := by
  apply lookupKV_none_iff.2
  intro hm
  obtain ⟨q, hq, hq1⟩ := List.mem_map.mp hm
  simp only [hasReservedKey, List.any_eq_false] at h
  have := h q hq
  rw [hq1] at this
  simp [reservedKeys] at this

mutual
theorem typed_form : ∀ (v : Value) (τ : SchemaType) (j : Json) (c : CJ) (e : Expr) (n : Nat),
    Form (some τ) v j → instOf v τ = true → ClosedType τ → WF v →
    fromValueWith canonRepr v = .ok c → c.intoExpr = .ok e → j.size + 3 ≤ n → typed n (some τ) j = .ok e
  | .prim p, τ, j, c, e, n, hform, hinst, hcl, hwf, hc, he, hn => by
    obtain ⟨m, rfl⟩ : ∃ m, n = m + 3 := ⟨n - 3, by omega⟩
    simp only [fromValueWith, Except.ok.injEq] at hc
    subst hc
    cases p with
    | entityUID u =>
      have hv : validName u.ty = true := by simpa [WF] using hwf
      simp only [CJ.ofPrim, CJ.intoExpr, hv, if_true, Except.ok.injEq] at he
      subst he
      cases τ <;> simp only [instOf, Bool.false_eq_true] at hinst
      rename_i ty
      obtain ⟨t1, t2⟩ := typed_entity ty u (m + 2) hv
      cases hform with
      | lit _ _ hne => exact absurd rfl (hne u)
      | entExplicit => exact t2
      | entImplicit => exact t1
    | _ =>
      -- bool / long / string: the only type the value is an instance of is its own, the only document is the literal
      cases he
      cases τ <;> simp only [instOf, Bool.false_eq_true] at hinst
      cases hform with
      | lit _ _ hne => exact typed_lit _ _ (m + 2) (by simp) hwf
  | .ext x, τ, j, c, e, n, hform, hinst, _, _, hc, he, hn => by
    obtain ⟨m, rfl⟩ : ∃ m, n = m + 3 := ⟨n - 3, by omega⟩
    have hτ : ∃ nm, τ = .ext nm := by
      cases τ <;> first | exact ⟨_, rfl⟩ | (cases x <;> simp [instOf] at hinst)
    obtain ⟨nm, rfl⟩ := hτ
    exact typed_ext_leaf x nm j c e m hinst hform hc he
  | .set vs, τ, j, c, e, n, hform, hinst, hcl, hwf, hc, he, hn => by
    simp only [fromValueWith, bind_ok] at hc
    obtain ⟨cs, hcs, hc⟩ := hc
    cases hc
    simp only [CJ.intoExpr, bind_ok] at he
    obtain ⟨es, hes, he⟩ := he
    cases he
    simp only [WF] at hwf
    cases hform with
    | set _ _ js hl =>
      obtain ⟨m, rfl⟩ : ∃ m, n = m + 1 := ⟨n - 1, by omega⟩
      simp only [Json.size] at hn
      cases τ with
      | emptySet =>
        have hvs : vs = [] := by cases vs <;> simp_all [instOf]
        subst hvs
        cases hl
        simp only [fromValueListWith, Except.ok.injEq] at hcs
        subst hcs
        simp only [CJ.intoExprList, Except.ok.injEq] at hes
        subst hes
        rw [typed_plain m .emptySet (by simp) _ rfl]
        rfl
      | set el =>
        have hil : instOfList vs el = true := by
          cases vs <;> simpa [instOf] using hinst
        simp only [ClosedType] at hcl
        have := typed_formList vs el js cs es m hl hil hcl hwf hcs hes (by omega)
        simp [typed, explicitUnknown, this, bind, Except.bind]
      | _ => cases vs <;> simp [instOf] at hinst
  | .record kvs, τ, j, c, e, n, hform, hinst, hcl, hwf, hc, he, hn => by
    simp only [fromValueWith] at hc
    split at hc
    · cases hc
    · rename_i hres
      simp only [bind_ok] at hc
      obtain ⟨cs, hcs, hc⟩ := hc
      cases hc
      simp only [CJ.intoExpr, bind_ok] at he
      obtain ⟨es, hes, he⟩ := he
      cases he
      simp only [WF] at hwf
      cases τ <;> simp only [instOf, Bool.false_eq_true] at hinst
      rename_i attrs isOpen
      simp only [ClosedType] at hcl
      obtain ⟨rfl, hsa, hca⟩ := hcl
      simp only [Bool.and_eq_true] at hinst
      cases hform with
      | record _ _ js hl =>
        obtain ⟨m, rfl⟩ : ∃ m, n = m + 1 := ⟨n - 1, by omega⟩
        simp only [Json.size] at hn
        have hkeys := formKVs_keys hl
        have hrel := typed_formKVs kvs attrs js cs es m hl hinst.1 hca hwf.1 hcs hes (by omega)
        have hsj : Sorted (js.map Prod.fst) := by rw [hkeys]; exact hwf.2
        have hresj : hasReservedKey js = false := by
          rw [hasReservedKey_keys js kvs hkeys]; simpa using hres
        have hreq : ∀ a, a ∈ attrs → a.2.1 = true → (lookupKV js a.1).isSome = true := by
          intro a ha hr
          have h2 := hinst.2
          simp only [List.all_eq_true] at h2
          have := h2 a ha
          simp only [hr, Bool.not_true, Bool.false_or] at this
          obtain ⟨w, hw⟩ := Option.isSome_iff_exists.mp this
          have hk : a.1 ∈ js.map Prod.fst := hkeys ▸ List.mem_map_of_mem (f := Prod.fst) (lookupKV_mem hw)
          obtain ⟨q, hq, hq1⟩ := List.mem_map.mp hk
          exact mem_lookupKV (v := q.2) (hq1 ▸ hq)
        have hwalk := typedAttrs_sorted (fun t x => typed m (some t) x) attrs js es hsa hsj hrel hreq
        have hany := pairOK_any hrel
        have hxu : explicitUnknown (.obj js) = false := by
          simp [explicitUnknown, hasReservedKey_false_lookup js hresj]
        simp [typed, hxu, hwalk, hany, bind, Except.bind]
theorem typed_formList : ∀ (vs : List Value) (τ : SchemaType) (js : List Json) (cs : List CJ) (es : List Expr) (n : Nat),
    FormList (some τ) vs js → instOfList vs τ = true → ClosedType τ → WFList vs →
    fromValueListWith canonRepr vs = .ok cs → CJ.intoExprList cs = .ok es → Json.sizeList js + 3 ≤ n →
    mapE (typed n (some τ)) js = .ok es
  | [], τ, js, cs, es, n, hform, _, _, _, hc, he, _ => by
    cases hform
    simp only [fromValueListWith, Except.ok.injEq] at hc
    subst hc
    simp only [CJ.intoExprList, Except.ok.injEq] at he
    subst he
    rfl
  | v :: vs, τ, js, cs, es, n, hform, hinst, hcl, hwf, hc, he, hn => by
    cases hform with
    | cons _ _ j _ js' hf hfl =>
      simp only [fromValueListWith, bind_ok] at hc
      obtain ⟨c, hc1, cs', hcs', hh⟩ := hc
      cases hh
      simp only [CJ.intoExprList, bind_ok] at he
      obtain ⟨e, he1, es', hes', hh⟩ := he
      cases hh
      simp only [instOfList, Bool.and_eq_true] at hinst
      simp only [WFList] at hwf
      simp only [Json.sizeList] at hn
      have h1 := typed_form v τ j c e n hf hinst.1 hcl hwf.1 hc1 he1 (by omega)
      have h2 := typed_formList vs τ js' cs' es' n hfl hinst.2 hcl hwf.2 hcs' hes' (by omega)
      simp [mapE, h1, h2, bind, Except.bind]
theorem typed_formKVs : ∀ (kvs : List (String × Value)) (attrs : List (String × Bool × SchemaType))
    (js : List (String × Json)) (cs : List (String × CJ)) (es : List (String × Expr)) (n : Nat),
    FormKVs attrs kvs js → instOfKVs kvs attrs false = true → ClosedAttrs attrs → WFKVs kvs →
    fromValueKVsWith canonRepr kvs = .ok cs → CJ.intoExprKVs cs = .ok es → Json.sizeKVs js + 3 ≤ n →
    Rel2 (PairOK (fun t x => typed n (some t) x) attrs) js es
  | [], attrs, js, cs, es, n, hform, _, _, _, hc, he, _ => by
    cases hform
    simp only [fromValueKVsWith, Except.ok.injEq] at hc
    subst hc
    simp only [CJ.intoExprKVs, Except.ok.injEq] at he
    subst he
    exact .nil
  | (k, v) :: kvs, attrs, js, cs, es, n, hform, hinst, hcl, hwf, hc, he, hn => by
    cases hform with
    | cons _ _ _ j _ js' hf hfl =>
      simp only [fromValueKVsWith, bind_ok] at hc
      obtain ⟨c, hc1, cs', hcs', hh⟩ := hc
      cases hh
      simp only [CJ.intoExprKVs, bind_ok] at he
      obtain ⟨e, he1, es', hes', hh⟩ := he
      cases hh
      simp only [instOfKVs, Bool.and_eq_true] at hinst
      simp only [WFKVs] at hwf
      simp only [Json.sizeKVs] at hn
      have h2 := typed_formKVs kvs attrs js' cs' es' n hfl hinst.2 hcl hwf.2 hcs' hes' (by omega)
      cases hl : lookupKV attrs k with
      | none => rw [hl] at hinst; simp at hinst
      | some rt =>
        obtain ⟨req, ty⟩ := rt
        rw [hl] at hinst hf
        simp only [Option.map_some] at hf
        have hclt : ClosedType ty := closedAttrs_lookup attrs k req ty hcl hl
        have h1 := typed_form v ty j c e n hf hinst.1 hclt hwf.1 hc1 he1 (by omega)
        exact .cons ⟨rfl, req, ty, hl, h1⟩ h2
end

theorem ofJsonTyped_of_typed {τ : SchemaType} {j : Json} {e : Expr} (hd : noDupKeys j = true)
    (ht : typed (2 * j.size + 2) (some τ) j = .ok e) :
    exprOfJsonTyped (some τ) j = .ok e ∧ ofJsonTyped τ j = evalR e := by
  have hx : exprOfJsonTyped (some τ) j = .ok e := by simp [exprOfJsonTyped, hd, ht]
  exact ⟨hx, by simp [ofJsonTyped, hx, bind, Except.bind]⟩

mutual
theorem form_explicit : ∀ (v : Value) (τ : Option SchemaType) (c : CJ),
    fromValueWith canonRepr v = .ok c → Form τ v c.toJson
  | .prim p, τ, c, h => by
    simp only [fromValueWith, Except.ok.injEq] at h
    subst h
    cases p with
    | entityUID u => exact .entExplicit τ u
    | bool b => exact .lit τ _ (by intro u h; cases h)
    | int i => exact .lit τ _ (by intro u h; cases h)
    | string s => exact .lit τ _ (by intro u h; cases h)
  | .ext x, τ, c, h => by
    exact .extExplicit τ x _ (by simp [toJson, toJsonWith, h])
  | .set vs, τ, c, h => by
    simp only [fromValueWith, bind_ok] at h
    obtain ⟨cs, hcs, hc⟩ := h
    cases hc
    simp only [CJ.toJson]
    exact .set τ vs _ (form_explicitList vs _ cs hcs)
  | .record kvs, τ, c, h => by
    simp only [fromValueWith] at h
    split at h
    · cases h
    · simp only [bind_ok] at h
      obtain ⟨cs, hcs, hc⟩ := h
      cases hc
      simp only [CJ.toJson]
      exact .record τ kvs _ (form_explicitKVs kvs _ cs hcs)
theorem form_explicitList : ∀ (vs : List Value) (τ : Option SchemaType) (cs : List CJ),
    fromValueListWith canonRepr vs = .ok cs → FormList τ vs (CJ.toJsonList cs)
  | [], τ, cs, h => by
    simp only [fromValueListWith, Except.ok.injEq] at h
    subst h
    exact .nil τ
  | v :: vs, τ, cs, h => by
    simp only [fromValueListWith, bind_ok] at h
    obtain ⟨c, hc, cs', hcs', hh⟩ := h
    cases hh
    simp only [CJ.toJsonList]
    exact .cons τ v _ vs _ (form_explicit v τ c hc) (form_explicitList vs τ cs' hcs')
theorem form_explicitKVs : ∀ (kvs : List (String × Value)) (attrs : List (String × Bool × SchemaType))
    (cs : List (String × CJ)), fromValueKVsWith canonRepr kvs = .ok cs → FormKVs attrs kvs (CJ.toJsonKVs cs)
  | [], attrs, cs, h => by
    simp only [fromValueKVsWith, Except.ok.injEq] at h
    subst h
    exact .nil attrs
  | (k, v) :: kvs, attrs, cs, h => by
    simp only [fromValueKVsWith, bind_ok] at h
    obtain ⟨c, hc, cs', hcs', hh⟩ := h
    cases hh
    simp only [CJ.toJsonKVs]
    exact .cons attrs k v _ kvs _ (form_explicit v _ c hc) (form_explicitKVs kvs attrs cs' hcs')
end

theorem noDup_ext_forms (x : Ext) (τ : Option SchemaType) (j : Json) (h : Form τ (.ext x) j) : noDupKeys j = true := by
  cases h with
  | extExplicit _ _ _ h =>
    cases x <;> simp only [toJson, toJsonWith, fromValue_ext, CJ.toJson, CJ.toJsonList, Except.ok.injEq] at h <;> subst h <;>
      simp [noDupKeys, noDupKeysKVs, noDupKeysList, hasDup]
  | extImplicit _ _ _ h =>
    cases x <;> simp only [toJson, toJsonWith, fromValue_ext, CJ.toJson, CJ.toJsonList, Except.ok.injEq, Json.obj.injEq,
      List.cons.injEq, Prod.mk.injEq, true_and, and_true] at h <;> subst h <;>
      simp [noDupKeys, noDupKeysKVs, noDupKeysList, hasDup]
  | extBare => rfl

mutual
theorem noDup_form : ∀ (v : Value) (τ : Option SchemaType) (j : Json), Form τ v j → WF v → noDupKeys j = true
  | .prim p, τ, j, h, _ => by
    cases h with
    | lit _ _ _ => cases p <;> simp [CJ.ofPrim, CJ.toJson, noDupKeys, noDupKeysKVs, hasDup]
    | entExplicit => simp [CJ.ofPrim, CJ.toJson, noDupKeys, noDupKeysKVs, hasDup]
    | entImplicit => simp [uidJson, noDupKeys, noDupKeysKVs, hasDup]
  | .ext x, τ, j, h, _ => noDup_ext_forms x τ j h
  | .set vs, τ, j, h, hwf => by
    cases h with
    | set _ _ js hl =>
      simp only [WF] at hwf
      simp only [noDupKeys]
      exact noDup_formList vs _ js hl hwf
  | .record kvs, τ, j, h, hwf => by
    cases h with
    | record _ _ js hl =>
      simp only [WF] at hwf
      simp only [noDupKeys, Bool.and_eq_true, Bool.not_eq_eq_eq_not, Bool.not_true]
      refine ⟨noDup_formKVs kvs _ js hl hwf.1, ?_⟩
      rw [formKVs_keys hl]
      exact hasDup_sorted _ hwf.2
theorem noDup_formList : ∀ (vs : List Value) (τ : Option SchemaType) (js : List Json),
    FormList τ vs js → WFList vs → noDupKeysList js = true
  | [], τ, js, h, _ => by cases h; rfl
  | v :: vs, τ, js, h, hwf => by
    cases h with
    | cons _ _ j _ js' hf hfl =>
      simp only [WFList] at hwf
      simp only [noDupKeysList, Bool.and_eq_true]
      exact ⟨noDup_form v τ j hf hwf.1, noDup_formList vs τ js' hfl hwf.2⟩
theorem noDup_formKVs : ∀ (kvs : List (String × Value)) (attrs : List (String × Bool × SchemaType))
    (js : List (String × Json)), FormKVs attrs kvs js → WFKVs kvs → noDupKeysKVs js = true
  | [], attrs, js, h, _ => by cases h; rfl
  | (k, v) :: kvs, attrs, js, h, hwf => by
    cases h with
    | cons _ _ _ j _ js' hf hfl =>
      simp only [WFKVs] at hwf
      simp only [noDupKeysKVs, Bool.and_eq_true]
      exact ⟨noDup_form v _ j hf hwf.1, noDup_formKVs kvs attrs js' hfl hwf.2⟩
end

theorem typed_forms_agree (τ : SchemaType) (v : Value) (hinst : instOf v τ = true) (hcl : ClosedType τ) (hwf : WF v)
    (hres : hasReserved v = false) (hext : AllExt (LeafOK canonRepr) v) :
    ∃ (jx : Json) (e : Expr) (v' : Value), toJson v = .ok jx ∧ Value.beq v v' = true ∧
      exprOfJson jx = .ok e ∧ ofJson jx = .ok v' ∧ Form (some τ) v jx ∧
      ∀ j, Form (some τ) v j → exprOfJsonTyped (some τ) j = .ok e ∧ ofJsonTyped τ j = .ok v' := by
  obtain ⟨c, hc⟩ := (refuse_value v).2 hres
  obtain ⟨e, v', h4, hx, h5, ho, h6⟩ := (rt_value canonRepr v c hwf hext hc).parse
  refine ⟨c.toJson, e, v', by simp [toJson, toJsonWith, hc], h6, hx, ho, form_explicit v _ c hc, ?_⟩
  intro j hform
  have hsz : 1 ≤ j.size := by cases j <;> simp [Json.size] <;> omega
  obtain ⟨hxt, ht⟩ := ofJsonTyped_of_typed (noDup_form v _ j hform hwf)
    (typed_form v τ j c e (2 * j.size + 2) hform hinst hcl hwf hc h4 (by omega))
  simp only [ev] at h5
  exact ⟨hxt, by rw [ht, evalR, h5]⟩

end Cedar.C10
