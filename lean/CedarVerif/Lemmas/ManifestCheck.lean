import CedarVerif.Lemmas.ManifestEval
/-
Executable checkers for the slice specification (`SubStore`, `CoverRoots`) and for `CtxWF`, `NonRec`, proved sound: they discharge
the hypotheses of the soundness theorems on the closed examples of Thm/C17.lean and are run by the driver op `mspec` on every
slice the correspondence run produces.
-/
namespace Cedar.Manifest
open Cedar

mutual
def veq : Value → Value → Bool
  | .prim a, .prim b => a == b
  | .ext a, .ext b => a == b
  | .set as, .set bs => veqList as bs
  | .record as, .record bs => veqKVs as bs
  | _, _ => false
def veqList : List Value → List Value → Bool
  | [], [] => true
  | a :: as, b :: bs => veq a b && veqList as bs
  | _, _ => false
def veqKVs : List (String × Value) → List (String × Value) → Bool
  | [], [] => true
  | (k, a) :: as, (k', b) :: bs => k == k' && veq a b && veqKVs as bs
  | _, _ => false
end

mutual
theorem veq_sound : ∀ (a b : Value), veq a b = true → a = b
  | .prim a, .prim b, h => by simp only [veq, beq_iff_eq] at h; rw [h]
  | .ext a, .ext b, h => by simp only [veq, beq_iff_eq] at h; rw [h]
  | .set as, .set bs, h => by simp only [veq] at h; rw [veqList_sound as bs h]
  | .record as, .record bs, h => by simp only [veq] at h; rw [veqKVs_sound as bs h]
  | .prim _, .ext _, h => by simp [veq] at h
  | .prim _, .set _, h => by simp [veq] at h
  | .prim _, .record _, h => by simp [veq] at h
  | .ext _, .prim _, h => by simp [veq] at h
  | .ext _, .set _, h => by simp [veq] at h
  | .ext _, .record _, h => by simp [veq] at h
  | .set _, .prim _, h => by simp [veq] at h
  | .set _, .ext _, h => by simp [veq] at h
  | .set _, .record _, h => by simp [veq] at h
  | .record _, .prim _, h => by simp [veq] at h
  | .record _, .ext _, h => by simp [veq] at h
  | .record _, .set _, h => by simp [veq] at h
theorem veqList_sound : ∀ (as bs : List Value), veqList as bs = true → as = bs
  | [], [], _ => rfl
  | a :: as, b :: bs, h => by
    simp only [veqList, Bool.and_eq_true] at h
    rw [veq_sound a b h.1, veqList_sound as bs h.2]
  | [], _ :: _, h => by simp [veqList] at h
  | _ :: _, [], h => by simp [veqList] at h
theorem veqKVs_sound : ∀ (as bs : List (String × Value)), veqKVs as bs = true → as = bs
  | [], [], _ => rfl
  | (k, a) :: as, (k', b) :: bs, h => by
    simp only [veqKVs, Bool.and_eq_true, beq_iff_eq] at h
    rw [h.1.1, veq_sound a b h.1.2, veqKVs_sound as bs h.2]
  | [], _ :: _, h => by simp [veqKVs] at h
  | _ :: _, [], h => by simp [veqKVs] at h
end

mutual
def trimB : Value → Value → Bool
  | .record kvs', v =>
    match v with
    | .record kvs => trimKVsB kvs' kvs
    | _ => false
  | .prim p, v => veq (.prim p) v
  | .set s, v => veq (.set s) v
  | .ext x, v => veq (.ext x) v
def trimKVsB : List (String × Value) → List (String × Value) → Bool
  | [], _ => true
  | (k, v') :: rest, kvs =>
    (match lookupKV kvs k with
     | some v => trimB v' v
     | none => false) && trimKVsB rest kvs
end

mutual
theorem trimB_sound : ∀ (v' v : Value), trimB v' v = true → Trim v' v
  | .record kvs', v, h => by
    cases v with
    | record kvs =>
      simp only [trimB] at h
      simp only [Trim]
      exact ⟨kvs, rfl, trimKVsB_sound kvs' kvs h⟩
    | prim p => simp [trimB] at h
    | set s => simp [trimB] at h
    | ext x => simp [trimB] at h
  | .prim p, v, h => by simp only [trimB] at h; simp only [Trim]; exact (veq_sound _ _ h).symm
  | .set s, v, h => by simp only [trimB] at h; simp only [Trim]; exact (veq_sound _ _ h).symm
  | .ext x, v, h => by simp only [trimB] at h; simp only [Trim]; exact (veq_sound _ _ h).symm
theorem trimKVsB_sound : ∀ (kvs' kvs : List (String × Value)), trimKVsB kvs' kvs = true → TrimKVs kvs' kvs
  | [], _, _ => by simp [TrimKVs]
  | (k, v') :: rest, kvs, h => by
    simp only [trimKVsB, Bool.and_eq_true] at h
    simp only [TrimKVs]
    refine ⟨?_, trimKVsB_sound rest kvs h.2⟩
    cases hl : lookupKV kvs k with
    | none => simp [hl] at h
    | some v =>
      simp only [hl] at h
      exact ⟨v, rfl, trimB_sound v' v h.1⟩
end

def subStoreB (es es' : Entities) : Bool :=
  es'.all (fun (u, d') =>
    match es.find? u with
    | some d => trimKVsB d'.attrs d.attrs && d'.ancestors.all (fun a => d.ancestors.contains a)
    | none => false)

theorem subStoreB_sound (es es' : Entities) (h : subStoreB es es' = true) : SubStore es es' := by
  intro u d' hf
  have hm := Entities.find?_mem hf
  simp only [subStoreB, List.all_eq_true] at h
  have := h (u, d') hm
  simp only at this
  cases hd : es.find? u with
  | none => simp [hd] at this
  | some d =>
    simp only [hd, Bool.and_eq_true, List.all_eq_true] at this
    refine ⟨d, rfl, trimKVsB_sound _ _ this.1, ?_⟩
    intro a ha
    have := this.2 a ha
    simpa using this

mutual
def coverVB (es es' : Entities) (req : Request) : AccessTrie → Value → Value → Bool
  | .mk c a _ _, v, v' =>
    match v with
    | .prim (.entityUID u) =>
      veq v' (.prim (.entityUID u)) &&
        (match es.find? u with
         | none => true
         | some d =>
           match es'.find? u with
           | none => false
           | some d' =>
             coverFB es es' req c d.attrs d'.attrs &&
               (ancRequest es' req a).all (fun x => !d.ancestors.contains x || d'.ancestors.contains x))
    | .record kvs =>
      match v' with
      | .record kvs' => coverFB es es' req c kvs kvs'
      | _ => false
    | _ => true
def coverFB (es es' : Entities) (req : Request) : Fields → List (String × Value) → List (String × Value) → Bool
  | [], _, _ => true
  | (f, t) :: rest, kvs, kvs' =>
    (match lookupKV kvs f with
     | none => true
     | some w =>
       match lookupKV kvs' f with
       | none => false
       | some w' => coverVB es es' req t w w') && coverFB es es' req rest kvs kvs'
end

def coverRootsB (es es' : Entities) (req : Request) : RootAccessTrie → Bool
  | [] => true
  | (root, t) :: rest => coverVB es es' req t (rootVal req root) (rootVal req root) && coverRootsB es es' req rest

theorem coverFB_iff (es es' : Entities) (req : Request) (c : Fields) (kvs kvs' : List (String × Value)) :
    coverFB es es' req c kvs kvs' = true ↔ ∀ f t, (f, t) ∈ c →
      ∀ w, lookupKV kvs f = some w → ∃ w', lookupKV kvs' f = some w' ∧ coverVB es es' req t w w' = true :=
  forall_mem_of_eqns (S := fun c => coverFB es es' req c kvs kvs' = true) rfl (fun f t rest => by
    simp only [coverFB, Bool.and_eq_true]
    refine and_congr_left' ?_
    cases lookupKV kvs f <;> cases lookupKV kvs' f <;> simp) c

theorem coverRootsB_iff (es es' : Entities) (req : Request) (g : RootAccessTrie) :
    coverRootsB es es' req g = true ↔
      ∀ root t, (root, t) ∈ g → coverVB es es' req t (rootVal req root) (rootVal req root) = true :=
  forall_mem_of_eqns (S := fun g => coverRootsB es es' req g = true) rfl
    (fun _ _ _ => by simp only [coverRootsB, Bool.and_eq_true]) g

theorem coverFB_sound_of {es es' : Entities} {req : Request} {c : Fields} {kvs kvs' : List (String × Value)}
    (hV : ∀ f t, (f, t) ∈ c → ∀ w w', coverVB es es' req t w w' = true → CoverV es es' req t w w')
    (h : coverFB es es' req c kvs kvs' = true) : CoverF es es' req c kvs kvs' :=
  (coverF_iff c kvs kvs').2 fun f t hm w hw =>
    let ⟨w', h1, h2⟩ := (coverFB_iff es es' req c kvs kvs').1 h f t hm w hw
    ⟨w', h1, hV f t hm w w' h2⟩

theorem coverVB_sound (es es' : Entities) (req : Request) : ∀ (t : AccessTrie) (v v' : Value),
    coverVB es es' req t v v' = true → CoverV es es' req t v v' :=
  AccessTrie.induct fun c a i e ihc _ v v' h => by
    cases v with
    | prim p =>
      cases p with
      | entityUID u =>
        simp only [coverVB, Bool.and_eq_true] at h
        simp only [CoverV]
        refine ⟨veq_sound _ _ h.1, ?_⟩
        intro d hd
        simp only [hd] at h
        cases hd' : es'.find? u with
        | none => simp [hd'] at h
        | some d' =>
          simp only [hd', Bool.and_eq_true, List.all_eq_true] at h
          refine ⟨d', rfl, coverFB_sound_of ihc h.2.1, ?_⟩
          intro x hx hxa
          have := h.2.2 x hx
          have hc : d.ancestors.contains x = true := by simpa using hxa
          simp only [hc, Bool.not_true, Bool.false_or] at this
          simpa using this
      | bool b => simp [CoverV]
      | int n => simp [CoverV]
      | string s => simp [CoverV]
    | record kvs =>
      simp only [coverVB] at h
      simp only [CoverV]
      cases v' with
      | record kvs' => exact ⟨kvs', rfl, coverFB_sound_of ihc h⟩
      | prim p => simp at h
      | set s => simp at h
      | ext x => simp at h
    | set s => simp [CoverV]
    | ext x => simp [CoverV]

theorem coverFB_sound (es es' : Entities) (req : Request) : ∀ (c : Fields) (kvs kvs' : List (String × Value)),
    coverFB es es' req c kvs kvs' = true → CoverF es es' req c kvs kvs' := fun _ _ _ =>
  coverFB_sound_of fun _ t _ => coverVB_sound es es' req t

theorem coverRootsB_sound (es es' : Entities) (req : Request) : ∀ (g : RootAccessTrie),
    coverRootsB es es' req g = true → CoverRoots es es' req g := fun g h =>
  (coverRoots_iff g).2 fun root t hm => coverVB_sound es es' req t _ _ ((coverRootsB_iff es es' req g).1 h root t hm)

theorem ctxWF_of_check (req : Request) (h : trimKVsB req.context req.context = true) : CtxWF req := by
  simp only [CtxWF, Trim]
  exact ⟨_, rfl, trimKVsB_sound _ _ h⟩

def isRecResult : Result Value → Bool
  | .ok (.record _) => true
  | _ => false

theorem nonRec_of_check {r : Result Value} (h : isRecResult r = false) : NonRec r := by
  intro kvs e
  subst e
  simp [isRecResult] at h

end Cedar.Manifest
