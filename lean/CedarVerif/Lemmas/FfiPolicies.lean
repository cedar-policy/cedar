import CedarVerif.Cedar.FfiPolicies
import CedarVerif.Lemmas.PolicySetRefine
/-
The FFI's policy-set assembly (`Cedar/FfiPolicies.lean`) read as an explicit history of API calls: the spec-side
vocabulary (`runStrict`, `Item`, `errsOf`, `staticAdds`, `apiHistory`) and, via the C08 abstract specification, the ids
that a history of successful add / add_template / link calls leaves in the set.
-/
namespace Cedar.FfiP
open Cedar

/-- run a history of API calls; the first failing call aborts (`?`) -/
def runStrict (s : ApiPolicySet) : List ApiOp → Except PSError ApiPolicySet
  | [] => .ok s
  | op :: ops =>
    match (s.applyOp op).err with
    | some e => .error e
    | none => runStrict (s.applyOp op).ps ops

theorem fromPoliciesFrom_eq (bs : List TemplateBody) : ∀ s, fromPoliciesFrom s bs = runStrict s (bs.map ApiOp.add) := by
  induction bs with
  | nil => intro s; rfl
  | cons b bs ih =>
    intro s
    simp only [fromPoliciesFrom, List.map_cons, runStrict, ApiPolicySet.applyOp]
    cases h : (s.add (linkStaticPolicy b).2).err with
    | some e => rfl
    | none => exact ih _

theorem runStrict_ok_run (ops : List ApiOp) : ∀ s s', runStrict s ops = .ok s' → s' = s.run ops := by
  induction ops with
  | nil => intro s s' h; cases h; rfl
  | cons op ops ih =>
    intro s s' h
    simp only [runStrict] at h
    cases he : (s.applyOp op).err with
    | some e => rw [he] at h; cases h
    | none => rw [he] at h; exact ih _ _ h

theorem runStrict_append (a b : List ApiOp) : ∀ s, runStrict s (a ++ b) =
    (match runStrict s a with
     | .ok s' => runStrict s' b
     | .error e => .error e) := by
  induction a with
  | nil => intro s; rfl
  | cons op a ih =>
    intro s
    simp only [List.cons_append, runStrict]
    cases he : (s.applyOp op).err with
    | some e => rfl
    | none => exact ih _

theorem api_run_append (a b : List ApiOp) : ∀ s : ApiPolicySet, s.run (a ++ b) = (s.run a).run b := by
  induction a with
  | nil => intro s; rfl
  | cons op a ih => intro s; exact ih _

/-- one input of the template loop / link loop of `ffi::PolicySet::parse` -/
inductive Item where
  | bad (e : Err)                               -- the document does not parse: the error is pushed, no API call
  | op (o : ApiOp) (wrap : PSError → Err)       -- an API call; its error, wrapped, is pushed

/-- one iteration of either loop: `addTemplateStep` / `linkStep` are `logStep` on `templateItem e` / `linkItem l` (`assembleSteps_eq`) -/
def logStep (acc : ApiPolicySet × List Err) : Item → ApiPolicySet × List Err
  | .bad e => (acc.1, acc.2 ++ [e])
  | .op o w =>
    match (acc.1.applyOp o).err with
    | some er => ((acc.1.applyOp o).ps, acc.2 ++ [w er])
    | none => ((acc.1.applyOp o).ps, acc.2)

def itemOps : List Item → List ApiOp
  | [] => []
  | .bad _ :: r => itemOps r
  | .op o _ :: r => o :: itemOps r

/-- the errors the loop collects when started in state `s`: a failed call leaves its error and the loop goes on
in the state the failed call left -/
def errsOf (s : ApiPolicySet) : List Item → List Err
  | [] => []
  | .bad e :: r => e :: errsOf s r
  | .op o w :: r =>
    (match (s.applyOp o).err with | some er => [w er] | none => []) ++ errsOf (s.applyOp o).ps r

def noBad : List Item → Bool
  | [] => true
  | .bad _ :: _ => false
  | .op _ _ :: r => noBad r

theorem foldl_logStep (items : List Item) : ∀ s es,
    items.foldl logStep (s, es) = (s.run (itemOps items), es ++ errsOf s items) := by
  induction items with
  | nil => intro s es; exact congrArg (Prod.mk s) (List.append_nil es).symm
  | cons it items ih =>
    intro s es
    cases it with
    | bad e => exact (ih s (es ++ [e])).trans (congrArg (Prod.mk _) (List.append_assoc es [e] _))
    | op o w =>
      simp only [List.foldl_cons, logStep, itemOps, errsOf, ApiPolicySet.run]
      cases (s.applyOp o).err with
      | some er => exact (ih _ _).trans (congrArg (Prod.mk _) (List.append_assoc es _ _))
      | none => exact ih _ _

theorem errsOf_nil_iff (items : List Item) : ∀ s,
    errsOf s items = [] ↔ (noBad items = true ∧ runStrict s (itemOps items) = .ok (s.run (itemOps items))) := by
  induction items with
  | nil => intro s; exact ⟨fun _ => ⟨rfl, rfl⟩, fun _ => rfl⟩
  | cons it items ih =>
    intro s
    cases it with
    | bad e => exact ⟨fun h => (nomatch h), fun h => (nomatch h.1)⟩
    | op o w =>
      simp only [errsOf, noBad, itemOps, runStrict, ApiPolicySet.run]
      cases (s.applyOp o).err with
      | some er => exact ⟨fun h => (nomatch h), fun h => (nomatch h.2)⟩
      | none => exact ih _

theorem logged_ok_iff (s0 s : ApiPolicySet) (items : List Item) :
    (if (errsOf s0 items).isEmpty then Except.ok (s0.run (itemOps items)) else .error (errsOf s0 items)) = .ok s ↔
      noBad items = true ∧ runStrict s0 (itemOps items) = .ok s := by
  constructor
  · intro h
    split at h
    · rename_i he
      cases h
      exact (errsOf_nil_iff items s0).mp (List.isEmpty_iff.mp he)
    · cases h
  · rintro ⟨hb, hr⟩
    cases runStrict_ok_run _ _ _ hr
    rw [if_pos (List.isEmpty_iff.mpr ((errsOf_nil_iff items s0).mpr ⟨hb, hr⟩))]

theorem itemOps_append (a b : List Item) : itemOps (a ++ b) = itemOps a ++ itemOps b := by
  induction a with
  | nil => rfl
  | cons it a ih => cases it <;> simp [itemOps, ih]

theorem mem_itemOps {o : ApiOp} {items : List Item} (h : o ∈ itemOps items) : ∃ w, Item.op o w ∈ items := by
  induction items with
  | nil => cases h
  | cons it items ih =>
    cases it with
    | bad e =>
      obtain ⟨w, hw⟩ := ih h
      exact ⟨w, List.mem_cons_of_mem _ hw⟩
    | op o' w =>
      rcases List.mem_cons.mp h with rfl | h
      · exact ⟨w, List.mem_cons_self⟩
      · obtain ⟨w', hw⟩ := ih h
        exact ⟨w', List.mem_cons_of_mem _ hw⟩

theorem noBad_append (a b : List Item) : noBad (a ++ b) = (noBad a && noBad b) := by
  induction a with
  | nil => rfl
  | cons it a ih =>
    cases it with
    | bad e => rfl
    | op o w => exact ih

/-- when no input of a loop fails, the calls of the loop are those of its inputs, one each: every item `g x` is a
call `c y` for a `y` that carries the id `i x` -/
theorem itemOps_map_eq {α γ : Type} (g : α → Item) (c : γ → Spec.Op) (i : α → String) (j : γ → String)
    (hg : ∀ x o w, g x = .op o w → ∃ y, o.toSpec = c y ∧ j y = i x) :
    ∀ l : List α, noBad (l.map g) = true →
      ∃ l' : List γ, (itemOps (l.map g)).map ApiOp.toSpec = l'.map c ∧ l'.map j = l.map i := by
  intro l
  induction l with
  | nil => intro _; exact ⟨[], rfl, rfl⟩
  | cons x l ih =>
    intro h
    rw [List.map_cons] at h ⊢
    cases hx : g x with
    | bad e => rw [hx] at h; cases h
    | op o w =>
      rw [hx] at h
      obtain ⟨l', h1, h2⟩ := ih h
      obtain ⟨y, hy, hj⟩ := hg x o w hx
      exact ⟨y :: l', (congrArg (o.toSpec :: ·) h1).trans (congrArg (· :: l'.map c) hy),
        (congrArg (j y :: ·) h2).trans (congrArg (· :: l.map i) hj)⟩

def templateItem (e : String × TemplateDoc) : Item :=
  match e.2.parsed with
  | none => .bad (.parseTemplate e.1)
  | some t => .op (.addTemplate (t.newId e.1)) (Err.addTemplate e.1)

def linkItem (l : TemplateLink) : Item :=
  match l.values with
  | none => .bad .linkValues
  | some v => .op (.link l.templateId l.newId v) Err.link

def tailItems (f : FfiPolicySet) : List Item := f.templates.map templateItem ++ f.templateLinks.map linkItem

theorem templateItem_op {e : String × TemplateDoc} {o : ApiOp} {w : PSError → Err} (h : templateItem e = .op o w) :
    ∃ t, e.2.parsed = some t ∧ o = .addTemplate (t.newId e.1) := by
  unfold templateItem at h
  split at h
  · cases h
  · rename_i t ht
    cases h
    exact ⟨t, ht, rfl⟩

theorem linkItem_op {l : TemplateLink} {o : ApiOp} {w : PSError → Err} (h : linkItem l = .op o w) :
    ∃ v, o = .link l.templateId l.newId v := by
  unfold linkItem at h
  split at h
  · cases h
  · cases h
    exact ⟨_, rfl⟩

/-- the document-level outcome of the static part: the bodies (ids assigned) that `from_str` / `from_policies` adds, in
order, or the errors reported without any call -/
def staticAdds : StaticPolicySet → Except (List Err) (List TemplateBody)
  | .concatenated none => .error [.parsePolicies]
  | .concatenated (some items) =>
    if (numbered 0 items).any ConcatItem.isTemplate then .error [.templateInStatic]
    else .ok (staticBodies (numbered 0 items))
  | .set docs =>
    let r := parseDocs (docs.map (fun d => (none, d)))
    if r.2.isEmpty then .ok r.1 else .error r.2
  | .map entries =>
    let r := parseDocs (entries.map (fun e => (some e.1, e.2)))
    if r.2.isEmpty then .ok r.1 else .error r.2

def staticWrap : StaticPolicySet → PSError → Err
  | .concatenated _, _ => .parsePolicies
  | _, e => .fromPolicies e

/-- the document-level outcome of the `Set` / `Map` arms: every body, or every error -/
def docsOutcome (l : List (Option String × PolicyDoc)) : Except (List Err) (List TemplateBody) :=
  if (parseDocs l).2.isEmpty then .ok (parseDocs l).1 else .error (parseDocs l).2

theorem docsOutcome_parse (l : List (Option String × PolicyDoc)) :
    (if (parseDocs l).2.isEmpty then
        (match fromPolicies (parseDocs l).1 with
         | .ok s => .ok s
         | .error e => .error [.fromPolicies e])
      else .error (parseDocs l).2 : Except (List Err) ApiPolicySet) =
    (match docsOutcome l with
      | .error es => .error es
      | .ok bs => match runStrict {} (bs.map ApiOp.add) with
        | .ok s => .ok s
        | .error e => .error [.fromPolicies e]) := by
  unfold docsOutcome
  rw [fromPolicies, fromPoliciesFrom_eq]
  cases (parseDocs l).2.isEmpty <;> rfl

theorem docsOutcome_error_ne_nil {l : List (Option String × PolicyDoc)} {es : List Err}
    (h : docsOutcome l = .error es) : es ≠ [] := by
  unfold docsOutcome at h
  split at h
  · cases h
  · rename_i hne
    cases h
    intro h0
    exact hne (by rw [h0]; rfl)

theorem static_parse_eq (sp : StaticPolicySet) :
    sp.parse = (match staticAdds sp with
      | .error es => .error es
      | .ok bs => match runStrict {} (bs.map ApiOp.add) with
        | .ok s => .ok s
        | .error e => .error [staticWrap sp e]) := by
  cases sp with
  | concatenated p =>
    cases p with
    | none => rfl
    | some items =>
      simp only [StaticPolicySet.parse, fromStr, staticAdds, fromPolicies, fromPoliciesFrom_eq]
      cases (numbered 0 items).any ConcatItem.isTemplate
      · simp only [Bool.false_eq_true, if_false]
        generalize runStrict _ _ = r
        cases r <;> rfl
      · rfl
  | set docs => exact docsOutcome_parse _
  | map entries => exact docsOutcome_parse _

theorem staticAdds_error_ne_nil (sp : StaticPolicySet) (es : List Err) (h : staticAdds sp = .error es) : es ≠ [] := by
  cases sp with
  | concatenated p =>
    cases p with
    | none => cases h; exact List.cons_ne_nil _ _
    | some items =>
      simp only [staticAdds] at h
      split at h
      · cases h; exact List.cons_ne_nil _ _
      · cases h
  | set docs => exact docsOutcome_error_ne_nil h
  | map entries => exact docsOutcome_error_ne_nil h

theorem parseDocs_ids (l : List (Option String × PolicyDoc)) (h : (parseDocs l).2 = []) :
    (parseDocs l).1.map (·.id) = l.map (fun x => match x.1 with | some i => i | none => x.2.fmt.defaultId) := by
  induction l with
  | nil => rfl
  | cons x l ih =>
    obtain ⟨id, d⟩ := x
    simp only [parseDocs, PolicyDoc.parse] at h ⊢
    cases hp : d.parsed with
    | none => rw [hp] at h; simp at h
    | some b =>
      simp only [hp] at h
      simp only [List.map_cons, ih h, TemplateBody.newId]
      rfl

theorem docsOutcome_ids {l : List (Option String × PolicyDoc)} {bs : List TemplateBody} (h : docsOutcome l = .ok bs) :
    bs.map (·.id) = l.map (fun x => match x.1 with | some i => i | none => x.2.fmt.defaultId) := by
  unfold docsOutcome at h
  split at h
  · rename_i he
    cases h
    exact parseDocs_ids l (List.isEmpty_iff.mp he)
  · cases h

theorem numbered_ids (items : List ConcatItem) : ∀ n, (numbered n items).any ConcatItem.isTemplate = false →
    (staticBodies (numbered n items)).map (·.id) = (List.range' n items.length).map (fun n => s!"policy{n}") := by
  induction items with
  | nil => intro n _; rfl
  | cons it items ih =>
    intro n h
    cases it with
    | static b =>
      simp only [numbered, List.any_cons, ConcatItem.isTemplate, Bool.false_or] at h
      simp only [numbered, staticBodies, List.map_cons, List.length_cons, List.range'_succ, ih (n + 1) h, TemplateBody.newId]
    | template t => simp [numbered, ConcatItem.isTemplate] at h

theorem staticAdds_ids (sp : StaticPolicySet) (bs : List TemplateBody) (h : staticAdds sp = .ok bs) :
    bs.map (·.id) = staticIds sp := by
  cases sp with
  | concatenated p =>
    cases p with
    | none => cases h
    | some items =>
      simp only [staticAdds] at h
      split at h
      · cases h
      · rename_i hn
        cases h
        rw [numbered_ids items 0 (Bool.not_eq_true _ ▸ hn), staticIds, List.range_eq_range']
  | set docs => exact (docsOutcome_ids h).trans (List.map_map ..)
  | map entries => exact (docsOutcome_ids h).trans (List.map_map ..)

theorem assembleSteps_eq (f : FfiPolicySet) :
    assembleSteps f = (match f.staticPolicies.parse with
      | .ok s => (s.run (itemOps (tailItems f)), errsOf s (tailItems f))
      | .error es => (ApiPolicySet.run {} (itemOps (tailItems f)), es ++ errsOf {} (tailItems f))) := by
  have h1 : addTemplateStep = fun acc e => logStep acc (templateItem e) := by
    funext acc e
    unfold addTemplateStep templateItem
    cases e.2.parsed <;> rfl
  have h2 : linkStep = fun acc l => logStep acc (linkItem l) := by
    funext acc l
    unfold linkStep linkItem
    cases l.values <;> rfl
  unfold assembleSteps tailItems
  dsimp only
  rw [h1, h2, ← List.foldl_map (f := templateItem) (g := logStep), ← List.foldl_map (f := linkItem) (g := logStep),
    ← List.foldl_append]
  cases f.staticPolicies.parse <;> exact foldl_logStep _ _ _

/-- THE explicit API history of an FFI policy set whose static documents parse to `bs`:
`add` for each static policy, then `add_template` for each parsed template, then `link` for each link with parsed
values — in the order of the Rust loops -/
def apiHistoryOf (bs : List TemplateBody) (f : FfiPolicySet) : List ApiOp :=
  bs.map ApiOp.add ++ itemOps (tailItems f)

/-- the history, when the static part passes its document-level checks (empty static part otherwise) -/
def apiHistory (f : FfiPolicySet) : List ApiOp :=
  match staticAdds f.staticPolicies with
  | .ok bs => apiHistoryOf bs f
  | .error _ => itemOps (tailItems f)

/-- every template handed to `add_template` has a slot (`Template::parse` / `Template::from_json` refuse a
slot-less policy): a fact about the parsers, hypothesis of `assemble_inv`, `assemble_ids`, `assemble_ids_collision` -/
def FfiPolicySet.TemplatesHaveSlots (f : FfiPolicySet) : Prop :=
  ∀ e t, e ∈ f.templates → e.2.parsed = some t → t.slots ≠ []

theorem apiHistoryOf_wellTyped (bs : List TemplateBody) (f : FfiPolicySet) (hs : f.TemplatesHaveSlots) :
    ∀ op, op ∈ apiHistoryOf bs f → op.wellTyped := by
  intro op h
  simp only [apiHistoryOf, tailItems, itemOps_append, List.mem_append, List.mem_map] at h
  rcases h with ⟨b, _, rfl⟩ | h | h
  · trivial
  · obtain ⟨w, hw⟩ := mem_itemOps h
    obtain ⟨e, he, heq⟩ := List.mem_map.mp hw
    obtain ⟨t, ht, rfl⟩ := templateItem_op heq
    exact hs e t he ht
  · obtain ⟨w, hw⟩ := mem_itemOps h
    obtain ⟨l, _, heq⟩ := List.mem_map.mp hw
    obtain ⟨v, rfl⟩ := linkItem_op heq
    trivial

def opStatic : Spec.Op → List String
  | .add b => [b.id]
  | _ => []
def opTemplate : Spec.Op → List String
  | .addTemplate t => [t.id]
  | _ => []
def opLink : Spec.Op → List String
  | .link _ n _ => [n]
  | _ => []
def isGrow : Spec.Op → Bool
  | .add _ | .addTemplate _ | .link _ _ _ => true
  | _ => false

def sIds (sp : Spec) : List String := sp.statics.map (·.1)
def tIds (sp : Spec) : List String := sp.templates.map (·.1)
def lIds (sp : Spec) : List String := sp.links.map (·.1)

def NodupIds (sp : Spec) : Prop := (sIds sp ++ tIds sp ++ lIds sp).Nodup

/-- a fresh id may go anywhere: a state whose ids are a rearrangement of `k :: ids of sp` has distinct ids -/
theorem nodupIds_of_perm_cons {sp sp' : Spec} {k : String} (hk : ¬sp.hasId k = true) (nd : NodupIds sp)
    (p : (sIds sp' ++ tIds sp' ++ lIds sp').Perm (k :: (sIds sp ++ tIds sp ++ lIds sp))) : NodupIds sp' := by
  refine p.nodup_iff.mpr (List.nodup_cons.mpr ⟨?_, nd⟩)
  simp only [Spec.hasId, Bool.not_eq_true, Bool.or_eq_false_iff, List.any_eq_false, beq_iff_eq] at hk
  simp only [sIds, tIds, lIds, List.mem_append, List.mem_map, not_or, not_exists, not_and]
  exact ⟨⟨fun x hx he => hk.1.1 x hx he, fun x hx he => hk.1.2 x hx he⟩, fun x hx he => hk.2 x hx he⟩

theorem apply_grow (sp sp' : Spec) (op : Spec.Op) (hg : isGrow op = true) (h : sp.apply op = some sp') (nd : NodupIds sp) :
    sIds sp' = sIds sp ++ opStatic op ∧ tIds sp' = tIds sp ++ opTemplate op ∧ lIds sp' = lIds sp ++ opLink op ∧
    NodupIds sp' := by
  cases op with
  | add b =>
    simp only [Spec.apply] at h
    split at h
    · cases h
    · rename_i hh
      cases h
      have e : sIds { sp with statics := sp.statics ++ [(b.id, b)] } = sIds sp ++ [b.id] := List.map_append
      exact ⟨e, (List.append_nil _).symm, (List.append_nil _).symm, nodupIds_of_perm_cons hh nd
        (by rw [e]; exact (List.perm_append_singleton _ _).append_right _ |>.append_right _)⟩
  | addTemplate t =>
    simp only [Spec.apply] at h
    split at h
    · cases h
    · rename_i hh
      cases h
      have e : tIds { sp with templates := sp.templates ++ [(t.id, t)] } = tIds sp ++ [t.id] := List.map_append
      exact ⟨(List.append_nil _).symm, e, (List.append_nil _).symm, nodupIds_of_perm_cons hh nd
        (by rw [e]; exact ((List.perm_append_singleton _ _).append_left _).trans List.perm_middle |>.append_right _)⟩
  | link tid newId vals =>
    simp only [Spec.apply] at h
    split at h
    · cases h
    · split at h
      · cases h
      · split at h
        · cases h
        · rename_i hh
          cases h
          have e : lIds { sp with links := sp.links ++ [(newId, (tid, vals))] } = lIds sp ++ [newId] := List.map_append
          exact ⟨(List.append_nil _).symm, (List.append_nil _).symm, e, nodupIds_of_perm_cons hh nd
            (by rw [e]; exact ((List.perm_append_singleton _ _).append_left _).trans List.perm_middle)⟩
  | unlink _ => cases hg
  | removeStatic _ => cases hg
  | removeTemplate _ => cases hg

theorem runStrict_grow (ops : List ApiOp) : ∀ (s : ApiPolicySet) (sp : Spec) (s' : ApiPolicySet), s.WF → s.Proj →
    s.ast.AbsRel sp → NodupIds sp → (∀ op, op ∈ ops → op.wellTyped ∧ isGrow op.toSpec = true) → runStrict s ops = .ok s' →
    ∃ sp', s'.ast.AbsRel sp' ∧ sIds sp' = sIds sp ++ (ops.map ApiOp.toSpec).flatMap opStatic ∧
      tIds sp' = tIds sp ++ (ops.map ApiOp.toSpec).flatMap opTemplate ∧
      lIds sp' = lIds sp ++ (ops.map ApiOp.toSpec).flatMap opLink ∧ NodupIds sp' := by
  induction ops with
  | nil =>
    intro s sp s' _ _ R nd _ h
    cases h
    exact ⟨sp, R, (List.append_nil _).symm, (List.append_nil _).symm, (List.append_nil _).symm, nd⟩
  | cons op ops ih =>
    intro s sp s' wf pr R nd hops h
    simp only [runStrict] at h
    have href := ApiPolicySet.applyOp_refines s op sp wf pr R
    cases he : (s.applyOp op).err with
    | some e => rw [he] at h; cases h
    | none =>
      rw [he] at h
      cases hsa : sp.apply op.toSpec with
      | none => rw [hsa] at href; exact absurd he href.1
      | some sp1 =>
        rw [hsa] at href
        obtain ⟨hwt, hg⟩ := hops op List.mem_cons_self
        obtain ⟨b1, b2, b3, b4⟩ := apply_grow sp sp1 _ hg hsa nd
        obtain ⟨sp', R', c1, c2, c3, c4⟩ := ih _ sp1 s' (ApiPolicySet.applyOp_wf s op wf hwt)
          (ApiPolicySet.applyOp_proj s op wf pr) href.2 b4 (fun o ho => hops o (List.mem_cons_of_mem _ ho)) h
        rw [b1, List.append_assoc] at c1
        rw [b2, List.append_assoc] at c2
        rw [b3, List.append_assoc] at c3
        exact ⟨sp', R', c1, c2, c3, c4⟩

theorem flatMap_const_nil {γ β : Type} (l : List γ) : l.flatMap (fun _ => ([] : List β)) = [] :=
  List.flatMap_eq_nil_iff.mpr fun _ _ => rfl

theorem apiHistoryOf_ids (bs : List TemplateBody) (f : FfiPolicySet) (h : noBad (tailItems f) = true) :
    let ops := (apiHistoryOf bs f).map ApiOp.toSpec
    (∀ op, op ∈ ops → isGrow op = true) ∧ ops.flatMap opStatic = bs.map (·.id) ∧
      ops.flatMap opTemplate = f.templateIds ∧ ops.flatMap opLink = f.linkIds := by
  simp only [tailItems, noBad_append, Bool.and_eq_true] at h
  obtain ⟨ts, t1, t2⟩ := itemOps_map_eq templateItem Spec.Op.addTemplate (·.1) (·.id)
    (fun e o w he => by obtain ⟨t, _, rfl⟩ := templateItem_op he; exact ⟨_, rfl, rfl⟩) f.templates h.1
  obtain ⟨ls, l1, l2⟩ := itemOps_map_eq linkItem (fun l : String × String × SlotVals => .link l.1 l.2.1 l.2.2)
    (·.newId) (·.2.1)
    (fun l o w he => by obtain ⟨v, rfl⟩ := linkItem_op he; exact ⟨(_, _, v), rfl, rfl⟩) f.templateLinks h.2
  intro ops
  have hh : ops = bs.map .add ++ ts.map .addTemplate ++ ls.map fun l => .link l.1 l.2.1 l.2.2 := by
    show (apiHistoryOf bs f).map ApiOp.toSpec = _
    rw [apiHistoryOf, tailItems, itemOps_append, List.map_append, List.map_append, t1, l1, List.map_map, List.append_assoc]
    rfl
  rw [hh, FfiPolicySet.templateIds, FfiPolicySet.linkIds, ← t2, ← l2]
  refine ⟨fun op hop => ?_, ?_, ?_, ?_⟩
  · simp only [List.mem_append, List.mem_map] at hop
    obtain (⟨b, _, rfl⟩ | ⟨t, _, rfl⟩) | ⟨l, _, rfl⟩ := hop <;> rfl
  all_goals
    simp only [List.flatMap_append, List.flatMap_map, opStatic, opTemplate, opLink, flatMap_const_nil,
      ← List.map_eq_flatMap, List.append_nil, List.nil_append]

theorem _root_.Cedar.PolicySet.AbsRel.links_isSome {ps : PolicySet} {sp : Spec} (R : ps.AbsRel sp) (k : String) :
    (ps.links.get? k).isSome = true ↔ k ∈ sIds sp ∨ k ∈ lIds sp := by
  constructor
  · intro hk
    obtain ⟨p, hp⟩ := Option.isSome_iff_exists.mp hk
    by_cases hpl : p.link = none
    · exact .inl (List.mem_map.mpr ⟨_, (R.statics k p.template.body).mpr ⟨p, hp, hpl, rfl⟩, rfl⟩)
    · exact .inr (List.mem_map.mpr ⟨_, (R.links k p.template.id p.values).mpr ⟨p, hp, hpl, rfl, rfl⟩, rfl⟩)
  · rintro (hk | hk)
    · obtain ⟨⟨k', b⟩, hm, rfl⟩ := List.mem_map.mp hk
      obtain ⟨p, hp, _⟩ := (R.statics k' b).mp hm
      exact hp ▸ rfl
    · obtain ⟨⟨k', tid, vals⟩, hm, rfl⟩ := List.mem_map.mp hk
      obtain ⟨p, hp, _⟩ := (R.links k' tid vals).mp hm
      exact hp ▸ rfl

theorem _root_.Cedar.PolicySet.AbsRel.templates_isSome {s : ApiPolicySet} {sp : Spec} (R : s.ast.AbsRel sp) (pr : s.Proj) (k : String) :
    (s.templates.get? k).isSome = true ↔ k ∈ tIds sp := by
  constructor
  · intro hk
    obtain ⟨t, ht⟩ := Option.isSome_iff_exists.mp hk
    exact List.mem_map.mpr ⟨_, (R.templates k t).mpr ((pr.tmpl k t).mp ht), rfl⟩
  · intro hk
    obtain ⟨⟨k', t⟩, hm, rfl⟩ := List.mem_map.mp hk
    exact (pr.tmpl k' t).mpr ((R.templates k' t).mp hm) ▸ rfl

theorem runStrict_ids (bs : List TemplateBody) (f : FfiPolicySet) (s : ApiPolicySet) (hs : f.TemplatesHaveSlots)
    (hb : noBad (tailItems f) = true) (hr : runStrict {} (apiHistoryOf bs f) = .ok s) :
    (∀ k, (s.ast.links.get? k).isSome = true ↔ k ∈ bs.map (·.id) ∨ k ∈ f.linkIds) ∧
    (∀ k, (s.policies.get? k).isSome = true ↔ k ∈ bs.map (·.id) ∨ k ∈ f.linkIds) ∧
    (∀ k, (s.templates.get? k).isSome = true ↔ k ∈ f.templateIds) ∧
    (bs.map (·.id) ++ f.templateIds ++ f.linkIds).Nodup := by
  have wt := apiHistoryOf_wellTyped bs f hs
  obtain ⟨hg, f1, f2, f3⟩ := apiHistoryOf_ids bs f hb
  obtain ⟨sp, R, e1, e2, e3, nd⟩ := runStrict_grow _ {} {} s ApiPolicySet.wf_empty ApiPolicySet.proj_empty
    PolicySet.absRel_empty List.nodup_nil (fun op hop => ⟨wt op hop, hg _ (List.mem_map_of_mem hop)⟩) hr
  rw [f1] at e1
  rw [f2] at e2
  rw [f3] at e3
  replace e1 : sIds sp = bs.map (·.id) := e1
  replace e2 : tIds sp = f.templateIds := e2
  replace e3 : lIds sp = f.linkIds := e3
  have pr : s.Proj := by
    rw [runStrict_ok_run _ _ _ hr]
    exact (ApiPolicySet.run_proj _ {} ApiPolicySet.wf_empty ApiPolicySet.proj_empty wt).2
  rw [← e1, ← e2, ← e3]
  exact ⟨R.links_isSome, fun k => by rw [pr.pol]; exact R.links_isSome k, R.templates_isSome pr, nd⟩

end Cedar.FfiP
