import CedarVerif.Cedar.NoPanic.EstDisplay
/-
C20 lemmas for `Cedar/NoPanic/EstDisplay.lean`: with the emptiness guard (`fixed = true`) no value reaches a panic outcome,
by mutual structural induction over the value and its lists; the `enumerate()` loops keep `i + remaining = len`.
-/
namespace Cedar
namespace NoPanic
namespace EstDisp

def Out.isPanic : Out → Bool
  | .panic _ => true
  | .text _ => false

theorem Out.not_isPanic_iff (o : Out) : o.isPanic = false ↔ ∀ site, o ≠ .panic site := by
  cases o <;> simp [Out.isPanic]

theorem bind_safe {o : Out} {f : String → Out} (h1 : o.isPanic = false) (h2 : ∀ s, (f s).isPanic = false) :
    (o.bind f).isPanic = false := by
  cases o with
  | text s => exact h2 s
  | panic p => cases h1

mutual
theorem display_safe (style : String → Option Bool) : ∀ (n : Option Nat) (v : CVJ), (display true style n v).isPanic = false
  | n, .atom t => by simp [display, Out.isPanic]
  | n, .extnSingle fn arg => by
    unfold display
    split <;> exact bind_safe (display_safe style n arg) (fun _ => rfl)
  | n, .extnMulti fn [] => by
    unfold display
    simp only [Bool.not_true, List.isEmpty_nil, Bool.or_self, Bool.and_false, Bool.false_eq_true, if_false]
    exact bind_safe (commaSep_safe style n []) (fun _ => rfl)
  | n, .extnMulti fn (a0 :: rest) => by
    unfold display
    split
    · refine bind_safe (display_safe style n a0) (fun r => ?_)
      rw [if_pos (by simp)]
      exact bind_safe (commaSep_safe style n rest) (fun _ => rfl)
    · exact bind_safe (commaSep_safe style n (a0 :: rest)) (fun _ => rfl)
  | n, .set vs => by
    unfold display
    split
    · split
      · exact bind_safe (takeSep_safe style _ _ vs) (fun _ => rfl)
      · exact bind_safe (enumSep_safe style _ vs.length 0 vs (by omega)) (fun _ => rfl)
    · exact bind_safe (enumSep_safe style _ vs.length 0 vs (by omega)) (fun _ => rfl)
  | n, .record kvs => by
    unfold display
    split
    · split
      · exact bind_safe (takeSepKV_safe style _ _ kvs) (fun _ => rfl)
      · exact bind_safe (enumSepKV_safe style _ kvs.length 0 kvs (by omega)) (fun _ => rfl)
    · exact bind_safe (enumSepKV_safe style _ kvs.length 0 kvs (by omega)) (fun _ => rfl)

theorem commaSep_safe (style : String → Option Bool) : ∀ (n : Option Nat) (vs : List CVJ), (commaSep true style n vs).isPanic = false
  | n, [] => by simp [commaSep, Out.isPanic]
  | n, [last] => by unfold commaSep; exact display_safe style n last
  | n, a :: b :: rest => by
    unfold commaSep
    exact bind_safe (display_safe style n a) (fun _ => bind_safe (commaSep_safe style n (b :: rest)) (fun _ => rfl))

theorem takeSep_safe (style : String → Option Bool) (bound : Nat) : ∀ (k : Nat) (vs : List CVJ),
    (takeSep true style bound k vs).isPanic = false
  | 0, _ => by simp [takeSep, Out.isPanic]
  | _ + 1, [] => by simp [takeSep, Out.isPanic]
  | k + 1, v :: vs => by
    unfold takeSep
    exact bind_safe (display_safe style _ v) (fun _ => bind_safe (takeSep_safe style bound k vs) (fun _ => rfl))

theorem enumSep_safe (style : String → Option Bool) (n : Option Nat) (len : Nat) : ∀ (i : Nat) (vs : List CVJ),
    i + vs.length = len → (enumSep true style n len i vs).isPanic = false
  | _, [], _ => by simp [enumSep, Out.isPanic]
  | i, v :: vs, h => by
    unfold enumSep
    simp only [List.length_cons] at h
    refine bind_safe (display_safe style n v) (fun _ => ?_)
    rw [if_neg (by omega)]
    exact bind_safe (enumSep_safe style n len (i + 1) vs (by omega)) (fun _ => rfl)

theorem takeSepKV_safe (style : String → Option Bool) (bound : Nat) : ∀ (k : Nat) (kvs : List (String × CVJ)),
    (takeSepKV true style bound k kvs).isPanic = false
  | 0, _ => by simp [takeSepKV, Out.isPanic]
  | _ + 1, [] => by simp [takeSepKV, Out.isPanic]
  | k + 1, (key, v) :: kvs => by
    unfold takeSepKV
    exact bind_safe (display_safe style _ v) (fun _ => bind_safe (takeSepKV_safe style bound k kvs) (fun _ => rfl))

theorem enumSepKV_safe (style : String → Option Bool) (n : Option Nat) (len : Nat) : ∀ (i : Nat) (kvs : List (String × CVJ)),
    i + kvs.length = len → (enumSepKV true style n len i kvs).isPanic = false
  | _, [], _ => by simp [enumSepKV, Out.isPanic]
  | i, (key, v) :: kvs, h => by
    unfold enumSepKV
    simp only [List.length_cons] at h
    refine bind_safe (display_safe style n v) (fun _ => ?_)
    rw [if_neg (by omega)]
    exact bind_safe (enumSepKV_safe style n len (i + 1) kvs (by omega)) (fun _ => rfl)
end

end EstDisp
end NoPanic
end Cedar
