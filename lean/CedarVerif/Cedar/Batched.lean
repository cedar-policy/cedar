import CedarVerif.Cedar.Tpe
/-
Batched (loader-driven) authorization.  Mirrors `is_authorized_batched` (cedar-policy-core/src/batched_evaluator.rs):
the concrete request as a partial request, an initially EMPTY partial store (no action entities), the initial
interpretation of every typed policy condition, then at most `max_iters` rounds of
  collect `all_literal_uids` of the residuals → drop the ids already in the store → `loader.load_entities` →
  add EVERY returned pair (`Some(e)` ↦ the entity with all components known, `None` ↦ the EMPTY entity:
  "missing entities are equivalent to empty entities"); an id that is already loaded is a `Duplicate` error →
  re-interpret all residuals → stop when none is `Partial`;
finally `Response::new(..).decision()`: `Some(d)` ↦ `Ok(d)`, `None` ↦ `InsufficientIterationsError`.
Schema validation of loaded entities is not modelled (the stores submitted are conformant).  Imports only the TPE model.
-/
namespace Cedar.Batched
open Cedar Cedar.Tpe

/-- `EntityLoader::load_entities`: for a set of ids, pairs id ↦ `Some(entity)` / `None`; may return more than asked -/
abbrev Loader := List EntityUID → List (EntityUID × Option EntityData)

inductive Outcome where
  | ok (d : Decision)
  | insufficient
  | error            -- any other `BatchedEvalError` (here: duplicate entity)
  | tpeError         -- `policy_residual_map` failed (slot / unknown in a policy)
deriving Repr, DecidableEq, Inhabited

/-- `PartialEntity::try_from(Entity)`; `Entity::with_uid` for a missing one -/
def pentityOf : Option EntityData → PEntity
  | some d => { attrs := some d.attrs, ancestors := some d.ancestors, tags := some d.tags }
  | none => { attrs := some [], ancestors := some [], tags := some [] }

structure State where
  entities : Tpe.PEntities
  residuals : List ResidualPolicy
deriving Inhabited

/-- a set of ids as a duplicate-free list (the order of a `HashSet` is not observable) -/
def dedup : List EntityUID → List EntityUID
  | [] => []
  | x :: xs => if xs.contains x then dedup xs else x :: dedup xs

/-- the ids requested in a round -/
def State.toLoad (st : State) : List EntityUID :=
  dedup ((st.residuals.flatMap (fun rp => rp.residual.uids)).filter (fun u => !st.entities.contains u))

/-- `add_entities` / `add_entity_trusted` for every returned pair, erroring on an id that is already present -/
def addLoaded : Tpe.PEntities → List (EntityUID × Option EntityData) → Option Tpe.PEntities
  | es, [] => some es
  | es, (u, d) :: rest => if es.contains u then none else addLoaded (es ++ [(u, pentityOf d)]) rest

def reinterpret (req : Tpe.PRequest) (es : Tpe.PEntities) (rp : ResidualPolicy) : ResidualPolicy :=
  { rp with residual := interpret req es rp.residual }

/-- one iteration of the `for` loop (without the `break` test) -/
def step (req : Tpe.PRequest) (loader : Loader) (st : State) : Option State :=
  match addLoaded st.entities (loader st.toLoad) with
  | none => none
  | some es => some { entities := es, residuals := st.residuals.map (reinterpret req es) }

def State.done (st : State) : Bool := st.residuals.all (fun rp => !rp.residual.isPartial)

/-- `for _i in 0..max_iters { …; if all done { break } }` -/
def loop (req : Tpe.PRequest) (loader : Loader) : Nat → State → Option State
  | 0, st => some st
  | n + 1, st =>
    match step req loader st with
    | none => none
    | some st' => if st'.done then some st' else loop req loader n st'

def State.decision (req : Tpe.PRequest) (st : State) : Option Decision :=
  (Tpe.Response.mk st.residuals req st.entities).decision

/-- `concrete_request_to_partial` -/
def prequestOf (q : Request) : Tpe.PRequest :=
  ⟨⟨q.principal.ty, some q.principal.eid⟩, q.action, ⟨q.resource.ty, some q.resource.eid⟩, some q.context⟩

def initState (req : Tpe.PRequest) (tps : List TPolicy) : Option State :=
  (mapM? (residualPolicyOf req ([] : Tpe.PEntities)) tps).map (fun rs => { entities := ([] : Tpe.PEntities), residuals := rs })

def runFrom (req : Tpe.PRequest) (loader : Loader) (budget : Nat) (st : State) : Outcome :=
  match loop req loader budget st with
  | none => .error
  | some st' =>
    match st'.decision req with
    | some d => .ok d
    | none => .insufficient

/-- `is_authorized_batched` -/
def run (budget : Nat) (loader : Loader) (q : Request) (tps : List TPolicy) : Outcome :=
  match initState (prequestOf q) tps with
  | none => .tpeError
  | some st => runFrom (prequestOf q) loader budget st

/-- the loader backed by a store that returns exactly what is asked -/
def storeLoader (es : Entities) : Loader := fun ids => ids.map (fun u => (u, es.find? u))

end Cedar.Batched
