import CedarVerif.Cedar.Authorizer
import CedarVerif.Cedar.Est.Est
/-
The JSON policy format, policy level.  Mirrors cedar-policy-core/src/est.rs (`est::Policy`, `Clause`,
`try_into_ast_policy_or_template`, `From<ast::Template>`), est/scope_constraints.rs, est/annotation.rs,
and template linking (`ast::Template::link` / `Policy::env`).
A `Template` without slots is a static policy.  Import-free (model files only).
-/
namespace Cedar.Est
open Cedar

inductive EntityRef where
  | euid (u : EntityUID)
  | slot
deriving Repr, DecidableEq, Inhabited

/-- `ast::PrincipalOrResourceConstraint` -/
inductive ScopeC where
  | any
  | eq (r : EntityRef)
  | mem (r : EntityRef)
  | is (ty : EntityType)
  | isIn (ty : EntityType) (r : EntityRef)
deriving Repr, DecidableEq, Inhabited

/-- `ast::ActionConstraint` -/
inductive ActionC where
  | any
  | eq (u : EntityUID)
  | mem (us : List EntityUID)
deriving Repr, DecidableEq, Inhabited

/-- `ast::Template` without its id (the id is supplied by the caller of `from_json`) -/
structure Template where
  effect : Effect
  principal : ScopeC
  action : ActionC
  resource : ScopeC
  /-- key-sorted (`BTreeMap<AnyId, Annotation>`) -/
  annotations : List (String × String)
  /-- `non_scope_constraints` -/
  cond : Option Expr
deriving Repr, Inhabited

/-! ### writer: `From<ast::Template> for est::Policy`, `Serialize` -/

def effectName : Effect → String
  | .permit => "permit" | .forbid => "forbid"

def refMember (slot : SlotId) : EntityRef → String × Json
  | .euid u => ("entity", uidJson u)
  | .slot => ("slot", .str (slotName slot))

def scopeJson (slot : SlotId) : ScopeC → Json
  | .any => .obj [("op", .str "All")]
  | .eq r => .obj [("op", .str "=="), refMember slot r]
  | .mem r => .obj [("op", .str "in"), refMember slot r]
  | .is ty => .obj [("op", .str "is"), ("entity_type", .str ty)]
  | .isIn ty r => .obj [("op", .str "is"), ("entity_type", .str ty), ("in", .obj [refMember slot r])]

def actionJson : ActionC → Json
  | .any => .obj [("op", .str "All")]
  | .eq u => .obj [("op", .str "=="), ("entity", uidJson u)]
  | .mem [u] => .obj [("op", .str "in"), ("entity", uidJson u)]
  | .mem us => .obj [("op", .str "in"), ("entities", .arr (us.map uidJson))]

def condsJson : Option Expr → Json
  | none => .arr []
  | some e => .arr [.obj [("kind", .str "when"), ("body", ofExpr e)]]

def ofTemplate (t : Template) : Json :=
  .obj ([("effect", .str (effectName t.effect)),
         ("principal", scopeJson .principal t.principal),
         ("action", actionJson t.action),
         ("resource", scopeJson .resource t.resource),
         ("conditions", condsJson t.cond)]
        ++ (if t.annotations.isEmpty then []
            else [("annotations", .obj (t.annotations.map (fun (k, v) => (k, .str v))))]))

/-! ### reader -/

def readEffect : Json → R Effect
  | .str "permit" => .ok .permit
  | .str "forbid" => .ok .forbid
  | .obj [("permit", .null)] => .ok .permit
  | .obj [("forbid", .null)] => .ok .forbid
  | _ => .error .shape

/-- `TypeAndId` read from an object (unknown members ignored) -/
def readTypeAndId (j : Json) : Option (String × String) :=
  match j with
  | .obj r => match jlookup r "type", jlookup r "id" with
    | some (.str ty), some (.str eid) => some (ty, eid)
    | _, _ => none
  | _ => none

/-- `EntityUidJson` (untagged: `__expr` escape, explicit `__entity`, implicit `{type,id}`, anything else)
followed by `into_euid` -/
def readEntityUid (j : Json) : R EntityUID :=
  match j with
  | .obj r =>
    match jlookup r "__expr" with
    | some (.str _) => .error .exprEscape
    | _ =>
      match (jlookup r "__entity").bind readTypeAndId with
      | some (ty, eid) => uidOf ty eid
      | none =>
        match readTypeAndId j with
        | some (ty, eid) => uidOf ty eid
        | none => .error .shape
  | _ => .error .shape

/-- `EqConstraint` / `PrincipalOrResourceInConstraint` (untagged `{entity}` | `{slot}`) and the slot check -/
def readRef (slot : SlotId) (fields : List (String × Json)) : R EntityRef :=
  match jlookup fields "entity" with
  | some j => (readEntityUid j).map .euid
  | none =>
    match jlookup fields "slot" with
    | some j => do
      let s ← readSlot j
      if s == slot then .ok .slot else .error .slot
    | none => .error .shape

def readScope (slot : SlotId) (j : Json) : R ScopeC :=
  match j with
  | .obj fields =>
    if !noDupKeys fields then .error .shape else
    match jlookup fields "op" with
    | some (.str "All") | some (.str "all") => .ok .any
    | some (.str "==") => (readRef slot fields).map .eq
    | some (.str "in") => (readRef slot fields).map .mem
    | some (.str "is") =>
      if onlyKeys fields ["op", "entity_type", "in"] then do
        let ty ← getS fields "entity_type"
        match jlookup fields "in" with
        | none => if validName ty then .ok (.is ty) else .error .badName
        | some (.obj inner) =>
          if validName ty then (readRef slot inner).map (.isIn ty) else .error .badName
        | some _ => .error .shape
      else .error .shape
    | _ => .error .shape
  | _ => .error .shape

def readUids : List Json → R (List EntityUID)
  | [] => .ok []
  | x :: xs => do let u ← readEntityUid x; let us ← readUids xs; .ok (u :: us)

/-- `EntityType::is_action`: the basename is `Action` -/
def isActionType (ty : String) : Bool :=
  (splitColons ty.toList []).getLast? == some "Action".toList

def checkActions (c : ActionC) : R ActionC :=
  match c with
  | .any => .ok c
  | .eq u => if isActionType u.ty then .ok c else .error .actionType
  | .mem us => if us.all (fun u => isActionType u.ty) then .ok c else .error .actionType

def readAction (j : Json) : R ActionC :=
  match j with
  | .obj fields =>
    if !noDupKeys fields then .error .shape else
    match jlookup fields "op" with
    | some (.str "All") | some (.str "all") => .ok .any
    | some (.str "==") =>
      match jlookup fields "entity" with
      | some e => do let u ← readEntityUid e; checkActions (.eq u)
      | none => if hasKey fields "slot" then .error .slot else .error .shape
    | some (.str "in") =>
      match jlookup fields "entity" with
      | some e => do let u ← readEntityUid e; checkActions (.mem [u])
      | none =>
        match jlookup fields "entities" with
        | some (.arr xs) => do let us ← readUids xs; checkActions (.mem us)
        | _ => .error .shape
    | _ => .error .shape
  | _ => .error .shape

mutual
def exprHasSlot : Expr → Bool
  | .slot _ => true
  | .lit _ => false
  | .var _ => false
  | .unknown _ _ => false
  | .ite c t e => exprHasSlot c || exprHasSlot t || exprHasSlot e
  | .and a b => exprHasSlot a || exprHasSlot b
  | .or a b => exprHasSlot a || exprHasSlot b
  | .binaryApp _ a b => exprHasSlot a || exprHasSlot b
  | .unaryApp _ a => exprHasSlot a
  | .getAttr a _ => exprHasSlot a
  | .hasAttr a _ => exprHasSlot a
  | .like a _ => exprHasSlot a
  | .is a _ => exprHasSlot a
  | .call _ args => exprHasSlotList args
  | .set args => exprHasSlotList args
  | .record kvs => exprHasSlotKVs kvs
def exprHasSlotList : List Expr → Bool
  | [] => false
  | e :: es => exprHasSlot e || exprHasSlotList es
def exprHasSlotKVs : List (String × Expr) → Bool
  | [] => false
  | (_, e) :: kvs => exprHasSlot e || exprHasSlotKVs kvs
end

/-- `Clause::try_into_ast` with `filter_slots` -/
def readClause (j : Json) : R Expr :=
  match j with
  | .obj fields =>
    if exactKeys fields ["kind", "body"] then
      match jlookup fields "kind", jlookup fields "body" with
      | some (.str "when"), some b => do
        let e ← toExpr b
        if exprHasSlot e then .error .slotInClause else .ok e
      | some (.str "unless"), some b => do
        let e ← toExpr b
        if exprHasSlot e then .error .slotInClause else .ok (.unaryApp .not e)
      | _, _ => .error .shape
    else .error .shape
  | _ => .error .shape

def readClauses : List Json → R (List Expr)
  | [] => .ok []
  | x :: xs => do let e ← readClause x; let es ← readClauses xs; .ok (e :: es)

/-- the right fold `[c1, c2, c3] ↦ c1 && (c2 && c3)` -/
def foldConds : List Expr → Option Expr
  | [] => none
  | [e] => some e
  | e :: es => match foldConds es with
    | some r => some (mkAnd e r)
    | none => some e

/-- `AnyId`: `^[_a-zA-Z][_a-zA-Z0-9]*$` (reserved words allowed) -/
def validAnyId (s : String) : Bool :=
  match s.toList with
  | [] => false
  | c :: rest => isIdentStart c && rest.all isIdentChar

def readAnnValues : List (String × Json) → R (List (String × String))
  | [] => .ok []
  | (k, v) :: rest => do
    let s ← (match v with | .str s => .ok s | .null => .ok "" | _ => .error .shape : R String)
    if validAnyId k then do let r ← readAnnValues rest; .ok ((k, s) :: r) else .error .badName

def readAnnotations (j : Option Json) : R (List (String × String)) :=
  match j with
  | none => .ok []
  | some (.obj kvs) => do
    let vs ← readAnnValues kvs
    match sortKVs vs with
    | some s => .ok s
    | none => .error .dupKey
  | some _ => .error .shape

def policyKeys : List String := ["effect", "principal", "action", "resource", "conditions", "annotations"]

def toTemplate (j : Json) : R Template :=
  match j with
  | .obj fields =>
    if onlyKeys fields policyKeys && noDupKeys fields then
      match jlookup fields "effect", jlookup fields "principal", jlookup fields "action",
            jlookup fields "resource", jlookup fields "conditions" with
      | some e, some p, some a, some r, some (.arr cs) => do
        let effect ← readEffect e
        let principal ← readScope .principal p
        let action ← readAction a
        let resource ← readScope .resource r
        let conds ← readClauses cs
        let anns ← readAnnotations (jlookup fields "annotations")
        .ok { effect, principal, action, resource, annotations := anns, cond := foldConds conds }
      | _, _, _, _, _ => .error .shape
    else .error .shape
  | _ => .error .shape

/-! ### template links -/

def ScopeC.hasSlot : ScopeC → Bool
  | .eq .slot | .mem .slot | .isIn _ .slot => true
  | _ => false

def Template.slots (t : Template) : List SlotId :=
  (if t.principal.hasSlot then [.principal] else []) ++ (if t.resource.hasSlot then [SlotId.resource] else [])

/-- a linked policy: template + slot values (`ast::Policy { template, link, values }`) -/
structure Linked where
  id : String
  templateId : String
  env : SlotEnv
deriving Repr, Inhabited

/-- `Template::check_binding`: exactly the template's slots are bound -/
def checkBinding (t : Template) (env : SlotEnv) : Bool :=
  t.slots.all (fun s => env.any (fun b => b.1 == s)) && env.all (fun b => t.slots.contains b.1)
  && (env.map (·.1)).eraseDups.length == env.length

/-- `est::TemplateLink` JSON: `{"templateId": …, "newId": …, "values": {"?principal": uid, …}}` -/
def linkJson (l : Linked) : Json :=
  .obj [("templateId", .str l.templateId), ("newId", .str l.id),
        ("values", .obj (l.env.map (fun (s, u) => (slotName s, uidJson u))))]

def readLinkValues : List (String × Json) → R SlotEnv
  | [] => .ok []
  | (k, v) :: rest => do
    let s ← readSlot (.str k)
    let u ← readEntityUid v
    let r ← readLinkValues rest
    .ok ((s, u) :: r)

def toLinked (j : Json) : R Linked :=
  match j with
  | .obj fields =>
    if exactKeys fields ["templateId", "newId", "values"] then
      match jlookup fields "templateId", jlookup fields "newId", jlookup fields "values" with
      | some (.str t), some (.str n), some (.obj vs) => do
        if !noDupKeys vs then .error .dupKey else
        let env ← readLinkValues vs
        .ok { id := n, templateId := t, env }
      | _, _, _ => .error .shape
    else .error .shape
  | _ => .error .shape

/-! ### the condition a policy is evaluated with (`ast::Template::condition`) -/

def refExpr (slot : SlotId) : EntityRef → Expr
  | .euid u => .lit (.entityUID u)
  | .slot => .slot slot

def scopeExpr (v : Var) (slot : SlotId) : ScopeC → Expr
  | .any => .lit (.bool true)
  | .eq r => .binaryApp .eq (.var v) (refExpr slot r)
  | .mem r => .binaryApp .mem (.var v) (refExpr slot r)
  | .is ty => .is (.var v) ty
  | .isIn ty r => .and (.is (.var v) ty) (.binaryApp .mem (.var v) (refExpr slot r))

def actionExpr : ActionC → Expr
  | .any => .lit (.bool true)
  | .eq u => .binaryApp .eq (.var .action) (.lit (.entityUID u))
  | .mem us => .binaryApp .mem (.var .action) (.set (us.map (fun u => .lit (.entityUID u))))

/-- `principal_constraint && action_constraint && resource_constraint && non_scope_constraints`, nested to the left and with the
plain `.and`: the shape differs from Rust's `TemplateBody::condition`, which is `p && (a && (r && c))` built with the folding
`Expr::and` (that shape is `Cedar.TemplateBody.condition`, Cedar/PolicySet.lean).  Evaluation goes left to right through the
same four operands either way; the trees differ (`permit(principal, action, resource);`: `true` in Rust, four `.and` here) -/
def Template.condition (t : Template) : Expr :=
  .and (.and (.and (scopeExpr .principal .principal t.principal) (actionExpr t.action))
             (scopeExpr .resource .resource t.resource))
       (match t.cond with | some e => e | none => .lit (.bool true))

/-- the `Policy` the authorizer sees for a static policy or a link -/
def Template.toPolicy (t : Template) (id : String) (env : SlotEnv) : Policy :=
  { id, effect := t.effect, condition := t.condition, env }

/-- what the authorizer computes for a JSON policy: read it (`from_json`), then evaluate the policy it denotes -/
def jsonPolicyOutcome (j : Json) (id : String) (env : SlotEnv) (req : Request) (es : Entities) : R Outcome :=
  (toTemplate j).map (fun t => (t.toPolicy id env).outcome req es)

end Cedar.Est
