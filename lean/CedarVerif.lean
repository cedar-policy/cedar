import CedarVerif.Cedar.Authorizer
import CedarVerif.Cedar.Batched
import CedarVerif.Cedar.Data
import CedarVerif.Cedar.Est.Est
import CedarVerif.Cedar.Est.Json
import CedarVerif.Cedar.Est.Policy
import CedarVerif.Cedar.Est.Trees
import CedarVerif.Cedar.Eval
import CedarVerif.Cedar.Expr
import CedarVerif.Cedar.ExprBeq
import CedarVerif.Cedar.ExprOps
import CedarVerif.Cedar.Ext
import CedarVerif.Cedar.Ffi
import CedarVerif.Cedar.FfiPolicies
import CedarVerif.Cedar.Fmt
import CedarVerif.Cedar.Json.Json
import CedarVerif.Cedar.Json.SchemaType
import CedarVerif.Cedar.Json.Value
import CedarVerif.Cedar.Manifest
import CedarVerif.Cedar.NoPanic.Collections
import CedarVerif.Cedar.NoPanic.Datetime
import CedarVerif.Cedar.NoPanic.Dispatch
import CedarVerif.Cedar.NoPanic.EstDisplay
import CedarVerif.Cedar.NoPanic.ExtArgCheck
import CedarVerif.Cedar.NoPanic.PartialResponse
import CedarVerif.Cedar.NoPanic.RemoveEmptyLines
import CedarVerif.Cedar.NoPanic.Unescape
import CedarVerif.Cedar.NoPanic.Utf8
import CedarVerif.Cedar.Partial
import CedarVerif.Cedar.Pattern
import CedarVerif.Cedar.PolicySet
import CedarVerif.Cedar.SchemaAnnot
import CedarVerif.Cedar.SchemaCollect
import CedarVerif.Cedar.SchemaDecl
import CedarVerif.Cedar.SchemaDecl2
import CedarVerif.Cedar.SchemaFmtCheck
import CedarVerif.Cedar.SchemaSyntax
import CedarVerif.Cedar.SetRepr
import CedarVerif.Cedar.Slice
import CedarVerif.Cedar.SymCC
import CedarVerif.Cedar.SymCompile
import CedarVerif.Cedar.Syntax.Escape
import CedarVerif.Cedar.Syntax.Lex
import CedarVerif.Cedar.Syntax.Parse
import CedarVerif.Cedar.Syntax.PolicyParse
import CedarVerif.Cedar.Syntax.PolicyPrint
import CedarVerif.Cedar.Syntax.Print
import CedarVerif.Cedar.Syntax.Token
import CedarVerif.Cedar.TC
import CedarVerif.Cedar.Tpe
import CedarVerif.Cedar.Validation.Conformance
import CedarVerif.Cedar.Validation.Level
import CedarVerif.Cedar.Validation.Schema
import CedarVerif.Cedar.Validation.Typecheck
import CedarVerif.Cedar.Validation.Types
import CedarVerif.Driver.Codec
import CedarVerif.Driver.CodecExpr
import CedarVerif.Driver.CodecSchema
import CedarVerif.Driver.Ops.Conf
import CedarVerif.Driver.Ops.Core
import CedarVerif.Driver.Ops.Est
import CedarVerif.Driver.Ops.Ffi
import CedarVerif.Driver.Ops.FfiPolicies
import CedarVerif.Driver.Ops.Fmt
import CedarVerif.Driver.Ops.Json
import CedarVerif.Driver.Ops.Level
import CedarVerif.Driver.Ops.Manifest
import CedarVerif.Driver.Ops.NoPanic
import CedarVerif.Driver.Ops.Partial
import CedarVerif.Driver.Ops.PolicySet
import CedarVerif.Driver.Ops.SchemaSyntax
import CedarVerif.Driver.Ops.SymCC
import CedarVerif.Driver.Ops.SymCompile
import CedarVerif.Driver.Ops.Syntax
import CedarVerif.Driver.Ops.SyntaxPolicy
import CedarVerif.Driver.Ops.TC
import CedarVerif.Driver.Ops.Tpe
import CedarVerif.Driver.Ops.Tyck
import CedarVerif.Driver.Ops.TypedAst
import CedarVerif.Lemmas.Assoc
import CedarVerif.Lemmas.Attrs
import CedarVerif.Lemmas.Auth
import CedarVerif.Lemmas.BatchedBudget
import CedarVerif.Lemmas.BatchedInv
import CedarVerif.Lemmas.BatchedMono
import CedarVerif.Lemmas.BatchedOut
import CedarVerif.Lemmas.BatchedSound
import CedarVerif.Lemmas.Beq
import CedarVerif.Lemmas.Conformance
import CedarVerif.Lemmas.Data
import CedarVerif.Lemmas.Est
import CedarVerif.Lemmas.EstPolicy
import CedarVerif.Lemmas.EstTrees
import CedarVerif.Lemmas.EstTreesPolicy
import CedarVerif.Lemmas.EstTreesPolicyDefs
import CedarVerif.Lemmas.EvalArms
import CedarVerif.Lemmas.EvalStore
import CedarVerif.Lemmas.Except
import CedarVerif.Lemmas.ExtDatetime
import CedarVerif.Lemmas.ExtDatetimeParse
import CedarVerif.Lemmas.ExtDecimal
import CedarVerif.Lemmas.ExtDigits
import CedarVerif.Lemmas.ExtDuration
import CedarVerif.Lemmas.ExtIP
import CedarVerif.Lemmas.ExtIPReject
import CedarVerif.Lemmas.ExtRenderDigits
import CedarVerif.Lemmas.ExtRenderIP
import CedarVerif.Lemmas.ExtRenderScalar
import CedarVerif.Lemmas.ExtRenderV6
import CedarVerif.Lemmas.ExtTable
import CedarVerif.Lemmas.Ffi
import CedarVerif.Lemmas.FfiPolicies
import CedarVerif.Lemmas.Fmt
import CedarVerif.Lemmas.JsonBasic
import CedarVerif.Lemmas.JsonEntity
import CedarVerif.Lemmas.JsonLeaf
import CedarVerif.Lemmas.JsonRoundTrip
import CedarVerif.Lemmas.JsonTyped
import CedarVerif.Lemmas.JsonTypedDefs
import CedarVerif.Lemmas.LHM
import CedarVerif.Lemmas.LevelAnnot
import CedarVerif.Lemmas.LevelFaithful
import CedarVerif.Lemmas.LevelMono
import CedarVerif.Lemmas.LevelOkInv
import CedarVerif.Lemmas.LevelSlice
import CedarVerif.Lemmas.LevelSound
import CedarVerif.Lemmas.LevelValues
import CedarVerif.Lemmas.Like
import CedarVerif.Lemmas.ManifestCheck
import CedarVerif.Lemmas.ManifestConf
import CedarVerif.Lemmas.ManifestCoreValid
import CedarVerif.Lemmas.ManifestCover
import CedarVerif.Lemmas.ManifestEnd
import CedarVerif.Lemmas.ManifestEval
import CedarVerif.Lemmas.ManifestFull
import CedarVerif.Lemmas.ManifestGrow
import CedarVerif.Lemmas.ManifestIn
import CedarVerif.Lemmas.ManifestLit
import CedarVerif.Lemmas.ManifestLitValid
import CedarVerif.Lemmas.ManifestLoad
import CedarVerif.Lemmas.ManifestMerge
import CedarVerif.Lemmas.ManifestMono
import CedarVerif.Lemmas.ManifestOrder
import CedarVerif.Lemmas.ManifestSim
import CedarVerif.Lemmas.ManifestSlice
import CedarVerif.Lemmas.ManifestSlicer
import CedarVerif.Lemmas.ManifestSorted
import CedarVerif.Lemmas.ManifestSound
import CedarVerif.Lemmas.ManifestTrieMap
import CedarVerif.Lemmas.ManifestTyped
import CedarVerif.Lemmas.ManifestValid
import CedarVerif.Lemmas.ManifestWF
import CedarVerif.Lemmas.NoPanicDatetime
import CedarVerif.Lemmas.NoPanicEstDisplay
import CedarVerif.Lemmas.NoPanicEvaluator
import CedarVerif.Lemmas.NoPanicExtArgCheck
import CedarVerif.Lemmas.NoPanicPartialResponse
import CedarVerif.Lemmas.NoPanicRemoveEmptyLines
import CedarVerif.Lemmas.NoPanicUnescape
import CedarVerif.Lemmas.NoPanicUtf8
import CedarVerif.Lemmas.PartialArms
import CedarVerif.Lemmas.PartialClosedWorld
import CedarVerif.Lemmas.PartialCompletes
import CedarVerif.Lemmas.PartialConcretize
import CedarVerif.Lemmas.PartialExt
import CedarVerif.Lemmas.PartialFirstPass
import CedarVerif.Lemmas.PartialFull
import CedarVerif.Lemmas.PartialInvariant
import CedarVerif.Lemmas.PartialPolicyAgrees
import CedarVerif.Lemmas.PartialPolicyLevel
import CedarVerif.Lemmas.PartialReauth
import CedarVerif.Lemmas.PartialSound
import CedarVerif.Lemmas.PartialSoundFrag
import CedarVerif.Lemmas.PartialSubstForm
import CedarVerif.Lemmas.PartialTable
import CedarVerif.Lemmas.PolicySetApi
import CedarVerif.Lemmas.PolicySetApiMerge
import CedarVerif.Lemmas.PolicySetEdit
import CedarVerif.Lemmas.PolicySetHist
import CedarVerif.Lemmas.PolicySetInv
import CedarVerif.Lemmas.PolicySetMerge
import CedarVerif.Lemmas.PolicySetRefine
import CedarVerif.Lemmas.PolicySetRenaming
import CedarVerif.Lemmas.PolicySetSubst
import CedarVerif.Lemmas.PolicySetUnion
import CedarVerif.Lemmas.SchemaActionDecl
import CedarVerif.Lemmas.SchemaAnnot
import CedarVerif.Lemmas.SchemaCollect
import CedarVerif.Lemmas.SchemaConvert
import CedarVerif.Lemmas.SchemaEntityDecl
import CedarVerif.Lemmas.SchemaFragment
import CedarVerif.Lemmas.SchemaSyntax
import CedarVerif.Lemmas.SchemaTables
import CedarVerif.Lemmas.SchemaWFDecidable
import CedarVerif.Lemmas.SetRepr
import CedarVerif.Lemmas.SymCHelpers
import CedarVerif.Lemmas.SymCSet
import CedarVerif.Lemmas.SymCSpec
import CedarVerif.Lemmas.SymCompile
import CedarVerif.Lemmas.SyntaxEscape
import CedarVerif.Lemmas.SyntaxFrag
import CedarVerif.Lemmas.SyntaxFull
import CedarVerif.Lemmas.SyntaxLexSpace
import CedarVerif.Lemmas.SyntaxMem
import CedarVerif.Lemmas.SyntaxParse
import CedarVerif.Lemmas.SyntaxPolicy
import CedarVerif.Lemmas.SyntaxPolicySound
import CedarVerif.Lemmas.SyntaxSound
import CedarVerif.Lemmas.SyntaxSplitOn
import CedarVerif.Lemmas.SyntaxTokOK
import CedarVerif.Lemmas.TC
import CedarVerif.Lemmas.TCCycle
import CedarVerif.Lemmas.TCDedup
import CedarVerif.Lemmas.TCEdit
import CedarVerif.Lemmas.TCFrom
import CedarVerif.Lemmas.TCOps
import CedarVerif.Lemmas.TCRemove
import CedarVerif.Lemmas.TCRepair
import CedarVerif.Lemmas.TCUpsert
import CedarVerif.Lemmas.TableDecide
import CedarVerif.Lemmas.TpeArmCases
import CedarVerif.Lemmas.TpeArmOut
import CedarVerif.Lemmas.TpeArms
import CedarVerif.Lemmas.TpeBridge
import CedarVerif.Lemmas.TpeDecision
import CedarVerif.Lemmas.TpeEmpty
import CedarVerif.Lemmas.TpeSound
import CedarVerif.Lemmas.TpeTable
import CedarVerif.Lemmas.TpeTypeSafe
import CedarVerif.Lemmas.TpeValid
import CedarVerif.Lemmas.TpeValidPolicy
import CedarVerif.Lemmas.TpeValidTotal
import CedarVerif.Lemmas.TypecheckAny
import CedarVerif.Lemmas.TypecheckBasic
import CedarVerif.Lemmas.TypecheckBeq
import CedarVerif.Lemmas.TypecheckDefs
import CedarVerif.Lemmas.TypecheckExt
import CedarVerif.Lemmas.TypecheckIn
import CedarVerif.Lemmas.TypecheckJudgment
import CedarVerif.Lemmas.TypecheckLub
import CedarVerif.Lemmas.TypecheckModes
import CedarVerif.Lemmas.TypecheckOps
import CedarVerif.Lemmas.TypecheckPFull
import CedarVerif.Lemmas.TypecheckPSound
import CedarVerif.Lemmas.TypecheckPolicy
import CedarVerif.Lemmas.TypecheckRules
import CedarVerif.Lemmas.TypecheckSIP
import CedarVerif.Lemmas.TypecheckSchemaCheck
import CedarVerif.Lemmas.TypecheckSound
import CedarVerif.Lemmas.TypecheckSteps
import CedarVerif.Lemmas.TypecheckSub
import CedarVerif.Lemmas.TypecheckTags
import CedarVerif.Lemmas.TypecheckVerdict
import CedarVerif.Lemmas.ValueUids
import CedarVerif.Thm.C01
import CedarVerif.Thm.C02
import CedarVerif.Thm.C03
import CedarVerif.Thm.C04
import CedarVerif.Thm.C05
import CedarVerif.Thm.C06
import CedarVerif.Thm.C07
import CedarVerif.Thm.C08
import CedarVerif.Thm.C09
import CedarVerif.Thm.C10
import CedarVerif.Thm.C11
import CedarVerif.Thm.C12
import CedarVerif.Thm.C13
import CedarVerif.Thm.C14
import CedarVerif.Thm.C15
import CedarVerif.Thm.C16
import CedarVerif.Thm.C17
import CedarVerif.Thm.C18
import CedarVerif.Thm.C19
import CedarVerif.Thm.C20
import CedarVerif.Util.Sexp
