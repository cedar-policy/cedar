import CedarVerif.Cedar.Validation.Typecheck
import CedarVerif.Cedar.Validation.Conformance
import CedarVerif.Cedar.Eval
import CedarVerif.Lemmas.TypecheckBeq
/-
Vocabulary of the C03 soundness statements.

The fragment predicates combine two conditions.  `RecordKeysDistinct e && SlotsLinked env e` is all that the strict fragment asks:
`InFragment2 env e = InFragmentM .strict env e` is that conjunction (`inFragment2_of` is the direction the theorems use).  The other
condition is "every least upper bound is taken with a syntactically flat side" (`FlatExpr`): an `if` has a flat branch, the elements
of a set literal are flat.  `InFragmentM .permissive` asks both (and non-empty set literals); `SIPFragment` (TypecheckSIP) the second
alone; `InFragment` the second, on literals, variables and `&&` `||` `if` `!` unary `-` `+ - *` `==` `has` `.` `like` `is` only;
`InFragmentP` (TypecheckPSound) closes `InFragmentM .permissive` under joins whose `then` branch / elements are `ndBase`.
-/
namespace Cedar

/-- the error classes a validated policy may still raise -/
def Permitted (e : ErrClass) : Prop := e = .entity ∨ e = .overflow ∨ e = .ext

structure World where
  q : Request
  es : Entities
  sl : SlotEnv

abbrev World.eval (w : World) (e : Expr) : Result Value := evaluate w.q w.es w.sl e

/-- the guard expression a capability stands for: `e has a` / `e.hasTag(k)` -/
def Capability.guard : Capability → Option Expr
  | ⟨on, .lit (.string a), .attr⟩ => some (.hasAttr on a)
  | ⟨on, k, .tag⟩ => some (.binaryApp .hasTag on k)
  | _ => none

def TrueOrPermitted (w : World) (g : Expr) : Prop :=
  w.eval g = .ok (.prim (.bool true)) ∨ ∃ err, w.eval g = .error err ∧ Permitted err

/-- A capability *holds* if its guard is true **or fails with a permitted error** (the second disjunct is forced by
the Rust rule for `||`, which keeps the capabilities of an operand typed `True` that may never be evaluated; it is
harmless because a capability is only used by an access on the same expression, which then fails the same way). -/
def CapHolds (w : World) (c : Capability) : Prop := ∀ g, c.guard = some g → TrueOrPermitted w g

def CapsHold (w : World) (cs : Capabilities) : Prop := ∀ c, c ∈ cs → CapHolds w c

def TySound (w : World) (e : Expr) (τ : CedarType) (c' : Capabilities) : Prop :=
  (∃ err, w.eval e = .error err ∧ Permitted err) ∨
  (∃ v, w.eval e = .ok v ∧ InstanceOfType v τ ∧ (v = .prim (.bool true) → CapsHold w c'))

/-- the invariant of the soundness induction; the second clause is needed for the Rust `||` rule, see `CapHolds` -/
def Good (w : World) (e : Expr) (τ : CedarType) (c' : Capabilities) : Prop :=
  TySound w e τ c' ∧ (τ = .bool .tt → CapsHold w c')

-- every entity type inside the type is a single entity type; `Never` and `AnyEntity` do not occur (true of every type a schema declares)
mutual
def CedarType.mono : CedarType → Bool
  | .set (some t) => CedarType.mono t
  | .record attrs _ => monoAttrs attrs
  | .entity [_] => true
  | .entity _ => false
  | .anyEntity => false
  | .never => false
  | _ => true
def monoAttrs : List (String × Bool × CedarType) → Bool
  | [] => true
  | (_, _, t) :: rest => CedarType.mono t && monoAttrs rest
end

/-- what the soundness proof uses of a resolved schema (all true of every schema Rust constructs) -/
structure SchemaWF (s : Schema) : Prop where
  et_mono : ∀ T et, s.entityType? T = some et → monoAttrs et.attrs = true ∧ ∀ t, et.tags = some t → t.mono = true
  act_wf : ∀ u a, s.action? u = some a → a.context.mono = true ∧ a.attrs = []
  no_action_etype : ∀ T, isActionType T = true → s.entityType? T = none

def EnvMatches (s : Schema) (env : RequestEnv) (q : Request) : Prop :=
  env.principal = q.principal.ty ∧ env.action = q.action ∧ env.resource = q.resource.ty ∧
  ∃ a, s.action? q.action = some a ∧ env.context = a.context

def StoreConforms (s : Schema) (es : Entities) : Prop :=
  ∀ uid d, es.find? uid = some d → ConformsEntity s uid d

def CedarType.flat : CedarType → Bool
  | .never | .bool _ | .long | .string | .ext _ => true
  | _ => false

/-- expressions whose static type is flat whatever the environment -/
def FlatExpr : Expr → Bool
  | .lit (.bool _) | .lit (.int _) | .lit (.string _) => true
  | .and _ _ | .or _ _ | .hasAttr _ _ | .like _ _ | .is _ _ => true
  | .unaryApp op _ => op == .not || op == .neg
  | .binaryApp op _ _ => op == .add || op == .sub || op == .mul || op == .eq
  | _ => false

/-- The first fragment (`typeOf_sound_partial`, both modes, `SchemaWF` only): literals (incl. entity uids), the four variables, `&&`, `||`, `!`,
`if` (with at least one branch of a syntactically flat kind, so that the least upper bound is one of the two branch
types or `Bool`), unary `-`, `+ - *`, `==`, `has` and `.` on records and
entities (required / optional attributes, capabilities, absent entities), `like`, `is`.
Outside: `< <=`, `in`, `isEmpty`, `contains*`, tags, set / record literals, extension calls, slots, unknowns. -/
def InFragment : Expr → Bool
  | .lit _ => true
  | .var _ => true
  | .ite c t e => InFragment c && InFragment t && InFragment e && (FlatExpr t || FlatExpr e)
  | .and a b => InFragment a && InFragment b
  | .or a b => InFragment a && InFragment b
  | .unaryApp op a => (op == .not || op == .neg) && InFragment a
  | .binaryApp op a b =>
    (op == .add || op == .sub || op == .mul || op == .eq) && InFragment a && InFragment b
  | .getAttr e _ => InFragment e
  | .hasAttr e _ => InFragment e
  | .like e _ => InFragment e
  | .is e _ => InFragment e
  | _ => false

theorem caps_mem_of_has {cs : Capabilities} {c : Capability} (h : cs.has c = true) : c ∈ cs := by
  unfold Capabilities.has at h
  rw [List.any_eq_true] at h
  obtain ⟨c', hm, hb⟩ := h
  rw [← Capability.beq_eq hb]; exact hm

theorem capsHold_nil (w : World) : CapsHold w [] := by
  intro c h; cases h

theorem capsHold_union {w : World} {a b : Capabilities} : CapsHold w (a.union b) ↔ CapsHold w a ∧ CapsHold w b := by
  unfold CapsHold Capabilities.union
  constructor
  · intro h
    exact ⟨fun c hc => h c (List.mem_append_left _ hc), fun c hc => h c (List.mem_append_right _ hc)⟩
  · rintro ⟨h1, h2⟩ c hc
    rcases List.mem_append.mp hc with hc | hc
    · exact h1 c hc
    · exact h2 c hc

theorem capsHold_inter_left {w : World} {a b : Capabilities} (h : CapsHold w a) : CapsHold w (a.inter b) := by
  intro c hc
  exact h c (List.mem_filter.mp hc).1

theorem capsHold_inter_right {w : World} {a b : Capabilities} (h : CapsHold w b) : CapsHold w (a.inter b) := by
  intro c hc
  exact h c (caps_mem_of_has (List.mem_filter.mp hc).2)

theorem capsHold_singleton {w : World} {c : Capability} (h : CapHolds w c) : CapsHold w [c] := by
  intro c' hc
  rw [List.mem_singleton] at hc
  rw [hc]; exact h

theorem capsHold_has {w : World} {cs : Capabilities} {c : Capability} (h : CapsHold w cs) (hc : cs.has c = true) :
    CapHolds w c := h c (caps_mem_of_has hc)

end Cedar

namespace Cedar.C03

open Cedar

def SlotsMatch (env : RequestEnv) (sl : SlotEnv) : Prop :=
  (∀ t, env.principalSlot = some t → ∃ u, sl.lookup .principal = some u ∧ u.ty = t) ∧
  (∀ t, env.resourceSlot = some t → ∃ u, sl.lookup .resource = some u ∧ u.ty = t)

/-- the store holds every action entity of the schema (`Entities::from_entities(.., schema)` adds them) -/
def ActionsPresent (s : Schema) (es : Entities) : Prop :=
  ∀ u a, s.action? u = some a → ∃ d, es.find? u = some d

/-- `SchemaWF` plus what the rules for `in` rely on (all true of every schema Rust constructs): the entity-type table
is a map, action uids have an action type, and the `ancestors` / `descendants` of the action hierarchy are inverse -/
structure SchemaWF2 (s : Schema) : Prop extends SchemaWF s where
  ets_map : ∀ p, p ∈ s.ets → s.entityType? p.1 = some p.2
  act_type : ∀ u a, s.action? u = some a → isActionType u.ty = true
  act_anc_desc : ∀ u a, s.action? u = some a → ∀ p, p ∈ a.ancestors → ∃ b, s.action? p = some b ∧ u ∈ b.descendants
  act_desc_anc : ∀ u a, s.action? u = some a → ∀ d, d ∈ a.descendants → ∃ b, s.action? d = some b ∧ u ∈ b.ancestors

structure Sem (s : Schema) (env : RequestEnv) (w : World) : Prop where
  req : ConformsRequest s w.q
  store : StoreConforms s w.es
  slots : SlotsMatch env w.sl
  actions : ActionsPresent s w.es

/-- `true` for every binary operator (`binOpOK_all`) -/
def binOpOK : BinaryOp → Bool
  | .eq | .less | .lessEq | .add | .sub | .mul | .contains | .containsAll | .containsAny | .hasTag | .getTag | .mem => true

-- The second fragment (`typeOf_sound_partialM` in Thm/C03.lean).  In strict mode: every construct; record literals have distinct keys
-- (Rust's `ExprKind::Record` is a map); a slot is in the fragment when the environment is linked for it; `unknown` is in it
-- vacuously (the model does not type it: `outside`).  In permissive mode additionally: an `if` has a syntactically flat
-- branch and a set literal is non-empty with syntactically flat elements (so that no entity-type union / `Set<Never>` arises).
mutual
def InFragmentM (m : ValidationMode) (env : RequestEnv) : Expr → Bool
  | .lit _ => true
  | .var _ => true
  | .slot .principal => env.principalSlot.isSome
  | .slot .resource => env.resourceSlot.isSome
  | .unknown _ _ => true
  | .ite c t e => InFragmentM m env c && InFragmentM m env t && InFragmentM m env e && (m.isStrict || FlatExpr t || FlatExpr e)
  | .and a b => InFragmentM m env a && InFragmentM m env b
  | .or a b => InFragmentM m env a && InFragmentM m env b
  | .unaryApp _ a => InFragmentM m env a
  | .binaryApp op a b => binOpOK op && InFragmentM m env a && InFragmentM m env b
  | .call _ args => InFragmentMList m env args
  | .getAttr e _ => InFragmentM m env e
  | .hasAttr e _ => InFragmentM m env e
  | .like e _ => InFragmentM m env e
  | .is e _ => InFragmentM m env e
  | .set es => InFragmentMList m env es && (m.isStrict || (es.all FlatExpr && !es.isEmpty))
  | .record kvs => InFragmentMKVs m env kvs && decide ((kvs.map (·.1)).Nodup)
def InFragmentMList (m : ValidationMode) (env : RequestEnv) : List Expr → Bool
  | [] => true
  | e :: es => InFragmentM m env e && InFragmentMList m env es
def InFragmentMKVs (m : ValidationMode) (env : RequestEnv) : List (String × Expr) → Bool
  | [] => true
  | (_, e) :: es => InFragmentM m env e && InFragmentMKVs m env es
end

abbrev InFragment2 (env : RequestEnv) (e : Expr) : Bool := InFragmentM .strict env e
abbrev InFragment2List (env : RequestEnv) (es : List Expr) : Bool := InFragmentMList .strict env es
abbrev InFragment2KVs (env : RequestEnv) (kvs : List (String × Expr)) : Bool := InFragmentMKVs .strict env kvs

-- record literals have distinct keys (Rust's `ExprKind::Record` is a `BTreeMap`)
mutual
def RecordKeysDistinct : Expr → Bool
  | .lit _ | .var _ | .slot _ | .unknown _ _ => true
  | .ite c t e => RecordKeysDistinct c && RecordKeysDistinct t && RecordKeysDistinct e
  | .and a b | .or a b | .binaryApp _ a b => RecordKeysDistinct a && RecordKeysDistinct b
  | .unaryApp _ a | .getAttr a _ | .hasAttr a _ | .like a _ | .is a _ => RecordKeysDistinct a
  | .call _ args | .set args => RecordKeysDistinctList args
  | .record kvs => RecordKeysDistinctKVs kvs && decide ((kvs.map (·.1)).Nodup)
def RecordKeysDistinctList : List Expr → Bool
  | [] => true
  | e :: es => RecordKeysDistinct e && RecordKeysDistinctList es
def RecordKeysDistinctKVs : List (String × Expr) → Bool
  | [] => true
  | (_, e) :: es => RecordKeysDistinct e && RecordKeysDistinctKVs es
end

mutual
def SlotsLinked (env : RequestEnv) : Expr → Bool
  | .slot .principal => env.principalSlot.isSome
  | .slot .resource => env.resourceSlot.isSome
  | .lit _ | .var _ | .unknown _ _ => true
  | .ite c t e => SlotsLinked env c && SlotsLinked env t && SlotsLinked env e
  | .and a b | .or a b | .binaryApp _ a b => SlotsLinked env a && SlotsLinked env b
  | .unaryApp _ a | .getAttr a _ | .hasAttr a _ | .like a _ | .is a _ => SlotsLinked env a
  | .call _ args | .set args => SlotsLinkedList env args
  | .record kvs => SlotsLinkedKVs env kvs
def SlotsLinkedList (env : RequestEnv) : List Expr → Bool
  | [] => true
  | e :: es => SlotsLinked env e && SlotsLinkedList env es
def SlotsLinkedKVs (env : RequestEnv) : List (String × Expr) → Bool
  | [] => true
  | (_, e) :: es => SlotsLinked env e && SlotsLinkedKVs env es
end

/-- a Boolean predicate on lists that is the conjunction of a predicate on the members (the `…List` / `…KVs` companions of the
recursive predicates on expressions) -/
theorem listAll_mem {α : Type} {F : α → Bool} {FL : List α → Bool} (h1 : ∀ x xs, FL (x :: xs) = (F x && FL xs)) :
    ∀ {xs : List α}, FL xs = true → ∀ x, x ∈ xs → F x = true
  | [], _ => nofun
  | x :: xs, h => by
    rw [h1, Bool.and_eq_true] at h
    exact List.forall_mem_cons.mpr ⟨h.1, listAll_mem h1 h.2⟩

theorem binOpOK_all (op : BinaryOp) : binOpOK op = true := by cases op <;> rfl

mutual
theorem inFragment2_of (env : RequestEnv) : ∀ (e : Expr), RecordKeysDistinct e = true → SlotsLinked env e = true →
    InFragment2 env e = true
  | .lit _, _, _ => rfl
  | .var _, _, _ => rfl
  | .unknown _ _, _, _ => rfl
  | .slot .principal, _, h => by simpa [SlotsLinked, InFragmentM] using h
  | .slot .resource, _, h => by simpa [SlotsLinked, InFragmentM] using h
  | .ite c t e, hk, hl => by
    simp only [RecordKeysDistinct, Bool.and_eq_true] at hk
    simp only [SlotsLinked, Bool.and_eq_true] at hl
    simp only [InFragmentM, Bool.and_eq_true, ValidationMode.isStrict, Bool.true_or, and_true]
    exact ⟨⟨inFragment2_of env c hk.1.1 hl.1.1, inFragment2_of env t hk.1.2 hl.1.2⟩, inFragment2_of env e hk.2 hl.2⟩
  | .and a b, hk, hl | .or a b, hk, hl => by
    simp only [RecordKeysDistinct, Bool.and_eq_true] at hk
    simp only [SlotsLinked, Bool.and_eq_true] at hl
    simp only [InFragmentM, Bool.and_eq_true]
    exact ⟨inFragment2_of env a hk.1 hl.1, inFragment2_of env b hk.2 hl.2⟩
  | .binaryApp op a b, hk, hl => by
    simp only [RecordKeysDistinct, Bool.and_eq_true] at hk
    simp only [SlotsLinked, Bool.and_eq_true] at hl
    simp only [InFragmentM, Bool.and_eq_true, binOpOK_all, true_and]
    exact ⟨inFragment2_of env a hk.1 hl.1, inFragment2_of env b hk.2 hl.2⟩
  | .unaryApp _ a, hk, hl | .getAttr a _, hk, hl | .hasAttr a _, hk, hl | .like a _, hk, hl | .is a _, hk, hl => by
    simp only [RecordKeysDistinct] at hk
    simp only [SlotsLinked] at hl
    simp only [InFragmentM]
    exact inFragment2_of env a hk hl
  | .call _ args, hk, hl => by
    simp only [RecordKeysDistinct] at hk
    simp only [SlotsLinked] at hl
    simp only [InFragmentM]
    exact inFragment2List_of env args hk hl
  | .set args, hk, hl => by
    simp only [RecordKeysDistinct] at hk
    simp only [SlotsLinked] at hl
    simp only [InFragmentM, Bool.and_eq_true, ValidationMode.isStrict, Bool.true_or, and_true]
    exact inFragment2List_of env args hk hl
  | .record kvs, hk, hl => by
    simp only [RecordKeysDistinct, Bool.and_eq_true] at hk
    simp only [SlotsLinked] at hl
    simp only [InFragmentM, Bool.and_eq_true]
    exact ⟨inFragment2KVs_of env kvs hk.1 hl, hk.2⟩
theorem inFragment2List_of (env : RequestEnv) : ∀ (es : List Expr), RecordKeysDistinctList es = true → SlotsLinkedList env es = true →
    InFragment2List env es = true
  | [], _, _ => rfl
  | e :: es, hk, hl => by
    simp only [RecordKeysDistinctList, Bool.and_eq_true] at hk
    simp only [SlotsLinkedList, Bool.and_eq_true] at hl
    simp only [InFragmentMList, Bool.and_eq_true]
    exact ⟨inFragment2_of env e hk.1 hl.1, inFragment2List_of env es hk.2 hl.2⟩
theorem inFragment2KVs_of (env : RequestEnv) : ∀ (kvs : List (String × Expr)), RecordKeysDistinctKVs kvs = true →
    SlotsLinkedKVs env kvs = true → InFragment2KVs env kvs = true
  | [], _, _ => rfl
  | (_, e) :: es, hk, hl => by
    simp only [RecordKeysDistinctKVs, Bool.and_eq_true] at hk
    simp only [SlotsLinkedKVs, Bool.and_eq_true] at hl
    simp only [InFragmentMKVs, Bool.and_eq_true]
    exact ⟨inFragment2_of env e hk.1 hl.1, inFragment2KVs_of env es hk.2 hl.2⟩
end

end Cedar.C03
