import CedarVerif.Lemmas.Ffi
import CedarVerif.Lemmas.FfiPolicies
/-
C19 — JSON/FFI, stateful cache and CLI give exactly the API answers.

What is proved here (about the mirror in `Cedar/Ffi.lean`, for ARBITRARY parsers and an ARBITRARY common tail):
* `cache_refines_latest` — after any history of `preparse_policy_set` / `preparse_schema` /
  `stateful_is_authorized` calls on a fresh thread, a stateful call answers exactly what the stateless
  `is_authorized` answers when it is handed the documents most recently registered *successfully* under the
  names the call mentions (read-latest-acknowledged-write); a name never registered successfully gives `Failure`.
* `every_reply_refines_latest` — the same for every stateful call *inside* a history (its prefix counts).
* `failed_preparse_changes_nothing`, `reregistration_overwrites`, `stateful_calls_change_nothing`.
* `exit_code_table`, `authorize_exit_reflects_response`, `validate_exit_table` — the CLI's exit-code table is injective with
  the documented numbers, `cedar authorize`'s status and printed line determine the response's decision, `cedar validate`'s
  status is a function of "inputs read / passed / passed without warnings / `--deny-warnings`".

* POLICY-SET ASSEMBLY (second part of this file; model `Cedar/FfiPolicies.lean` = mirror of `ffi::PolicySet::parse`,
  `StaticPolicySet::parse`, `Policy::parse`, `Template::parse_and_add_to_set`, `TemplateLink::parse_and_add_to_set` in
  cedar-policy/src/ffi/utils.rs, on top of the C08 model of `cedar_policy::PolicySet`):
  `assemble_eq_api_history` / `assemble_ok_iff` — the FFI's set is the set built by the explicit API history
  `add* ++ add_template* ++ link*` from the empty set, with the ids the FFI assigns (`policy{n}` by position for a
  concatenated text, the map key for the map form, the default id for every element of the list form, template-map keys,
  links' `newId`), it exists iff every document parses and every call of that history succeeds, and otherwise the error
  list is exactly: static-part errors (all document errors, or the first failing `add`), then per template and per link, in
  order, its document error or the error of its call — templates and links being processed from the EMPTY set after a
  failed static part; `assemble_inv` — C08's invariants (`ApiPolicySet.WF`, core `WF`, `Strict`) hold of the result;
  `assemble_ids` / `assemble_ids_collision` — policies = static ids ∪ link ids, templates = template ids, all distinct; a
  collision is always reported; `assemble_authorize` — authorizing with the assembled set = authorizing with the API-built set.
  The assembly model is TIED TO THE REAL CODE on every run of `./check C19` by the `ffipols` lines (harness stream `c19p`,
  harness/src/c19_pols.rs; driver op Driver/Ops/FfiPolicies.lean): generated FFI policy sets in every shape (text | list |
  map | absent, Cedar text and EST JSON, templates, links; wrong-kind / unparsable documents, colliding ids, dangling or
  static template ids, missing / extra / unparsable link values) go through serde and the real `ffi::PolicySet::parse`;
  its resulting `cedar_policy::PolicySet` listing, or the sorted classes of its error reports, are diffed against
  `assemble` run on the real parsers' verdicts on the same documents.

What remains trusted / NOT proved here: the text and EST-JSON parsers themselves (documents enter the model as the parser's
verdict; text parser = C05), including that they assign the id they are given and that `Template::parse` refuses slot-less
policies (`TemplatesHaveSlots`); serde's decoding of the JSON envelope (duplicate keys are refused there); the iteration
order of the two `HashMap`s (the theorems hold for every order); schema-directed context/entity parsing, request validation
on/off, validation error ids, formatting, conversions; and that the real `stateful_is_authorized` tail equals the real
`is_authorized` tail. The three groups stand side by side: `Params.parsePolicies` is nowhere instantiated with `assemble`. Those are checked by the differential run only (harness/src/c19.rs: FFI vs Rust API on generated
inputs in every accepted input shape; cache histories vs this model; CLI runs vs API).
-/
namespace Cedar.C19
open Cedar.Ffi

section
variable {PDoc SDoc P S R A : Type} (π : Params PDoc SDoc P S R A)

/-- C19 (stateful part): after ANY sequence of pre-parse and stateful authorization calls, the stateful variant
answers as the stateless one does for the documents currently registered (= most recently registered
successfully) under the names the call mentions; unknown names give `Failure`. -/
theorem cache_refines_latest (h : List (Op PDoc SDoc R)) (c : SCall R) :
    statefulAuth π (run (A := A) π h) c = specAnswer π h c :=
  statefulAuth_of_refines π _ h (refines_run π h) c

/-- the same for every stateful call inside a history: its reply is the spec's answer for the prefix before it -/
theorem every_reply_refines_latest (h1 h2 : List (Op PDoc SDoc R)) (c : SCall R) :
    (replies (A := A) π {} (h1 ++ .statefulAuth c :: h2))[h1.length]? = some (.answer (specAnswer π h1 c)) := by
  rw [replies_append, List.getElem?_append_right (Nat.le_of_eq (replies_length π _ h1)), replies_length, Nat.sub_self]
  exact congrArg (fun a => some (Reply.answer a)) (cache_refines_latest π h1 c)

/-- a failed preparse leaves every later answer unchanged -/
theorem failed_preparse_changes_nothing (h : List (Op PDoc SDoc R)) (c : SCall R) (id : String) (pd : PDoc) (sd : SDoc)
    (hp : π.parsePolicies pd = none) (hs : π.parseSchema sd = none) :
    statefulAuth π (run (A := A) π (h ++ [.preparsePolicySet id pd])) c = statefulAuth π (run (A := A) π h) c ∧
    statefulAuth π (run (A := A) π (h ++ [.preparseSchema id sd])) c = statefulAuth π (run (A := A) π h) c := by
  rw [run_snoc, run_snoc, step_preparsePolicySet_failed π _ id hp, step_preparseSchema_failed π _ id hs]
  exact ⟨rfl, rfl⟩

/-- re-registration under the same name overwrites: whatever came before, the last successful document counts -/
theorem reregistration_overwrites (h : List (Op PDoc SDoc R)) (id : String) (pd : PDoc) (r : R)
    (hp : (π.parsePolicies pd).isSome) :
    statefulAuth π (run (A := A) π (h ++ [.preparsePolicySet id pd])) { schemaName := none, policySetId := id, rest := r }
      = statelessAuth π { schema := none, policies := pd, rest := r } := by
  rw [cache_refines_latest]
  simp [specAnswer, latestOptSchema, latestPolicies_snoc, ackPolicies, hp]

/-- stateful authorization calls are reads: they change no later answer -/
theorem stateful_calls_change_nothing (h : List (Op PDoc SDoc R)) (c c' : SCall R) :
    statefulAuth π (run (A := A) π (h ++ [.statefulAuth c'])) c = statefulAuth π (run (A := A) π h) c := by
  rw [run_snoc, step_statefulAuth]

end

/-- the instance the driver op `(ffi …)` runs: a document is a tag plus the parser's verdict -/
def tagParams : Params (Nat × Bool) (Nat × Bool) Nat Nat Unit (Nat × Option Nat) where
  parsePolicies d := if d.2 then some d.1 else none
  parseSchema d := if d.2 then some d.1 else none
  core sch ps _ := .success (ps, sch)

/-- register policies 1 under "a", fail to register 2 under "a", register 3 under "b", re-register "a" with 4,
schema 7 under "s", a failing schema 8 under "s": a call naming ("a","s") sees (4, 7); "c" is unknown -/
def demoHistory : List (Op (Nat × Bool) (Nat × Bool) Unit) :=
  [.preparsePolicySet "a" (1, true), .preparsePolicySet "a" (2, false), .preparsePolicySet "b" (3, true),
   .statefulAuth ⟨none, "a", ()⟩, .preparsePolicySet "a" (4, true), .preparseSchema "s" (7, true),
   .preparseSchema "s" (8, false)]

example : statefulAuth tagParams (run (A := Nat × Option Nat) tagParams demoHistory) ⟨some "s", "a", ()⟩ = .success (4, some 7) := by decide +kernel
example : specAnswer tagParams demoHistory ⟨some "s", "a", ()⟩ = (.success (4, some 7) : Answer (Nat × Option Nat)) := by decide +kernel
example : statefulAuth tagParams (run (A := Nat × Option Nat) tagParams demoHistory) ⟨none, "b", ()⟩ = .success (3, none) := by decide +kernel
example : statefulAuth tagParams (run (A := Nat × Option Nat) tagParams demoHistory) ⟨none, "c", ()⟩ = .failure := by decide +kernel
example : statefulAuth tagParams (run (A := Nat × Option Nat) tagParams demoHistory) ⟨some "t", "a", ()⟩ = .failure := by decide +kernel
/-- the hypotheses of `failed_preparse_changes_nothing` / `reregistration_overwrites` are satisfiable -/
example : tagParams.parsePolicies (2, false) = none ∧ tagParams.parseSchema (8, false) = none ∧
    (tagParams.parsePolicies (4, true)).isSome := by decide +kernel
/-- the stateless call really distinguishes documents (the spec is not constantly `failure`) -/
example : statelessAuth tagParams ⟨some (7, true), (4, true), ()⟩ = (.success (4, some 7) : Answer (Nat × Option Nat)) ∧
    statelessAuth tagParams ⟨some (8, false), (4, true), ()⟩ = (.failure : Answer (Nat × Option Nat)) ∧
    statelessAuth tagParams ⟨none, (2, false), ()⟩ = (.failure : Answer (Nat × Option Nat)) := by decide +kernel

/-- `CedarExitCode` → process status: the documented numbers, pairwise distinct -/
theorem exit_code_table :
    CedarExitCode.success.report = 0 ∧ CedarExitCode.failure.report = 1 ∧ CedarExitCode.authorizeDeny.report = 2 ∧
    CedarExitCode.validationFailure.report = 3 ∧ CedarExitCode.unknown.report = 4 ∧
    (∀ a b : CedarExitCode, a.report = b.report → a = b) := by
  refine ⟨rfl, rfl, rfl, rfl, rfl, ?_⟩
  -- the status is the constructor's index, and that has a left inverse
  have hr : ∀ a : CedarExitCode, a.report = a.ctorIdx := fun a => by cases a <;> rfl
  intro a b h
  rw [hr, hr] at h
  rw [← CedarExitCode.ofNat_ctorIdx a, h, CedarExitCode.ofNat_ctorIdx]

/-- `cedar authorize`: status and printed line determine (and are determined by) the response's decision -/
theorem authorize_exit_reflects_response (ans : Answer Ffi.Decision) :
    ((authorizeExit ans).report = 0 ↔ ans = .success .allow) ∧
    ((authorizeExit ans).report = 2 ↔ ans = .success .deny) ∧
    ((authorizeExit ans).report = 1 ↔ ans = .failure) ∧
    (authorizePrinted ans = some "ALLOW" ↔ ans = .success .allow) ∧
    (authorizePrinted ans = some "DENY" ↔ ans = .success .deny) ∧
    (authorizePrinted ans = none ↔ ans = .failure) := by
  cases ans with
  | failure => decide +kernel
  | success d => cases d <;> decide +kernel

/-- `cedar validate`: 1 when the inputs were unreadable, else 3 exactly when validation did not pass (or passed with warnings
under `--deny-warnings`) -/
theorem validate_exit_table (inputsOk passed pww deny : Bool) :
    ((validateExit inputsOk passed pww deny).report = 1 ↔ inputsOk = false) ∧
    ((validateExit inputsOk passed pww deny).report = 3 ↔ inputsOk = true ∧ (passed = false ∨ (deny = true ∧ pww = false))) ∧
    ((validateExit inputsOk passed pww deny).report = 0 ↔ inputsOk = true ∧ passed = true ∧ (deny = false ∨ pww = true)) := by
  revert inputsOk passed pww deny
  decide +kernel

example : (authorizeExit (.success .deny)).report = 2 ∧ authorizePrinted (.success .deny) = some "DENY" := by decide +kernel

end Cedar.C19

namespace Cedar.C19
open Cedar Cedar.FfiP

/-- C19 (assembly): `ffi::PolicySet::parse` computes exactly the API history `add* ++ add_template* ++ link*` from the
empty set, and reports exactly these errors, in this order:
* static documents that fail (all of them; or "static policy set includes a template"), or else the FIRST failing
  `add` (`from_policies` aborts) — in both cases the templates and links are then processed FROM THE EMPTY SET and their
  errors (including follow-ups such as `link` to a template that is there but whose static namesake is not) are appended;
* then, per template and per link in order, the parse error of the document or the error of the API call. -/
theorem assemble_eq_api_history (f : FfiPolicySet) :
    assemble f =
      (match staticAdds f.staticPolicies with
       | .error es => .error (es ++ errsOf {} (tailItems f))
       | .ok bs =>
         match runStrict {} (bs.map ApiOp.add) with
         | .error e => .error (staticWrap f.staticPolicies e :: errsOf {} (tailItems f))
         | .ok s0 =>
           if (errsOf s0 (tailItems f)).isEmpty then .ok (ApiPolicySet.run {} (apiHistoryOf bs f))
           else .error (errsOf s0 (tailItems f))) := by
  unfold assemble
  rw [assembleSteps_eq, static_parse_eq]
  cases hs : staticAdds f.staticPolicies with
  | error es =>
    have hne := staticAdds_error_ne_nil _ _ hs
    cases es with
    | nil => exact absurd rfl hne
    | cons e es => rfl
  | ok bs =>
    dsimp only
    cases hr : runStrict {} (bs.map ApiOp.add) with
    | error e => rfl
    | ok s0 =>
      dsimp only
      rw [apiHistoryOf, api_run_append, ← runStrict_ok_run _ _ _ hr]

/-- C19 (assembly), success characterised: the FFI returns a set iff every document parses (static policies, templates,
link values; no template among concatenated policies) and EVERY call of the explicit API history succeeds — and then it
returns the set that history builds. -/
theorem assemble_ok_iff (f : FfiPolicySet) (s : ApiPolicySet) :
    assemble f = .ok s ↔
      ∃ bs, staticAdds f.staticPolicies = .ok bs ∧ noBad (tailItems f) = true ∧
        runStrict {} (apiHistoryOf bs f) = .ok s := by
  rw [assemble_eq_api_history]
  cases staticAdds f.staticPolicies with
  | error es => exact ⟨fun h => (nomatch h), fun ⟨_, h, _⟩ => (nomatch h)⟩
  | ok bs =>
    simp only [Except.ok.injEq, exists_eq_left', apiHistoryOf, runStrict_append]
    cases hr : runStrict {} (bs.map ApiOp.add) with
    | error e => exact ⟨fun h => (nomatch h), fun h => (nomatch h.2)⟩
    | ok s0 =>
      dsimp only
      rw [api_run_append, ← runStrict_ok_run _ _ _ hr]
      exact logged_ok_iff s0 s _

/-- C19 (assembly): a set the FFI returns satisfies the C08 invariants of API-built sets: the API layer's `WF`, the
core representation invariant (no id shared between maps except the two halves of a static policy, every link's
template present, `template_to_links_map` exact) and `Strict` (the hypothesis of C08 `merge_inv`).
Hypothesis: the template parser returns templates with at least one slot (`Template::parse`: trusted, C05). -/
theorem assemble_inv (f : FfiPolicySet) (s : ApiPolicySet) (hs : f.TemplatesHaveSlots) (h : assemble f = .ok s) :
    s.WF ∧ s.ast.WF ∧ s.ast.Strict := by
  obtain ⟨bs, _, _, hr⟩ := (assemble_ok_iff f s).mp h
  have h0 := runStrict_ok_run _ _ _ hr
  have wt := apiHistoryOf_wellTyped bs f hs
  subst h0
  have wf := ApiPolicySet.run_wf _ {} ApiPolicySet.wf_empty wt
  exact ⟨wf, wf.ast, ApiPolicySet.run_strict _ {} ApiPolicySet.wf_empty (by intro k p h; simp at h) wt⟩

/-- C19 (assembly), corollary: authorizing with the set the FFI assembled is authorizing (C01's `isAuthorized` over
`PolicySet::policies()`) with the set the Rust API builds by the explicit history. -/
theorem assemble_authorize (f : FfiPolicySet) (s : ApiPolicySet) (h : assemble f = .ok s) (req : Request) (es : Entities) :
    s.authorize req es = (ApiPolicySet.run {} (apiHistory f)).authorize req es ∧
    s.authorize req es = isAuthorized req es (ApiPolicySet.run {} (apiHistory f)).ast.policies := by
  obtain ⟨bs, hb, _, hr⟩ := (assemble_ok_iff f s).mp h
  have h0 := runStrict_ok_run _ _ _ hr
  have : apiHistory f = apiHistoryOf bs f := by simp [apiHistory, hb]
  rw [this, ← h0]
  exact ⟨rfl, rfl⟩

/-- C19 (assembly): the ids of the set the FFI returns are exactly the ids it assigned: the policies (`policies()` of
the API, = the core `links`) are the static ids (`policy{n}` by position | the default id per list element | the map
keys) and the links' `newId`s; the templates (`templates()`) are the keys of the `templates` map; and all these ids are
pairwise distinct — ANY collision (between two static policies, a template and a policy, a link and anything) is reported
as an error instead (contrapositive, `assemble_ids_collision`). Via the C08 refinement (`api_op_refines_spec`). -/
theorem assemble_ids (f : FfiPolicySet) (s : ApiPolicySet) (hs : f.TemplatesHaveSlots) (h : assemble f = .ok s) :
    (∀ k, (s.policies.get? k).isSome = true ↔ k ∈ staticIds f.staticPolicies ∨ k ∈ f.linkIds) ∧
    (∀ k, (s.ast.links.get? k).isSome = true ↔ k ∈ staticIds f.staticPolicies ∨ k ∈ f.linkIds) ∧
    (∀ k, (s.templates.get? k).isSome = true ↔ k ∈ f.templateIds) ∧
    (staticIds f.staticPolicies ++ f.templateIds ++ f.linkIds).Nodup := by
  obtain ⟨bs, hb, hnb, hr⟩ := (assemble_ok_iff f s).mp h
  obtain ⟨h1, h2, h3, h4⟩ := runStrict_ids bs f s hs hnb hr
  rw [staticAdds_ids _ _ hb] at h1 h2 h4
  exact ⟨h2, h1, h3, h4⟩

/-- no collision goes unreported: if two of the assigned ids coincide, `ffi::PolicySet::parse` returns errors -/
theorem assemble_ids_collision (f : FfiPolicySet) (hs : f.TemplatesHaveSlots)
    (hc : ¬ (staticIds f.staticPolicies ++ f.templateIds ++ f.linkIds).Nodup) : ∃ es, assemble f = .error es := by
  cases h : assemble f with
  | error es => exact ⟨es, rfl⟩
  | ok s => exact absurd (assemble_ids f s hs h).2.2.2 hc

def demoBody : TemplateBody :=
  { id := "", annotations := [], effect := .permit, principalC := .any, actionC := .any, resourceC := .any, nonScope := none }
def demoTemplate : Template := { body := { demoBody with principalC := .eq .slot }, slots := [.principal] }
def demoVals : SlotVals := { principal := some ⟨"User", "alice"⟩ }
/-- the second link's id is a parameter: "l2" is fresh, "p1" collides with a static policy -/
def demoFfi (secondLinkId : String) : FfiPolicySet :=
  { staticPolicies := .map [("p1", ⟨.cedar, some demoBody⟩), ("p2", ⟨.json, some { demoBody with effect := .forbid }⟩)],
    templates := [("t", ⟨.cedar, some demoTemplate⟩)],
    templateLinks := [⟨"t", "l1", some demoVals⟩, ⟨"t", secondLinkId, some demoVals⟩] }

/-- success: ids as assigned, in the order of the history; the history is the expected five calls -/
example :
    (match assemble (demoFfi "l2") with
     | .ok s => some (s.policies.keys, s.templates.keys, s.ast.links.keys, s.ast.templates.keys)
     | .error _ => none) = some (["p1", "p2", "l1", "l2"], ["t"], ["p1", "p2", "l1", "l2"], ["p1", "p2", "t"]) ∧
    (apiHistory (demoFfi "l2")).length = 5 ∧ (demoFfi "l2").TemplatesHaveSlots := by
  refine ⟨by decide +kernel, by decide +kernel, ?_⟩
  intro e t he ht
  simp only [demoFfi, List.mem_singleton] at he
  subst he
  cases ht
  simp [demoTemplate]
/-- a duplicate link id: exactly one error, `link`'s `PolicyIdConflict`; the other four calls succeeded -/
example : (match assemble (demoFfi "p1") with | .ok _ => none | .error es => some es) = some [.link .idConflict] := by
  decide +kernel
/-- the list form gives every Cedar-text element the id "policy0": two elements collide in `from_policies` (reported
once, the first failing `add` aborts); template and links are then processed from the empty set and, here, succeed -/
example : (match assemble { demoFfi "l2" with staticPolicies := .set [⟨.cedar, some demoBody⟩, ⟨.cedar, some demoBody⟩] } with
           | .ok _ => none | .error es => some es) = some [.fromPolicies .alreadyDefined] := by
  decide +kernel
/-- a concatenated text: ids by position; a template among the statements is refused -/
example :
    (match assemble { demoFfi "l2" with staticPolicies := .concatenated (some [.static demoBody, .static demoBody]) } with
     | .ok s => some s.ast.links.keys | .error _ => none) = some ["policy0", "policy1", "l1", "l2"] ∧
    (match assemble { demoFfi "l2" with staticPolicies := .concatenated (some [.static demoBody, .template demoTemplate]) } with
     | .ok _ => none | .error es => some es) = some [.templateInStatic] := by
  decide +kernel
/-- a template document that does not parse and a link to it: both errors, in loop order -/
example : (match assemble { demoFfi "l2" with templates := [("t", ⟨.cedar, none⟩)] } with | .ok _ => none | .error es => some es)
    = some [.parseTemplate "t", .link .noSuchTemplate, .link .noSuchTemplate] := by
  decide +kernel

end Cedar.C19
