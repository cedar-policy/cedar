import CedarVerif.Lemmas.PartialExt
/-
The substitution form of the soundness of `pinterp` (the statement about `evaluate ∘ substUnk σ`): the fragment `Frag2 σ`,
agreement of evaluation results, and what evaluation does with `Value.toExpr` and with record constructors.
Namespace `PS` (partial evaluation, substitution form) holds this chain, up to `PartialConcretize`.
-/
namespace Cedar
namespace PS

/-- equal values, or both errors (error classes may differ) -/
def Agree (a y : Result Value) : Prop :=
  (∃ v, a = .ok v ∧ y = .ok v) ∨ (∃ c c', a = .error c ∧ y = .error c')

@[simp] theorem agree_ok_ok (v w : Value) : Agree (.ok v) (.ok w) ↔ v = w := by
  simp [Agree]; constructor <;> intro h <;> simp [h]
@[simp] theorem agree_ok_error (v : Value) (c : ErrClass) : Agree (.ok v) (.error c) ↔ False := by simp [Agree]
@[simp] theorem agree_error_ok (v : Value) (c : ErrClass) : Agree (.error c) (.ok v) ↔ False := by simp [Agree]
@[simp] theorem agree_error_error (c c' : ErrClass) : Agree (.error c) (.error c') ↔ True := by simp [Agree]

theorem Agree.refl (a : Result Value) : Agree a a := by cases a <;> simp

/-- `Tpe.Agree` of C14 is the same relation (`Tpe.agree_iff`) -/
theorem agree_iff {a y : Result Value} : Agree a y ↔ RRel (fun _ _ => True) Eq a y := by
  cases a <;> cases y <;> simp [RRel]

theorem Agree.trans {a b c : Result Value} (h1 : Agree a b) (h2 : Agree b c) : Agree a c :=
  agree_iff.2 ((agree_iff.1 h1).trans (agree_iff.1 h2) (fun _ _ _ _ _ => trivial) fun _ _ _ => Eq.trans)

theorem Agree.error_right {a y : Result Value} (h : Agree a y) {c : ErrClass} (ha : a = .error c) : ∃ c', y = .error c' := by
  subst ha
  cases y with
  | ok v => simp at h
  | error c' => exact ⟨c', rfl⟩

/-- the first-pass mapper is part of the substitution (`[]` for the first pass, σ itself for the second) -/
def MapLE (m0 σ : Mapper) : Prop := ∀ k v, lookupKV m0 k = some v → lookupKV σ k = some v

theorem MapLE.refl (σ : Mapper) : MapLE σ σ := fun _ _ h => h
theorem MapLE.nil (σ : Mapper) : MapLE [] σ := by intro k v h; simp [lookupKV] at h

def UnkOK (σ : Mapper) (name : String) (ty : Option TyAnn) : Prop :=
  ∃ v, lookupKV σ name = some v ∧ v.Canon ∧ ∀ t, ty = some t → v.typeOf = t

/-- the fragment of the substitution-form theorem: everything except calls of the `unknown` extension function; unknown
    nodes must be defined by σ (with the annotated type); record constructors have pairwise distinct keys (what the
    parser and `Expr::record` guarantee) -/
inductive Frag2 (σ : Mapper) : Expr → Prop
  | lit (p : Prim) : Frag2 σ (.lit p)
  | var (v : Var) : Frag2 σ (.var v)
  | slot (s : SlotId) : Frag2 σ (.slot s)
  | unknown (name : String) (ty : Option TyAnn) : UnkOK σ name ty → Frag2 σ (.unknown name ty)
  | ite {c t e : Expr} : Frag2 σ c → Frag2 σ t → Frag2 σ e → Frag2 σ (.ite c t e)
  | and {a b : Expr} : Frag2 σ a → Frag2 σ b → Frag2 σ (.and a b)
  | or {a b : Expr} : Frag2 σ a → Frag2 σ b → Frag2 σ (.or a b)
  | unaryApp (op : UnaryOp) {a : Expr} : Frag2 σ a → Frag2 σ (.unaryApp op a)
  | binaryApp (op : BinaryOp) {a b : Expr} : Frag2 σ a → Frag2 σ b → Frag2 σ (.binaryApp op a b)
  | getAttr {e : Expr} (a : String) : Frag2 σ e → Frag2 σ (.getAttr e a)
  | hasAttr {e : Expr} (a : String) : Frag2 σ e → Frag2 σ (.hasAttr e a)
  | like {e : Expr} (p : Pattern) : Frag2 σ e → Frag2 σ (.like e p)
  | is {e : Expr} (ty : EntityType) : Frag2 σ e → Frag2 σ (.is e ty)
  | set {xs : List Expr} : (∀ x, x ∈ xs → Frag2 σ x) → Frag2 σ (.set xs)
  | record {kvs : List (String × Expr)} : (kvs.map Prod.fst).Nodup → (∀ kv, kv ∈ kvs → Frag2 σ kv.2) → Frag2 σ (.record kvs)
  | call (fn : String) {args : List Expr} : fn ≠ "unknown" → (∀ x, x ∈ args → Frag2 σ x) → Frag2 σ (.call fn args)

def StoreCanon (es : Entities) : Prop :=
  ∀ u d, es.find? u = some d → Value.CanonKVs d.attrs ∧ Value.CanonKVs d.tags

theorem canonList_iff (vs : List Value) : Value.CanonList vs ↔ ∀ v, v ∈ vs → v.Canon := by
  induction vs with
  | nil => simp [Value.CanonList]
  | cons v vs ih => simp [Value.CanonList, ih]

theorem canonKVs_iff (kvs : List (String × Value)) : Value.CanonKVs kvs ↔ ∀ p, p ∈ kvs → p.2.Canon := by
  induction kvs with
  | nil => simp [Value.CanonKVs]
  | cons p kvs ih => obtain ⟨k, v⟩ := p; simp [Value.CanonKVs, ih]

theorem canonKVs_lookup {kvs : List (String × Value)} (h : Value.CanonKVs kvs) {a : String} {v : Value}
    (hl : lookupKV kvs a = some v) : v.Canon := by
  exact (canonKVs_iff kvs).mp h (a, v) (lookupKV_mem hl)

theorem canon_bool (b : Bool) : (Value.prim (.bool b)).Canon := trivial
theorem canon_prim (p : Prim) : (Value.prim p).Canon := trivial

theorem mkSet_canon {vs : List Value} (h : ∀ v, v ∈ vs → v.Canon) : (Value.set (Value.mkSet vs)).Canon := by
  simp only [Value.Canon]
  exact ⟨mkSet_idem vs, (canonList_iff _).mpr (fun v hv => h v (mem_mkSet hv))⟩

theorem record_canon (kvs : List (String × Value)) (h : ∀ p, p ∈ kvs → p.2.Canon) :
    (Value.record (kvs.foldl (fun acc kv => insertKV kv.1 kv.2 acc) [])).Canon := by
  simp only [Value.Canon]
  refine ⟨foldl_insertKV_keys_sorted kvs [] trivial, (canonKVs_iff _).mpr ?_⟩
  intro p hp
  rcases foldl_insertKV_mem kvs [] p hp with h' | h'
  · cases h'
  · exact h p h'

theorem applyUnary_canon {op : UnaryOp} {v w : Value} (h : applyUnary op v = .ok w) : w.Canon :=
  applyUnary_out (fun _ => trivial) (fun _ => trivial) h

theorem applyBinary_canon {es : Entities} (hstore : StoreCanon es) {op : BinaryOp} {v1 v2 w : Value}
    (h : applyBinary es op v1 v2 = .ok w) : w.Canon :=
  applyBinary_out (fun _ => trivial) (fun _ => trivial) (fun _ u d _ _ hf hl => canonKVs_lookup (hstore u d hf).2 hl) h

mutual
theorem substUnk_toExpr (σ : Mapper) : ∀ v : Value, v.toExpr.substUnk σ = v.toExpr
  | .prim p => by simp [Value.toExpr, Expr.substUnk]
  | .ext x => by
    cases x with
    | decimal d => simp [Value.toExpr, Ext.toExpr, Expr.substUnk, Expr.substUnkList]
    | duration d => simp [Value.toExpr, Ext.toExpr, Expr.substUnk, Expr.substUnkList]
    | datetime d => simp [Value.toExpr, Ext.toExpr, Expr.substUnk, Expr.substUnkList]
    | ipaddr v6 a p => cases v6 <;> simp [Value.toExpr, Ext.toExpr, Expr.substUnk, Expr.substUnkList]
  | .set vs => by simp [Value.toExpr, Expr.substUnk, substUnk_toExprList σ vs]
  | .record kvs => by simp [Value.toExpr, Expr.substUnk, substUnk_toExprKVs σ kvs]
theorem substUnk_toExprList (σ : Mapper) : ∀ vs : List Value, Expr.substUnkList σ (Value.toExprList vs) = Value.toExprList vs
  | [] => by simp [Value.toExprList, Expr.substUnkList]
  | v :: vs => by simp [Value.toExprList, Expr.substUnkList, substUnk_toExpr σ v, substUnk_toExprList σ vs]
theorem substUnk_toExprKVs (σ : Mapper) : ∀ kvs : List (String × Value),
    Expr.substUnkKVs σ (Value.toExprKVs kvs) = Value.toExprKVs kvs
  | [] => by simp [Value.toExprKVs, Expr.substUnkKVs]
  | (k, v) :: kvs => by simp [Value.toExprKVs, Expr.substUnkKVs, substUnk_toExpr σ v, substUnk_toExprKVs σ kvs]
end

section
variable (req : Request) (es : Entities) (env : SlotEnv)

theorem evaluate_call1 (fn s : String) :
    evaluate req es env (.call fn [.lit (.string s)]) = callExt fn [.prim (.string s)] := by
  simp [evaluate, evaluateList]

theorem evaluate_ext (x : Ext) (h : PExt.InRange x) : evaluate req es env (Value.toExpr (.ext x)) = .ok (.ext x) := by
  cases x with
  | decimal d => rw [PExt.toExpr_decimal, evaluate_call1]; exact CJson.callExt_decimal d h
  | duration ms => rw [PExt.toExpr_duration, evaluate_call1]; exact CJson.callExt_duration ms h
  | ipaddr v6 a p =>
    cases v6 with
    | false => rw [PExt.toExpr_ip_v4, evaluate_call1]; exact PExt.callExt_ip (CJson.parse_renderIp_v4 a p h.1 h.2)
    | true => rw [PExt.toExpr_ip_v6, evaluate_call1]; exact PExt.callExt_ip (PExt.parse_v6Full a p h.1 h.2)
  | datetime ms =>
    rw [PExt.toExpr_datetime]
    simp [evaluate, evaluateList, CJson.callExt_epoch, CJson.callExt_duration ms h, CJson.callExt_offset_epoch ms h]

mutual
theorem evaluate_toExpr : ∀ v : Value, v.Canon → evaluate req es env v.toExpr = .ok v
  | .prim p, _ => by simp [Value.toExpr, evaluate]
  | .ext x, h => evaluate_ext req es env x h
  | .set vs, h => by
    simp only [Value.Canon] at h
    simp only [Value.toExpr, evaluate, evaluate_toExprList vs h.2, h.1]
  | .record kvs, h => by
    simp only [Value.Canon] at h
    have := CJson.foldl_insertKV_sorted kvs [] (by simpa using h.1)
    simp only [List.nil_append] at this
    simp only [Value.toExpr, evaluate, evaluate_toExprKVs kvs h.2, this]
theorem evaluate_toExprList : ∀ vs : List Value, Value.CanonList vs → evaluateList req es env (Value.toExprList vs) = .ok vs
  | [], _ => by simp [Value.toExprList, evaluateList]
  | v :: vs, h => by
    simp only [Value.CanonList] at h
    simp only [Value.toExprList, evaluateList, evaluate_toExpr v h.1, evaluate_toExprList vs h.2]
theorem evaluate_toExprKVs : ∀ kvs : List (String × Value), Value.CanonKVs kvs →
    evaluateKVs req es env (Value.toExprKVs kvs) = .ok kvs
  | [], _ => by simp [Value.toExprKVs, evaluateKVs]
  | (k, v) :: kvs, h => by
    simp only [Value.CanonKVs] at h
    simp only [Value.toExprKVs, evaluateKVs, evaluate_toExpr v h.1, evaluate_toExprKVs kvs h.2]
end

end

section
variable (σ : Mapper) (req : Request) (es : Entities) (env : SlotEnv)

/-- the concrete meaning of an expression with unknowns: substitute, then evaluate -/
def Y (e : Expr) : Result Value := evaluate req es env (e.substUnk σ)

theorem Y_toExpr {v : Value} (h : v.Canon) : Y σ req es env v.toExpr = .ok v := by
  simp only [Y, substUnk_toExpr, evaluate_toExpr req es env v h]

theorem Y_lit (p : Prim) : Y σ req es env (.lit p) = .ok (.prim p) := by simp [Y, Expr.substUnk, evaluate]

theorem Y_unknown {name : String} {ty : Option TyAnn} {v : Value} (hl : lookupKV σ name = some v) (hc : v.Canon) :
    Y σ req es env (.unknown name ty) = .ok v := by
  simp only [Y, Expr.substUnk, hl, evaluate_toExpr req es env v hc]

variable {σ req es env}

theorem evalKVs_spec : ∀ (kvs : List (String × Expr)) (vs : List (String × Value)),
    evaluateKVs req es env (Expr.substUnkKVs σ kvs) = .ok vs →
    vs.map Prod.fst = kvs.map Prod.fst ∧
    ∀ a, match lookupKV kvs a with
      | none => lookupKV vs a = none
      | some e' => ∃ v', Y σ req es env e' = .ok v' ∧ lookupKV vs a = some v'
  | [], vs, h => by
    simp only [Expr.substUnkKVs, evaluateKVs, Except.ok.injEq] at h
    subst h
    exact ⟨rfl, fun a => by simp [lookupKV]⟩
  | (k, x) :: kvs, vs, h => by
    simp only [Expr.substUnkKVs, evaluateKVs] at h
    cases hx : evaluate req es env (x.substUnk σ) with
    | error c => simp [hx] at h
    | ok v =>
      cases hr : evaluateKVs req es env (Expr.substUnkKVs σ kvs) with
      | error c => simp [hx, hr] at h
      | ok vs' =>
        simp only [hx, hr, Except.ok.injEq] at h
        subst h
        obtain ⟨ih1, ih2⟩ := evalKVs_spec kvs vs' hr
        refine ⟨by simp [ih1], ?_⟩
        intro a
        simp only [lookupKV]
        by_cases hk : (k == a) = true
        · simp only [hk, if_true]
          exact ⟨v, hx, rfl⟩
        · simp only [hk, Bool.false_eq_true, if_false]
          exact ih2 a

theorem record_lookup {kvs : List (String × Expr)} (hnd : (kvs.map Prod.fst).Nodup) {R : List (String × Value)}
    (h : Y σ req es env (.record kvs) = .ok (.record R)) (a : String) :
    match lookupKV kvs a with
    | none => lookupKV R a = none
    | some e' => ∃ v', Y σ req es env e' = .ok v' ∧ lookupKV R a = some v' := by
  simp only [Y, Expr.substUnk, evaluate] at h
  cases hr : evaluateKVs req es env (Expr.substUnkKVs σ kvs) with
  | error c => simp [hr] at h
  | ok vs =>
    simp only [hr, Except.ok.injEq, Value.record.injEq] at h
    subst h
    obtain ⟨h1, h2⟩ := evalKVs_spec kvs vs hr
    have hl := lookupKV_foldl_nodup a vs [] (by rw [h1]; exact hnd)
    have := h2 a
    cases hk : lookupKV kvs a with
    | none => rw [hk] at this; simp only at this ⊢; rw [hl, this]; rfl
    | some e' =>
      rw [hk] at this
      obtain ⟨v', hv, hlv⟩ := this
      exact ⟨v', hv, by rw [hl, hlv]⟩

theorem Y_record_is_record {kvs : List (String × Expr)} {v : Value} (h : Y σ req es env (.record kvs) = .ok v) :
    ∃ R, v = .record R := by
  simp only [Y, Expr.substUnk, evaluate] at h
  split at h
  · cases h
  · cases h; exact ⟨_, rfl⟩

end

theorem frag2_ext (σ : Mapper) (x : Ext) : Frag2 σ (Value.toExpr (.ext x)) := by
  have hl : ∀ (fn s : String), fn ≠ "unknown" → Frag2 σ (.call fn [.lit (.string s)]) := by
    intro fn s hfn
    refine .call fn hfn ?_
    intro y hy
    simp only [List.mem_cons, List.not_mem_nil, or_false] at hy
    subst hy; exact .lit _
  cases x with
  | decimal d => simp only [Value.toExpr, Ext.toExpr]; exact hl _ _ (by decide)
  | duration d => simp only [Value.toExpr, Ext.toExpr]; exact hl _ _ (by decide)
  | ipaddr v6 a p => cases v6 <;> (simp only [Value.toExpr, Ext.toExpr]; exact hl _ _ (by decide))
  | datetime d =>
    simp only [Value.toExpr, Ext.toExpr]
    refine .call _ (by decide) ?_
    intro y hy
    simp only [List.mem_cons, List.not_mem_nil, or_false] at hy
    rcases hy with rfl | rfl
    · exact hl _ _ (by decide)
    · exact hl _ _ (by decide)

mutual
theorem frag2_toExpr (σ : Mapper) : ∀ v : Value, v.Canon → Frag2 σ v.toExpr
  | .prim p, _ => by simp only [Value.toExpr]; exact .lit p
  | .ext x, _ => frag2_ext σ x
  | .set vs, h => by
    simp only [Value.Canon] at h
    simp only [Value.toExpr]
    exact .set (frag2_toExprList σ vs h.2)
  | .record kvs, h => by
    simp only [Value.Canon] at h
    simp only [Value.toExpr]
    exact .record (by rw [toExprKVs_fst]; exact h.1.nodup) (frag2_toExprKVs σ kvs h.2)
theorem frag2_toExprList (σ : Mapper) : ∀ vs : List Value, Value.CanonList vs → ∀ x, x ∈ Value.toExprList vs → Frag2 σ x
  | [], _ => by intro x hx; simp [Value.toExprList] at hx
  | v :: vs, h => by
    simp only [Value.CanonList] at h
    intro x hx
    simp only [Value.toExprList, List.mem_cons] at hx
    rcases hx with hx | hx
    · rw [hx]; exact frag2_toExpr σ v h.1
    · exact frag2_toExprList σ vs h.2 x hx
theorem frag2_toExprKVs (σ : Mapper) : ∀ kvs : List (String × Value), Value.CanonKVs kvs →
    ∀ kv, kv ∈ Value.toExprKVs kvs → Frag2 σ kv.2
  | [], _ => by intro x hx; simp [Value.toExprKVs] at hx
  | (k, v) :: kvs, h => by
    simp only [Value.CanonKVs] at h
    intro x hx
    simp only [Value.toExprKVs, List.mem_cons] at hx
    rcases hx with hx | hx
    · rw [hx]; exact frag2_toExpr σ v h.1
    · exact frag2_toExprKVs σ kvs h.2 x hx
end

section
variable {σ : Mapper} (req : Request) (es : Entities) (env : SlotEnv)

mutual
theorem proj_ok : ∀ x : Expr, Frag2 σ x → x.isProjectable = true → ∃ v, Y σ req es env x = .ok v
  | .lit p, _, _ => ⟨_, Y_lit σ req es env p⟩
  | .unknown n ty, hf, _ => by
    cases hf with
    | unknown _ _ h =>
      obtain ⟨v, hl, hc, _⟩ := h
      exact ⟨v, Y_unknown σ req es env hl hc⟩
  | .var v, _, _ => by cases v <;> exact ⟨_, rfl⟩
  | .set xs, hf, hp => by
    cases hf with
    | set h =>
      obtain ⟨vs, hvs⟩ := proj_okList xs h (by simpa [Expr.isProjectable] using hp)
      exact ⟨.set (Value.mkSet vs), by simp [Y, Expr.substUnk, evaluate, hvs]⟩
  | .record kvs, hf, hp => by
    cases hf with
    | record _ h =>
      obtain ⟨vs, hvs⟩ := proj_okKVs kvs h (by simpa [Expr.isProjectable] using hp)
      exact ⟨.record (vs.foldl (fun acc kv => insertKV kv.1 kv.2 acc) []), by simp [Y, Expr.substUnk, evaluate, hvs]⟩
  | .slot _, _, hp => by simp [Expr.isProjectable] at hp
  | .ite _ _ _, _, hp => by simp [Expr.isProjectable] at hp
  | .and _ _, _, hp => by simp [Expr.isProjectable] at hp
  | .or _ _, _, hp => by simp [Expr.isProjectable] at hp
  | .unaryApp _ _, _, hp => by simp [Expr.isProjectable] at hp
  | .binaryApp _ _ _, _, hp => by simp [Expr.isProjectable] at hp
  | .call _ _, _, hp => by simp [Expr.isProjectable] at hp
  | .getAttr _ _, _, hp => by simp [Expr.isProjectable] at hp
  | .hasAttr _ _, _, hp => by simp [Expr.isProjectable] at hp
  | .like _ _, _, hp => by simp [Expr.isProjectable] at hp
  | .is _ _, _, hp => by simp [Expr.isProjectable] at hp
theorem proj_okList : ∀ xs : List Expr, (∀ x, x ∈ xs → Frag2 σ x) → Expr.isProjectableList xs = true →
    ∃ vs, evaluateList req es env (Expr.substUnkList σ xs) = .ok vs
  | [], _, _ => ⟨[], rfl⟩
  | x :: xs, hf, hp => by
    simp only [Expr.isProjectableList, Bool.and_eq_true] at hp
    obtain ⟨v, hv⟩ := proj_ok x (hf x (List.mem_cons_self ..)) hp.1
    obtain ⟨vs, hvs⟩ := proj_okList xs (fun y hy => hf y (List.mem_cons_of_mem _ hy)) hp.2
    simp only [Y] at hv
    exact ⟨v :: vs, by simp [Expr.substUnkList, evaluateList, hv, hvs]⟩
theorem proj_okKVs : ∀ kvs : List (String × Expr), (∀ kv, kv ∈ kvs → Frag2 σ kv.2) → Expr.isProjectableKVs kvs = true →
    ∃ vs, evaluateKVs req es env (Expr.substUnkKVs σ kvs) = .ok vs
  | [], _, _ => ⟨[], rfl⟩
  | (k, x) :: kvs, hf, hp => by
    simp only [Expr.isProjectableKVs, Bool.and_eq_true] at hp
    obtain ⟨v, hv⟩ := proj_ok x (hf (k, x) (List.mem_cons_self ..)) hp.1
    obtain ⟨vs, hvs⟩ := proj_okKVs kvs (fun y hy => hf y (List.mem_cons_of_mem _ hy)) hp.2
    simp only [Y] at hv
    exact ⟨(k, v) :: vs, by simp [Expr.substUnkKVs, evaluateKVs, hv, hvs]⟩
end

end

end PS
end Cedar
