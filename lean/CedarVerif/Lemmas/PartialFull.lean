import CedarVerif.Cedar.Partial
/- Vocabulary of the *full* statement of C13's `pinterp_sound` (all expressions, residual contexts, unknown
   attribute values, partial stores): unknown occurrences, type-respecting substitutions, completions. -/
namespace Cedar

-- all unknowns (name, annotation) occurring in an expression
mutual
def Expr.unknowns : Expr → List (String × Option TyAnn)
  | .unknown n ty => [(n, ty)]
  | .lit _ => []
  | .var _ => []
  | .slot _ => []
  | .ite c t e => c.unknowns ++ t.unknowns ++ e.unknowns
  | .and a b => a.unknowns ++ b.unknowns
  | .or a b => a.unknowns ++ b.unknowns
  | .unaryApp _ a => a.unknowns
  | .binaryApp _ a b => a.unknowns ++ b.unknowns
  | .call _ args => Expr.unknownsList args
  | .getAttr e _ => e.unknowns
  | .hasAttr e _ => e.unknowns
  | .like e _ => e.unknowns
  | .is e _ => e.unknowns
  | .set xs => Expr.unknownsList xs
  | .record kvs => Expr.unknownsKVs kvs
def Expr.unknownsList : List Expr → List (String × Option TyAnn)
  | [] => []
  | x :: xs => x.unknowns ++ Expr.unknownsList xs
def Expr.unknownsKVs : List (String × Expr) → List (String × Option TyAnn)
  | [] => []
  | (_, x) :: xs => x.unknowns ++ Expr.unknownsKVs xs
end

def UidEntry.unknowns (key : String) : UidEntry → List (String × Option TyAnn)
  | .known _ => []
  | .unknown none => [(key, none)]
  | .unknown (some t) => [(key, some (.entity t))]

def PRequest.unknowns (r : PRequest) : List (String × Option TyAnn) :=
  r.principal.unknowns "principal" ++ r.action.unknowns "action" ++ r.resource.unknowns "resource" ++
  (match r.context with
   | none => [("context", none)]
   | some (.value _) => []
   | some (.residual kvs) => Expr.unknownsKVs kvs)

def pkvUnknowns : List (String × PartialValue) → List (String × Option TyAnn)
  | [] => []
  | (_, .value _) :: r => pkvUnknowns r
  | (_, .residual e) :: r => e.unknowns ++ pkvUnknowns r

def PEntities.unknowns (es : PEntities) : List (String × Option TyAnn) :=
  es.ents.flatMap (fun ud => pkvUnknowns ud.2.attrs ++ pkvUnknowns ud.2.tags)

/-- the substitution maps every *typed* unknown of the list to a value of the declared kind -/
def RespectsTypes (σ : Mapper) (us : List (String × Option TyAnn)) : Prop :=
  ∀ n t v, (n, some t) ∈ us → lookupKV σ n = some v → v.typeOf = t

def UidEntry.ConcFull (σ : Mapper) (key : String) (entry : UidEntry) (uid : EntityUID) : Prop :=
  match entry with
  | .known u => u = uid
  | .unknown _ => lookupKV σ key = some (.prim (.entityUID uid))

/-- `req` is `preq` with its unknowns substituted by σ (a residual context is substituted and re-evaluated as
    `Context::substitute` does) -/
def ConcretizesFull (σ : Mapper) (preq : PRequest) (req : Request) : Prop :=
  preq.principal.ConcFull σ "principal" req.principal ∧ preq.action.ConcFull σ "action" req.action ∧
  preq.resource.ConcFull σ "resource" req.resource ∧
  (match preq.context with
   | some (.value kvs) => kvs = req.context
   | none => lookupKV σ "context" = some (.record req.context)
   | some (.residual kvs) => ∃ n, rinterp n (Expr.substUnk σ (.record kvs)) = .val (.record req.context))

/- `AttrCompletes`, `AttrsComplete`, `StoreCompletes` here serve `PinterpSoundFull` only.  The proved theorems use the relations of
   the same names in namespace `PS` (Lemmas/PartialCompletes.lean), which differ: there a residual attribute is completed through
   `evaluate ∘ substUnk` and must lie in `Frag2 σ`, here through `rinterp`; there attributes are compared key by key (first
   binding), here position by position; there values must be `Canon`. -/
def AttrCompletes (σ : Mapper) (pv : PartialValue) (v : Value) : Prop :=
  match pv with
  | .value w => w = v
  | .residual r => ∃ n, rinterp n (r.substUnk σ) = .val v

def AttrsComplete (σ : Mapper) : List (String × PartialValue) → List (String × Value) → Prop
  | [], [] => True
  | (k, pv) :: r, (k', v) :: r' => k = k' ∧ AttrCompletes σ pv v ∧ AttrsComplete σ r r'
  | _, _ => False

/-- the concrete store `es` completes the partial store `pes` under σ: present entities keep their data with
    unknown attribute values substituted; an entity missing from a `.partial()` store is the value of the
    unknown the store creates for it; a concrete-mode store is not extended -/
def StoreCompletes (σ : Mapper) (pes : PEntities) (es : Entities) : Prop :=
  ∀ u, match PEntities.find? pes.ents u with
    | some d => ∃ d', es.find? u = some d' ∧ d'.ancestors = d.ancestors ∧
        AttrsComplete σ d.attrs d'.attrs ∧ AttrsComplete σ d.tags d'.tags
    | none => if pes.partialMode then lookupKV σ (uidName u) = some (.prim (.entityUID u)) else es.find? u = none

/-- equal values (modulo set order/duplicates: `Value.beq`), or both errors -/
def ResultAgree (x y : Result Value) : Prop :=
  (∃ v w, x = .ok v ∧ y = .ok w ∧ Value.beq v w = true) ∨ (∃ c c', x = .error c ∧ y = .error c')

end Cedar
