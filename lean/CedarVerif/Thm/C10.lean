import CedarVerif.Lemmas.ExtRenderIP
import CedarVerif.Lemmas.ExtRenderV6
import CedarVerif.Lemmas.JsonEntity
import CedarVerif.Lemmas.JsonTyped
import CedarVerif.Lemmas.JsonLeaf
/-
C10 — entity / context / value JSON round trip; schema-directed parsing agrees with the escapes.

Model: `Cedar/Json/{Json,SchemaType,Value}.lean` (mirrors of `CedarValueJson`, `from_value`, `into_expr`,
`ValueParser::val_into_restricted_expr`, `EntityJson`), tied to the code by the `c10` stream.
Hypotheses that appear below are facts about Rust values: `WF v` (longs are i64, entity type names are `Name`s,
records are key-sorted `BTreeMap`s), `RustExt` (i64 payloads, u32/u128 addresses, prefix within the family's width; the
IPv4-mapped IPv6 addresses, which Rust values do hold, are excluded),
`ClosedType τ` (closed record types whose attribute maps are `BTreeMap`s).
-/
namespace Cedar.C10
open Cedar Cedar.CJson

/-- Parsing the canonical rendering of the extension value `x` gives back `x` (stated on the pieces the
    round-trip induction composes: the document deserialises to the same `CedarValueJson`, converts to a
    restricted expression and evaluates to `x`). -/
def ExtRoundTrip (x : Ext) : Prop := LeafOK canonRepr x

theorem extRoundTrip_duration (ms : Int) (h : inI64 ms = true) : ExtRoundTrip (.duration ms) := leaf_duration ms h
theorem extRoundTrip_datetime (ms : Int) (h : inI64 ms = true) : ExtRoundTrip (.datetime ms) := leaf_datetime ms h
theorem extRoundTrip_decimal (v : Int) (h : inI64 v = true) : ExtRoundTrip (.decimal v) := leaf_decimal v h

/-- ipaddr: the leaf round trips exactly when `ip()` parses the canonical text `Display` prints back to the same
    (family, address, prefix) -/
theorem extRoundTrip_ip_iff (v6 : Bool) (a p : Nat) :
    ExtRoundTrip (.ipaddr v6 a p) ↔
      Ext.IPAddr.parse (String.ofList (renderIp v6 a p)) = some (.ipaddr v6 a p) :=
  ⟨fun h => Decidable.byContradiction fun hn => not_leaf_ip_of_parse v6 a p hn h, leaf_ip_of_parse v6 a p⟩

/-- **every IPv4 value round trips** (32-bit address, prefix ≤ 32: what an `IPAddr` holding an `Ipv4Addr` is) -/
theorem extRoundTrip_ip_v4 (a p : Nat) (ha : a < 2 ^ 32) (hp : p ≤ 32) : ExtRoundTrip (.ipaddr false a p) :=
  leaf_ip_of_parse false a p (parse_renderIp_v4 a p ha hp)

/-- **every IPv6 value that is not an IPv4-mapped address round trips** (128-bit address, prefix ≤ 128;
    `isV4Mapped a` = the first five segments are 0 and the sixth is `ffff`, the case `Display for Ipv6Addr` prints
    with an embedded dotted quad) -/
theorem extRoundTrip_ip_v6 (a p : Nat) (ha : a < 2 ^ 128) (hp : p ≤ 128) (hm : isV4Mapped a = false) :
    ExtRoundTrip (.ipaddr true a p) :=
  leaf_ip_of_parse true a p (parse_renderIp_v6 a p ha hp hm)

/-- for an IPv4-mapped IPv6 address the canonical text is
    `::ffff:a.b.c.d/p`, which `ip()` refuses (≥ 2 ':' and ≥ 2 '.'), so such a value does NOT round trip through its
    `canonical_repr` — for every prefix. (The implementation agrees: `c10` stream; such values can only be built by
    `ip()` from a pure-hex spelling, e.g. `ip("::ffff:102:304")`, and Rust serialises the constructor call it
    stored, not the canonical text.) -/
theorem extRoundTrip_ip_v6_mapped_false (a p : Nat) (hm : isV4Mapped a = true) : ¬ ExtRoundTrip (.ipaddr true a p) :=
  not_leaf_ip_of_parse true a p (by rw [parse_renderIp_v6_mapped a p hm]; exact fun h => nomatch h)

example : ExtRoundTrip (.ipaddr false 0xc0a80001 24) := extRoundTrip_ip_v4 _ _ (by decide) (by decide)
example : ExtRoundTrip (.ipaddr true 1 128) := extRoundTrip_ip_v6 _ _ (by decide) (by decide) (by decide)
example : ExtRoundTrip (.ipaddr true (255 * 2 ^ 120) 8) := extRoundTrip_ip_v6 _ _ (by decide) (by decide) (by decide)
example : String.ofList (renderIp true 0xffff01020304 128) = "::ffff:1.2.3.4/128" ∧
    Ext.IPAddr.parse "::ffff:102:304" = some (.ipaddr true 0xffff01020304 128) ∧
    ¬ ExtRoundTrip (.ipaddr true 0xffff01020304 128) :=
  ⟨by decide +kernel, by decide +kernel, extRoundTrip_ip_v6_mapped_false _ _ (by decide)⟩

/-- what `ExtRoundTrip x` means at the level of `ofJson`/`toJson` -/
theorem extRoundTrip_ofJson (x : Ext) (h : ExtRoundTrip x) :
    ∃ j, toJson (.ext x) = .ok j ∧ ofJson j = .ok (.ext x) := by
  obtain ⟨c, hc, hrt⟩ := h
  obtain ⟨_, v', _, _, _, ho, hb⟩ := hrt.parse
  refine ⟨c.toJson, by simp [toJson, toJsonWith, hc], ?_⟩
  have hv : v' = .ext x := by
    cases v' <;> simp [Value.beq] at hb
    subst hb; rfl
  rw [ho, hv]

/-- non-vacuity: concrete extension values round trip -/
example : ExtRoundTrip (.duration (-9223372036854775808)) := extRoundTrip_duration _ (by decide)
example : ExtRoundTrip (.decimal 15000) := extRoundTrip_decimal _ (by decide)
example : ofJson (.obj [("__extn", .obj [("fn", .str "decimal"), ("arg", .str "-1.5000")])]) = .ok (.ext (.decimal (-15000))) :=
  ok_of_same (by decide +kernel)

/-- **json_roundtrip**, for any rendering `ρ` of extension values whose leaves round trip (Rust stores the
    constructor call with each extension value; the invariant `eval(func(args)) = value` is `LeafOK ρ`). -/
theorem json_roundtrip_with (ρ : Ext → String × List Expr) (v : Value) (j : Json)
    (hwf : WF v) (hext : AllExt (LeafOK ρ) v) (h : toJsonWith ρ v = .ok j) :
    ∃ v', ofJson j = .ok v' ∧ Value.beq v v' = true := by
  unfold toJsonWith at h
  split at h
  · rename_i c hc
    cases h
    obtain ⟨_, v', _, _, _, ho, hb⟩ := (rt_value ρ v c hwf hext hc).parse
    exact ⟨v', ho, hb⟩
  · cases h

/-- **json_roundtrip**: `toJson v = ok j → ofJson j = ok v'` with `v' == v` (Cedar equality), for every
    well-formed value — nested sets and records, entity references, strings, i64 extremes — whose extension
    leaves satisfy `ExtRoundTrip` (which of them do: `extRoundTrip_*` above; with that hypothesis discharged:
    `json_roundtrip_rustExt`). -/
theorem json_roundtrip (v : Value) (j : Json) (hwf : WF v) (hext : AllExt ExtRoundTrip v) (h : toJson v = .ok j) :
    ∃ v', ofJson j = .ok v' ∧ Value.beq v v' = true :=
  json_roundtrip_with canonRepr v j hwf hext h

/-- every extension leaf is a decimal / datetime / duration in i64 range: then no hypothesis is left -/
def NoIp : Ext → Prop
  | .decimal v => inI64 v = true
  | .datetime ms => inI64 ms = true
  | .duration ms => inI64 ms = true
  | .ipaddr .. => False

theorem extRoundTrip_of_noIp (x : Ext) (h : NoIp x) : ExtRoundTrip x := by
  cases x with
  | decimal v => exact extRoundTrip_decimal v h
  | datetime ms => exact extRoundTrip_datetime ms h
  | duration ms => exact extRoundTrip_duration ms h
  | ipaddr => exact absurd h id

/-- the extension values a Rust `Value` can hold — i64 payloads; an `IPAddr` is a u32 address with prefix ≤ 32 or a
    u128 address with prefix ≤ 128 — minus the IPv4-mapped IPv6 addresses -/
def RustExt : Ext → Prop
  | .decimal v => inI64 v = true
  | .datetime ms => inI64 ms = true
  | .duration ms => inI64 ms = true
  | .ipaddr false a p => a < 2 ^ 32 ∧ p ≤ 32
  | .ipaddr true a p => a < 2 ^ 128 ∧ p ≤ 128 ∧ isV4Mapped a = false

theorem extRoundTrip_of_rustExt (x : Ext) (h : RustExt x) : ExtRoundTrip x := by
  cases x with
  | decimal v => exact extRoundTrip_decimal v h
  | datetime ms => exact extRoundTrip_datetime ms h
  | duration ms => exact extRoundTrip_duration ms h
  | ipaddr v6 a p =>
    cases v6 with
    | false => exact extRoundTrip_ip_v4 a p h.1 h.2
    | true => exact extRoundTrip_ip_v6 a p h.1 h.2.1 h.2.2

/-- within the value ranges of Rust extension values, `ExtRoundTrip` fails exactly on the IPv4-mapped IPv6 addresses -/
theorem extRoundTrip_ip_v6_iff (a p : Nat) (ha : a < 2 ^ 128) (hp : p ≤ 128) :
    ExtRoundTrip (.ipaddr true a p) ↔ isV4Mapped a = false := by
  constructor
  · intro h
    cases hm : isV4Mapped a with
    | false => rfl
    | true => exact absurd h (extRoundTrip_ip_v6_mapped_false a p hm)
  · exact extRoundTrip_ip_v6 a p ha hp

mutual
theorem allExt_mono {P Q : Ext → Prop} (hpq : ∀ x, P x → Q x) : ∀ v, AllExt P v → AllExt Q v
  | .prim _, _ => by simp [AllExt]
  | .ext x, h => by simp only [AllExt] at h ⊢; exact hpq x h
  | .set vs, h => by simp only [AllExt] at h ⊢; exact allExtList_mono hpq vs h
  | .record kvs, h => by simp only [AllExt] at h ⊢; exact allExtKVs_mono hpq kvs h
theorem allExtList_mono {P Q : Ext → Prop} (hpq : ∀ x, P x → Q x) : ∀ vs, AllExtList P vs → AllExtList Q vs
  | [], _ => by simp [AllExtList]
  | v :: vs, h => by simp only [AllExtList] at h ⊢; exact ⟨allExt_mono hpq v h.1, allExtList_mono hpq vs h.2⟩
theorem allExtKVs_mono {P Q : Ext → Prop} (hpq : ∀ x, P x → Q x) : ∀ kvs, AllExtKVs P kvs → AllExtKVs Q kvs
  | [], _ => by simp [AllExtKVs]
  | (_, v) :: kvs, h => by simp only [AllExtKVs] at h ⊢; exact ⟨allExt_mono hpq v h.1, allExtKVs_mono hpq kvs h.2⟩
end

/-- the round trip without any extension hypothesis, for values without ipaddr leaves -/
theorem json_roundtrip_noIp (v : Value) (j : Json) (hwf : WF v) (hext : AllExt NoIp v) (h : toJson v = .ok j) :
    ∃ v', ofJson j = .ok v' ∧ Value.beq v v' = true :=
  json_roundtrip v j hwf (allExt_mono extRoundTrip_of_noIp v hext) h

/-- **json_roundtrip, no `ExtRoundTrip` hypothesis left**: for every well-formed value whose extension leaves are Rust extension
    values other than IPv4-mapped IPv6 addresses (all four extension types, both ip families) -/
theorem json_roundtrip_rustExt (v : Value) (j : Json) (hwf : WF v) (hext : AllExt RustExt v) (h : toJson v = .ok j) :
    ∃ v', ofJson j = .ok v' ∧ Value.beq v v' = true :=
  json_roundtrip v j hwf (allExt_mono extRoundTrip_of_rustExt v hext) h

example : ∃ j v', toJson (.set [.ext (.ipaddr false 0x0a000001 8), .ext (.ipaddr true (2 ^ 112) 16)]) = .ok j ∧
    ofJson j = .ok v' ∧ Value.beq (.set [.ext (.ipaddr false 0x0a000001 8), .ext (.ipaddr true (2 ^ 112) 16)]) v' = true := by
  have hx : AllExt RustExt (.set [.ext (.ipaddr false 0x0a000001 8), .ext (.ipaddr true (2 ^ 112) 16)]) := by
    simp only [AllExt, AllExtList, RustExt]
    decide
  obtain ⟨c, hc⟩ := (refuse_value (.set [.ext (.ipaddr false 0x0a000001 8), .ext (.ipaddr true (2 ^ 112) 16)])).2 (by decide)
  obtain ⟨v', h1, h2⟩ := json_roundtrip_rustExt _ c.toJson (by simp [WF, WFList]) hx (by simp [toJson, toJsonWith, hc])
  exact ⟨c.toJson, v', by simp [toJson, toJsonWith, hc], h1, h2⟩

/-- non-vacuity: a nested value with an entity reference, an i64 extreme, an empty set, a record whose keys
    look like escape payload fields, and extension values -/
def sample : Value :=
  .record [("fn", .set [.prim (.int (-9223372036854775808)), .set [], .ext (.decimal (-1))]),
           ("id", .prim (.entityUID ⟨"NS::Doc", "a\"b"⟩)),
           ("type", .record [("arg", .ext (.datetime 86400000)), ("s", .prim (.string "\\\"\n"))])]

example : ∃ j v', toJson sample = .ok j ∧ ofJson j = .ok v' ∧ Value.beq sample v' = true := by
  have hwf : WF sample := by
    simp only [sample, WF, WFKVs, WFList, Sorted, List.map]
    decide
  have hx : AllExt NoIp sample := by
    simp only [sample, AllExt, AllExtKVs, AllExtList, NoIp]
    decide
  obtain ⟨c, hc⟩ := (refuse_value sample).2 (by decide)
  obtain ⟨v', h1, h2⟩ := json_roundtrip_noIp sample c.toJson hwf hx (by simp [toJson, toJsonWith, hc])
  exact ⟨c.toJson, v', by simp [toJson, toJsonWith, hc], h1, h2⟩

/-- **toJson_refuses_iff**: serialisation fails iff some record inside the value has a reserved key, and the
    failure is `ReservedKey` (nothing is silently altered: on success the round trip above applies). -/
theorem toJson_refuses_iff (v : Value) :
    (∃ e, toJson v = .error e) ↔ hasReserved v = true := by
  obtain ⟨h1, h2⟩ := refuse_value v
  constructor
  · rintro ⟨e, he⟩
    cases hr : hasReserved v with
    | true => rfl
    | false =>
      obtain ⟨c, hc⟩ := h2 hr
      simp [toJson, toJsonWith, hc] at he
  · intro hr
    exact ⟨.reserved, by simp [toJson, toJsonWith, h1 hr]⟩

theorem toJson_error_is_reserved (v : Value) (e : JErr) (h : toJson v = .error e) : e = .reserved := by
  obtain ⟨h1, h2⟩ := refuse_value v
  cases hr : hasReserved v with
  | true => simp [toJson, toJsonWith, h1 hr] at h; exact h.symm
  | false => obtain ⟨c, hc⟩ := h2 hr; simp [toJson, toJsonWith, hc] at h

example : toJson (.set [.record [("a", .prim (.int 1)), ("__extn", .prim (.bool true))]]) = .error .reserved := by rfl
example : ∃ j, toJson (.record [("type", .prim (.string "User")), ("id", .prim (.string "a"))]) = .ok j := ⟨_, rfl⟩

-- `instOf v τ` (value-level conformance), `Form τ v j` (the documents for `v` under expected type `τ`: implicit or
-- explicit per node) and `ClosedType τ` (closed record types, attribute maps key-sorted `BTreeMap`s) are defined in
-- `Lemmas/JsonTypedDefs.lean` (namespace `Cedar.C10`).

/-- **typed_agrees_explicit** without a hypothesis on `τ`: for a well-formed, serialisable instance `v`
    of `τ`, every `Form` document for `v` (any implicit/explicit choice per node) parses under `τ` to a value equal to `v`,
    and the fully explicit document parses the same with and without the type.
    FALSE of the model (and of the implementation) for open record types — `typedAgreesExplicit_unrestricted_false`
    below — and for "types" that declare an attribute twice (not a `BTreeMap`; the `example` after it).  The precise
    statement is `TypedAgreesExplicitClosed`, proved as `typed_agrees_explicit`. -/
def TypedAgreesExplicit : Prop :=
  ∀ (τ : SchemaType) (v : Value), instOf v τ = true → WF v → hasReserved v = false → AllExt ExtRoundTrip v →
    (∀ j, Form (some τ) v j → ∃ v', ofJsonTyped τ j = .ok v' ∧ Value.beq v v' = true) ∧
    (∀ j, toJson v = .ok j → ofJsonTyped τ j = ofJson j)

/-- counterexample to the unrestricted statement: an open record type drops the members it does not declare
    (the implementation does the same: `c10` stream, `open-record` cases) -/
theorem typedAgreesExplicit_unrestricted_false : ¬ TypedAgreesExplicit := by
  intro h
  have hform : Form (some (.record [] true)) (.record [("x", .prim (.int 1))]) (.obj [("x", .int 1)]) :=
    .record _ _ _ (.cons _ "x" _ _ _ _ (.lit _ (.int 1) (by intro u hu; cases hu)) (.nil _))
  obtain ⟨v', h1, h2⟩ := (h (.record [] true) (.record [("x", .prim (.int 1))]) (by decide)
    (by simp only [WF, WFKVs, Sorted, List.map]; decide) (by decide) (by simp [AllExt, AllExtKVs])).1 _ hform
  have : ofJsonTyped (.record [] true) (.obj [("x", .int 1)]) = .ok (.record []) := by rfl
  rw [this] at h1
  cases h1
  simp [Value.beq, Value.beqKVs] at h2

/-- a "record type" declaring `a` twice is not a Rust `SchemaType` (attributes are a `BTreeMap`); for such a list
    the walk over the declarations parses the member once per declaration -/
example : instOf (.record [("a", .prim (.int 1))]) (.record [("a", true, .long), ("a", true, .ext "decimal")] false) = true ∧
    ofJsonTyped (.record [("a", true, .long), ("a", true, .ext "decimal")] false) (.obj [("a", .int 1)])
      = .error (.eval .type) := by
  constructor <;> rfl

/-- **typed_agrees_explicit**, precise statement: for a well-formed, serialisable instance `v` of a type `τ` whose
    record types are closed `BTreeMap`s (`ClosedType`), every `Form` document for `v` (any implicit/explicit choice per
    node, at every nesting depth) parses under `τ` to a value equal to `v`, and the fully explicit document parses
    the same with and without the type. -/
def TypedAgreesExplicitClosed : Prop :=
  ∀ (τ : SchemaType) (v : Value), instOf v τ = true → ClosedType τ → WF v → hasReserved v = false →
    AllExt ExtRoundTrip v →
    (∀ j, Form (some τ) v j → ∃ v', ofJsonTyped τ j = .ok v' ∧ Value.beq v v' = true) ∧
    (∀ j, toJson v = .ok j → ofJsonTyped τ j = ofJson j)

/-- **typed_agrees_explicit** (all value shapes: scalars, entity references, the four extension types in bare /
    implicit / explicit form, nested sets, nested closed records with optional attributes): every `Form` document of `v` parses
    schema-directed to the *same* restricted expression, the one the explicit document parses to without a schema. -/
theorem typed_agrees_explicit : TypedAgreesExplicitClosed := by
  intro τ v hinst hcl hwf hres hext
  obtain ⟨jx, e, v', hj, hb, _, ho, hfx, hall⟩ := typed_forms_agree τ v hinst hcl hwf hres hext
  refine ⟨fun j hf => ⟨v', (hall j hf).2, hb⟩, ?_⟩
  intro j hj'
  rw [hj] at hj'
  cases hj'
  rw [(hall _ hfx).2, ho]

/-- *all* documents of `v` (implicit or explicit per node) parse under `τ` to one and the same value, which is the schema-less parse of the explicit document -/
theorem typed_forms_parse_alike (τ : SchemaType) (v : Value) (hinst : instOf v τ = true) (hcl : ClosedType τ)
    (hwf : WF v) (hres : hasReserved v = false) (hext : AllExt ExtRoundTrip v) :
    ∃ jx, toJson v = .ok jx ∧ ∀ j, Form (some τ) v j → ofJsonTyped τ j = ofJson jx := by
  obtain ⟨jx, e, v', hj, _, _, ho, _, hall⟩ := typed_forms_agree τ v hinst hcl hwf hres hext
  exact ⟨jx, hj, fun j hf => by rw [(hall j hf).2, ho]⟩

/-- non-vacuity of `typed_agrees_explicit`: a closed record type with an optional attribute left out, a set of
    records, an entity reference and two extension values; the hypotheses hold and a document mixing implicit and
    explicit forms is a `Form` -/
def sampleType : SchemaType :=
  .record [("d", true, .ext "decimal"), ("o", false, .long),
           ("s", true, .set (.record [("t", true, .ext "datetime"), ("u", true, .entity "User")] false))] false
def sampleTyped : Value :=
  .record [("d", .ext (.decimal 15000)),
           ("s", .set [.record [("t", .ext (.datetime 5)), ("u", .prim (.entityUID ⟨"User", "a"⟩))]])]
def sampleDoc : Json :=
  .obj [("d", .str "1.5000"),
        ("s", .arr [.obj [("t", .obj [("fn", .str "offset"), ("args", .arr [
                              .obj [("__extn", .obj [("fn", .str "datetime"), ("arg", .str "1970-01-01")])],
                              .obj [("__extn", .obj [("fn", .str "duration"), ("arg", .str "5ms")])]])]),
                          ("u", .obj [("type", .str "User"), ("id", .str "a")])]])]

example : instOf sampleTyped sampleType = true ∧ ClosedType sampleType ∧ WF sampleTyped ∧
    hasReserved sampleTyped = false ∧ AllExt ExtRoundTrip sampleTyped ∧ Form (some sampleType) sampleTyped sampleDoc ∧
    ∃ v', ofJsonTyped sampleType sampleDoc = .ok v' ∧ Value.beq sampleTyped v' = true := by
  have hinst : instOf sampleTyped sampleType = true := by decide
  have hcl : ClosedType sampleType := by
    simp only [sampleType, ClosedType, ClosedAttrs, Sorted, List.map]
    decide
  have hwf : WF sampleTyped := by
    simp only [sampleTyped, WF, WFKVs, WFList, Sorted, List.map]
    decide
  have hres : hasReserved sampleTyped = false := by decide
  have hext : AllExt ExtRoundTrip sampleTyped := by
    simp only [sampleTyped, AllExt, AllExtKVs, AllExtList]
    exact ⟨extRoundTrip_decimal _ (by decide), ⟨⟨extRoundTrip_datetime _ (by decide), trivial, trivial⟩, trivial⟩, trivial⟩
  have hform : Form (some sampleType) sampleTyped sampleDoc := by
    refine .record _ _ _ (.cons _ "d" _ _ _ _ (.extBare "decimal" _ "decimal" "1.5000" rfl rfl)
      (.cons _ "s" _ _ _ _ (.set _ _ _ (.cons _ _ _ _ _ (.record _ _ _
        (.cons _ "t" _ _ _ _ (.extImplicit "datetime" _ _ rfl)
          (.cons _ "u" _ _ _ _ (.entImplicit "User" _) (.nil _)))) (.nil _))) (.nil _)))
  exact ⟨hinst, hcl, hwf, hres, hext, hform, (typed_agrees_explicit _ _ hinst hcl hwf hres hext).1 _ hform⟩

/-- beyond conforming values (explicit documents, types without special parsing rules): under `bool`,
    `long`, `string`, `emptySet` the schema-directed parser *is* the escape-directed parser, on every document whatsoever
    (conforming or not) that is not an explicit `unknown` call. -/
theorem typed_agrees_explicit_scalar_partial (τ : SchemaType) (hτ : τ = .bool ∨ τ = .long ∨ τ = .string ∨ τ = .emptySet)
    (j : Json) (hd : noDupKeys j = true) (hu : explicitUnknown j = false) :
    ofJsonTyped τ j = ofJson j := by
  simp only [ofJsonTyped, ofJson, exprOfJsonTyped, hd, Bool.not_true, Bool.false_eq_true, if_false]
  rw [show 2 * j.size + 2 = (2 * j.size + 1) + 1 from rfl, typed_plain _ τ hτ j hu]

/-- beyond conforming values (entity types, any `ty`): the implicit `{type,id}` document and the explicit
    `{"__entity":{type,id}}` document parse, under any entity type, to the reference itself; the explicit one
    parses the same without a schema. -/
theorem typed_agrees_explicit_entity_partial (ty : EntityType) (u : EntityUID) (hv : validName u.ty = true) :
    ofJsonTyped (.entity ty) (uidJson u) = .ok (.prim (.entityUID u)) ∧
    ofJsonTyped (.entity ty) (CJ.ofPrim (.entityUID u)).toJson = .ok (.prim (.entityUID u)) ∧
    ofJson (CJ.ofPrim (.entityUID u)).toJson = .ok (.prim (.entityUID u)) := by
  have ht := fun m => typed_entity ty u m hv
  have hwf : WF (.prim (.entityUID u)) := by simpa [WF] using hv
  refine ⟨(ofJsonTyped_of_typed ?_ (ht _).1).2.trans rfl, (ofJsonTyped_of_typed ?_ (ht _).2).2.trans rfl, ?_⟩
  · simp [uidJson, noDupKeys, noDupKeysKVs, hasDup]
  · exact noDup_form _ none _ (.entExplicit none u) hwf
  · simp [ofJson, exprOfJson_prim _ hwf, bind, Except.bind]
    rfl

/-- beyond conforming values (extension types, single-argument constructors, any argument string): under the extension type
    `n` with constructor `f`, the bare string `s`, the implicit call `{fn: f, arg: s}` and the explicit escape
    `{"__extn": {fn: f, arg: s}}` all parse to the same result, which is also the schema-less parse of the
    explicit escape — for every string `s`, valid or not. -/
theorem typed_agrees_explicit_ext_partial (n f s : String) (hc : singleArgCtor n = some f) :
    let explicit : Json := .obj [("__extn", .obj [("fn", .str f), ("arg", .str s)])]
    ofJsonTyped (.ext n) (.str s) = ofJson explicit ∧
    ofJsonTyped (.ext n) (.obj [("fn", .str f), ("arg", .str s)]) = ofJson explicit ∧
    ofJsonTyped (.ext n) explicit = ofJson explicit := by
  intro explicit
  obtain ⟨hf, hv, _⟩ := singleArgCtor_facts hc
  have ht := fun m => typed_ext_single n f s m hc
  have hx : ofJson explicit = evalR (.call f [.lit (.string s)]) := by
    simp [ofJson, explicit, exprOfJson_call1 f s hv hf, bind, Except.bind]
  rw [hx]
  refine ⟨(ofJsonTyped_of_typed ?_ (ht _).1).2, (ofJsonTyped_of_typed ?_ (ht _).2.1).2,
    (ofJsonTyped_of_typed ?_ (ht _).2.2).2⟩ <;> simp [noDupKeys, noDupKeysKVs, hasDup]

/-- non-vacuity of the schema-directed route: implicit entity reference, bare-string decimal, implicit
    `offset` call with implicit arguments, inside a closed record type; same value as the explicit document -/
example :
    ofJsonTyped (.record [("d", true, .ext "decimal"), ("t", false, .ext "datetime"), ("u", true, .entity "User")] false)
      (.obj [("u", .obj [("type", .str "User"), ("id", .str "a")]), ("d", .str "1.5"),
             ("t", .obj [("fn", .str "offset"), ("args", .arr [.str "1970-01-01", .obj [("fn", .str "duration"), ("arg", .str "5ms")]])])])
    = .ok (.record [("d", .ext (.decimal 15000)), ("t", .ext (.datetime 5)), ("u", .prim (.entityUID ⟨"User", "a"⟩))]) :=
  ok_of_same (by decide +kernel)
example :
    ofJson (.obj [("u", .obj [("__entity", .obj [("type", .str "User"), ("id", .str "a")])]),
                  ("d", .obj [("__extn", .obj [("fn", .str "decimal"), ("arg", .str "1.5")])]),
                  ("t", .obj [("__extn", .obj [("fn", .str "offset"), ("args", .arr [
                      .obj [("__extn", .obj [("fn", .str "datetime"), ("arg", .str "1970-01-01")])],
                      .obj [("__extn", .obj [("fn", .str "duration"), ("arg", .str "5ms")])]])])])])
    = .ok (.record [("d", .ext (.decimal 15000)), ("t", .ext (.datetime 5)), ("u", .prim (.entityUID ⟨"User", "a"⟩))]) :=
  ok_of_same (by decide +kernel)
/-- an open record type drops the members it does not declare (the implementation does the same: `c10` stream,
    `open-record` cases) — the reason `typed_agrees_explicit` is about closed record types -/
example : ofJsonTyped (.record [] true) (.obj [("x", .int 1)]) = .ok (.record []) := by rfl
example : ofJsonTyped (.record [] false) (.obj [("x", .int 1)]) = .error .unexpectedAttr := by rfl

theorem noDup_uidJsons (us : List EntityUID) : noDupKeysList (us.map uidJson) = true := by
  induction us with
  | nil => rfl
  | cons u us ih => simp [noDupKeysList, uidJson, noDupKeys, noDupKeysKVs, hasDup, ih]

/-- what the round trip needs from an entity: valid type names, action entities only below action entities
    (`Entity::validate`), well-formed attribute and tag maps whose extension leaves round trip -/
structure EntityWF (uid : EntityUID) (d : EntityData) : Prop where
  uid_ok : validName uid.ty = true
  anc_ok : ∀ u, u ∈ d.ancestors → validName u.ty = true
  action_ok : isAction uid = true → ∀ u, u ∈ d.ancestors → isAction u = true
  attrs_wf : WFKVs d.attrs
  attrs_sorted : Sorted (d.attrs.map Prod.fst)
  attrs_ext : AllExtKVs ExtRoundTrip d.attrs
  tags_wf : WFKVs d.tags
  tags_sorted : Sorted (d.tags.map Prod.fst)
  tags_ext : AllExtKVs ExtRoundTrip d.tags

/-- **entity_roundtrip**: a serialised entity parses back (without schema) to the same uid, to attribute and
    tag maps with the same keys and equal values, and to a parent list that is exactly the ancestor list that was
    written. -/
theorem entity_roundtrip (uid : EntityUID) (d : EntityData) (j : Json) (hwf : EntityWF uid d)
    (h : entityToJson uid d = .ok j) :
    ∃ d', entityOfJson j = .ok (uid, d') ∧ d'.ancestors = d.ancestors ∧ BeqKVs d.attrs d'.attrs ∧ BeqKVs d.tags d'.tags := by
  unfold entityToJson at h
  split at h
  · rename_i as ts has hts
    cases h
    obtain ⟨es, avs, a1, a2, a3, a4, a5⟩ := kvs_roundtrip d.attrs as hwf.attrs_wf hwf.attrs_sorted hwf.attrs_ext has
    obtain ⟨ets, tvs, t1, t2, t3, t4, t5⟩ := kvs_roundtrip d.tags ts hwf.tags_wf hwf.tags_sorted hwf.tags_ext hts
    have hp := parents_roundtrip uid d.ancestors hwf.anc_ok hwf.action_ok
    have hu := uidOfJson_uidJson uid hwf.uid_ok
    have hnd := noDup_uidJsons d.ancestors
    have hp' := hp
    unfold parentStep at hp'
    simp [bind, Except.bind] at hp'
    have hs0 : sortKVs ([] : List (String × Json)) = [] := rfl
    refine ⟨{ attrs := avs, ancestors := d.ancestors, tags := tvs }, ?_, rfl, a3, t3⟩
    cases hemp : ts.isEmpty with
    | true =>
      have hts0 : ts = [] := by cases ts <;> simp_all
      subst hts0
      simp only [CJ.toJsonKVs, hs0] at t1
      simp [entityOfJson, lookupKV, uidJson, noDupKeys, noDupKeysKVs, hasDup, a4, a5, hnd, hu, a1, t1, hp', a2, t2, hs0, bind,
        Except.bind] at hu ⊢
    | false =>
      simp [entityOfJson, lookupKV, uidJson, noDupKeys, noDupKeysKVs, hasDup, a4, a5, t4, t5, hnd, hu, a1, t1, hp', a2, t2, bind,
        Except.bind] at hu ⊢
  · cases h
  · cases h

/-- non-vacuity: an entity with an attribute *named* like an escape, a tag and two ancestors -/
def sampleEntity : EntityData where
  attrs := [("__entity", .prim (.entityUID ⟨"Group", "g"⟩))]
  ancestors := [⟨"Group", "g"⟩, ⟨"Group", "h"⟩]
  tags := [("k", .ext (.duration 5))]

example : ∃ j d', entityToJson ⟨"User", "a"⟩ sampleEntity = .ok j ∧
    entityOfJson j = .ok (⟨"User", "a"⟩, d') ∧ d'.ancestors = [⟨"Group", "g"⟩, ⟨"Group", "h"⟩] :=
  ⟨_, _, rfl, rfl, rfl⟩

/-- **store_roundtrip**: a store is serialised and parsed entity by entity; with every entity well formed the
    parsed store has the same uids in the same order, equal attribute / tag values, and parent lists equal to the
    ancestor lists written (transitive closure of an already closed relation adds nothing: C04). Schema-based
    loading (`Entities::from_entities(.., Some schema)`) appends `schema.action_entities()` to this list and nothing
    else — checked on the implementation by the `c10` stream. -/
theorem store_roundtrip : ∀ (es : Entities) (j : Json), (∀ p, p ∈ es → EntityWF p.1 p.2) → storeToJson es = .ok j →
    ∃ es', storeOfJson j = .ok es' ∧
      Rel2 (fun (p q : EntityUID × EntityData) => p.1 = q.1 ∧ q.2.ancestors = p.2.ancestors ∧
        BeqKVs p.2.attrs q.2.attrs ∧ BeqKVs p.2.tags q.2.tags) es es' := by
  intro es
  induction es with
  | nil =>
    intro j _ h
    simp [storeToJson, mapE, bind, Except.bind] at h
    subst h
    exact ⟨[], rfl, .nil⟩
  | cons p es ih =>
    intro j hwf h
    simp only [storeToJson, mapE, bind_ok] at h
    obtain ⟨js, ⟨j1, hj1, js', hjs', hh⟩, hj⟩ := h
    cases hh
    cases hj
    obtain ⟨d', hd', r1, r2, r3⟩ := entity_roundtrip p.1 p.2 j1 (hwf p (List.mem_cons_self ..)) hj1
    obtain ⟨es', hes', hrel⟩ := ih (.arr js') (fun q hq => hwf q (List.mem_cons_of_mem _ hq))
      (by simp [storeToJson, hjs', bind, Except.bind])
    simp only [storeOfJson] at hes'
    exact ⟨(p.1, d') :: es', by simp [storeOfJson, mapE, hd', hes', bind, Except.bind], .cons ⟨rfl, r1, r2, r3⟩ hrel⟩

end Cedar.C10
