import CedarVerif.Lemmas.ManifestEval
import CedarVerif.Lemmas.ManifestWF
import CedarVerif.Lemmas.TypecheckModes
import CedarVerif.Lemmas.Data
/-
Record and set literals and whole-value requests, over key-sorted records.
* `VRel es es' req P v v'`: the value pair `(v, v')` (full store, slice) is what the wrapped access paths `P` denote —
  the extension of `PCover` to `WrappedAccessPaths::RecordLiteral` / `SetLiteral` (analysis.rs): a record literal denotes
  a record whose fields are denoted by the fields' paths, a set literal a set whose elements are denoted by the union of
  the elements' paths.  Unlike `Trim`, the relation lets the elements of a set BUILT BY A LITERAL differ (records reached
  through the literal may have been trimmed by the slice).
* `full_eq`: WHERE THE ANALYSIS REQUESTS THE FULL TYPE (`full_type_required`: operands of `== in contains containsAll
  containsAny`, `isEmpty`), a store covering the requested trie holds the WHOLE value: `v' = v`.  Needs: the value has the
  annotated type (`InstanceOfType`, from type soundness), the type is closed with distinct attribute names (`cn`: every
  type strict typing produces), and record values are key-sorted (`RSorted`: Rust values are `BTreeMap`s) — two stores
  can hold the same fields in a different order and `Value.beq` on records is positional.
-/
namespace Cedar.Manifest
open Cedar Cedar.C03

/-- strictly increasing keys (a `BTreeMap` in iteration order) -/
def KSorted : List (String × Value) → Prop
  | [] => True
  | (k, _) :: rest => (∀ p, p ∈ rest → k < p.1) ∧ KSorted rest

-- records are key-sorted, recursively through records (not inside sets: slicing keeps sets whole)
mutual
def RSorted : Value → Prop
  | .record kvs => KSorted kvs ∧ RSortedKVs kvs
  | _ => True
def RSortedKVs : List (String × Value) → Prop
  | [] => True
  | (_, v) :: rest => RSorted v ∧ RSortedKVs rest
end

/-- every attribute record of the store is key-sorted (an `Entity`'s attributes are a `BTreeMap` of `Value`s) -/
def SortedStore (es : Entities) : Prop := ∀ u d, es.find? u = some d → KSorted d.attrs ∧ RSortedKVs d.attrs

def SortedReq (req : Request) : Prop := KSorted req.context ∧ RSortedKVs req.context

theorem rsortedKVs_iff (kvs : List (String × Value)) : RSortedKVs kvs ↔ ∀ k v, (k, v) ∈ kvs → RSorted v :=
  forall_mem_of_eqns (S := RSortedKVs) trivial (fun _ _ _ => Iff.rfl) kvs

theorem rsortedKVs_mem : ∀ {kvs : List (String × Value)}, RSortedKVs kvs → ∀ p, p ∈ kvs → RSorted p.2 :=
  fun h p hp => (rsortedKVs_iff _).1 h p.1 p.2 hp

theorem rsortedKVs_of_mem : ∀ {kvs : List (String × Value)}, (∀ p, p ∈ kvs → RSorted p.2) → RSortedKVs kvs :=
  fun h => (rsortedKVs_iff _).2 fun k v hm => h (k, v) hm

theorem rsorted_lookup {kvs : List (String × Value)} (h : RSortedKVs kvs) {k : String} {v : Value}
    (hl : lookupKV kvs k = some v) : RSorted v :=
  rsortedKVs_mem h (k, v) (lookupKV_mem hl)

theorem lookupKV_none_of_lt (kvs : List (String × Value)) (k : String) (h : ∀ p, p ∈ kvs → k < p.1) : lookupKV kvs k = none :=
  lookupKV_none_iff.2 fun hm => let ⟨p, hp, e⟩ := List.mem_map.1 hm; String.lt_irrefl _ (e ▸ h p hp)

theorem ksorted_ext : ∀ (l1 l2 : List (String × Value)), KSorted l1 → KSorted l2 →
    (∀ k, lookupKV l1 k = lookupKV l2 k) → l1 = l2
  | [], [], _, _, _ => rfl
  | [], (k, v) :: t, _, _, h => by have := h k; simp [lookupKV] at this
  | (k, v) :: t, [], _, _, h => by have := h k; simp [lookupKV] at this
  | (k1, v1) :: t1, (k2, v2) :: t2, h1, h2, h => by
    simp only [KSorted] at h1 h2
    by_cases e : k1 = k2
    · subst e
      have hv := h k1
      simp only [lookupKV_cons_self, Option.some.injEq] at hv
      subst hv
      have ht : t1 = t2 := by
        apply ksorted_ext t1 t2 h1.2 h2.2
        intro k
        by_cases ek : k1 = k
        · subst ek
          rw [lookupKV_none_of_lt t1 k1 h1.1, lookupKV_none_of_lt t2 k1 h2.1]
        · have hk := h k
          have : (k1 == k) = false := by simpa using ek
          simpa [lookupKV, this] using hk
      rw [ht]
    · exfalso
      rcases Classical.em (k1 < k2) with hlt | hlt
      · -- k1 is not a key of l2
        have hk := h k1
        have hn : lookupKV ((k2, v2) :: t2) k1 = none := by
          apply lookupKV_none_of_lt
          intro p hp
          simp only [List.mem_cons] at hp
          rcases hp with rfl | hp
          · exact hlt
          · exact String.lt_trans hlt (h2.1 p hp)
        rw [hn, lookupKV_cons_self] at hk
        cases hk
      · have hlt := ((Std.lt_trichotomy k1 k2).resolve_left hlt).resolve_left e
        have hk := h k2
        have hn : lookupKV ((k1, v1) :: t1) k2 = none := by
          apply lookupKV_none_of_lt
          intro p hp
          simp only [List.mem_cons] at hp
          rcases hp with rfl | hp
          · exact hlt
          · exact String.lt_trans hlt (h1.1 p hp)
        rw [hn, lookupKV_cons_self] at hk
        cases hk

theorem mem_insertKV' {α} (k : String) (v : α) (l : List (String × α)) (x : String × α) (h : x ∈ insertKV k v l) :
    x = (k, v) ∨ x ∈ l := mem_insertKV h

theorem ksorted_iff : ∀ (l : List (String × Value)), KSorted l ↔ CJson.Sorted (l.map Prod.fst)
  | [] => Iff.rfl
  | (k, v) :: rest => by
    simp only [KSorted, List.map_cons, CJson.Sorted, ksorted_iff rest]
    exact and_congr_left' ⟨fun h k' hk' => by obtain ⟨p, hp, rfl⟩ := List.mem_map.1 hk'; exact h p hp,
      fun h p hp => h p.1 (List.mem_map_of_mem hp)⟩

theorem ksorted_insertKV (k : String) (v : Value) (l : List (String × Value)) (h : KSorted l) : KSorted (insertKV k v l) :=
  (ksorted_iff _).2 (insertKV_sorted k v l ((ksorted_iff l).1 h))

theorem ksorted_foldl (vs acc : List (String × Value)) (h : KSorted acc) :
    KSorted (vs.foldl (fun acc kv => insertKV kv.1 kv.2 acc) acc) :=
  (ksorted_iff _).2 (foldl_insertKV_keys_sorted vs acc ((ksorted_iff acc).1 h))

mutual
def VRel (es es' : Entities) (req : Request) : WPaths → Value → Value → Prop
  | .path root fs, v, v' =>
    walk es (rootVal req root) fs = some v ∧ walk es' (rootVal req root) fs = some v' ∧ Trim v' v
  | .union a b, v, v' => VRel es es' req a v v' ∨ VRel es es' req b v v'
  | .empty, v, v' => Scalar v ∧ v' = v
  | .record pkvs, v, v' =>
    ∃ kvs kvs', v = .record kvs ∧ v' = .record kvs' ∧ KSorted kvs ∧ KSorted kvs' ∧
      (∀ k, lookupW pkvs k = none → lookupKV kvs k = none ∧ lookupKV kvs' k = none) ∧ VRelF es es' req pkvs kvs kvs'
  | .set p, v, v' =>
    ∃ ws ws', v = .set (Value.mkSet ws) ∧ v' = .set (Value.mkSet ws') ∧ ws.length = ws'.length ∧
      ∀ (i : Nat) (h : i < ws.length) (h' : i < ws'.length), VRel es es' req p ws[i] ws'[i]
def VRelF (es es' : Entities) (req : Request) : List (String × WPaths) → List (String × Value) → List (String × Value) → Prop
  | [], _, _ => True
  | (k, p) :: rest, kvs, kvs' =>
    (∃ w w', lookupKV kvs k = some w ∧ lookupKV kvs' k = some w' ∧ VRel es es' req p w w') ∧ VRelF es es' req rest kvs kvs'
end

def RelL (es es' : Entities) (req : Request) (P : WPaths) : Result Value → Result Value → Prop :=
  ResRel (VRel es es' req P)

theorem lookupW_eq : ∀ (ps : List (String × WPaths)) (k : String), lookupW ps k = lookupKV ps k
  | [], _ => rfl
  | (k0, p0) :: rest, k => by simp only [lookupW, lookupKV, lookupW_eq rest k]

section rel
variable {es es' : Entities} {req : Request}

theorem vrelF_iff (pkvs : List (String × WPaths)) (kvs kvs' : List (String × Value)) :
    VRelF es es' req pkvs kvs kvs' ↔ ∀ k p, (k, p) ∈ pkvs →
      ∃ w w', lookupKV kvs k = some w ∧ lookupKV kvs' k = some w' ∧ VRel es es' req p w w' :=
  forall_mem_of_eqns (S := fun l => VRelF es es' req l kvs kvs') trivial (fun _ _ _ => Iff.rfl) pkvs

theorem vrelF_lookup (pkvs : List (String × WPaths)) (kvs kvs' : List (String × Value)) (k : String) (p : WPaths)
    (hr : VRelF es es' req pkvs kvs kvs') (h : lookupW pkvs k = some p) :
    ∃ w w', lookupKV kvs k = some w ∧ lookupKV kvs' k = some w' ∧ VRel es es' req p w w' :=
  (vrelF_iff pkvs kvs kvs').1 hr k p (lookupKV_mem ((lookupW_eq pkvs k).symm.trans h))

theorem vrel_shape : ∀ (P : WPaths) (v v' : Value), VRel es es' req P v v' →
    v' = v ∨ (∃ a b, v = .record a ∧ v' = .record b) ∨ (∃ a b, v = .set a ∧ v' = .set b)
  | .path root fs, v, v', h => (trim_shape h.2.2).imp id Or.inl
  | .union a b, v, v', h => by
    rcases h with h | h
    · exact vrel_shape a v v' h
    · exact vrel_shape b v v' h
  | .empty, v, v', h => Or.inl h.2
  | .record pkvs, v, v', h => by
    obtain ⟨kvs, kvs', e1, e2, _⟩ := h
    exact Or.inr (Or.inl ⟨kvs, kvs', e1, e2⟩)
  | .set p, v, v', h => by
    obtain ⟨ws, ws', e1, e2, _⟩ := h
    exact Or.inr (Or.inr ⟨_, _, e1, e2⟩)

theorem vrel_scalar {P : WPaths} {v v' : Value} (h : VRel es es' req P v v') (hs : Scalar v) : v' = v := by
  rcases vrel_shape P v v' h with e | ⟨a, b, e, _⟩ | ⟨a, b, e, _⟩
  · exact e
  · subst e; simp [Scalar] at hs
  · subst e; simp [Scalar] at hs

theorem vrel_prim {P : WPaths} {p : Prim} {v' : Value} (h : VRel es es' req P (.prim p) v') : v' = .prim p := by
  rcases vrel_shape P _ v' h with e | ⟨a, b, e, _⟩ | ⟨a, b, e, _⟩
  · exact e
  · cases e
  · cases e

theorem vrel_asBool {P : WPaths} {v v' : Value} (h : VRel es es' req P v v') : v'.asBool = v.asBool := by
  rcases vrel_shape P v v' h with rfl | ⟨_, _, rfl, rfl⟩ | ⟨_, _, rfl, rfl⟩ <;> rfl
theorem vrel_asInt {P : WPaths} {v v' : Value} (h : VRel es es' req P v v') : v'.asInt = v.asInt := by
  rcases vrel_shape P v v' h with rfl | ⟨_, _, rfl, rfl⟩ | ⟨_, _, rfl, rfl⟩ <;> rfl
theorem vrel_asString {P : WPaths} {v v' : Value} (h : VRel es es' req P v v') : v'.asString = v.asString := by
  rcases vrel_shape P v v' h with rfl | ⟨_, _, rfl, rfl⟩ | ⟨_, _, rfl, rfl⟩ <;> rfl
theorem vrel_asEntity {P : WPaths} {v v' : Value} (h : VRel es es' req P v v') : v'.asEntity = v.asEntity := by
  rcases vrel_shape P v v' h with rfl | ⟨_, _, rfl, rfl⟩ | ⟨_, _, rfl, rfl⟩ <;> rfl

theorem pcover_of_vrel_entity (u : EntityUID) : ∀ (P : WPaths) (v' : Value), VRel es es' req P (.prim (.entityUID u)) v' →
    PCover es es' req P (.prim (.entityUID u)) (.prim (.entityUID u))
  | .path root fs, v', h => by
    have e := trim_prim h.2.2
    subst e
    exact ⟨h.1, h.2.1⟩
  | .union a b, v', h => by
    rcases h with h | h
    · exact Or.inl (pcover_of_vrel_entity u a v' h)
    · exact Or.inr (pcover_of_vrel_entity u b v' h)
  | .empty, v', h => by simp only [VRel, Scalar] at h; exact h.1.elim
  | .record pkvs, v', h => by obtain ⟨kvs, kvs', e1, _⟩ := h; cases e1
  | .set p, v', h => by obtain ⟨ws, ws', e1, _⟩ := h; cases e1

end rel

theorem beqKVs_mem : ∀ (as bs : List (String × Value)), Value.beqKVs as bs = true →
    (∀ k b, (k, b) ∈ bs → ∃ a, (k, a) ∈ as ∧ Value.beq a b = true) ∧ (∀ k a, (k, a) ∈ as → ∃ b, (k, b) ∈ bs)
  | [], [], _ => by simp
  | [], _ :: _, h => by simp [Value.beqKVs] at h
  | _ :: _, [], h => by simp [Value.beqKVs] at h
  | (k1, a1) :: as, (k2, b2) :: bs, h => by
    rw [Value.beqKVs] at h
    simp only [Bool.and_eq_true, beq_iff_eq] at h
    obtain ⟨⟨e, hb⟩, hr⟩ := h
    subst e
    obtain ⟨ih1, ih2⟩ := beqKVs_mem as bs hr
    constructor
    · intro k b hm
      simp only [List.mem_cons, Prod.mk.injEq] at hm
      rcases hm with ⟨rfl, rfl⟩ | hm
      · exact ⟨a1, by simp, hb⟩
      · obtain ⟨a, ha, hab⟩ := ih1 k b hm
        exact ⟨a, by simp [ha], hab⟩
    · intro k a hm
      simp only [List.mem_cons, Prod.mk.injEq] at hm
      rcases hm with ⟨rfl, rfl⟩ | hm
      · exact ⟨b2, by simp⟩
      · obtain ⟨b, hb'⟩ := ih2 k a hm
        exact ⟨b, by simp [hb']⟩

theorem beq_ext {x : Ext} {w : Value} (h : Value.beq (.ext x) w = true) : w = .ext x := by
  cases w with
  | ext y => simp only [Value.beq, beq_iff_eq] at h; rw [h]
  | _ => simp [Value.beq] at h

theorem instOf_beq {v : Value} {t : CedarType} (hi : InstanceOfType v t) : ∀ w, Value.beq v w = true → InstanceOfType w t := by
  induction hi with
  | anyBool b => intro w h; rw [Value.beq_prim_eq h]; exact .anyBool b
  | tt => intro w h; rw [Value.beq_prim_eq h]; exact .tt
  | ff => intro w h; rw [Value.beq_prim_eq h]; exact .ff
  | long i => intro w h; rw [Value.beq_prim_eq h]; exact .long i
  | string s => intro w h; rw [Value.beq_prim_eq h]; exact .string s
  | entity u lub hm => intro w h; rw [Value.beq_prim_eq h]; exact .entity u lub hm
  | anyEntity u => intro w h; rw [Value.beq_prim_eq h]; exact .anyEntity u
  | ext x => intro w h; rw [beq_ext h]; exact .ext x
  | anySet vs => intro w h; cases w with
    | set us => exact .anySet us
    | _ => simp [Value.beq] at h
  | set vs t _ ih =>
    intro w h
    cases w with
    | set us =>
      rw [Value.beq] at h
      simp only [Bool.and_eq_true, Value.subset_iff] at h
      refine .set us t ?_
      intro u hu
      obtain ⟨v, hv, hb⟩ := (Value.elem_iff u vs).1 (h.2 u hu)
      exact ih v hv u ((Value.beq_comm v u).trans hb)
    | _ => simp [Value.beq] at h
  | record kvs attrs o _ h2 h3 ih =>
    intro w h
    cases w with
    | record kvs2 =>
      rw [Value.beq] at h
      obtain ⟨m1, m2⟩ := beqKVs_mem kvs kvs2 h
      refine .record kvs2 attrs o ?_ ?_ ?_
      · intro k v2 hm r t hf
        obtain ⟨v, hv, hb⟩ := m1 k v2 hm
        exact ih k v hv r t hf v2 hb
      · intro k v2 hm hf
        obtain ⟨v, hv, _⟩ := m1 k v2 hm
        exact h2 k v hv hf
      · intro k t hm
        obtain ⟨v, hv⟩ := h3 k t hm
        exact m2 k v hv
    | _ => simp [Value.beq] at h

theorem full_cover_eq {es es' : Entities} {req : Request} {v : Value} {ty : CedarType} (hi : InstanceOfType v ty) :
    ∀ v', cn ty = true → CoverV es es' req (typeToAccessTrie ty) v v' → Trim v' v → RSorted v → RSorted v' → v' = v := by
  induction hi with
  | record kvs attrs o _ h2 _ ih =>
    intro v' hcn hc ht hs hs'
    simp only [cn, Bool.and_eq_true, Bool.not_eq_true', decide_eq_true_eq] at hcn
    obtain ⟨⟨ho, hca⟩, _⟩ := hcn
    obtain ⟨kvs', e, hk⟩ := trim_record_inv ht
    subst e
    simp only [typeToAccessTrie, CoverV] at hc
    obtain ⟨kvs2, e2, hf⟩ := hc
    cases e2
    simp only [RSorted] at hs hs'
    congr 1
    apply ksorted_ext _ _ hs'.1 hs.1
    intro k
    cases hl : lookupKV kvs k with
    | none =>
      cases hl' : lookupKV kvs' k with
      | none => rfl
      | some w' =>
        obtain ⟨w, h1, _⟩ := trimKVs_lookup kvs' kvs k w' hk hl'
        rw [hl] at h1; cases h1
    | some w =>
      have hm := lookupKV_mem hl
      cases hfind : Attrs.find? attrs k with
      | none => have := h2 k w hm hfind; rw [ho] at this; cases this
      | some qt =>
        obtain ⟨r, t⟩ := qt
        have hlf : lookupField (attrsToFields attrs) k = some (typeToAccessTrie t) := by
          rw [lookupField_attrsToFields, hfind]; rfl
        obtain ⟨w', h1, h2'⟩ := (coverF_iff _ kvs kvs').1 hf k _ (fieldsMap.mem_of_look hlf) w hl
        obtain ⟨w0, h3, h4⟩ := trimKVs_lookup kvs' kvs k w' hk h1
        rw [hl] at h3; cases h3
        have hct : cn t = true := cnAttrs_iff.1 hca k r t (find_mem hfind)
        have := ih k w hm r t hfind w' hct h2' h4 (rsorted_lookup hs.2 hl) (rsorted_lookup hs'.2 h1)
        rw [h1, this]
  | anyBool b => intro v' _ _ ht _ _; exact trim_prim ht
  | tt => intro v' _ _ ht _ _; exact trim_prim ht
  | ff => intro v' _ _ ht _ _; exact trim_prim ht
  | long i => intro v' _ _ ht _ _; exact trim_prim ht
  | string s => intro v' _ _ ht _ _; exact trim_prim ht
  | entity u lub hm => intro v' _ _ ht _ _; exact trim_prim ht
  | anyEntity u => intro v' _ _ ht _ _; exact trim_prim ht
  | ext x => intro v' _ _ ht _ _; exact trim_nonrecord ht (by intro kvs; simp)
  | anySet vs => intro v' _ _ ht _ _; exact trim_nonrecord ht (by intro kvs; simp)
  | set vs t _ _ => intro v' _ _ ht _ _; exact trim_nonrecord ht (by intro kvs; simp)

theorem find_fullTypeFns : ∀ (pkvs : List (String × WPaths)) (k : String) (kf : String × (CedarType → M RootAccessTrie)),
    (fullTypeFns pkvs).find? (fun kf => kf.1 == k) = some kf →
    ∃ p, lookupW pkvs k = some p ∧ kf.2 = WPaths.fullTypeRequired p
  | [], _, _, h => by simp [fullTypeFns] at h
  | (k0, p0) :: rest, k, kf, h => by
    simp only [fullTypeFns, List.find?] at h
    simp only [lookupW]
    by_cases e : (k0 == k) = true
    · simp only [e, Option.some.injEq] at h
      subst h
      exact ⟨p0, by simp [e], rfl⟩
    · have e' : (k0 == k) = false := by simpa using e
      simp only [e'] at h
      simp only [e', Bool.false_eq_true, if_false]
      exact find_fullTypeFns rest k kf h

theorem fullTypeRecord_cover {es es' : Entities} {req : Request} (fns : List (String × (CedarType → M RootAccessTrie))) :
    ∀ (attrs : List (String × Bool × CedarType)) (t : RootAccessTrie), fullTypeRecord fns attrs = .ok t →
    CoverRoots es es' req t → ∀ k r ty, (k, r, ty) ∈ attrs →
    ∃ kf rk, fns.find? (fun kf => kf.1 == k) = some kf ∧ kf.2 ty = .ok rk ∧ CoverRoots es es' req rk
  | [], _, _, _, _, _, _, hm => by cases hm
  | (k0, r0, t0) :: rest, t, h, hc, k, r, ty, hm => by
    simp only [fullTypeRecord] at h
    cases hf : fns.find? (fun kf => kf.1 == k0) with
    | none => simp [hf] at h
    | some kf =>
      simp only [hf] at h
      obtain ⟨r1, h1, h⟩ := ok_of_match_roots h
      obtain ⟨rs, h2, h⟩ := ok_of_match_roots h
      cases h
      obtain ⟨c1, c2⟩ := coverRoots_union es es' req rs r1 hc
      simp only [List.mem_cons, Prod.mk.injEq] at hm
      rcases hm with ⟨rfl, rfl, rfl⟩ | hm
      · exact ⟨kf, r1, hf, h1, c1⟩
      · exact fullTypeRecord_cover fns rest rs h2 c2 k r ty hm

mutual
theorem trim_refl_sorted : ∀ (v : Value), RSorted v → Trim v v
  | .prim p, _ => by simp [Trim]
  | .set s, _ => by simp [Trim]
  | .ext x, _ => by simp [Trim]
  | .record kvs, h => by
    simp only [RSorted] at h
    simp only [Trim]
    exact ⟨kvs, rfl, trimKVs_of_lookup _ _ (fun k w' hm => by
      obtain ⟨h1, h2⟩ := trim_refl_sortedKVs kvs h.1 h.2 (k, w') hm
      exact ⟨w', h2, h1⟩)⟩
theorem trim_refl_sortedKVs : ∀ (kvs : List (String × Value)), KSorted kvs → RSortedKVs kvs →
    ∀ p, p ∈ kvs → Trim p.2 p.2 ∧ lookupKV kvs p.1 = some p.2
  | [], _, _, p, hp => by cases hp
  | (k0, v0) :: tl, hk, hr, p, hp => by
    simp only [KSorted] at hk
    simp only [RSortedKVs] at hr
    simp only [List.mem_cons] at hp
    rcases hp with rfl | hp
    · exact ⟨trim_refl_sorted v0 hr.1, lookupKV_cons_self ..⟩
    · obtain ⟨h1, h2⟩ := trim_refl_sortedKVs tl hk.2 hr.2 p hp
      refine ⟨h1, ?_⟩
      rw [lookupKV_cons_ne k0 p.1 _ _ fun e => String.lt_irrefl _ (e ▸ hk.1 p hp)]
      exact h2
end

section full
variable {es es' : Entities} {req : Request}

theorem rsorted_step {es : Entities} (hst : SortedStore es) {v w : Value} {a : String} (hv : RSorted v)
    (h : stepV es v a = some w) : RSorted w := by
  rcases stepV_some h with ⟨kvs, rfl, hl⟩ | ⟨u, d, rfl, hf, hl⟩
  · exact rsorted_lookup hv.2 hl
  · exact rsorted_lookup (hst u d hf).2 hl

theorem rsorted_walk {es : Entities} (hst : SortedStore es) : ∀ (fs : List String) (v0 v : Value), RSorted v0 →
    walk es v0 fs = some v → RSorted v
  | [], v0, v, h0, h => by simp only [walk, Option.some.injEq] at h; subst h; exact h0
  | f :: fs, v0, v, h0, h => by
    simp only [walk] at h
    cases hs : stepV es v0 f with
    | none => simp [hs] at h
    | some w => simp only [hs] at h; exact rsorted_walk hst fs w v (rsorted_step hst h0 hs) h

theorem rsorted_rootVal (hreq : SortedReq req) (root : EntityRoot) : RSorted (rootVal req root) := by
  cases root with
  | literal u => simp [rootVal, RSorted]
  | var x => cases x <;> first | exact hreq | simp [rootVal, RSorted]

theorem ctxWF_of_sorted (hreq : SortedReq req) : CtxWF req := trim_refl_sorted (.record req.context) hreq

variable (hsub : SubStore es es') (hst : SortedStore es) (hst' : SortedStore es') (hreq : SortedReq req)
include hsub hst hst' hreq

set_option linter.unusedSectionVars false in
mutual
theorem full_eq : ∀ (P : WPaths) (ty : CedarType) (t : RootAccessTrie) (v v' : Value), cn ty = true →
    P.fullTypeRequired ty = .ok t → CoverRoots es es' req t → VRel es es' req P v v' → InstanceOfType v ty → v' = v
  | .path root fs, ty, t, v, v', hcn, hf, hc, hr, hi => by
    simp only [WPaths.fullTypeRequired, Except.ok.injEq] at hf
    subst hf
    obtain ⟨h1, h2, ht⟩ := hr
    have hctx := ctxWF_of_sorted hreq
    have hs : RSorted v := rsorted_walk hst fs _ v (rsorted_rootVal hreq root) h1
    have hs' : RSorted v' := rsorted_walk hst' fs _ v' (rsorted_rootVal hreq root) h2
    by_cases hnew : (pathTrie fs (typeToAccessTrie ty)).isNew = true
    · cases fs with
      | nil =>
        simp only [walk, Option.some.injEq] at h1 h2
        rw [← h1, ← h2]
      | cons f fs => simp [pathTrie, AccessTrie.isNew] at hnew
    · simp only [toRootTrieWithLeaf, hnew, Bool.false_eq_true, if_false, CoverRoots] at hc
      obtain ⟨hleaf, _⟩ := cover_walk_leaf hsub (typeToAccessTrie ty) fs _ _ v v' hc.1 (trim_rootVal hctx root) h1 h2
      exact full_cover_eq hi v' hcn hleaf ht hs hs'
  | .union a b, ty, t, v, v', hcn, hf, hc, hr, hi => by
    simp only [WPaths.fullTypeRequired] at hf
    obtain ⟨ra, h1, hf⟩ := ok_of_match_roots hf
    obtain ⟨rb, h2, hf⟩ := ok_of_match_roots hf
    cases hf
    obtain ⟨c1, c2⟩ := coverRoots_union es es' req rb ra hc
    rcases hr with hr | hr
    · exact full_eq a ty ra v v' hcn h1 c1 hr hi
    · exact full_eq b ty rb v v' hcn h2 c2 hr hi
  | .empty, _, _, v, v', _, _, _, hr, _ => hr.2
  | .set p, ty, t, v, v', hcn, hf, hc, hr, hi => by
    obtain ⟨ws, ws', e1, e2, hlen, hall⟩ := hr
    subst e1; subst e2
    cases ty with
    | set oe =>
      cases oe with
      | none => simp [WPaths.fullTypeRequired] at hf
      | some ety =>
        simp only [WPaths.fullTypeRequired] at hf
        simp only [cn] at hcn
        cases hi with
        | set _ _ hel =>
          have hty : ∀ w, w ∈ ws → InstanceOfType w ety := by
            intro w hw
            obtain ⟨x, hx, hb⟩ := mkSet_rep ws w hw
            exact instOf_beq (hel x hx) w ((Value.beq_comm x w).trans hb)
          have : ws' = ws := by
            apply List.ext_getElem hlen.symm
            intro i h2 h1
            exact full_eq p ety t ws[i] ws'[i] hcn hf hc (hall i h1 h2) (hty _ (List.getElem_mem h1))
          rw [this]
    | _ => simp [WPaths.fullTypeRequired] at hf
  | .record pkvs, ty, t, v, v', hcn, hf, hc, hr, hi => by
    obtain ⟨kvs, kvs', e1, e2, hs, hs', hnone, hF⟩ := hr
    subst e1; subst e2
    cases ty with
    | record attrs o =>
      simp only [WPaths.fullTypeRequired] at hf
      simp only [cn, Bool.and_eq_true, Bool.not_eq_true', decide_eq_true_eq] at hcn
      obtain ⟨⟨ho, hca⟩, _⟩ := hcn
      cases hi with
      | record _ _ _ g1 g2 _ =>
        congr 1
        apply ksorted_ext _ _ hs' hs
        intro k
        cases hw : lookupW pkvs k with
        | none => rw [(hnone k hw).1, (hnone k hw).2]
        | some p =>
          obtain ⟨w, w', l1, l2, hrel⟩ := vrelF_lookup pkvs kvs kvs' k p hF hw
          have hm := lookupKV_mem l1
          cases hfind : Attrs.find? attrs k with
          | none => have := g2 k w hm hfind; rw [ho] at this; cases this
          | some qt =>
            obtain ⟨r, tk⟩ := qt
            have hmem := find_mem hfind
            obtain ⟨kf, rk, hkf, hrk, hck⟩ := fullTypeRecord_cover (fullTypeFns pkvs) attrs t hf hc k r tk hmem
            obtain ⟨p2, hp2, hkf2⟩ := find_fullTypeFns pkvs k kf hkf
            rw [hw] at hp2; cases hp2
            rw [hkf2] at hrk
            have := full_eqF pkvs k p hw tk rk w w' (cnAttrs_iff.1 hca k r tk hmem) hrk hck hrel (g1 k w hm r tk hfind)
            rw [l1, l2, this]
    | _ => simp [WPaths.fullTypeRequired] at hf
/-- `full_eq` at the entry of `pkvs` under `k`, by recursion on the list so that the block stays structurally recursive -/
theorem full_eqF : ∀ (pkvs : List (String × WPaths)) (k : String) (p : WPaths), lookupW pkvs k = some p →
    ∀ (ty : CedarType) (t : RootAccessTrie) (v v' : Value), cn ty = true →
    p.fullTypeRequired ty = .ok t → CoverRoots es es' req t → VRel es es' req p v v' → InstanceOfType v ty → v' = v
  | [], _, _, h => by simp [lookupW] at h
  | (k0, p0) :: rest, k, p, h => by
    simp only [lookupW] at h
    by_cases e : (k0 == k) = true
    · simp only [e, if_true, Option.some.injEq] at h
      subst h
      exact full_eq p0
    · simp only [e] at h
      exact full_eqF rest k p h
end

end full

end Cedar.Manifest
