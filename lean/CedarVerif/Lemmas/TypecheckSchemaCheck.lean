import CedarVerif.Lemmas.TypecheckSIP
/-
C03: the premises on a schema (`SchemaWF2`, `SchemaWF3`) and the presence of the action entities, as Boolean tests with
their soundness.  The tests run over the two tables of the schema: every premise is "each entry passes a test" or "the keys
are distinct".  The soundness theorems are about any schema; the kernel evaluates a test only on the closed samples of the
Thm files, whose premises are thereby established by evaluation.
-/
namespace Cedar.C03

open Cedar

def schemaWF2B (s : Schema) : Bool :=
  s.ets.all (fun p => monoAttrs p.2.attrs && p.2.tags.all CedarType.mono && !isActionType p.1) &&
  decide (s.ets.map (·.1)).Nodup &&
  s.acts.all (fun p => p.2.context.mono && p.2.attrs.isEmpty && isActionType p.1.ty &&
    p.2.ancestors.all (fun q => (s.action? q).any (fun b => b.descendants.contains p.1)) &&
    p.2.descendants.all (fun d => (s.action? d).any (fun b => b.ancestors.contains p.1)))

theorem schemaWF2_of_check {s : Schema} (h : schemaWF2B s = true) : SchemaWF2 s := by
  simp only [schemaWF2B, Bool.and_eq_true, decide_eq_true_eq] at h
  obtain ⟨⟨hets, hnd⟩, hacts⟩ := h
  have het : ∀ {T et}, s.entityType? T = some et → _ := fun h => by
    simpa only [Bool.and_eq_true, Option.all_eq_true, Bool.not_eq_true'] using entityType?_all hets h
  have hact : ∀ {u a}, s.action? u = some a → _ := fun h => by
    simpa only [Bool.and_eq_true, List.isEmpty_iff, List.all_eq_true, Option.any_eq_true, List.contains_iff_mem] using
      action?_all hacts h
  exact {
    et_mono := fun T et h => (het h).1
    act_wf := fun u a h => ⟨(hact h).1.1.1.1, (hact h).1.1.1.2⟩
    no_action_etype := fun T hT => by
      cases h : s.entityType? T with
      | none => rfl
      | some et => rw [(het h).2] at hT; cases hT
    ets_map := fun p hp => (Schema.entityType?_eq_assoc s p.1).trans (assoc?_of_mem_nodup hnd hp)
    act_type := fun u a h => (hact h).1.1.2
    act_anc_desc := fun u a h => (hact h).1.2
    act_desc_anc := fun u a h => (hact h).2 }

def schemaWF3B (s : Schema) : Bool :=
  schemaWF2B s && s.ets.all (fun p => cnAttrs p.2.attrs && p.2.tags.all cn) &&
  s.acts.all (fun p => cn p.2.context) && decide (s.acts.map (·.1)).Nodup

theorem schemaWF3_of_check {s : Schema} (h : schemaWF3B s = true) : SchemaWF3 s := by
  simp only [schemaWF3B, Bool.and_eq_true, decide_eq_true_eq] at h
  obtain ⟨⟨⟨h2, hets⟩, hacts⟩, hnd⟩ := h
  exact {
    toSchemaWF2 := schemaWF2_of_check h2
    et_cn := fun T et h => by
      simpa only [Bool.and_eq_true, Option.all_eq_true] using entityType?_all hets h
    act_cn := fun u a h => action?_all hacts h
    acts_map := fun p hp => (Schema.action?_eq_assoc s p.1).trans (assoc?_of_mem_nodup hnd hp) }

theorem actionsPresent_of_check {s : Schema} {es : Entities} (h : s.acts.all (fun p => (es.find? p.1).isSome) = true) :
    ActionsPresent s es :=
  fun _ _ hl => Option.isSome_iff_exists.mp (action?_all h hl)

end Cedar.C03
