import CedarVerif.Cedar.NoPanic.PartialResponse
import CedarVerif.Lemmas.Data
/-
C20 lemmas for `Cedar/NoPanic/PartialResponse.lean`: which accessors of `PartialResponse` can reach the `expect` of
`Policy::new`, exactly when, and agreement with the C13 model (`PartialResponse.mayPanics`, `.residualPoliciesPanic`,
`.allResidualPolicies`, `.reauthorize` of `Cedar/Partial.lean`).
-/
namespace Cedar
namespace NoPanic

def PolOutcome.isPanic : PolOutcome → Bool
  | .panic _ => true
  | .policy _ => false

def PolsOutcome.isPanic : PolsOutcome → Bool
  | .panic _ => true
  | .policies _ => false

theorem constructPolicy_isPanic (eff : Effect) (id : String) (e : Expr) : (constructPolicy eff id e).isPanic = e.hasSlot := by
  unfold constructPolicy
  cases e.hasSlot <;> simp [PolOutcome.isPanic]

theorem constructPolicy_of_noSlot (eff : Effect) (id : String) (e : Expr) (h : e.hasSlot = false) :
    constructPolicy eff id e = .policy { id := id, effect := eff, condition := residualCondition e, env := [] } := by
  simp [constructPolicy, h]

theorem collect_isPanic : ∀ (l : List PolOutcome), (collect l).isPanic = l.any PolOutcome.isPanic
  | [] => rfl
  | .panic s :: rest => rfl
  | .policy p :: rest => by
    rw [collect, List.any_cons, ← collect_isPanic rest]
    cases collect rest <;> rfl

theorem constructPolicy_site {eff : Effect} {id : String} {e : Expr} {s : String}
    (h : constructPolicy eff id e = .panic s) : s = policyNewSite := by
  unfold constructPolicy at h
  split at h
  · exact (PolOutcome.panic.inj h).symm
  · cases h

def Constructed (l : List PolOutcome) : Prop := ∀ o ∈ l, ∃ eff id e, o = constructPolicy eff id e

theorem Constructed.map {α} (eff : Effect) (l : List α) (fid : α → String) (fe : α → Expr) :
    Constructed (l.map fun x => constructPolicy eff (fid x) (fe x)) := by
  intro o ho
  obtain ⟨x, _, rfl⟩ := List.mem_map.mp ho
  exact ⟨_, _, _, rfl⟩

theorem Constructed.append {l₁ l₂ : List PolOutcome} (h₁ : Constructed l₁) (h₂ : Constructed l₂) : Constructed (l₁ ++ l₂) :=
  fun o ho => (List.mem_append.mp ho).elim (h₁ o) (h₂ o)

theorem collect_site : ∀ (l : List PolOutcome), Constructed l → ∀ s, collect l = .panic s → s = policyNewSite
  | [], _, s, h => nomatch h
  | .panic s0 :: rest, hl, s, h => by
    obtain ⟨_, _, _, he⟩ := hl _ (List.mem_cons_self ..)
    obtain rfl : s0 = s := PolsOutcome.panic.inj h
    exact constructPolicy_site he.symm
  | .policy p :: rest, hl, s, h => by
    rw [collect] at h
    cases hc : collect rest with
    | policies ps => rw [hc] at h; cases h
    | panic s1 =>
      rw [hc] at h
      obtain rfl : s1 = s := PolsOutcome.panic.inj h
      exact collect_site rest (fun o ho => hl o (List.mem_cons_of_mem _ ho)) _ hc

theorem collect_policies : ∀ (l : List PolOutcome) (ps : List Policy), l = ps.map PolOutcome.policy → collect l = .policies ps
  | _, [], h => by subst h; rfl
  | _, p :: ps, h => by subst h; simp [collect, collect_policies (ps.map PolOutcome.policy) ps rfl]

theorem not_isPanic_iff (o : PolsOutcome) : o.isPanic = false ↔ ∀ s, o ≠ .panic s := by
  cases o <;> simp [PolsOutcome.isPanic]

theorem isPanic_iff (o : PolsOutcome) : o.isPanic = true ↔ ∃ s, o = .panic s := by
  cases o <;> simp [PolsOutcome.isPanic]

theorem mayPanics_false {pr : PartialResponse} (h : pr.residualPoliciesPanic = false) : pr.mayPanics = false := by
  unfold PartialResponse.residualPoliciesPanic at h
  rw [Bool.or_eq_false_iff] at h
  unfold PartialResponse.mayPanics
  split <;> simp [h.1, h.2]

theorem any_map_construct {α} (eff : Effect) (l : List α) (fid : α → String) (fe : α → Expr) :
    (l.map (fun x => constructPolicy eff (fid x) (fe x))).any PolOutcome.isPanic = l.any (fun x => (fe x).hasSlot) := by
  induction l with
  | nil => rfl
  | cons a as ih => simp only [List.map_cons, List.any_cons, ih, constructPolicy_isPanic]

theorem trueExpr_noSlot : trueExpr.hasSlot = false := by simp [trueExpr, Expr.hasSlot]
theorem falseExpr_noSlot : falseExpr.hasSlot = false := by simp [falseExpr, Expr.hasSlot]

theorem any_const_false {α} (l : List α) : l.any (fun _ => false) = false := by
  induction l <;> simp_all

variable (pr : PartialResponse)

theorem satPermits_noPanic : (definitelySatisfiedPermits pr).any PolOutcome.isPanic = false := by
  unfold definitelySatisfiedPermits
  rw [any_map_construct .permit pr.satisfiedPermits (fun x => x) (fun _ => trueExpr)]
  simp [trueExpr_noSlot]

theorem satForbids_noPanic : (definitelySatisfiedForbids pr).any PolOutcome.isPanic = false := by
  unfold definitelySatisfiedForbids
  rw [any_map_construct .forbid pr.satisfiedForbids (fun x => x) (fun _ => trueExpr)]
  simp [trueExpr_noSlot]

theorem resPermits_panic : (residualPermits pr).any PolOutcome.isPanic = pr.residualPermits.any (·.2.hasSlot) := by
  unfold residualPermits
  exact any_map_construct .permit pr.residualPermits (·.1) (·.2)

theorem resForbids_panic : (residualForbids pr).any PolOutcome.isPanic = pr.residualForbids.any (·.2.hasSlot) := by
  unfold residualForbids
  exact any_map_construct .forbid pr.residualForbids (·.1) (·.2)

/-- `definitely_satisfied` and `must_be_determining` only ever build policies from `true_expr`: no panic, unconditionally -/
theorem definitelySatisfied_safe : (definitelySatisfied pr).isPanic = false := by
  unfold definitelySatisfied
  rw [collect_isPanic, List.any_append, satPermits_noPanic, satForbids_noPanic]; rfl

theorem mustBeDetermining_safe : (mustBeDetermining pr).isPanic = false := by
  unfold mustBeDetermining
  split
  · rw [collect_isPanic, satPermits_noPanic]
  · rw [collect_isPanic, satForbids_noPanic]

theorem mayBeDetermining_isPanic : (mayBeDetermining pr).isPanic = pr.mayPanics := by
  unfold mayBeDetermining PartialResponse.mayPanics
  split
  · rw [collect_isPanic, List.any_append, List.any_append, satPermits_noPanic, resPermits_panic, resForbids_panic]; simp
  · rw [collect_isPanic, List.any_append, satForbids_noPanic, resForbids_panic]; simp

theorem nontrivialResiduals_isPanic : (nontrivialResiduals pr).isPanic = pr.residualPoliciesPanic := by
  unfold nontrivialResiduals PartialResponse.residualPoliciesPanic
  rw [collect_isPanic, List.any_append, resPermits_panic, resForbids_panic]

theorem allResidualOutcomes_any : (allResidualOutcomes pr).any PolOutcome.isPanic = pr.residualPoliciesPanic := by
  unfold allResidualOutcomes PartialResponse.residualPoliciesPanic
  simp only [List.any_append]
  rw [any_map_construct .permit pr.satisfiedPermits (fun x => x) (fun _ => trueExpr),
    any_map_construct .permit pr.falsePermits (·.1) (fun _ => falseExpr),
    any_map_construct .permit pr.residualPermits (·.1) (·.2),
    any_map_construct .forbid pr.satisfiedForbids (fun x => x) (fun _ => trueExpr),
    any_map_construct .forbid pr.falseForbids (·.1) (fun _ => falseExpr),
    any_map_construct .forbid pr.residualForbids (·.1) (·.2)]
  simp only [trueExpr_noSlot, falseExpr_noSlot, any_const_false, Bool.false_or, Bool.or_false]

theorem allResiduals_isPanic : (allResiduals pr).isPanic = pr.residualPoliciesPanic := by
  unfold allResiduals
  rw [collect_isPanic, allResidualOutcomes_any]

theorem any_hasSlot_false {α} {l : List (α × Expr)} (h : l.any (·.2.hasSlot) = false) : ∀ x ∈ l, x.2.hasSlot = false :=
  fun x hx => Bool.eq_false_iff.mpr (List.any_eq_false.mp h x hx)

theorem map_construct_eq {α} (eff : Effect) (l : List α) (fid : α → String) (fe : α → Expr)
    (h : ∀ x ∈ l, (fe x).hasSlot = false) :
    l.map (fun x => constructPolicy eff (fid x) (fe x)) =
      (l.map (fun x => ({ id := fid x, effect := eff, condition := residualCondition (fe x), env := [] } : Policy))).map PolOutcome.policy := by
  rw [List.map_map]
  apply List.map_congr_left
  intro x hx
  exact constructPolicy_of_noSlot _ _ _ (h x hx)

theorem allResidualOutcomes_eq (h : pr.residualPoliciesPanic = false) :
    allResidualOutcomes pr = pr.allResidualPolicies.map PolOutcome.policy := by
  unfold PartialResponse.residualPoliciesPanic at h
  rw [Bool.or_eq_false_iff] at h
  have hp := any_hasSlot_false h.1
  have hf := any_hasSlot_false h.2
  unfold allResidualOutcomes PartialResponse.allResidualPolicies
  rw [map_construct_eq .permit pr.satisfiedPermits (fun x => x) (fun _ => trueExpr) (fun _ _ => trueExpr_noSlot),
    map_construct_eq .permit pr.falsePermits (·.1) (fun _ => falseExpr) (fun _ _ => falseExpr_noSlot),
    map_construct_eq .permit pr.residualPermits (·.1) (·.2) hp,
    map_construct_eq .forbid pr.satisfiedForbids (fun x => x) (fun _ => trueExpr) (fun _ _ => trueExpr_noSlot),
    map_construct_eq .forbid pr.falseForbids (·.1) (fun _ => falseExpr) (fun _ _ => falseExpr_noSlot),
    map_construct_eq .forbid pr.residualForbids (·.1) (·.2) hf]
  simp only [List.map_append, trueExpr, falseExpr]

theorem allResidualOutcomes_constructed : Constructed (allResidualOutcomes pr) :=
  .append (.append (.append (.append (.append (.map _ _ _ _) (.map _ _ _ _)) (.map _ _ _ _)) (.map _ _ _ _)) (.map _ _ _ _))
    (.map _ _ _ _)

theorem mayBeDetermining_site (s : String) (h : mayBeDetermining pr = .panic s) : s = policyNewSite := by
  unfold mayBeDetermining at h
  split at h
  · exact collect_site _ (.append (.append (.map _ _ _ _) (.map _ _ _ _)) (.map _ _ _ _)) s h
  · exact collect_site _ (.append (.map _ _ _ _) (.map _ _ _ _)) s h

theorem reauthorize_panics (m : Mapper) (es : PEntities) (h : pr.residualPoliciesPanic = true) :
    reauthorize pr m es = .panic policyNewSite ∧ pr.reauthorize m es = .error .panic := by
  unfold reauthorize PartialResponse.reauthorize
  have hp : (collect (allResidualOutcomes pr)).isPanic = true := by rw [collect_isPanic, allResidualOutcomes_any, h]
  cases hc : collect (allResidualOutcomes pr) with
  | policies ps => rw [hc] at hp; cases hp
  | panic s =>
    obtain rfl := collect_site _ (allResidualOutcomes_constructed pr) s hc
    simp [h, bind, Except.bind, throw, throwThe, MonadExceptOf.throw]

theorem reauthorize_eq (m : Mapper) (es : PEntities) (h : pr.residualPoliciesPanic = false) :
    reauthorize pr m es =
      match pr.reauthorize m es with
      | .ok r => .ok r
      | .error e => .err e := by
  unfold reauthorize PartialResponse.reauthorize
  rw [allResidualOutcomes_eq pr h, collect_policies _ _ rfl]
  simp only [h, Bool.false_eq_true, if_false]
  cases hr : pr.concretizeRequest m with
  | error e => simp [bind, Except.bind]
  | ok req => simp [bind, Except.bind, pure, Except.pure]

/-- `residual.get(id).or_else(satisfied ↦ true_expr).or_else(false ↦ false_expr).map(construct_policy)`, the common shape of
`get_permit` and `get_forbid` -/
theorem getChain_safe (eff : Effect) (res : List (String × Expr)) (sat : List String) (fal : List (String × Bool))
    (h : res.any (·.2.hasSlot) = false) (id : String) (o : PolOutcome)
    (hg : (match lookupKV res id with
      | some e => some e
      | none =>
        if sat.contains id then some trueExpr
        else match lookupKV fal id with
          | some _ => some falseExpr
          | none => none).map (constructPolicy eff id) = some o) : o.isPanic = false := by
  simp only [Option.map_eq_some_iff] at hg
  obtain ⟨e, he, rfl⟩ := hg
  rw [constructPolicy_isPanic]
  split at he
  · rename_i e' hl
    obtain rfl := Option.some.inj he
    exact any_hasSlot_false h _ (lookupKV_mem hl)
  · split at he
    · obtain rfl := Option.some.inj he; exact trueExpr_noSlot
    · split at he
      · obtain rfl := Option.some.inj he; exact falseExpr_noSlot
      · cases he

theorem get_safe (h : pr.residualPoliciesPanic = false) (id : String) (o : PolOutcome)
    (hg : get pr id = some o) : o.isPanic = false := by
  unfold PartialResponse.residualPoliciesPanic at h
  rw [Bool.or_eq_false_iff] at h
  unfold get at hg
  split at hg
  · rename_i o' hp
    obtain rfl := Option.some.inj hg
    exact getChain_safe .permit pr.residualPermits pr.satisfiedPermits pr.falsePermits h.1 id _ hp
  · exact getChain_safe .forbid pr.residualForbids pr.satisfiedForbids pr.falseForbids h.2 id o hg

end NoPanic
end Cedar
