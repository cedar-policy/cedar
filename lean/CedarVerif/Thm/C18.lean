import CedarVerif.Cedar.SymCC
import CedarVerif.Lemmas.SymCSpec
import CedarVerif.Lemmas.SymCSet
import CedarVerif.Thm.C01
/-
C18 — Symbolic compilation agrees with evaluation on concrete (literal) environments.

SKELETON (`Cedar.SymCC`, mirroring symcc/{verifier,authorizer}.rs, symccopt/verifier.rs and the solver-free shortcut of
`check_unsat_asserts`), for arbitrary policy lists, requests and stores.  GIVEN the compile contract on a literal
environment — the compiled condition of policy `p` is the constant `some true` / `some false` / `none` according to
`p.outcome req es`, and every enforcer assumption folds to `true` (`hEnf`) — each verification condition
holds (`checkUnsat = true`) exactly when the corresponding statement about `Cedar.isAuthorized` (C01) is true:
`vc_skeleton_correct`, one theorem per condition (the three `verify_matches_*` conditions only in `matches_pair_correct`),
`opt_agrees` for symccopt's builders.  The contract is not a hypothesis of these theorems: it is the DEFINITION
`compilePolicy`, which compiles nothing and writes `p.outcome req es` down as the constant; the modelled compiler enters
through `compilePolicyReal` below.

COMPILER FRAGMENT (`Cedar.SymC`, Cedar/SymCompile.lean; mirrors symcc/compiler.rs and symcc/factory.rs with `App` nodes and
every non-literal branch kept).  `SFrag` = literals, `principal action resource`, `! - && || if == < <= + - *`;
`SFrag2` = `SFrag` + `context`, `e.a`, `e has a` on RECORD-typed terms, `e like pat`, `e is T`.
  * `compile_correct_fragment2`: if the context term represents the FLAT context (`CtxOK`) and the compiler ACCEPTS
    `e ∈ SFrag2`, the term is the folded literal `some (lit v)` / `some ctxT` / `none` as `evaluate` gives `v` / the context
    record / an error.  `compile_correct_fragment`: the same on the context-less environment.
    `ctxTermOf_ctxOK`, `compile_correct_fragment2_conformant`: `CtxOK` holds for the term `ctxTermOf` builds from a
    conformant flat context.
  * `compile_rejects_iff`, `compile_typeOf_ctype`: WHEN the compiler rejects.  `ctype` (Lemmas/SymCHelpers.lean) is the
    compiler's OWN typing discipline — not the validator's; `if / && / ||` skip the checks on the operand a constant guard
    discards, and `ctype` reads from `evaluate` only which boolean constant (if any) a guard is.  `principal.a` gives
    the model-only `.outside` (attribute access on entity-typed terms is not modelled).
  * `compilePolicy_discharged`, `vc_skeleton_correct_fragment`: on `SFrag2` the compile contract is what the modelled
    compiler produces, so only `hEnf` and the context representation remain as hypotheses.
  * SETS (`SFrag3`): modelled and checked against Rust by stream c18symc; PROVED only that the canonical form keeps the
    members and that `set_member / set_subset / set_intersects / set_is_empty` fold to the list questions
    (`set_canonical_members`, `set_*_folds`).  `CompileCorrectFragment3` is STATED, NOT PROVED, and as stated it does not
    hold: `SFrag3` admits nested sets, `termLt` orders primitives only, so `[[1],[2]] == [[2],[1]]` compiles to
    `some false`; for sets of primitives set `==` needs extensionality of the canonical form, `if_all_some` /
    `compile_set` are shown on examples only.

NOT MODELLED: the compiler outside `SFrag3` (attributes / `has` on entities, `in`, tags, record literals, nested or
set-typed context attributes, extension functions), symccopt/compiler.rs' footprint, the rest of the symbolizer and the
enforcer.  There the contract is sampled by the differential run of `./check C18` (harness/src/c18.rs).
-/
namespace Cedar.C18
open Cedar Cedar.SymCC

def compileEffect : Cedar.Effect → SymCC.Effect
  | .permit => .permit
  | .forbid => .forbid

/-- what a policy's condition must fold to on the literal environment of `(req, es)` -/
def compileOutcome : Outcome → Option Bool
  | .sat => some true
  | .unsat => some false
  | .err => none

def compilePolicy (req : Request) (es : Entities) (p : Policy) : CPolicy :=
  { effect := compileEffect p.effect, term := compileOutcome (p.outcome req es) }

def compilePolicies (req : Request) (es : Entities) (ps : List Policy) : CPolicies :=
  ps.map (compilePolicy req es)

/-- the enforcer's assumptions all fold to `true` -/
def EnfTrue (enf : Asserts) : Prop := ∀ b, b ∈ enf → b = true

theorem fOr_eq (a b : Bool) : fOr a b = (a || b) := by cases a <;> cases b <;> rfl
theorem fAnd_eq (a b : Bool) : fAnd a b = (a && b) := by cases a <;> cases b <;> rfl

theorem fEqBool_iff (a b : Bool) : fEqBool a b = true ↔ (a = true ↔ b = true) := by cases a <;> cases b <;> decide
theorem fImplies_iff (a b : Bool) : fImplies a b = true ↔ (a = true → b = true) := by cases a <;> cases b <;> decide
theorem fNand_iff (a b : Bool) : fNot (fAnd a b) = true ↔ ¬ (a = true ∧ b = true) := by
  cases a <;> cases b <;> decide

theorem fEqSomeTrue_iff (t : Option Bool) : fEqSomeTrue t = true ↔ t = some true := by
  cases t with
  | none => simp [fEqSomeTrue]
  | some b => cases b <;> simp [fEqSomeTrue, fEqBool]
theorem fIsSome_iff (t : Option Bool) : fIsSome t = true ↔ t ≠ none := by
  cases t <;> simp [fIsSome, fIsNone, fNot]

/-- the shape shared by all plain builders: with true assumptions, unsat ⇔ the last assert is `false` ⇔ `phi` is `true` -/
theorem checkUnsat_append {enf : Asserts} (h : EnfTrue enf) (b : Bool) :
    checkUnsat (enf ++ [fNot b]) = b := by
  have h1 : enf.any (fun a => a == false) = false := List.any_eq_false.mpr fun x hx => by simp [h x hx]
  have h2 : enf.all (fun a => a == true) = true := List.all_eq_true.mpr fun x hx => by simp [h x hx]
  unfold checkUnsat
  rw [List.any_append, h1, List.all_append, h2]
  cases b <;> rfl

/-- the shape shared by all optimised builders: the constant-false shortcut does not change the verdict -/
theorem checkUnsat_shortcut {enf : Asserts} (h : EnfTrue enf) (b : Bool) :
    checkUnsat (match fNot b with
      | false => [false]
      | a => enf ++ [a]) = b := by
  cases b
  · exact checkUnsat_append h false
  · rfl

theorem checkUnsat_evalOpt {enf : Asserts} (h : EnfTrue enf) (phi : Option Bool → Bool) (t : Option Bool) :
    checkUnsat (verifyEvaluateOpt phi enf t) = phi t := checkUnsat_shortcut h (phi t)

theorem checkUnsat_pairOpt {enf : Asserts} (h : EnfTrue enf) (phi : Option Bool → Option Bool → Bool)
    (t1 t2 : Option Bool) : checkUnsat (verifyEvaluatePairOpt phi enf t1 t2) = phi t1 t2 :=
  checkUnsat_shortcut h (phi t1 t2)

theorem checkUnsat_authOpt {enf : Asserts} (h : EnfTrue enf) (phi : Bool → Bool → Bool) (d1 d2 : Bool) :
    checkUnsat (verifyIsAuthorizedOpt phi enf d1 d2) = phi d1 d2 := checkUnsat_shortcut h (phi d1 d2)

theorem anyTrue_aux (f : Option Bool → Bool) (ts : List (Option Bool)) (acc : Bool) :
    ts.foldl (fun acc g => fOr (f g) acc) acc = true ↔ acc = true ∨ ∃ t, t ∈ ts ∧ f t = true := by
  induction ts generalizing acc with
  | nil => simp
  | cons t ts ih =>
    rw [List.foldl_cons, ih, fOr_eq]
    simp only [Bool.or_eq_true, List.mem_cons, exists_eq_or_imp]
    exact or_assoc.trans or_left_comm

theorem anyTrue_iff (f : Option Bool → Bool) (ts : List (Option Bool)) :
    anyTrue f ts = true ↔ ∃ t, t ∈ ts ∧ f t = true := by
  unfold anyTrue; rw [anyTrue_aux]; simp

theorem compileOutcome_some_true (o : Outcome) : compileOutcome o = some true ↔ o = .sat := by
  cases o <;> simp [compileOutcome]

theorem compileOutcome_none (o : Outcome) : compileOutcome o = none ↔ o = .err := by
  cases o <;> simp [compileOutcome]

theorem compileEffect_eq (e : Cedar.Effect) (e' : Cedar.Effect) :
    compileEffect e = compileEffect e' ↔ e = e' := by
  cases e <;> cases e' <;> simp [compileEffect]

variable (req : Request) (es : Entities)

theorem sat_compiled (p : Policy) : fEqSomeTrue (compilePolicy req es p).term = true ↔ Sat req es p :=
  (fEqSomeTrue_iff _).trans (compileOutcome_some_true _)

theorem satisfied_compiled (eff : Cedar.Effect) (ps : List Policy) :
    satisfiedPolicies (compileEffect eff) (compilePolicies req es ps) = true ↔
      ∃ p, p ∈ ps ∧ p.effect = eff ∧ Sat req es p := by
  unfold satisfiedPolicies compilePolicies
  rw [anyTrue_iff]
  constructor
  · rintro ⟨t, ht, hf⟩
    obtain ⟨c, hc, rfl⟩ := List.mem_map.mp ht
    obtain ⟨hc, he⟩ := List.mem_filter.mp hc
    obtain ⟨p, hp, rfl⟩ := List.mem_map.mp hc
    exact ⟨p, hp, (compileEffect_eq _ _).mp (by simpa [compilePolicy] using he), (sat_compiled req es p).mp hf⟩
  · rintro ⟨p, hp, rfl, hs⟩
    exact ⟨_, List.mem_map.mpr ⟨_, List.mem_filter.mpr ⟨List.mem_map.mpr ⟨p, hp, rfl⟩, by simp [compilePolicy]⟩, rfl⟩,
      (sat_compiled req es p).mpr hs⟩

/-- the symbolic authorizer's decision term on the compiled set = the concrete authorizer's decision (via C01) -/
theorem isAuthorized_compiled (ps : List Policy) :
    SymCC.isAuthorized (compilePolicies req es ps) = true ↔ (Cedar.isAuthorized req es ps).decision = .allow := by
  rw [C01.allow_iff]
  unfold SymCC.isAuthorized
  simp only [fAnd_eq, fNot, Bool.and_eq_true, Bool.not_eq_true']
  have hp := satisfied_compiled req es .permit ps
  have hf := satisfied_compiled req es .forbid ps
  simp only [compileEffect] at hp hf
  rw [hp, ← Bool.not_eq_true, hf]

theorem isAuthorized_allowAll : SymCC.isAuthorized allowAll = true := by decide
theorem isAuthorized_nil : SymCC.isAuthorized [] = false := by decide

theorem neverErrors_refuted_iff_errors (enf : Asserts) (hEnf : EnfTrue enf) (p : Policy) :
    checkUnsat (verifyNeverErrors enf (compilePolicy req es p).term) = false ↔ Errs req es p := by
  unfold verifyNeverErrors verifyEvaluate
  rw [checkUnsat_append hEnf]
  unfold Errs compilePolicy
  cases p.outcome req es <;> simp [compileOutcome, fIsSome, fIsNone, fNot]

theorem alwaysMatches_iff_satisfied (enf : Asserts) (hEnf : EnfTrue enf) (p : Policy) :
    checkUnsat (verifyAlwaysMatches enf (compilePolicy req es p).term) = true ↔ Sat req es p := by
  unfold verifyAlwaysMatches verifyEvaluate
  rw [checkUnsat_append hEnf]
  exact sat_compiled req es p

theorem neverMatches_iff_not_satisfied (enf : Asserts) (hEnf : EnfTrue enf) (p : Policy) :
    checkUnsat (verifyNeverMatches enf (compilePolicy req es p).term) = true ↔ ¬ Sat req es p := by
  unfold verifyNeverMatches verifyEvaluate
  rw [checkUnsat_append hEnf, ← sat_compiled req es p]
  simp only [fNot, Bool.not_eq_true', Bool.not_eq_true]

theorem matches_pair_correct (enf : Asserts) (hEnf : EnfTrue enf) (p q : Policy) :
    let t1 := (compilePolicy req es p).term
    let t2 := (compilePolicy req es q).term
    (checkUnsat (verifyMatchesEquivalent enf t1 t2) = true ↔ (Sat req es p ↔ Sat req es q)) ∧
    (checkUnsat (verifyMatchesImplies enf t1 t2) = true ↔ (Sat req es p → Sat req es q)) ∧
    (checkUnsat (verifyMatchesDisjoint enf t1 t2) = true ↔ ¬ (Sat req es p ∧ Sat req es q)) := by
  simp only [verifyMatchesEquivalent, verifyMatchesImplies, verifyMatchesDisjoint, verifyEvaluatePair,
    checkUnsat_append hEnf, fEqBool_iff, fImplies_iff, fNand_iff, sat_compiled, and_self]

theorem alwaysAllows_iff_allow (enf : Asserts) (hEnf : EnfTrue enf) (ps : List Policy) :
    checkUnsat (verifyAlwaysAllows enf (compilePolicies req es ps)) = true ↔
      (Cedar.isAuthorized req es ps).decision = .allow := by
  unfold verifyAlwaysAllows verifyImplies verifyIsAuthorized
  rw [checkUnsat_append hEnf, fImplies_iff, isAuthorized_allowAll, isAuthorized_compiled]
  exact ⟨fun h => h rfl, fun h _ => h⟩

theorem alwaysDenies_iff_deny (enf : Asserts) (hEnf : EnfTrue enf) (ps : List Policy) :
    checkUnsat (verifyAlwaysDenies enf (compilePolicies req es ps)) = true ↔
      (Cedar.isAuthorized req es ps).decision = .deny := by
  unfold verifyAlwaysDenies verifyImplies verifyIsAuthorized
  rw [checkUnsat_append hEnf, fImplies_iff, isAuthorized_nil, isAuthorized_compiled]
  cases (Cedar.isAuthorized req es ps).decision <;> simp

theorem implies_iff (enf : Asserts) (hEnf : EnfTrue enf) (ps₁ ps₂ : List Policy) :
    checkUnsat (verifyImplies enf (compilePolicies req es ps₁) (compilePolicies req es ps₂)) = true ↔
      ((Cedar.isAuthorized req es ps₁).decision = .allow → (Cedar.isAuthorized req es ps₂).decision = .allow) := by
  unfold verifyImplies verifyIsAuthorized
  rw [checkUnsat_append hEnf, fImplies_iff, isAuthorized_compiled, isAuthorized_compiled]

theorem equivalent_iff (enf : Asserts) (hEnf : EnfTrue enf) (ps₁ ps₂ : List Policy) :
    checkUnsat (verifyEquivalent enf (compilePolicies req es ps₁) (compilePolicies req es ps₂)) = true ↔
      (Cedar.isAuthorized req es ps₁).decision = (Cedar.isAuthorized req es ps₂).decision := by
  unfold verifyEquivalent verifyIsAuthorized
  rw [checkUnsat_append hEnf, fEqBool_iff, isAuthorized_compiled, isAuthorized_compiled]
  cases (Cedar.isAuthorized req es ps₁).decision <;> cases (Cedar.isAuthorized req es ps₂).decision <;> simp

theorem disjoint_iff (enf : Asserts) (hEnf : EnfTrue enf) (ps₁ ps₂ : List Policy) :
    checkUnsat (verifyDisjoint enf (compilePolicies req es ps₁) (compilePolicies req es ps₂)) = true ↔
      ¬ ((Cedar.isAuthorized req es ps₁).decision = .allow ∧ (Cedar.isAuthorized req es ps₂).decision = .allow) := by
  unfold verifyDisjoint verifyIsAuthorized
  rw [checkUnsat_append hEnf, fNand_iff, isAuthorized_compiled, isAuthorized_compiled]

theorem opt_agrees (enf : Asserts) (hEnf : EnfTrue enf) :
    (∀ p : CPolicy, policyVCsOpt enf p = policyVCs enf p) ∧
    (∀ ps : CPolicies, setVCsOpt enf ps = setVCs enf ps) ∧
    (∀ ps₁ ps₂ : CPolicies, pairVCsOpt enf ps₁ ps₂ = pairVCs enf ps₁ ps₂) ∧
    (∀ t₁ t₂ : Option Bool, matchVCsOpt enf t₁ t₂ = matchVCs enf t₁ t₂) := by
  refine ⟨?_, ?_, ?_, ?_⟩
  · intro p
    simp only [policyVCsOpt, policyVCs, verifyNeverErrorsOpt, verifyAlwaysMatchesOpt, verifyNeverMatchesOpt,
      verifyNeverErrors, verifyAlwaysMatches, verifyNeverMatches, verifyEvaluate,
      checkUnsat_append hEnf, checkUnsat_evalOpt hEnf]
  · intro ps
    simp only [setVCsOpt, setVCs, verifyAlwaysAllowsOpt, verifyAlwaysDeniesOpt,
      verifyAlwaysAllows, verifyAlwaysDenies, verifyImplies, verifyIsAuthorized, compiledSetTerm, allowAllTerm,
      denyAllTerm, checkUnsat_append hEnf, checkUnsat_authOpt hEnf, isAuthorized_allowAll, isAuthorized_nil]
  · intro ps₁ ps₂
    simp only [pairVCsOpt, pairVCs, verifyImpliesOpt, verifyEquivalentOpt, verifyDisjointOpt,
      verifyImplies, verifyEquivalent, verifyDisjoint, verifyIsAuthorized, compiledSetTerm,
      checkUnsat_append hEnf, checkUnsat_authOpt hEnf]
  · intro t₁ t₂
    simp only [matchVCsOpt, matchVCs, verifyMatchesImpliesOpt, verifyMatchesEquivalentOpt, verifyMatchesDisjointOpt,
      verifyMatchesImplies, verifyMatchesEquivalent, verifyMatchesDisjoint, verifyEvaluatePair,
      checkUnsat_append hEnf, checkUnsat_pairOpt hEnf]

/-- true enforcer assumptions are irrelevant: any two all-true lists give the same constants
    (the driver op uses `[true]`) -/
theorem enf_irrelevant (enf enf' : Asserts) (h : EnfTrue enf) (h' : EnfTrue enf') (b : Bool) :
    checkUnsat (enf ++ [fNot b]) = checkUnsat (enf' ++ [fNot b]) := by
  rw [checkUnsat_append h, checkUnsat_append h']

/-- C18 (skeleton): given the compile contract, every verification condition states what the concrete authorizer does,
    for both families of builders. -/
theorem vc_skeleton_correct (enf : Asserts) (hEnf : EnfTrue enf) (p : Policy) (ps₁ ps₂ : List Policy) :
    let c := compilePolicy req es p
    let c₁ := compilePolicies req es ps₁
    let c₂ := compilePolicies req es ps₂
    let d₁ := (Cedar.isAuthorized req es ps₁).decision
    let d₂ := (Cedar.isAuthorized req es ps₂).decision
    ((policyVCs enf c).neverErrors = false ↔ Errs req es p) ∧
    ((policyVCs enf c).alwaysMatches = true ↔ Sat req es p) ∧
    ((policyVCs enf c).neverMatches = true ↔ ¬ Sat req es p) ∧
    ((setVCs enf c₁).alwaysAllows = true ↔ d₁ = .allow) ∧
    ((setVCs enf c₁).alwaysDenies = true ↔ d₁ = .deny) ∧
    ((pairVCs enf c₁ c₂).implies = true ↔ (d₁ = .allow → d₂ = .allow)) ∧
    ((pairVCs enf c₁ c₂).equivalent = true ↔ d₁ = d₂) ∧
    ((pairVCs enf c₁ c₂).disjoint = true ↔ ¬ (d₁ = .allow ∧ d₂ = .allow)) ∧
    (policyVCsOpt enf c = policyVCs enf c ∧ setVCsOpt enf c₁ = setVCs enf c₁ ∧ pairVCsOpt enf c₁ c₂ = pairVCs enf c₁ c₂) := by
  have ho := opt_agrees enf hEnf
  exact ⟨neverErrors_refuted_iff_errors req es enf hEnf p,
    alwaysMatches_iff_satisfied req es enf hEnf p,
    neverMatches_iff_not_satisfied req es enf hEnf p,
    alwaysAllows_iff_allow req es enf hEnf ps₁,
    alwaysDenies_iff_deny req es enf hEnf ps₁,
    implies_iff req es enf hEnf ps₁ ps₂,
    equivalent_iff req es enf hEnf ps₁ ps₂,
    disjoint_iff req es enf hEnf ps₁ ps₂,
    ho.1 _, ho.2.1 _, ho.2.2.1 _ _⟩

section Examples

def exReq : Request := { principal := ⟨"User", "a"⟩, action := ⟨"Action", "view"⟩, resource := ⟨"Doc", "d"⟩, context := [] }
def exEs : Entities := []

/-- permit when true;  forbid when 1 + "x" (errors);  permit when principal == resource (false) -/
def pTrue : Policy := { id := "p0", effect := .permit, condition := .lit (.bool true), env := [] }
def pErr : Policy := { id := "p1", effect := .forbid, condition := .binaryApp .add (.lit (.int 1)) (.lit (.string "x")), env := [] }
def pFalse : Policy := { id := "p2", effect := .permit, condition := .binaryApp .eq (.var .principal) (.var .resource), env := [] }

example : EnfTrue [true, true] := by intro b hb; simp at hb; exact hb

-- the three outcomes really occur, so every side of every ↔ is exercised
example : pTrue.outcome exReq exEs = .sat := by decide +kernel
example : pErr.outcome exReq exEs = .err := by decide +kernel
example : pFalse.outcome exReq exEs = .unsat := by decide +kernel

-- never-errors refuted on the erroring policy, not on the others
example : (policyVCs [true] (compilePolicy exReq exEs pErr)).neverErrors = false := by decide +kernel
example : (policyVCs [true] (compilePolicy exReq exEs pTrue)).neverErrors = true := by decide +kernel
example : (policyVCs [true] (compilePolicy exReq exEs pTrue)).alwaysMatches = true := by decide +kernel
example : (policyVCs [true] (compilePolicy exReq exEs pFalse)).neverMatches = true := by decide +kernel
example : (policyVCs [true] (compilePolicy exReq exEs pErr)).alwaysMatches = false := by decide +kernel

-- set level: {pTrue, pErr} allows (the erroring forbid is skipped); {pFalse} denies
example : (Cedar.isAuthorized exReq exEs [pTrue, pErr]).decision = .allow := by decide +kernel
example : (Cedar.isAuthorized exReq exEs [pFalse]).decision = .deny := by decide +kernel
example : (setVCs [true] (compilePolicies exReq exEs [pTrue, pErr])).alwaysAllows = true := by decide +kernel
example : (setVCs [true] (compilePolicies exReq exEs [pFalse])).alwaysDenies = true := by decide +kernel
example : pairVCs [true] (compilePolicies exReq exEs [pTrue, pErr]) (compilePolicies exReq exEs [pFalse])
    = { implies := false, equivalent := false, disjoint := true } := by decide +kernel
example : pairVCs [true] (compilePolicies exReq exEs [pFalse]) (compilePolicies exReq exEs [pTrue, pErr])
    = { implies := true, equivalent := false, disjoint := true } := by decide +kernel
example : pairVCsOpt [true] (compilePolicies exReq exEs [pTrue]) (compilePolicies exReq exEs [pTrue, pErr])
    = { implies := true, equivalent := true, disjoint := false } := by decide +kernel

-- a false enforcer assumption (an ill-formed hierarchy) makes every condition hold vacuously: the hypothesis matters
example : checkUnsat (verifyNeverErrors [false] none) = true := by decide

end Examples

section Fragment
open Cedar.SymC

/-- C18 on `SFrag2`: an accepted expression compiles to the folded literal of what `evaluate` gives (`none` on an error).
    `hctx` is only needed when `ctxT` is record-typed (otherwise `compile_var` rejects `context`); the store is irrelevant. -/
theorem compile_correct_fragment2 (req : Request) (es : Entities) (senv : SlotEnv)
    (etys : List (EntityType × Option (List String))) (ctxT : Term)
    (hctx : ctxT.typeOf.isRecordType = true → CtxOK req.context ctxT)
    (e : Expr) (hf : SFrag2 e) (t : Term)
    (hc : compile (litEnv2 req etys ctxT) e = .ok t) :
    match evaluate req es senv e with
    | .ok v => (∃ p, v = .prim p ∧ t = .some (.prim (litPrim p))) ∨ (v = .record req.context ∧ t = .some ctxT)
    | .error _ => ∃ ty, t = .none ty := by
  have h := compile_rel2 req es senv etys ctxT hctx hf t hc
  rcases h.cases with ⟨v, x, hev, rfl, ⟨p, rfl, _, rfl⟩ | ⟨rfl, rfl, _⟩⟩ | ⟨err, ty, hev, rfl⟩
  · rw [hev]; exact Or.inl ⟨p, rfl, rfl⟩
  · rw [hev]; exact Or.inr ⟨rfl, rfl⟩
  · rw [hev]; exact ⟨ty, rfl⟩

/-- `ctxTermOf` (the `Record` arm of `Term::from_value`) never fails on a flat context whose attributes are declared and
    primitive (`FlatConforms`, implied by schema conformance), and its result satisfies `CtxOK`. -/
theorem ctxTermOf_ctxOK (ctx : List (String × Value)) (attrs : List (Attr × CtxAttrTy × Bool))
    (hconf : FlatConforms ctx attrs) : ∃ t, ctxTermOf ctx attrs = some t ∧ CtxOK ctx t := by
  obtain ⟨t, ht, hrec, hfld, hno⟩ := ctxTermOf_spec ctx (fun a v h => (hconf a v h).1) attrs
  refine ⟨t, ht, hrec, hfld, ?_⟩
  intro a h
  cases hl : lookupKV ctx a with
  | none => rfl
  | some v => exact absurd (hconf a v hl).2 (hno a h)

theorem compile_correct_fragment2_conformant (req : Request) (es : Entities) (senv : SlotEnv)
    (etys : List (EntityType × Option (List String))) (attrs : List (Attr × CtxAttrTy × Bool))
    (hconf : FlatConforms req.context attrs) :
    ∃ ctxT, ctxTermOf req.context attrs = some ctxT ∧
      ∀ (e : Expr), SFrag2 e → ∀ t, compile (litEnv2 req etys ctxT) e = .ok t →
        match evaluate req es senv e with
        | .ok v => (∃ p, v = .prim p ∧ t = .some (.prim (litPrim p))) ∨ (v = .record req.context ∧ t = .some ctxT)
        | .error _ => ∃ ty, t = .none ty := by
  obtain ⟨ctxT, h, hok⟩ := ctxTermOf_ctxOK req.context attrs hconf
  exact ⟨ctxT, h, fun e hf t hc => compile_correct_fragment2 req es senv etys ctxT (fun _ => hok) e hf t hc⟩

theorem compile_typeOf_ctype (req : Request) (es : Entities) (senv : SlotEnv)
    (etys : List (EntityType × Option (List String))) (ctxT : Term)
    (hctx : ctxT.typeOf.isRecordType = true → CtxOK req.context ctxT)
    (e : Expr) (hf : SFrag2 e) (t : Term) (hc : compile (litEnv2 req etys ctxT) e = .ok t) :
    ctype req es senv (litEnv2 req etys ctxT) e = .ok t.typeOf := by
  rw [← ctype_spec req es senv etys ctxT hctx hf, hc]; rfl

/-- C18, ill-typed inputs: the compiler returns the error `err` (`TypeError`, `NoSuchAttribute`, or the model-only
    `.outside`) iff `ctype` gives that error, and accepts iff `ctype` gives a type. -/
theorem compile_rejects_iff (req : Request) (es : Entities) (senv : SlotEnv)
    (etys : List (EntityType × Option (List String))) (ctxT : Term)
    (hctx : ctxT.typeOf.isRecordType = true → CtxOK req.context ctxT) (e : Expr) (hf : SFrag2 e) :
    (∀ err, compile (litEnv2 req etys ctxT) e = .error err ↔ ctype req es senv (litEnv2 req etys ctxT) e = .error err) ∧
    ((∃ t, compile (litEnv2 req etys ctxT) e = .ok t) ↔ ∃ ty, ctype req es senv (litEnv2 req etys ctxT) e = .ok ty) := by
  rw [compile_closed req es senv etys ctxT hctx hf]
  cases ctype req es senv (litEnv2 req etys ctxT) e <;> simp

/-- `SFrag`: `litEnv`'s context slot is a non-record dummy, so no hypothesis about the context is needed.
    A type error of `evaluate` shows up as the compiler rejecting (excluded by `hc`) or as `none` — never as a `some`. -/
theorem compile_correct_fragment (req : Request) (es : Entities) (senv : SlotEnv)
    (etys : List (EntityType × Option (List String))) (e : Expr) (hf : SFrag e) (t : Term)
    (hc : compile (litEnv req etys) e = .ok t) :
    match evaluate req es senv e with
    | .ok v => ∃ p, v = .prim p ∧ t = .some (.prim (litPrim p))
    | .error _ => ∃ ty, t = .none ty := by
  have h := compile_rel2 req es senv etys (.prim (.bool false)) (by simp [Term.typeOf, TermPrim.typeOf, TermType.isRecordType])
    hf.toSFrag2 t hc
  rcases h.cases with ⟨v, x, hev, rfl, ⟨p, rfl, _, rfl⟩ | ⟨_, _, hck⟩⟩ | ⟨err, ty, hev, rfl⟩
  · rw [hev]; exact ⟨p, rfl, rfl⟩
  · cases hck.1
  · rw [hev]; exact ⟨ty, rfl⟩

/-- the statement for `SFrag3` (shape of `compile_correct_fragment2` plus the set case: `some` of a canonical literal set
    with exactly the literals of the value's members).  NOT PROVED. -/
def CompileCorrectFragment3 : Prop :=
  ∀ (req : Request) (es : Entities) (senv : SlotEnv) (etys : List (EntityType × Option (List String))) (ctxT : Term),
    (ctxT.typeOf.isRecordType = true → CtxOK req.context ctxT) →
    ∀ (e : Expr), SFrag3 e → ∀ (t : Term), compile (litEnv2 req etys ctxT) e = .ok t →
      match evaluate req es senv e with
      | .ok v => (∃ p, v = .prim p ∧ t = .some (.prim (litPrim p))) ∨ (v = .record req.context ∧ t = .some ctxT) ∨
                 (∃ vs ts ty, v = .set vs ∧ t = .some (setOf ts ty) ∧
                    ∀ ps : List Prim, vs = ps.map Value.prim → ∀ y, y ∈ ts ↔ ∃ p, p ∈ ps ∧ y = .prim (litPrim p))
      | .error _ => ∃ ty, t = .none ty

theorem set_canonical_members (ts : List Term) (ty : TermType) (y : Term) :
    (y ∈ setElts (setOf ts ty) ↔ y ∈ ts) ∧ (setOf ts ty).typeOf = .set ty :=
  ⟨setOf_mem ts ty y, setOf_typeOf ts ty⟩

theorem set_member_folds (x : Term) (ts : List Term) (ty : TermType) (hx : x.isLiteral = true)
    (hts : ∀ y, y ∈ ts → y.isLiteral = true) :
    setMember x (setOf ts ty) = .prim (.bool (ts.contains x)) := by
  rw [setMember_lit (setOf_isSet ts ty) hx (setOf_isLiteral ts ty hts), contains_congr (setOf_mem ts ty)]

/-- what `b.containsAll(a)` compiles to; the right side is the evaluator's `Value.subset` on the element lists -/
theorem set_subset_folds (as bs : List Term) (ty : TermType)
    (has : ∀ y, y ∈ as → y.isLiteral = true) (hbs : ∀ y, y ∈ bs → y.isLiteral = true) :
    setSubset (setOf as ty) (setOf bs ty) = .prim (.bool (as.all (fun x => bs.contains x))) := by
  rw [setSubset_lit (setOf_isSet as ty) (setOf_isSet bs ty) (setOf_isLiteral as ty has) (setOf_isLiteral bs ty hbs),
    all_contains_congr (setOf_mem as ty) (setOf_mem bs ty)]

/-- `set_intersects` = `not(set_is_empty(set_inter …))`, what `a.containsAny(b)` compiles to -/
theorem set_intersects_folds (as bs : List Term) (ty : TermType)
    (has : ∀ y, y ∈ as → y.isLiteral = true) (hbs : ∀ y, y ∈ bs → y.isLiteral = true) :
    setIntersects (setOf as ty) (setOf bs ty) = .prim (.bool (as.any (fun x => bs.contains x))) := by
  obtain ⟨hs, hm⟩ := setInter_lit (setOf_isSet as ty) (setOf_isSet bs ty) (setOf_isLiteral as ty has)
    (setOf_isLiteral bs ty hbs)
  unfold setIntersects
  rw [setIsEmpty_isSet hs, ← nonempty_eq_any (fun y => by rw [hm, setOf_mem, setOf_mem])]
  rfl

theorem set_is_empty_folds (ts : List Term) (ty : TermType) : setIsEmpty (setOf ts ty) = .prim (.bool ts.isEmpty) := by
  rw [setIsEmpty_isSet (setOf_isSet ts ty), isEmpty_congr (setOf_mem ts ty)]

/-- `CompiledPolicy::compile_with_custom_symenv` restricted to what the skeleton reads: the compiled condition must be a
    term of type `option bool` (compiler.rs' postcondition for a boolean condition) and is read as a constant -/
def compilePolicyReal (env : SymEnvLit) (p : Policy) : Option CPolicy :=
  match compile env p.condition with
  | .ok t =>
    if t.typeOf = .option .bool then
      match optBoolOf t with
      | some b => some { effect := compileEffect p.effect, term := b }
      | none => none
    else none
  | .error _ => none

def compilePoliciesReal (env : SymEnvLit) : List Policy → Option CPolicies
  | [] => some []
  | p :: ps =>
    match compilePolicyReal env p, compilePoliciesReal env ps with
    | some c, some cs => some (c :: cs)
    | _, _ => none

theorem compilePolicy_discharged (req : Request) (es : Entities) (etys : List (EntityType × Option (List String)))
    (ctxT : Term) (hctx : ctxT.typeOf.isRecordType = true → CtxOK req.context ctxT)
    (p : Policy) (hf : SFrag2 p.condition) (c : CPolicy)
    (h : compilePolicyReal (litEnv2 req etys ctxT) p = some c) : c = compilePolicy req es p := by
  unfold compilePolicyReal at h
  cases hc : compile (litEnv2 req etys ctxT) p.condition with
  | error e => simp [hc] at h
  | ok t =>
    simp only [hc] at h
    split at h
    · rename_i hty
      have hr := compile_rel2 req es p.env etys ctxT hctx hf t hc
      rcases hr.guard with ⟨b, hev, rfl⟩ | ⟨err, hev, rfl⟩ | ⟨_, hn⟩
      · simp only [optBoolOf, Option.some.injEq] at h
        subst h
        unfold compilePolicy Policy.outcome
        rw [hev]
        cases b <;> simp [Value.asBool, compileOutcome]
      · simp only [optBoolOf, Option.some.injEq] at h
        subst h
        unfold compilePolicy Policy.outcome
        rw [hev]
        simp [compileOutcome]
      · exact absurd hty hn
    · simp at h

theorem compilePolicies_discharged (req : Request) (es : Entities) (etys : List (EntityType × Option (List String)))
    (ctxT : Term) (hctx : ctxT.typeOf.isRecordType = true → CtxOK req.context ctxT)
    (ps : List Policy) (hf : ∀ q, q ∈ ps → SFrag2 q.condition) (cs : CPolicies)
    (h : compilePoliciesReal (litEnv2 req etys ctxT) ps = some cs) : cs = compilePolicies req es ps := by
  induction ps generalizing cs with
  | nil => simp [compilePoliciesReal] at h; subst h; rfl
  | cons p ps ih =>
    unfold compilePoliciesReal at h
    cases h1 : compilePolicyReal (litEnv2 req etys ctxT) p with
    | none => simp [h1] at h
    | some c =>
      cases h2 : compilePoliciesReal (litEnv2 req etys ctxT) ps with
      | none => simp [h1, h2] at h
      | some cs' =>
        simp only [h1, h2, Option.some.injEq] at h
        subst h
        rw [compilePolicy_discharged req es etys ctxT hctx p (hf p (by simp)) c h1,
          ih (fun q hq => hf q (by simp [hq])) cs' h2]
        rfl

/-- C18 on the fragment without the compile contract as a hypothesis; the enforcer is not modelled, so `hEnf` stays. -/
theorem vc_skeleton_correct_fragment (etys : List (EntityType × Option (List String)))
    (ctxT : Term) (hctx : ctxT.typeOf.isRecordType = true → CtxOK req.context ctxT)
    (enf : Asserts) (hEnf : EnfTrue enf) (p : Policy) (ps₁ ps₂ : List Policy)
    (hp : SFrag2 p.condition) (h₁ : ∀ q, q ∈ ps₁ → SFrag2 q.condition) (h₂ : ∀ q, q ∈ ps₂ → SFrag2 q.condition)
    (c : CPolicy) (c₁ c₂ : CPolicies)
    (hc : compilePolicyReal (litEnv2 req etys ctxT) p = some c)
    (hc₁ : compilePoliciesReal (litEnv2 req etys ctxT) ps₁ = some c₁)
    (hc₂ : compilePoliciesReal (litEnv2 req etys ctxT) ps₂ = some c₂) :
    let d₁ := (Cedar.isAuthorized req es ps₁).decision
    let d₂ := (Cedar.isAuthorized req es ps₂).decision
    ((policyVCs enf c).neverErrors = false ↔ Errs req es p) ∧
    ((policyVCs enf c).alwaysMatches = true ↔ Sat req es p) ∧
    ((policyVCs enf c).neverMatches = true ↔ ¬ Sat req es p) ∧
    ((setVCs enf c₁).alwaysAllows = true ↔ d₁ = .allow) ∧
    ((setVCs enf c₁).alwaysDenies = true ↔ d₁ = .deny) ∧
    ((pairVCs enf c₁ c₂).implies = true ↔ (d₁ = .allow → d₂ = .allow)) ∧
    ((pairVCs enf c₁ c₂).equivalent = true ↔ d₁ = d₂) ∧
    ((pairVCs enf c₁ c₂).disjoint = true ↔ ¬ (d₁ = .allow ∧ d₂ = .allow)) ∧
    (policyVCsOpt enf c = policyVCs enf c ∧ setVCsOpt enf c₁ = setVCs enf c₁ ∧ pairVCsOpt enf c₁ c₂ = pairVCs enf c₁ c₂) := by
  rw [compilePolicy_discharged req es etys ctxT hctx p hp c hc, compilePolicies_discharged req es etys ctxT hctx ps₁ h₁ c₁ hc₁,
    compilePolicies_discharged req es etys ctxT hctx ps₂ h₂ c₂ hc₂]
  exact vc_skeleton_correct req es enf hEnf p ps₁ ps₂

end Fragment

section FragmentExamples
open Cedar.SymC

instance decEqCResult : DecidableEq CResult := fun a b =>
  match a, b with
  | .ok x, .ok y => if h : x = y then isTrue (by rw [h]) else isFalse (fun h' => h (by injection h'))
  | .error x, .error y => if h : x = y then isTrue (by rw [h]) else isFalse (fun h' => h (by injection h'))
  | .ok _, .error _ => isFalse (fun h => by cases h)
  | .error _, .ok _ => isFalse (fun h => by cases h)

instance decEqCTyRes : DecidableEq (Except CErr TermType) := fun a b =>
  match a, b with
  | .ok x, .ok y => if h : x = y then isTrue (by rw [h]) else isFalse (fun h' => h (by injection h'))
  | .error x, .error y => if h : x = y then isTrue (by rw [h]) else isFalse (fun h' => h (by injection h'))
  | .ok _, .error _ => isFalse (fun h => by cases h)
  | .error _, .ok _ => isFalse (fun h => by cases h)

def exEtys : List (EntityType × Option (List String)) := [("User", none), ("Doc", none), ("Action", some ["view"])]

/-- `if principal == User::"a" then 1 + 2 < 4 else !(true && false)` -/
def exIf : Expr :=
  .ite (.binaryApp .eq (.var .principal) (.lit (.entityUID ⟨"User", "a"⟩)))
    (.binaryApp .less (.binaryApp .add (.lit (.int 1)) (.lit (.int 2))) (.lit (.int 4)))
    (.unaryApp .not (.and (.lit (.bool true)) (.lit (.bool false))))

/-- `9223372036854775807 + 1 == 0` -/
def exOvf : Expr := .binaryApp .eq (.binaryApp .add (.lit (.int 9223372036854775807)) (.lit (.int 1))) (.lit (.int 0))

example : SFrag exIf := inFrag_sound _ (by decide +kernel)
example : SFrag exOvf := inFrag_sound _ (by decide +kernel)
example : compile (litEnv exReq exEtys) exIf = .ok (.some (.prim (.bool true))) := by decide +kernel
example : compile (litEnv exReq exEtys) exOvf = .ok (.none .bool) := by decide +kernel
example : compile (litEnv { exReq with principal := ⟨"User", "b"⟩ } exEtys) exIf = .ok (.some (.prim (.bool true))) := by
  decide +kernel

-- rejections (ill-typed inputs), exactly as compiler.rs decides them:
-- `1 + true`: rejected (evaluate: type error)
example : compile (litEnv exReq exEtys) (.binaryApp .add (.lit (.int 1)) (.lit (.bool true))) = .error .typeError := by
  decide +kernel
-- `false && (1 + true)`: ACCEPTED, `some false` (the right operand's error is never inspected; evaluate: false)
example : compile (litEnv exReq exEtys) (.and (.lit (.bool false)) (.binaryApp .add (.lit (.int 1)) (.lit (.bool true))))
    = .ok (.some (.prim (.bool false))) := by decide +kernel
-- `true && 1`: rejected (evaluate: type error)
example : compile (litEnv exReq exEtys) (.and (.lit (.bool true)) (.lit (.int 1))) = .error .typeError := by decide +kernel
-- `(9223372036854775807 + 1) + true`: rejected although evaluate errors with overflow before the type error
example : compile (litEnv exReq exEtys)
    (.binaryApp .add (.binaryApp .add (.lit (.int 9223372036854775807)) (.lit (.int 1))) (.lit (.bool true)))
    = .error .typeError := by decide +kernel
-- `1 == "a"`: ACCEPTED, `some false` (both types primitive; evaluate: false)
example : compile (litEnv exReq exEtys) (.binaryApp .eq (.lit (.int 1)) (.lit (.string "a")))
    = .ok (.some (.prim (.bool false))) := by decide +kernel
-- `if 1 < 2 then 1 else true`: ACCEPTED, `some 1` (the guard folds to a constant, the other branch is dropped)
example : compile (litEnv exReq exEtys)
    (.ite (.binaryApp .less (.lit (.int 1)) (.lit (.int 2))) (.lit (.int 1)) (.lit (.bool true)))
    = .ok (.some (.prim (.bitvec 1))) := by decide +kernel
-- an entity literal of a type outside the schema / outside an enumerated type: rejected, although evaluate succeeds
example : compile (litEnv exReq exEtys) (.lit (.entityUID ⟨"Ghost", "x"⟩)) = .error .typeError := by decide +kernel
example : compile (litEnv exReq exEtys) (.lit (.entityUID ⟨"Action", "edit"⟩)) = .error .typeError := by decide +kernel

/-! non-vacuity of `compile_correct_fragment2`: a request with context `{m: 5, n: 1}` for the context type
    `{m?: Long, n: Long, s?: String}`; the context term is what `ctxTermOf` (= `Term::from_value`) builds -/
def exReq2 : Request := { exReq with context := [("m", .prim (.int 5)), ("n", .prim (.int 1))] }
def exCtxT : Term :=
  .recCons "m" (.some (.prim (.bitvec 5))) (.recCons "n" (.prim (.bitvec 1)) (.recCons "s" (.none .string) .recNil))
/-- `context has m && context.m + 1 < context.n + 9` and `context.s == "x"` (absent optional attribute) -/
def exCtxE : Expr :=
  .and (.hasAttr (.var .context) "m")
    (.binaryApp .less (.binaryApp .add (.getAttr (.var .context) "m") (.lit (.int 1)))
      (.binaryApp .add (.getAttr (.var .context) "n") (.lit (.int 9))))
def exCtxS : Expr := .binaryApp .eq (.getAttr (.var .context) "s") (.lit (.string "x"))

example : ctxTermOf exReq2.context [("m", .long, false), ("n", .long, true), ("s", .string, false)] = some exCtxT := by
  decide +kernel
example : CtxOK exReq2.context exCtxT := by
  obtain ⟨t, ht, hok⟩ := ctxTermOf_ctxOK exReq2.context [("m", .long, false), ("n", .long, true), ("s", .string, false)]
    (FlatConforms.of_check (by decide +kernel))
  cases ht.symm.trans (by decide +kernel : ctxTermOf exReq2.context _ = some exCtxT)
  exact hok
example : FlatConforms exReq2.context [("m", .long, false), ("n", .long, true), ("s", .string, false)] :=
  FlatConforms.of_check (by decide +kernel)
example : SFrag2 exCtxE := inFrag2_sound _ (by decide +kernel)
example : compile (litEnv2 exReq2 exEtys exCtxT) exCtxE = .ok (.some (.prim (.bool true))) := by decide +kernel
example : compile (litEnv2 exReq2 exEtys exCtxT) exCtxS = .ok (.none .bool) := by decide +kernel
example : compile (litEnv2 exReq2 exEtys exCtxT) (.var .context) = .ok (.some exCtxT) := by decide +kernel
-- an attribute the context type does not declare: `has` folds to false, `.` is rejected (NoSuchAttribute)
example : compile (litEnv2 exReq2 exEtys exCtxT) (.hasAttr (.var .context) "zz") = .ok (.some (.prim (.bool false))) := by
  decide +kernel
example : compile (litEnv2 exReq2 exEtys exCtxT) (.getAttr (.var .context) "zz") = .error .noSuchAttr := by decide +kernel
-- attribute access on an entity-typed term is outside the model
example : compile (litEnv2 exReq2 exEtys exCtxT) (.getAttr (.var .principal) "name") = .error .outside := by decide +kernel

-- the two rejection examples above FOLLOW from `compile_rejects_iff` by computing `ctype` (no compilation):
-- `false && (1 + true)`: `ctype` accepts (the constant guard `false` discards the ill-typed operand) …
example : ctype exReq exEs [] (litEnv exReq exEtys)
    (.and (.lit (.bool false)) (.binaryApp .add (.lit (.int 1)) (.lit (.bool true)))) = .ok (.option .bool) := by
  decide +kernel
example : ∃ t, compile (litEnv exReq exEtys)
    (.and (.lit (.bool false)) (.binaryApp .add (.lit (.int 1)) (.lit (.bool true)))) = .ok t :=
  ((compile_rejects_iff exReq exEs [] exEtys (.prim (.bool false))
    (by simp [Term.typeOf, TermPrim.typeOf, TermType.isRecordType]) _
    (inFrag2_sound _ (by decide +kernel))).2).mpr ⟨.option .bool, by decide +kernel⟩
-- … `(MAX + 1) + true`: `ctype` rejects (the overflowing operand is not a CONSTANT guard position; `+` checks both types)
example : compile (litEnv exReq exEtys)
    (.binaryApp .add (.binaryApp .add (.lit (.int 9223372036854775807)) (.lit (.int 1))) (.lit (.bool true)))
    = .error .typeError :=
  ((compile_rejects_iff exReq exEs [] exEtys (.prim (.bool false))
    (by simp [Term.typeOf, TermPrim.typeOf, TermType.isRecordType]) _
    (inFrag2_sound _ (by decide +kernel))).1 _).mpr (by decide +kernel)
-- `context.zz` (undeclared): `NoSuchAttribute`;  `principal.name`: outside the model — both read off `ctype`
example : ctype exReq2 exEs [] (litEnv2 exReq2 exEtys exCtxT) (.getAttr (.var .context) "zz") = .error .noSuchAttr := by
  decide +kernel
example : ctype exReq2 exEs [] (litEnv2 exReq2 exEtys exCtxT) (.getAttr (.var .principal) "name") = .error .outside := by
  decide +kernel
example : ctype exReq2 exEs [] (litEnv2 exReq2 exEtys exCtxT) exCtxE = .ok (.option .bool) := by decide +kernel

-- `like` / `is` (in `SFrag2`): folded by `string_like` / `compile_is`, `none` on an erroring operand,
-- `TypeError` on an operand of another type
example : SFrag2 (.like (.lit (.string "x y")) [.char 'x', .star]) := inFrag2_sound _ (by decide +kernel)
example : compile (litEnv exReq exEtys) (.like (.lit (.string "x y")) [.char 'x', .star]) = .ok (.some (.prim (.bool true))) := by
  decide +kernel
example : compile (litEnv exReq exEtys) (.like (.lit (.string "x*")) [.char 'x', .char '*', .char 'z']) = .ok (.some (.prim (.bool false))) := by
  decide +kernel
example : compile (litEnv exReq exEtys) (.like (.lit (.int 1)) [.star]) = .error .typeError := by decide +kernel
example : compile (litEnv2 exReq2 exEtys exCtxT) (.like (.getAttr (.var .context) "s") [.star]) = .ok (.none .bool) := by
  decide +kernel
example : compile (litEnv exReq exEtys) (.is (.var .principal) "User") = .ok (.some (.prim (.bool true))) := by decide +kernel
example : compile (litEnv exReq exEtys) (.is (.var .principal) "Doc") = .ok (.some (.prim (.bool false))) := by decide +kernel
example : compile (litEnv exReq exEtys) (.is (.lit (.string "a")) "User") = .error .typeError := by decide +kernel
example : ctype exReq exEs [] (litEnv exReq exEtys) (.is (.lit (.string "a")) "User") = .error .typeError := by decide +kernel

/-- permit when exIf;  forbid when exOvf (errors) -/
def pIf : Policy := { id := "q0", effect := .permit, condition := exIf, env := [] }
def pOvf : Policy := { id := "q1", effect := .forbid, condition := exOvf, env := [] }

example : compilePolicyReal (litEnv exReq exEtys) pIf = some { effect := .permit, term := some true } := by decide +kernel
example : compilePolicyReal (litEnv exReq exEtys) pOvf = some { effect := .forbid, term := none } := by decide +kernel
example : compilePoliciesReal (litEnv exReq exEtys) [pIf, pOvf]
    = some [{ effect := .permit, term := some true }, { effect := .forbid, term := none }] := by decide +kernel
example : pOvf.outcome exReq exEs = .err := by decide +kernel

example : setSubset (setOf [.prim (.bitvec 2), .prim (.bitvec 2)] .bitvec64) (setOf [.prim (.bitvec 1), .prim (.bitvec 2)] .bitvec64) = tTrue := by
  decide +kernel
example : setIntersects (setOf [.prim (.bitvec 3)] .bitvec64) (setOf [.prim (.bitvec 1), .prim (.bitvec 2)] .bitvec64) = tFalse := by
  decide +kernel
example : setMember (.prim (.bitvec 2)) (setOf [.prim (.bitvec 1), .prim (.bitvec 2), .prim (.bitvec 2)] .bitvec64) = tTrue := by
  decide +kernel

def exSet (is : List Int) : Expr := .set (is.map (fun i => .lit (.int i)))
def exMax1 : Expr := .binaryApp .add (.lit (.int 9223372036854775807)) (.lit (.int 1))

example : SFrag3 (.binaryApp .contains (exSet [1, 2, 2, 1]) (.lit (.int 2))) := inFrag3_sound _ (by decide +kernel)
-- duplicates and order disappear in the canonical form, which is well-formed (strictly sorted)
example : compile (litEnv exReq exEtys) (exSet [2, 1, 2])
    = .ok (.some (.setCons (.prim (.bitvec 1)) (.setCons (.prim (.bitvec 2)) (.setNil .bitvec64)))) := by decide +kernel
example : setWF (.setCons (.prim (.bitvec 1)) (.setCons (.prim (.bitvec 2)) (.setNil .bitvec64))) = true := by decide +kernel
example : compile (litEnv exReq exEtys) (.binaryApp .contains (exSet [1, 2, 2, 1]) (.lit (.int 2))) = .ok (.some tTrue) := by
  decide +kernel
-- an erroring element makes the whole set `none` (`if_all_some`)
example : compile (litEnv exReq exEtys) (.binaryApp .contains (.set [.lit (.int 1), exMax1]) (.lit (.int 1)))
    = .ok (.none .bool) := by decide +kernel
example : evaluate exReq exEs [] (.binaryApp .contains (.set [.lit (.int 1), exMax1]) (.lit (.int 1))) = .error .overflow := by
  rfl
example : compile (litEnv exReq exEtys) (.binaryApp .eq (exSet [3, 1, 2]) (exSet [2, 3, 1, 1])) = .ok (.some tTrue) := by
  decide +kernel
example : compile (litEnv exReq exEtys) (.binaryApp .eq (exSet [-1, 1]) (exSet [1])) = .ok (.some tFalse) := by decide +kernel
-- `a.containsAll(b)` is `set_subset(b, a)`
example : compile (litEnv exReq exEtys) (.binaryApp .containsAll (exSet [1, 2]) (exSet [2, 2])) = .ok (.some tTrue) := by
  decide +kernel
example : compile (litEnv exReq exEtys) (.binaryApp .containsAll (exSet [2, 2]) (exSet [1, 2])) = .ok (.some tFalse) := by
  decide +kernel
example : compile (litEnv exReq exEtys) (.binaryApp .containsAny (exSet [1, 2]) (exSet [3, 2])) = .ok (.some tTrue) := by
  decide +kernel
example : compile (litEnv exReq exEtys) (.binaryApp .containsAny (exSet [1, 2]) (exSet [3, 4])) = .ok (.some tFalse) := by
  decide +kernel
example : compile (litEnv exReq exEtys) (.unaryApp .isEmpty (exSet [1])) = .ok (.some tFalse) := by decide +kernel
-- rejected: the empty set literal (`UnsupportedFeature`), mixed element types, `contains` with another element type
example : compile (litEnv exReq exEtys) (.set []) = .error .unsupported := by decide +kernel
example : compile (litEnv exReq exEtys) (.set [.lit (.int 1), .lit (.string "x")]) = .error .typeError := by decide +kernel
example : compile (litEnv exReq exEtys) (.binaryApp .contains (exSet [1]) (.lit (.string "x"))) = .error .typeError := by
  decide +kernel
example : compile (litEnv exReq exEtys) (.unaryApp .isEmpty (.lit (.int 1))) = .error .typeError := by decide +kernel

end FragmentExamples

end Cedar.C18
