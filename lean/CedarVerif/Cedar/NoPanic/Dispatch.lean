import CedarVerif.Cedar.Eval
/-
C20 mirror of the two-level operator dispatch of the `BinaryApp` arm of `Evaluator::partial_interpret_internal`
(cedar-policy-core/src/evaluator.rs) on two *values*, with the three `unreachable!("Should have already checked that op
was one of these")` sites kept as explicit `.panic site` outcomes:

* `pub fn binary_relation(op, arg1, arg2, extensions)`: `match op { Eq => …, Less | LessEq => …, _ => unreachable!() }`
* `pub fn binary_arith(op, arg1, arg2, loc)`: `arg1.get_as_long()?; arg2.get_as_long()?;` then
  `match op { Add => …, Sub => …, Mul => …, _ => unreachable!() }`
* the `GetTag | HasTag` arm: `arg1.get_as_entity()?; arg2.get_as_string()?;` then
  `match op { GetTag => …, HasTag => …, _ => unreachable!() }`

`binary_relation` and `binary_arith` are public functions: called directly with another operator they DO panic
(`binary_relation_panics_iff`, `binary_arith_panics_iff` in Thm/C20.lean); the evaluator's outer `match op` is what
makes the sites unreachable.  The arms without a site reuse `applyBinary` of the concrete evaluator model (`Cedar/Eval.lean`).
Imports only model files.
-/
namespace Cedar
namespace NoPanic

inductive EvOutcome where
  | ret (r : Result Value)
  | panic (site : String)
deriving Repr

/-- `pub fn binary_relation` -/
def binaryRelation (op : BinaryOp) (v1 v2 : Value) : EvOutcome :=
  match op with
  | .eq => .ret (.ok (.prim (.bool (Value.beq v1 v2))))
  | .less | .lessEq =>
    -- `let long_op = if matches!(op, BinaryOp::Less) { |x, y| x < y } else { |x, y| x <= y };` (same for `ext_op`)
    .ret (applyCmp (op == .less) v1 v2)
  | _ => .panic "binary_relation: unreachable!(\"Should have already checked that op was one of these\")"

/-- `pub fn binary_arith` -/
def binaryArith (op : BinaryOp) (v1 v2 : Value) : EvOutcome :=
  match v1.asInt with
  | .error e => .ret (.error e)
  | .ok i1 =>
    match v2.asInt with
    | .error e => .ret (.error e)
    | .ok i2 =>
      match op with
      | .add => .ret (intOrErr (i1 + i2))
      | .sub => .ret (intOrErr (i1 - i2))
      | .mul => .ret (intOrErr (i1 * i2))
      | _ => .panic "binary_arith: unreachable!(\"Should have already checked that op was one of these\")"

/-- the `BinaryOp::GetTag | BinaryOp::HasTag` arm (concrete store: `Dereference::Residual` does not occur) -/
def tagArm (es : Entities) (op : BinaryOp) (v1 v2 : Value) : EvOutcome :=
  match v1.asEntity with
  | .error e => .ret (.error e)
  | .ok u =>
    match v2.asString with
    | .error e => .ret (.error e)
    | .ok t =>
      match op with
      | .getTag =>
        .ret (match es.find? u with
          | none => .error .entity
          | some d => match lookupKV d.tags t with
            | some v => .ok v
            | none => .error .attr)
      | .hasTag =>
        .ret (match es.find? u with
          | none => .ok (.prim (.bool false))
          | some d => .ok (.prim (.bool (lookupKV d.tags t).isSome)))
      | _ => .panic "GetTag|HasTag arm: unreachable!(\"Should have already checked that op was one of these\")"

/-- the outer `match op` of the `BinaryApp` arm, both operands being values -/
def binaryDispatch (es : Entities) (op : BinaryOp) (v1 v2 : Value) : EvOutcome :=
  match op with
  | .eq | .less | .lessEq => binaryRelation op v1 v2
  | .add | .sub | .mul => binaryArith op v1 v2
  | .mem => .ret (applyBinary es .mem v1 v2)
  | .contains => .ret (applyBinary es .contains v1 v2)
  | .containsAll => .ret (applyBinary es .containsAll v1 v2)
  | .containsAny => .ret (applyBinary es .containsAny v1 v2)
  | .getTag | .hasTag => tagArm es op v1 v2

end NoPanic
end Cedar
