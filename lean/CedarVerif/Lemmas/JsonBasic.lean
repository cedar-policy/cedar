import CedarVerif.Cedar.Json.Value
import CedarVerif.Lemmas.Data
/-
C10: well-formedness of values (what a Rust `Value` guarantees: i64 longs, `BTreeMap` records), reserved keys, a decidable
structural equality test on values; `sortKVs` and `hasDup` on key-sorted lists (`Sorted`, from `Lemmas/Data`).
-/
namespace Cedar
namespace CJson

theorem sortKVs_sorted {α} (kvs : List (String × α)) (hs : Sorted (kvs.map Prod.fst)) : sortKVs kvs = kvs := by
  have := foldl_insertKV_sorted kvs [] (by simpa using hs)
  simpa [sortKVs] using this

theorem hasDup_sorted (ks : List String) (hs : Sorted ks) : hasDup ks = false := by
  induction ks with
  | nil => rfl
  | cons k rest ih =>
    simp only [hasDup, Bool.or_eq_false_iff]
    refine ⟨?_, ih hs.2⟩
    have := Sorted.not_mem hs
    simpa using this

mutual
/-- what every Rust `Value` satisfies: longs are i64, entity type names are `Name`s, records are `BTreeMap`s
    (strictly key-sorted); the payloads of extension values are left free (their ranges are asked for where a leaf is
    rendered and parsed back) -/
def WF : Value → Prop
  | .prim (.int i) => inI64 i = true
  | .prim (.entityUID u) => validName u.ty = true
  | .prim _ => True
  | .ext _ => True
  | .set vs => WFList vs
  | .record kvs => WFKVs kvs ∧ Sorted (kvs.map Prod.fst)
def WFList : List Value → Prop
  | [] => True
  | v :: vs => WF v ∧ WFList vs
def WFKVs : List (String × Value) → Prop
  | [] => True
  | (_, v) :: kvs => WF v ∧ WFKVs kvs
end

mutual
def hasReserved : Value → Bool
  | .set vs => hasReservedList vs
  | .record kvs => hasReservedKey kvs || hasReservedKVs kvs
  | _ => false
def hasReservedList : List Value → Bool
  | [] => false
  | v :: vs => hasReserved v || hasReservedList vs
def hasReservedKVs : List (String × Value) → Bool
  | [] => false
  | (_, v) :: kvs => hasReserved v || hasReservedKVs kvs
end

mutual
def AllExt (P : Ext → Prop) : Value → Prop
  | .ext x => P x
  | .prim _ => True
  | .set vs => AllExtList P vs
  | .record kvs => AllExtKVs P kvs
def AllExtList (P : Ext → Prop) : List Value → Prop
  | [] => True
  | v :: vs => AllExt P v ∧ AllExtList P vs
def AllExtKVs (P : Ext → Prop) : List (String × Value) → Prop
  | [] => True
  | (_, v) :: kvs => AllExt P v ∧ AllExtKVs P kvs
end

mutual
/-- `Value` is a nested inductive type without `DecidableEq`; this structural test, with its soundness, lets the
    kernel settle `x = .ok v` for closed test vectors by evaluation alone -/
def Value.same : Value → Value → Bool
  | .prim p, .prim q => decide (p = q)
  | .ext x, .ext y => decide (x = y)
  | .set vs, .set ws => Value.sameList vs ws
  | .record kvs, .record kws => Value.sameKVs kvs kws
  | _, _ => false
def Value.sameList : List Value → List Value → Bool
  | [], [] => true
  | v :: vs, w :: ws => Value.same v w && Value.sameList vs ws
  | _, _ => false
def Value.sameKVs : List (String × Value) → List (String × Value) → Bool
  | [], [] => true
  | (k, v) :: kvs, (l, w) :: kws => decide (k = l) && Value.same v w && Value.sameKVs kvs kws
  | _, _ => false
end

mutual
theorem Value.same_eq : ∀ (a b : Value), Value.same a b = true → a = b
  | .prim p, b, h => by
    cases b <;> simp only [Value.same, decide_eq_true_eq, Bool.false_eq_true] at h
    rw [h]
  | .ext x, b, h => by
    cases b <;> simp only [Value.same, decide_eq_true_eq, Bool.false_eq_true] at h
    rw [h]
  | .set vs, b, h => by
    cases b <;> simp only [Value.same, Bool.false_eq_true] at h
    rw [Value.sameList_eq vs _ h]
  | .record kvs, b, h => by
    cases b <;> simp only [Value.same, Bool.false_eq_true] at h
    rw [Value.sameKVs_eq kvs _ h]
theorem Value.sameList_eq : ∀ (as bs : List Value), Value.sameList as bs = true → as = bs
  | [], bs, h => by
    cases bs <;> simp only [Value.sameList, Bool.false_eq_true] at h
    rfl
  | v :: vs, bs, h => by
    cases bs <;> simp only [Value.sameList, Bool.and_eq_true, Bool.false_eq_true] at h
    rw [Value.same_eq v _ h.1, Value.sameList_eq vs _ h.2]
theorem Value.sameKVs_eq : ∀ (as bs : List (String × Value)), Value.sameKVs as bs = true → as = bs
  | [], bs, h => by
    cases bs <;> simp only [Value.sameKVs, Bool.false_eq_true] at h
    rfl
  | (k, v) :: kvs, bs, h => by
    cases bs with
    | nil => simp only [Value.sameKVs, Bool.false_eq_true] at h
    | cons p kws =>
      obtain ⟨l, w⟩ := p
      simp only [Value.sameKVs, Bool.and_eq_true, decide_eq_true_eq] at h
      rw [h.1.1, Value.same_eq v _ h.1.2, Value.sameKVs_eq kvs _ h.2]
end

theorem ok_of_same {ε} {x : Except ε Value} {v : Value}
    (h : (match x with | .ok w => Value.same w v | .error _ => false) = true) : x = .ok v := by
  cases x with
  | error e => cases h
  | ok w => rw [Value.same_eq w v h]

end CJson
end Cedar
