import CedarVerif.Lemmas.TypecheckBasic
import CedarVerif.Lemmas.TypecheckRules
/-
C03: the typing judgment.  `HasType m s env e caps τ c` is the relation "`typeOf m s env e caps` answers `ok (τ, c)`" given
by rules: one rule per way a construct can be typed, each naming the typings of exactly those operands the typechecker
visited, under the capabilities it visited them with (`b` of `a && b` under `caps ∪ ca`, and not at all when `a` is typed
`False`; one branch of an `if` whose test is typed `True` / `False`).  Proofs about typed expressions are inductions on the
derivation; `cases` on a derivation inverts a typing; the rules in another mode or environment are its constructors.
-/
namespace Cedar

variable {m : ValidationMode} {s : Schema} {env : RequestEnv}

/-- `HasType m s env e caps τ c`: the typechecker types `e` under the prior capabilities `caps` with `τ`, producing `c` -/
inductive HasType (m : ValidationMode) (s : Schema) (env : RequestEnv) : Expr → Capabilities → CedarType → Capabilities → Prop
  | lit {p caps τ} : litType s p = some τ → HasType m s env (.lit p) caps τ []
  | var {v caps τ} : varType s env v = some τ → HasType m s env (.var v) caps τ []
  | slot {x caps τ} : slotType env x = τ → HasType m s env (.slot x) caps τ []
  | iteTrue {c t e caps cc τt ct} : HasType m s env c caps (.bool .tt) cc → HasType m s env t (caps.union cc) τt ct →
      HasType m s env (.ite c t e) caps τt (ct.union cc)
  | iteFalse {c t e caps cc τe ce} : HasType m s env c caps (.bool .ff) cc → HasType m s env e caps τe ce →
      HasType m s env (.ite c t e) caps τe ce
  | ite {c t e caps τc cc τt ct τe ce τ} : HasType m s env c caps τc cc →
      Boolish τc → τc.isTrue = false → τc.isFalse = false →
      HasType m s env t (caps.union cc) τt ct → HasType m s env e caps τe ce → lub m τt τe = some τ →
      HasType m s env (.ite c t e) caps τ (ce.inter (ct.union cc))
  | andFalse {a b caps ca} : HasType m s env a caps (.bool .ff) ca → HasType m s env (.and a b) caps (.bool .ff) []
  | and {a b caps τa ca τb cb} : HasType m s env a caps τa ca →
      Boolish τa → τa.isFalse = false →
      HasType m s env b (caps.union ca) τb cb → Boolish τb →
      HasType m s env (.and a b) caps (andType τa τb) (andCaps τa τb ca cb)
  | orTrue {a b caps ca} : HasType m s env a caps (.bool .tt) ca → HasType m s env (.or a b) caps (.bool .tt) ca
  | or {a b caps τa ca τb cb} : HasType m s env a caps τa ca →
      Boolish τa → τa.isTrue = false →
      HasType m s env b caps τb cb → Boolish τb →
      HasType m s env (.or a b) caps (orType τa τb) (orCaps τa τb ca cb)
  | unary {op a caps τa ca τ c} : HasType m s env a caps τa ca → unaryRule op τa = .ok (τ, c) →
      HasType m s env (.unaryApp op a) caps τ c
  | binary {op a b caps τa ca τb cb τ c} : HasType m s env a caps τa ca → HasType m s env b caps τb cb →
      binaryRule m s env op a b caps τa τb = .ok (τ, c) →
      HasType m s env (.binaryApp op a b) caps τ c
  | getAttr {e a caps τe ce τ c} : HasType m s env e caps τe ce →
      getAttrRule s e a caps τe = .ok (τ, c) → HasType m s env (.getAttr e a) caps τ c
  | hasAttr {e a caps τe ce τ c} : HasType m s env e caps τe ce →
      hasAttrRule s e a caps τe = .ok (τ, c) → HasType m s env (.hasAttr e a) caps τ c
  | like {e p caps τe ce} : HasType m s env e caps τe ce → [CedarType.string].any (fun t => isSubtype .permissive τe t) = true →
      HasType m s env (.like e p) caps boolT []
  | is {e ty caps τe ce τ c} : HasType m s env e caps τe ce →
      isRule ty τe = .ok (τ, c) → HasType m s env (.is e ty) caps τ c
  -- the list constructs: a typing of each element is named through the answer `typeOf` gives for it, so a derivation does not
  -- choose the element types; `typeOfList` / `typeOfKVs` list them in order
  | call {fn args caps τs τ c} : (∀ x, x ∈ args → ∀ τx cx, typeOf m s env x caps = .ok (τx, cx) → HasType m s env x caps τx cx) →
      typeOfList m s env args caps = .ok τs → callRule m fn args τs = .ok (τ, c) →
      HasType m s env (.call fn args) caps τ c
  | set {es caps τs τ} : (∀ x, x ∈ es → ∀ τx cx, typeOf m s env x caps = .ok (τx, cx) → HasType m s env x caps τx cx) →
      typeOfList m s env es caps = .ok τs → (m.isStrict && es.isEmpty) = false → lubAll m τs = some τ →
      HasType m s env (.set es) caps (.set (some τ)) []
  | record {kvs caps attrs} :
      (∀ kv, kv ∈ kvs → ∀ τx cx, typeOf m s env kv.2 caps = .ok (τx, cx) → HasType m s env kv.2 caps τx cx) →
      typeOfKVs m s env kvs caps = .ok attrs → HasType m s env (.record kvs) caps (.record attrs false) []

theorem expect_bool_ok {r : TcResult} {τ : CedarType} {c : Capabilities} (h : expectOneOf r [boolT] = .ok (τ, c)) :
    r = .ok (τ, c) ∧ Boolish τ :=
  (expectOneOf_ok h).imp_right subtype_bool

mutual
theorem typeOf_hasType : ∀ (e : Expr) (caps : Capabilities) (τ : CedarType) (c : Capabilities),
    typeOf m s env e caps = .ok (τ, c) → HasType m s env e caps τ c
  | .lit _, _, _, _, h => by obtain ⟨hl, rfl⟩ := typeOf_lit_ok.mp h; exact .lit hl
  | .var _, _, _, _, h => by obtain ⟨hv, rfl⟩ := typeOf_var_ok.mp h; exact .var hv
  | .slot x, caps, _, _, h => by rw [typeOf_slot] at h; cases h; exact .slot rfl
  | .unknown _ _, _, _, _, h => by simp [typeOf] at h
  | .ite c t e, caps, τ, c', h => by
    simp only [typeOf] at h
    cases hC : expectOneOf (typeOf m s env c caps) [boolT] with
    | error err => rw [hC] at h; cases h
    | ok pc =>
      obtain ⟨τc, cc⟩ := pc
      rw [hC] at h; simp only at h
      obtain ⟨htc, hsc⟩ := expect_bool_ok hC
      have dc := typeOf_hasType c caps τc cc htc
      cases hT : τc.isTrue with
      | true =>
        simp only [hT, if_true] at h
        have := isTrue_eq hT; subst this
        cases hTt : typeOf m s env t (caps.union cc) with
        | error err => rw [hTt] at h; cases h
        | ok pt =>
          rw [hTt] at h; simp only [Except.ok.injEq, Prod.mk.injEq] at h; obtain ⟨rfl, rfl⟩ := h
          exact .iteTrue dc (typeOf_hasType t _ _ _ hTt)
      | false =>
        simp only [hT, Bool.false_eq_true, if_false] at h
        cases hF : τc.isFalse with
        | true =>
          simp only [hF, if_true] at h
          have := isFalse_eq hF; subst this
          exact .iteFalse dc (typeOf_hasType e _ _ _ h)
        | false =>
          simp only [hF, Bool.false_eq_true, if_false] at h
          obtain ⟨τt, ct, τe, ce, hTt, hTe, hk⟩ := both_ok h
          cases hl : lub m τt τe with
          | none => rw [hl] at hk; cases hk
          | some τl =>
            rw [hl] at hk; simp only [Except.ok.injEq, Prod.mk.injEq] at hk; obtain ⟨rfl, rfl⟩ := hk
            exact .ite dc hsc hT hF (typeOf_hasType t _ _ _ hTt) (typeOf_hasType e _ _ _ hTe) hl
  | .and a b, caps, τ, c', h => by
    simp only [typeOf] at h
    cases hA : expectOneOf (typeOf m s env a caps) [boolT] with
    | error err => rw [hA] at h; cases h
    | ok pa =>
      obtain ⟨τa, ca⟩ := pa
      rw [hA] at h; simp only at h
      obtain ⟨hta, hsa⟩ := expect_bool_ok hA
      have da := typeOf_hasType a caps τa ca hta
      cases hF : τa.isFalse with
      | true =>
        simp only [hF, if_true, ok, Except.ok.injEq, Prod.mk.injEq] at h; obtain ⟨rfl, rfl⟩ := h
        have := isFalse_eq hF; subst this
        exact .andFalse da
      | false =>
        simp only [hF, Bool.false_eq_true, if_false] at h
        cases hB : expectOneOf (typeOf m s env b (caps.union ca)) [boolT] with
        | error err => rw [hB] at h; cases h
        | ok pb =>
          obtain ⟨τb, cb⟩ := pb
          rw [hB] at h; simp only [Except.ok.injEq, Prod.mk.injEq] at h; obtain ⟨rfl, rfl⟩ := h
          obtain ⟨htb, hsb⟩ := expect_bool_ok hB
          exact .and da hsa hF (typeOf_hasType b _ _ _ htb) hsb
  | .or a b, caps, τ, c', h => by
    simp only [typeOf] at h
    cases hA : expectOneOf (typeOf m s env a caps) [boolT] with
    | error err => rw [hA] at h; cases h
    | ok pa =>
      obtain ⟨τa, ca⟩ := pa
      rw [hA] at h; simp only at h
      obtain ⟨hta, hsa⟩ := expect_bool_ok hA
      have da := typeOf_hasType a caps τa ca hta
      cases hT : τa.isTrue with
      | true =>
        simp only [hT, if_true, Except.ok.injEq, Prod.mk.injEq] at h; obtain ⟨rfl, rfl⟩ := h
        have := isTrue_eq hT; subst this
        exact .orTrue da
      | false =>
        simp only [hT, Bool.false_eq_true, if_false] at h
        cases hB : expectOneOf (typeOf m s env b caps) [boolT] with
        | error err => rw [hB] at h; cases h
        | ok pb =>
          obtain ⟨τb, cb⟩ := pb
          rw [hB] at h; simp only [Except.ok.injEq, Prod.mk.injEq] at h; obtain ⟨rfl, rfl⟩ := h
          obtain ⟨htb, hsb⟩ := expect_bool_ok hB
          exact .or da hsa hT (typeOf_hasType b _ _ _ htb) hsb
  | .unaryApp op a, caps, τ, c', h => by
    rw [typeOf_unary] at h
    obtain ⟨τa, ca, hta, hr⟩ := TcResult.andThen_ok h
    exact .unary (typeOf_hasType a caps τa ca hta) hr
  | .binaryApp op a b, caps, τ, c', h => by
    rw [typeOf_binary] at h
    obtain ⟨τa, ca, τb, cb, hta, htb, hr⟩ := both_ok h
    exact .binary (typeOf_hasType a caps τa ca hta) (typeOf_hasType b caps τb cb htb) hr
  | .getAttr e a, caps, τ, c', h => by
    rw [typeOf_getAttr] at h
    obtain ⟨τe, ce, hte, hr⟩ := TcResult.andThen_ok h
    exact .getAttr (typeOf_hasType e caps τe ce hte) hr
  | .hasAttr e a, caps, τ, c', h => by
    rw [typeOf_hasAttr] at h
    obtain ⟨τe, ce, hte, hr⟩ := TcResult.andThen_ok h
    exact .hasAttr (typeOf_hasType e caps τe ce hte) hr
  | .like e p, caps, τ, c', h => by
    simp only [typeOf] at h
    cases hE : expectOneOf (typeOf m s env e caps) [.string] with
    | error err => rw [hE] at h; cases h
    | ok pe =>
      obtain ⟨τe, ce⟩ := pe
      rw [hE] at h; simp only [ok, Except.ok.injEq, Prod.mk.injEq] at h; obtain ⟨rfl, rfl⟩ := h
      obtain ⟨hte, hse⟩ := expectOneOf_ok hE
      exact .like (typeOf_hasType e caps τe ce hte) hse
  | .is e ty, caps, τ, c', h => by
    rw [typeOf_is] at h
    obtain ⟨τe, ce, hte, hr⟩ := TcResult.andThen_ok h
    exact .is (typeOf_hasType e caps τe ce hte) hr
  | .call fn args, caps, τ, c', h => by
    rw [typeOf_call] at h
    cases hL : typeOfList m s env args caps with
    | error err => rw [hL] at h; cases h
    | ok τs => rw [hL] at h; exact .call (typeOfList_hasType args caps) hL h
  | .set es, caps, τ, c', h => by
    simp only [typeOf] at h
    cases hL : typeOfList m s env es caps with
    | error err => rw [hL] at h; cases h
    | ok τs =>
      rw [hL] at h; simp only at h
      split at h
      · cases h
      · rename_i hne
        cases hlub : lubAll m τs with
        | none => rw [hlub] at h; cases h
        | some τ' =>
          rw [hlub] at h
          simp only [ok, Except.ok.injEq, Prod.mk.injEq] at h; obtain ⟨rfl, rfl⟩ := h
          exact .set (typeOfList_hasType es caps) hL (by simpa using hne) hlub
  | .record kvs, caps, τ, c', h => by
    simp only [typeOf] at h
    cases hL : typeOfKVs m s env kvs caps with
    | error err => rw [hL] at h; cases h
    | ok attrs =>
      rw [hL] at h
      simp only [ok, Except.ok.injEq, Prod.mk.injEq] at h; obtain ⟨rfl, rfl⟩ := h
      exact .record (typeOfKVs_hasType kvs caps) hL
termination_by structural e => e
theorem typeOfList_hasType : ∀ (es : List Expr) (caps : Capabilities) (x : Expr), x ∈ es → ∀ τx cx,
    typeOf m s env x caps = .ok (τx, cx) → HasType m s env x caps τx cx
  | [], _, _, hx => nomatch hx
  | e :: es, caps, x, hx => fun τx cx ht =>
    match List.mem_cons.mp hx with
    | .inl h => by rw [h] at ht ⊢; exact typeOf_hasType e caps τx cx ht
    | .inr h => typeOfList_hasType es caps x h τx cx ht
termination_by structural es => es
theorem typeOfKVs_hasType : ∀ (kvs : List (String × Expr)) (caps : Capabilities) (kv : String × Expr), kv ∈ kvs → ∀ τx cx,
    typeOf m s env kv.2 caps = .ok (τx, cx) → HasType m s env kv.2 caps τx cx
  | [], _, _, hx => nomatch hx
  | (k, e) :: es, caps, x, hx => fun τx cx ht =>
    match List.mem_cons.mp hx with
    | .inl h => by rw [h] at ht ⊢; exact typeOf_hasType e caps τx cx ht
    | .inr h => typeOfKVs_hasType es caps x h τx cx ht
termination_by structural kvs => kvs
end

theorem Boolish.expect {τ : CedarType} (h : Boolish τ) (c : Capabilities) :
    expectOneOf (.ok (τ, c)) [boolT] = .ok (τ, c) := by
  apply expectOneOf_of
  rcases h with rfl | ⟨bt, rfl⟩
  · simp [boolT, isSubtype]
  · cases bt <;> simp [boolT, isSubtype]

theorem HasType.typeOf_eq {e : Expr} {caps : Capabilities} {τ : CedarType} {c : Capabilities}
    (h : HasType m s env e caps τ c) : typeOf m s env e caps = .ok (τ, c) := by
  induction h with
  | lit h => exact typeOf_lit_ok.mpr ⟨h, rfl⟩
  | var h => exact typeOf_var_ok.mpr ⟨h, rfl⟩
  | slot h => rw [typeOf_slot, h]; rfl
  | iteTrue _ _ ihc iht =>
    simp only [typeOf, ihc, Boolish.expect (Or.inr ⟨_, rfl⟩), CedarType.isTrue, if_true, iht]
  | iteFalse _ _ ihc ihe =>
    simp only [typeOf, ihc, Boolish.expect (Or.inr ⟨_, rfl⟩), CedarType.isTrue, CedarType.isFalse, Bool.false_eq_true,
      if_false, if_true, ihe]
  | ite _ hsc hT hF _ _ hl ihc iht ihe =>
    simp only [typeOf, ihc, hsc.expect, hT, hF, Bool.false_eq_true, if_false, iht, ihe, both, hl]
  | andFalse _ iha =>
    simp only [typeOf, iha, Boolish.expect (Or.inr ⟨_, rfl⟩), CedarType.isFalse, if_true, ok]
  | and _ hsa hF _ hsb iha ihb =>
    simp only [typeOf, iha, hsa.expect, hF, Bool.false_eq_true, if_false, ihb, hsb.expect]
  | orTrue _ iha =>
    simp only [typeOf, iha, Boolish.expect (Or.inr ⟨_, rfl⟩), CedarType.isTrue, if_true]
  | or _ hsa hT _ hsb iha ihb =>
    simp only [typeOf, iha, hsa.expect, hT, Bool.false_eq_true, if_false, ihb, hsb.expect]
  | unary _ hr iha => rw [typeOf_unary, iha]; exact hr
  | binary _ _ hr iha ihb => rw [typeOf_binary, iha, ihb]; exact hr
  | getAttr _ hr ihe => rw [typeOf_getAttr, ihe]; exact hr
  | hasAttr _ hr ihe => rw [typeOf_hasAttr, ihe]; exact hr
  | like _ hse ihe => simp only [typeOf, ihe, expectOneOf_of hse, ok]
  | is _ hr ihe => rw [typeOf_is, ihe]; exact hr
  | call _ hL hr => rw [typeOf_call, hL]; exact hr
  | set _ hL hne hlub => simp only [typeOf, hL, hne, Bool.false_eq_true, if_false, hlub, ok]
  | record _ hL => simp only [typeOf, hL, ok]

theorem hasType_iff {e : Expr} {caps : Capabilities} {τ : CedarType} {c : Capabilities} :
    HasType m s env e caps τ c ↔ typeOf m s env e caps = .ok (τ, c) :=
  ⟨HasType.typeOf_eq, typeOf_hasType e caps τ c⟩

theorem unaryRule_flat {op : UnaryOp} {τa τ : CedarType} {c : Capabilities} (hop : (op == .not || op == .neg) = true)
    (h : unaryRule op τa = .ok (τ, c)) : τ.flat = true := by
  cases op <;> first | cases hop | skip
  · obtain ⟨_, hk⟩ := expectTy_ok h
    cases hk
    unfold notType
    split <;> rfl
  · obtain ⟨_, hk⟩ := expectTy_ok h
    cases hk; rfl

theorem binaryRule_flat {op : BinaryOp} {a b : Expr} {caps : Capabilities} {τa τb τ : CedarType} {c : Capabilities}
    (hop : (op == .add || op == .sub || op == .mul || op == .eq) = true)
    (h : binaryRule m s env op a b caps τa τb = .ok (τ, c)) : τ.flat = true := by
  cases op <;> first | cases hop | skip
  case eq =>
    simp only [binaryRule] at h
    split at h
    · cases h
    · cases h
      obtain ⟨bt, hbt⟩ := eqType_bool env a b τa τb
      rw [hbt]; rfl
  all_goals
    obtain ⟨_, h1⟩ := expectTy_ok h
    obtain ⟨_, h2⟩ := expectTy_ok h1
    cases h2; rfl

theorem hasAttrRule_flat {e : Expr} {a : String} {caps : Capabilities} {τe τ : CedarType} {c : Capabilities}
    (h : hasAttrRule s e a caps τe = .ok (τ, c)) : τ.flat = true := by
  obtain ⟨bt, rfl⟩ := (hasAttrCont_bool (hasAttrRule_inv h).2.2).1
  rfl

theorem isRule_flat {ty : EntityType} {τe τ : CedarType} {c : Capabilities}
    (h : isRule ty τe = .ok (τ, c)) : τ.flat = true := by
  obtain ⟨_, hk⟩ := expectTy_ok h
  split at hk <;> cases hk
  · split; rfl; split <;> rfl
  · rfl

theorem HasType.flat {e : Expr} {caps : Capabilities} {τ : CedarType} {c : Capabilities} (d : HasType m s env e caps τ c)
    (hf : FlatExpr e = true) : τ.flat = true := by
  cases d <;> first | cases hf | skip
  case lit p h =>
    cases p <;> first | cases hf | skip
    · rename_i b; cases b <;> cases h <;> rfl
    · cases h; rfl
    · cases h; rfl
  case andFalse => rfl
  case and => exact boolish_flat (andType_boolish (by assumption) (by assumption))
  case orTrue => rfl
  case or => exact boolish_flat (orType_boolish (by assumption) (by assumption))
  case unary h => exact unaryRule_flat hf h
  case binary h => exact binaryRule_flat hf h
  case hasAttr h => exact hasAttrRule_flat h
  case like => rfl
  case is h => exact isRule_flat h

theorem flat_typeOf {e : Expr} {caps : Capabilities} {τ : CedarType} {c : Capabilities} (hf : FlatExpr e = true)
    (h : typeOf m s env e caps = .ok (τ, c)) : τ.flat = true := (typeOf_hasType e caps τ c h).flat hf

end Cedar
