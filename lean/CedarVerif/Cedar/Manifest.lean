import CedarVerif.Cedar.Eval
import CedarVerif.Cedar.Validation.Schema
/-
Entity manifests (C17).  MIRROR of cedar-policy-core/src/validator/entity_manifest.rs and
entity_manifest/{analysis,type_annotations,loader,slicing}.rs (feature `entity-manifest`):

* data: `EntityRoot`, `AccessTrie` (children, ancestors trie, `is_ancestor`, and of `node_type` the one bit slicing
  reads, `is_entity_type()`), `RootAccessTrie`, `WrappedAccessPaths`, `EntityManifestAnalysisResult`;
* the analysis `entity_manifest_from_expr` on the *typed* AST (`TExpr`: the typechecker's output, carrying the operand
  types that `full_type_required` reads), case by case, including the `panic!/expect` sites as outcomes;
* `to_typed` (type annotation + pruning of children the schema does not declare);
* slicing with an existing store: `load_entities` driven by `EntitySlicer` (`slice_entity`, `slice_val`,
  `prune_child_entity_dereferences`, `find_remaining_entities*`, `merge_entities/values`, `compute_ancestors_request`,
  `load_ancestors`).

Deviations from the Rust control flow (results are equal; the correspondence run diffs them):
  * hash maps are association lists; children are kept in insertion order (printing sorts);
  * `load_entities` processes requests in batches (breadth first); the model enumerates the same requests depth
    first (`expandValue`) and then merges the slices per uid in that order (`merge_entities` is order-insensitive on
    slices of one entity);
  * the slicer's failure exits (`IncompatibleEntityManifest`, the `assert!`s of `find_remaining_entities_value` and
    `slice_val`) are computed by `sliceFault` next to the pure result (`sliceStore = fault or pure result`).
Imports only model files.
-/
namespace Cedar.Manifest
open Cedar

/-! ## data -/

/-- `EntityRoot` -/
inductive EntityRoot where
  | literal (uid : EntityUID)
  | var (v : Var)
deriving Repr, DecidableEq, Inhabited

/-- `AccessTrie`; `RootAccessTrie` is the list of its roots.  `isEntity` is `node_type.is_entity_type()`
(`false` while `node_type` is `None`). -/
inductive AccessTrie where
  | mk (children : List (String × AccessTrie)) (ancestors : List (EntityRoot × AccessTrie))
       (isAncestor : Bool) (isEntity : Bool)
deriving Repr, Inhabited

abbrev Fields := List (String × AccessTrie)
abbrev RootAccessTrie := List (EntityRoot × AccessTrie)

def AccessTrie.children : AccessTrie → Fields | .mk c _ _ _ => c
def AccessTrie.ancestors : AccessTrie → RootAccessTrie | .mk _ a _ _ => a
def AccessTrie.isAncestor : AccessTrie → Bool | .mk _ _ i _ => i
def AccessTrie.isEntity : AccessTrie → Bool | .mk _ _ _ e => e

/-- `AccessTrie::new()` -/
def AccessTrie.new : AccessTrie := .mk [] [] false false

/-- `== AccessTrie::new()` (derived `PartialEq`: no children, empty ancestors trie, not an ancestor, no type) -/
def AccessTrie.isNew : AccessTrie → Bool
  | .mk c a i e => c.isEmpty && a.isEmpty && !i && !e

def lookupField (c : Fields) (k : String) : Option AccessTrie :=
  match c with
  | [] => none
  | (k', t) :: rest => if k' == k then some t else lookupField rest k

def replaceField (k : String) (t : AccessTrie) : Fields → Fields
  | [] => []
  | (k', t') :: rest => if k' == k then (k, t) :: rest else (k', t') :: replaceField k t rest

def lookupRoot (c : RootAccessTrie) (k : EntityRoot) : Option AccessTrie :=
  match c with
  | [] => none
  | (k', t) :: rest => if k' == k then some t else lookupRoot rest k

def replaceRoot (k : EntityRoot) (t : AccessTrie) : RootAccessTrie → RootAccessTrie
  | [] => []
  | (k', t') :: rest => if k' == k then (k, t) :: rest else (k', t') :: replaceRoot k t rest

-- `AccessTrie::union_mut`, `union_fields_mut`, `RootAccessTrie::union_mut` (entry API: occupied → union, vacant → insert)
mutual
def AccessTrie.union (t1 : AccessTrie) : AccessTrie → AccessTrie
  | .mk c2 a2 i2 _ =>
    match t1 with
    | .mk c1 a1 i1 e1 => .mk (unionFields c1 c2) (unionRoots a1 a2) (i1 || i2) e1
def unionFields (c1 : Fields) : Fields → Fields
  | [] => c1
  | (k, v) :: rest =>
    match lookupField c1 k with
    | some t => unionFields (replaceField k (AccessTrie.union t v) c1) rest
    | none => unionFields (c1 ++ [(k, v)]) rest
def unionRoots (c1 : RootAccessTrie) : RootAccessTrie → RootAccessTrie
  | [] => c1
  | (k, v) :: rest =>
    match lookupRoot c1 k with
    | some t => unionRoots (replaceRoot k (AccessTrie.union t v) c1) rest
    | none => unionRoots (c1 ++ [(k, v)]) rest
end

/-- the chain `f₁ → f₂ → … → leaf` (`to_root_access_trie_with_leaf`, the loop over the reversed path) -/
def pathTrie : List String → AccessTrie → AccessTrie
  | [], leaf => leaf
  | f :: fs, leaf => .mk [(f, pathTrie fs leaf)] [] false false

/-- `AccessPath::to_root_access_trie_with_leaf`: nothing is inserted when the chain is `AccessTrie::new()` -/
def toRootTrieWithLeaf (root : EntityRoot) (path : List String) (leaf : AccessTrie) : RootAccessTrie :=
  let cur := pathTrie path leaf
  if cur.isNew then [] else [(root, cur)]

/-! ## the analysis (analysis.rs, entity_manifest.rs) -/

/-- `WrappedAccessPaths` -/
inductive WPaths where
  | empty
  | path (root : EntityRoot) (fields : List String)
  | union (a b : WPaths)
  | record (kvs : List (String × WPaths))
  | set (elems : WPaths)
deriving Repr, Inhabited

/-- failure exits of the analysis -/
inductive MErr where
  /-- `UnsupportedCedarFeatureError` (entity tags) -/
  | unsupported
  /-- `PartialExpressionError` -/
  | partialExpr
  /-- `MismatchedEntityManifestError` of `to_typed` -/
  | mismatched
  /-- a `panic!` / `expect` / `assert!` site of the mirrored code -/
  | panic (site : String)
deriving Repr, DecidableEq, Inhabited

abbrev M := Except MErr

def lookupW (kvs : List (String × WPaths)) (k : String) : Option WPaths :=
  match kvs with
  | [] => none
  | (k', v) :: rest => if k' == k then some v else lookupW rest k

-- `WrappedAccessPaths::get_or_has_attr`
mutual
def WPaths.getOrHasAttr (attr : String) : WPaths → M WPaths
  | .path root fields => .ok (.path root (fields ++ [attr]))
  | .record kvs =>
    match lookupW kvs attr with
    | some f => .ok f
    | none => .ok (.record kvs)
  | .set _ => .error (.panic "Attempted to dereference a set literal.")
  | .empty => .ok .empty
  | .union a b =>
    match WPaths.getOrHasAttr attr a with
    | .error e => .error e
    | .ok a' => match WPaths.getOrHasAttr attr b with
      | .error e => .error e
      | .ok b' => .ok (.union a' b')
end

-- `type_to_access_trie`
mutual
def typeToAccessTrie : CedarType → AccessTrie
  | .record attrs _ => .mk (attrsToFields attrs) [] false false
  | _ => AccessTrie.new
def attrsToFields : List (String × Bool × CedarType) → Fields
  | [] => []
  | (k, _, t) :: rest => (k, typeToAccessTrie t) :: attrsToFields rest
end

/-- the loop of `full_type_required` on a record literal: over the *type's* attributes; the literal's field is looked up
by name (`literal_fields.remove(attr).unwrap_or_else(panic)`) and analysed at the attribute's type.  `fns` holds, per
literal field, its `full_type_required` as a function of the type. -/
def fullTypeRecord (fns : List (String × (CedarType → M RootAccessTrie))) : List (String × Bool × CedarType) → M RootAccessTrie
  | [] => .ok []
  | (attr, _, aty) :: rest =>
    match fns.find? (fun kf => kf.1 == attr) with
    | none => .error (.panic "Missing field in record literal")
    | some kf =>
      match kf.2 aty with
      | .error e => .error e
      | .ok r => match fullTypeRecord fns rest with
        | .error e => .error e
        | .ok rs => .ok (unionRoots r rs)

-- `WrappedAccessPaths::full_type_required`
mutual
def WPaths.fullTypeRequired : WPaths → CedarType → M RootAccessTrie
  | .path root fields, ty => .ok (toRootTrieWithLeaf root fields (typeToAccessTrie ty))
  | .record kvs, ty =>
    match ty with
    | .record attrs _ => fullTypeRecord (fullTypeFns kvs) attrs
    | _ => .error (.panic "Found record literal when expected another type")
  | .set elems, ty =>
    match ty with
    | .set (some ety) => WPaths.fullTypeRequired elems ety
    | .set none => .error (.panic "Expected concrete set type after typechecking")
    | _ => .error (.panic "Found set literal when expected another type")
  | .empty, _ => .ok []
  | .union a b, ty =>
    match WPaths.fullTypeRequired a ty with
    | .error e => .error e
    | .ok ra => match WPaths.fullTypeRequired b ty with
      | .error e => .error e
      | .ok rb => .ok (unionRoots ra rb)
def fullTypeFns : List (String × WPaths) → List (String × (CedarType → M RootAccessTrie))
  | [] => []
  | (k, v) :: rest => (k, WPaths.fullTypeRequired v) :: fullTypeFns rest
end

-- `RootAccessTrie::add_wrapped_access_paths`
mutual
def addWrapped (g : RootAccessTrie) (isAnc : Bool) (ancTrie : RootAccessTrie) : WPaths → RootAccessTrie
  | .path root fields => unionRoots g (toRootTrieWithLeaf root fields (.mk [] ancTrie isAnc false))
  | .record kvs => addWrappedKVs g isAnc ancTrie kvs
  | .set elems => addWrapped g isAnc ancTrie elems
  | .empty => g
  | .union a b => addWrapped (addWrapped g isAnc ancTrie a) isAnc ancTrie b
def addWrappedKVs (g : RootAccessTrie) (isAnc : Bool) (ancTrie : RootAccessTrie) : List (String × WPaths) → RootAccessTrie
  | [] => g
  | (_, v) :: rest => addWrappedKVs (addWrapped g isAnc ancTrie v) isAnc ancTrie rest
end

/-- `to_ancestor_access_trie` -/
def WPaths.toAncestorTrie (p : WPaths) : RootAccessTrie := addWrapped [] true [] p

/-- `EntityManifestAnalysisResult` -/
structure Res where
  global : RootAccessTrie
  paths : WPaths
deriving Repr, Inhabited

def Res.default : Res := ⟨[], .empty⟩
def Res.emptyPaths (r : Res) : Res := ⟨r.global, .empty⟩
def Res.union (a b : Res) : Res := ⟨unionRoots a.global b.global, .union a.paths b.paths⟩
def Res.fromRoot (root : EntityRoot) : Res := ⟨toRootTrieWithLeaf root [] AccessTrie.new, .path root []⟩
/-- `get_or_has_attr` followed by `restore_global_trie_invariant` -/
def Res.getOrHasAttr (r : Res) (attr : String) : M Res :=
  match r.paths.getOrHasAttr attr with
  | .error e => .error e
  | .ok p => .ok ⟨addWrapped r.global false [] p, p⟩
def Res.withAncestorsRequired (r : Res) (ancTrie : RootAccessTrie) : Res :=
  ⟨addWrapped r.global false ancTrie r.paths, r.paths⟩
def Res.fullTypeRequired (r : Res) (ty : CedarType) : M Res :=
  match r.paths.fullTypeRequired ty with
  | .error e => .error e
  | .ok t => .ok ⟨unionRoots r.global t, .empty⟩

/-- the typechecker's output (`Expr<Option<Type>>`), carrying the annotations the analysis reads: the operand types of
`== in contains containsAll containsAny` and of `isEmpty` -/
inductive TExpr where
  | lit (p : Prim)
  | var (v : Var)
  | slot (s : SlotId)
  | unknown (name : String)
  | ite (c t e : TExpr)
  | and (a b : TExpr)
  | or (a b : TExpr)
  | unaryApp (op : UnaryOp) (ty : Option CedarType) (a : TExpr)
  | binaryApp (op : BinaryOp) (ty1 ty2 : Option CedarType) (a b : TExpr)
  | call (fn : String) (args : List TExpr)
  | getAttr (e : TExpr) (attr : String)
  | hasAttr (e : TExpr) (attr : String)
  | like (e : TExpr) (p : Pattern)
  | is (e : TExpr) (ty : EntityType)
  | set (es : List TExpr)
  | record (kvs : List (String × TExpr))
deriving Repr, Inhabited

-- forget the annotations
mutual
def TExpr.erase : TExpr → Expr
  | .lit p => .lit p
  | .var v => .var v
  | .slot s => .slot s
  | .unknown n => .unknown n none
  | .ite c t e => .ite c.erase t.erase e.erase
  | .and a b => .and a.erase b.erase
  | .or a b => .or a.erase b.erase
  | .unaryApp op _ a => .unaryApp op a.erase
  | .binaryApp op _ _ a b => .binaryApp op a.erase b.erase
  | .call fn args => .call fn (eraseList args)
  | .getAttr e a => .getAttr e.erase a
  | .hasAttr e a => .hasAttr e.erase a
  | .like e p => .like e.erase p
  | .is e ty => .is e.erase ty
  | .set es => .set (eraseList es)
  | .record kvs => .record (eraseKVs kvs)
def eraseList : List TExpr → List Expr
  | [] => []
  | x :: xs => x.erase :: eraseList xs
def eraseKVs : List (String × TExpr) → List (String × Expr)
  | [] => []
  | (k, x) :: xs => (k, x.erase) :: eraseKVs xs
end

def needTy : Option CedarType → M CedarType
  | some t => .ok t
  | none => .error (.panic "Expected annotated types after typechecking")

/-- `&&`, `||`, `< <= + - *`: `left.empty_paths().union(right.empty_paths())` -/
def primPair (ra rb : M Res) : M Res :=
  match ra with
  | .error x => .error x
  | .ok ra => match rb with
    | .error x => .error x
    | .ok rb => .ok (ra.emptyPaths.union rb.emptyPaths)

-- `entity_manifest_from_expr`
mutual
def manifestOfExpr : TExpr → M Res
  | .slot s =>
    match s with
    | .principal => .ok (Res.fromRoot (.var .principal))
    | .resource => .ok (Res.fromRoot (.var .resource))
  | .var v => .ok (Res.fromRoot (.var v))
  | .lit (.entityUID u) => .ok (Res.fromRoot (.literal u))
  | .unknown _ => .error .partialExpr
  | .lit _ => .ok Res.default
  | .ite c t e =>
    match manifestOfExpr c with
    | .error x => .error x
    | .ok rc => match manifestOfExpr t with
      | .error x => .error x
      | .ok rt => match manifestOfExpr e with
        | .error x => .error x
        | .ok re => .ok ((rc.emptyPaths.union rt).union re)
  | .and a b => primPair (manifestOfExpr a) (manifestOfExpr b)
  | .or a b => primPair (manifestOfExpr a) (manifestOfExpr b)
  | .unaryApp op ty a =>
    match op with
    | .not | .neg =>
      match manifestOfExpr a with
      | .error x => .error x
      | .ok r => .ok r.emptyPaths
    | .isEmpty =>
      match needTy ty with
      | .error x => .error x
      | .ok ty => match manifestOfExpr a with
        | .error x => .error x
        | .ok r => match r.fullTypeRequired ty with
          | .error x => .error x
          | .ok r' => .ok r'.emptyPaths
  | .binaryApp op ty1 ty2 a b =>
    match op with
    | .less | .lessEq | .add | .sub | .mul => primPair (manifestOfExpr a) (manifestOfExpr b)
    | .getTag | .hasTag => .error .unsupported
    | .eq | .mem | .contains | .containsAll | .containsAny =>
      match manifestOfExpr a with
      | .error x => .error x
      | .ok r1 => match manifestOfExpr b with
        | .error x => .error x
        | .ok r2 => match needTy ty1 with
          | .error x => .error x
          | .ok ty1 => match needTy ty2 with
            | .error x => .error x
            | .ok ty2 =>
              let r1 := if op == .mem then r1.withAncestorsRequired r2.paths.toAncestorTrie else r1
              match r1.fullTypeRequired ty1 with
              | .error x => .error x
              | .ok f1 => match r2.fullTypeRequired ty2 with
                | .error x => .error x
                | .ok f2 => .ok (f1.union f2).emptyPaths
  | .call _ args => manifestUnionList Res.default args
  | .like e _ =>
    match manifestOfExpr e with
    | .error x => .error x
    | .ok r => .ok r.emptyPaths
  | .is e _ =>
    match manifestOfExpr e with
    | .error x => .error x
    | .ok r => .ok r.emptyPaths
  | .set es =>
    match manifestUnionList Res.default es with
    | .error x => .error x
    | .ok r => .ok ⟨r.global, .set r.paths⟩
  | .record kvs =>
    match manifestRecord kvs with
    | .error x => .error x
    | .ok (g, ps) => .ok ⟨g, .record ps⟩
  | .getAttr e attr =>
    match manifestOfExpr e with
    | .error x => .error x
    | .ok r => r.getOrHasAttr attr
  | .hasAttr e attr =>
    match manifestOfExpr e with
    | .error x => .error x
    | .ok r => match r.getOrHasAttr attr with
      | .error x => .error x
      | .ok r' => .ok r'.emptyPaths
/-- `for arg in args { res = res.union(analyse(arg)?) }` -/
def manifestUnionList (acc : Res) : List TExpr → M Res
  | [] => .ok acc
  | x :: xs =>
    match manifestOfExpr x with
    | .error e => .error e
    | .ok r => manifestUnionList (acc.union r) xs
/-- record literal: the global tries are unioned (Rust folds from the left, `(∅ ∪ r₁) ∪ r₂ …`; here `r₁ ∪ (r₂ ∪ … ∅)`), the
paths kept per key -/
def manifestRecord : List (String × TExpr) → M (RootAccessTrie × List (String × WPaths))
  | [] => .ok ([], [])
  | (k, x) :: xs =>
    match manifestOfExpr x with
    | .error e => .error e
    | .ok r => match manifestRecord xs with
      | .error e => .error e
      | .ok (g, ps) => .ok (unionRoots r.global g, (k, r.paths) :: ps)
end

/-! ## type annotation (type_annotations.rs) -/

/-- `RequestType` -/
structure ReqType where
  principal : EntityType
  action : EntityUID
  resource : EntityType
deriving Repr, Inhabited

/-- `Type::is_entity_type` -/
def isEntityTy : CedarType → Bool
  | .entity _ => true
  | .anyEntity => true
  | _ => false

/-- `Type::euid_literal` -/
def euidLiteralType (s : Schema) (u : EntityUID) : Option CedarType :=
  if isActionType u.ty then
    match s.action? u with
    | some _ => some (.entity [u.ty])
    | none => none
  else
    match s.entityType? u.ty with
    | some _ => some (.entity [u.ty])
    | none => none

/-- the attributes `children_of` consults for a node of type `ty`; `none` = the early `return Ok(empty)` for types
without fields (where Rust also asserts that the node has no children) -/
def attrsOfType (s : Schema) : CedarType → M (Option Attrs)
  | .record attrs _ => .ok (some attrs)
  | .anyEntity => .error .mismatched
  | .entity [ety] =>
    if isActionType ety then .ok (some [])
    else match s.entityType? ety with
      | some et => .ok (some et.attrs)
      | none => .error .mismatched
  | .entity _ => .error .mismatched
  | _ => .ok none

-- `AccessTrie::to_typed`, `children_of`, `RootAccessTrie::to_typed`
mutual
def AccessTrie.toTyped (s : Schema) (rt : ReqType) : AccessTrie → CedarType → M AccessTrie
  | .mk c a i _, ty =>
    match attrsOfType s ty with
    | .error e => .error e
    | .ok none =>
      if !c.isEmpty then .error (.panic "assert!(self.children.is_empty())") else
      match toTypedRoots s rt a with
      | .error e => .error e
      | .ok a' => .ok (.mk [] a' i (isEntityTy ty))
    | .ok (some attrs) =>
      match toTypedFields s rt attrs c with
      | .error e => .error e
      | .ok c' => match toTypedRoots s rt a with
        | .error e => .error e
        | .ok a' => .ok (.mk c' a' i (isEntityTy ty))
/-- children whose field the schema does not mention are dropped -/
def toTypedFields (s : Schema) (rt : ReqType) (attrs : Attrs) : Fields → M Fields
  | [] => .ok []
  | (f, t) :: rest =>
    match Attrs.find? attrs f with
    | none => toTypedFields s rt attrs rest
    | some (_, fty) =>
      match AccessTrie.toTyped s rt t fty with
      | .error e => .error e
      | .ok t' => match toTypedFields s rt attrs rest with
        | .error e => .error e
        | .ok rest' => .ok ((f, t') :: rest')
def toTypedRoots (s : Schema) (rt : ReqType) : RootAccessTrie → M RootAccessTrie
  | [] => .ok []
  | (root, t) :: rest =>
    let ty : M CedarType :=
      match root with
      | .literal u => (match euidLiteralType s u with | some ty => .ok ty | none => .error .mismatched)
      | .var .action => (match euidLiteralType s rt.action with | some ty => .ok ty | none => .error .mismatched)
      | .var .principal => .ok (.entity [rt.principal])
      | .var .resource => .ok (.entity [rt.resource])
      | .var .context => (match s.action? rt.action with | some a => .ok a.context | none => .error .mismatched)
    match ty with
    | .error e => .error e
    | .ok ty =>
      match AccessTrie.toTyped s rt t ty with
      | .error e => .error e
      | .ok t' => match toTypedRoots s rt rest with
        | .error e => .error e
        | .ok rest' => .ok ((root, t') :: rest')
end

/-- the per-request-type body of `compute_entity_manifest`: union of the tries of the typed ASTs of all request
environments with this request type (an `Irrelevant` environment contributes nothing), then `to_typed` -/
def manifestOfEnvs (s : Schema) (rt : ReqType) (es : List TExpr) : M RootAccessTrie :=
  let rec go (acc : RootAccessTrie) : List TExpr → M RootAccessTrie
    | [] => .ok acc
    | e :: rest =>
      match manifestOfExpr e with
      | .error x => .error x
      | .ok r => go (unionRoots acc r.global) rest
  match go [] es with
  | .error x => .error x
  | .ok t => toTypedRoots s rt t

/-! ## slicing (slicing.rs, loader.rs) -/

-- `AccessTrie::slice_val` (pure part) and the attribute loop shared with `slice_entity`
mutual
def sliceVal : AccessTrie → Value → Value
  | .mk c _ _ _, v =>
    match v with
    | .record kvs => .record (sliceFields c kvs)
    | v => v
/-- `for (field, slice) in &self.children { if let Some(v) = record.get(field) { new_map.insert(field, slice.slice_val(v)) } }` -/
def sliceFields : Fields → List (String × Value) → List (String × Value)
  | [], _ => []
  | (f, t) :: rest, kvs =>
    match lookupKV kvs f with
    | some v => insertKV f (sliceVal t v) (sliceFields rest kvs)
    | none => sliceFields rest kvs
end

-- `prune_entity_dereferences` / `prune_child_entity_dereferences`
mutual
def pruneEntityDeref : AccessTrie → AccessTrie
  | .mk c a i e => .mk (if e then [] else pruneFields c) a i e
def pruneFields : Fields → Fields
  | [] => []
  | (k, t) :: rest => (k, pruneEntityDeref t) :: pruneFields rest
end

def pruneChildEntityDeref : AccessTrie → AccessTrie
  | .mk c a i e => .mk (pruneFields c) a i e

/-- `EntitySlicer::load_entities` for one request: `request.access_trie.slice_entity(entity)` on the pruned trie
(no ancestors, no tags) -/
def sliceEntity (t : AccessTrie) (d : EntityData) : EntityData :=
  { attrs := sliceFields (pruneChildEntityDeref t).children d.attrs, ancestors := [], tags := [] }

-- `find_remaining_entities_value` / `find_remaining_entities`, closed under the main loop of `load_entities`:
-- every entity request reachable from a value through a trie, each followed by the requests found in the loaded slice
mutual
def expandValue (es : Entities) : AccessTrie → Value → List (EntityUID × AccessTrie)
  | .mk c a i e, v =>
    match v with
    | .prim (.entityUID u) =>
      (u, .mk c a i e) ::
        (match es.find? u with
         | some d => expandFields es c (sliceFields (pruneFields c) d.attrs)
         | none => [])
    | .record kvs => expandFields es c kvs
    | _ => []
def expandFields (es : Entities) : Fields → List (String × Value) → List (EntityUID × AccessTrie)
  | [], _ => []
  | (f, t) :: rest, kvs =>
    (match lookupKV kvs f with
     | some v => expandValue es t v
     | none => []) ++ expandFields es rest kvs
end

def rootUid (req : Request) : EntityRoot → Option EntityUID
  | .var .principal => some req.principal
  | .var .action => some req.action
  | .var .resource => some req.resource
  | .literal u => some u
  | .var .context => none

/-- `initial_entities_to_load` closed under the loading loop: the context trie is walked over the context value, every
other root is an entity request -/
def allRequests (es : Entities) (req : Request) : RootAccessTrie → List (EntityUID × AccessTrie)
  | [] => []
  | (root, t) :: rest =>
    (match rootUid req root with
     | some u => expandValue es t (.prim (.entityUID u))
     | none => expandFields es t.children req.context) ++ allRequests es req rest

-- `merge_values` / the attribute loop of `merge_entities` (the `assert_eq!`s on equal literals / sets and the `panic!` on
-- values of different kinds are not modelled: the values merged are slices of one value)
mutual
def mergeValues (v1 : Value) : Value → Value
  | .record r2 =>
    match v1 with
    | .record r1 => .record (mergeKVs r1 r2)
    | v1 => v1
  | _ => v1
def mergeKVs (r1 : List (String × Value)) : List (String × Value) → List (String × Value)
  | [] => r1
  | (k, v2) :: rest =>
    match lookupKV r1 k with
    | some v1 => mergeKVs (insertKV k (mergeValues v1 v2) r1) rest
    | none => mergeKVs (insertKV k v2 r1) rest
end

def mergeEntities (d1 d2 : EntityData) : EntityData :=
  { attrs := mergeKVs d1.attrs d2.attrs, ancestors := d1.ancestors, tags := [] }

/-- `entities.entry(id)`: occupied → merge, vacant → insert -/
def insertOrMerge (m : Entities) (u : EntityUID) (d : EntityData) : Entities :=
  match m with
  | [] => [(u, d)]
  | (u', d') :: rest => if u' == u then (u', mergeEntities d' d) :: rest else (u', d') :: insertOrMerge rest u d

/-- the loaded slices, merged per uid -/
def loadAll (es : Entities) : List (EntityUID × AccessTrie) → Entities → Entities
  | [], m => m
  | (u, t) :: rest, m =>
    match es.find? u with
    | some d => loadAll es rest (insertOrMerge m u (sliceEntity t d))
    | none => loadAll es rest m

def entityElems : List Value → List EntityUID
  | [] => []
  | .prim (.entityUID u) :: rest => u :: entityElems rest
  | _ :: rest => entityElems rest

-- `compute_ancestors_request`: walk the ancestors trie over the *loaded* entities collecting the ids marked `is_ancestor`
mutual
def ancValue (m : Entities) : AccessTrie → Value → List EntityUID
  | .mk c _ i _, v =>
    match v with
    | .prim (.entityUID u) =>
      (if i then [u] else []) ++
        (match m.find? u with
         | some d => ancFields m c d.attrs
         | none => [])
    | .set vs => if i then entityElems vs else []
    | .record kvs => ancFields m c kvs
    | _ => []
def ancFields (m : Entities) : Fields → List (String × Value) → List EntityUID
  | [], _ => []
  | (f, t) :: rest, kvs =>
    (match lookupKV kvs f with
     | some v => ancValue m t v
     | none => []) ++ ancFields m rest kvs
end

def ancRequest (m : Entities) (req : Request) : RootAccessTrie → List EntityUID
  | [] => []
  | (root, t) :: rest =>
    (match rootUid req root with
     | some u => ancValue m t (.prim (.entityUID u))
     | none => ancFields m t.children req.context) ++ ancRequest m req rest

/-- `EntitySlicer::load_ancestors` + `entity.add_parent`: of the requested ids, those the original entity descends from -/
def addAncestors (es : Entities) (m : Entities) (req : Request) : List (EntityUID × AccessTrie) → Entities → Entities
  | [], acc => acc
  | (u, t) :: rest, acc =>
    let wanted := ancRequest m req t.ancestors
    let have_ := match es.find? u with
      | some d => wanted.filter (fun a => d.ancestors.contains a)
      | none => []
    let acc := acc.map (fun (u', d') =>
      if u' == u then (u', { d' with ancestors := d'.ancestors ++ have_.filter (fun a => !d'.ancestors.contains a) }) else (u', d'))
    addAncestors es m req rest acc

/-- `load_entities` with `EntitySlicer` (pure result): the store sliced by the trie of the request's type -/
def sliceStorePure (t : RootAccessTrie) (req : Request) (es : Entities) : Entities :=
  let reqs := allRequests es req t
  let m := loadAll es reqs []
  addAncestors es m req reqs m

inductive SliceErr where
  /-- `IncompatibleEntityManifestError`: children requested of a set / literal / extension value -/
  | incompatible
  /-- `assert!` / `panic!` sites of loader.rs and slicing.rs -/
  | panic (site : String)
deriving Repr, DecidableEq, Inhabited

def isEntityLit : Value → Bool
  | .prim (.entityUID _) => true
  | _ => false

-- the failure exits of `slice_val` on the values it is applied to
mutual
def sliceValFault : AccessTrie → Value → Option SliceErr
  | .mk c _ _ _, v =>
    match v with
    | .record kvs => sliceFieldsFault c kvs
    | .prim (.entityUID _) => if c.isEmpty then none else some (.panic "assert!(self.children.is_empty())")
    | _ => if c.isEmpty then none else some .incompatible
def sliceFieldsFault : Fields → List (String × Value) → Option SliceErr
  | [], _ => none
  | (f, t) :: rest, kvs =>
    match lookupKV kvs f with
    | some v => (match sliceValFault t v with | some e => some e | none => sliceFieldsFault rest kvs)
    | none => sliceFieldsFault rest kvs
end

-- the `assert!`s of `find_remaining_entities_value`
mutual
def remainingFault : AccessTrie → Value → Option SliceErr
  | .mk c a i _, v =>
    if !a.isEmpty && !isEntityLit v then some (.panic "ancestors trie on a non-entity value") else
    match v with
    | .prim (.entityUID _) => none
    | .set vs =>
      if i && vs.any (fun x => !isEntityLit x) then some (.panic "Found is_ancestor on set of non-entity-type") else none
    | .record kvs =>
      if i then some (.panic "is_ancestor on a record") else remainingFieldsFault c kvs
    | _ => if i then some (.panic "is_ancestor on a non-entity value") else none
def remainingFieldsFault : Fields → List (String × Value) → Option SliceErr
  | [], _ => none
  | (f, t) :: rest, kvs =>
    match lookupKV kvs f with
    | some v => (match remainingFault t v with | some e => some e | none => remainingFieldsFault rest kvs)
    | none => remainingFieldsFault rest kvs
end

/-- first failure over the loading loop (per request: slicing the entity, then scanning the slice) -/
def sliceFault (t : RootAccessTrie) (req : Request) (es : Entities) : Option SliceErr :=
  let ctxFault := match lookupRoot t (.var .context) with
    | some tc => remainingFieldsFault tc.children req.context
    | none => none
  match ctxFault with
  | some e => some e
  | none =>
    (allRequests es req t).findSome? (fun (u, tr) =>
      match es.find? u with
      | some d =>
        (match sliceFieldsFault (pruneChildEntityDeref tr).children d.attrs with
         | some e => some e
         | none => remainingFieldsFault tr.children (sliceEntity tr d).attrs)
      | none => none)

/-- `EntityManifest::slice_entities` for the trie of the request's type (`none`: no entry → the empty store) -/
def sliceStore (t : Option RootAccessTrie) (req : Request) (es : Entities) : Except SliceErr Entities :=
  match t with
  | none => .ok []
  | some t =>
    match sliceFault t req es with
    | some e => .error e
    | none => .ok (sliceStorePure t req es)

end Cedar.Manifest
