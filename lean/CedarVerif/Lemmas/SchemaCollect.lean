import CedarVerif.Cedar.SchemaCollect
import CedarVerif.Lemmas.SchemaConvert
/-
The `BTreeMap` collection of parsed declarations (`Cedar/SchemaCollect.lean`): on entries whose keys are already in map order
(`FragKeysOK`) it is the identity, and the normal form `normFragment` keeps that order.
-/
namespace Cedar.SchemaSyntax

theorem hasDupKeys_false_of_pairwise {κ : Type} [DecidableEq κ] (r : κ → κ → Prop) (hirr : ∀ a, ¬ r a a)
    (l : List κ) (h : l.Pairwise r) : hasDupKeys l = false := by
  induction l with
  | nil => rfl
  | cons k ks ih =>
    rw [List.pairwise_cons] at h
    simp only [hasDupKeys, Bool.or_eq_false_iff]
    refine ⟨?_, ih h.2⟩
    cases hc : ks.contains k with
    | false => rfl
    | true =>
      have hm : k ∈ ks := by simpa using hc
      exact absurd (h.1 k hm) (hirr k)

theorem sortKeys_of_pairwise {κ α : Type} (lt : κ → κ → Bool) (l : List (κ × α))
    (h : l.Pairwise (fun a b => lt a.1 b.1 = true)) : sortKeys lt l = l := by
  induction l with
  | nil => rfl
  | cons x rest ih =>
    obtain ⟨k, v⟩ := x
    rw [List.pairwise_cons] at h
    simp only [sortKeys, ih h.2]
    cases rest with
    | nil => rfl
    | cons y ys =>
      obtain ⟨k', v'⟩ := y
      have := h.1 (k', v') (by simp)
      simp only at this
      simp [insertKey, this]

theorem strKeyLt_irrefl (a : String) : ¬ (strKeyLt a a = true) := by
  simp [strKeyLt, String.lt_irrefl]

theorem qnameKeyLt_irrefl (a : QName) : ¬ (qnameKeyLt a a = true) := by
  simp [qnameKeyLt, String.lt_irrefl, List.lt_irrefl]

/-- keys strictly increasing: the invariant of a `BTreeMap`'s iteration -/
def KeysSorted {α : Type} (l : List (String × α)) : Prop := l.Pairwise (fun a b => strKeyLt a.1 b.1 = true)

def NsKeysOK (d : NamespaceJ) : Prop := KeysSorted d.commons ∧ KeysSorted d.entities ∧ KeysSorted d.actions

/-- the key invariant of a `json_schema::Fragment` (every level is a `BTreeMap`): keys distinct and in key order -/
def FragKeysOK (f : FragmentJ) : Prop :=
  (∀ d, f.empty = some d → NsKeysOK d) ∧ (∀ x ∈ f.named, NsKeysOK x.2) ∧
  f.named.Pairwise (fun a b => qnameKeyLt a.1 b.1 = true)

theorem keysSorted_noDup {α : Type} (l : List (String × α)) (h : KeysSorted l) : hasDupKeys (l.map (·.1)) = false := by
  apply hasDupKeys_false_of_pairwise (fun a b => strKeyLt a b = true) strKeyLt_irrefl
  rw [List.pairwise_map]
  exact h

theorem nsHasDup_of_keysOK (d : NamespaceJ) (h : NsKeysOK d) : nsHasDup d = false := by
  simp [nsHasDup, keysSorted_noDup _ h.1, keysSorted_noDup _ h.2.1, keysSorted_noDup _ h.2.2]

theorem sortNs_of_keysOK (d : NamespaceJ) (h : NsKeysOK d) : sortNs d = d := by
  obtain ⟨c, e, a⟩ := d
  simp only [sortNs, NsKeysOK, KeysSorted] at h ⊢
  rw [sortKeys_of_pairwise _ _ h.1, sortKeys_of_pairwise _ _ h.2.1, sortKeys_of_pairwise _ _ h.2.2]

theorem collectFragment_of_keysOK (f : FragmentJ) (h : FragKeysOK f) : collectFragment f = .ok f := by
  obtain ⟨e, named⟩ := f
  obtain ⟨he, hn, hp⟩ := h
  simp only at he hn hp
  have h1 : named.any (fun x => nsHasDup x.2) = false := by
    simp only [List.any_eq_false]
    intro x hx
    simp [nsHasDup_of_keysOK x.2 (hn x hx)]
  have h2 : optNsHasDup e = false := by
    cases e with
    | none => rfl
    | some d => exact nsHasDup_of_keysOK d (he d rfl)
  have h3 : hasDupKeys (named.map (·.1)) = false := by
    apply hasDupKeys_false_of_pairwise (fun a b => qnameKeyLt a b = true) qnameKeyLt_irrefl
    rw [List.pairwise_map]
    exact hp
  have h4 : (named.map fun x => (x.1, sortNs x.2)) = named := by
    conv => rhs; rw [← List.map_id named]
    apply List.map_congr_left
    intro x hx
    simp [sortNs_of_keysOK x.2 (hn x hx)]
  have h5 : e.map sortNs = e := by
    cases e with
    | none => rfl
    | some d => simp [sortNs_of_keysOK d (he d rfl)]
  simp only [collectFragment, h1, h2, h3, h4, h5, Bool.or_self, Bool.false_eq_true, if_false]
  rw [sortKeys_of_pairwise _ _ hp]

theorem keysSorted_map {α β : Type} (l : List (String × α)) (g : String × α → β) (h : KeysSorted l) :
    KeysSorted (l.map fun x => (x.1, g x)) := by
  simp only [KeysSorted, List.pairwise_map]
  exact h

theorem nsKeysOK_normNs (d : NamespaceJ) (h : NsKeysOK d) : NsKeysOK (normNs d) :=
  ⟨keysSorted_map d.commons (fun x => eocForm x.2) h.1, keysSorted_map d.entities (fun x => normEnt x.2) h.2.1,
   keysSorted_map d.actions (fun x => normAction x.2) h.2.2⟩

theorem fragKeysOK_normFragment (f : FragmentJ) (h : FragKeysOK f) : FragKeysOK (normFragment f) := by
  obtain ⟨e, named⟩ := f
  obtain ⟨he, hn, hp⟩ := h
  simp only at he hn hp
  refine ⟨?_, ?_, ?_⟩
  · intro d hd
    simp only [normFragment] at hd
    cases e with
    | none => simp at hd
    | some d0 =>
      simp only at hd
      split at hd
      · simp at hd
      · simp only [Option.some.injEq] at hd
        subst hd
        exact nsKeysOK_normNs d0 (he d0 rfl)
  · intro x hx
    simp only [normFragment, List.mem_map] at hx
    obtain ⟨y, hy, rfl⟩ := hx
    exact nsKeysOK_normNs y.2 (hn y hy)
  · simp only [normFragment, List.pairwise_map]
    exact hp

end Cedar.SchemaSyntax
