import CedarVerif.Lemmas.PolicySetMerge
/-
The public API layer's `merge`: its `get(pid).unwrap()`s are unreachable, its own maps stay
the projections of the merged core set, the invariant of the API layer (`ApiPolicySet.Inv`: `WF`, `Proj`, `StaticSlotless`) is
preserved.
-/
namespace Cedar
open LHM

/-- the fold step of the API's `merge`: under the renamed id, unless present, store what the merged core set has -/
def absentStep {α β} (ρ : String → String) (src : LHM α) (acc : Option (LHM α)) (e : String × β) : Option (LHM α) :=
  match acc with
  | none => none
  | some m =>
    if m.contains (ρ e.1) then some m
    else match src.get? (ρ e.1) with
      | some p => some (m.insert (ρ e.1) p)
      | none => none

theorem foldl_absentStep {α β} (ρ : String → String) (src : LHM α) :
    ∀ (l : List (String × β)) (m0 : LHM α), (∀ e, e ∈ l → (src.get? (ρ e.1)).isSome = true) →
    ∃ m, l.foldl (absentStep ρ src) (some m0) = some m ∧
      ∀ x, m.get? x = (m0.get? x).or (if x ∈ l.map (fun e => ρ e.1) then src.get? x else none) := by
  intro l
  induction l with
  | nil => intro m0 _; exact ⟨m0, rfl, fun x => (Option.or_none).symm⟩
  | cons e rest ih =>
    intro m0 hsrc
    have hrest : ∀ e', e' ∈ rest → (src.get? (ρ e'.1)).isSome = true := fun e' he' => hsrc e' (List.mem_cons_of_mem _ he')
    rw [List.foldl_cons]
    by_cases hc : m0.contains (ρ e.1) = true
    · have hstep : absentStep ρ src (some m0) e = some m0 := by simp [absentStep, hc]
      obtain ⟨m, hm, h⟩ := ih m0 hrest
      refine ⟨m, by rw [hstep]; exact hm, fun x => ?_⟩
      rw [h x, List.map_cons]
      by_cases hx : x = ρ e.1
      · obtain ⟨v, hv⟩ := isSome_of_contains hc
        rw [hx, hv]; rfl
      · simp only [List.mem_cons, hx, false_or]
    · have hc' : m0.get? (ρ e.1) = none := get?_none_of_not_contains hc
      obtain ⟨p, hp⟩ := Option.isSome_iff_exists.mp (hsrc e List.mem_cons_self)
      have hstep : absentStep ρ src (some m0) e = some (m0.insert (ρ e.1) p) := by simp [absentStep, hc, hp]
      obtain ⟨m, hm, h⟩ := ih _ hrest
      refine ⟨m, by rw [hstep]; exact hm, fun x => ?_⟩
      rw [h x, get?_insert, List.map_cons]
      by_cases hx : x = ρ e.1
      · rw [if_pos hx, hx, hc', if_pos List.mem_cons_self, hp]; rfl
      · simp only [List.mem_cons, hx, if_false, false_or]

open PolicySet

structure ApiPolicySet.Inv (s : ApiPolicySet) : Prop where
  wf : s.WF
  proj : s.Proj
  ss : s.ast.StaticSlotless

theorem ApiPolicySet.Inv.strict {s : ApiPolicySet} (h : s.Inv) : s.ast.Strict := ⟨h.wf.ast, h.wf.nb, h.ss⟩

theorem ApiPolicySet.inv_empty : ApiPolicySet.Inv {} :=
  ⟨ApiPolicySet.wf_empty, ApiPolicySet.proj_empty, by intro k p h; simp at h⟩

theorem ApiPolicySet.applyOp_inv (s : ApiPolicySet) (op : ApiOp) (h : s.Inv) (wt : op.wellTyped) : (s.applyOp op).ps.Inv :=
  ⟨ApiPolicySet.applyOp_wf s op h.wf wt, ApiPolicySet.applyOp_proj s op h.wf h.proj,
   ApiPolicySet.applyOp_staticSlotless s op h.wf h.ss⟩

theorem ApiPolicySet.merge_eq (s other : ApiPolicySet) (rd : Bool) :
    s.merge other rd =
      match (s.ast.merge other.ast rd).err with
      | some e => { ps := { s with ast := (s.ast.merge other.ast rd).ps }, err := some (ApiPolicySet.coreErr e) }
      | none =>
        match other.policies.foldl (absentStep (renamed (s.ast.merge other.ast rd).rename) (s.ast.merge other.ast rd).ps.links) (some s.policies),
              other.templates.foldl (absentStep (renamed (s.ast.merge other.ast rd).rename) (s.ast.merge other.ast rd).ps.templates) (some s.templates) with
        | some policies, some templates =>
          { ps := { ast := (s.ast.merge other.ast rd).ps, policies := policies, templates := templates },
            rename := (s.ast.merge other.ast rd).rename }
        | _, _ => { ps := { s with ast := (s.ast.merge other.ast rd).ps }, err := some (.panic "merge: get(pid).unwrap()") } := by
  unfold ApiPolicySet.merge
  simp only
  cases (s.ast.merge other.ast rd).err with
  | some e => rfl
  | none =>
    simp only
    rw [foldl_congr' _ (absentStep (renamed (s.ast.merge other.ast rd).rename) (s.ast.merge other.ast rd).ps.links) ?_ other.policies,
        foldl_congr' _ (absentStep (renamed (s.ast.merge other.ast rd).rename) (s.ast.merge other.ast rd).ps.templates) ?_ other.templates]
    · rfl
    · intro acc e
      cases acc with
      | none => rfl
      | some m =>
        unfold absentStep
        simp only
        split
        · rfl
        · cases hg : LHM.get? (s.ast.merge other.ast rd).ps.templates (renamed (s.ast.merge other.ast rd).rename e.1) <;> first | rfl | simp only [hg]
    · intro acc e
      cases acc with
      | none => rfl
      | some m =>
        unfold absentStep
        simp only
        split
        · rfl
        · cases hg : LHM.get? (s.ast.merge other.ast rd).ps.links (renamed (s.ast.merge other.ast rd).rename e.1) <;> first | rfl | simp only [hg]

theorem ApiPolicySet.merge_inv (s other : ApiPolicySet) (rd : Bool) (hs : s.Inv) (ho : other.Inv) :
    (s.merge other rd).ps.Inv ∧ (∀ m, (s.merge other rd).err ≠ some (.panic m)) ∧
    ((s.merge other rd).err ≠ none → (s.merge other rd).ps = s) ∧
    ((s.merge other rd).err = none ↔ (s.ast.merge other.ast rd).err = none) := by
  rw [ApiPolicySet.merge_eq]
  cases herr : (s.ast.merge other.ast rd).err with
  | some e =>
    simp only
    have hun := (PolicySet.merge_fail_unchanged s.ast other.ast rd (by simp [herr]))
    have hsame : ({ s with ast := (s.ast.merge other.ast rd).ps } : ApiPolicySet) = s := by
      rw [hun.1]
    rw [hsame]
    refine ⟨hs, ?_, fun _ => rfl, by simp⟩
    intro m
    rw [herr] at hun
    have : e = .occupied := by simpa using hun.2
    subst this
    simp [ApiPolicySet.coreErr]
  | none =>
    simp only
    obtain ⟨hU, hren⟩ := PolicySet.merge_ok s.ast other.ast rd herr
    have sA := hs.strict
    have sB := ho.strict
    have ok := PolicySet.mergeRenaming_ok s.ast other.ast sB.wf.tNodup sB.wf.lNodup
    rw [hU, hren]
    clear hU hren herr
    generalize mergeRenaming s.ast other.ast = ren at *
    have c := ok.compat sA sB
    have sU := sA.union (sB.renameBy ok.renames) c
    have mat := merged_at sA sB ok
    have atA := fun x => union_at_left c (sB.renameBy ok.renames).wf (x := x)
    generalize s.ast.union (other.ast.renameBy ren) = U at *
    -- an id of `other`'s own maps is bound in its core set, and the two maps are read off the lookups there
    have inP : ∀ k, (other.policies.get? k).isSome = true ↔ (other.ast.links.get? k).isSome = true :=
      fun k => by rw [ho.proj.pol]
    have inT : ∀ k, (other.templates.get? k).isSome = true ↔
        (other.ast.templates.get? k).isSome = true ∧ other.ast.links.get? k = none := by
      intro k
      simp only [Option.isSome_iff_exists, ho.proj.tmpl]
      exact ⟨fun ⟨t, h1, h2⟩ => ⟨⟨t, h1⟩, h2⟩, fun ⟨⟨t, h1⟩, h2⟩ => ⟨t, h1, h2⟩⟩
    have bP : ∀ k, (other.policies.get? k).isSome = true → other.ast.isBound k := fun k h => Or.inr ((inP k).mp h)
    have bT : ∀ k, (other.templates.get? k).isSome = true → other.ast.isBound k := fun k h => Or.inl ((inT k).mp h).1
    -- the new name of a bound id is among the renamed keys of one of `other`'s maps iff the id is a key of that map
    have img : ∀ {γ} (m : LHM γ), (∀ k, (m.get? k).isSome = true → other.ast.isBound k) → ∀ k, other.ast.isBound k →
        (renamed ren k ∈ m.map (fun e => renamed ren e.1) ↔ (m.get? k).isSome = true) := by
      intro γ m hm k hk
      rw [List.mem_map]
      constructor
      · rintro ⟨⟨k', v⟩, he, hρ⟩
        have h' := get?_isSome_of_mem he
        rw [← ok.rho_inj (hm k' h') hk hρ]; exact h'
      · intro h
        obtain ⟨v, hv⟩ := Option.isSome_iff_exists.mp h
        exact ⟨(k, v), mem_of_get? hv, rfl⟩
    have notImg : ∀ {γ} (m : LHM γ), (∀ k, (m.get? k).isSome = true → other.ast.isBound k) → ∀ x,
        (∀ k, other.ast.isBound k → renamed ren k ≠ x) → x ∉ m.map (fun e => renamed ren e.1) := by
      intro γ m hm x hno h
      obtain ⟨⟨k, v⟩, he, hρ⟩ := List.mem_map.mp h
      exact hno k (hm k (get?_isSome_of_mem he)) hρ
    obtain ⟨mP, hmP, hP⟩ := foldl_absentStep (renamed ren) U.links other.policies s.policies
      (by
        rintro ⟨k, p⟩ he
        have h1 := (inP k).mp (get?_isSome_of_mem he)
        rcases mat (renamed ren k) with ⟨k', hk', hρ, _, eL⟩ | ⟨hno, _⟩
        · rw [ok.rho_inj hk' (Or.inr h1) hρ] at eL
          rw [eL, Option.isSome_map]; exact h1
        · exact absurd rfl (hno k (Or.inr h1)))
    obtain ⟨mT, hmT, hT⟩ := foldl_absentStep (renamed ren) U.templates other.templates s.templates
      (by
        rintro ⟨k, t⟩ he
        have h1 := ((inT k).mp (get?_isSome_of_mem he)).1
        rcases mat (renamed ren k) with ⟨k', hk', hρ, eT, _⟩ | ⟨hno, _⟩
        · rw [ok.rho_inj hk' (Or.inl h1) hρ] at eT
          rw [eT, Option.isSome_map]; exact h1
        · exact absurd rfl (hno k (Or.inl h1)))
    rw [hmP, hmT]
    simp only
    have hpol : ∀ x, mP.get? x = U.links.get? x := by
      intro x
      rw [hP x, hs.proj.pol]
      cases hA : s.ast.links.get? x with
      | some v => exact ((atA x (Or.inr (by rw [hA]; rfl))).2.trans hA).symm
      | none =>
        show (if _ then _ else none) = _
        rcases mat x with ⟨k, hk, rfl, _, eL⟩ | ⟨hno, _, eL⟩
        · by_cases hm : renamed ren k ∈ other.policies.map (fun e => renamed ren e.1)
          · rw [if_pos hm]
          · rw [if_neg hm, eL]
            cases hq : other.ast.links.get? k with
            | none => rfl
            | some q => exact absurd ((img _ bP k hk).mpr ((inP k).mpr (by rw [hq]; rfl))) hm
        · rw [if_neg (notImg _ bP x hno), eL, hA]
    have htmpl : ∀ x t, mT.get? x = some t ↔ (U.templates.get? x = some t ∧ U.links.get? x = none) := by
      intro x t
      rw [hT x]
      cases hA : s.templates.get? x with
      | some t' =>
        obtain ⟨hAT, hAL⟩ := (hs.proj.tmpl x t').mp hA
        obtain ⟨e1, e2⟩ := atA x (Or.inl (by rw [hAT]; rfl))
        rw [e1, e2, hAT, hAL]
        exact ⟨fun h => ⟨h, rfl⟩, fun h => h.1⟩
      | none =>
        show (if _ then _ else none) = some t ↔ _
        rcases mat x with ⟨k, hk, rfl, eT, eL⟩ | ⟨hno, eT, eL⟩
        · by_cases hm : renamed ren k ∈ other.templates.map (fun e => renamed ren e.1)
          · obtain ⟨_, h2⟩ := (inT k).mp ((img _ bT k hk).mp hm)
            rw [if_pos hm, eL, h2]
            exact ⟨fun h => ⟨h, rfl⟩, fun h => h.1⟩
          · rw [if_neg hm, eT, eL]
            refine ⟨nofun, fun ⟨h1, h2⟩ => (hm ((img _ bT k hk).mpr ((inT k).mpr ⟨?_, ?_⟩))).elim⟩
            · cases hq : other.ast.templates.get? k with
              | none => rw [hq] at h1; cases h1
              | some _ => rfl
            · cases hq : other.ast.links.get? k with
              | none => rfl
              | some _ => rw [hq] at h2; cases h2
        · rw [if_neg (notImg _ bT x hno), eT, eL, ← hs.proj.tmpl x t, hA]
    refine ⟨⟨⟨sU.wf, sU.nb, ?_⟩, ⟨hpol, htmpl⟩, sU.ss⟩, by intro m; simp, by simp, by simp⟩
    intro k hk
    obtain ⟨t, ht⟩ := Option.isSome_iff_exists.mp hk
    obtain ⟨h1, h2⟩ := (htmpl k t).mp ht
    exact ⟨h2, by simp [h1]⟩

end Cedar

namespace Cedar

/-- the states of the public `PolicySet` reachable from the empty set by add, add_template, link, unlink,
remove_static, remove_template (successful or failed) and `merge` of two reachable sets (with or without renaming) -/
inductive ApiReachable : ApiPolicySet → Prop
  | empty : ApiReachable {}
  | op {s : ApiPolicySet} (o : ApiOp) : ApiReachable s → o.wellTyped → ApiReachable (s.applyOp o).ps
  | merge {s other : ApiPolicySet} (rd : Bool) : ApiReachable s → ApiReachable other → ApiReachable (s.merge other rd).ps

theorem ApiReachable.inv {s : ApiPolicySet} (h : ApiReachable s) : s.Inv := by
  induction h with
  | empty => exact ApiPolicySet.inv_empty
  | op o _ wt ih => exact ApiPolicySet.applyOp_inv _ o ih wt
  | merge rd _ _ ih1 ih2 => exact (ApiPolicySet.merge_inv _ _ rd ih1 ih2).1

end Cedar
