import CedarVerif.Lemmas.ManifestCover
import CedarVerif.Lemmas.EvalArms
/-
Evaluation over a store `es` and over a sub-store `es'` that covers a trie: access paths are walked over both in step, and a pair
of values (store, slice) is related through the paths that denote it (`PCover`).
-/
namespace Cedar.Manifest
open Cedar

def stepV (es : Entities) (v : Value) (a : String) : Option Value :=
  match v with
  | .prim (.entityUID u) =>
    match es.find? u with
    | some d => lookupKV d.attrs a
    | none => none
  | .record kvs => lookupKV kvs a
  | _ => none

theorem stepV_some {es : Entities} {v w : Value} {a : String} (h : stepV es v a = some w) :
    (∃ kvs, v = .record kvs ∧ lookupKV kvs a = some w) ∨
    ∃ u d, v = .prim (.entityUID u) ∧ es.find? u = some d ∧ lookupKV d.attrs a = some w := by
  unfold stepV at h
  split at h
  · rename_i u
    cases hf : es.find? u with
    | none => simp [hf] at h
    | some d => rw [hf] at h; exact .inr ⟨u, d, rfl, hf, h⟩
  · exact .inl ⟨_, rfl, h⟩
  · cases h

def walk (es : Entities) : Value → List String → Option Value
  | v, [] => some v
  | v, f :: fs =>
    match stepV es v f with
    | some w => walk es w fs
    | none => none

theorem walk_snoc (es : Entities) (a : String) : ∀ (fs : List String) (v : Value),
    walk es v (fs ++ [a]) = (walk es v fs).bind (fun w => stepV es w a)
  | [], v => by cases h : stepV es v a <;> simp [walk, h]
  | f :: fs, v => by
    simp only [List.cons_append, walk]
    cases stepV es v f with
    | none => simp
    | some w => simpa using walk_snoc es a fs w

theorem step_trim {es es' : Entities} (hsub : SubStore es es') {v v' : Value} (ht : Trim v' v) (a : String) {w' : Value}
    (h : stepV es' v' a = some w') : ∃ w, stepV es v a = some w ∧ Trim w' w := by
  rcases stepV_some h with ⟨kvs', rfl, hl⟩ | ⟨u, d', rfl, hf, hl⟩
  · obtain ⟨kvs, rfl, hk⟩ := ht
    exact trimKVs_lookup kvs' kvs a w' hk hl
  · obtain rfl : v = .prim (.entityUID u) := ht
    obtain ⟨d, hd, hk, _⟩ := hsub u d' hf
    simp only [stepV, hd]
    exact trimKVs_lookup d'.attrs d.attrs a w' hk hl

theorem cover_step {es es' : Entities} {req : Request} (hsub : SubStore es es') {a : String} {sub : AccessTrie}
    {c : Fields} {anc : RootAccessTrie} {i e : Bool} {v v' w : Value}
    (hc : CoverV es es' req (.mk ((a, sub) :: c) anc i e) v v') (ht : Trim v' v) (hs : stepV es v a = some w) :
    ∃ w', stepV es' v' a = some w' ∧ CoverV es es' req sub w w' ∧ Trim w' w := by
  have step : ∃ w', stepV es' v' a = some w' ∧ CoverV es es' req sub w w' := by
    rcases stepV_some hs with ⟨kvs, rfl, hl⟩ | ⟨u, d, rfl, hf, hl⟩
    · simp only [CoverV] at hc
      obtain ⟨kvs', rfl, hcf⟩ := hc
      simp only [CoverF] at hcf
      exact hcf.1 w hl
    · simp only [CoverV] at hc
      obtain ⟨rfl, hd⟩ := hc
      obtain ⟨d', h1, h2, _⟩ := hd d hf
      simp only [CoverF] at h2
      obtain ⟨w', h3, h4⟩ := h2.1 w hl
      exact ⟨w', by simp only [stepV, h1, h3], h4⟩
  obtain ⟨w', h1, h2⟩ := step
  obtain ⟨w0, h3, h4⟩ := step_trim hsub ht a h1
  rw [hs] at h3; cases h3
  exact ⟨w', h1, h2, h4⟩

theorem cover_walk_leaf {es es' : Entities} {req : Request} (hsub : SubStore es es') (leaf : AccessTrie) :
    ∀ (fs : List String) (v0 v0' v v' : Value),
      CoverV es es' req (pathTrie fs leaf) v0 v0' → Trim v0' v0 →
      walk es v0 fs = some v → walk es' v0' fs = some v' → CoverV es es' req leaf v v' ∧ Trim v' v
  | [], v0, v0', v, v', hc, ht, h1, h2 => by
    simp only [walk, Option.some.injEq] at h1 h2
    subst h1; subst h2
    exact ⟨hc, ht⟩
  | f :: fs, v0, v0', v, v', hc, ht, h1, h2 => by
    simp only [walk] at h1 h2
    cases hs : stepV es v0 f with
    | none => simp [hs] at h1
    | some w =>
      simp only [hs] at h1
      have hc' : CoverV es es' req (.mk [(f, pathTrie fs leaf)] [] false false) v0 v0' := hc
      obtain ⟨w', h3, h4, h5⟩ := cover_step hsub hc' ht hs
      simp only [h3] at h2
      exact cover_walk_leaf hsub leaf fs w w' v v' h4 h5 h1 h2

theorem pathTrie_append (leaf : AccessTrie) (gs : List String) : ∀ fs : List String,
    pathTrie (fs ++ gs) leaf = pathTrie fs (pathTrie gs leaf)
  | [] => rfl
  | f :: fs => by simp only [List.cons_append, pathTrie, pathTrie_append leaf gs fs]

/-- requests whose context record is a well-formed map (every binding is the one a lookup finds) -/
def CtxWF (req : Request) : Prop := Trim (.record req.context) (.record req.context)

theorem trim_rootVal {req : Request} (hctx : CtxWF req) (root : EntityRoot) : Trim (rootVal req root) (rootVal req root) := by
  cases root with
  | literal u => simp [rootVal, Trim]
  | var x => cases x <;> first | exact hctx | simp [rootVal, Trim]

def Scalar : Value → Prop
  | .prim (.entityUID _) => False
  | .record _ => False
  | .set _ => False
  | _ => True

/-- the value pair `(v, v')` (store, slice) is what one of the access paths denotes -/
def PCover (es es' : Entities) (req : Request) : WPaths → Value → Value → Prop
  | .path root fs, v, v' => walk es (rootVal req root) fs = some v ∧ walk es' (rootVal req root) fs = some v'
  | .union a b, v, v' => PCover es es' req a v v' ∨ PCover es es' req b v v'
  | .empty, v, _ => Scalar v
  | .record _, _, _ => False
  | .set _, _, _ => False

abbrev ResRel {α : Type} (R : α → α → Prop) (r r' : Result α) : Prop := RRel Eq R r r'

def PathsCov (es es' : Entities) (req : Request) (isAnc : Bool) (anc : RootAccessTrie) : WPaths → Prop
  | .path root fs => CoverRoots es es' req (toRootTrieWithLeaf root fs (.mk [] anc isAnc false))
  | .union a b => PathsCov es es' req isAnc anc a ∧ PathsCov es es' req isAnc anc b
  | .empty => True
  | .record _ => True
  | .set _ => True

-- `add_wrapped_access_paths` only adds to the trie
mutual
theorem rootsSub_addWrapped (isAnc : Bool) (anc : RootAccessTrie) : ∀ (p : WPaths) (g g0 : RootAccessTrie),
    rootsSub g0 g → rootsSub g0 (addWrapped g isAnc anc p)
  | .path root fs, g, g0, h => by simp only [addWrapped]; exact rootsSub_union_left _ h
  | .record kvs, g, g0, h => by simp only [addWrapped]; exact rootsSub_addWrappedKVs isAnc anc kvs g g0 h
  | .set elems, g, g0, h => by simp only [addWrapped]; exact rootsSub_addWrapped isAnc anc elems g g0 h
  | .empty, g, g0, h => by simpa only [addWrapped] using h
  | .union a b, g, g0, h => by
    simp only [addWrapped]
    exact rootsSub_addWrapped isAnc anc b _ g0 (rootsSub_addWrapped isAnc anc a g g0 h)
theorem rootsSub_addWrappedKVs (isAnc : Bool) (anc : RootAccessTrie) : ∀ (kvs : List (String × WPaths)) (g g0 : RootAccessTrie),
    rootsSub g0 g → rootsSub g0 (addWrappedKVs g isAnc anc kvs)
  | [], g, g0, h => by simpa only [addWrappedKVs] using h
  | (_, v) :: rest, g, g0, h => by
    simp only [addWrappedKVs]
    exact rootsSub_addWrappedKVs isAnc anc rest _ g0 (rootsSub_addWrapped isAnc anc v g g0 h)
end

theorem coverRoots_addWrappedKVs (es es' : Entities) (req : Request) (isAnc : Bool) (anc : RootAccessTrie) :
    ∀ (kvs : List (String × WPaths)) (g : RootAccessTrie), CoverRoots es es' req (addWrappedKVs g isAnc anc kvs) →
      CoverRoots es es' req g := fun kvs g =>
  coverRoots_anti es es' req _ _ (rootsSub_addWrappedKVs isAnc anc kvs g g (rootsSub_refl g))

theorem pathsCov_addWrapped (es es' : Entities) (req : Request) (isAnc : Bool) (anc : RootAccessTrie) :
    ∀ (p : WPaths) (g : RootAccessTrie), CoverRoots es es' req (addWrapped g isAnc anc p) → PathsCov es es' req isAnc anc p
  | .path root fs, g, h => by
    simp only [addWrapped] at h
    exact (coverRoots_union es es' req _ g h).2
  | .union a b, g, h => by
    simp only [addWrapped] at h
    exact ⟨pathsCov_addWrapped es es' req isAnc anc a g
        (coverRoots_anti es es' req _ _ (rootsSub_addWrapped isAnc anc b _ _ (rootsSub_refl _)) h),
      pathsCov_addWrapped es es' req isAnc anc b _ h⟩
  | .record _, _, _ => trivial
  | .set _, _, _ => trivial
  | .empty, _, _ => trivial

theorem coverRoots_addWrapped (es es' : Entities) (req : Request) (isAnc : Bool) (anc : RootAccessTrie)
    (p : WPaths) (g : RootAccessTrie) (h : CoverRoots es es' req (addWrapped g isAnc anc p)) :
    CoverRoots es es' req g ∧ PathsCov es es' req isAnc anc p :=
  ⟨coverRoots_anti es es' req _ _ (rootsSub_addWrapped isAnc anc p g g (rootsSub_refl g)) h,
   pathsCov_addWrapped es es' req isAnc anc p g h⟩

def derefable : Value → Bool
  | .record _ => true
  | .prim (.entityUID _) => true
  | _ => false

def missErr (es : Entities) : Value → ErrClass
  | .record _ => .attr
  | .prim (.entityUID u) => if (es.find? u).isSome then .attr else .entity
  | _ => .type

theorem getAttrV_eq_step (es : Entities) (a : String) (v : Value) :
    Tpe.getAttrV es a v = match stepV es v a with | some w => .ok w | none => .error (missErr es v) := by
  cases v with
  | record kvs => simp only [Tpe.getAttrV, stepV, missErr]; cases lookupKV kvs a <;> rfl
  | prim p =>
    cases p with
    | entityUID u =>
      simp only [Tpe.getAttrV, stepV, missErr]
      cases es.find? u with
      | none => rfl
      | some d => cases lookupKV d.attrs a <;> rfl
    | _ => rfl
  | _ => rfl

theorem hasAttrV_eq_step (es : Entities) (a : String) (v : Value) :
    Tpe.hasAttrV es a v = if derefable v then .ok (.prim (.bool (stepV es v a).isSome)) else .error .type := by
  cases v with
  | prim p =>
    cases p with
    | entityUID u => simp only [Tpe.hasAttrV, stepV, derefable]; cases es.find? u <;> rfl
    | _ => rfl
  | _ => rfl

theorem getAttrV_step {es : Entities} {v w : Value} {a : String} (h : Tpe.getAttrV es a v = .ok w) : stepV es v a = some w := by
  rw [getAttrV_eq_step] at h
  cases hs : stepV es v a with
  | none => rw [hs] at h; cases h
  | some w0 => rw [hs] at h; cases h; rfl

theorem hasAttrV_scalar {es : Entities} {v w : Value} {a : String} (h : Tpe.hasAttrV es a v = .ok w) : Scalar w := by
  rw [hasAttrV_eq_step] at h
  split at h <;> cases h
  trivial

/-- the slice offers the `.a` step exactly when the store does (`cover_step`, `step_trim`) -/
theorem node_get_has {es es' : Entities} {req : Request} (hsub : SubStore es es') {a : String} {leaf : AccessTrie}
    {c : Fields} {anc : RootAccessTrie} {i e : Bool} {v v' : Value}
    (hc : CoverV es es' req (.mk ((a, leaf) :: c) anc i e) v v') (ht : Trim v' v) :
    Tpe.hasAttrV es' a v' = Tpe.hasAttrV es a v ∧
    (match Tpe.getAttrV es a v with
     | .error x => Tpe.getAttrV es' a v' = .error x
     | .ok w => ∃ w', Tpe.getAttrV es' a v' = .ok w' ∧ Trim w' w ∧ stepV es v a = some w ∧ stepV es' v' a = some w') := by
  rw [hasAttrV_eq_step, hasAttrV_eq_step, getAttrV_eq_step es a v, getAttrV_eq_step es' a v']
  cases hs : stepV es v a with
  | some w =>
    obtain ⟨w', h1, _, h3⟩ := cover_step hsub hc ht hs
    have hd : derefable v' = derefable v := by
      rcases stepV_some hs with ⟨_, rfl, _⟩ | ⟨_, _, rfl, _, _⟩ <;> rcases stepV_some h1 with ⟨_, rfl, _⟩ | ⟨_, _, rfl, _, _⟩ <;>
        first | rfl | (cases ht; done) | (obtain ⟨_, e, _⟩ := ht; cases e)
    simp only [h1, hd, Option.isSome_some, true_and]
    exact ⟨w', rfl, h3, rfl⟩
  | none =>
    have hn : stepV es' v' a = none := by
      cases h : stepV es' v' a with
      | none => rfl
      | some w' => obtain ⟨w, hw, _⟩ := step_trim hsub ht a h; rw [hs] at hw; cases hw
    have hv : derefable v' = derefable v ∧ missErr es' v' = missErr es v := by
      cases v with
      | record kvs => obtain ⟨kvs', rfl, _⟩ := trim_record_inv ht; exact ⟨rfl, rfl⟩
      | prim p =>
        obtain rfl := trim_prim ht
        refine ⟨rfl, ?_⟩
        cases p with
        | entityUID u =>
          simp only [missErr]
          cases hf : es.find? u with
          | some d => obtain ⟨d', hd', _⟩ := hc.2 d hf; simp [hd']
          | none =>
            cases hf' : es'.find? u with
            | none => rfl
            | some d' => obtain ⟨d, hd, _⟩ := hsub u d' hf'; rw [hf] at hd; cases hd
        | _ => rfl
      | set s => obtain rfl := trim_nonrecord ht (by intro kvs; simp); exact ⟨rfl, rfl⟩
      | ext x => obtain rfl := trim_nonrecord ht (by intro kvs; simp); exact ⟨rfl, rfl⟩
    simp only [hn, hv.1, hv.2, and_self]

theorem scalar_get_has {es es' : Entities} {v v' : Value} (hs : Scalar v) (ht : Trim v' v) (a : String) :
    Tpe.hasAttrV es' a v' = Tpe.hasAttrV es a v ∧ Tpe.getAttrV es a v = .error .type ∧ Tpe.getAttrV es' a v' = .error .type := by
  obtain rfl : v' = v := trim_nonrecord ht fun kvs e => by subst e; exact hs
  cases v' with
  | record kvs => exact hs.elim
  | prim p => cases p <;> first | exact hs.elim | exact ⟨rfl, rfl, rfl⟩
  | _ => exact ⟨rfl, rfl, rfl⟩

theorem pathTrie_snoc_not_new (a : String) (leaf : AccessTrie) (fs : List String) : (pathTrie (fs ++ [a]) leaf).isNew = false := by
  cases fs <;> rfl

end Cedar.Manifest
