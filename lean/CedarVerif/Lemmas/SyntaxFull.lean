import CedarVerif.Lemmas.SyntaxMem
/-
C05: the precedence-climbing induction on the fragment `inFrag3` (= everything the parser can produce, modulo the
`splitOn`/`intercalate` side condition on type names); the statements on the smaller fragments are instances.

What the induction has to know about a printed sub-expression `a` depends on where the printer puts it:
  * inside brackets or an `if` — `TopOK` (SyntaxMem): `exprLevel` reads `printE a` back before any closing token;
  * as an operand, printed `paren (needsParens a) (printE a)` — `Opnd`: `member` reads it back, and it starts neither a `Unary` nor an `if`;
  * bare, with more to come — a node the printer leaves unparenthesised before `.f` / `(…)` / `[…]` is an open `Member` (`MemK`,
    SyntaxMem), the left child of a chain node of its own level is a chain still in its loop (`ChainK`, SyntaxParse).
`Good` holds these for one expression; one lemma per constructor of `Expr` builds its part from the children's.
-/
namespace Cedar.Syntax
open Cedar

/-- the four chain levels `X ( op X )*` of the grammar -/
inductive Lvl where
  | mul | add | and | or

def Lvl.opd (pe : P EOS) : Lvl → P EOS
  | .mul => unary pe
  | .add => mult pe
  | .and => relation pe
  | .or => andLevel pe

def Lvl.opOf : Lvl → OpOf
  | .mul => multOp
  | .add => addOp
  | .and => andOp
  | .or => orOp

/-- a token of a level above this one ends an operand of the chain -/
def Lvl.stop : Lvl → Nat
  | .mul => 0
  | .add => 2
  | .and => 4
  | .or => 5

def Lvl.node : Lvl → Expr → Bool
  | .mul, e => isBin .mul e
  | .add, e => isBin .add e || isBin .sub e
  | .and, e => isAnd e
  | .or, e => isOr e

def isChain (e : Expr) : Bool := isAnd e || isOr e || isBin .add e || isBin .sub e || isBin .mul e

theorem Lvl.isChain_of_node {l : Lvl} {e : Expr} (h : l.node e = true) : isChain e = true := by
  cases l
  · simp [isChain, show isBin .mul e = true from h]
  · rcases Bool.or_eq_true_iff.mp h with h | h <;> simp [isChain, h]
  · simp [isChain, show isAnd e = true from h]
  · simp [isChain, show isOr e = true from h]

theorem Lvl.of_member (l : Lvl) {pe : P EOS} {ts r : List Token} {s : EOS} (h : member pe ts = some (s, r))
    (hs : startsPlain ts = true) (hr : l.stop < headLv r) : l.opd pe ts = some (s, r) := by
  cases l
  · exact m_unary h hs
  · exact m_mult h hs hr
  · exact m_rel h hs hr
  · exact m_and h hs hr

theorem Lvl.to_top (l : Lvl) {pe : P EOS} {ts r : List Token} {s : EOS} (h : chainLevel (l.opd pe) l.opOf ts = some (s, r))
    (hr : headLv r = 7) (hs : ∀ r, ts ≠ .ident "if" :: r) : exprLevel pe ts = some (s, r) := by
  cases l
  · exact mult_to_top h hr hs
  · exact add_to_top h hr hs
  · exact and_to_top h hr hs
  · exact or_to_top h hs

theorem Lvl.opOf_none (l : Lvl) {t : Token} (h : 6 < tokLevel t) : l.opOf t = none := by
  cases l
  · exact multOp_none (by omega)
  · exact addOp_none (by omega)
  · exact andOp_none (by omega)
  · exact orOp_none h

/-- `a` printed as an operand (`maybe_with_parens`) is read back by `Member`, and does not start like a `Unary` or an `if` -/
def Opnd (me : Char → Bool) (pe : P EOS) (a : Expr) : Prop :=
  ∀ r, 1 ≤ headLv r →
    ∃ s, member pe (paren (needsParens a) (printE me a) ++ r) = some (s, r) ∧ s.toExpr = some a ∧
      startsPlain (paren (needsParens a) (printE me a) ++ r) = true

/-- what the induction carries for an expression `e` parsed with `pe = parseFuel f`: it is read back at the top level;
a node of a chain level is read by that level's loop, so that it may be continued (`a + b` in `a + b + c`); an
expression printed bare as an operand is an open `Member` (`a.b` in `a.b.c`) -/
structure Good (me : Char → Bool) (e : Expr) (f : Nat) : Prop where
  top : TopOK me (parseFuel (f + 1)) e
  chain : ∀ l : Lvl, l.node e = true → ∀ R, l.stop < headLv R → ChainK (l.opd (parseFuel f)) l.opOf (printE me e) e R
  kmem : needsParens e = false → MemK (parseFuel f) (printE me e) e
  plain : (isChain e || !needsParens e) = true → ∀ R, startsPlain (printE me e ++ R) = true

theorem good_of_top {me : Char → Bool} {e : Expr} {f : Nat} (hc : isChain e = false) (hp : needsParens e = true)
    (h : TopOK me (parseFuel (f + 1)) e) : Good me e f :=
  ⟨h, fun l hl => by simp [l.isChain_of_node hl] at hc, by simp [hp], by simp [hc, hp]⟩

theorem good_of_mem {me : Char → Bool} {e : Expr} {f : Nat} (hc : isChain e = false)
    (hm : MemK (parseFuel f) (printE me e) e) (hpl : ∀ R, startsPlain (printE me e ++ R) = true) : Good me e f := by
  refine ⟨?_, fun l hl => by simp [l.isChain_of_node hl] at hc, fun _ => hm, fun _ => hpl⟩
  intro rest hr
  obtain ⟨s, h1, h2⟩ := memK_member hm rest (by omega)
  exact ⟨s, m_top h1 (hpl rest) hr, h2⟩

theorem startsPlain_append {A : List Token} (h : ∀ R, startsPlain (A ++ R) = true) (T R : List Token) :
    startsPlain ((A ++ T) ++ R) = true := by
  rw [List.append_assoc]; exact h _

/-- A binary node `e = g a b` of the chain level `l` as printed.  The printer leaves the left operand bare when it is
a node of the same level (`c`); it is then already in the level's loop (`Ga.chain`), otherwise it is one operand. -/
theorem good_chain {me : Char → Bool} {f : Nat} (l : Lvl) {tok : Token} {g : Expr → Expr → Expr} {a b e : Expr} {c : Bool}
    (hop : l.opOf tok = some (some g)) (htok : l.stop < tokLevel tok) (he : g a b = e)
    (hpr : printE me e = paren (needsParens a && !c) (printE me a) ++ tok :: paren (needsParens b) (printE me b))
    (hl : ∀ l' : Lvl, l'.node e = true → l' = l) (hnp : needsParens e = true)
    (Ga : Good me a f) (hc : c = true → l.node a = true)
    (ha : Opnd me (parseFuel f) a) (hb : Opnd me (parseFuel f) b) : Good me e f := by
  subst he
  have hst : l.stop < 7 := by cases l <;> decide
  have K : ∀ R, l.stop < headLv R → ChainK (l.opd (parseFuel f)) l.opOf (printE me (g a b)) (g a b) R := by
    intro R hR
    obtain ⟨sb, hb1, hb2, hbs⟩ := hb R (by omega)
    have hB := l.of_member hb1 hbs hR
    rw [hpr]
    cases hcc : c with
    | false =>
      obtain ⟨sa, ha1, ha2, has⟩ := ha (tok :: (paren (needsParens b) (printE me b) ++ R)) (by simp only [headLv]; omega)
      simpa using chainK_node hop hB hb2 (Or.inl ⟨sa, l.of_member ha1 has htok, ha2⟩)
    | true => simpa [paren] using chainK_node hop hB hb2 (Or.inr (Ga.chain l (hc hcc) _ htok))
  have Pl : ∀ R, startsPlain (printE me (g a b) ++ R) = true := by
    intro R
    rw [hpr, List.append_assoc]
    cases hcc : c with
    | false =>
      obtain ⟨_, _, _, has⟩ := ha (tok :: (paren (needsParens b) (printE me b) ++ R)) (by simp only [headLv]; omega)
      simpa using has
    | true => simpa [paren] using Ga.plain (by simp [l.isChain_of_node (hc hcc)]) _
  refine ⟨fun rest hr => ⟨.expr (g a b), ?_, rfl⟩, fun l' h' => by rw [hl l' h']; exact K, fun h => by simp [hnp] at h,
    fun _ => Pl⟩
  exact l.to_top (chainK_done (K rest (by omega)) (stop_of_seven (fun t h => l.opOf_none h) hr)) hr (not_if_of_plain (Pl rest))

theorem top_ite (me : Char → Bool) {pe : P EOS} {c t e : Expr} (hc : TopOK me pe c) (ht : TopOK me pe t) (he : TopOK me pe e) :
    TopOK me (exprLevel pe) (.ite c t e) := by
  intro rest hr
  obtain ⟨sc, hc1, hc2⟩ := hc (.ident "then" :: (printE me t ++ .ident "else" :: (printE me e ++ rest))) (by simp [headLv, tokLevel])
  obtain ⟨st, ht1, ht2⟩ := ht (.ident "else" :: (printE me e ++ rest)) (by simp [headLv, tokLevel])
  obtain ⟨se, he1, he2⟩ := he rest hr
  refine ⟨.expr (.ite c t e), ?_, rfl⟩
  simp only [printE, List.cons_append, List.append_assoc]
  simp only [exprLevel, hc1, ht1, he1, hc2, ht2, he2]

theorem top_not (me : Char → Bool) {pe : P EOS} {a : Expr} (ha : Opnd me pe a) : TopOK me (exprLevel pe) (.unaryApp .not a) := by
  intro rest hr
  obtain ⟨sa, ha1, ha2, has⟩ := ha rest (by omega)
  have hu : unary pe (.bang :: (paren (needsParens a) (printE me a) ++ rest)) = some (.expr (.unaryApp .not a), rest) := by
    simp only [unary, countBang, countBang_plain has]
    simp [ha1, ha2, applyN]
  exact ⟨_, add_to_top (unary_to_add hu (by omega)) hr (by intro r h; cases h), rfl⟩

theorem top_neg (me : Char → Bool) {pe : P EOS} {a : Expr} (ha : TopOK me pe a) : TopOK me (exprLevel pe) (.unaryApp .neg a) := by
  intro rest hr
  obtain ⟨sa, ha1, ha2⟩ := ha (.rparen :: rest) (by simp [headLv, tokLevel])
  have hm : member pe (.lparen :: (printE me a ++ .rparen :: rest)) = some (.expr a, rest) := by
    apply member_of_primary _ (by omega)
    simp only [primary, ha1]
    simp [ha2]
  have hu : unary pe (.minus :: .lparen :: (printE me a ++ .rparen :: rest)) = some (.expr (.unaryApp .neg a), rest) := by
    simp only [unary, countMinus]
    simp [hm, EOS.toExpr, applyN]
  refine ⟨.expr (.unaryApp .neg a), ?_, rfl⟩
  simp only [printE, List.cons_append, List.append_assoc, List.nil_append]
  exact add_to_top (unary_to_add hu (by omega)) hr (by intro r h; cases h)

/-- `== < <= in` -/
theorem top_rel (me : Char → Bool) {pe : P EOS} {op : BinaryOp} {tok : Token} {a b : Expr}
    (hpr : printE me (.binaryApp op a b) = paren (needsParens a) (printE me a) ++ (tok :: paren (needsParens b) (printE me b)))
    (hlv : tokLevel tok = 4) (hkw : tok ≠ .ident "has" ∧ tok ≠ .ident "like" ∧ tok ≠ .ident "is")
    (hrel : relOp tok = some (some (.binaryApp op))) (ha : Opnd me pe a) (hb : Opnd me pe b) :
    TopOK me (exprLevel pe) (.binaryApp op a b) := by
  intro rest hr
  obtain ⟨sb, hb1, hb2, hbs⟩ := hb rest (by omega)
  obtain ⟨sa, ha1, ha2, has⟩ := ha (tok :: (paren (needsParens b) (printE me b) ++ rest)) (by simp only [headLv]; omega)
  have h := rel_one hkw hrel (m_add ha1 has (by simp only [headLv]; omega)) ha2 (m_add hb1 hbs (by omega)) hb2 hr
  rw [hpr, List.append_assoc, List.cons_append]
  exact ⟨_, rel_to_top h hr (not_if_of_plain has), rfl⟩

theorem top_has (me : Char → Bool) {pe : P EOS} {a : Expr} (x : String) (ha : Opnd me pe a) :
    TopOK me (exprLevel pe) (.hasAttr a x) := by
  intro rest hr
  obtain ⟨sa, ha1, ha2, has⟩ := ha (.ident "has" :: keyTok me x :: rest) (by simp [headLv, tokLevel])
  have hA := m_add ha1 has (by simp [headLv, tokLevel])
  have hrel : relation pe (paren (needsParens a) (printE me a) ++ .ident "has" :: keyTok me x :: rest) =
      some (.expr (.hasAttr a x), rest) := by
    unfold relation
    rw [hA]
    simp [ha2, hasRhs_key me x hr, extendedHas]
  refine ⟨.expr (.hasAttr a x), ?_, rfl⟩
  simp only [printE, List.append_assoc, List.cons_append, List.nil_append]
  exact rel_to_top hrel hr (not_if_of_plain has)

theorem top_like (me : Char → Bool) {pe : P EOS} {a : Expr} (p : Pattern) (ha : Opnd me pe a) :
    TopOK me (exprLevel pe) (.like a p) := by
  intro rest hr
  obtain ⟨sa, ha1, ha2, has⟩ := ha (.ident "like" :: .str (escapePattern me p) :: rest) (by simp [headLv, tokLevel])
  have hA := m_add ha1 has (by simp [headLv, tokLevel])
  have hP : add pe (.str (escapePattern me p) :: rest) = some (.strLit (escapePattern me p), rest) :=
    m_add (member_of_primary (by simp [primary]) (by omega)) (by simp [startsPlain]) (by omega)
  have hrel : relation pe (paren (needsParens a) (printE me a) ++ .ident "like" :: .str (escapePattern me p) :: rest) =
      some (.expr (.like a p), rest) := by
    unfold relation
    rw [hA]
    simp [ha2, hP, unescapePattern, unescapeGo_escapePattern]
  refine ⟨.expr (.like a p), ?_, rfl⟩
  simp only [printE, List.append_assoc, List.cons_append, List.nil_append]
  exact rel_to_top hrel hr (not_if_of_plain has)

theorem top_is (me : Char → Bool) {pe : P EOS} {a : Expr} {ty : String} (hty : typeNameOk ty = true) (ha : Opnd me pe a) :
    TopOK me (exprLevel pe) (.is a ty) := by
  intro rest hr
  obtain ⟨sa, ha1, ha2, has⟩ := ha (.ident "is" :: (nameTokens ty ++ rest)) (by simp [headLv, tokLevel])
  have hA := m_add ha1 has (by simp [headLv, tokLevel])
  obtain ⟨x, hx1, hx2⟩ := add_typeName pe ty hty rest hr
  have hrel : relation pe (paren (needsParens a) (printE me a) ++ .ident "is" :: (nameTokens ty ++ rest)) =
      some (.expr (.is a ty), rest) := by
    unfold relation
    rw [hA]
    simp only [ha2, hx1, hx2]
    -- what follows the type name is not `in`
    simp only [Token.ident.injEq, String.reduceEq, if_false, if_true]
    split
    · simp [headLv, tokLevel] at hr
    · rfl
  refine ⟨.expr (.is a ty), ?_, rfl⟩
  simp only [printE, List.append_assoc, List.cons_append]
  exact rel_to_top hrel hr (not_if_of_plain has)

theorem parse_print_aux3 (me : Char → Bool) (e : Expr) (hf : inFrag3 e = true) (f : Nat) (hfe : sz3 e ≤ f) : Good me e f := by
  induction hsz : sz3 e using Nat.strongRecOn generalizing e f with
  | _ n ih =>
    obtain ⟨f', rfl⟩ : ∃ f', f = f' + 1 := ⟨f - 1, by have := sz3_pos e; omega⟩
    rw [hsz] at hfe
    have hclose : ∀ t, (t = .rparen ∨ t = .rbrack ∨ t = .rbrace ∨ t = .comma) → ∀ ts, parseFuel (f' + 1) (t :: ts) = none :=
      fun t ht ts => exprLevel_close _ t ht ts
    -- sub-expressions inside brackets / `if`: one unit of fuel less
    have S : ∀ a, sz3 a < n → inFrag3 a = true → TopOK me (parseFuel (f' + 1)) a :=
      fun a ha hfa => (ih (sz3 a) ha a hfa f' (by omega) rfl).top
    -- the left child of a chain node / an unparenthesised operand, at the same fuel
    have G : ∀ a, sz3 a < n → inFrag3 a = true → Good me a (f' + 1) :=
      fun a ha hfa => ih (sz3 a) ha a hfa (f' + 1) (by omega) rfl
    have W : ∀ a, sz3 a < n → inFrag3 a = true →
        MemK (parseFuel (f' + 1)) (paren (needsParens a) (printE me a)) a ∧
        ∀ r, startsPlain (paren (needsParens a) (printE me a) ++ r) = true := by
      intro a ha hfa
      cases hp : needsParens a
      · exact ⟨(G a ha hfa).kmem hp, (G a ha hfa).plain (by simp [hp])⟩
      · exact ⟨memK_paren me _ a (S a ha hfa), fun r => rfl⟩
    have Wm : ∀ a, sz3 a < n → inFrag3 a = true → Opnd me (parseFuel (f' + 1)) a := by
      intro a ha hfa r hr
      obtain ⟨hm, hpl⟩ := W a ha hfa
      obtain ⟨s, h1, h2⟩ := memK_member hm r hr
      exact ⟨s, h1, h2, hpl r⟩
    cases e
    case lit | var | slot => exact good_of_mem rfl (memK_atom me (parseFuel f') _ hf rfl) (atom3_plain me _ hf rfl)
    case unknown n ty => simp [inFrag3] at hf
    case ite c t e' =>
      simp only [inFrag3, Bool.and_eq_true] at hf
      simp only [sz3] at hsz
      exact good_of_top rfl rfl (top_ite me (S c (by omega) hf.1.1) (S t (by omega) hf.1.2) (S e' (by omega) hf.2))
    case unaryApp op a =>
      simp only [inFrag3] at hf
      simp only [sz3] at hsz
      cases op with
      | not => exact good_of_top rfl rfl (top_not me (Wm a (by omega) hf))
      | neg => exact good_of_top rfl rfl (top_neg me (S a (by omega) hf))
      | isEmpty =>
        obtain ⟨hm, hpl⟩ := W a (by omega) hf
        have hK := memK_meth me (hclose _ (by simp)) "isEmpty" (by decide) [] hm (by simp) (e' := .unaryApp .isEmpty a) (by simp [toMeth])
        exact good_of_mem rfl hK (startsPlain_append hpl _)
    case and a b =>
      simp only [inFrag3, Bool.and_eq_true, Bool.not_eq_true'] at hf
      simp only [sz3] at hsz
      obtain ⟨⟨hfa, hfb⟩, hlit⟩ := hf
      exact good_chain .and (tok := .andand) (c := isAnd a) rfl (by decide) (mkAnd_eq hlit) rfl
        (by intro l' h; cases l' <;> first | rfl | simp [Lvl.node, isBin, isOr] at h) rfl
        (G a (by omega) hfa) (fun h => h) (Wm a (by omega) hfa) (Wm b (by omega) hfb)
    case or a b =>
      simp only [inFrag3, Bool.and_eq_true, Bool.not_eq_true'] at hf
      simp only [sz3] at hsz
      obtain ⟨⟨hfa, hfb⟩, hlit⟩ := hf
      exact good_chain .or (tok := .oror) (c := isOr a) rfl (by decide) (mkOr_eq hlit) rfl
        (by intro l' h; cases l' <;> first | rfl | simp [Lvl.node, isBin, isAnd] at h) rfl
        (G a (by omega) hfa) (fun h => h) (Wm a (by omega) hfa) (Wm b (by omega) hfb)
    case binaryApp op a b =>
      simp only [inFrag3, Bool.and_eq_true] at hf
      simp only [sz3] at hsz
      obtain ⟨hfa, hfb⟩ := hf
      have Ga := G a (by omega) hfa
      have Oa := Wm a (by omega) hfa
      have Ob := Wm b (by omega) hfb
      obtain ⟨hma, hpl⟩ := W a (by omega) hfa
      have hrp := hclose .rparen (by simp)
      have Sb := S b (by omega) hfb
      cases op
      case eq => exact good_of_top rfl rfl (top_rel me (tok := .eqeq) rfl rfl (by simp) rfl Oa Ob)
      case less => exact good_of_top rfl rfl (top_rel me (tok := .lt) rfl rfl (by simp) rfl Oa Ob)
      case lessEq => exact good_of_top rfl rfl (top_rel me (tok := .le) rfl rfl (by simp) rfl Oa Ob)
      case mem => exact good_of_top rfl rfl (top_rel me (tok := .ident "in") rfl (by simp [tokLevel]) (by simp) (by simp [relOp]) Oa Ob)
      case contains | containsAll | containsAny | getTag | hasTag =>
        exact good_of_mem rfl (memK_binMeth me hrp (by simp [toMeth, methodName]) (by decide) hma Sb) (startsPlain_append hpl _)
      case add =>
        exact good_chain .add (tok := .plus) (c := isBin .add a) rfl (by decide) rfl rfl
          (by intro l' h; cases l' <;> first | rfl | simp [Lvl.node, isBin, isAnd, isOr] at h) rfl Ga (fun h => by simp [Lvl.node, h]) Oa Ob
      case sub =>
        exact good_chain .add (tok := .minus) (c := isBin .sub a) rfl (by decide) rfl rfl
          (by intro l' h; cases l' <;> first | rfl | simp [Lvl.node, isBin, isAnd, isOr] at h) rfl Ga (fun h => by simp [Lvl.node, h]) Oa Ob
      case mul =>
        exact good_chain .mul (tok := .star) (c := isBin .mul a) rfl (by decide) rfl rfl
          (by intro l' h; cases l' <;> first | rfl | simp [Lvl.node, isBin, isAnd, isOr] at h) rfl Ga (fun h => h) Oa Ob
    case call fn args =>
      simp only [inFrag3, Bool.and_eq_true, Bool.or_eq_true] at hf
      simp only [sz3] at hsz
      obtain ⟨hfn, hargs⟩ := hf
      have hrp := hclose .rparen (by simp)
      cases hmth : isExtMethod fn
      · have hfun : isExtFunction fn = true := by simpa [hmth] using hfn
        obtain ⟨hK, hpl⟩ := memK_extFun me hrp hfun args
          (fun x hx => S x (by have := sz3L_mem hx; omega) (inFrag3L_mem hargs hx))
        exact good_of_mem rfl hK hpl
      · cases args with
        | nil =>
          rcases hfn with h | h
          · have := (extFunction_facts h []).2.1; rw [hmth] at this; cases this
          · simp at h
        | cons r rest =>
          simp only [inFrag3L, Bool.and_eq_true] at hargs
          simp only [sz3L] at hsz
          obtain ⟨hmr, hpl⟩ := W r (by omega) hargs.1
          obtain ⟨htm, hun⟩ := toMeth_ext hmth r rest
          have hK := memK_meth me hrp fn hun rest hmr
            (fun x hx => S x (by have := sz3L_mem hx; omega) (inFrag3L_mem hargs.2 hx)) htm
          refine good_of_mem rfl ?_ (fun R => ?_)
          · simpa [printE, hmth] using hK
          · simpa [printE, hmth, List.append_assoc] using hpl _
    case getAttr a x =>
      simp only [inFrag3] at hf
      simp only [sz3] at hsz
      obtain ⟨hma, hpl⟩ := W a (by omega) hf
      exact good_of_mem rfl (memK_getAttr me x hma (fun raw R => str_top _ raw _ rfl)) (startsPlain_append hpl _)
    case hasAttr a x =>
      simp only [inFrag3] at hf
      simp only [sz3] at hsz
      exact good_of_top rfl rfl (top_has me x (Wm a (by omega) hf))
    case like a p =>
      simp only [inFrag3] at hf
      simp only [sz3] at hsz
      exact good_of_top rfl rfl (top_like me p (Wm a (by omega) hf))
    case is a ty =>
      simp only [inFrag3, Bool.and_eq_true] at hf
      simp only [sz3] at hsz
      exact good_of_top rfl rfl (top_is me hf.2 (Wm a (by omega) hf.1))
    case set es =>
      simp only [inFrag3] at hf
      simp only [sz3] at hsz
      exact good_of_mem rfl
        (memK_set me _ (hclose _ (by simp)) es (fun x hx => S x (by have := sz3L_mem hx; omega) (inFrag3L_mem hf hx)))
        (fun R => rfl)
    case record kvs =>
      simp only [inFrag3, Bool.and_eq_true] at hf
      simp only [sz3] at hsz
      exact good_of_mem rfl
        (memK_record me _ (keyOK_exprLevel me (parseFuel f')) kvs
          (fun kv hkv => S kv.2 (by have := sz3K_mem (k := kv.1) (a := kv.2) hkv; omega) (inFrag3K_mem (k := kv.1) hf.2 hkv)) hf.1)
        (fun R => rfl)

theorem paren_length_ge (b : Bool) (ts : List Token) : ts.length ≤ (paren b ts).length := by
  cases b <;> simp [paren] <;> omega

mutual
theorem sz3_le_print (me : Char → Bool) : ∀ e : Expr, sz3 e ≤ (printE me e).length
  | .lit p => by cases p <;> simp [sz3, printE]; split <;> simp
  | .var _ | .slot _ | .unknown _ _ => by simp [sz3, printE]
  | .ite c t e => by
    have h1 := sz3_le_print me c
    have h2 := sz3_le_print me t
    have h3 := sz3_le_print me e
    simp only [sz3, printE, List.length_cons, List.length_append]
    omega
  | .and a b => by
    have h1 := sz3_le_print me a
    have h2 := sz3_le_print me b
    have p1 := paren_length_ge (needsParens a && !isAnd a) (printE me a)
    have p2 := paren_length_ge (needsParens b) (printE me b)
    simp only [sz3, printE, List.length_cons, List.length_append]
    omega
  | .or a b => by
    have h1 := sz3_le_print me a
    have h2 := sz3_le_print me b
    have p1 := paren_length_ge (needsParens a && !isOr a) (printE me a)
    have p2 := paren_length_ge (needsParens b) (printE me b)
    simp only [sz3, printE, List.length_cons, List.length_append]
    omega
  | .unaryApp op a => by
    have h1 := sz3_le_print me a
    have p1 := paren_length_ge (needsParens a) (printE me a)
    cases op <;> simp only [sz3, printE, List.length_cons, List.length_append, List.length_nil] <;> omega
  | .binaryApp op a b => by
    have h1 := sz3_le_print me a
    have h2 := sz3_le_print me b
    have p2 := paren_length_ge (needsParens b) (printE me b)
    have p1 := paren_length_ge (needsParens a) (printE me a)
    have p1' := paren_length_ge (needsParens a && !isBin op a) (printE me a)
    cases op <;> simp only [sz3, printE, List.length_cons, List.length_append, List.length_nil] <;> omega
  | .call fn args => by
    cases hm : isExtMethod fn
    · have hl := sz3L_le_print me args
      rw [printE_call_fun me fn args hm]
      simp only [sz3, List.length_cons, List.length_append, List.length_nil]; omega
    · cases args with
      | nil => simp [printE, hm, sz3, sz3L]
      | cons r rest =>
        have h1 := sz3_le_print me r
        have h2 := sz3L_le_print me rest
        have p1 := paren_length_ge (needsParens r) (printE me r)
        simp only [sz3, sz3L, printE, hm, if_true, List.length_cons, List.length_append, List.length_nil]; omega
  | .getAttr a x => by
    have h1 := sz3_le_print me a
    have p1 := paren_length_ge (needsParens a) (printE me a)
    simp only [sz3, printE, List.length_append]
    split <;> simp only [List.length_cons, List.length_nil] <;> omega
  | .hasAttr a x | .like a x => by
    have h1 := sz3_le_print me a
    have p1 := paren_length_ge (needsParens a) (printE me a)
    simp only [sz3, printE, List.length_cons, List.length_append, List.length_nil]; omega
  | .is a x => by
    have h1 := sz3_le_print me a
    have p1 := paren_length_ge (needsParens a) (printE me a)
    simp only [sz3, printE, List.length_cons, List.length_append]; omega
  | .set es => by
    have hl := sz3L_le_print me es
    simp only [sz3, printE, List.length_cons, List.length_append, List.length_nil]; omega
  | .record kvs => by
    have hl := sz3K_le_print me kvs
    simp only [sz3, printE, List.length_cons, List.length_append, List.length_nil]; omega
termination_by structural e => e
theorem sz3L_le_print (me : Char → Bool) : ∀ es : List Expr, sz3L es ≤ (printEs me es).length
  | [] => by simp [sz3L]
  | e :: es => by
    have h1 := sz3_le_print me e
    have h2 := sz3L_le_printTail me es
    simp only [sz3L, printEs, List.length_append]; omega
termination_by structural es => es
theorem sz3L_le_printTail (me : Char → Bool) : ∀ es : List Expr, sz3L es ≤ (printEsTail me es).length
  | [] => by simp [sz3L]
  | e :: es => by
    have h1 := sz3_le_print me e
    have h2 := sz3L_le_printTail me es
    simp only [sz3L, printEsTail, List.length_cons, List.length_append]; omega
termination_by structural es => es
theorem sz3K_le_print (me : Char → Bool) : ∀ kvs : List (String × Expr), sz3K kvs ≤ (printKVs me kvs).length
  | [] => by simp [sz3K]
  | (k, e) :: kvs => by
    have h1 := sz3_le_print me e
    have h2 := sz3K_le_printTail me kvs
    simp only [sz3K, printKVs, List.length_cons, List.length_append]; omega
termination_by structural kvs => kvs
theorem sz3K_le_printTail (me : Char → Bool) : ∀ kvs : List (String × Expr), sz3K kvs ≤ (printKVsTail me kvs).length
  | [] => by simp [sz3K]
  | (k, e) :: kvs => by
    have h1 := sz3_le_print me e
    have h2 := sz3K_le_printTail me kvs
    simp only [sz3K, printKVsTail, List.length_cons, List.length_append]; omega
termination_by structural kvs => kvs
end

theorem parse_print_frag3 (me : Char → Bool) (e : Expr) (h : inFrag3 e = true) : Parse.expr (Print.expr me e) = some e := by
  unfold Parse.expr Print.expr
  obtain ⟨s, h1, h2⟩ := (parse_print_aux3 me e h (printE me e).length (sz3_le_print me e)).top [] rfl
  simp only [List.append_nil] at h1
  rw [h1]
  exact h2

theorem parse_print_aux (me : Char → Bool) : ∀ k e, fsize e ≤ k → inFrag e = true → ∀ f, fsize e ≤ f →
    ∀ rest, headLv rest = 7 →
    ∃ s, parseFuel (f + 1) (printE me e ++ rest) = some (s, rest) ∧ s.toExpr = some e := by
  intro _ e _ hf f hfe
  have h2 := inFrag2_of_inFrag e hf
  rw [← sz3_eq_fsize e h2] at hfe
  exact (parse_print_aux3 me e (inFrag3_of_inFrag2 e h2) f hfe).top

end Cedar.Syntax
