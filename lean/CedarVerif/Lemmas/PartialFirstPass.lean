import CedarVerif.Lemmas.PartialCompletes
import CedarVerif.Lemmas.PartialClosedWorld
/-
The first pass on a partial store.  What `pinterp` reads from the store it reads through three functions (`papplyBinary`,
`getAttrVal`, `hasAttrVal`); under `StoreCompletesOn` each is sound for its concrete counterpart.  The main induction
`pinterp_sound_on` is on the recursion budget, so that the component of a residual record that `get_attr` re-interprets is
covered by the induction hypothesis.
-/
namespace Cedar
namespace PS
open Tpe (bindR getAttrV hasAttrV likeV isV)

section
variable {σ : Mapper} {req : Request} {es : Entities} {env : SlotEnv} {pes : PEntities} {U : EntityUID → Prop}

theorem evalIn_sound (u1 : EntityUID) (anc : Option (List EntityUID)) (v2 : Value)
    (hin : ∀ u2, inE es u1 u2 = (u1 == u2 || (match anc with | some a => a.contains u2 | none => false))) :
    Sound2 σ req es env (applyBinary es .mem (.prim (.entityUID u1)) v2) (evalIn u1 anc v2) := by
  simp only [applyBinary, bind, Except.bind, Value.asEntity]
  cases v2 with
  | prim p =>
    cases p with
    | entityUID u2 => exact s2_val (by simp only [hin]; rfl) trivial
    | bool b => exact s2_err .type rfl
    | int i => exact s2_err .type rfl
    | string s => exact s2_err .type rfl
  | set vs =>
    simp only [evalIn]
    cases hl : asEntityList vs with
    | error c => exact s2_err c rfl
    | ok us =>
      refine s2_val ?_ trivial
      simp only [hin]
      rfl
  | record kvs => exact s2_err .type rfl
  | ext x => exact s2_err .type rfl

/-- the value/value arm, relativised: `Bound` is needed only for the uid of the left operand, which lies in `U` -/
theorem papplyBinary_sound3_on (hS : StoreCompletesOn U σ pes es) (op : BinaryOp) {v1 v2 : Value} (h2 : v2.Canon) (hU1 : VIn U v1) :
    Sound2 σ req es env (applyBinary es op v1 v2) (papplyBinary pes op v1 v2) := by
  cases hop : op.storeFree with
  | true =>
    rw [papplyBinary_storeFree pes es op hop]
    refine s2_ofResult (fun w hw => ?_)
    rw [applyBinary_storeFree hop es []] at hw
    exact applyBinary_canon (es := []) (by intro u d h; cases h) hw
  | false =>
    cases op <;> simp [BinaryOp.storeFree] at hop
    case mem =>
      cases he : v1.asEntity with
      | error c => simp only [papplyBinary, applyBinary, bind, Except.bind, he]; exact s2_err c rfl
      | ok u1 =>
        have hv1 := asEntity_ok he; subst hv1
        simp only [papplyBinary, he]
        rcases entity_cases pes u1 with ⟨d, hf, hE⟩ | ⟨hf, hp, hE⟩ | ⟨hf, hp, hE⟩
        · rw [hE]
          obtain ⟨d', hf', hanc, _, _⟩ := hS.data hf
          exact evalIn_sound u1 (some d.ancestors) v2 (by intro u2; simp only [inE, hf', hanc])
        · rw [hE]
          exact evalIn_sound u1 none v2 (by intro u2; simp only [inE, hS.noSuch hf hp])
        · rw [hE]
          have hb := hS.bound hf hp (hU1 _ (by simp [Cedar.Tpe.valueUids]))
          refine s2_frag ?_
            (.binaryApp .mem (.unknown _ _ (unkOK_of_bound hb)) (frag2_toExpr σ v2 h2))
          rw [Y_binary, Y_bound req es env hb, Y_toExpr σ req es env h2]
          exact Agree.refl _
    case getTag =>
      cases he : v1.asEntity with
      | error c => simp only [papplyBinary, applyBinary, bind, Except.bind, he]; exact s2_err c rfl
      | ok u =>
        have hv1 := asEntity_ok he; subst hv1
        cases hs : v2.asString with
        | error c => simp only [papplyBinary, applyBinary, bind, Except.bind, he, hs]; exact s2_err c rfl
        | ok t =>
          simp only [papplyBinary, applyBinary, bind, Except.bind, he, hs]
          rcases entity_cases pes u with ⟨d, hf, hE⟩ | ⟨hf, hp, hE⟩ | ⟨hf, hp, hE⟩
          · rw [hE]
            obtain ⟨d', hf', _, _, htags⟩ := hS.data hf
            simp only [hf']
            cases hl : lookupKV d.tags t with
            | none => simp only [htags.get_none hl]; exact s2_err .attr rfl
            | some pv =>
              obtain ⟨v, hv, hav⟩ := htags.get_some hl
              simp only [hv]
              exact sound2_ofPV hav
          · rw [hE]; simp only [hS.noSuch hf hp]; exact s2_err .entity rfl
          · rw [hE]
            have hb := hS.bound hf hp (hU1 _ (by simp [Cedar.Tpe.valueUids]))
            obtain rfl := asString_ok hs
            refine s2_frag ?_
              (.binaryApp .getTag (.unknown _ _ (unkOK_of_bound hb)) (.lit _))
            rw [Y_binary, Y_bound req es env hb, Y_lit]
            exact Agree.refl _
    case hasTag =>
      cases he : v1.asEntity with
      | error c => simp only [papplyBinary, applyBinary, bind, Except.bind, he]; exact s2_err c rfl
      | ok u =>
        have hv1 := asEntity_ok he; subst hv1
        cases hs : v2.asString with
        | error c => simp only [papplyBinary, applyBinary, bind, Except.bind, he, hs]; exact s2_err c rfl
        | ok t =>
          simp only [papplyBinary, applyBinary, bind, Except.bind, he, hs]
          rcases entity_cases pes u with ⟨d, hf, hE⟩ | ⟨hf, hp, hE⟩ | ⟨hf, hp, hE⟩
          · rw [hE]
            obtain ⟨d', hf', _, _, htags⟩ := hS.data hf
            simp only [hf']
            exact s2_val (by rw [htags.isSome t]) trivial
          · rw [hE]; simp only [hS.noSuch hf hp]; exact s2_val rfl trivial
          · rw [hE]
            have hb := hS.bound hf hp (hU1 _ (by simp [Cedar.Tpe.valueUids]))
            obtain rfl := asString_ok hs
            refine s2_frag ?_
              (.binaryApp .hasTag (.unknown _ _ (unkOK_of_bound hb)) (.lit _))
            rw [Y_binary, Y_bound req es env hb, Y_lit]
            exact Agree.refl _

theorem papplyBinary_sound3 (hS : StoreCompletes σ pes es) (op : BinaryOp) {v1 v2 : Value} (h1 : v1.Canon) (h2 : v2.Canon) :
    Sound2 σ req es env (applyBinary es op v1 v2) (papplyBinary pes op v1 v2) :=
  papplyBinary_sound3_on (U := fun _ => True) (storeCompletesOn_of hS) op h2 (fun _ _ => trivial)

end

section
variable {σ : Mapper} {req : Request} {es : Entities} {env : SlotEnv} {pes : PEntities} {U : EntityUID → Prop}

/-- `get_attr` on a value -/
theorem s2_getAttrVal {m0 : Mapper} (hS : StoreCompletesOn U σ pes es) (hm : MapLE m0 σ) (attr : String) {v : Value}
    (hc : v.Canon) (hU : VIn U v) : Sound2 σ req es env (Tpe.getAttrV es attr v) (getAttrVal m0 pes attr v) := by
  cases v with
  | record kvs =>
    simp only [Value.Canon] at hc
    simp only [getAttrVal, Tpe.getAttrV]
    cases hl : lookupKV kvs attr with
    | none => exact s2_err .attr rfl
    | some w => exact s2_val rfl (canonKVs_lookup hc.2 hl)
  | prim p =>
    cases p with
    | entityUID u =>
      simp only [getAttrVal, Tpe.getAttrV]
      rcases entity_cases pes u with ⟨d, hf, hE⟩ | ⟨hf, hp, hE⟩ | ⟨hf, hp, hE⟩
      · rw [hE]; simp only []
        obtain ⟨d', hf', _, hattrs, _⟩ := hS.data hf
        rw [hf']; simp only []
        cases hl : lookupKV d.attrs attr with
        | none => rw [hattrs.get_none hl]; exact s2_err .attr rfl
        | some pv =>
          obtain ⟨w, hw, hav⟩ := hattrs.get_some hl
          rw [hw]
          have key := sound2_attrRes (req := req) (env := env) hm hav
          cases pv with
          | value w' => exact key
          | residual r => cases r <;> exact key
      · rw [hE, hS.noSuch hf hp]; exact s2_err .entity rfl
      · rw [hE]
        have hb := hS.bound hf hp (hU u (List.mem_singleton.mpr rfl))
        refine s2_frag ?_ (.getAttr attr (.unknown _ _ (unkOK_of_bound hb)))
        rw [Y_getAttr, Y_bound req es env hb]
        exact Agree.refl _
    | _ => exact s2_err .type rfl
  | _ => exact s2_err .type rfl

/-- `has_attr` on a value -/
theorem s2_hasAttrVal (hS : StoreCompletesOn U σ pes es) (attr : String) {v : Value} (hU : VIn U v) :
    Sound2 σ req es env (Tpe.hasAttrV es attr v) (hasAttrVal pes attr v) := by
  cases v with
  | record kvs => exact s2_val rfl trivial
  | prim p =>
    cases p with
    | entityUID u =>
      simp only [hasAttrVal, Tpe.hasAttrV]
      rcases entity_cases pes u with ⟨d, hf, hE⟩ | ⟨hf, hp, hE⟩ | ⟨hf, hp, hE⟩
      · rw [hE]; simp only []
        obtain ⟨d', hf', _, hattrs, _⟩ := hS.data hf
        rw [hf']
        exact s2_val (by rw [hattrs.isSome attr]) trivial
      · rw [hE, hS.noSuch hf hp]; exact s2_val rfl trivial
      · rw [hE]
        have hb := hS.bound hf hp (hU u (List.mem_singleton.mpr rfl))
        refine s2_frag ?_ (.hasAttr attr (.unknown _ _ (unkOK_of_bound hb)))
        rw [Y_hasAttr, Y_bound req es env hb]
        exact Agree.refl _
    | _ => exact s2_err .type rfl
  | _ => exact s2_err .type rfl

/-- the residual arm of `get_attr`: a projectable record constructor is projected into and the component re-interpreted
    (`hgo`); a record constructor that is not projectable is kept if it has the key; anything else is kept -/
theorem s2_getAttr_res {go : Expr → PRes} {e0 r : Expr} (attr : String)
    (hag : Agree (Y σ req es env r) (Y σ req es env e0)) (hfr : Frag2 σ r)
    (hgo : ∀ kvs (kv : String × Expr), r = .record kvs → kv ∈ kvs → Frag2 σ kv.2 →
      Sound2 σ req es env (Y σ req es env kv.2) (go kv.2)) :
    Sound2 σ req es env (bindR (Y σ req es env e0) (getAttrV es attr))
      (match (generalizing := false) r with
        | .record kvs =>
          if (Expr.record kvs).isProjectable then
            match lookupKV kvs attr with
            | none => .err .attr
            | some e' => go e'
          else if kvs.any (fun kv => kv.1 == attr) then .res (.getAttr (.record kvs) attr)
          else .err .attr
        | _ => .res (.getAttr r attr)) := by
  have keep : Sound2 σ req es env (bindR (Y σ req es env e0) (getAttrV es attr)) (.res (.getAttr r attr)) :=
    s2_frag (by rw [Y_getAttr]; exact hag.bind fun v => Agree.refl _) (.getAttr attr hfr)
  cases r with
  | record kvs =>
    cases hfr with
    | record hnd hcomp =>
    simp only []
    split
    · rename_i hproj
      obtain ⟨R, hY0, hl⟩ := proj_record (.record hnd hcomp) hproj hag
      have hl := hl attr
      rw [hY0]
      split
      · rename_i hlk
        rw [hlk] at hl
        exact s2_err .attr (by simp only [bindR, getAttrV, hl])
      · rename_i e' hlk
        rw [hlk] at hl
        obtain ⟨v', hv', hlv⟩ := hl
        have : bindR (.ok (.record R)) (getAttrV es attr) = Y σ req es env e' := by
          rw [hv']; simp only [bindR, getAttrV, hlv]
        rw [this]; exact hgo kvs (attr, e') rfl (lookupKV_mem hlk) (hcomp _ (lookupKV_mem hlk))
    · split
      · exact keep
      · -- the key is absent from the constructor, hence from the record it evaluates to
        rename_i hany
        cases hy : Y σ req es env e0 with
        | error c => exact s2_err c rfl
        | ok w =>
          rw [hy] at hag
          have hvR : Y σ req es env (.record kvs) = .ok w := by
            cases hr : Y σ req es env (.record kvs) with
            | error c => rw [hr] at hag; simp at hag
            | ok w' => rw [hr] at hag; simp at hag; rw [hag]
          obtain ⟨R, rfl⟩ := Y_record_is_record hvR
          have hl := record_lookup hnd hvR attr
          have hnone : lookupKV kvs attr = none := by
            have := any_key_eq kvs attr
            cases hlk : lookupKV kvs attr with
            | none => rfl
            | some x => rw [hlk] at this; simp only [Option.isSome_some] at this; exact absurd this hany
          rw [hnone] at hl
          exact s2_err .attr (by simp only [bindR, getAttrV, hl])
  | _ => exact keep

theorem s2_hasAttr_res {e0 r : Expr} (attr : String)
    (hag : Agree (Y σ req es env r) (Y σ req es env e0)) (hfr : Frag2 σ r) :
    Sound2 σ req es env (bindR (Y σ req es env e0) (hasAttrV es attr))
      (match (generalizing := false) r with
        | .record kvs =>
          if (Expr.record kvs).isProjectable then .val (.prim (.bool (kvs.any (fun kv => kv.1 == attr))))
          else .res (.hasAttr (.record kvs) attr)
        | _ => .res (.hasAttr r attr)) := by
  have keep : Sound2 σ req es env (bindR (Y σ req es env e0) (hasAttrV es attr)) (.res (.hasAttr r attr)) :=
    s2_frag (by rw [Y_hasAttr]; exact hag.bind fun v => Agree.refl _) (.hasAttr attr hfr)
  cases r with
  | record kvs =>
    simp only []
    split
    · rename_i hproj
      obtain ⟨R, hY0, hl⟩ := proj_record hfr hproj hag
      have hl := hl attr
      have hsome : (lookupKV R attr).isSome = kvs.any (fun kv => kv.1 == attr) := by
        rw [any_key_eq]
        cases hlk : lookupKV kvs attr with
        | none => rw [hlk] at hl; simp only at hl; rw [hl]; rfl
        | some x => rw [hlk] at hl; obtain ⟨v', _, hlv⟩ := hl; rw [hlv]; rfl
      rw [hY0]
      exact s2_val (by simp only [bindR, hasAttrV, hsome]) trivial
    · exact keep
  | _ => exact keep

theorem Sound2.bind_in {y : Result Value} {x : PRes} (hx : Sound2 σ req es env y x) (hU : GoodRes U x)
    {f : Value → PRes} {g : Expr → PRes} {k : Value → Result Value}
    (hv : ∀ v, v.Canon → VIn U v → Sound2 σ req es env (k v) (f v))
    (hg : ∀ r, EIn U r → Sound2 σ req es env y (.res r) → Sound2 σ req es env (bindR y k) (g r)) :
    Sound2 σ req es env (bindR y k) (x.bind f g) := by
  cases x with
  | val v => obtain ⟨rfl, hc⟩ := hx; exact hv v hc hU
  | res r => exact hg r hU hx
  | err c => obtain ⟨c', rfl⟩ := hx; exact ⟨c', rfl⟩
  | fuel => trivial
  | panic => trivial

end

section
variable (σ : Mapper) (req : Request) (es : Entities) (env : SlotEnv)

variable (hctx : (Value.record req.context).Canon)
  (m0 : Mapper) (preq : PRequest) (pes : PEntities) (U : EntityUID → Prop) (hS : StoreCompletesOn U σ pes es) (hm : MapLE m0 σ)
  (hC : Concretizes2 σ es preq req)
  (hSI : StoreIn U pes) (hRI : ReqIn U preq) (hMI : MapIn U m0) (hVI : EnvIn U env)

include hctx hS hm hC hSI hRI hMI hVI in
/-- first-pass soundness in substitution form; closed world: expression, request, mapper, slot environment and store values
    mention only uids of `U` -/
theorem pinterp_sound_on : ∀ (n : Nat) (e : Expr), Frag2 σ e → EIn U e →
    Sound2 σ req es env (Y σ req es env e) (pinterp m0 preq pes env n e) := by
  intro n
  induction n with
  | zero => intro e _ _; simp [pinterp, Sound2]
  | succ n ih =>
  intro e hf hE
  have hin := pinterp_in hSI hRI hMI hVI n
  cases hf with
  | lit p => simp [pinterp, Sound2, Y, Expr.substUnk, evaluate, Value.Canon]
  | var v => exact sound2_var hctx hC v n
  | unknown name ty h =>
    have := sound2_unknownToPV (req := req) (es := es) (env := env) hm h
    simp only [pinterp]
    exact this
  | slot s =>
    cases hl : env.lookup s <;> simp [pinterp, Y, Expr.substUnk, evaluate, hl, Sound2, Value.Canon]
  | @and a b hfa hfb =>
    have sb := ih b hfb (eIn_and.mp hE).2
    rw [pinterp_and, Y_and, andR_eq]
    refine (ih a hfa (eIn_and.mp hE).1).bind (fun v _ => Sound2.iteV ?_ (s2_val rfl trivial)) fun l sl =>
      Sound2.bestEffort hfb sb fun X hX => s2_frag ?_ (.and sl.2.2 hX.2)
    · refine sb.bind (fun w _ => s2_boolV) fun r sr => s2_frag ?_ (.and (.lit _) sr.2.2)
      rw [Y_and]
      exact sr.1.bind fun w => Agree.refl _
    · rw [Y_and, andR_eq]
      exact sl.1.bind (Agree.iteV (hX.1.bind fun w => Agree.refl _) (Agree.refl _))
  | @or a b hfa hfb =>
    have sb := ih b hfb (eIn_or.mp hE).2
    rw [pinterp_or, Y_or, orR_eq]
    refine (ih a hfa (eIn_or.mp hE).1).bind (fun v _ => Sound2.iteV (s2_val rfl trivial) ?_) fun l sl =>
      Sound2.bestEffort hfb sb fun X hX => s2_frag ?_ (.or sl.2.2 hX.2)
    · refine sb.bind (fun w _ => s2_boolV) fun r sr => s2_frag ?_ (.or (.lit _) sr.2.2)
      rw [Y_or]
      exact sr.1.bind fun w => Agree.refl _
    · rw [Y_or, orR_eq]
      exact sl.1.bind (Agree.iteV (Agree.refl _) (hX.1.bind fun w => Agree.refl _))
  | @ite c t e hfc hft hfe =>
    have st := ih t hft (eIn_ite.mp hE).2.1
    have se := ih e hfe (eIn_ite.mp hE).2.2
    rw [pinterp_ite, Y_ite, iteR_eq]
    refine (ih c hfc (eIn_ite.mp hE).1).bind (fun v _ => Sound2.iteV st se) fun g sg =>
      Sound2.bestEffort hft st fun T hT => Sound2.bestEffort hfe se fun E hE' => s2_frag ?_ (.ite sg.2.2 hT.2 hE'.2)
    rw [Y_ite, iteR_eq]
    exact sg.1.bind (Agree.iteV hT.1 hE'.1)
  | @unaryApp op a hfa =>
    rw [pinterp_unary, Y_unary]
    refine (ih a hfa (eIn_unary.mp hE)).bind (fun v _ => s2_ofResult fun w hw => applyUnary_canon hw) fun l sl =>
      s2_frag ?_ (.unaryApp op sl.2.2)
    rw [Y_unary]
    exact sl.1.bind fun v => Agree.refl _
  | @binaryApp op a b hfa hfb =>
    have sb := ih b hfb (eIn_binary.mp hE).2
    rw [pinterp_binary, Y_binary]
    refine (ih a hfa (eIn_binary.mp hE).1).bind_in (hin a (eIn_binary.mp hE).1) (fun v1 hd1 hU1 => ?_) fun e1 _ s1 => ?_
    · refine sb.bind (fun v2 hd2 => papplyBinary_sound3_on hS op hd2 hU1) fun e2 s2 => ?_
      cases hsc : shortCircuitVR v1 e2 op with
      | some r =>
        obtain ⟨u1, name, t, rfl, rfl, rfl, hne, rfl⟩ := shortCircuitVR_some hsc
        obtain ⟨u, hu, hty⟩ := s2.2.1 name t rfl
        rw [hu]
        exact s2_val (by simp [bindR, applyBinary, beq_uid_ne (u1 := u1) (u2 := u) fun h => hne (h.trans hty)]) trivial
      | none =>
        refine s2_frag ?_ (.binaryApp op (frag2_toExpr σ v1 hd1) s2.2.2)
        rw [Y_binary, Y_toExpr σ req es env hd1]
        exact s2.1.bind fun w => Agree.refl _
    · refine sb.bind' (fun v2 hevb hd2 => ?_) (fun c hc => ?_) fun e2 s2 => ?_
      · cases hsc : shortCircuitRV e1 v2 op with
        | some r =>
          obtain ⟨u2, name, t, rfl, rfl, rfl, hne, rfl⟩ := shortCircuitRV_some hsc
          obtain ⟨u, hu, hty⟩ := s1.2.1 name t rfl
          rw [hu, hevb]
          exact s2_val (by simp [bindR, applyBinary, beq_uid_ne (u1 := u) (u2 := u2) fun h => hne (h ▸ hty)]) trivial
        | none =>
          refine s2_frag ?_ (.binaryApp op s1.2.2 (frag2_toExpr σ v2 hd2))
          rw [Y_binary, Y_toExpr σ req es env hd2, hevb]
          exact s1.1.bind fun w => Agree.refl _
      · -- the concrete evaluation fails on whichever operand fails first
        rw [hc]
        cases Y σ req es env a with
        | error ca => exact ⟨ca, rfl⟩
        | ok va => exact ⟨c, rfl⟩
      · cases hsc : shortCircuitRR e1 e2 op with
        | some r =>
          obtain ⟨n1, t1, n2, t2, rfl, rfl, rfl, hne, rfl⟩ := shortCircuitRR_some hsc
          obtain ⟨ua, hua, htya⟩ := s1.2.1 n1 t1 rfl
          obtain ⟨ub, hub, htyb⟩ := s2.2.1 n2 t2 rfl
          rw [hua, hub]
          exact s2_val (by simp [bindR, applyBinary, beq_uid_ne (u1 := ua) (u2 := ub) (by rw [htya, htyb]; exact hne)]) trivial
        | none =>
          refine s2_frag ?_ (.binaryApp op s1.2.2 s2.2.2)
          rw [Y_binary]
          exact s1.1.bind fun w => s2.1.bind fun w' => Agree.refl _
  | @like e0 p hfe =>
    rw [pinterp_like, Y_like]
    refine (ih e0 hfe (eIn_like.mp hE)).bind (fun v _ => ?_) fun l sl => s2_frag ?_ (.like p sl.2.2)
    · unfold likeV
      cases v.asString with
      | error c => exact s2_err c rfl
      | ok s => exact s2_val rfl trivial
    · rw [Y_like]
      exact sl.1.bind fun v => Agree.refl _
  | @is e0 ty hfe =>
    rw [pinterp_is, Y_is]
    refine (ih e0 hfe (eIn_is.mp hE)).bind (fun v _ => ?_) fun l sl => ?_
    · unfold isV
      cases v.asEntity with
      | error c => exact s2_err c rfl
      | ok u => exact s2_val rfl trivial
    · split
      · rename_i name t
        obtain ⟨u, hu, hty⟩ := sl.2.1 name t rfl
        rw [hu]
        exact s2_val (by simp only [bindR, isV, Value.asEntity, hty]) trivial
      · refine s2_frag ?_ (.is ty sl.2.2)
        rw [Y_is]
        exact sl.1.bind fun v => Agree.refl _
  | @set xs hxs =>
    rw [pinterp_set, Y_set]
    exact Sound2.ofCollect (fun x hx => ih x (hxs x hx) (eIn_set_mem hE hx)) (fun vs hd => s2_val rfl (mkSet_canon hd))
      fun rs hrs => s2_frag (by rw [Y_set]; exact Agree.collect (Kept.agree hrs) fun _ => Agree.refl _) (.set (Kept.frag hrs))
  | @call fn args hfn hxs =>
    rw [pinterp_call, Y_call]
    exact Sound2.ofCollect (fun x hx => ih x (hxs x hx) (eIn_call_mem hE hx))
      (fun vs _ => by rw [pcallExt_ne_unknown hfn]; exact s2_ofResult fun w hw => callExt_canon hw)
      fun rs hrs => s2_frag (by rw [Y_call]; exact Agree.collect (Kept.agree hrs) fun _ => Agree.refl _) (.call fn hfn (Kept.frag hrs))
  | @record kvs hnd hkvs =>
    rw [pinterp_record, Y_record]
    refine Sound2.ofCollect (fun x hx => ?_)
      (fun vs hd => s2_val rfl (record_canon _ fun p hp => hd p.2 (List.of_mem_zip hp).2)) fun rs hrs => ?_
    · obtain ⟨kv, hkv, rfl⟩ := List.mem_map.mp hx
      exact ih kv.2 (hkvs kv hkv) (eIn_record_mem hE hkv)
    · -- the residual record pairs the keys of `kvs` with the expressions kept for its components
      have hl : (kvs.map (·.1)).length = rs.length := by rw [hrs.length, List.length_map, List.length_map]
      have h1 := List.map_fst_zip (Nat.le_of_eq hl)
      have h2 := List.map_snd_zip (Nat.le_of_eq hl.symm)
      refine s2_frag ?_ (.record (by rw [h1]; exact hnd) fun kv hkv => Kept.frag hrs kv.2 (h2 ▸ List.mem_map_of_mem hkv))
      rw [Y_record, h1, h2]
      exact Agree.collect (Kept.agree hrs) fun _ => Agree.refl _
  | @getAttr e0 attr hfe =>
    rw [pinterp_getAttr, Y_getAttr]
    exact (ih e0 hfe (eIn_getAttr.mp hE)).bind_in (hin e0 (eIn_getAttr.mp hE)) (fun v hc hU => s2_getAttrVal hS hm attr hc hU)
      fun r hr sr => s2_getAttr_res attr sr.1 sr.2.2 fun kvs kv hkvs hkv hf' =>
        ih kv.2 hf' (eIn_record_mem (hkvs ▸ hr) hkv)
  | @hasAttr e0 attr hfe =>
    rw [pinterp_hasAttr, Y_hasAttr]
    exact (ih e0 hfe (eIn_hasAttr.mp hE)).bind_in (hin e0 (eIn_hasAttr.mp hE)) (fun v _ hU => s2_hasAttrVal hS attr hU)
      fun r _ sr => s2_hasAttr_res attr sr.1 sr.2.2

end

theorem pinterp_sound_mentioned (σ : Mapper) (req : Request) (es : Entities) (env : SlotEnv)
    (hctx : (Value.record req.context).Canon) (m0 : Mapper) (preq : PRequest) (pes : PEntities) (n : Nat) (e : Expr)
    (hS : StoreCompletesOn (fun u => u ∈ mentioned m0 preq pes env e) σ pes es) (hm : MapLE m0 σ)
    (hC : Concretizes2 σ es preq req) (hf : Frag2 σ e) :
    Sound2 σ req es env (Y σ req es env e) (pinterp m0 preq pes env n e) := by
  obtain ⟨h1, h2, h3, h4, h5⟩ := mentioned_closed m0 preq pes env e
  exact pinterp_sound_on σ req es env hctx m0 preq pes _ hS hm hC h2 h3 h4 h5 n e hf h1

theorem pinterp_sound_concrete (σ : Mapper) (req : Request) (es : Entities) (env : SlotEnv) (hctx : (Value.record req.context).Canon)
    (hstore : StoreCanon es) (m0 : Mapper) (preq : PRequest) (hm : MapLE m0 σ) (hC : Concretizes σ preq req)
    (n : Nat) (e : Expr) (hf : Frag2 σ e) :
    Sound2 σ req es env (Y σ req es env e) (pinterp m0 preq (.ofConcrete es) env n e) :=
  pinterp_sound_mentioned σ req es env hctx m0 preq _ n e (storeCompletesOn_ofConcrete σ hstore) hm (concretizes2_of σ es hC) hf

end PS
end Cedar
