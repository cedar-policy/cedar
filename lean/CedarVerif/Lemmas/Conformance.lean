import CedarVerif.Cedar.Validation.Conformance
import CedarVerif.Lemmas.Attrs
import CedarVerif.Lemmas.SchemaTables
/-
C11 (schema conformance): the executable checkers of Cedar/Validation/Conformance.lean against their specifications — the
value checkers against `InstanceOfType`, agreement of the `SchemaType` checker with the `Type` checker on schematic types,
uid / attribute / ancestor / tag validation.
-/
namespace Cedar

theorem requiredPresent_iff (attrs : Attrs) (kvs : List (String × Value)) :
    requiredPresent attrs kvs = true ↔ ∀ k t, (k, true, t) ∈ attrs → ∃ v, (k, v) ∈ kvs := by
  unfold requiredPresent
  simp only [List.all_eq_true, Bool.or_eq_true, Bool.not_eq_true', List.any_eq_true, beq_iff_eq]
  constructor
  · intro h k t hm
    rcases h (k, true, t) hm with h | ⟨kv, hkv, he⟩
    · simp at h
    · obtain ⟨k', v⟩ := kv; simp at he; subst he; exact ⟨v, hkv⟩
  · rintro h ⟨k, r, t⟩ hm
    cases r with
    | false => left; rfl
    | true => right; obtain ⟨v, hv⟩ := h k t hm; exact ⟨(k, v), hv, rfl⟩

theorem forall_mem_cons_pair {α β : Type} {P : α → β → Prop} {a : α} {b : β} {l : List (α × β)} :
    (∀ x y, (x, y) ∈ (a, b) :: l → P x y) ↔ P a b ∧ ∀ x y, (x, y) ∈ l → P x y := by
  simp only [List.mem_cons, Prod.mk.injEq]
  exact ⟨fun h => ⟨h a b (Or.inl ⟨rfl, rfl⟩), fun x y hm => h x y (Or.inr hm)⟩,
    fun ⟨h1, h2⟩ x y hm => hm.elim (fun ⟨hx, hy⟩ => hx ▸ hy ▸ h1) (h2 x y)⟩

theorem typecheckValue_iff_instanceOf (v : Value) (t : CedarType) : typecheckValue v t = true ↔ InstanceOfType v t := by
  -- the cases are the equations of `typecheckValue` (eleven, then its catch-all), `typecheckValues`, `typecheckFields`, in source order
  refine typecheckValue.induct (fun v t => typecheckValue v t = true ↔ InstanceOfType v t)
    (fun kvs attrs o => typecheckFields kvs attrs o = true ↔ ∀ k v, (k, v) ∈ kvs →
      (∀ r t, Attrs.find? attrs k = some (r, t) → InstanceOfType v t) ∧ (Attrs.find? attrs k = none → o = true))
    (fun vs t => typecheckValues vs t = true ↔ ∀ v, v ∈ vs → InstanceOfType v t)
    ?_ ?_ ?_ ?_ ?_ ?_ ?_ ?_ ?_ ?_ ?_ ?_ ?_ ?_ ?_ ?_ v t
  · exact fun b => ⟨fun _ => .anyBool b, fun _ => rfl⟩
  · intro b
    simp only [typecheckValue]
    exact ⟨fun h => h ▸ .tt, fun h => by cases h; rfl⟩
  · intro b
    simp only [typecheckValue, Bool.not_eq_true']
    exact ⟨fun h => h ▸ .ff, fun h => by cases h; rfl⟩
  · exact fun i => ⟨fun _ => .long i, fun _ => rfl⟩
  · exact fun s => ⟨fun _ => .string s, fun _ => rfl⟩
  · exact fun vs => ⟨fun _ => .anySet vs, fun _ => rfl⟩
  · intro vs t ih
    simp only [typecheckValue, ih]
    exact ⟨fun h => .set vs t h, fun h => by cases h with | set _ _ h => exact h⟩
  · intro u lub
    simp only [typecheckValue, List.contains_iff_mem]
    exact ⟨fun h => .entity u lub h, fun h => by cases h with | entity _ _ h => exact h⟩
  · exact fun u => ⟨fun _ => .anyEntity u, fun _ => rfl⟩
  · intro kvs attrs o ih
    simp only [typecheckValue, Bool.and_eq_true, ih, requiredPresent_iff]
    exact ⟨fun ⟨h, h3⟩ => .record kvs attrs o (fun k v hm => (h k v hm).1) (fun k v hm => (h k v hm).2) h3,
      fun h => by cases h with | record _ _ _ h1 h2 h3 => exact ⟨fun k v hm => ⟨h1 k v hm, h2 k v hm⟩, h3⟩⟩
  · intro x n
    simp only [typecheckValue, beq_iff_eq]
    exact ⟨fun h => h ▸ .ext x, fun h => by cases h; rfl⟩
  · -- no rule of `InstanceOfType` for the remaining pairs, which the checker rejects
    intro v t h1 h2 h3 h4 h5 h6 h7 h8 h9 h10 h11
    rw [typecheckValue]
    · refine ⟨fun h => (by cases h), fun h => ?_⟩
      cases h
      · exact (h1 _ rfl rfl).elim
      · exact (h2 _ rfl rfl).elim
      · exact (h3 _ rfl rfl).elim
      · exact (h4 _ rfl rfl).elim
      · exact (h5 _ rfl rfl).elim
      · exact (h8 _ _ rfl rfl).elim
      · exact (h9 _ rfl rfl).elim
      · exact (h11 _ _ rfl rfl).elim
      · exact (h6 _ rfl rfl).elim
      · exact (h7 _ _ rfl rfl).elim
      · exact (h10 _ _ _ rfl rfl).elim
    all_goals assumption
  · exact fun t => ⟨fun _ v hv => (by cases hv), fun _ => rfl⟩
  · intro v vs t ih1 ih2
    simp only [typecheckValues, Bool.and_eq_true, ih1, ih2, List.forall_mem_cons]
  · exact fun attrs o => ⟨fun _ k v hm => (by cases hm), fun _ => rfl⟩
  · intro k v kvs attrs o ih1 ih2
    simp only [typecheckFields, Bool.and_eq_true, ih2, forall_mem_cons_pair]
    refine and_congr_left' ?_
    cases hf : Attrs.find? attrs k with
    | none => simp
    | some rt => obtain ⟨r, t⟩ := rt; simp [ih1 t]

theorem mem_sizeOf_lt {v : Value} {vs : List Value} (h : v ∈ vs) : sizeOf v < sizeOf (Value.set vs) := by
  have := List.sizeOf_lt_of_mem h
  simp; omega

theorem mem_kvs_sizeOf_lt {k : String} {v : Value} {kvs : List (String × Value)} (h : (k, v) ∈ kvs) :
    sizeOf v < sizeOf (Value.record kvs) := by
  have := List.sizeOf_lt_of_mem h
  simp at this ⊢; omega

theorem checkValues_congr {σ : SchemaType} {τ : CedarType} : ∀ {vs : List Value},
    (∀ v, v ∈ vs → checkValue v σ = typecheckValue v τ) → checkValues vs σ = typecheckValues vs τ
  | [], _ => rfl
  | v :: vs, h => by
    simp only [checkValues, typecheckValues]
    rw [h v List.mem_cons_self, checkValues_congr (fun v' hv' => h v' (List.mem_cons_of_mem _ hv'))]

theorem checkFields_congr {sattrs : SchemaAttrs} {attrs : Attrs} {o : Bool} : ∀ {kvs : List (String × Value)},
    (∀ k v, (k, v) ∈ kvs → (Attrs.find? attrs k = none ∧ SchemaAttrs.find? sattrs k = none) ∨
      ∃ r t s, Attrs.find? attrs k = some (r, t) ∧ SchemaAttrs.find? sattrs k = some (r, s) ∧
        checkValue v s = typecheckValue v t) →
    checkFields kvs sattrs o = typecheckFields kvs attrs o
  | [], _ => rfl
  | (k, v) :: kvs, h => by
    simp only [checkFields, typecheckFields]
    rw [checkFields_congr (fun k' v' hm => h k' v' (List.mem_cons_of_mem _ hm))]
    rcases h k v List.mem_cons_self with ⟨h1, h2⟩ | ⟨r, t, s, h1, h2, h3⟩
    · rw [h1, h2]
    · rw [h1, h2]; simp only; rw [h3]

theorem attrsToSchema_find {attrs : Attrs} {sattrs : SchemaAttrs} (h : attrsToSchema? attrs = some sattrs) (k : String) :
    (Attrs.find? attrs k = none → SchemaAttrs.find? sattrs k = none) ∧
    (∀ r t, Attrs.find? attrs k = some (r, t) →
      ∃ s, SchemaAttrs.find? sattrs k = some (r, s) ∧ CedarType.toSchemaType? t = some s) := by
  induction attrs generalizing sattrs with
  | nil => simp [attrsToSchema?] at h; subst h; simp [Attrs.find?, SchemaAttrs.find?]
  | cons a rest ih =>
    obtain ⟨k', r', t'⟩ := a
    simp only [attrsToSchema?] at h
    cases ht : CedarType.toSchemaType? t' with
    | none => simp [ht] at h
    | some s' =>
      cases hr : attrsToSchema? rest with
      | none => simp [ht, hr] at h
      | some rest' =>
        simp [ht, hr] at h; subst h
        simp only [Attrs.find?, SchemaAttrs.find?]
        by_cases hk : k' = k
        · subst hk; simp [ht]
        · rw [show (k' == k) = false from by simp [hk]]
          simp only [Bool.false_eq_true, ↓reduceIte]
          exact ih hr

theorem attrsToSchema_required {attrs : Attrs} {sattrs : SchemaAttrs} (h : attrsToSchema? attrs = some sattrs)
    (kvs : List (String × Value)) : schemaRequiredPresent sattrs kvs = requiredPresent attrs kvs := by
  induction attrs generalizing sattrs with
  | nil => simp [attrsToSchema?] at h; subst h; rfl
  | cons a rest ih =>
    obtain ⟨k', r', t'⟩ := a
    simp only [attrsToSchema?] at h
    cases ht : CedarType.toSchemaType? t' with
    | none => simp [ht] at h
    | some s' =>
      cases hr : attrsToSchema? rest with
      | none => simp [ht, hr] at h
      | some rest' =>
        simp [ht, hr] at h; subst h
        have := ih hr
        simp only [schemaRequiredPresent, requiredPresent, List.all_cons] at this ⊢
        rw [this]

theorem attrsSchematic_find {attrs : Attrs} (h : attrsSchematic attrs = true) {k : String} {r : Bool} {t : CedarType}
    (hf : Attrs.find? attrs k = some (r, t)) : t.schematic = true :=
  (attrsAll_iff (f := CedarType.schematic) rfl (fun _ _ _ _ => rfl)).mp h _ _ _ (find_mem hf)

/-- on schematic types the `SchemaType` checker and the `Type` checker agree (`SchemaType` has one boolean type for the
three of `Type` and `emptySet` for the any-set, which is where the two checkers differ; `schematic` excludes both); by induction
on a bound for the size of the value, `checkValue_eq_typecheckValue` without it -/
theorem checkValue_eq_typecheckValue_aux : ∀ (n : Nat) (v : Value) (τ : CedarType) (σ : SchemaType),
    sizeOf v < n → τ.schematic = true → τ.toSchemaType? = some σ → checkValue v σ = typecheckValue v τ := by
  intro n
  induction n with
  | zero => intro v τ σ h; omega
  | succ n ih =>
    intro v τ σ hn hs hσ
    cases τ with
    | never | anyEntity => cases hs
    | bool b =>
      cases b with
      | anyBool =>
        cases hσ
        cases v with
        | prim p => cases p <;> rfl
        | _ => rfl
      | tt | ff => cases hs
    | long | string | ext _ =>
      cases hσ
      cases v with
      | prim p => cases p <;> rfl
      | _ => rfl
    | entity lub =>
      match lub, hs, hσ with
      | [e], _, hσ =>
        cases hσ
        cases v with
        | prim p =>
          cases p with
          | entityUID u => simp only [checkValue, typecheckValue, List.contains_cons, List.contains_nil, Bool.or_false]
          | _ => rfl
        | _ => rfl
      | [], hs, _ => cases hs
      | _ :: _ :: _, hs, _ => cases hs
    | set el =>
      cases el with
      | none => cases hs
      | some t =>
        simp only [CedarType.schematic] at hs
        simp only [CedarType.toSchemaType?, Option.map_eq_some_iff] at hσ
        obtain ⟨s, hs', rfl⟩ := hσ
        cases v with
        | prim p => cases p <;> rfl
        | ext x => rfl
        | record kvs => rfl
        | set vs =>
          simp only [checkValue, typecheckValue]
          exact checkValues_congr (fun v hv => ih v t s (by have := mem_sizeOf_lt hv; omega) hs hs')
    | record attrs o =>
      simp only [CedarType.schematic] at hs
      simp only [CedarType.toSchemaType?, Option.map_eq_some_iff] at hσ
      obtain ⟨sattrs, hsa, rfl⟩ := hσ
      cases v with
      | prim p => cases p <;> rfl
      | ext x => rfl
      | set vs => rfl
      | record kvs =>
        simp only [checkValue, typecheckValue]
        rw [attrsToSchema_required hsa, Bool.and_comm]
        congr 1
        refine checkFields_congr (fun k v hm => ?_)
        have hf := attrsToSchema_find hsa k
        cases hft : Attrs.find? attrs k with
        | none => exact Or.inl ⟨rfl, hf.1 hft⟩
        | some rt =>
          obtain ⟨r, t⟩ := rt
          obtain ⟨s, hfs, hts⟩ := hf.2 r t hft
          exact Or.inr ⟨r, t, s, rfl, hfs, ih v t s (by have := mem_kvs_sizeOf_lt hm; omega) (attrsSchematic_find hs hft) hts⟩

theorem checkValue_eq_typecheckValue {v : Value} {τ : CedarType} {σ : SchemaType} (hs : τ.schematic = true)
    (hσ : τ.toSchemaType? = some σ) : checkValue v σ = typecheckValue v τ :=
  checkValue_eq_typecheckValue_aux (sizeOf v + 1) v τ σ (Nat.lt_succ_self _) hs hσ

theorem validEnumId_iff (s : Schema) (u : EntityUID) :
    validEnumId s u = true ↔ ∀ et ids, s.entityType? u.ty = some et → et.enumIds = some ids → u.eid ∈ ids := by
  unfold validEnumId
  cases h1 : s.entityType? u.ty with
  | none => simp
  | some et =>
    cases h2 : et.enumIds with
    | none =>
      simp only [h2, true_iff]
      rintro et' ids h; cases h; rw [h2]; intro h; cases h
    | some ids =>
      simp only [h2, List.contains_iff_mem]
      constructor
      · rintro h et' ids' he; cases he; rw [h2]; intro hi; cases hi; exact h
      · intro h; exact h et ids rfl h2

theorem declaredIfAction_iff (s : Schema) (u : EntityUID) :
    declaredIfAction s u = true ↔ (isActionType u.ty = true → ∃ a, s.action? u = some a) := by
  unfold declaredIfAction
  cases h : s.action? u <;> simp

theorem validateEuid_iff (s : Schema) (u : EntityUID) : validateEuid s u = .ok () ↔ ValidUid s u := by
  unfold validateEuid ValidUid
  rw [← validEnumId_iff, ← declaredIfAction_iff]
  cases validEnumId s u <;> cases declaredIfAction s u <;> simp

theorem validateEuids_iff (s : Schema) (us : List EntityUID) :
    validateEuids s us = .ok () ↔ ∀ u, u ∈ us → ValidUid s u := by
  induction us with
  | nil => simp [validateEuids]
  | cons u us ih => simp only [validateEuids, bind_ok_unit, validateEuid_iff, ih, List.forall_mem_cons]

mutual
theorem schematic_conv : ∀ τ : CedarType, τ.schematic = true → ∃ σ, τ.toSchemaType? = some σ
  | .never, h => by simp [CedarType.schematic] at h
  | .anyEntity, h => by simp [CedarType.schematic] at h
  | .bool .anyBool, _ => ⟨_, rfl⟩
  | .bool .tt, h => by simp [CedarType.schematic] at h
  | .bool .ff, h => by simp [CedarType.schematic] at h
  | .long, _ => ⟨_, rfl⟩
  | .string, _ => ⟨_, rfl⟩
  | .ext _, _ => ⟨_, rfl⟩
  | .entity [], h => by simp [CedarType.schematic] at h
  | .entity [_], _ => ⟨_, rfl⟩
  | .entity (_ :: _ :: _), h => by simp [CedarType.schematic] at h
  | .set none, h => by simp [CedarType.schematic] at h
  | .set (some t), h => by
    simp only [CedarType.schematic] at h
    obtain ⟨σ, hσ⟩ := schematic_conv t h
    exact ⟨.set σ, by simp [CedarType.toSchemaType?, hσ]⟩
  | .record attrs o, h => by
    simp only [CedarType.schematic] at h
    obtain ⟨sa, hsa⟩ := attrsSchematic_conv attrs h
    exact ⟨.record sa o, by simp [CedarType.toSchemaType?, hsa]⟩
theorem attrsSchematic_conv : ∀ attrs : List (String × Bool × CedarType), attrsSchematic attrs = true →
    ∃ sa, attrsToSchema? attrs = some sa
  | [], _ => ⟨[], rfl⟩
  | (k, r, t) :: rest, h => by
    simp only [attrsSchematic, Bool.and_eq_true] at h
    obtain ⟨σ, hσ⟩ := schematic_conv t h.1
    obtain ⟨sa, hsa⟩ := attrsSchematic_conv rest h.2
    exact ⟨(k, r, σ) :: sa, by simp [attrsToSchema?, hσ, hsa]⟩
end

theorem checkAttrValue_iff {τ : CedarType} (hs : τ.schematic = true) (v : Value) :
    checkAttrValue τ v = .ok () ↔ InstanceOfType v τ := by
  obtain ⟨σ, hσ⟩ := schematic_conv τ hs
  unfold checkAttrValue
  rw [hσ]
  simp only [ite_ok_iff]
  rw [checkValue_eq_typecheckValue hs hσ, typecheckValue_iff_instanceOf]

theorem checkOneAttr_iff (et : EntityTypeEntry) (hs : attrsSchematic et.attrs = true) (k : String) (v : Value) :
    checkOneAttr et k v = .ok () ↔
      (∀ r t, Attrs.find? et.attrs k = some (r, t) → InstanceOfType v t) ∧
      (Attrs.find? et.attrs k = none → et.isOpen = true) := by
  unfold checkOneAttr
  cases hf : Attrs.find? et.attrs k with
  | none => simp
  | some rt =>
    obtain ⟨r, t⟩ := rt
    simp only [checkAttrValue_iff (attrsSchematic_find hs hf)]
    constructor
    · intro h; exact ⟨fun r' t' he => by cases he; exact h, fun he => by cases he⟩
    · intro h; exact h.1 r t rfl

theorem validateAttrs_iff (s : Schema) (et : EntityTypeEntry) (hs : attrsSchematic et.attrs = true)
    (attrs : List (String × Value)) :
    validateAttrs s et attrs = .ok () ↔
      ∀ k v, (k, v) ∈ attrs →
        (∀ r t, Attrs.find? et.attrs k = some (r, t) → InstanceOfType v t) ∧
        (Attrs.find? et.attrs k = none → et.isOpen = true) ∧
        (∀ u, u ∈ v.euids → ValidUid s u) := by
  induction attrs with
  | nil => simp [validateAttrs]
  | cons kv rest ih =>
    obtain ⟨k, v⟩ := kv
    simp only [validateAttrs, bind_ok_unit, ih, validateEuids_iff, checkOneAttr_iff et hs, forall_mem_cons_pair, and_assoc]

theorem requiredAll_iff (et : EntityTypeEntry) (attrs : List (String × Value)) :
    (et.requiredAttrs.all (fun a => attrs.any (fun kv => kv.1 == a))) = true ↔
      ∀ k t, (k, true, t) ∈ et.attrs → ∃ v, (k, v) ∈ attrs := by
  unfold EntityTypeEntry.requiredAttrs
  simp only [List.all_eq_true, List.mem_map, List.mem_filter, List.any_eq_true, beq_iff_eq]
  constructor
  · intro h k t hm
    obtain ⟨kv, hkv, he⟩ := h k ⟨(k, true, t), ⟨hm, rfl⟩, rfl⟩
    obtain ⟨k', v⟩ := kv; simp at he; subst he; exact ⟨v, hkv⟩
  · rintro h a ⟨⟨k, r, t⟩, ⟨hm, hr⟩, rfl⟩
    simp at hr; subst hr
    obtain ⟨v, hv⟩ := h k t hm
    exact ⟨(k, v), hv, rfl⟩

theorem validateAncestors_iff (s : Schema) (ty : EntityType) (anc : List EntityUID) :
    validateAncestors s ty anc = .ok () ↔
      ∀ a, a ∈ anc → ValidUid s a ∧ a.ty ∈ s.allowedParentTypes ty := by
  induction anc with
  | nil => simp [validateAncestors]
  | cons a rest ih =>
    simp only [validateAncestors, checkAncestorType, bind_ok_unit, ih, validateEuid_iff, ite_ok_iff, List.forall_mem_cons,
      List.contains_iff_mem, and_assoc]

theorem checkTagValues_iff {τ : CedarType} (hs : τ.schematic = true) (tags : List (String × Value)) :
    checkTagValues τ tags = .ok () ↔ ∀ k v, (k, v) ∈ tags → InstanceOfType v τ := by
  induction tags with
  | nil => simp [checkTagValues]
  | cons kv rest ih =>
    obtain ⟨k, v⟩ := kv
    simp only [checkTagValues, bind_ok_unit, ih, checkAttrValue_iff hs, forall_mem_cons_pair]

theorem validateTagEuids_iff (s : Schema) (tags : List (String × Value)) :
    validateTagEuids s tags = .ok () ↔ ∀ k v, (k, v) ∈ tags → ∀ u, u ∈ v.euids → ValidUid s u := by
  induction tags with
  | nil => simp [validateTagEuids]
  | cons kv rest ih =>
    obtain ⟨k, v⟩ := kv
    simp only [validateTagEuids, bind_ok_unit, ih, validateEuids_iff, forall_mem_cons_pair]

theorem validateTags_iff (s : Schema) (et : EntityTypeEntry)
    (hs : ∀ t, et.tags = some t → t.schematic = true) (tags : List (String × Value)) :
    validateTags s et tags = .ok () ↔
      (∀ k v, (k, v) ∈ tags → ∃ t, et.tags = some t ∧ InstanceOfType v t) ∧
      (∀ k v, (k, v) ∈ tags → ∀ u, u ∈ v.euids → ValidUid s u) := by
  unfold validateTags
  simp only [bind_ok_unit, validateTagEuids_iff]
  apply and_congr_left'
  unfold checkTagTypes
  cases ht : et.tags with
  | none =>
    simp only [ite_ok_iff, List.isEmpty_iff]
    constructor
    · rintro rfl k v hm; cases hm
    · intro h
      cases tags with
      | nil => rfl
      | cons kv rest => obtain ⟨k, v⟩ := kv; obtain ⟨t, ht', _⟩ := h k v (List.mem_cons_self ..); cases ht'
  | some τ =>
    obtain ⟨σ, hσ⟩ := schematic_conv τ (hs τ ht)
    simp only [hσ, checkTagValues_iff (hs τ ht)]
    constructor
    · intro h k v hm; exact ⟨τ, rfl, h k v hm⟩
    · intro h k v hm; obtain ⟨t, ht', hi⟩ := h k v hm; cases ht'; exact hi

theorem sameUidSet_iff (a b : List EntityUID) : sameUidSet a b = true ↔ ∀ u, u ∈ a ↔ u ∈ b := by
  unfold sameUidSet
  simp only [Bool.and_eq_true, List.all_eq_true, List.contains_iff_mem]
  constructor
  · rintro ⟨h1, h2⟩ u; exact ⟨h1 u, h2 u⟩
  · intro h; exact ⟨fun u hu => (h u).mp hu, fun u hu => (h u).mpr hu⟩

theorem schematic_entry {s : Schema} (hs : s.schematic = true) {ty : EntityType} {et : EntityTypeEntry}
    (h : s.entityType? ty = some et) :
    attrsSchematic et.attrs = true ∧ ∀ t, et.tags = some t → t.schematic = true := by
  have := entityType?_all hs h
  simp only [Bool.and_eq_true] at this
  refine ⟨this.1, fun t ht => ?_⟩
  have h2 := this.2
  rw [ht] at h2; exact h2

theorem liftEuid_ok_iff (x : Except EntityViolation Unit) : liftEuid x = .ok () ↔ x = .ok () := by
  cases x with
  | ok u => cases u; simp [liftEuid]
  | error e => cases e <;> simp [liftEuid]

theorem checkScopeEntity_iff (s : Schema) (u : EntityUID) (e : RequestViolation) :
    checkScopeEntity s u e = .ok () ↔ (∃ et, s.entityType? u.ty = some et) ∧ validEnumId s u = true := by
  unfold checkScopeEntity
  cases h : s.entityType? u.ty with
  | none => simp
  | some et => simp

theorem checkApplies_iff (s : Schema) (p a r : EntityUID) :
    checkApplies s p a r = .ok () ↔ ∃ act, s.action? a = some act ∧ p.ty ∈ act.principals ∧ r.ty ∈ act.resources := by
  unfold checkApplies
  cases h : s.action? a with
  | none => simp
  | some act =>
    by_cases hp : act.principals.contains p.ty = true
    · by_cases hr : act.resources.contains r.ty = true
      · simp only [hp, hr, if_true]; simp at hp hr; simp [hp, hr]
      · simp only [hp, hr, if_true]; simp at hp hr; simp [hr]
    · simp only [hp]; simp at hp; simp [hp]

end Cedar
