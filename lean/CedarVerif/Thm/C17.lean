import CedarVerif.Lemmas.ManifestCoreValid
import CedarVerif.Lemmas.ManifestSorted
import CedarVerif.Lemmas.ManifestGrow
import CedarVerif.Lemmas.TypecheckPolicy
import CedarVerif.Lemmas.TypecheckSchemaCheck
import CedarVerif.Thm.C01
import CedarVerif.Thm.C11
/-
C17 — Entity-manifest slicing keeps everything authorization needs.

  "For every strictly valid policy set, the entity manifest computed from it is such that, for every conformant request
   and entity store, authorization over the store sliced by the manifest gives the same decision, determining policies
   and erroring policies as authorization over the full store."

Model: Cedar/Manifest.lean (`manifestOfExpr` = `entity_manifest_from_expr` on the typed AST, `toTypedRoots` = `to_typed`,
`manifestOfEnvs` = the per-request-type body of `compute_entity_manifest`, `sliceStore` = `EntityManifest::slice_entities`).
What is PROVED here:

  * `slice_monotone`             a larger trie keeps more of every value (attributes) and requests more ancestors;
  * `slice_preserves_requested`  every path the trie lists leads, in the slice of a value, to the slice of what it led to;
                                 non-record leaves are kept unchanged;
  * `slicer_meets_spec`          for a trie with unique children keys (`RootsWF`) whose `is_entity_type` annotations agree
                                 with the data (`FlagsRoots`), the store computed by the model's slicer (`sliceStorePure`:
                                 slice_entity / slice_val on pruned tries, the loading loop, merge of slices per entity,
                                 compute_ancestors_request / load_ancestors) is a sub-store of the full store
                                 (`slice_is_substore`, unconditional) and covers the trie: requested attributes, every
                                 entity reachable along trie paths from the roots, requested ancestors.
                                 `slicer_needs_agreeing_annotations`: the annotation hypothesis cannot be dropped.  Both
                                 hypotheses hold for manifests: `manifestOfExpr_wf` + `toTypedRoots_wf` (unique keys, given
                                 record types with unique attribute names, `TypesUK`), `flagsRoots_typed` (annotations,
                                 given data that conforms to the schema as far as the trie looks, `ConfRoots`);
  * `manifest_sound_partial`     CORE FRAGMENT (`InFrag`: literals, variables, `.`/`has` chains through records and
                                 entities, `&& || !`, `if` (also producing entities / records that are dereferenced),
                                 unary `-`, `isEmpty`, `== < <= + - *`, `in` (entity and set right-hand sides, with the
                                 ancestors-required tries), `contains containsAll containsAny`, `like`, `is`; operands
                                 of binary operators must not be records): every store that is a sub-store of the full
                                 store and *covers* the trie computed by the analysis evaluates the expression exactly as
                                 the full store does (same value up to dropped record fields, same error);
  * `manifest_sound_sliced`      the same for THE STORE `sliceStore (manifestOfEnvs …)` COMPUTES — analysis, `to_typed`,
                                 slicer composed; no hypothesis about the slice is left;
  * `response_sliced_partial`, `response_sliced_static`, `decision_sliced_*`
                                 lifted to the authorizer: same `Response` (decision, reasons, errors), hence by C01 the
                                 decision over the slice is characterised by the satisfied policies over the FULL store;
                                 `_static`: for static policies with conditions in the fragment, over the slice the model
                                 computes for their manifest;
  * `full_statement_of_fragment` `FullStatement` (with its precise exclusions: typed-False environments, templates, tags,
                                 unknowns, slicer failure exits) holds for every notion of typed AST / conformance such that
                                 typed ASTs are in the fragment and conformance implies `CtxWF`, `SafeOps` (type soundness)
                                 and `ConfRoots` (trie-directed conformance);
  * `manifest_sound_valid`       THE C03 / C11 NOTIONS: for static policies of the core fragment plus extension function
                                 calls (`FragE`) accepted by the strict typechecker MODEL of C03 (`checkEnv .strict`) in
                                 the request's environment and not typed `False` there, every request and store conforming
                                 to the schema in the sense of C11 (`ConformsRequest`, `StoreConforms`, action entities
                                 present), a schema as Rust constructs them (`SchemaClosed` = C03's `SchemaWF3` + no open
                                 entity types):  `isAuthorized req (sliceStore manifest req store) ps = isAuthorized req
                                 store ps`, where the manifest is computed (analysis + `to_typed`) from the typed ASTs
                                 `typedAst` — the policy annotated with `typeOf`'s types AND TRANSFORMED WHERE THE
                                 TYPECHECKER SHORT-CIRCUITS as typecheck.rs does (`a && b` with `a : False` ↦ `a`,
                                 `a || b` with `a : True` ↦ `a`, `if c …` with `c : True/False` ↦ both branches the taken
                                 one) — while the ORIGINAL policy is what is evaluated.  Side conditions: `NoRecOps`
                                 (syntactic, on the typed AST: `==` does not compare records, `contains` does not look for
                                 a record; every other operator answers a record operand with a type error over the store
                                 and over the slice alike, `applyBinary_trim`) and `CtxWF` (the context is a map);
  * `decision_sliced_valid`      the same through C01's characterisation of the decision;
  * `manifest_sound_valid_accepted`  the same from acceptance of the policies by `checkPolicy .strict` in ALL environments
                                 (C03's policy-level premise): the request's environment is one of them;
  * `manifest_sound_valid_lit`   the same for `FragL` = `FragE` + set literals + record literals with distinct keys
                                 (dereferenced `{x: principal.a}.x.b`, as operands `[principal.a, resource.b].contains(…)`,
                                 `x in [A::"a", r.owner]`, nested), with `==` / `contains*` on records allowed: where the
                                 analysis requests the full type (`full_type_required`) a covering sub-store holds THE
                                 WHOLE VALUE (`full_eq`, Lemmas/ManifestFull.lean).  In place of `NoRecOps` and `CtxWF`:
                                 `SortedReq req`, `SortedStore es` (records are key-sorted: Rust `BTreeMap`s; `Value.beq`
                                 on records is positional in the model); that the slice is key-sorted is proved
                                 (`sortedStore_slice`);
  * `ctxWF_not_from_conformance` `CtxWF` is NOT derivable from `ConformsRequest` (a context list binding a key twice conforms);
  * `slice_monotone_store`       STORE-LEVEL MONOTONICITY ("a larger trie keeps more entities"): `rootsLe t t'` and agreeing
                                 `is_entity_type` annotations (`FlagsAgreeRoots t t'`: at corresponding nodes `t'` is annotated
                                 entity-typed only where `t` is; nothing is required of ancestors tries) ⇒ the store sliced
                                 by `t` is a sub-store of the store sliced by `t'` (every entity, with at least its attributes
                                 and ancestors).  No well-formedness / conformance hypothesis.
                                 `slice_monotone_entities_needs_flags`: the annotation condition cannot be dropped;
  * `manifest_union_grows`       adding a policy only grows the slice: the manifest entry of `ps ++ [p]` is `≥` the entry of
                                 `ps` with agreeing annotations (`rootsLeA`), hence the slices are ordered for every request
                                 and store.  Hypothesis: the un-annotated trie of `ps` is `≤` itself (unique root /
                                 ancestors-trie keys; checkable, not derived from the analysis).

NOT proved / trusted: the self-comparability hypothesis of `manifest_union_grows` is not derived from the analysis (`RootsWF`
covers children keys only, not root keys / ancestors tries).  `typedAst` is a specification-level definition
(Lemmas/ManifestValid.lean, written from typecheck.rs; the differential run takes the typed ASTs from Rust and does not
diff `typedAst` against them).  The property is FALSE of the analysed code in two situations, both excluded by hypotheses
above (`typed_false_environment_breaks_slicing` and known_findings.jsonl): request environments in which the typechecker
types a policy `False` contribute nothing to the manifest although evaluating the policy reads data, and template slots
are analysed as the request variable.
-/
namespace Cedar.C17
open Cedar Cedar.Manifest

/-- C17: a larger trie keeps more.  (1) attributes: the slice of any value by a smaller trie is a trimmed copy of its
slice by a larger trie; (2) the same for the attribute record of an entity; (3) ancestors: a larger ancestors trie
requests more ancestor ids (so more of the entity's ancestors are kept). -/
theorem slice_monotone :
    (∀ (t1 t2 : AccessTrie) (v : Value), AccessTrie.le t1 t2 → Trim (sliceVal t1 v) (sliceVal t2 v)) ∧
    (∀ (c1 c2 : Fields) (attrs : List (String × Value)), fieldsLe c1 c2 →
        TrimKVs (sliceFields c1 attrs) (sliceFields c2 attrs)) ∧
    (∀ (m : Entities) (req : Request) (a1 a2 : RootAccessTrie) (x : EntityUID),
        x ∈ ancRequest m req a1 → x ∈ ancRequest m req (unionRoots a1 a2) ∧ x ∈ ancRequest m req (unionRoots a2 a1)) := by
  refine ⟨sliceVal_mono, ?_, ?_⟩
  · intro c1 c2 attrs h
    exact trimKVs_of_lookup _ _ (sliceFields_mono c1 c2 attrs h)
  · intro m req a1 a2 x hx
    exact ⟨(ancRequest_union m req x a2 a1).1 hx, (ancRequest_union m req x a1 a2).2 hx⟩

/-- non-vacuity: the larger trie keeps `b`, the smaller one drops it; both drop `c` -/
example :
    let t1 : AccessTrie := .mk [("a", .new)] [] false false
    let t2 : AccessTrie := .mk [("a", .new), ("b", .new)] [] false false
    let v : Value := .record [("a", .prim (.int 1)), ("b", .prim (.int 2)), ("c", .prim (.int 3))]
    AccessTrie.le t1 t2 ∧ sliceVal t1 v = .record [("a", .prim (.int 1))] ∧
      sliceVal t2 v = .record [("a", .prim (.int 1)), ("b", .prim (.int 2))] := by
  refine ⟨?_, rfl, rfl⟩
  simp [AccessTrie.le, fieldsLe, rootsLe, lookupField, AccessTrie.children, AccessTrie.new]

/-- C17: every access path in the trie evaluates the same in the sliced value: projecting the slice along a listed path
gives the slice (by the sub-trie at that path) of the projection of the original; a non-record value at the end of the
path is unchanged; and the attribute record of a sliced entity holds exactly the requested attributes that exist. -/
theorem slice_preserves_requested :
    (∀ (fs : List String) (t t' : AccessTrie) (v : Value), subtrie t fs = some t' →
        project (sliceVal t v) fs = (project v fs).map (sliceVal t')) ∧
    (∀ (t : AccessTrie) (v : Value), (∀ kvs, v ≠ .record kvs) → sliceVal t v = v) ∧
    (∀ (c : Fields) (attrs : List (String × Value)) (k : String),
        lookupKV (sliceFields c attrs) k =
          match lookupField c k with
          | some t => (lookupKV attrs k).map (sliceVal t)
          | none => none) :=
  ⟨project_sliceVal, sliceVal_nonrecord, lookup_sliceFields⟩

/-- non-vacuity: path `r.x` is listed; the slice drops `r.y` and `z` and keeps `r.x` -/
example :
    let t : AccessTrie := .mk [("r", .mk [("x", .new)] [] false false)] [] false false
    let v : Value := .record [("r", .record [("x", .prim (.int 7)), ("y", .prim (.int 8))]), ("z", .prim (.bool true))]
    subtrie t ["r", "x"] = some .new ∧ project (sliceVal t v) ["r", "x"] = some (.prim (.int 7)) ∧
      project (sliceVal t v) ["r", "y"] = none ∧ project v ["r", "y"] = some (.prim (.int 8)) :=
  ⟨rfl, rfl, rfl, rfl⟩

/-- a policy given by its typed condition (what `typecheck_by_request_env` returns for the request's environment) -/
structure TPolicy where
  id : String
  effect : Effect
  cond : TExpr

def TPolicy.toPolicy (p : TPolicy) : Policy := { id := p.id, effect := p.effect, condition := p.cond.erase, env := [] }

/-- C17 (core fragment): if the store `es'` invents nothing (`SubStore`) and covers the trie that the analysis computes
for `e`, then `e` evaluates over `es'` as over `es`: the same error, or the same value up to record fields that `e`
cannot have looked at (`Trim`). -/
theorem manifest_sound_partial (req : Request) (es es' : Entities) (hsub : SubStore es es') (hctx : CtxWF req)
    (e : TExpr) (r : Res) (hfrag : InFrag e) (hsafe : SafeOps req es e) (hm : manifestOfExpr e = .ok r)
    (hcov : CoverRoots es es' req r.global) :
    (∀ x, evaluate req es [] e.erase = .error x → evaluate req es' [] e.erase = .error x) ∧
    (∀ v, evaluate req es [] e.erase = .ok v → ∃ v', evaluate req es' [] e.erase = .ok v' ∧ Trim v' v) ∧
    (∀ b : Bool, evaluate req es [] e.erase = .ok (.prim (.bool b)) → evaluate req es' [] e.erase = .ok (.prim (.bool b))) := by
  have h := eval_sliced hsub hctx e r hfrag hsafe hm hcov
  refine ⟨?_, ?_, ?_⟩
  · intro x hx; rw [hx] at h; exact h.error_left
  · intro v hv; rw [hv] at h; obtain ⟨v', h1, h2, _⟩ := h.ok_left; exact ⟨v', h1, h2⟩
  · intro b hv
    rw [hv] at h
    obtain ⟨v', h1, h2, _⟩ := h.ok_left
    rw [h1, trim_prim h2]

/-- C17 (core fragment), lifted to the authorizer: for a policy set whose (typed) conditions are in the fragment, a
sub-store covering the union of the policies' tries gives the same response — decision, reasons and erroring policies. -/
theorem response_sliced_partial (req : Request) (es es' : Entities) (hsub : SubStore es es') (hctx : CtxWF req)
    (ps : List TPolicy) (tries : List RootAccessTrie)
    (hps : ∀ p, p ∈ ps → InFrag p.cond ∧ SafeOps req es p.cond ∧
      ∃ r, manifestOfExpr p.cond = .ok r ∧ r.global ∈ tries)
    (hcov : CoverRoots es es' req (unionAll tries)) :
    isAuthorized req es' (ps.map TPolicy.toPolicy) = isAuthorized req es (ps.map TPolicy.toPolicy) := by
  refine isAuthorized_of_simG hsub hctx Premises.core_sound _ fun q hq => ?_
  obtain ⟨p, hp, rfl⟩ := List.mem_map.1 hq
  obtain ⟨hf, hs, r, hm, hr⟩ := hps p hp
  exact ⟨rfl, _, r, sim_of_safe p.cond hf hs, hm, coverRoots_unionAll es es' req tries hcov r.global hr⟩

/-- C17 + C01: over such a slice, `Allow` is decided exactly when, over the FULL store, some permit is satisfied and no
forbid is. -/
theorem decision_sliced_partial (req : Request) (es es' : Entities) (hsub : SubStore es es') (hctx : CtxWF req)
    (ps : List TPolicy) (tries : List RootAccessTrie)
    (hps : ∀ p, p ∈ ps → InFrag p.cond ∧ SafeOps req es p.cond ∧
      ∃ r, manifestOfExpr p.cond = .ok r ∧ r.global ∈ tries)
    (hcov : CoverRoots es es' req (unionAll tries)) :
    (isAuthorized req es' (ps.map TPolicy.toPolicy)).decision = .allow ↔
      (∃ p, p ∈ ps.map TPolicy.toPolicy ∧ p.effect = .permit ∧ Sat req es p) ∧
      ¬ (∃ p, p ∈ ps.map TPolicy.toPolicy ∧ p.effect = .forbid ∧ Sat req es p) := by
  rw [response_sliced_partial req es es' hsub hctx ps tries hps hcov]
  exact Cedar.C01.allow_iff req es _

namespace Ex
def alice : EntityUID := ⟨"User", "alice"⟩
def bob : EntityUID := ⟨"User", "bob"⟩
def doc : EntityUID := ⟨"Doc", "d"⟩
def grp : EntityUID := ⟨"Group", "g"⟩
def req : Request := ⟨alice, ⟨"Action", "view"⟩, doc, [("level", .prim (.int 3))]⟩
def store : Entities := [
  (alice, { attrs := [("age", .prim (.int 30)), ("name", .prim (.string "alice"))], ancestors := [grp], tags := [] }),
  (bob, { attrs := [("age", .prim (.int 20)), ("name", .prim (.string "bob"))], ancestors := [], tags := [] }),
  (doc, { attrs := [("owner", .prim (.entityUID alice)), ("title", .prim (.string "t"))], ancestors := [grp], tags := [] }),
  (grp, { attrs := [], ancestors := [], tags := [] })]
/-- `resource.owner.name == "alice" && (if context.level < 5 then resource.owner else principal) has age` -/
def cond : TExpr :=
  .and
    (.binaryApp .eq (some .string) (some .string) (.getAttr (.getAttr (.var .resource) "owner") "name") (.lit (.string "alice")))
    (.hasAttr (.ite (.binaryApp .less none none (.getAttr (.var .context) "level") (.lit (.int 5)))
                (.getAttr (.var .resource) "owner") (.var .principal)) "age")
def pol : TPolicy := ⟨"p0", .permit, cond⟩
/-- `forbid … when { principal.name == "mallory" }` -/
def pol2 : TPolicy := ⟨"p1", .forbid,
  .binaryApp .eq (some .string) (some .string) (.getAttr (.var .principal) "name") (.lit (.string "mallory"))⟩
/-- `permit … when { principal in Group::"g" }` -/
def pol3 : TPolicy := ⟨"p2", .permit,
  .binaryApp .mem (some (.entity ["User"])) (some (.entity ["Group"])) (.var .principal) (.lit (.entityUID grp))⟩
def trie1 : RootAccessTrie := match manifestOfExpr cond with | .ok r => r.global | .error _ => []
def trie2 : RootAccessTrie := match manifestOfExpr pol2.cond with | .ok r => r.global | .error _ => []
def trie3 : RootAccessTrie := match manifestOfExpr pol3.cond with | .ok r => r.global | .error _ => []
def trie : RootAccessTrie := unionAll [trie1, trie2, trie3]
def userTy : EntityTypeEntry :=
  { attrs := [("age", true, CedarType.long), ("name", true, CedarType.string)], isOpen := false, tags := none,
    descendants := [], enumIds := none }
def docTy : EntityTypeEntry :=
  { attrs := [("owner", true, CedarType.entity ["User"]), ("title", true, CedarType.string)], isOpen := false, tags := none,
    descendants := [], enumIds := none }
def groupTy : EntityTypeEntry :=
  { attrs := [], isOpen := false, tags := none, descendants := ["Doc", "User"], enumIds := none }
def viewAct : ActionEntry :=
  { principals := ["User"], resources := ["Doc"], context := CedarType.record [("level", true, CedarType.long)] false,
    descendants := [], ancestors := [], attrs := [] }
def schema : Schema := { ets := [("Doc", docTy), ("Group", groupTy), ("User", userTy)], acts := [(⟨"Action", "view"⟩, viewAct)] }
def typedTrie : RootAccessTrie :=
  match toTypedRoots schema ⟨"User", ⟨"Action", "view"⟩, "Doc"⟩ trie with | .ok t => t | .error _ => []
def sliced : Entities := sliceStorePure typedTrie req store

end Ex

/-- the closed facts of the two examples below, evaluated together: the kernel then shares the runs of the analysis and of
the slicer -/
theorem Ex.sliced_facts :
    (subStoreB store sliced = true ∧ trimKVsB req.context req.context = true ∧
      coverRootsB store sliced req (unionAll [trie1, trie2, trie3]) = true ∧
      (∀ p ∈ [pol, pol2, pol3], Manifest.isOkB (manifestOfExpr p.cond) = true) ∧
      (isAuthorized req store [pol.toPolicy, pol2.toPolicy, pol3.toPolicy]).reasons = ["p0", "p2"]) ∧
    ((sliced.map (·.1) = [doc, alice]) ∧
      (sliced.find? doc).map (fun d => d.attrs.map (·.1)) = some ["owner"] ∧
      (sliced.find? alice).map (fun d => (d.attrs.map (·.1), d.ancestors)) = some (["age", "name"], [grp]) ∧
      (sliced.find? doc).map (fun d => d.ancestors) = some [] ∧ (store.find? doc).map (fun d => d.ancestors) = some [grp] ∧
      sliceFault typedTrie req store = none) := by
  decide +kernel

theorem Ex.frag_safe : ∀ p, p ∈ [pol, pol2, pol3] → InFrag p.cond ∧ SafeOps req store p.cond := by
  intro p hp
  simp only [List.mem_cons, List.not_mem_nil, or_false] at hp
  rcases hp with rfl | rfl | rfl
  · refine ⟨by simp [pol, cond, InFrag, FragOp], ?_⟩
    simp only [pol, cond, SafeOps, and_true]
    exact ⟨⟨nonRec_of_check (by decide +kernel), nonRec_of_check (by decide +kernel)⟩,
      nonRec_of_check (by decide +kernel), nonRec_of_check (by decide +kernel)⟩
  · refine ⟨by simp [pol2, InFrag, FragOp], ?_⟩
    simp only [pol2, SafeOps, and_true]
    exact ⟨nonRec_of_check (by decide +kernel), nonRec_of_check (by decide +kernel)⟩
  · refine ⟨by simp [pol3, InFrag, FragOp], ?_⟩
    simp only [pol3, SafeOps, and_true]
    exact ⟨nonRec_of_check (by decide +kernel), nonRec_of_check (by decide +kernel)⟩


/-- the slice: `bob` and the group are gone, `doc.title` is gone, the requested ancestor of `alice` is kept, the
(unrequested) ancestor of the document is dropped -/
example : (Ex.sliced.map (·.1) = [Ex.doc, Ex.alice]) ∧
    (Ex.sliced.find? Ex.doc).map (fun d => d.attrs.map (·.1)) = some ["owner"] ∧
    (Ex.sliced.find? Ex.alice).map (fun d => (d.attrs.map (·.1), d.ancestors)) = some (["age", "name"], [Ex.grp]) ∧
    (Ex.sliced.find? Ex.doc).map (fun d => d.ancestors) = some [] ∧ (Ex.store.find? Ex.doc).map (fun d => d.ancestors) = some [Ex.grp] ∧
    sliceFault Ex.typedTrie Ex.req Ex.store = none :=
  Ex.sliced_facts.2

/-- non-vacuity of `response_sliced_partial` / `manifest_sound_partial`: all hypotheses hold for the slice computed by the
model's slicer, the response is `Allow` by `p0` on both stores -/
example :
    isAuthorized Ex.req Ex.sliced [Ex.pol.toPolicy, Ex.pol2.toPolicy, Ex.pol3.toPolicy] =
      isAuthorized Ex.req Ex.store [Ex.pol.toPolicy, Ex.pol2.toPolicy, Ex.pol3.toPolicy] ∧
    (isAuthorized Ex.req Ex.store [Ex.pol.toPolicy, Ex.pol2.toPolicy, Ex.pol3.toPolicy]).reasons = ["p0", "p2"] := by
  have ⟨c1, c2, c3, c4, c5⟩ := Ex.sliced_facts.1
  refine ⟨?_, c5⟩
  refine response_sliced_partial Ex.req Ex.store Ex.sliced (subStoreB_sound _ _ c1) (ctxWF_of_check _ c2)
    [Ex.pol, Ex.pol2, Ex.pol3] [Ex.trie1, Ex.trie2, Ex.trie3] ?_ (coverRootsB_sound _ _ _ _ c3)
  intro p hp
  obtain ⟨r, hr⟩ := ok_of_check (c4 p hp)
  refine ⟨(Ex.frag_safe p hp).1, (Ex.frag_safe p hp).2, r, hr, ?_⟩
  simp only [List.mem_cons, List.not_mem_nil, or_false] at hp
  rcases hp with rfl | rfl | rfl
  · simp [Ex.trie1, show manifestOfExpr Ex.cond = .ok r from hr]
  · simp [Ex.trie2, hr]
  · simp [Ex.trie3, hr]

/-- C17: THE SLICER MEETS ITS SPECIFICATION.  For a trie whose children maps have unique keys (`RootsWF`: hash maps in Rust;
proved for the analysis' output, `manifestOfExpr_wf`, and preserved by `to_typed`, `toTypedRoots_wf`) and whose
`is_entity_type` annotations agree with the data (`FlagsRoots`: a node annotated entity-typed never sits on a record value;
proved for `to_typed`'s output over data that conforms to the schema, `flagsRoots_typed`), the store the slicer computes
invents nothing (`SubStore`) and holds everything the trie requests (`CoverRoots`): requested attributes (recursively,
merged over all requests for the same entity), every entity reachable along trie paths from the roots, and the requested
ancestors.  This holds for the pure result whether or not one of the slicer's `assert!`s would fire. -/
theorem slicer_meets_spec (t : RootAccessTrie) (req : Request) (es : Entities)
    (hwf : RootsWF t) (hfl : FlagsRoots es req t) :
    SubStore es (sliceStorePure t req es) ∧ CoverRoots es (sliceStorePure t req es) req t :=
  sliceStorePure_meets_spec t req es hwf hfl

/-- nothing is invented, unconditionally -/
theorem slice_is_substore (t : RootAccessTrie) (req : Request) (es : Entities) : SubStore es (sliceStorePure t req es) :=
  sliceStorePure_sub t req es

/-- The hypothesis `FlagsRoots` of `slicer_meets_spec` cannot be dropped (so "no fault ⇒ sub-store ∧ cover" for ARBITRARY
tries is false; this is not a defect of the Rust code, whose annotations come from `to_typed` and whose stores are
validated): with `principal.r` annotated entity-typed over a store where it is a record,
`prune_child_entity_dereferences` drops the request for `r.x`, no `assert!` fires, and `principal.r.x == 1` changes from
satisfied to erroring. -/
theorem slicer_needs_agreeing_annotations :
    let p : EntityUID := ⟨"User", "a"⟩
    let req : Request := ⟨p, ⟨"Action", "view"⟩, ⟨"Doc", "d"⟩, []⟩
    let es : Entities := [(p, { attrs := [("r", .record [("x", .prim (.int 1))])], ancestors := [], tags := [] })]
    let t : RootAccessTrie := [(.var .principal, .mk [("r", .mk [("x", .new)] [] false true)] [] false true)]
    let pol : Policy := ⟨"p0", .permit,
      .binaryApp .eq (.getAttr (.getAttr (.var .principal) "r") "x") (.lit (.int 1)), []⟩
    RootsWF t ∧ sliceFault t req es = none ∧
    (isAuthorized req es [pol]).decision = .allow ∧ (isAuthorized req (sliceStorePure t req es) [pol]).decision = .deny := by
  intro p req es t pol
  refine ⟨by simp [t, RootsWF, AccessTrie.WF, fieldsWF, lookupField, AccessTrie.new], by decide +kernel, by decide +kernel,
    by decide +kernel⟩

namespace MonoCex
def p : EntityUID := ⟨"User", "a"⟩
def req : Request := ⟨p, ⟨"Action", "view"⟩, ⟨"Doc", "d"⟩, []⟩
def store : Entities := [(p, { attrs := [("r", .record [("x", .prim (.int 1))])], ancestors := [], tags := [] })]
/-- `principal.r.x` with `r` annotated record-typed (agrees with the data) -/
def small : RootAccessTrie := [(.var .principal, .mk [("r", .mk [("x", .new)] [] false false)] [] false true)]
/-- the same paths with `r` annotated entity-typed (disagrees with the data) -/
def large : RootAccessTrie := [(.var .principal, .mk [("r", .mk [("x", .new)] [] false true)] [] false true)]
end MonoCex

/-- The store-level half of monotonicity ("`t ≤ t'` ⇒ the slice computed from `t` is a sub-store of the slice computed
from `t'`") does NOT hold for the order `AccessTrie.le` / `rootsLe` alone, which compares requested paths and the
`is_ancestor` marks but not the `is_entity_type` annotations: two tries that request the same paths (each is `≤` the other)
and differ only in the annotation of `r` give slices of which the first is not a sub-store of the second — under the
entity-typed annotation `prune_child_entity_dereferences` drops the request for `r.x`, so the "larger" slice has `r = {}`
while the "smaller" one has `r = {x: 1}`.  So any true statement needs a side condition on the annotations (agreeing
`is_entity_type` flags at corresponding nodes); the positive theorem under that condition is `slice_monotone_store` below. -/
theorem slice_monotone_entities_needs_flags :
    rootsLe MonoCex.small MonoCex.large ∧ rootsLe MonoCex.large MonoCex.small ∧
    ¬ SubStore (sliceStorePure MonoCex.large MonoCex.req MonoCex.store) (sliceStorePure MonoCex.small MonoCex.req MonoCex.store) := by
  refine ⟨?_, ?_, ?_⟩
  · exact rootsLeB_sound _ _ (by decide +kernel)
  · exact rootsLeB_sound _ _ (by decide +kernel)
  · intro h
    have e1 : sliceStorePure MonoCex.small MonoCex.req MonoCex.store =
        [(MonoCex.p, { attrs := [("r", .record [("x", .prim (.int 1))])], ancestors := [], tags := [] })] := rfl
    have e2 : sliceStorePure MonoCex.large MonoCex.req MonoCex.store =
        [(MonoCex.p, { attrs := [("r", .record [])], ancestors := [], tags := [] })] := rfl
    rw [e1, e2] at h
    obtain ⟨d, hd, htrim, _⟩ := h MonoCex.p { attrs := [("r", .record [("x", .prim (.int 1))])], ancestors := [], tags := [] } rfl
    have hd' : d = { attrs := [("r", .record [])], ancestors := [], tags := [] } := by
      have : Entities.find? [(MonoCex.p, ({ attrs := [("r", .record [])], ancestors := [], tags := [] } : EntityData))] MonoCex.p
          = some { attrs := [("r", .record [])], ancestors := [], tags := [] } := rfl
      rw [this] at hd; exact (Option.some.inj hd).symm
    subst hd'
    simp [TrimKVs, Trim, lookupKV] at htrim

/-- C17 (core fragment): evaluation over the store that `slice_entities` computes for the
manifest of a list of typed conditions agrees with evaluation over the full store, for each of these conditions. -/
theorem manifest_sound_sliced (s : Schema) (rt : ReqType) (req : Request) (es es' : Entities) (tps : List TExpr)
    (t : RootAccessTrie) (hctx : CtxWF req) (huk : ∀ e, e ∈ tps → TypesUK e)
    (hm : manifestOfEnvs s rt tps = .ok t)
    (hconf : ∀ t0, manifestOfEnvs.go [] tps = .ok t0 → ConfRoots s rt es req t0)
    (hs : sliceStore (some t) req es = .ok es')
    (e : TExpr) (he : e ∈ tps) (hfrag : InFrag e) (hsafe : SafeOps req es e) :
    (∀ x, evaluate req es [] e.erase = .error x → evaluate req es' [] e.erase = .error x) ∧
    (∀ v, evaluate req es [] e.erase = .ok v → ∃ v', evaluate req es' [] e.erase = .ok v' ∧ Trim v' v) ∧
    (∀ b : Bool, evaluate req es [] e.erase = .ok (.prim (.bool b)) → evaluate req es' [] e.erase = .ok (.prim (.bool b))) := by
  obtain ⟨hsub, hcov⟩ := slice_of_manifest s rt req es es' tps t hctx huk hm hconf hs
  obtain ⟨r, hr, hc⟩ := hcov e he
  exact manifest_sound_partial req es es' hsub hctx e r hfrag hsafe hr hc

/-- C17 (core fragment), for the authorizer: for static policies whose typed conditions are in the fragment, over a
request and store that conform to the schema as far as the policies look (`ConfRoots`), authorization over the store
sliced by the policies' manifest gives the same response — decision, determining policies and erroring policies — as
authorization over the full store. -/
theorem response_sliced_static (s : Schema) (rt : ReqType) (req : Request) (es es' : Entities) (ps : List TPolicy)
    (t : RootAccessTrie) (hctx : CtxWF req)
    (hps : ∀ p, p ∈ ps → InFrag p.cond ∧ SafeOps req es p.cond ∧ TypesUK p.cond)
    (hm : manifestOfEnvs s rt (ps.map (·.cond)) = .ok t)
    (hconf : ∀ t0, manifestOfEnvs.go [] (ps.map (·.cond)) = .ok t0 → ConfRoots s rt es req t0)
    (hs : sliceStore (some t) req es = .ok es') :
    isAuthorized req es' (ps.map TPolicy.toPolicy) = isAuthorized req es (ps.map TPolicy.toPolicy) := by
  have huk : ∀ e, e ∈ ps.map (·.cond) → TypesUK e := by
    intro e he
    simp only [List.mem_map] at he
    obtain ⟨p, hp, e1⟩ := he
    subst e1
    exact (hps p hp).2.2
  obtain ⟨hsub, hcov⟩ := slice_of_manifest s rt req es es' _ t hctx huk hm hconf hs
  refine isAuthorized_of_simG hsub hctx Premises.core_sound _ fun q hq => ?_
  obtain ⟨p, hp, rfl⟩ := List.mem_map.1 hq
  obtain ⟨hf, hsafe, _⟩ := hps p hp
  obtain ⟨r, hr, hc⟩ := hcov p.cond (List.mem_map.2 ⟨p, hp, rfl⟩)
  exact ⟨rfl, _, r, sim_of_safe p.cond hf hsafe, hr, hc⟩

/-- C17 + C01: the decision over the slice is characterised by the satisfied policies over the FULL store. -/
theorem decision_sliced_static (s : Schema) (rt : ReqType) (req : Request) (es es' : Entities) (ps : List TPolicy)
    (t : RootAccessTrie) (hctx : CtxWF req)
    (hps : ∀ p, p ∈ ps → InFrag p.cond ∧ SafeOps req es p.cond ∧ TypesUK p.cond)
    (hm : manifestOfEnvs s rt (ps.map (·.cond)) = .ok t)
    (hconf : ∀ t0, manifestOfEnvs.go [] (ps.map (·.cond)) = .ok t0 → ConfRoots s rt es req t0)
    (hs : sliceStore (some t) req es = .ok es') :
    (isAuthorized req es' (ps.map TPolicy.toPolicy)).decision = .allow ↔
      (∃ p, p ∈ ps.map TPolicy.toPolicy ∧ p.effect = .permit ∧ Sat req es p) ∧
      ¬ (∃ p, p ∈ ps.map TPolicy.toPolicy ∧ p.effect = .forbid ∧ Sat req es p) := by
  rw [response_sliced_static s rt req es es' ps t hctx hps hm hconf hs]
  exact Cedar.C01.allow_iff req es _

namespace Ex
def rt : ReqType := ⟨"User", ⟨"Action", "view"⟩, "Doc"⟩
def conds : List TExpr := [pol.cond, pol2.cond, pol3.cond]
def untyped : RootAccessTrie := match manifestOfEnvs.go [] conds with | .ok t => t | .error _ => []
def manifest : RootAccessTrie := match manifestOfEnvs schema rt conds with | .ok t => t | .error _ => []
def sliced' : Entities := match sliceStore (some manifest) req store with | .ok es => es | .error _ => []
def manifest1 : RootAccessTrie := match manifestOfEnvs schema rt [pol.cond] with | .ok t => t | .error _ => []
def sliced1 : Entities := match sliceStore (some manifest1) req store with | .ok es => es | .error _ => []
def conds2 : List TExpr := [pol.cond, pol2.cond]
def untyped2 : RootAccessTrie := match manifestOfEnvs.go [] conds2 with | .ok t => t | .error _ => []
def manifest2 : RootAccessTrie := match manifestOfEnvs schema rt conds2 with | .ok t => t | .error _ => []

/-- the closed facts of the three examples below (`response_sliced_static`, `slice_monotone_store`,
`manifest_union_grows`), evaluated together as in `Ex.sliced_facts` -/
structure Facts : Prop where
  ctx : trimKVsB req.context req.context = true
  hm : manifestOfEnvs schema rt conds = .ok manifest
  hs : sliceStore (some manifest) req store = .ok sliced'
  conf : confRootsB schema rt store req untyped = true
  ids : sliced'.map (·.1) = [doc, alice]
  hs1 : sliceStore (some manifest1) req store = .ok sliced1
  le1 : rootsLeB manifest1 manifest = true
  fl1 : flagsAgreeRootsB manifest1 manifest = true
  anc1 : (sliced1.find? alice).map (·.ancestors) = some []
  anc' : (sliced'.find? alice).map (·.ancestors) = some [grp]
  h02 : manifestOfEnvs.go [] conds2 = .ok untyped2
  hm2 : manifestOfEnvs schema rt conds2 = .ok manifest2
  self2 : rootsLeB untyped2 untyped2 = true
  pure2 : ((sliceStorePure manifest2 req store).find? alice).map (·.ancestors) = some []
  pure : ((sliceStorePure manifest req store).find? alice).map (·.ancestors) = some [grp]

end Ex

theorem Ex.facts : Facts := by
  have ⟨c1, c2, c3, c4, c5, c6, c7, c8, c9, c10, c11, c12, c13, c14, c15⟩ :
      trimKVsB req.context req.context = true ∧
      Manifest.isOkB (manifestOfEnvs schema rt conds) = true ∧
      Manifest.isOkB (sliceStore (some manifest) req store) = true ∧
      confRootsB schema rt store req untyped = true ∧
      sliced'.map (·.1) = [doc, alice] ∧
      Manifest.isOkB (sliceStore (some manifest1) req store) = true ∧
      rootsLeB manifest1 manifest = true ∧ flagsAgreeRootsB manifest1 manifest = true ∧
      (sliced1.find? alice).map (·.ancestors) = some [] ∧
      (sliced'.find? alice).map (·.ancestors) = some [grp] ∧
      Manifest.isOkB (manifestOfEnvs.go [] conds2) = true ∧
      Manifest.isOkB (manifestOfEnvs schema rt conds2) = true ∧
      rootsLeB untyped2 untyped2 = true ∧
      ((sliceStorePure manifest2 req store).find? alice).map (·.ancestors) = some [] ∧
      ((sliceStorePure manifest req store).find? alice).map (·.ancestors) = some [grp] := by
    decide +kernel
  exact ⟨c1, eq_ok_of_check c2 fun y hy => by simp only [manifest, hy], eq_ok_of_check c3 fun y hy => by simp only [sliced', hy],
    c4, c5, eq_ok_of_check c6 fun y hy => by simp only [sliced1, hy], c7, c8, c9, c10,
    eq_ok_of_check c11 fun y hy => by simp only [untyped2, hy], eq_ok_of_check c12 fun y hy => by simp only [manifest2, hy],
    c13, c14, c15⟩


/-- non-vacuity of `response_sliced_static`: every hypothesis holds for the example; nothing about the slice is assumed -/
example :
    isAuthorized Ex.req Ex.sliced' [Ex.pol.toPolicy, Ex.pol2.toPolicy, Ex.pol3.toPolicy] =
      isAuthorized Ex.req Ex.store [Ex.pol.toPolicy, Ex.pol2.toPolicy, Ex.pol3.toPolicy] ∧
    Ex.sliced'.map (·.1) = [Ex.doc, Ex.alice] := by
  have F := Ex.facts
  refine ⟨?_, F.ids⟩
  have hconf : ∀ t0, manifestOfEnvs.go [] ([Ex.pol, Ex.pol2, Ex.pol3].map (·.cond)) = .ok t0 →
      ConfRoots Ex.schema Ex.rt Ex.store Ex.req t0 := by
    intro t0 h0
    have : Ex.untyped = t0 := by
      have h0' : manifestOfEnvs.go [] Ex.conds = .ok t0 := h0
      simp only [Ex.untyped, h0']
    rw [← this]
    exact confRootsB_sound _ _ _ _ _ F.conf
  refine response_sliced_static Ex.schema Ex.rt Ex.req Ex.store Ex.sliced' [Ex.pol, Ex.pol2, Ex.pol3] Ex.manifest
    (ctxWF_of_check _ F.ctx) ?_ F.hm hconf F.hs
  intro p hp
  refine ⟨(Ex.frag_safe p hp).1, (Ex.frag_safe p hp).2, ?_⟩
  simp only [List.mem_cons, List.not_mem_nil, or_false] at hp
  rcases hp with rfl | rfl | rfl
  · simp [Ex.pol, Ex.cond, TypesUK, optUK, TypeUK]
  · simp [Ex.pol2, TypesUK, optUK, TypeUK]
  · simp [Ex.pol3, TypesUK, optUK, TypeUK]

/-- C17, STORE-LEVEL MONOTONICITY.  If `t'` requests everything `t` requests (`rootsLe`) and the `is_entity_type` annotations
agree (`FlagsAgreeRoots t t'`: at corresponding nodes — same root, same path of fields — `t'` is annotated entity-typed only
where `t` is; ancestors tries need no condition, nothing reads annotations there), then the store sliced by `t` is a
sub-store of the store sliced by `t'`: every entity of the smaller slice is in the larger one, with at least its attributes
(`TrimKVs`) and at least its ancestors.  (`SubStore big small` reads "small invents nothing over big".)
`slice_monotone_entities_needs_flags` shows that the annotation condition cannot be dropped.  No well-formedness (unique
keys) or conformance hypothesis is needed. -/
theorem slice_monotone_store (t t' : RootAccessTrie) (req : Request) (es s s' : Entities)
    (hle : rootsLe t t') (hfl : FlagsAgreeRoots t t')
    (hs : sliceStore (some t) req es = .ok s) (hs' : sliceStore (some t') req es = .ok s') : SubStore s' s := by
  obtain rfl := sliceStore_ok hs
  obtain rfl := sliceStore_ok hs'
  exact sliceStorePure_mono t t' req es (rootsLeA_of_le_agree t t' hle hfl)

/-- the same for the pure result (whether or not one of the slicer's `assert!`s would fire) -/
theorem slice_monotone_store_pure (t t' : RootAccessTrie) (req : Request) (es : Entities)
    (hle : rootsLe t t') (hfl : FlagsAgreeRoots t t') :
    SubStore (sliceStorePure t' req es) (sliceStorePure t req es) :=
  sliceStorePure_mono t t' req es (rootsLeA_of_le_agree t t' hle hfl)

/-- non-vacuity of `slice_monotone_store`: the manifest of `p0` alone against the manifest of `p0, p1, p2` — all
hypotheses hold, and the larger slice is strictly larger (it keeps `alice`'s ancestor `Group::"g"`, requested by `p2` only) -/
example : SubStore Ex.sliced' Ex.sliced1 ∧
    (Ex.sliced1.find? Ex.alice).map (·.ancestors) = some [] ∧ (Ex.sliced'.find? Ex.alice).map (·.ancestors) = some [Ex.grp] := by
  have F := Ex.facts
  exact ⟨slice_monotone_store Ex.manifest1 Ex.manifest Ex.req Ex.store _ _ (rootsLeB_sound _ _ F.le1)
    (flagsAgreeRootsB_sound _ _ F.fl1) F.hs1 F.hs, F.anc1, F.anc'⟩

/-- C17: ADDING A POLICY CAN ONLY GROW THE SLICE.  If the analysis succeeds for the typed conditions `ps` and for
`ps ++ [p]` (same schema, same request type), then the manifest entry of `ps ++ [p]` requests everything the entry of `ps`
requests, with agreeing annotations (`rootsLeA` = `rootsLe` + agreeing `is_entity_type` flags: both tries are annotated by
`to_typed` from the same schema types along the same paths), hence — for every request and store — the store sliced for
`ps` is a sub-store of the store sliced for `ps ++ [p]`.  Hypothesis `hself`: the un-annotated trie of `ps` is comparable
with itself (`rootsLe t0 t0`), which holds when root keys and ancestors-trie keys are unique, as they are in Rust's hash
maps (the order looks keys up, so a trie with a duplicated key need not be `≤` itself); it is checkable (`rootsLeB`) and
is NOT derived here from the analysis. -/
theorem manifest_union_grows (s : Schema) (rt : ReqType) (ps : List TExpr) (p : TExpr) (t0 t t' : RootAccessTrie)
    (h0 : manifestOfEnvs.go [] ps = .ok t0) (hself : rootsLe t0 t0)
    (hm : manifestOfEnvs s rt ps = .ok t) (hm' : manifestOfEnvs s rt (ps ++ [p]) = .ok t') :
    rootsLe t t' ∧ rootsLeA t t' ∧
    ∀ (req : Request) (es : Entities), SubStore (sliceStorePure t' req es) (sliceStorePure t req es) := by
  simp only [manifestOfEnvs, h0] at hm
  simp only [manifestOfEnvs, go_snoc, h0] at hm'
  cases hp : manifestOfExpr p with
  | error x => simp [hp] at hm'
  | ok r =>
    simp only [hp] at hm'
    have hle : rootsLe t0 (unionRoots t0 r.global) := rootsLe_union_right r.global t0 t0 hself
    have hA := toTypedRoots_mono s rt _ _ t t' hle hm hm'
    exact ⟨rootsLe_of_rootsLeA _ _ hA, hA, fun req es => sliceStorePure_mono t t' req es hA⟩

/-- non-vacuity of `manifest_union_grows`: `p0, p1` extended by `p2` (`principal in Group::"g"`): all hypotheses hold; the
grown slice keeps `alice`'s ancestor, the smaller one does not -/
example : SubStore (sliceStorePure Ex.manifest Ex.req Ex.store) (sliceStorePure Ex.manifest2 Ex.req Ex.store) ∧
    ((sliceStorePure Ex.manifest2 Ex.req Ex.store).find? Ex.alice).map (·.ancestors) = some [] ∧
    ((sliceStorePure Ex.manifest Ex.req Ex.store).find? Ex.alice).map (·.ancestors) = some [Ex.grp] := by
  have F := Ex.facts
  exact ⟨(manifest_union_grows Ex.schema Ex.rt Ex.conds2 Ex.pol3.cond Ex.untyped2 Ex.manifest2 Ex.manifest F.h02
    (rootsLeB_sound _ _ F.self2) F.hm2 F.hm).2.2 Ex.req Ex.store, F.pure2, F.pure⟩

/-- C17 FOR VALID POLICIES AND CONFORMANT DATA (core fragment).  `s` is a schema as Rust constructs them (`SchemaClosed`:
`SchemaWF3` of C03 + no open entity types), `env` the request environment of `req`; request and store conform to the
schema in the sense of C11 / C03 (`ConformsRequest`, `StoreConforms`; the store holds the schema's action entities); every
policy is static, lies in the core fragment (`FragE`: the constructs of `InFrag` and extension function calls), is accepted by the STRICT TYPECHECKER
MODEL of C03 in `env` and not typed `False` there (for those the property fails — known finding — and Rust analyses no AST).
The manifest is computed from the policies' typed ASTs (`typedAst`: annotated with `typeOf`'s types and transformed where
the typechecker short-circuits, as typecheck.rs does), annotated by `to_typed`, and the store is sliced by it.  Then
authorization of THE ORIGINAL POLICIES over the slice gives the same response — decision, determining policies, erroring
policies — as over the full store.  Remaining side conditions: `NoRecOps` (`==` does not compare records and `contains`
does not look for a record, a syntactic condition on the typed AST) and `CtxWF` (the context is a map: unique keys).
Both obligations of `full_statement_of_fragment` are discharged here: `ConfRoots` by `confRoots_all` (C11 conformance ⇒
trie-directed conformance, for every trie), `SafeOps` — in its lazy form `Sim` — by `sim_typed` (C03 type soundness). -/
theorem manifest_sound_valid (s : Schema) (hWF : SchemaClosed s) (env : RequestEnv) (req : Request) (es es' : Entities)
    (ps : List Policy) (t : RootAccessTrie)
    (henv : EnvMatches s env req) (hslots : env.principalSlot = none ∧ env.resourceSlot = none)
    (hreq : ConformsRequest s req) (hst : StoreConforms s es) (hact : Cedar.C03.ActionsPresent s es) (hctx : CtxWF req)
    (hps : ∀ p, p ∈ ps → p.env = [] ∧ FragE p.condition ∧ NoRecOps (typedAst s env p.condition []) ∧
      ∃ v, checkEnv .strict s env p.condition = some v ∧ v ≠ .fail ∧ v ≠ .ff)
    (hm : manifestOfEnvs s ⟨env.principal, env.action, env.resource⟩ (ps.map (fun p => typedAst s env p.condition [])) = .ok t)
    (hs : sliceStore (some t) req es = .ok es') :
    isAuthorized req es' ps = isAuthorized req es ps := by
  obtain ⟨hsub, hcov⟩ := slice_of_valid hWF henv hreq hst hctx
    (fun p hp => typesUK_typed hWF.toSchemaWF3 henv p.condition (hps p hp).2.1 []) hm hs
  refine isAuthorized_of_simG hsub hctx Premises.core_sound ps fun p hp => ?_
  obtain ⟨hpe, hfrag, hnr, v, hv, hne, _⟩ := hps p hp
  obtain ⟨r, hr, hc⟩ := hcov p hp
  obtain ⟨τ, c', _, hty, _⟩ := Cedar.C03.checkEnv_typed hv hne
  exact ⟨hpe, _, r, sim_typed hWF.toSchemaWF3 henv (sem_of_conformant hslots hreq hst hact) p.condition hfrag [] τ c' hty
    (capsHold_nil _) hnr, hr, hc⟩

/-- `manifest_sound_valid` + C01: over the slice, `Allow` is decided exactly when, over the FULL store, some permit is
satisfied and no forbid is. -/
theorem decision_sliced_valid (s : Schema) (hWF : SchemaClosed s) (env : RequestEnv) (req : Request) (es es' : Entities)
    (ps : List Policy) (t : RootAccessTrie)
    (henv : EnvMatches s env req) (hslots : env.principalSlot = none ∧ env.resourceSlot = none)
    (hreq : ConformsRequest s req) (hst : StoreConforms s es) (hact : Cedar.C03.ActionsPresent s es) (hctx : CtxWF req)
    (hps : ∀ p, p ∈ ps → p.env = [] ∧ FragE p.condition ∧ NoRecOps (typedAst s env p.condition []) ∧
      ∃ v, checkEnv .strict s env p.condition = some v ∧ v ≠ .fail ∧ v ≠ .ff)
    (hm : manifestOfEnvs s ⟨env.principal, env.action, env.resource⟩ (ps.map (fun p => typedAst s env p.condition [])) = .ok t)
    (hs : sliceStore (some t) req es = .ok es') :
    (isAuthorized req es' ps).decision = .allow ↔
      (∃ p, p ∈ ps ∧ p.effect = .permit ∧ Sat req es p) ∧ ¬ (∃ p, p ∈ ps ∧ p.effect = .forbid ∧ Sat req es p) := by
  rw [manifest_sound_valid s hWF env req es es' ps t henv hslots hreq hst hact hctx hps hm hs]
  exact Cedar.C01.allow_iff req es _

/-- `manifest_sound_valid` AT POLICY LEVEL: for static policies of the fragment that the strict typechecker model ACCEPTS
(`checkPolicy .strict … = some vs`, `accepted vs`: no request environment fails — C03's `strict_validation_sound` premise),
the environment of a conformant request is one of the environments typechecked (`conformant_request_env`), and if no policy
is typed `False` in it (and `NoRecOps` holds there), authorization over the store sliced by the manifest of that environment
equals authorization over the full store. -/
theorem manifest_sound_valid_accepted (s : Schema) (hWF : SchemaClosed s) (req : Request) (es : Entities) (ps : List Policy)
    (hreq : ConformsRequest s req) (hst : StoreConforms s es) (hact : Cedar.C03.ActionsPresent s es) (hctx : CtxWF req)
    (hps : ∀ p, p ∈ ps → p.env = [] ∧ FragE p.condition ∧
      ∃ vs, checkPolicy .strict s .absent .absent p.condition = some vs ∧ accepted vs = true) :
    ∃ env, env ∈ s.envs .absent .absent ∧ EnvMatches s env req ∧
      ∀ (t : RootAccessTrie) (es' : Entities),
        (∀ p, p ∈ ps → NoRecOps (typedAst s env p.condition []) ∧ checkEnv .strict s env p.condition ≠ some .ff) →
        manifestOfEnvs s ⟨env.principal, env.action, env.resource⟩ (ps.map (fun p => typedAst s env p.condition [])) = .ok t →
        sliceStore (some t) req es = .ok es' →
        isAuthorized req es' ps = isAuthorized req es ps := by
  obtain ⟨env, hmem, henv, hp, hr⟩ := Cedar.C03.conformant_request_env hreq
  refine ⟨env, hmem, henv, fun t es' hside hm hs => ?_⟩
  refine manifest_sound_valid s hWF env req es es' ps t henv ⟨hp, hr⟩ hreq hst hact hctx ?_ hm hs
  intro p hpm
  obtain ⟨h1, h2, vs, hcp, hacc⟩ := hps p hpm
  obtain ⟨v, hv, hne⟩ := Cedar.C03.checkPolicy_accepted hcp hacc hmem
  exact ⟨h1, h2, (hside p hpm).1, v, hv, hne, fun e => (hside p hpm).2 (by rw [hv, e])⟩

/-! ### non-vacuity of `manifest_sound_valid`: EVERY hypothesis instantiated

Schema `Ex.schema`; the store of the first example plus the schema's action entity; the three policies of the first
example, a fourth one with a short-circuited disjunct:
`(principal is Doc && principal.title == "t") || principal.name == "alice"` — in the environment `(User, view, Doc)` the
test `principal is Doc` is typed `False`, `principal.title == "t"` is not typechecked (it would not typecheck: `User` has
no `title`) and is absent from the typed AST; the policy is evaluated in full over the slice — and a fifth one with
extension function calls. -/

namespace ExV
def view : EntityUID := ⟨"Action", "view"⟩
def store : Entities := Ex.store ++ [(view, { attrs := [], ancestors := [], tags := [] })]
def env : RequestEnv := ⟨"User", view, "Doc", Ex.viewAct.context, none, none⟩
def cond4 : Expr :=
  .or (.and (.is (.var .principal) "Doc") (.binaryApp .eq (.getAttr (.var .principal) "title") (.lit (.string "t"))))
      (.binaryApp .eq (.getAttr (.var .principal) "name") (.lit (.string "alice")))
/-- `decimal("1.5").lessThan(decimal("2.0")) && principal.age < 40` -/
def cond5 : Expr :=
  .and (.call "lessThan" [.call "decimal" [.lit (.string "1.5")], .call "decimal" [.lit (.string "2.0")]])
       (.binaryApp .less (.getAttr (.var .principal) "age") (.lit (.int 40)))
def policies : List Policy :=
  [Ex.pol.toPolicy, Ex.pol2.toPolicy, Ex.pol3.toPolicy, ⟨"p3", .permit, cond4, []⟩, ⟨"p4", .permit, cond5, []⟩]
def tasts : List TExpr := policies.map (fun p => typedAst Ex.schema env p.condition [])
def manifest : RootAccessTrie :=
  match manifestOfEnvs Ex.schema ⟨env.principal, env.action, env.resource⟩ tasts with | .ok t => t | .error _ => []
def sliced : Entities := match sliceStore (some manifest) Ex.req store with | .ok es => es | .error _ => []

end ExV

theorem ExV.envMatches : EnvMatches Ex.schema env Ex.req := ⟨rfl, rfl, rfl, Ex.viewAct, rfl, rfl⟩

namespace ExV
structure Facts : Prop where
  hm : manifestOfEnvs Ex.schema ⟨env.principal, env.action, env.resource⟩ tasts = .ok manifest
  hs : sliceStore (some manifest) Ex.req store = .ok sliced
  ctx : trimKVsB Ex.req.context Ex.req.context = true
  pols : ∀ p ∈ policies, p.env = [] ∧ noRecOpsB (typedAst Ex.schema env p.condition []) = true ∧
    checkEnv .strict Ex.schema env p.condition = some .bool
  reasons : (isAuthorized Ex.req store policies).reasons = ["p0", "p2", "p3", "p4"]
  ids : sliced.map (·.1) = [Ex.doc, Ex.alice]

end ExV

theorem ExV.facts : Facts := by
  have ⟨c1, c2, c3, c4, c5, c6⟩ :
      Manifest.isOkB (manifestOfEnvs Ex.schema ⟨env.principal, env.action, env.resource⟩ tasts) = true ∧
      Manifest.isOkB (sliceStore (some manifest) Ex.req store) = true ∧
      trimKVsB Ex.req.context Ex.req.context = true ∧
      (∀ p ∈ policies, p.env = [] ∧ noRecOpsB (typedAst Ex.schema env p.condition []) = true ∧
        checkEnv .strict Ex.schema env p.condition = some .bool) ∧
      (isAuthorized Ex.req store policies).reasons = ["p0", "p2", "p3", "p4"] ∧
      sliced.map (·.1) = [Ex.doc, Ex.alice] := by
    decide +kernel
  exact ⟨eq_ok_of_check c1 fun y hy => by simp only [manifest, hy], eq_ok_of_check c2 fun y hy => by simp only [sliced, hy],
    c3, c4, c5, c6⟩


theorem exV_checked :
    Cedar.C03.schemaWF3B Ex.schema = true ∧ Ex.schema.ets.all (fun p => !p.2.isOpen) = true ∧
    (Ex.schema.schematic && Manifest.isOkB (checkRequest Ex.schema Ex.req) &&
      ExV.store.all (fun p => Manifest.isOkB (checkEntity Ex.schema p.1 p.2))) = true ∧
    Ex.schema.acts.all (fun p => (ExV.store.find? p.1).isSome) = true := by
  decide +kernel

theorem exV_schemaClosed : SchemaClosed Ex.schema where
  toSchemaWF3 := Cedar.C03.schemaWF3_of_check exV_checked.1
  et_closed := fun T et h => by simpa using Cedar.entityType?_all exV_checked.2.1 h

theorem exV_request_conforms : ConformsRequest Ex.schema Ex.req := (Cedar.C11.conforms_of_check exV_checked.2.2.1).1

theorem exV_store_conforms : StoreConforms Ex.schema ExV.store := (Cedar.C11.conforms_of_check exV_checked.2.2.1).2

theorem exV_actions_present : Cedar.C03.ActionsPresent Ex.schema ExV.store :=
  Cedar.C03.actionsPresent_of_check exV_checked.2.2.2

/-- the typed AST of the fourth policy: the right operand of the `&&` whose left operand is typed `False` is gone; the
slice keeps `alice` (with her requested ancestor) and the document's owner attribute only -/
example : (typedAst Ex.schema ExV.env ExV.cond4 []).erase =
      .or (.is (.var .principal) "Doc") (.binaryApp .eq (.getAttr (.var .principal) "name") (.lit (.string "alice"))) ∧
    ExV.sliced.map (·.1) = [Ex.doc, Ex.alice] :=
  ⟨rfl, ExV.facts.ids⟩

example : isAuthorized Ex.req ExV.sliced ExV.policies = isAuthorized Ex.req ExV.store ExV.policies ∧
    (isAuthorized Ex.req ExV.store ExV.policies).reasons = ["p0", "p2", "p3", "p4"] := by
  have F := ExV.facts
  refine ⟨?_, F.reasons⟩
  refine manifest_sound_valid Ex.schema exV_schemaClosed ExV.env Ex.req ExV.store ExV.sliced ExV.policies ExV.manifest
    ExV.envMatches ⟨rfl, rfl⟩ exV_request_conforms exV_store_conforms exV_actions_present
    (ctxWF_of_check _ F.ctx) ?_ F.hm F.hs
  intro p hp
  obtain ⟨he, hn, hv⟩ := F.pols p hp
  refine ⟨he, ?_, noRecOpsB_sound _ hn, .bool, hv, by decide, by decide⟩
  simp only [ExV.policies, List.mem_cons, List.not_mem_nil, or_false] at hp
  rcases hp with rfl | rfl | rfl | rfl | rfl
  · simp [TPolicy.toPolicy, Ex.pol, Ex.cond, TExpr.erase, FragE, FragOp]
  · simp [TPolicy.toPolicy, Ex.pol2, TExpr.erase, FragE, FragOp]
  · simp [TPolicy.toPolicy, Ex.pol3, TExpr.erase, FragE, FragOp]
  · simp [ExV.cond4, FragE, FragOp]
  · simp [ExV.cond5, FragE, FragEList, FragOp]

/-- C17 FOR VALID POLICIES AND CONFORMANT DATA, FRAGMENT WITH RECORD AND SET LITERALS, NO SIDE CONDITION ON RECORD OPERANDS.
As `manifest_sound_valid`, with
  * `FragL` instead of `FragE`: record literals (distinct keys — the parser and `Expr::record` reject duplicates) and set
    literals anywhere, in particular dereferenced (`{x: principal.a}.x.b`), as operands (`[principal.a, resource.b]
    .contains(…)`, `principal in [A::"x", resource.owner]`) and nested;
  * NO `NoRecOps`: `==` may compare records and `contains` / `containsAll` / `containsAny` may look for records — the
    analysis requests the operands' full types (`full_type_required`) and the slice holds them whole (`full_eq`);
  * instead of `CtxWF`: `SortedReq req` and `SortedStore es` — the context and the attribute records of the store are
    key-sorted, recursively through records (Rust `Value` records are `BTreeMap`s; the model's `evaluate` builds records
    with `insertKV`).  `CtxWF` follows (`ctxWF_of_sorted`); it does NOT follow from `ConformsRequest` alone (see
    `ctxWF_not_from_conformance`).  That the SLICE is key-sorted is proved (`sortedStore_slice`), not assumed.
Whole-value equality is where the sortedness is needed: two association lists holding the same fields in different orders
are different `Value`s of the model and `Value.beq` on records is positional. -/
theorem manifest_sound_valid_lit (s : Schema) (hWF : SchemaClosed s) (env : RequestEnv) (req : Request) (es es' : Entities)
    (ps : List Policy) (t : RootAccessTrie)
    (henv : EnvMatches s env req) (hslots : env.principalSlot = none ∧ env.resourceSlot = none)
    (hreq : ConformsRequest s req) (hst : StoreConforms s es) (hact : Cedar.C03.ActionsPresent s es)
    (hsreq : SortedReq req) (hsst : SortedStore es)
    (hps : ∀ p, p ∈ ps → p.env = [] ∧ FragL p.condition ∧
      ∃ v, checkEnv .strict s env p.condition = some v ∧ v ≠ .fail ∧ v ≠ .ff)
    (hm : manifestOfEnvs s ⟨env.principal, env.action, env.resource⟩ (ps.map (fun p => typedAst s env p.condition [])) = .ok t)
    (hs : sliceStore (some t) req es = .ok es') :
    isAuthorized req es' ps = isAuthorized req es ps := by
  have hctx : CtxWF req := ctxWF_of_sorted hsreq
  obtain ⟨hsub, hcov⟩ := slice_of_valid hWF henv hreq hst hctx
    (fun p hp => typesUK_typedL hWF.toSchemaWF3 henv p.condition (hps p hp).2.1 []) hm hs
  refine isAuthorized_of_simG hsub hctx (Premises.typed_sound hsub hsst (sortedStore_sliceStore hsst hs) hsreq) ps
    fun p hp => ?_
  obtain ⟨hpe, hfrag, v, hv, hne, _⟩ := hps p hp
  obtain ⟨r, hr, hc⟩ := hcov p hp
  obtain ⟨τ, c', _, hty, _⟩ := Cedar.C03.checkEnv_typed hv hne
  exact ⟨hpe, _, r, simG_of_simL (sim_typedL hWF.toSchemaWF3 henv (sem_of_conformant hslots hreq hst hact) p.condition hfrag []
    τ c' hty (capsHold_nil _)), hr, hc⟩

/-- `manifest_sound_valid_lit` + C01 -/
theorem decision_sliced_valid_lit (s : Schema) (hWF : SchemaClosed s) (env : RequestEnv) (req : Request) (es es' : Entities)
    (ps : List Policy) (t : RootAccessTrie)
    (henv : EnvMatches s env req) (hslots : env.principalSlot = none ∧ env.resourceSlot = none)
    (hreq : ConformsRequest s req) (hst : StoreConforms s es) (hact : Cedar.C03.ActionsPresent s es)
    (hsreq : SortedReq req) (hsst : SortedStore es)
    (hps : ∀ p, p ∈ ps → p.env = [] ∧ FragL p.condition ∧
      ∃ v, checkEnv .strict s env p.condition = some v ∧ v ≠ .fail ∧ v ≠ .ff)
    (hm : manifestOfEnvs s ⟨env.principal, env.action, env.resource⟩ (ps.map (fun p => typedAst s env p.condition [])) = .ok t)
    (hs : sliceStore (some t) req es = .ok es') :
    (isAuthorized req es' ps).decision = .allow ↔
      (∃ p, p ∈ ps ∧ p.effect = .permit ∧ Sat req es p) ∧ ¬ (∃ p, p ∈ ps ∧ p.effect = .forbid ∧ Sat req es p) := by
  rw [manifest_sound_valid_lit s hWF env req es es' ps t henv hslots hreq hst hact hsreq hsst hps hm hs]
  exact Cedar.C01.allow_iff req es _

/-- `CtxWF` IS NOT A CONSEQUENCE OF REQUEST CONFORMANCE: `ConformsRequest` (C11, stated by membership) accepts a context
association list that binds `level` twice, with different longs; `CtxWF` (every binding is the one a lookup finds) fails
for it.  Rust contexts are `BTreeMap`s; `manifest_sound_valid_lit` assumes key-sortedness (`SortedReq`), which gives `CtxWF`. -/
theorem ctxWF_not_from_conformance :
    let req : Request := ⟨Ex.alice, ⟨"Action", "view"⟩, Ex.doc, [("level", .prim (.int 3)), ("level", .prim (.int 4))]⟩
    ConformsRequest Ex.schema req ∧ ¬ CtxWF req := by
  intro req
  refine ⟨(Cedar.C11.checkRequest_iff _ _).mp ((ok_iff_isOkB _).mpr (by decide +kernel)), ?_⟩
  intro h
  simp only [CtxWF, Trim] at h
  obtain ⟨kvs, e, h⟩ := h
  cases e
  simp only [req, TrimKVs, lookupKV, beq_self_eq_true, if_true, Trim] at h
  obtain ⟨_, ⟨v, hv, hv'⟩, _⟩ := h
  simp only [Option.some.injEq] at hv
  subst hv
  cases hv'

namespace ExL
/-- `{x: resource.owner}.x.name == "alice"` — an entity reached THROUGH a record literal is dereferenced -/
def cond5 : Expr :=
  .binaryApp .eq (.getAttr (.getAttr (.record [("x", .getAttr (.var .resource) "owner")]) "x") "name") (.lit (.string "alice"))
/-- `[principal, resource.owner].contains(principal) && {a: principal.age, n: principal.name} == {a: 30, n: "alice"}` — a set
literal as operand, `==` ON RECORDS (excluded by `NoRecOps` in `manifest_sound_valid`) -/
def cond6 : Expr :=
  .and (.binaryApp .contains (.set [.var .principal, .getAttr (.var .resource) "owner"]) (.var .principal))
       (.binaryApp .eq (.record [("a", .getAttr (.var .principal) "age"), ("n", .getAttr (.var .principal) "name")])
                       (.record [("a", .lit (.int 30)), ("n", .lit (.string "alice"))]))
/-- `resource.owner in [Group::"g"]` — a set literal on the right of `in` -/
def cond7 : Expr :=
  .binaryApp .mem (.getAttr (.var .resource) "owner") (.set [.lit (.entityUID Ex.grp)])
def policies : List Policy :=
  [Ex.pol.toPolicy, ⟨"p5", .permit, cond5, []⟩, ⟨"p6", .permit, cond6, []⟩, ⟨"p7", .permit, cond7, []⟩]
def tasts : List TExpr := policies.map (fun p => typedAst Ex.schema ExV.env p.condition [])
def manifest : RootAccessTrie :=
  match manifestOfEnvs Ex.schema ⟨ExV.env.principal, ExV.env.action, ExV.env.resource⟩ tasts with | .ok t => t | .error _ => []
def sliced : Entities := match sliceStore (some manifest) Ex.req ExV.store with | .ok es => es | .error _ => []
end ExL

example : isAuthorized Ex.req ExL.sliced ExL.policies = isAuthorized Ex.req ExV.store ExL.policies ∧
    (isAuthorized Ex.req ExV.store ExL.policies).reasons = ["p0", "p5", "p6", "p7"] ∧
    ExL.sliced.map (·.1) = [Ex.doc, Ex.alice] := by
  have ⟨c1, c2, c3, c4, c5, c6, c7⟩ :
      Manifest.isOkB (manifestOfEnvs Ex.schema ⟨ExV.env.principal, ExV.env.action, ExV.env.resource⟩ ExL.tasts) = true ∧
      Manifest.isOkB (sliceStore (some ExL.manifest) Ex.req ExV.store) = true ∧
      sortedReqB Ex.req = true ∧ sortedStoreB ExV.store = true ∧
      (∀ p ∈ ExL.policies, p.env = [] ∧ checkEnv .strict Ex.schema ExV.env p.condition = some .bool) ∧
      (isAuthorized Ex.req ExV.store ExL.policies).reasons = ["p0", "p5", "p6", "p7"] ∧
      ExL.sliced.map (·.1) = [Ex.doc, Ex.alice] := by
    decide +kernel
  refine ⟨?_, c6, c7⟩
  refine manifest_sound_valid_lit Ex.schema exV_schemaClosed ExV.env Ex.req ExV.store ExL.sliced ExL.policies ExL.manifest
    ExV.envMatches ⟨rfl, rfl⟩ exV_request_conforms exV_store_conforms exV_actions_present
    (sortedReqB_sound _ c3) (sortedStoreB_sound _ c4) ?_
    (eq_ok_of_check (r := manifestOfEnvs Ex.schema ⟨ExV.env.principal, ExV.env.action, ExV.env.resource⟩ ExL.tasts) c1
      fun y hy => by simp only [ExL.manifest, hy])
    (eq_ok_of_check c2 fun y hy => by simp only [ExL.sliced, hy])
  intro p hp
  obtain ⟨he, hv⟩ := c5 p hp
  refine ⟨he, ?_, .bool, hv, by decide, by decide⟩
  simp only [ExL.policies, List.mem_cons, List.not_mem_nil, or_false] at hp
  rcases hp with rfl | rfl | rfl | rfl
  · simp [TPolicy.toPolicy, Ex.pol, Ex.cond, TExpr.erase, FragL, FragOp]
  · simp [ExL.cond5, FragL, FragLKVs, FragOp]
  · simp [ExL.cond6, FragL, FragLList, FragLKVs, FragOp]
  · simp [ExL.cond7, FragL, FragLList, FragOp]

/-- The full property, for the model.  `TypedAst s rt p te` stands for "`te` is the typed AST that strict typechecking
of the static policy `p` yields in the request environment `rt`" (C03's subject) and `Conformant` for conformance of
request and store (C11's subject).  PRECISE EXCLUSIONS (each is a hypothesis below or a failure exit of the model):
  * environments in which the typechecker types the policy `False` yield no typed AST — the property FAILS for them
    (`typed_false_environment_breaks_slicing`, known finding), so every policy must come with its typed AST (`hty`);
  * templates: `slot`s are analysed as the request variable — the property FAILS (known finding); `p.env = []` and the
    condition being the erasure of a slot-free typed AST keep them out;
  * entity tags: the analysis rejects `getTag`/`hasTag` with `UnsupportedCedarFeature` (`MErr.unsupported`), so
    `manifestOfEnvs … = .ok t` excludes them;
  * partial expressions (`unknown`): `PartialExpressionError`, excluded the same way;
  * slicer failure exits (`IncompatibleEntityManifest`, `assert!`s): `sliceStore … = .ok es'` excludes them.
Everything else — record / set literals, `==` / `contains` on records, extension calls — is inside the statement; the
hypothesis `p.condition = te.erase` restricts it to typed ASTs without short-circuit transformation. -/
def FullStatement (TypedAst : Schema → ReqType → Policy → TExpr → Prop)
    (Conformant : Schema → Request → Entities → Prop) : Prop :=
  ∀ (s : Schema) (rt : ReqType) (ps : List Policy) (tps : List TExpr) (t : RootAccessTrie) (req : Request)
    (es es' : Entities),
    ps.length = tps.length →
    (∀ p te, (p, te) ∈ ps.zip tps → TypedAst s rt p te ∧ p.env = [] ∧ p.condition = te.erase) →
    req.principal.ty = rt.principal → req.action = rt.action → req.resource.ty = rt.resource →
    Conformant s req es →
    manifestOfEnvs s rt tps = .ok t →
    sliceStore (some t) req es = .ok es' →
    isAuthorized req es' ps = isAuthorized req es ps

theorem policies_of_zip : ∀ (ps : List Policy) (tps : List TExpr), ps.length = tps.length →
    (∀ p te, (p, te) ∈ ps.zip tps → p.env = [] ∧ p.condition = te.erase) →
    ∃ tpols : List TPolicy, tpols.map TPolicy.toPolicy = ps ∧ tpols.map (·.cond) = tps
  | [], [], _, _ => ⟨[], rfl, rfl⟩
  | [], _ :: _, h, _ => by simp at h
  | _ :: _, [], h, _ => by simp at h
  | p :: ps, te :: tps, hl, h => by
    obtain ⟨tpols, h1, h2⟩ := policies_of_zip ps tps (by simpa using hl)
      (fun p' te' hm => h p' te' (by simp [List.zip_cons_cons, hm]))
    obtain ⟨e1, e2⟩ := h p te (by simp [List.zip_cons_cons])
    refine ⟨⟨p.id, p.effect, te⟩ :: tpols, ?_, ?_⟩
    · simp only [List.map_cons, h1, TPolicy.toPolicy, ← e1, ← e2]
    · simp only [List.map_cons, h2]

/-- C17: THE FULL STATEMENT REDUCED TO ITS TWO REMAINING OBLIGATIONS.  `FullStatement` holds for every notion of typed
AST and of conformance such that (1) typed ASTs are in the proved fragment and carry well-formed record types, and
(2) conformant requests and stores have a context with unique keys, make the operands of the binary operators of the
typed ASTs non-records (type soundness, C03), and conform to the schema as far as the policies' tries look (C11).
`manifest_sound_valid` / `manifest_sound_valid_lit` above derive (2) from C03's and C11's theorems and go beyond `InFrag`;
they are stated directly, not as instances of `FullStatement`. -/
theorem full_statement_of_fragment (TypedAst : Schema → ReqType → Policy → TExpr → Prop)
    (Conformant : Schema → Request → Entities → Prop)
    (hfrag : ∀ s rt p te, TypedAst s rt p te → InFrag te ∧ TypesUK te)
    (hconf : ∀ s rt req es (tps : List TExpr), Conformant s req es →
      req.principal.ty = rt.principal → req.action = rt.action → req.resource.ty = rt.resource →
      (∀ te, te ∈ tps → ∃ p, TypedAst s rt p te) →
      CtxWF req ∧ (∀ te, te ∈ tps → SafeOps req es te) ∧
        (∀ t0, manifestOfEnvs.go [] tps = .ok t0 → ConfRoots s rt es req t0)) :
    FullStatement TypedAst Conformant := by
  intro s rt ps tps t req es es' hlen hty hp ha hr hc hm hs
  obtain ⟨tpols, e1, e2⟩ := policies_of_zip ps tps hlen (fun p te h => (hty p te h).2)
  have hall : ∀ te, te ∈ tps → ∃ p, TypedAst s rt p te := by
    intro te hte
    obtain ⟨i, hi, rfl⟩ := List.getElem_of_mem hte
    have hi' : i < ps.length := by omega
    refine ⟨ps[i], (hty ps[i] tps[i] ?_).1⟩
    have : (ps.zip tps)[i]'(by simp [List.length_zip]; omega) = (ps[i], tps[i]) := by simp
    rw [← this]
    exact List.getElem_mem _
  obtain ⟨hctx, hsafe, hcr⟩ := hconf s rt req es tps hc hp ha hr hall
  subst e1; subst e2
  refine response_sliced_static s rt req es es' tpols t hctx ?_ hm hcr hs
  intro p hpm
  have hmem : p.cond ∈ tpols.map (·.cond) := List.mem_map.2 ⟨p, hpm, rfl⟩
  obtain ⟨q, hq⟩ := hall p.cond hmem
  obtain ⟨h1, h2⟩ := hfrag s rt q p.cond hq
  exact ⟨h1, hsafe p.cond hmem, h2⟩

/-- FINDING (model-level witness; the Rust run is probe `typed-false-negated-action-in` of harness/src/c17.rs): in the
environment `(User, Action::"view", Doc)` with `view in readOnly`, the strictly valid policy
`permit(principal, action, resource) when { !(action in Action::"readOnly") }` is typed `False`, so the environment
contributes no typed AST and its trie is empty; the slice is the empty store; over it the policy is SATISFIED (the
action entity is gone, `in` is false) although it is not over the full store: `Deny` becomes `Allow`. -/
theorem typed_false_environment_breaks_slicing :
    let view : EntityUID := ⟨"Action", "view"⟩
    let ro : EntityUID := ⟨"Action", "readOnly"⟩
    let req : Request := ⟨⟨"User", "a"⟩, view, ⟨"Doc", "d"⟩, []⟩
    let es : Entities := [(view, { attrs := [], ancestors := [ro], tags := [] }), (ro, { attrs := [], ancestors := [], tags := [] })]
    let p : Policy := ⟨"p0", .permit, .unaryApp .not (.binaryApp .mem (.var .action) (.lit (.entityUID ro))), []⟩
    let s : Schema := { ets := [], acts := [] }
    manifestOfEnvs s ⟨"User", view, "Doc"⟩ [] = .ok [] ∧
    sliceStore (some []) req es = .ok [] ∧
    (isAuthorized req es [p]).decision = .deny ∧ (isAuthorized req [] [p]).decision = .allow := by
  intro view ro req es p s
  exact ⟨rfl, rfl, by decide +kernel, by decide +kernel⟩

end Cedar.C17
