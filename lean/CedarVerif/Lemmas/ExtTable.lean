import CedarVerif.Cedar.Ext
import CedarVerif.Lemmas.Data
/-
The extension functions as a table.  `callExt` dispatches on the function's name through three string matches
(`extFnArity`, `callExt1`, `callExt2`); what it does for a known name always has one shape: unpack one or two arguments of
fixed sorts (a mismatch is a `type` error), apply a partial function on the payloads (`none` is an `ext` error), pack the
result.  `ExtFn fn impl` lists the 22 names with that data, `callExt_table` says that a call which is not an `ext` error is the
call of the row of its name, and a property of every call is then a property of `ExtImpl.call` (for an arbitrary
implementation) plus, where the property depends on what the function computes, one obligation per row.  The direction from
a row to `callExt` (that `callExt` does answer as the row of a listed name says) is not stated: no proof asks for it.
-/
namespace Cedar

/-- the sorts of arguments and results of extension functions -/
inductive ExtTy where
  | string | bool | long | decimal | ipaddr | datetime | duration
deriving DecidableEq, Repr

namespace ExtTy

/-- the payload of a value of the sort -/
def Val : ExtTy → Type
  | .string => String
  | .bool => Bool
  | .ipaddr => Bool × Nat × Nat
  | .long | .decimal | .datetime | .duration => Int

def toValue : (t : ExtTy) → t.Val → Value
  | .string, s => .prim (.string s)
  | .bool, b => vbool b
  | .long, i => vint i
  | .decimal, d => .ext (.decimal d)
  | .ipaddr, (v6, a, p) => .ext (.ipaddr v6 a p)
  | .datetime, d => .ext (.datetime d)
  | .duration, d => .ext (.duration d)

def ofValue : (t : ExtTy) → Value → Result t.Val
  | .string => Value.asString
  | .bool => Value.asBool
  | .long => Value.asInt
  | .decimal => Value.asDecimal
  | .ipaddr => fun
    | .ext (.ipaddr v6 a p) => .ok (v6, a, p)
    | _ => .error .type
  | .datetime => Value.asDatetime
  | .duration => Value.asDuration

theorem ofValue_toValue : ∀ (t : ExtTy) (x : t.Val), t.ofValue (t.toValue x) = .ok x
  | .string, _ | .bool, _ | .long, _ | .decimal, _ | .ipaddr, (_, _, _) | .datetime, _ | .duration, _ => rfl

theorem ofValue_ok {t : ExtTy} {v : Value} {x : t.Val} (h : t.ofValue v = .ok x) : v = t.toValue x := by
  cases t
  all_goals
    simp only [ofValue, Value.asString, Value.asBool, Value.asInt, Value.asDecimal, Value.asDatetime, Value.asDuration] at h
    split at h
    · cases h; rfl
    · cases h

end ExtTy

/-- what an extension function does: sorts of its arguments and of its result, and a partial function on the payloads -/
inductive ExtImpl where
  | un (a r : ExtTy) (f : a.Val → Option r.Val)
  | bin (a b r : ExtTy) (f : a.Val → b.Val → Option r.Val)

namespace ExtImpl

def args : ExtImpl → List ExtTy
  | .un a _ _ => [a]
  | .bin a b _ _ => [a, b]

def ret : ExtImpl → ExtTy
  | .un _ r _ => r
  | .bin _ _ r _ => r

def call : ExtImpl → List Value → Result Value
  | .un a r f, [x] => do let x ← a.ofValue x; let v ← optToExt (f x); .ok (r.toValue v)
  | .bin a b r f, [x, y] => do let x ← a.ofValue x; let y ← b.ofValue y; let v ← optToExt (f x y); .ok (r.toValue v)
  | _, _ => .error .ext

/-- a successful call: the arguments were packed payloads of the argument sorts, the result is a packed payload that the
implementation returned on them -/
inductive Returns : ExtImpl → List Value → Value → Prop
  | un {a r f x v} : f x = some v → Returns (.un a r f) [a.toValue x] (r.toValue v)
  | bin {a b r f x y v} : f x y = some v → Returns (.bin a b r f) [a.toValue x, b.toValue y] (r.toValue v)

theorem optToExt_ok {α : Type} {o : Option α} {a : α} (h : optToExt o = .ok a) : o = some a := by
  cases o with
  | none => cases h
  | some _ => cases h; rfl

theorem call_ok : ∀ {impl : ExtImpl} {vs : List Value} {w : Value}, impl.call vs = .ok w → impl.Returns vs w
  | .un a r f, [_], w, h => by
    obtain ⟨x, hx, h⟩ := bind_ok.1 h
    obtain ⟨v, hv, h⟩ := bind_ok.1 h
    cases h
    cases ExtTy.ofValue_ok hx
    exact .un (optToExt_ok hv)
  | .bin a b r f, [_, _], w, h => by
    obtain ⟨x, hx, h⟩ := bind_ok.1 h
    obtain ⟨y, hy, h⟩ := bind_ok.1 h
    obtain ⟨v, hv, h⟩ := bind_ok.1 h
    cases h
    cases ExtTy.ofValue_ok hx
    cases ExtTy.ofValue_ok hy
    exact .bin (optToExt_ok hv)
  | .un .., [], _, h | .un .., _ :: _ :: _, _, h | .bin .., [], _, h | .bin .., [_], _, h
  | .bin .., _ :: _ :: _ :: _, _, h => by cases h

theorem call_un (a r : ExtTy) (f : a.Val → Option r.Val) (x : a.Val) :
    (ExtImpl.un a r f).call [a.toValue x] = (optToExt (f x)).map r.toValue := by
  simp only [call, ExtTy.ofValue_toValue, bind, Except.bind]
  cases f x <;> rfl

theorem call_bin (a b r : ExtTy) (f : a.Val → b.Val → Option r.Val) (x : a.Val) (y : b.Val) :
    (ExtImpl.bin a b r f).call [a.toValue x, b.toValue y] = (optToExt (f x y)).map r.toValue := by
  simp only [call, ExtTy.ofValue_toValue, bind, Except.bind]
  cases f x y <;> rfl

end ExtImpl

def Ext.ipTriple : Ext → Option (Bool × Nat × Nat)
  | .ipaddr v6 a p => some (v6, a, p)
  | _ => none

open Ext in
/-- the table of extension functions (`Extensions::all_available()` with the default features) -/
inductive ExtFn : String → ExtImpl → Prop
  | decimal : ExtFn "decimal" (.un .string .decimal Decimal.parse)
  | ip : ExtFn "ip" (.un .string .ipaddr fun s => (IPAddr.parse s).bind Ext.ipTriple)
  | datetime : ExtFn "datetime" (.un .string .datetime Datetime.parse)
  | duration : ExtFn "duration" (.un .string .duration Duration.parse)
  | isIpv4 : ExtFn "isIpv4" (.un .ipaddr .bool fun x => some (!x.1))
  | isIpv6 : ExtFn "isIpv6" (.un .ipaddr .bool fun x => some x.1)
  | isLoopback : ExtFn "isLoopback" (.un .ipaddr .bool fun x => some (IPAddr.isLoopback x.1 x.2.1 x.2.2))
  | isMulticast : ExtFn "isMulticast" (.un .ipaddr .bool fun x => some (IPAddr.isMulticast x.1 x.2.1 x.2.2))
  | toDate : ExtFn "toDate" (.un .datetime .datetime Datetime.toDate)
  | toTime : ExtFn "toTime" (.un .datetime .duration fun d => some (Datetime.toTime d))
  | toMilliseconds : ExtFn "toMilliseconds" (.un .duration .long fun (d : Int) => some d)
  | toSeconds : ExtFn "toSeconds" (.un .duration .long fun d => some (Int.tdiv d 1000))
  | toMinutes : ExtFn "toMinutes" (.un .duration .long fun d => some (Int.tdiv (Int.tdiv d 1000) 60))
  | toHours : ExtFn "toHours" (.un .duration .long fun d => some (Int.tdiv (Int.tdiv (Int.tdiv d 1000) 60) 60))
  | toDays : ExtFn "toDays" (.un .duration .long fun d => some (Int.tdiv (Int.tdiv (Int.tdiv (Int.tdiv d 1000) 60) 60) 24))
  | lessThan : ExtFn "lessThan" (.bin .decimal .decimal .bool fun (x y : Int) => some (decide (x < y)))
  | lessThanOrEqual : ExtFn "lessThanOrEqual" (.bin .decimal .decimal .bool fun (x y : Int) => some (decide (x ≤ y)))
  | greaterThan : ExtFn "greaterThan" (.bin .decimal .decimal .bool fun (x y : Int) => some (decide (x > y)))
  | greaterThanOrEqual : ExtFn "greaterThanOrEqual" (.bin .decimal .decimal .bool fun (x y : Int) => some (decide (x ≥ y)))
  | isInRange : ExtFn "isInRange" (.bin .ipaddr .ipaddr .bool fun x y =>
      some (IPAddr.isInRange x.1 x.2.1 x.2.2 y.1 y.2.1 y.2.2))
  | offset : ExtFn "offset" (.bin .datetime .duration .datetime Datetime.offset)
  | durationSince : ExtFn "durationSince" (.bin .datetime .datetime .duration Datetime.durationSince)

theorem Ext.IPAddr.parse_ipaddr {s : String} {x : Ext} (h : Ext.IPAddr.parse s = some x) : ∃ v6 a p, x = .ipaddr v6 a p := by
  unfold Ext.IPAddr.parse at h
  simp only at h
  repeat' split at h
  all_goals first
    | (cases h; done)
    | (cases h; exact ⟨_, _, _, rfl⟩)

theorem ipRow_eq (a : Value) :
    (do let s ← a.asString; let v ← optToExt (Ext.IPAddr.parse s); .ok (.ext v) : Result Value) =
      (ExtImpl.un .string .ipaddr fun s => (Ext.IPAddr.parse s).bind Ext.ipTriple).call [a] := by
  simp only [ExtImpl.call, ExtTy.ofValue]
  refine bind_congr fun s => ?_
  cases h : Ext.IPAddr.parse s with
  | none => rfl
  | some x => obtain ⟨v6, ad, p, rfl⟩ := Ext.IPAddr.parse_ipaddr h; rfl

theorem ipPred_eq {k : Bool → Nat → Nat → Bool} (a : Value) :
    (match a with | .ext (.ipaddr v6 ad p) => .ok (vbool (k v6 ad p)) | _ => .error .type : Result Value) =
      (ExtImpl.un .ipaddr .bool fun x => some (k x.1 x.2.1 x.2.2)).call [a] := by
  cases a with
  | ext x => cases x <;> rfl
  | _ => rfl

theorem callExt1_table (fn : String) (a : Value) :
    callExt1 fn a = .error .ext ∨ ∃ impl, ExtFn fn impl ∧ callExt1 fn a = impl.call [a] := by
  unfold callExt1
  split
  · exact .inr ⟨_, .decimal, rfl⟩
  · exact .inr ⟨_, .ip, ipRow_eq a⟩
  · exact .inr ⟨_, .datetime, rfl⟩
  · exact .inr ⟨_, .duration, rfl⟩
  · exact .inr ⟨_, .isIpv4, ipPred_eq (k := fun v6 _ _ => !v6) a⟩
  · exact .inr ⟨_, .isIpv6, ipPred_eq (k := fun v6 _ _ => v6) a⟩
  · exact .inr ⟨_, .isLoopback, ipPred_eq (k := Ext.IPAddr.isLoopback) a⟩
  · exact .inr ⟨_, .isMulticast, ipPred_eq (k := Ext.IPAddr.isMulticast) a⟩
  · exact .inr ⟨_, .toDate, rfl⟩
  · exact .inr ⟨_, .toTime, rfl⟩
  · exact .inr ⟨_, .toMilliseconds, rfl⟩
  · exact .inr ⟨_, .toSeconds, rfl⟩
  · exact .inr ⟨_, .toMinutes, rfl⟩
  · exact .inr ⟨_, .toHours, rfl⟩
  · exact .inr ⟨_, .toDays, rfl⟩
  · exact .inl rfl

theorem callExt2_table (fn : String) (a b : Value) :
    callExt2 fn a b = .error .ext ∨ ∃ impl, ExtFn fn impl ∧ callExt2 fn a b = impl.call [a, b] := by
  unfold callExt2
  split
  · exact .inr ⟨_, .lessThan, rfl⟩
  · exact .inr ⟨_, .lessThanOrEqual, rfl⟩
  · exact .inr ⟨_, .greaterThan, rfl⟩
  · exact .inr ⟨_, .greaterThanOrEqual, rfl⟩
  · refine .inr ⟨_, .isInRange, ?_⟩
    cases a with
    | ext x =>
      cases x with
      | ipaddr =>
        cases b with
        | ext y => cases y <;> rfl
        | _ => rfl
      | _ => rfl
    | _ => rfl
  · exact .inr ⟨_, .offset, rfl⟩
  · exact .inr ⟨_, .durationSince, rfl⟩
  · exact .inl rfl

/-- a call fails with an `ext` error (among others: unknown name, wrong number of arguments) or is the call of the row of
that name -/
theorem callExt_table (fn : String) (args : List Value) :
    callExt fn args = .error .ext ∨ ∃ impl, ExtFn fn impl ∧ callExt fn args = impl.call args := by
  unfold callExt
  split
  · exact .inl rfl
  · split
    · exact .inl rfl
    · split
      · exact callExt1_table fn _
      · exact callExt2_table fn _ _
      · exact .inl rfl

theorem callExt_ok {fn : String} {args : List Value} {w : Value} (h : callExt fn args = .ok w) :
    ∃ impl, ExtFn fn impl ∧ impl.Returns args w := by
  rcases callExt_table fn args with e | ⟨impl, hfn, e⟩
  · rw [e] at h; cases h
  · exact ⟨impl, hfn, ExtImpl.call_ok (e ▸ h)⟩

end Cedar
