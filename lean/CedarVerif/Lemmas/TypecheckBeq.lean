import CedarVerif.Cedar.Validation.Typecheck
/- `Expr.beq` (the model of `ExprShapeOnly` equality) returns `true` exactly on equal expressions; `Capability.beq` only on
equal capabilities. -/
namespace Cedar

mutual
theorem Expr.beq_eq : ∀ (a b : Expr), Expr.beq a b = true → a = b
  | .lit p, b, h => by
    cases b <;> simp only [Expr.beq, Bool.false_eq_true] at h
    simp only [beq_iff_eq] at h; rw [h]
  | .var p, b, h => by
    cases b <;> simp only [Expr.beq, Bool.false_eq_true] at h
    simp only [beq_iff_eq] at h; rw [h]
  | .slot p, b, h => by
    cases b <;> simp only [Expr.beq, Bool.false_eq_true] at h
    simp only [beq_iff_eq] at h; rw [h]
  | .unknown n t, b, h => by
    cases b <;> simp only [Expr.beq, Bool.false_eq_true] at h
    simp only [Bool.and_eq_true, beq_iff_eq] at h; rw [h.1, h.2]
  | .ite a1 a2 a3, b, h => by
    cases b <;> simp only [Expr.beq, Bool.false_eq_true] at h
    rename_i b1 b2 b3
    simp only [Bool.and_eq_true] at h
    rw [Expr.beq_eq a1 b1 h.1.1, Expr.beq_eq a2 b2 h.1.2, Expr.beq_eq a3 b3 h.2]
  | .and a1 a2, b, h | .or a1 a2, b, h => by
    cases b <;> simp only [Expr.beq, Bool.false_eq_true] at h
    rename_i b1 b2
    simp only [Bool.and_eq_true] at h
    rw [Expr.beq_eq a1 b1 h.1, Expr.beq_eq a2 b2 h.2]
  | .unaryApp o a1, b, h => by
    cases b <;> simp only [Expr.beq, Bool.false_eq_true] at h
    rename_i o' b1
    simp only [Bool.and_eq_true, beq_iff_eq] at h
    rw [h.1, Expr.beq_eq a1 b1 h.2]
  | .binaryApp o a1 a2, b, h => by
    cases b <;> simp only [Expr.beq, Bool.false_eq_true] at h
    rename_i o' b1 b2
    simp only [Bool.and_eq_true, beq_iff_eq] at h
    rw [h.1.1, Expr.beq_eq a1 b1 h.1.2, Expr.beq_eq a2 b2 h.2]
  | .call f as, b, h => by
    cases b <;> simp only [Expr.beq, Bool.false_eq_true] at h
    rename_i f' bs
    simp only [Bool.and_eq_true, beq_iff_eq] at h
    rw [h.1, Expr.beqList_eq as bs h.2]
  | .getAttr a1 k, b, h | .hasAttr a1 k, b, h => by
    cases b <;> simp only [Expr.beq, Bool.false_eq_true] at h
    rename_i b1 k'
    simp only [Bool.and_eq_true, beq_iff_eq] at h
    rw [h.2, Expr.beq_eq a1 b1 h.1]
  | .like a1 k, b, h => by
    cases b <;> simp only [Expr.beq, Bool.false_eq_true] at h
    rename_i b1 k'
    simp only [Bool.and_eq_true, beq_iff_eq] at h
    rw [h.2, Expr.beq_eq a1 b1 h.1]
  | .is a1 k, b, h => by
    cases b <;> simp only [Expr.beq, Bool.false_eq_true] at h
    rename_i b1 k'
    simp only [Bool.and_eq_true, beq_iff_eq] at h
    rw [h.2, Expr.beq_eq a1 b1 h.1]
  | .set as, b, h => by
    cases b <;> simp only [Expr.beq, Bool.false_eq_true] at h
    rename_i bs
    rw [Expr.beqList_eq as bs h]
  | .record as, b, h => by
    cases b <;> simp only [Expr.beq, Bool.false_eq_true] at h
    rename_i bs
    rw [Expr.beqKVs_eq as bs h]
theorem Expr.beqList_eq : ∀ (as bs : List Expr), Expr.beqList as bs = true → as = bs
  | [], bs, h => by cases bs <;> simp only [Expr.beqList, Bool.false_eq_true] at h; rfl
  | a :: as, bs, h => by
    cases bs <;> simp only [Expr.beqList, Bool.false_eq_true] at h
    rename_i b bs
    simp only [Bool.and_eq_true] at h
    rw [Expr.beq_eq a b h.1, Expr.beqList_eq as bs h.2]
theorem Expr.beqKVs_eq : ∀ (as bs : List (String × Expr)), Expr.beqKVs as bs = true → as = bs
  | [], bs, h => by cases bs <;> simp only [Expr.beqKVs, Bool.false_eq_true] at h; rfl
  | (k, a) :: as, bs, h => by
    cases bs <;> simp only [Expr.beqKVs, Bool.false_eq_true] at h
    rename_i kb bs
    obtain ⟨k', b⟩ := kb
    simp only [Expr.beqKVs, Bool.and_eq_true, beq_iff_eq] at h
    rw [h.1.1, Expr.beq_eq a b h.1.2, Expr.beqKVs_eq as bs h.2]
end

mutual
theorem Expr.beq_refl : ∀ (a : Expr), Expr.beq a a = true
  | .lit _ | .var _ | .slot _ | .unknown _ _ => by
    unfold Expr.beq
    simp only [beq_self_eq_true, Bool.and_self]
  | .ite a b c => by
    unfold Expr.beq
    simp only [Expr.beq_refl a, Expr.beq_refl b, Expr.beq_refl c, Bool.and_self]
  | .and a b | .or a b | .binaryApp _ a b => by
    unfold Expr.beq
    simp only [Expr.beq_refl a, Expr.beq_refl b, beq_self_eq_true, Bool.and_self]
  | .unaryApp _ a | .getAttr a _ | .hasAttr a _ | .like a _ | .is a _ => by
    unfold Expr.beq
    simp only [Expr.beq_refl a, beq_self_eq_true, Bool.and_self]
  | .call _ xs | .set xs => by
    unfold Expr.beq
    simp only [Expr.beqList_refl xs, beq_self_eq_true, Bool.and_self]
  | .record kvs => by
    unfold Expr.beq
    exact Expr.beqKVs_refl kvs
termination_by structural a => a
theorem Expr.beqList_refl : ∀ (as : List Expr), Expr.beqList as as = true
  | [] => rfl
  | x :: xs => by
    unfold Expr.beqList
    simp only [Expr.beq_refl x, Expr.beqList_refl xs, Bool.and_self]
termination_by structural as => as
theorem Expr.beqKVs_refl : ∀ (as : List (String × Expr)), Expr.beqKVs as as = true
  | [] => rfl
  | (k, x) :: xs => by
    unfold Expr.beqKVs
    simp only [Expr.beq_refl x, Expr.beqKVs_refl xs, beq_self_eq_true, Bool.and_self]
termination_by structural as => as
end

theorem Capability.beq_eq {a b : Capability} (h : Capability.beq a b = true) : a = b := by
  obtain ⟨ao, ak, akd⟩ := a
  obtain ⟨bo, bk, bkd⟩ := b
  simp only [Capability.beq, Bool.and_eq_true, beq_iff_eq] at h
  rw [h.1.1, Expr.beq_eq _ _ h.1.2, Expr.beq_eq _ _ h.2]

end Cedar
