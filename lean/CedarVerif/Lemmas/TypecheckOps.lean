import CedarVerif.Lemmas.TypecheckBasic
import CedarVerif.Lemmas.TypecheckLub
/-
C03: soundness of `<`/`<=`, the set operators, set literals and record literals; `ListGood` / `KVsGood`: what the elements of a
typed list evaluate to, pointwise.
-/
namespace Cedar.C03

open Cedar

theorem inst_ext {v : Value} {n : String} (h : InstanceOfType v (.ext n)) : ∃ x, v = .ext x ∧ x.typeName = n := by
  cases h; exact ⟨_, rfl, rfl⟩

theorem inst_decimal {v : Value} (h : InstanceOfType v (.ext "decimal")) : ∃ d, v = .ext (.decimal d) := by
  obtain ⟨x, rfl, hx⟩ := inst_ext h
  cases x <;> simp [Ext.typeName] at hx
  exact ⟨_, rfl⟩

theorem inst_ipaddr {v : Value} (h : InstanceOfType v (.ext "ipaddr")) : ∃ v6 a p, v = .ext (.ipaddr v6 a p) := by
  obtain ⟨x, rfl, hx⟩ := inst_ext h
  cases x <;> simp [Ext.typeName] at hx
  exact ⟨_, _, _, rfl⟩

theorem inst_datetime {v : Value} (h : InstanceOfType v (.ext "datetime")) : ∃ d, v = .ext (.datetime d) := by
  obtain ⟨x, rfl, hx⟩ := inst_ext h
  cases x <;> simp [Ext.typeName] at hx
  exact ⟨_, rfl⟩

theorem inst_duration {v : Value} (h : InstanceOfType v (.ext "duration")) : ∃ d, v = .ext (.duration d) := by
  obtain ⟨x, rfl, hx⟩ := inst_ext h
  cases x <;> simp [Ext.typeName] at hx
  exact ⟨_, rfl⟩

theorem inst_set {v : Value} {e : Option CedarType} (h : InstanceOfType v (.set e)) : ∃ vs, v = .set vs := by
  cases h <;> exact ⟨_, rfl⟩

theorem inst_set_mem {vs : List Value} {t : CedarType} (h : InstanceOfType (.set vs) (.set (some t))) :
    ∀ v, v ∈ vs → InstanceOfType v t := by
  cases h with
  | set _ _ hall => exact hall

theorem _root_.Cedar.TySound.set_cases {w : World} {e : Expr} {τ : CedarType} {c : Capabilities} (h : TySound w e τ c)
    (hτ : τ = .never ∨ ∃ el, τ = .set el) :
    (∃ err, w.eval e = .error err ∧ Permitted err) ∨ ∃ vs, w.eval e = .ok (.set vs) ∧ InstanceOfType (.set vs) τ := by
  rcases h with he | ⟨v, hv, hi, _⟩
  · exact Or.inl he
  · rcases hτ with rfl | ⟨el, rfl⟩
    · exact (inst_never hi).elim
    · obtain ⟨vs, rfl⟩ := inst_set hi
      exact Or.inr ⟨vs, hv, hi⟩

theorem beq_long {t : CedarType} (h : CedarType.beq .long t = true) : t = .long := by
  cases t <;> simp [CedarType.beq] at h; rfl

theorem beq_ext {n : String} {t : CedarType} (h : CedarType.beq (.ext n) t = true) : t = .ext n := by
  cases t <;> simp [CedarType.beq] at h; rw [h]

theorem isComparable_cases {t : CedarType} (h : isComparable t = true) :
    t = .long ∨ t = .ext "datetime" ∨ t = .ext "duration" := by
  cases t <;> simp only [isComparable, Bool.false_eq_true, Bool.or_eq_true, beq_iff_eq] at h
  · exact Or.inl rfl
  · exact Or.inr (h.imp (congrArg _) (congrArg _))

theorem cmpType_ok {τa τb : CedarType} {x : CedarType × Capabilities} (h : cmpType τa τb = .ok x) :
    x = (boolT, []) ∧ (τa = .never ∨ isComparable τa = true) ∧ (τb = .never ∨ isComparable τb = true) ∧
      (τa = .never ∨ τb = .never ∨ τb = τa) := by
  unfold cmpType at h
  split at h
  · cases h
  · split at h
    · rename_i hc; cases h; exact ⟨rfl, .inl rfl, .inr hc, .inl rfl⟩
    · cases h
  · split at h
    · rename_i hc; cases h; exact ⟨rfl, .inr hc, .inl rfl, .inr (.inl rfl)⟩
    · cases h
  · split at h
    · rename_i hc
      cases h
      simp only [Bool.and_eq_true] at hc
      have e : τb = τa := by
        rcases isComparable_cases hc.2 with rfl | rfl | rfl
        · exact beq_long hc.1
        · exact beq_ext hc.1
        · exact beq_ext hc.1
      exact ⟨rfl, .inr hc.2, .inr (e ▸ hc.2), .inr (.inr e)⟩
    · cases h

theorem cmpType_inv {τa τb τ : CedarType} {c : Capabilities} (h : cmpType τa τb = .ok (τ, c))
    (ha : τa ≠ .never) (hb : τb ≠ .never) :
    τ = boolT ∧ c = [] ∧ ((τa = .long ∧ τb = .long) ∨ (τa = .ext "datetime" ∧ τb = .ext "datetime") ∨
      (τa = .ext "duration" ∧ τb = .ext "duration")) := by
  obtain ⟨hx, hca, -, he⟩ := cmpType_ok h
  cases hx
  obtain rfl : τb = τa := (he.resolve_left ha).resolve_left hb
  exact ⟨rfl, rfl, (isComparable_cases (hca.resolve_left ha)).imp (fun e => ⟨e, e⟩) (Or.imp (fun e => ⟨e, e⟩) (fun e => ⟨e, e⟩))⟩

theorem cmp_good {w : World} {op : BinaryOp} {a b : Expr} {τa τb τ : CedarType} {ca cb c' : Capabilities}
    (hop : op = .less ∨ op = .lessEq) (sa : TySound w a τa ca) (sb : TySound w b τb cb)
    (hna : τa ≠ .never) (hnb : τb ≠ .never) (h : cmpType τa τb = .ok (τ, c')) :
    Good w (.binaryApp op a b) τ c' := by
  obtain ⟨rfl, rfl, hshape⟩ := cmpType_inv h hna hnb
  rcases sa with ⟨err, he, hp⟩ | ⟨v1, hv1, hi1, _⟩
  · exact Good.err (by simp [evaluate, he]) hp
  · rcases sb with ⟨err, he, hp⟩ | ⟨v2, hv2, hi2, _⟩
    · exact Good.err (by simp [evaluate, hv1, he]) hp
    · rcases hshape with ⟨rfl, rfl⟩ | ⟨rfl, rfl⟩ | ⟨rfl, rfl⟩
      · cases hi1; cases hi2
        rcases hop with rfl | rfl <;>
          exact Good.value (by simp only [World.eval, evaluate, hv1, hv2, applyBinary, applyCmp]; rfl) (.anyBool _)
      · obtain ⟨x1, rfl⟩ := inst_datetime hi1
        obtain ⟨x2, rfl⟩ := inst_datetime hi2
        rcases hop with rfl | rfl <;>
          exact Good.value (by simp only [World.eval, evaluate, hv1, hv2, applyBinary, applyCmp]; rfl) (.anyBool _)
      · obtain ⟨x1, rfl⟩ := inst_duration hi1
        obtain ⟨x2, rfl⟩ := inst_duration hi2
        rcases hop with rfl | rfl <;>
          exact Good.value (by simp only [World.eval, evaluate, hv1, hv2, applyBinary, applyCmp]; rfl) (.anyBool _)

theorem isEmpty_good {w : World} {a : Expr} {τa : CedarType} {ca : Capabilities}
    (sa : TySound w a τa ca) (hτ : τa = .never ∨ ∃ el, τa = .set el) : Good w (.unaryApp .isEmpty a) boolT [] := by
  rcases sa.set_cases hτ with ⟨err, he, hp⟩ | ⟨vs, hv, _⟩
  · exact Good.err (by simp [evaluate, he]) hp
  · exact Good.value (v := .prim (.bool vs.isEmpty))
      (by simp [evaluate, hv, applyUnary, Value.asSet, bind, Except.bind]) (.anyBool _)

theorem contains_good {w : World} {a b : Expr} {τa τb : CedarType} {ca cb : Capabilities}
    (sa : TySound w a τa ca) (hτ : τa = .never ∨ ∃ el, τa = .set el) (sb : TySound w b τb cb) :
    Good w (.binaryApp .contains a b) boolT [] := by
  rcases sa.set_cases hτ with ⟨err, he, hp⟩ | ⟨vs, hv, _⟩
  · exact Good.err (by simp [evaluate, he]) hp
  · rcases sb with ⟨err, he, hp⟩ | ⟨v2, hv2, _, _⟩
    · exact Good.err (by simp [evaluate, hv, he]) hp
    · exact Good.value (v := .prim (.bool (Value.elem v2 vs)))
        (by simp [evaluate, hv, hv2, applyBinary, Value.asSet, bind, Except.bind]) (.anyBool _)

theorem containsAll_good {w : World} {a b : Expr} {τa τb : CedarType} {ca cb : Capabilities}
    (sa : TySound w a τa ca) (hτa : τa = .never ∨ ∃ el, τa = .set el)
    (sb : TySound w b τb cb) (hτb : τb = .never ∨ ∃ el, τb = .set el) :
    Good w (.binaryApp .containsAll a b) boolT [] := by
  rcases sa.set_cases hτa with ⟨err, he, hp⟩ | ⟨vs, hv, _⟩
  · exact Good.err (by simp [evaluate, he]) hp
  · rcases sb.set_cases hτb with ⟨err, he, hp⟩ | ⟨vs2, hv2, _⟩
    · exact Good.err (by simp [evaluate, hv, he]) hp
    · exact Good.value (v := .prim (.bool (Value.subset vs2 vs)))
        (by simp [evaluate, hv, hv2, applyBinary, Value.asSet, bind, Except.bind]) (.anyBool _)

theorem containsAny_good {w : World} {a b : Expr} {τa τb : CedarType} {ca cb : Capabilities}
    (sa : TySound w a τa ca) (hτa : τa = .never ∨ ∃ el, τa = .set el)
    (sb : TySound w b τb cb) (hτb : τb = .never ∨ ∃ el, τb = .set el) :
    Good w (.binaryApp .containsAny a b) boolT [] := by
  rcases sa.set_cases hτa with ⟨err, he, hp⟩ | ⟨vs, hv, _⟩
  · exact Good.err (by simp [evaluate, he]) hp
  · rcases sb.set_cases hτb with ⟨err, he, hp⟩ | ⟨vs2, hv2, _⟩
    · exact Good.err (by simp [evaluate, hv, he]) hp
    · exact Good.value (v := .prim (.bool (vs.any (Value.elem · vs2))))
        (by simp [evaluate, hv, hv2, applyBinary, Value.asSet, bind, Except.bind]) (.anyBool _)

/-- pointwise relation of two lists (core has no `List.Forall₂`) -/
inductive Forall2 {α β : Type} (R : α → β → Prop) : List α → List β → Prop
  | nil : Forall2 R [] []
  | cons {a b l1 l2} : R a b → Forall2 R l1 l2 → Forall2 R (a :: l1) (b :: l2)

def ListGood (w : World) (es : List Expr) (τs : List CedarType) : Prop :=
  (∃ err, evaluateList w.q w.es w.sl es = .error err ∧ Permitted err) ∨
  ∃ vs, evaluateList w.q w.es w.sl es = .ok vs ∧ Forall2 InstanceOfType vs τs

def KVsGood (w : World) (kvs : List (String × Expr)) (attrs : Attrs) : Prop :=
  (∃ err, evaluateKVs w.q w.es w.sl kvs = .error err ∧ Permitted err) ∨
  ∃ vs, evaluateKVs w.q w.es w.sl kvs = .ok vs ∧
    Forall2 (fun (kv : String × Value) (a : AttrDecl) => kv.1 = a.1 ∧ a.2.1 = true ∧ InstanceOfType kv.2 a.2.2) vs attrs

theorem listGood_nil (w : World) : ListGood w [] [] := Or.inr ⟨[], by simp [evaluateList], .nil⟩

theorem listGood_cons {w : World} {e : Expr} {es : List Expr} {τ : CedarType} {τs : List CedarType} {c : Capabilities}
    (he : TySound w e τ c) (hes : ListGood w es τs) : ListGood w (e :: es) (τ :: τs) := by
  rcases he with ⟨err, he, hp⟩ | ⟨v, hv, hi, _⟩
  · exact Or.inl ⟨err, by simp only [World.eval] at he; simp [evaluateList, he], hp⟩
  · simp only [World.eval] at hv
    rcases hes with ⟨err, he, hp⟩ | ⟨vs, hvs, hall⟩
    · exact Or.inl ⟨err, by simp [evaluateList, hv, he], hp⟩
    · exact Or.inr ⟨v :: vs, by simp [evaluateList, hv, hvs], .cons hi hall⟩

theorem kvsGood_nil (w : World) : KVsGood w [] [] := Or.inr ⟨[], by simp [evaluateKVs], .nil⟩

theorem kvsGood_cons {w : World} {k : String} {e : Expr} {es : List (String × Expr)} {τ : CedarType} {attrs : Attrs} {c : Capabilities}
    (he : TySound w e τ c) (hes : KVsGood w es attrs) : KVsGood w ((k, e) :: es) ((k, true, τ) :: attrs) := by
  rcases he with ⟨err, he, hp⟩ | ⟨v, hv, hi, _⟩
  · exact Or.inl ⟨err, by simp only [World.eval] at he; simp [evaluateKVs, he], hp⟩
  · simp only [World.eval] at hv
    rcases hes with ⟨err, he, hp⟩ | ⟨vs, hvs, hall⟩
    · exact Or.inl ⟨err, by simp [evaluateKVs, hv, he], hp⟩
    · exact Or.inr ⟨(k, v) :: vs, by simp [evaluateKVs, hv, hvs], .cons ⟨rfl, rfl, hi⟩ hall⟩

theorem forall2_mem_l {α β : Type} {R : α → β → Prop} {l1 : List α} {l2 : List β} (h : Forall2 R l1 l2) :
    ∀ x, x ∈ l1 → ∃ y, y ∈ l2 ∧ R x y := by
  induction h with
  | nil => intro x hx; cases hx
  | cons hr _ ih =>
    intro x hx
    rcases List.mem_cons.mp hx with rfl | hx
    · exact ⟨_, List.mem_cons_self, hr⟩
    · obtain ⟨y, hy, hxy⟩ := ih x hx
      exact ⟨y, List.mem_cons_of_mem _ hy, hxy⟩

theorem forall2_mem_r {α β : Type} {R : α → β → Prop} {l1 : List α} {l2 : List β} (h : Forall2 R l1 l2) :
    ∀ y, y ∈ l2 → ∃ x, x ∈ l1 ∧ R x y := by
  induction h with
  | nil => intro x hx; cases hx
  | cons hr _ ih =>
    intro y hy
    rcases List.mem_cons.mp hy with rfl | hy
    · exact ⟨_, List.mem_cons_self, hr⟩
    · obtain ⟨x, hx, hxy⟩ := ih y hy
      exact ⟨x, List.mem_cons_of_mem _ hx, hxy⟩

theorem set_good_of_bound {w : World} {es : List Expr} {τs : List CedarType} {τ : CedarType} (hl : ListGood w es τs)
    (hub : ∀ t, t ∈ τs → Below t τ) : Good w (.set es) (.set (some τ)) [] := by
  rcases hl with ⟨err, he, hp⟩ | ⟨vs, hvs, hall⟩
  · exact Good.err (by simp [evaluate, he]) hp
  · refine Good.value (v := .set (Value.mkSet vs)) (by simp [evaluate, hvs]) (.set _ _ ?_)
    intro v hv
    obtain ⟨t, ht, hvt⟩ := forall2_mem_l hall v (mem_mkSet hv)
    exact hub t ht v hvt

theorem flat_mono {τ : CedarType} (hf : τ.flat = true) (hn : τ ≠ .never) : τ.mono = true := by
  cases τ <;> simp [CedarType.flat] at hf <;> first | rfl | exact (hn rfl).elim

theorem lubAll_flat_spec {m : ValidationMode} {ts : List CedarType} {τ : CedarType} (h : lubAll m ts = some τ) (hne : ts ≠ [])
    (hall : ∀ t, t ∈ ts → t.flat = true ∧ t ≠ .never) :
    (∀ t, t ∈ ts → Below t τ) ∧ τ.mono = true := by
  cases ts with
  | nil => exact (hne rfl).elim
  | cons t ts =>
    rw [lubAll_cons] at h
    -- a bound with a flat side is one of the two arguments or `Bool`, so "flat and not `Never`" is kept
    obtain ⟨⟨h3, h4⟩, h1, h2⟩ := foldl_lub_inv (I := fun t => t.flat = true ∧ t ≠ .never) (Q := fun t => t.flat = true ∧ t ≠ .never)
      (fun ha ht hl => by
        obtain ⟨hlt, hle, hshape⟩ := lub_flat hl (Or.inl ha.1)
        refine ⟨?_, hlt, hle⟩
        rcases hshape with rfl | rfl | rfl
        · exact ha
        · exact ht
        · exact ⟨rfl, nofun⟩)
      ts h (hall t List.mem_cons_self) (fun t' ht' => hall t' (List.mem_cons_of_mem _ ht'))
    exact ⟨fun t' ht' => (List.mem_cons.mp ht').elim (fun e => e ▸ h1) (h2 t'), flat_mono h3 h4⟩

theorem record_good {w : World} {kvs : List (String × Expr)} {attrs : Attrs}
    (hl : KVsGood w kvs attrs) (hn : (attrs.map (·.1)).Nodup) : Good w (.record kvs) (.record attrs false) [] := by
  rcases hl with ⟨err, he, hp⟩ | ⟨vs, hvs, hall⟩
  · exact Good.err (by simp [evaluate, he]) hp
  · refine Good.value (v := .record (vs.foldl (fun acc kv => insertKV kv.1 kv.2 acc) [])) (by simp [evaluate, hvs])
      (.record _ _ _ ?_ ?_ ?_)
    · intro k v hkv r t hf
      rcases foldl_insertKV_mem vs [] (k, v) hkv with h | h
      · cases h
      · obtain ⟨a, ha, hk, hr, hi⟩ := forall2_mem_l hall (k, v) h
        obtain ⟨k', r', t'⟩ := a
        simp only at hk hr hi
        subst hk
        rw [find_of_nodup hn ha] at hf
        cases hf
        exact hi
    · intro k v hkv hf
      rcases foldl_insertKV_mem vs [] (k, v) hkv with h | h
      · cases h
      · obtain ⟨a, ha, hk, _, _⟩ := forall2_mem_l hall (k, v) h
        simp only at hk
        rw [find_none_iff] at hf
        exact (hf (List.mem_map.mpr ⟨a, ha, hk.symm⟩)).elim
    · intro k t hm
      obtain ⟨kv, hkv, hk, _, _⟩ := forall2_mem_r hall (k, true, t) hm
      obtain ⟨k', v⟩ := kv
      simp only at hk
      subst hk
      exact foldl_insertKV_keeps vs [] k' v (Or.inr hkv)

end Cedar.C03
