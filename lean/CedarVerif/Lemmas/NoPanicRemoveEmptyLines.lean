import CedarVerif.Cedar.NoPanic.RemoveEmptyLines
import CedarVerif.Lemmas.NoPanicUtf8
/-
C20 lemmas for `Cedar/NoPanic/RemoveEmptyLines.lean`.  The regex-crate contract (`Contract`), the "never matches the empty
string" property of the two patterns (`NonEmptyMatches`), and: under the contract `index` is always the byte length of a
char-prefix of `text`, every slice of the loop is cut out by a decomposition of `text`, the pieces pushed concatenate to the
rest of the text, and each iteration consumes at least one byte.
-/
namespace Cedar
namespace NoPanic
namespace Rel
open Cedar.Ext.IPAddr (utf8Len)

/-- what `remove_empty_lines` relies on from `Regex::find_at(text, index)` for a `&str` haystack, for a search that starts
inside the text at a char boundary: the match lies at or after `index`, `start ≤ end`, and both ends are char boundaries of
`text` (hence `end ≤ text.len()`: `isBoundary_le`) -/
def Contract (text : List Char) (f : FindAt) : Prop :=
  ∀ i m, i < bytes text → isBoundary text i = true → f i = some m →
    i ≤ m.start ∧ m.start ≤ m.stop ∧ isBoundary text m.start = true ∧ isBoundary text m.stop = true

/-- the pattern cannot match the empty string (both patterns start with a literal: `//…`, `"…"`) -/
def NonEmptyMatches (text : List Char) (f : FindAt) : Prop :=
  ∀ i m, i < bytes text → isBoundary text i = true → f i = some m → m.start < m.stop

theorem isBoundary_iff (s : List Char) (a : Nat) : isBoundary s a = true ↔ ∃ pre r, s = pre ++ r ∧ a = bytes pre := by
  constructor
  · intro h
    unfold isBoundary at h
    cases hs : sliceFrom s a with
    | none => rw [hs] at h; cases h
    | some r => obtain ⟨pre, h1, h2⟩ := boundary_decomp s a r hs; exact ⟨pre, r, h1, h2⟩
  · rintro ⟨pre, r, rfl, rfl⟩
    simp [isBoundary, sliceFrom_prefix]

theorem slice_to_boundary (pre rest : List Char) (b : Nat) (hb : isBoundary (pre ++ rest) b = true) (h : bytes pre ≤ b) :
    ∃ mid post, rest = mid ++ post ∧ b = bytes (pre ++ mid) ∧ sliceRange (pre ++ rest) (bytes pre) b = some mid := by
  obtain ⟨p', r', hs', rfl⟩ := (isBoundary_iff _ _).mp hb
  obtain ⟨mid, rfl⟩ := prefix_of_le pre rest p' r' hs' h
  obtain rfl : rest = mid ++ r' := List.append_cancel_left (by rw [hs', List.append_assoc])
  exact ⟨mid, r', rfl, rfl, by rw [bytes_append, ← List.append_assoc]; exact sliceRange_decomp pre mid r'⟩

theorem isBoundary_le (s : List Char) (a : Nat) (h : isBoundary s a = true) : a ≤ bytes s := by
  obtain ⟨pre, r, rfl, rfl⟩ := (isBoundary_iff s a).mp h
  rw [bytes_append]; omega

theorem pick_some (a b : Option RMatch) (m : RMatch) (h : pick a b = some m) : a = some m ∨ b = some m := by
  cases a <;> cases b <;> simp only [pick] at h
  · cases h
  · exact Or.inr h
  · exact Or.inl h
  · split at h
    · exact Or.inl h
    · exact Or.inr h

/-- the loop invariant.  `index = bytes pre` for a decomposition `text = pre ++ rest`; under the contract the loop either
finishes with pieces that concatenate to `rest`, or runs out of fuel — and if the patterns never match the empty string the
latter needs `fuel ≤ bytes rest` -/
theorem loop_ok (text : List Char) (c s : FindAt) (hc : Contract text c) (hs : Contract text s) :
    ∀ (n : Nat) (pre rest : List Char), text = pre ++ rest →
      (∃ ps, loop text c s n (bytes pre) = .done ps ∧ flat ps = rest) ∨
      (loop text c s n (bytes pre) = .fuel ∧ (NonEmptyMatches text c → NonEmptyMatches text s → n ≤ bytes rest)) := by
  intro n
  induction n with
  | zero => intro pre rest _; exact Or.inr ⟨rfl, fun _ _ => Nat.zero_le _⟩
  | succ n ih =>
    intro pre rest ht
    subst ht
    have hbi : isBoundary (pre ++ rest) (bytes pre) = true := (isBoundary_iff _ _).mpr ⟨pre, rest, rfl, rfl⟩
    unfold loop
    by_cases hlt : bytes pre < bytes (pre ++ rest)
    · rw [if_pos hlt, if_neg (Nat.lt_asymm hlt)]
      cases hp : pick (c (bytes pre)) (s (bytes pre)) with
      | none =>
        left
        simp only [sliceFrom_prefix]
        exact ⟨_, rfl, by simp [flat, Piece.text]⟩
      | some m =>
        obtain ⟨⟨h1, h2, h3, h4⟩, hne⟩ : (bytes pre ≤ m.start ∧ m.start ≤ m.stop ∧ isBoundary (pre ++ rest) m.start = true ∧
            isBoundary (pre ++ rest) m.stop = true) ∧
            (NonEmptyMatches (pre ++ rest) c → NonEmptyMatches (pre ++ rest) s → m.start < m.stop) := by
          rcases pick_some _ _ m hp with h | h
          · exact ⟨hc _ m hlt hbi h, fun n1 _ => n1 _ m hlt hbi h⟩
          · exact ⟨hs _ m hlt hbi h, fun _ n2 => n2 _ m hlt hbi h⟩
        obtain ⟨out, r1, rfl, e1, sl1⟩ := slice_to_boundary pre rest m.start h3 h1
        obtain ⟨lit, q2, rfl, e2, sl2⟩ := slice_to_boundary (pre ++ out) r1 m.stop (by rw [List.append_assoc]; exact h4) (e1 ▸ h2)
        rw [← e1, List.append_assoc] at sl2
        simp only [sl1, sl2]
        rw [e2]
        rcases ih (pre ++ out ++ lit) q2 (by simp only [List.append_assoc]) with ⟨ps, hl, hf⟩ | ⟨hl, hf⟩
        · left
          simp only [hl]
          exact ⟨_, rfl, by simp [flat, Piece.text, hf]⟩
        · right
          simp only [hl]
          refine ⟨trivial, fun n1 n2 => ?_⟩
          -- the match `lit` is not empty, so the rest `q2` the loop goes on with is shorter than `out ++ lit ++ q2`
          have hrest : n ≤ bytes q2 := hf n1 n2
          have hlit : 0 < bytes lit := by
            have := hne n1 n2
            simp only [bytes_append] at e1 e2
            omega
          simp only [bytes_append]
          omega
    · rw [if_neg hlt]
      left
      have : rest = [] := bytes_eq_zero rest (by rw [bytes_append] at hlt; omega)
      exact ⟨[], rfl, by simp [flat, this]⟩

/-! executable forms of the two hypotheses, for concrete texts and oracles (non-vacuity examples) -/

def checkContract (text : List Char) (f : FindAt) : Bool :=
  (List.range (bytes text)).all fun i =>
    !isBoundary text i ||
      match f i with
      | none => true
      | some m => decide (i ≤ m.start) && decide (m.start ≤ m.stop) && isBoundary text m.start && isBoundary text m.stop

def checkNonEmpty (text : List Char) (f : FindAt) : Bool :=
  (List.range (bytes text)).all fun i =>
    !isBoundary text i || match f i with | none => true | some m => decide (m.start < m.stop)

theorem contract_of_check (text : List Char) (f : FindAt) (h : checkContract text f = true) : Contract text f := by
  intro i m hi hb hf
  have := List.all_eq_true.mp h i (List.mem_range.mpr hi)
  simp only [hb, hf, Bool.not_true, Bool.false_or, Bool.and_eq_true, decide_eq_true_eq] at this
  exact ⟨this.1.1.1, this.1.1.2, this.1.2, this.2⟩

theorem nonEmpty_of_check (text : List Char) (f : FindAt) (h : checkNonEmpty text f = true) : NonEmptyMatches text f := by
  intro i m hi hb hf
  have := List.all_eq_true.mp h i (List.mem_range.mpr hi)
  simpa [hb, hf] using this

end Rel
end NoPanic
end Cedar
