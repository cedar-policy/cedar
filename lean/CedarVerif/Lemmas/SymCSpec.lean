import CedarVerif.Lemmas.SymCHelpers
/-
C18: the symbolic compiler on a literal environment is determined by `evaluate` and by `ctype`.  The strict operators all go
through one schema: the node compiles to `strict (compile a) F` where it evaluates to `bindR (evaluate a) f` (`strict_spec`).
One induction over `SFrag2` proves value and outcome class together (`Spec`, `compile_spec`; `compile_rel2`, `ctype_spec` are
its halves); `compile_closed` is its closed form.
-/
namespace Cedar.SymC
-- `Cedar.Tpe` is where Lemmas/EvalArms declares the arms of `evaluate` as functions (`bindR`, `getAttrV`, `likeV`, …)
open Cedar Cedar.Tpe

/-- the shape of every strict operator of `compile` (`! - == < <= + - * . has like is`): compile the operand, apply a
    helper to its `option_get`, guard the result by `if_some` -/
def strict (R : CResult) (F : Term → CResult) : CResult :=
  match R with
  | .error e => .error e
  | .ok t1 =>
    match F (optionGet t1) with
    | .error e => .error e
    | .ok r => .ok (ifSome t1 r)

theorem strict_ok {R : CResult} {F : Term → CResult} {t : Term} (h : strict R F = .ok t) :
    ∃ t1 r0, R = .ok t1 ∧ F (optionGet t1) = .ok r0 ∧ t = ifSome t1 r0 := by
  unfold strict at h
  cases R with
  | error e => cases h
  | ok t1 =>
    cases h0 : F (optionGet t1) with
    | error e => simp only [h0] at h; cases h
    | ok r0 => simp only [h0] at h; exact ⟨t1, r0, rfl, h0, (Except.ok.inj h).symm⟩

/-- a binary operator as two nested `strict` (`compile` handles both operands in one `match`; the one-operand operators are
    `strict (compile a) F` by `rfl`) -/
theorem compile_binaryApp (env : SymEnvLit) (op : BinaryOp) (a b : Expr) :
    compile env (.binaryApp op a b) = strict (compile env a) fun x1 => strict (compile env b) (compileApp2 op x1) := by
  rw [compile]
  unfold strict
  cases compile env a with
  | error e => rfl
  | ok t1 =>
    cases compile env b with
    | error e => rfl
    | ok t2 => cases h : compileApp2 op (optionGet t1) (optionGet t2) <;> simp only [h]

section
variable {ctx : List (String × Value)} {ctxT : Term}

theorem strict_rel {R : CResult} {F : Term → CResult} {r : Result Value} {f : Value → Result Value}
    (hR : ∀ t1, R = .ok t1 → Rel ctx ctxT r t1)
    (hF : ∀ v x r0, RelV ctx ctxT v x → F x = .ok r0 → Rel ctx ctxT (f v) r0)
    (t : Term) (h : strict R F = .ok t) : Rel ctx ctxT (bindR r f) t := by
  obtain ⟨t1, r0, h1, h0, rfl⟩ := strict_ok h
  rcases (hR t1 h1).cases with ⟨v, x, hv, rfl, hx⟩ | ⟨e, ty, he, rfl⟩
  · rw [optionGet_some] at h0
    have hr := hF v x r0 hx h0
    obtain ⟨ty, hty⟩ := hr.typeOf
    rw [ifSome_some_opt hty, hv]
    exact hr
  · rw [ifSome_none, he]
    exact ⟨_, rfl⟩

end

theorem strict_ty {ctx : List (String × Value)} {ctxT : Term} {r : Result Value} {R : CResult} {F : Term → CResult}
    {G : TermType → Except CErr TermType} (hR : ∀ t1, R = .ok t1 → Rel ctx ctxT r t1)
    (hF : ∀ t1, R = .ok t1 → resTy (F (optionGet t1)) = G (optionGet t1).typeOf) :
    resTy (strict R F) =
      match resTy R with
      | .error e => .error e
      | .ok ta => tyMap optTy (G (getOpt ta)) := by
  unfold strict
  cases R with
  | error e => rfl
  | ok t1 =>
    have hsh := (hR t1 rfl).opnd.1
    have hG := hF t1 rfl
    rw [optionGet_typeOf] at hG
    simp only [resTy]
    rw [← hG]
    cases F (optionGet t1) with
    | error e => rfl
    | ok r0 => simp only [resTy, tyMap, ifSome_typeOf hsh]

section
variable (req : Request) (es : Entities) (senv : SlotEnv) (etys : List (EntityType × Option (List String))) (ctxT : Term)

def Spec (e : Expr) : Prop :=
  resTy (compile (litEnv2 req etys ctxT) e) = ctype req es senv (litEnv2 req etys ctxT) e ∧
  ∀ t, compile (litEnv2 req etys ctxT) e = .ok t → Rel req.context ctxT (evaluate req es senv e) t

theorem strict_spec {a node : Expr} {F : Term → CResult} {G : TermType → Except CErr TermType} {f : Value → Result Value}
    (ih : Spec req es senv etys ctxT a)
    (hc : compile (litEnv2 req etys ctxT) node = strict (compile (litEnv2 req etys ctxT) a) F)
    (ht : ctype req es senv (litEnv2 req etys ctxT) node =
      match ctype req es senv (litEnv2 req etys ctxT) a with
      | .error e => .error e
      | .ok ta => tyMap optTy (G (getOpt ta)))
    (he : evaluate req es senv node = bindR (evaluate req es senv a) f)
    (hF : ∀ v x r0, RelV req.context ctxT v x → F x = .ok r0 → Rel req.context ctxT (f v) r0)
    (hG : ∀ t1, compile (litEnv2 req etys ctxT) a = .ok t1 → resTy (F (optionGet t1)) = G (optionGet t1).typeOf) :
    Spec req es senv etys ctxT node := by
  unfold Spec
  rw [hc, ht, ← ih.1, he]
  exact ⟨strict_ty ih.2 hG, strict_rel ih.2 hF⟩

theorem unary_spec {op : UnaryOp} (hop : op ≠ .isEmpty) {a : Expr} (ih : Spec req es senv etys ctxT a) :
    Spec req es senv etys ctxT (.unaryApp op a) :=
  strict_spec req es senv etys ctxT (F := compileApp1 op) ih rfl rfl (evaluate_unary req es senv op a)
    (fun _ _ _ hv h0 => compileApp1_rel hv h0) fun t1 h1 => compileApp1_ty op hop (ih.2 t1 h1).opnd.2.1

theorem binary_spec {op : BinaryOp} (hop : op ≠ .contains ∧ op ≠ .containsAll ∧ op ≠ .containsAny) {a b : Expr}
    (iha : Spec req es senv etys ctxT a) (ihb : Spec req es senv etys ctxT b) :
    Spec req es senv etys ctxT (.binaryApp op a b) := by
  refine ⟨?_, ?_⟩
  · rw [compile_binaryApp]
    simp only [ctype]
    rw [← iha.1, ← ihb.1]
    unfold strict
    cases h1 : compile (litEnv2 req etys ctxT) a with
    | error e => rfl
    | ok t1 =>
      cases h2 : compile (litEnv2 req etys ctxT) b with
      | error e => rfl
      | ok t2 =>
        obtain ⟨hsh1, hs1, _, _⟩ := (iha.2 t1 h1).opnd
        obtain ⟨hsh2, hs2, _, _⟩ := (ihb.2 t2 h2).opnd
        simp only [resTy]
        rw [← optionGet_typeOf, ← optionGet_typeOf, ← compileApp2_ty op hop hs1 hs2]
        cases compileApp2 op (optionGet t1) (optionGet t2) with
        | error e => rfl
        | ok r => simp only [resTy, tyMap, ifSome_typeOf hsh1, ifSome_typeOf hsh2, optTy_idem]
  · rw [compile_binaryApp, evaluate_binary]
    exact strict_rel iha.2 fun v1 x1 r1 hv1 =>
      strict_rel ihb.2 (fun v2 x2 r0 hv2 h0 => compileApp2_rel es hv1 hv2 h0) r1

theorem rel_lit {ctx : List (String × Value)} {ctxT : Term} {p : Prim} (hp : PrimOk p) {R : CResult}
    {r : Result Value} (hR : R = .ok (.some (.prim (litPrim p))) := by rfl) (hr : r = .ok (.prim p) := by rfl) :
    ∀ t, R = .ok t → Rel ctx ctxT r t := by
  intro t hc
  rw [hR] at hc
  obtain rfl := Except.ok.inj hc
  rw [hr]
  exact Rel.prim hp

/-- the folded term of an evaluation result, at the term type `ctype` gives -/
def foldOf (ctxT : Term) (r : Result Value) (ty : TermType) : Term :=
  match r with
  | .ok (.prim p) => .some (.prim (litPrim p))
  | .ok _ => .some ctxT
  | .error _ => .none (getOpt ty)

variable (hctx : ctxT.typeOf.isRecordType = true → CtxOK req.context ctxT)
include hctx

theorem compile_spec {e : Expr} (hf : SFrag2 e) : Spec req es senv etys ctxT e := by
  induction hf with
  | litBool b => exact ⟨rfl, rel_lit (p := .bool b) trivial⟩
  | litInt i h => exact ⟨rfl, rel_lit (p := .int i) h⟩
  | litString s => exact ⟨rfl, rel_lit (p := .string s) trivial⟩
  | litEntity uid =>
    unfold Spec
    simp only [compile, compilePrim, ctype]
    split
    · exact ⟨rfl, rel_lit (p := .entityUID uid) trivial⟩
    · exact ⟨rfl, fun t h => nomatch h⟩
  | principal => exact ⟨rfl, rel_lit (p := .entityUID req.principal) trivial⟩
  | action => exact ⟨rfl, rel_lit (p := .entityUID req.action) trivial⟩
  | resource => exact ⟨rfl, rel_lit (p := .entityUID req.resource) trivial⟩
  | context =>
    unfold Spec
    simp only [compile, compileVar, ctype, litEnv2]
    by_cases hr : ctxT.typeOf.isRecordType = true
    · simp only [hr, if_true]
      exact ⟨rfl, fun t hc => Except.ok.inj hc ▸ Or.inr ⟨rfl, rfl, hctx hr⟩⟩
    · simp only [hr]
      exact ⟨rfl, fun t hc => nomatch hc⟩
  | @ite c x y _ _ _ ihc ihx ihy =>
    unfold Spec
    simp only [compile, ctype]
    rw [← ihc.1, ← ihx.1, ← ihy.1]
    cases h1 : compile (litEnv2 req etys ctxT) c with
    | error e => exact ⟨rfl, fun t h => nomatch h⟩
    | ok t1 =>
      dsimp only [resTy]
      rcases (ihc.2 t1 h1).guard with ⟨g, hev, rfl⟩ | ⟨e, hev, rfl⟩ | ⟨hnb, hty⟩
      · rw [hev]
        cases g
        · exact ⟨rfl, fun t hc => by simpa only [evaluate, hev, Value.asBool] using ihy.2 t hc⟩
        · exact ⟨rfl, fun t hc => by simpa only [evaluate, hev, Value.asBool] using ihx.2 t hc⟩
      · rw [compileIf_none, hev]
        have hev' : evaluate req es senv (.ite c x y) = .error e := by simp only [evaluate, hev]
        rw [hev']
        cases compile (litEnv2 req etys ctxT) x with
        | error e => exact ⟨rfl, fun t h => nomatch h⟩
        | ok t2 =>
          cases compile (litEnv2 req etys ctxT) y with
          | error e => exact ⟨rfl, fun t h => nomatch h⟩
          | ok t3 =>
            by_cases heq : t2.typeOf = t3.typeOf
            · simp only [if_pos heq, guardConst, Term.typeOf, optTy_getOpt]
              exact ⟨(if_pos trivial).symm, fun t h => ⟨_, (Except.ok.inj h).symm⟩⟩
            · simp only [if_neg heq, guardConst]
              exact ⟨(if_pos rfl).symm, fun t h => nomatch h⟩
      · rw [(compileCond_nonbool hty _ _).1, guardConst_none hnb]
        exact ⟨by simp only [if_neg hty], fun t h => nomatch h⟩
  | @and a b _ _ iha ihb =>
    unfold Spec
    simp only [compile, ctype]
    rw [← iha.1, ← ihb.1]
    cases h1 : compile (litEnv2 req etys ctxT) a with
    | error e => exact ⟨rfl, fun t h => nomatch h⟩
    | ok t1 =>
      dsimp only [resTy]
      rcases (iha.2 t1 h1).guard with ⟨g, hev, rfl⟩ | ⟨e, hev, rfl⟩ | ⟨hnb, hty⟩
      · rw [hev]
        cases g
        · refine ⟨rfl, rel_lit (p := .bool false) trivial rfl ?_⟩
          simp only [evaluate, hev, Value.asBool]
        · rw [compileAnd_true]
          refine ⟨boolOperand_ty fun _ h => h, fun t h => ?_⟩
          obtain ⟨t2, h2, hty, rfl⟩ := boolOperand_ok h
          rcases (ihb.2 t h2).bool hty with ⟨q, hevb, rfl⟩ | ⟨e, hevb, rfl⟩
          · simp only [evaluate, hev, hevb, Value.asBool]
            exact Rel.prim (p := .bool q) trivial
          · simp only [evaluate, hev, hevb, Value.asBool]
            exact ⟨_, rfl⟩
      · rw [compileAnd_none, hev]
        refine ⟨boolOperand_ty fun _ _ => rfl, fun t h => ?_⟩
        obtain ⟨_, _, _, rfl⟩ := boolOperand_ok h
        simp only [evaluate, hev]
        exact ⟨_, rfl⟩
      · rw [(compileCond_nonbool hty _ (.error .typeError)).2.1, guardConst_none hnb]
        exact ⟨by simp only [if_neg hty], fun t h => nomatch h⟩
  | @or a b _ _ iha ihb =>
    unfold Spec
    simp only [compile, ctype]
    rw [← iha.1, ← ihb.1]
    cases h1 : compile (litEnv2 req etys ctxT) a with
    | error e => exact ⟨rfl, fun t h => nomatch h⟩
    | ok t1 =>
      dsimp only [resTy]
      rcases (iha.2 t1 h1).guard with ⟨g, hev, rfl⟩ | ⟨e, hev, rfl⟩ | ⟨hnb, hty⟩
      · rw [hev]
        cases g
        · rw [compileOr_false]
          refine ⟨boolOperand_ty fun _ h => h, fun t h => ?_⟩
          obtain ⟨t2, h2, hty, rfl⟩ := boolOperand_ok h
          rcases (ihb.2 t h2).bool hty with ⟨q, hevb, rfl⟩ | ⟨e, hevb, rfl⟩
          · simp only [evaluate, hev, hevb, Value.asBool]
            exact Rel.prim (p := .bool q) trivial
          · simp only [evaluate, hev, hevb, Value.asBool]
            exact ⟨_, rfl⟩
        · refine ⟨rfl, rel_lit (p := .bool true) trivial rfl ?_⟩
          simp only [evaluate, hev, Value.asBool]
      · rw [compileOr_none, hev]
        refine ⟨boolOperand_ty fun _ _ => rfl, fun t h => ?_⟩
        obtain ⟨_, _, _, rfl⟩ := boolOperand_ok h
        simp only [evaluate, hev]
        exact ⟨_, rfl⟩
      · rw [(compileCond_nonbool hty _ (.error .typeError)).2.2, guardConst_none hnb]
        exact ⟨by simp only [if_neg hty], fun t h => nomatch h⟩
  | not _ ih => exact unary_spec req es senv etys ctxT (by decide) ih
  | neg _ ih => exact unary_spec req es senv etys ctxT (by decide) ih
  | eq _ _ iha ihb => exact binary_spec req es senv etys ctxT (by decide) iha ihb
  | less _ _ iha ihb => exact binary_spec req es senv etys ctxT (by decide) iha ihb
  | lessEq _ _ iha ihb => exact binary_spec req es senv etys ctxT (by decide) iha ihb
  | add _ _ iha ihb => exact binary_spec req es senv etys ctxT (by decide) iha ihb
  | sub _ _ iha ihb => exact binary_spec req es senv etys ctxT (by decide) iha ihb
  | mul _ _ iha ihb => exact binary_spec req es senv etys ctxT (by decide) iha ihb
  | @getAttr a attr _ ih =>
    exact strict_spec req es senv etys ctxT (F := (compileGetAttr · attr)) (G := (ctGetAttr · attr)) ih rfl rfl
      (evaluate_getAttr req es senv a attr) (fun _ _ _ => compileGetAttr_rel es attr) fun t1 _ => compileGetAttr_ty attr
  | @hasAttr a attr _ ih =>
    exact strict_spec req es senv etys ctxT (F := (compileHasAttr · attr)) (G := ctHasAttr) ih rfl rfl
      (evaluate_hasAttr req es senv a attr) (fun _ _ _ => compileHasAttr_rel es attr) fun t1 h1 =>
        compileHasAttr_ty (ih.2 t1 h1).opnd.2.1 (ih.2 t1 h1).opnd.2.2.1 (ih.2 t1 h1).opnd.2.2.2 attr
  | @like a p _ ih =>
    exact strict_spec req es senv etys ctxT (F := (compileLike · p)) ih rfl rfl
      (evaluate_like req es senv a p) (fun _ _ _ => compileLike_rel p) fun t1 _ => compileLike_ty _ p
  | @is a ety _ ih =>
    exact strict_spec req es senv etys ctxT (F := (compileIs · ety)) ih rfl rfl
      (evaluate_is req es senv a ety) (fun _ _ _ => compileIs_rel ety) fun t1 _ => compileIs_ty _ ety

theorem compile_rel2 {e : Expr} (hf : SFrag2 e) :
    ∀ t, compile (litEnv2 req etys ctxT) e = .ok t → Rel req.context ctxT (evaluate req es senv e) t :=
  (compile_spec req es senv etys ctxT hctx hf).2

theorem ctype_spec {e : Expr} (hf : SFrag2 e) :
    resTy (compile (litEnv2 req etys ctxT) e) = ctype req es senv (litEnv2 req etys ctxT) e :=
  (compile_spec req es senv etys ctxT hctx hf).1

theorem compile_closed {e : Expr} (hf : SFrag2 e) :
    compile (litEnv2 req etys ctxT) e =
      match ctype req es senv (litEnv2 req etys ctxT) e with
      | .error c => .error c
      | .ok ty => .ok (foldOf ctxT (evaluate req es senv e) ty) := by
  obtain ⟨hty, hrel⟩ := compile_spec req es senv etys ctxT hctx hf
  cases hc : compile (litEnv2 req etys ctxT) e with
  | error c => rw [hc] at hty; rw [← hty]; rfl
  | ok t =>
    rw [hc] at hty
    rw [← hty]
    rcases (hrel t hc).cases with ⟨v, x, hev, rfl, ⟨p, rfl, _, rfl⟩ | ⟨rfl, rfl, _⟩⟩ | ⟨err, ty, hev, rfl⟩ <;> rw [hev] <;> rfl

end

end Cedar.SymC
