import CedarVerif.Lemmas.TpeArmOut
import CedarVerif.Lemmas.TpeBridge
/- C15 helpers: PROGRESS and BOUNDEDNESS of `interpret`, both read off `ArmOut` (what an arm answers) by induction over the
   operands of a node: under a concrete request and a fully known store a `Partial` result mentions an id that is not loaded;
   the ids of the result are ids of the input, of the request, or of attribute / tag values of the loaded entities. -/
namespace Cedar.Batched
open Cedar Cedar.Tpe

def FullyKnown (pes : Tpe.PEntities) : Prop :=
  ∀ u p, pes.find? u = some p → p.attrs.isSome = true ∧ p.ancestors.isSome = true ∧ p.tags.isSome = true

def Unloaded (pes : Tpe.PEntities) (r : Residual) : Prop := ∃ u, u ∈ r.uids ∧ pes.contains u = false

variable {preq : Tpe.PRequest} {pes : Tpe.PEntities} {ops : List Residual} {N : RKind → Prop} {ty : Ty}

theorem component_none {α : Type} {u : EntityUID} {f : PEntity → Option α}
    (hf : ∀ p, pes.find? u = some p → (f p).isSome = true) (h : (pes.find? u).bind f = none) : pes.contains u = false := by
  unfold Tpe.PEntities.contains
  cases hp : pes.find? u with
  | none => rfl
  | some p =>
    have := hf p hp
    rw [hp] at h
    rw [show f p = none from h] at this
    cases this

theorem _root_.Cedar.Tpe.ArmOut.unloaded (hreq : ConcreteReq preq) (hK : FullyKnown pes) {res : Residual} (h : ArmOut preq pes ops N ty res)
    (ih : ∀ o, o ∈ ops → o.isPartial = true → Unloaded pes o) : res.isPartial = true → Unloaded pes res := by
  intro hp
  cases h with
  | operand ho => exact ih _ ho hp
  | error => cases hp
  | value _ => cases hp
  | openVar hn => exact absurd hreq hn
  | rebuilt _ _ ho hst hk =>
    rcases hst with hpo | ⟨u, t, rfl, hnone⟩
    · obtain ⟨u, hu, hc⟩ := ih _ ho hpo
      exact ⟨u, hk u hu, hc⟩
    · refine ⟨u, hk u (by simp [Residual.uids, valueUids]), ?_⟩
      rcases hnone with h | h | h
      · exact component_none (fun p hp => (hK u p hp).1) h
      · exact component_none (fun p hp => (hK u p hp).2.1) h
      · exact component_none (fun p hp => (hK u p hp).2.2) h

def ValIn (U : List EntityUID) (v : Value) : Prop := ∀ u, u ∈ valueUids v → u ∈ U
def KVsIn (U : List EntityUID) (kvs : List (String × Value)) : Prop := ∀ u, u ∈ valueUidsKVs kvs → u ∈ U
def UidsIn (U : List EntityUID) (r : Residual) : Prop := ∀ u, u ∈ r.uids → u ∈ U

theorem valIn_of_noUids {U : List EntityUID} {v : Value} (h : valueUids v = []) : ValIn U v := by
  intro u hu; rw [h] at hu; cases hu

theorem mem_of_uidsList {rs : List Residual} {u : EntityUID} (h : u ∈ Residual.uidsList rs) : ∃ r, r ∈ rs ∧ u ∈ r.uids := by
  induction rs with
  | nil => cases h
  | cons a l ih =>
    simp only [Residual.uidsList, List.mem_append] at h
    rcases h with h | h
    · exact ⟨a, by simp, h⟩
    · obtain ⟨r, hr, hu⟩ := ih h; exact ⟨r, by simp [hr], hu⟩

theorem mem_of_uidsKVs {rs : List (String × Residual)} {u : EntityUID} (h : u ∈ Residual.uidsKVs rs) :
    ∃ kv, kv ∈ rs ∧ u ∈ kv.2.uids := by
  induction rs with
  | nil => cases h
  | cons a l ih =>
    obtain ⟨k, r⟩ := a
    simp only [Residual.uidsKVs, List.mem_append] at h
    rcases h with h | h
    · exact ⟨(k, r), by simp, h⟩
    · obtain ⟨kv, hr, hu⟩ := ih h; exact ⟨kv, by simp [hr], hu⟩

theorem uidsList_in {U : List EntityUID} {rs : List Residual} (h : ∀ r, r ∈ rs → UidsIn U r) :
    ∀ u, u ∈ Residual.uidsList rs → u ∈ U := fun u hu =>
  let ⟨r, hr, hur⟩ := mem_of_uidsList hu
  h r hr u hur

def StoreIn (U : List EntityUID) (pes : Tpe.PEntities) : Prop :=
  ∀ u p, pes.find? u = some p → (∀ a, p.attrs = some a → KVsIn U a) ∧ (∀ t, p.tags = some t → KVsIn U t)

def ReqIn (U : List EntityUID) (preq : Tpe.PRequest) : Prop :=
  (∀ u, preq.principal.uid? = some u → u ∈ U) ∧ preq.action ∈ U ∧ (∀ u, preq.resource.uid? = some u → u ∈ U) ∧
  (∀ c, preq.context = some c → KVsIn U c)

variable {U : List EntityUID}

theorem uidsIn_nil {r : Residual} (h : r.uids = []) : UidsIn U r := by
  intro u hu; rw [h] at hu; cases hu

theorem attrs_in (hS : StoreIn U pes) {u : EntityUID} {a : List (String × Value)} (h : pes.attrs? u = some a) : KVsIn U a := by
  unfold Tpe.PEntities.attrs? at h
  cases hp : pes.find? u with
  | none => simp [hp] at h
  | some p => rw [hp] at h; exact (hS u p hp).1 a h

theorem tags_in (hS : StoreIn U pes) {u : EntityUID} {a : List (String × Value)} (h : pes.tags? u = some a) : KVsIn U a := by
  unfold Tpe.PEntities.tags? at h
  cases hp : pes.find? u with
  | none => simp [hp] at h
  | some p => rw [hp] at h; exact (hS u p hp).2 a h

theorem reqIn_uid {U : List EntityUID} (hR : ReqIn U preq) {u : EntityUID} (h : ReqUid preq u) : u ∈ U := by
  obtain ⟨h1, h2, h3, h4⟩ := hR
  rcases h with h | rfl | h | ⟨c, hc, hu⟩
  · exact h1 u h
  · exact h2
  · exact h3 u h
  · exact h4 c hc u hu

theorem _root_.Cedar.Tpe.ArmOut.uidsIn {U : List EntityUID} (hS : StoreIn U pes) (hR : ReqIn U preq) {res : Residual}
    (h : ArmOut preq pes ops N ty res) (ih : ∀ o, o ∈ ops → UidsIn U o) : UidsIn U res := by
  cases h with
  | operand ho => exact ih _ ho
  | error => exact uidsIn_nil rfl
  | value hw =>
    intro u hu
    rcases hw u hu with h | ⟨x, kvs, hx, hm⟩ | h
    · exact uidsList_in ih u h
    · exact hx.elim (fun hx => attrs_in hS hx u hm) (fun hx => tags_in hS hx u hm)
    · exact reqIn_uid hR h
  | openVar _ => exact uidsIn_nil rfl
  | rebuilt _ hsub _ _ _ => exact fun u hu => uidsList_in ih u (hsub u hu)

theorem mem_uids_of_child {k : RKind} {c : Residual} (hc : c ∈ k.children) {u : EntityUID} (hu : u ∈ c.uids) : u ∈ k.uids :=
  (k.uids_children u).mpr (mem_uidsList hc hu)

theorem interpret_partial_unloaded (hreq : ConcreteReq preq) (hK : FullyKnown pes) (r : Residual) :
    (interpret preq pes r).isPartial = true → Unloaded pes (interpret preq pes r) := by
  induction r using Residual.induct_children with
  | concrete v ty => intro h; simp [interpret, Residual.isPartial] at h
  | error ty => intro h; simp [interpret, Residual.isPartial] at h
  | part k ty ih =>
    rw [interpret]
    refine (interpretKind_out ty k).unloaded hreq hK fun o ho => ?_
    obtain ⟨c, hc, rfl⟩ := List.mem_map.mp ho
    exact ih c hc

theorem interpret_uidsIn {U : List EntityUID} (hS : StoreIn U pes) (hR : ReqIn U preq) (r : Residual) :
    UidsIn U r → UidsIn U (interpret preq pes r) := by
  induction r using Residual.induct_children with
  | concrete v ty => intro h; rw [interpret]; exact h
  | error ty => intro h; rw [interpret]; exact h
  | part k ty ih =>
    intro h
    rw [interpret]
    refine (interpretKind_out ty k).uidsIn hS hR fun o ho => ?_
    obtain ⟨c, hc, rfl⟩ := List.mem_map.mp ho
    exact ih c hc fun u hu => h u (mem_uids_of_child hc hu)

end Cedar.Batched
