import CedarVerif.Lemmas.LHM
import CedarVerif.Lemmas.PolicySetSubst
/-
The representation invariant `PolicySet.WF` of the core policy set and its
preservation by `add_static`, `add_template`, `link`, `unlink`, `remove_static`, `remove_template`.
Every successful operation is one or two edits of a single key: of `links` together with the link set of the template
concerned (`WF.setLink`), or of `templates` for a template without links (`WF.setTemplate`); the invariant is carried
across these two edits once, and each operation only has to say which edits it makes.
-/
namespace Cedar
open LHM

/-- The representation invariant of `ast::PolicySet` (the comments on its three fields, made precise).
All clauses are stated through `get?` (map semantics); the `Nodup` clauses say the lists are maps. -/
structure PolicySet.WF (ps : PolicySet) : Prop where
  tNodup : ps.templates.keys.Nodup
  lNodup : ps.links.keys.Nodup
  mNodup : ps.t2l.keys.Nodup
  tKey : ∀ k t, ps.templates.get? k = some t → t.id = k
  lKey : ∀ k p, ps.links.get? k = some p → p.id = k
  mKeys : ∀ k, (ps.t2l.get? k).isSome = (ps.templates.get? k).isSome
  lTemplate : ∀ k p, ps.links.get? k = some p → ps.templates.get? p.template.id = some p.template
  mExact : ∀ tid s, ps.t2l.get? tid = some s →
    ∀ id, id ∈ s ↔ ∃ p, ps.links.get? id = some p ∧ p.template.id = tid
  /-- an id is shared by `templates` and `links` only as the two halves of a static policy -/
  shared : ∀ k p, ps.links.get? k = some p → (ps.templates.get? k).isSome = true → p.link = none
  /-- a template-linked policy is never linked to the body of a static policy -/
  staticOne : ∀ k p, ps.links.get? k = some p → p.link ≠ none → ps.links.get? p.template.id = none
  bound : ∀ k p, ps.links.get? k = some p → p.template.checkBinding p.values = true

theorem PolicySet.wf_empty : PolicySet.WF {} := by
  constructor <;> simp [LHM.keys]

theorem TPolicy.id_static (t : Template) (v : SlotVals) : (TPolicy.mk t none v).id = t.id := rfl
theorem TPolicy.id_link (t : Template) (l : String) (v : SlotVals) : (TPolicy.mk t (some l) v).id = l := rfl

theorem checkBinding_static (b : TemplateBody) : Template.checkBinding { body := b, slots := [] } {} = true := by
  simp [Template.checkBinding, SlotVals.keys]

theorem forall_edit {α : Type} {f g : String → Option α} {id : String} {new : Option α}
    (h : ∀ k, g k = if k = id then new else f k) (P : String → Option α → Prop)
    (hP : ∀ k, P k (f k)) (hn : P id new) (k : String) : P k (g k) := by
  rw [h]
  by_cases hk : k = id
  · rw [if_pos hk, hk]; exact hn
  · rw [if_neg hk]; exact hP k

def PolicySet.linked (ps : PolicySet) (t x : String) : Prop := ∃ s, ps.t2l.get? t = some s ∧ x ∈ s

namespace PolicySet.WF

variable {ps ps' : PolicySet}

theorem noLinkTo (wf : ps.WF) {id : String} (h : ps.templates.get? id = none) (k : String) (q : TPolicy)
    (hq : ps.links.get? k = some q) : q.template.id ≠ id := by
  intro e
  have := wf.lTemplate k q hq
  rw [e, h] at this
  cases this

theorem static_template_id (wf : ps.WF) {k : String} {p : TPolicy} (hp : ps.links.get? k = some p)
    (hs : p.link = none) : p.template.id = k := by
  have := wf.lKey k p hp
  unfold TPolicy.id at this
  rw [hs] at this
  exact this

/-- the link sets as a relation: it is the graph of "the template of the policy stored under `x`" -/
theorem linked_iff (wf : ps.WF) (t x : String) :
    ps.linked t x ↔ ∃ p, ps.links.get? x = some p ∧ p.template.id = t := by
  constructor
  · rintro ⟨s, hs, hx⟩
    exact (wf.mExact t s hs x).mp hx
  · rintro ⟨p, hp, rfl⟩
    obtain ⟨s, hs⟩ := Option.isSome_iff_exists.mp ((wf.mKeys _).trans (by rw [wf.lTemplate x p hp]; rfl))
    exact ⟨s, hs, (wf.mExact _ s hs x).mpr ⟨p, hp, rfl⟩⟩

theorem mExact_of_linked (h : ∀ t x, ps.linked t x ↔ ∃ p, ps.links.get? x = some p ∧ p.template.id = t)
    (t : String) (s : List String) (hs : ps.t2l.get? t = some s) (x : String) :
    x ∈ s ↔ ∃ p, ps.links.get? x = some p ∧ p.template.id = t := by
  refine ⟨fun hx => (h t x).mp ⟨s, hs, hx⟩, fun hp => ?_⟩
  obtain ⟨s', hs', hx⟩ := (h t x).mpr hp
  exact Option.some.inj (hs'.symm.trans hs) ▸ hx

/-- `links` is edited at `id`: a link `new` is stored where there was none, or the link stored there is dropped
(`new = none`); `id` enters or leaves the link set of its template `tid` accordingly. -/
theorem setLink (wf : ps.WF) (id tid : String) (new : Option TPolicy)
    (hT : ps'.templates = ps.templates)
    (hL : ∀ k, ps'.links.get? k = if k = id then new else ps.links.get? k)
    (hM : ∀ k, ps'.t2l.get? k =
      if k = tid then (ps.t2l.get? tid).map (fun s => if new.isSome then lhsInsert s id else lhsRemove s id)
      else ps.t2l.get? k)
    (lnd : ps'.links.keys.Nodup) (mnd : ps'.t2l.keys.Nodup)
    (hold : ∀ p, ps.links.get? id = some p → p.template.id = tid)
    (hnew : ∀ p, new = some p → p.id = id ∧ p.template.id = tid ∧ ps.templates.get? tid = some p.template ∧
      ((ps.templates.get? id).isSome = true → p.link = none) ∧ (p.link ≠ none → ps.links.get? tid = none) ∧
      p.template.checkBinding p.values = true ∧
      ∀ k q, ps.links.get? k = some q → q.link ≠ none → q.template.id ≠ id) : ps'.WF := by
  obtain ⟨T', L', M'⟩ := ps'
  have hT : T' = ps.templates := hT
  subst hT
  have ed := forall_edit hL
  refine ⟨wf.tNodup, lnd, mnd, wf.tKey,
    ed (fun k o => ∀ p, o = some p → p.id = k) wf.lKey fun p e => (hnew p e).1,
    forall_edit hM (fun k o => o.isSome = (ps.templates.get? k).isSome) wf.mKeys (by rw [Option.isSome_map]; exact wf.mKeys tid),
    ed (fun _ o => ∀ p, o = some p → ps.templates.get? p.template.id = some p.template) wf.lTemplate
      fun p e => (hnew p e).2.1 ▸ (hnew p e).2.2.1,
    mExact_of_linked fun t x => ?_,
    ed (fun k o => ∀ p, o = some p → (ps.templates.get? k).isSome = true → p.link = none) wf.shared fun p e => (hnew p e).2.2.2.1,
    ed (fun _ o => ∀ p, o = some p → p.link ≠ none → L'.get? p.template.id = none) ?_ ?_,
    ed (fun _ o => ∀ p, o = some p → p.template.checkBinding p.values = true) wf.bound fun p e => (hnew p e).2.2.2.2.2.1⟩
  · show (∃ s', LHM.get? M' t = some s' ∧ x ∈ s') ↔ ∃ p, LHM.get? L' x = some p ∧ p.template.id = t
    rw [hM, hL]
    by_cases hx : x = id
    · rw [if_pos hx]
      by_cases ht : t = tid
      · rw [if_pos ht, hx, ht]
        cases new with
        | none =>
          refine ⟨fun ⟨s', hs', hm⟩ => ?_, fun ⟨_, e, _⟩ => (nomatch e)⟩
          obtain ⟨s, _, rfl⟩ := Option.map_eq_some_iff.mp hs'
          exact absurd rfl ((mem_lhsRemove _ _ _).mp hm).2
        | some p =>
          obtain ⟨_, hpt, hst, _⟩ := hnew p rfl
          obtain ⟨s, hs⟩ := Option.isSome_iff_exists.mp ((wf.mKeys tid).trans (by rw [hst]; rfl))
          exact ⟨fun _ => ⟨p, rfl, hpt⟩, fun _ => ⟨_, by rw [hs]; rfl, (mem_lhsInsert _ _ _).mpr (Or.inr rfl)⟩⟩
      · rw [if_neg ht, hx]
        refine (wf.linked_iff t id).trans ⟨fun ⟨p, hp, hpt⟩ => ?_, fun ⟨p, hp, hpt⟩ => ?_⟩
        · exact absurd (hpt.symm.trans (hold p hp)) ht
        · exact absurd (hpt.symm.trans (hnew p hp).2.1) ht
    · rw [if_neg hx]
      refine Iff.trans ?_ (wf.linked_iff t x)
      by_cases ht : t = tid
      · rw [if_pos ht, ht]
        unfold PolicySet.linked
        cases ps.t2l.get? tid with
        | none => exact ⟨fun ⟨_, e, _⟩ => (nomatch e), fun ⟨_, e, _⟩ => (nomatch e)⟩
        | some s =>
          have : x ∈ (if new.isSome then lhsInsert s id else lhsRemove s id) ↔ x ∈ s := by
            cases new with
            | none => exact (mem_lhsRemove _ _ _).trans ⟨And.left, fun h => ⟨h, hx⟩⟩
            | some _ => exact (mem_lhsInsert _ _ _).trans ⟨fun h => h.resolve_right hx, Or.inl⟩
          constructor
          · rintro ⟨_, e, h⟩
            cases e
            exact ⟨s, rfl, this.mp h⟩
          · rintro ⟨_, e, h⟩
            cases e
            exact ⟨_, rfl, this.mpr h⟩
      · rw [if_neg ht]; exact Iff.rfl
  · intro k p hp hne
    rw [hL]
    by_cases h : p.template.id = id
    · rw [if_pos h]
      cases hn : new with
      | none => rfl
      | some p0 => exact absurd h ((hnew p0 hn).2.2.2.2.2.2 k p hp hne)
    · rw [if_neg h]; exact wf.staticOne k p hp hne
  · intro p hn hne
    obtain ⟨_, ht, hst, hsh, hso, _⟩ := hnew p hn
    have : p.template.id ≠ id := by
      intro e
      rw [ht] at e
      rw [e] at hst
      exact hne (hsh (by rw [hst]; rfl))
    rw [hL, if_neg this, ht]; exact hso hne

/-- `templates` is edited at `id`, the id of no link's template: a template is stored (with an empty link set) where
there was neither a template nor a link, or the template stored there is dropped. -/
theorem setTemplate (wf : ps.WF) (id : String) (new : Option Template)
    (hT : ∀ k, ps'.templates.get? k = if k = id then new else ps.templates.get? k)
    (hL : ps'.links = ps.links)
    (hM : ∀ k, ps'.t2l.get? k = if k = id then new.map (fun _ => []) else ps.t2l.get? k)
    (tnd : ps'.templates.keys.Nodup) (mnd : ps'.t2l.keys.Nodup)
    (hno : ∀ k q, ps.links.get? k = some q → q.template.id ≠ id)
    (hnew : ∀ t, new = some t → t.id = id ∧ ps.links.get? id = none) : ps'.WF := by
  obtain ⟨T', L', M'⟩ := ps'
  have hL : L' = ps.links := hL
  subst hL
  refine ⟨tnd, wf.lNodup, mnd,
    forall_edit hT (fun k o => ∀ t, o = some t → t.id = k) wf.tKey fun t e => (hnew t e).1,
    wf.lKey, ?_, ?_, mExact_of_linked fun t x => ?_, ?_, wf.staticOne, wf.bound⟩
  · intro k
    rw [hT, hM]
    by_cases hk : k = id
    · rw [if_pos hk, if_pos hk, Option.isSome_map]
    · rw [if_neg hk, if_neg hk]; exact wf.mKeys k
  · intro k p hp
    rw [hT, if_neg (hno k p hp)]; exact wf.lTemplate k p hp
  · show (∃ s, LHM.get? M' t = some s ∧ x ∈ s) ↔ _
    rw [hM]
    by_cases ht : t = id
    · rw [if_pos ht]
      refine ⟨fun ⟨s, hs, hx⟩ => ?_, fun ⟨p, hp, hpt⟩ => absurd (hpt.trans ht) (hno x p hp)⟩
      obtain ⟨_, _, rfl⟩ := Option.map_eq_some_iff.mp hs
      exact nomatch hx
    · rw [if_neg ht]; exact wf.linked_iff t x
  · refine forall_edit hT (fun k o => ∀ p, ps.links.get? k = some p → o.isSome = true → p.link = none) wf.shared ?_
    intro p hp hk
    obtain ⟨t, e⟩ := Option.isSome_iff_exists.mp hk
    rw [(hnew t e).2] at hp
    cases hp

end PolicySet.WF

theorem PolicySet.addTemplate_ok (ps : PolicySet) (t : Template) (h : (ps.addTemplate t).err = none) :
    ps.templates.get? t.id = none ∧ ps.links.get? t.id = none ∧
    (ps.addTemplate t).ps = { ps with templates := ps.templates ++ [(t.id, t)], t2l := ps.t2l.insert t.id [] } := by
  unfold PolicySet.addTemplate at h ⊢
  by_cases h2 : ps.links.contains t.id = true
  · rw [if_pos h2] at h; cases h
  · by_cases h1 : ps.templates.contains t.id = true
    · rw [if_neg h2, if_pos h1] at h; cases h
    · rw [if_neg h2, if_neg h1]
      exact ⟨get?_none_of_not_contains h1, get?_none_of_not_contains h2, rfl⟩

theorem PolicySet.addTemplate_wf (ps : PolicySet) (t : Template) (wf : ps.WF)
    (h : (ps.addTemplate t).err = none) : (ps.addTemplate t).ps.WF := by
  obtain ⟨ht, hl, heq⟩ := PolicySet.addTemplate_ok ps t h
  rw [heq]
  exact wf.setTemplate t.id (some t) (get?_snoc_absent _ _ _ ht) rfl (get?_insert _ _ _)
    (nodup_snoc _ _ _ wf.tNodup ht) (nodup_insert _ _ _ wf.mNodup) (wf.noLinkTo ht)
    (fun _ e => Option.some.inj e ▸ ⟨rfl, hl⟩)

theorem PolicySet.addStatic_ok (ps : PolicySet) (b : TemplateBody)
    (h : (ps.addStatic b).err = none) :
    ps.templates.get? b.id = none ∧ ps.links.get? b.id = none ∧
    (ps.addStatic b).ps = { templates := ps.templates ++ [(b.id, { body := b, slots := [] })],
                            links := ps.links ++ [(b.id, { template := { body := b, slots := [] }, link := none, values := {} })],
                            t2l := ps.t2l.insert b.id [b.id] } := by
  unfold PolicySet.addStatic linkStaticPolicy at h ⊢
  simp only [Template.id] at h ⊢
  by_cases h1 : ps.templates.contains b.id = true
  · simp only [h1, if_true] at h; cases h
  · by_cases h2 : ps.links.contains b.id = true
    · simp only [h1, h2, if_true] at h; cases h
    · simp only [h1, h2]
      exact ⟨get?_none_of_not_contains h1, get?_none_of_not_contains h2, rfl⟩

/-- `add_static b` stores the template `b` and then the link `b.id` to it -/
theorem PolicySet.addStatic_wf (ps : PolicySet) (b : TemplateBody) (wf : ps.WF)
    (h : (ps.addStatic b).err = none) : (ps.addStatic b).ps.WF := by
  obtain ⟨ht, hl, heq⟩ := PolicySet.addStatic_ok ps b h
  rw [heq]
  have wf1 : PolicySet.WF { ps with templates := ps.templates ++ [(b.id, { body := b, slots := [] })],
                                    t2l := ps.t2l.insert b.id [] } :=
    wf.setTemplate b.id (some { body := b, slots := [] }) (get?_snoc_absent _ _ _ ht) rfl (get?_insert _ _ _)
      (nodup_snoc _ _ _ wf.tNodup ht) (nodup_insert _ _ _ wf.mNodup) (wf.noLinkTo ht)
      (fun _ e => Option.some.inj e ▸ ⟨rfl, hl⟩)
  refine wf1.setLink b.id b.id (some { template := { body := b, slots := [] }, link := none, values := {} })
    rfl (get?_snoc_absent _ _ _ hl) ?_ (nodup_snoc _ _ _ wf.lNodup hl) (nodup_insert _ _ _ wf.mNodup) ?_ ?_
  · intro k
    simp only [get?_insert, ↓reduceIte, Option.map_some]
    by_cases hk : k = b.id
    · rw [if_pos hk, if_pos hk]; rfl
    · rw [if_neg hk, if_neg hk, if_neg hk]
  · intro p hp
    rw [show LHM.get? ps.links b.id = none from hl] at hp
    cases hp
  · intro p e
    cases e
    refine ⟨rfl, rfl, ?_, fun _ => rfl, fun hne => absurd rfl hne, checkBinding_static b, fun k q hq _ => wf.noLinkTo ht k q hq⟩
    rw [get?_snoc_absent _ _ _ ht, if_pos rfl]

theorem PolicySet.link_ok (ps : PolicySet) (tid newId : String) (vals : SlotVals)
    (h : (ps.link tid newId vals).err = none) :
    ∃ t, ps.templates.get? tid = some t ∧ t.checkBinding vals = true ∧
      ps.links.get? newId = none ∧ ps.templates.get? newId = none ∧
      (ps.link tid newId vals).ps =
        { ps with links := ps.links ++ [(newId, { template := t, link := some newId, values := vals })],
                  t2l := if ps.t2l.contains tid then ps.t2l.modify tid (fun s => lhsInsert s newId)
                         else ps.t2l ++ [(tid, [newId])] } := by
  unfold PolicySet.link Template.link at h ⊢
  cases ht : ps.templates.get? tid with
  | none => rw [ht] at h; cases h
  | some t =>
    rw [ht] at h
    by_cases hb : t.checkBinding vals = true
    · by_cases h2 : ps.links.contains newId = true
      · simp only [hb, h2, if_true] at h; cases h
      · by_cases h1 : ps.templates.contains newId = true
        · simp only [hb, h1, h2, if_true] at h; cases h
        · simp only [hb, h1, h2, if_true]
          exact ⟨t, rfl, hb, get?_none_of_not_contains h2, get?_none_of_not_contains h1, rfl⟩
    · simp only [hb] at h; cases h

/-- `link` preserves the invariant provided the template is not the body of a static policy
(the public API layer checks exactly this before calling the core `link`). -/
theorem PolicySet.link_wf (ps : PolicySet) (tid newId : String) (vals : SlotVals) (wf : ps.WF)
    (hns : ps.links.get? tid = none)
    (h : (ps.link tid newId vals).err = none) : (ps.link tid newId vals).ps.WF := by
  obtain ⟨t, ht, hb, hl, hnt, heq⟩ := PolicySet.link_ok ps tid newId vals h
  have hmc : ps.t2l.contains tid = true := by rw [contains_eq, wf.mKeys tid, ht]; rfl
  rw [heq, if_pos hmc]
  refine wf.setLink newId tid (some { template := t, link := some newId, values := vals }) rfl
    (get?_snoc_absent _ _ _ hl) (get?_modify ps.t2l tid (fun s => lhsInsert s newId)) (nodup_snoc _ _ _ wf.lNodup hl)
    (nodup_modify ps.t2l tid (fun s => lhsInsert s newId) wf.mNodup) ?_ ?_
  · intro p hp
    rw [hl] at hp
    cases hp
  · intro p e
    cases e
    exact ⟨rfl, wf.tKey tid t ht, ht, fun hs => (by rw [hnt] at hs; cases hs), fun _ => hns, hb,
      fun k q hq _ => wf.noLinkTo hnt k q hq⟩

theorem PolicySet.unlink_ok (ps : PolicySet) (id : String) (h : (ps.unlink id).err = none) :
    ps.templates.get? id = none ∧ ∃ p, ps.links.get? id = some p ∧
      (ps.unlink id).ps = { ps with links := ps.links.erase id,
                                    t2l := ps.t2l.modify p.template.id (fun s => lhsRemove s id) } := by
  unfold PolicySet.unlink at h ⊢
  by_cases h1 : ps.templates.contains id = true
  · rw [if_pos h1] at h; cases h
  · rw [if_neg h1] at h ⊢
    refine ⟨get?_none_of_not_contains h1, ?_⟩
    cases hp : ps.links.get? id with
    | none => rw [hp] at h; cases h
    | some p =>
      rw [hp] at h
      by_cases hm : ps.t2l.contains p.template.id = true
      · simp only [hm, if_true]; exact ⟨p, rfl, rfl⟩
      · simp only [hm] at h; cases h

theorem PolicySet.unlink_wf (ps : PolicySet) (id : String) (wf : ps.WF)
    (h : (ps.unlink id).err = none) : (ps.unlink id).ps.WF := by
  obtain ⟨_, p, hp, heq⟩ := PolicySet.unlink_ok ps id h
  rw [heq]
  exact wf.setLink id p.template.id none rfl (get?_erase _ _) (get?_modify ps.t2l _ (fun s => lhsRemove s id)) (nodup_erase _ _ wf.lNodup)
    (nodup_modify ps.t2l p.template.id (fun s => lhsRemove s id) wf.mNodup) (fun q hq => by rw [hp] at hq; cases hq; rfl) (fun _ e => nomatch e)

theorem PolicySet.removeStatic_ok (ps : PolicySet) (id : String) (h : (ps.removeStatic id).err = none) :
    (ps.templates.get? id).isSome = true ∧ ∃ p, ps.links.get? id = some p ∧
      (ps.removeStatic id).ps =
        { templates := ps.templates.erase id, links := ps.links.erase id, t2l := ps.t2l.erase id } := by
  unfold PolicySet.removeStatic at h ⊢
  cases hp : ps.links.get? id with
  | none => rw [hp] at h; cases h
  | some p =>
    cases ht : ps.templates.get? id with
    | none => rw [hp, ht] at h; cases h
    | some t => exact ⟨rfl, p, rfl, rfl⟩

/-- `remove_static id` drops the link `id` and then the template `id`, to which no other link points -/
theorem PolicySet.removeStatic_wf (ps : PolicySet) (id : String) (wf : ps.WF)
    (h : (ps.removeStatic id).err = none) : (ps.removeStatic id).ps.WF := by
  obtain ⟨ht, p, hp, heq⟩ := PolicySet.removeStatic_ok ps id h
  rw [heq]
  have hpid : p.template.id = id := wf.static_template_id hp (wf.shared id p hp ht)
  have wf1 : PolicySet.WF { ps with links := ps.links.erase id, t2l := ps.t2l.modify id (fun s => lhsRemove s id) } :=
    wf.setLink id id none rfl (get?_erase _ _) (get?_modify ps.t2l _ (fun s => lhsRemove s id)) (nodup_erase _ _ wf.lNodup)
      (nodup_modify ps.t2l id (fun s => lhsRemove s id) wf.mNodup) (fun q hq => by rw [hp] at hq; cases hq; exact hpid) (fun _ e => nomatch e)
  refine wf1.setTemplate id none (get?_erase _ _) rfl ?_ (nodup_erase _ _ wf.tNodup) (nodup_erase _ _ wf.mNodup)
    ?_ (fun _ e => nomatch e)
  · intro k
    rw [get?_erase, get?_modify]
    by_cases hk : k = id
    · rw [if_pos hk, if_pos hk]; rfl
    · rw [if_neg hk, if_neg hk, if_neg hk]
  · intro k q hq hqt
    rw [show LHM.get? (ps.links.erase id) k = _ from get?_erase _ _ _] at hq
    by_cases hk : k = id
    · rw [if_pos hk] at hq; cases hq
    · rw [if_neg hk] at hq
      by_cases hn : q.link = none
      · exact hk ((wf.static_template_id hq hn).symm.trans hqt)
      · have := wf.staticOne k q hq hn
        rw [hqt, hp] at this
        cases this

theorem PolicySet.removeTemplate_ok (ps : PolicySet) (id : String) (h : (ps.removeTemplate id).err = none) :
    ps.links.get? id = none ∧ ps.t2l.get? id = some [] ∧ (ps.templates.get? id).isSome = true ∧
    (ps.removeTemplate id).ps = { ps with templates := ps.templates.erase id, t2l := ps.t2l.erase id } := by
  unfold PolicySet.removeTemplate at h ⊢
  by_cases h1 : ps.links.contains id = true
  · rw [if_pos h1] at h; cases h
  · rw [if_neg h1] at h ⊢
    refine ⟨get?_none_of_not_contains h1, ?_⟩
    cases hs : ps.t2l.get? id with
    | none => rw [hs] at h; cases h
    | some s =>
      cases s with
      | cons a s => rw [hs] at h; cases h
      | nil =>
        cases ht : ps.templates.get? id with
        | none => rw [hs, ht] at h; cases h
        | some t => exact ⟨rfl, rfl, rfl⟩

theorem PolicySet.removeTemplate_wf (ps : PolicySet) (id : String) (wf : ps.WF)
    (h : (ps.removeTemplate id).err = none) : (ps.removeTemplate id).ps.WF := by
  obtain ⟨_, hs, _, heq⟩ := PolicySet.removeTemplate_ok ps id h
  rw [heq]
  refine wf.setTemplate id none (get?_erase _ _) rfl (get?_erase _ _) (nodup_erase _ _ wf.tNodup)
    (nodup_erase _ _ wf.mNodup) ?_ (fun _ e => nomatch e)
  intro k q hq hqt
  exact nomatch (wf.mExact id [] hs k).mpr ⟨q, hq, hqt⟩

namespace PolicySet

/-- an id is in use: it names a template or a policy (`policy_id_is_bound`, as a proposition about the lookups) -/
def isBound (ps : PolicySet) (k : String) : Prop :=
  (ps.templates.get? k).isSome = true ∨ (ps.links.get? k).isSome = true

theorem isBound_iff (A : PolicySet) (k : String) : A.isBound k ↔ A.idIsBound k = true := by
  unfold isBound idIsBound
  simp [contains_eq]

theorem not_isBound {A : PolicySet} {x : String} (h : ¬ A.isBound x) :
    A.templates.get? x = none ∧ A.links.get? x = none :=
  ⟨Option.not_isSome_iff_eq_none.mp fun e => h (Or.inl e), Option.not_isSome_iff_eq_none.mp fun e => h (Or.inr e)⟩

end PolicySet

end Cedar
