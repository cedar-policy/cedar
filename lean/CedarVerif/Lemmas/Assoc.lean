/-
Association lists. The model looks a key up in a list of pairs in many places, each with a recursion of its own (`lookupKV`,
`Entities.find?`, `LHM.get?`, `TC.get`, …); all of them return the value of the first pair with the key, `assoc?`. The module
that owns a lookup says so in one equation (`lookupKV_eq_assoc`, `Entities.find?_eq_assoc`, `LHM.get?_eq_assoc`, …); membership,
absence, and lookups after `++`, `filter` and `map` are proved here once, from the `List.find?` lemmas of core. A fact about one of
the lookups is a rewrite with its equation, then the `assoc?` lemma.
-/
namespace Cedar

variable {κ : Type _} {α : Type _} {β : Type _} [BEq κ]

def assoc? (l : List (κ × α)) (k : κ) : Option α := (l.find? (·.1 == k)).map (·.2)

theorem assoc?_nil (k : κ) : assoc? ([] : List (κ × α)) k = none := rfl

theorem assoc?_cons (k' : κ) (v : α) (l : List (κ × α)) (k : κ) :
    assoc? ((k', v) :: l) k = if k' == k then some v else assoc? l k := by
  unfold assoc?
  rw [List.find?_cons]
  cases k' == k <;> rfl

theorem assoc?_append (l l' : List (κ × α)) (k : κ) : assoc? (l ++ l') k = (assoc? l k).or (assoc? l' k) := by
  unfold assoc?
  rw [List.find?_append]
  cases l.find? (·.1 == k) <;> rfl

theorem assoc?_filter [LawfulBEq κ] (P : κ → Bool) (l : List (κ × α)) (k : κ) :
    assoc? (l.filter (fun p => P p.1)) k = if P k then assoc? l k else none := by
  induction l with
  | nil => cases P k <;> rfl
  | cons p l ih =>
    obtain ⟨k', v⟩ := p
    rw [List.filter_cons]
    by_cases hk : k' = k
    · subst hk
      cases hP : P k' <;> simp [assoc?_cons, ih, hP]
    · have hk' : (k' == k) = false := beq_false_of_ne hk
      cases P k' <;> simp [assoc?_cons, ih, hk']

theorem assoc?_map (f : κ → α → β) (l : List (κ × α)) (k : κ) [LawfulBEq κ] :
    assoc? (l.map fun p => (p.1, f p.1 p.2)) k = (assoc? l k).map (f k) := by
  induction l with
  | nil => rfl
  | cons p l ih =>
    obtain ⟨k', v⟩ := p
    rw [List.map_cons, assoc?_cons, assoc?_cons, ih]
    by_cases hk : k' = k
    · subst hk; simp
    · simp [beq_false_of_ne hk]

variable [LawfulBEq κ] {l : List (κ × α)} {k : κ} {v : α}

theorem mem_of_assoc? (h : assoc? l k = some v) : (k, v) ∈ l := by
  obtain ⟨⟨k', v'⟩, hf, rfl⟩ := Option.map_eq_some_iff.1 h
  have hk : (k' == k) = true := List.find?_some (p := fun p : κ × α => p.1 == k) hf
  obtain rfl : k' = k := eq_of_beq hk
  exact List.mem_of_find?_eq_some hf

theorem assoc?_eq_none_iff : assoc? l k = none ↔ k ∉ l.map (·.1) := by
  unfold assoc?
  rw [Option.map_eq_none_iff, List.find?_eq_none, List.mem_map]
  exact ⟨fun h ⟨p, hp, e⟩ => h p hp (beq_iff_eq.2 e), fun h p hp e => h ⟨p, hp, eq_of_beq e⟩⟩

theorem assoc?_isSome_iff : (assoc? l k).isSome = true ↔ k ∈ l.map (·.1) := by
  rw [← Option.not_isNone, Bool.not_eq_true', ← Bool.not_eq_true, Option.isNone_iff_eq_none, assoc?_eq_none_iff, Decidable.not_not]

theorem assoc?_of_mem_nodup (hn : (l.map (·.1)).Nodup) (h : (k, v) ∈ l) : assoc? l k = some v := by
  induction l with
  | nil => cases h
  | cons p l ih =>
    obtain ⟨k', v'⟩ := p
    rw [List.map_cons, List.nodup_cons] at hn
    rw [assoc?_cons]
    rcases List.mem_cons.1 h with e | h
    · cases e; rw [beq_self_eq_true, if_pos rfl]
    · have hk : k' ≠ k := fun e => hn.1 (e ▸ List.mem_map_of_mem (f := (·.1)) h)
      rw [beq_false_of_ne hk, if_neg Bool.false_ne_true]
      exact ih hn.2 h

end Cedar
