import CedarVerif.Cedar.Authorizer
import CedarVerif.Cedar.ExprOps
/-
C08 model: templates, linking, and the policy-set state machine.

Mirrors
  * cedar-policy-core/src/ast/policy.rs : `TemplateBody::condition`, `PrincipalOrResourceConstraint::as_expr`,
    `ActionConstraint::as_expr`, `Template::check_binding`, `Template::link`, `Template::link_static_policy`,
    `Policy::{id,new_id,new_template_id,is_static}`, `*Constraint::with_filled_slot`
  * cedar-policy-core/src/ast/policy_set.rs : `PolicySet` (three `LinkedHashMap`s) with `add`, `add_static`,
    `add_template`, `link`, `unlink`, `remove_static`, `remove_template`, `merge_policyset`
    (same check-then-mutate order, same error kinds, `panic!`/`unwrap` sites as explicit outcomes)
  * cedar-policy/src/api.rs : the public `PolicySet` (its own `policies`/`templates` maps on top of the core set).
`LinkedHashMap` = association list in insertion order (`insert` of an existing key moves it to the back,
as linked-hash-map 0.5 does); the order is observable through the fresh ids `policy{n}` of `merge`.
Imports model files only; total, computable.
-/
namespace Cedar

/-! ### templates -/

/-- `EntityReference` -/
inductive EntityRef where
  | euid (u : EntityUID)
  | slot
deriving Repr, DecidableEq, Inhabited

/-- `PrincipalOrResourceConstraint` -/
inductive ScopeC where
  | any
  | mem (r : EntityRef)
  | eq (r : EntityRef)
  | is (ty : EntityType)
  | isIn (ty : EntityType) (r : EntityRef)
deriving Repr, DecidableEq, Inhabited

/-- `ActionConstraint` -/
inductive ActionC where
  | any
  | mem (us : List EntityUID)
  | eq (u : EntityUID)
deriving Repr, DecidableEq, Inhabited

/-- `TemplateBodyImpl` (source locations dropped: they are ignored by `PartialEq`) -/
structure TemplateBody where
  id : String
  annotations : List (String × String)
  effect : Effect
  principalC : ScopeC
  actionC : ActionC
  resourceC : ScopeC
  nonScope : Option Expr
deriving Repr, Inhabited

/-- `Template`: body + the slot cache -/
structure Template where
  body : TemplateBody
  slots : List SlotId
deriving Repr, Inhabited

def optExprBeq : Option Expr → Option Expr → Bool
  | none, none => true
  | some a, some b => Expr.beq a b
  | _, _ => false

def TemplateBody.beq (a b : TemplateBody) : Bool :=
  a.id == b.id && a.annotations == b.annotations && a.effect == b.effect && a.principalC == b.principalC &&
  a.actionC == b.actionC && a.resourceC == b.resourceC && optExprBeq a.nonScope b.nonScope

def Template.beq (a b : Template) : Bool := a.body.beq b.body && a.slots == b.slots

def Template.id (t : Template) : String := t.body.id
def Template.effect (t : Template) : Effect := t.body.effect
def Template.isStatic (t : Template) : Bool := t.slots.isEmpty
def TemplateBody.newId (b : TemplateBody) (id : String) : TemplateBody := { b with id := id }
def Template.newId (t : Template) (id : String) : Template := { t with body := t.body.newId id }

/-- `EntityReference::into_expr` -/
def EntityRef.toExpr (r : EntityRef) (s : SlotId) : Expr :=
  match r with
  | .euid u => .lit (.entityUID u)
  | .slot => .slot s

/-- `PrincipalOrResourceConstraint::as_expr` -/
def ScopeC.toExpr (c : ScopeC) (v : Var) (s : SlotId) : Expr :=
  match c with
  | .any => .lit (.bool true)
  | .eq r => .binaryApp .eq (.var v) (r.toExpr s)
  | .mem r => .binaryApp .mem (.var v) (r.toExpr s)
  | .isIn ty r => .and (.is (.var v) ty) (.binaryApp .mem (.var v) (r.toExpr s))  -- `Expr::and` of two non-literals
  | .is ty => .is (.var v) ty

/-- `ActionConstraint::as_expr` -/
def ActionC.toExpr (c : ActionC) : Expr :=
  match c with
  | .any => .lit (.bool true)
  | .mem us => .binaryApp .mem (.var .action) (.set (us.map (fun u => .lit (.entityUID u))))
  | .eq u => .binaryApp .eq (.var .action) (.lit (.entityUID u))

def Expr.asBoolLit : Expr → Option Bool
  | .lit (.bool b) => some b
  | _ => none

/-- the constructor `Expr::and` (`ExprBuilder::and`): two Boolean literals are folded -/
def mkAnd (a b : Expr) : Expr :=
  match a.asBoolLit, b.asBoolLit with
  | some x, some y => .lit (.bool (x && y))
  | _, _ => .and a b

/-- `TemplateBody::condition` : `Expr::and(principalC, Expr::and(actionC, Expr::and(resourceC, nonScope)))` -/
def TemplateBody.condition (b : TemplateBody) : Expr :=
  mkAnd (b.principalC.toExpr .principal .principal)
    (mkAnd b.actionC.toExpr
      (mkAnd (b.resourceC.toExpr .resource .resource)
        (match b.nonScope with | some e => e | none => .lit (.bool true))))

def Template.condition (t : Template) : Expr := t.body.condition

/-- `HashMap<SlotId, EntityUID>`: there are only two slot ids, so the map is a pair of options (canonical) -/
structure SlotVals where
  principal : Option EntityUID := none
  resource : Option EntityUID := none
deriving Repr, DecidableEq, Inhabited

def SlotVals.get (v : SlotVals) : SlotId → Option EntityUID
  | .principal => v.principal
  | .resource => v.resource

def SlotVals.keys (v : SlotVals) : List SlotId :=
  (if v.principal.isSome then [SlotId.principal] else []) ++ (if v.resource.isSome then [SlotId.resource] else [])

/-- the evaluator's view of the slot environment -/
def SlotVals.toEnv (v : SlotVals) : SlotEnv :=
  (match v.principal with | some u => [(SlotId.principal, u)] | none => []) ++
  (match v.resource with | some u => [(SlotId.resource, u)] | none => [])

/-- `Template::check_binding`: every slot of the template is bound and nothing else is -/
def Template.checkBinding (t : Template) (vals : SlotVals) : Bool :=
  let unbound := t.slots.filter (fun s => (vals.get s).isNone)
  let extra := vals.keys.filter (fun s => !(t.slots.any (fun ts => ts == s)))
  unbound.isEmpty && extra.isEmpty

/-- `ast::Policy`: template + link id (none = static) + slot values -/
structure TPolicy where
  template : Template
  link : Option String
  values : SlotVals
deriving Repr, Inhabited

def TPolicy.id (p : TPolicy) : String :=
  match p.link with
  | some l => l
  | none => p.template.id
def TPolicy.isStatic (p : TPolicy) : Bool := p.link.isNone
def TPolicy.beq (a b : TPolicy) : Bool := a.template.beq b.template && a.link == b.link && a.values == b.values

/-- `Policy::new_id` -/
def TPolicy.newId (p : TPolicy) (id : String) : TPolicy :=
  match p.link with
  | none => { p with template := p.template.newId id }
  | some _ => { p with link := some id }

/-- `Policy::new_template_id` (`None` for a static policy) -/
def TPolicy.newTemplateId (p : TPolicy) (id : String) : Option TPolicy :=
  match p.link with
  | none => none
  | some l => some { template := p.template.newId id, link := some l, values := p.values }

/-- `Template::link` -/
def Template.link (t : Template) (newId : String) (vals : SlotVals) : Option TPolicy :=
  if t.checkBinding vals then some { template := t, link := some newId, values := vals } else none

/-- `Template::link_static_policy` (a `StaticPolicy` is a body without slots) -/
def linkStaticPolicy (b : TemplateBody) : Template × TPolicy :=
  let t : Template := { body := b, slots := [] }
  (t, { template := t, link := none, values := {} })

/-- what the authorizer evaluates for a policy: the template's condition under the link's environment -/
def TPolicy.toPolicy (p : TPolicy) : Policy :=
  { id := p.id, effect := p.template.effect, condition := p.template.condition, env := p.values.toEnv }

/-! ### substitution -/

/-- `EntityReference` with the slot filled -/
def EntityRef.fill (r : EntityRef) (u : Option EntityUID) : EntityRef :=
  match r, u with
  | .slot, some u => .euid u
  | r, _ => r

/-- `PrincipalConstraint::with_filled_slot` / `ResourceConstraint::with_filled_slot` (no value: unchanged,
as in `Policy::principal_constraint`) -/
def ScopeC.fill (c : ScopeC) (u : Option EntityUID) : ScopeC :=
  match c with
  | .eq r => .eq (r.fill u)
  | .mem r => .mem (r.fill u)
  | .isIn ty r => .isIn ty (r.fill u)
  | .is ty => .is ty
  | .any => .any

/-- the static policy body obtained from a template and slot values: scope constraints as
`Policy::principal_constraint`/`resource_constraint` compute them; the non-scope condition with slots
replaced (the parser rejects slots there, so this is the identity on parsed templates). -/
def Template.substitute (t : Template) (vals : SlotVals) (newId : String) : TemplateBody :=
  { t.body with
    id := newId,
    principalC := t.body.principalC.fill vals.principal,
    resourceC := t.body.resourceC.fill vals.resource,
    nonScope := t.body.nonScope.map (Expr.subst vals.toEnv) }

/-! ### LinkedHashMap / LinkedHashSet as insertion-ordered lists -/

abbrev LHM (α : Type) := List (String × α)

def LHM.get? {α} (m : LHM α) (k : String) : Option α :=
  match m with
  | [] => none
  | (k', v) :: rest => if k' == k then some v else LHM.get? rest k

def LHM.contains {α} (m : LHM α) (k : String) : Bool := (m.get? k).isSome

def LHM.erase {α} (m : LHM α) (k : String) : LHM α := m.filter (fun e => !(e.1 == k))

/-- `LinkedHashMap::insert`: replace-and-move-to-back, or append -/
def LHM.insert {α} (m : LHM α) (k : String) (v : α) : LHM α := m.erase k ++ [(k, v)]

/-- in-place update through `entry(k)` / `get_mut` (position kept) -/
def LHM.modify {α} (m : LHM α) (k : String) (f : α → α) : LHM α :=
  m.map (fun e => if e.1 == k then (e.1, f e.2) else e)

def LHM.keys {α} (m : LHM α) : List String := m.map (·.1)

/-- `LinkedHashSet::insert` (moves an existing element to the back) -/
def lhsInsert (s : List String) (x : String) : List String := s.filter (fun y => !(y == x)) ++ [x]
def lhsRemove (s : List String) (x : String) : List String := s.filter (fun y => !(y == x))

/-! ### the core policy set -/

structure PolicySet where
  templates : LHM Template := []
  links : LHM TPolicy := []
  t2l : LHM (List String) := []
deriving Repr, Inhabited

/-- error kinds of the core and of the API layer, plus the explicit `panic!`/`unwrap` sites -/
inductive PSError where
  -- core
  | occupied            -- PolicySetError::Occupied
  | arity               -- LinkingError::ArityError
  | noSuchTemplate      -- LinkingError::NoSuchTemplate
  | idConflict          -- LinkingError::PolicyIdConflict
  | unlinkMissing       -- PolicySetUnlinkError::UnlinkingError
  | notLink             -- PolicySetUnlinkError::NotLinkError
  | rmtNoTemplate       -- PolicySetTemplateRemovalError::RemovePolicyNoTemplateError
  | rmtWithLinks        -- PolicySetTemplateRemovalError::RemoveTemplateWithLinksError
  | rmtNotTemplate      -- PolicySetTemplateRemovalError::NotTemplateError
  | rmsNoLink           -- PolicySetPolicyRemovalError::RemovePolicyNoLinkError
  | rmsNoTemplate       -- PolicySetPolicyRemovalError::RemovePolicyNoTemplateError
  -- API layer (cedar_policy::PolicySetError)
  | alreadyDefined | expectedStatic | expectedTemplate | policyNonexistent | templateNonexistent
  | removeTemplateWithActiveLinks | removeTemplateNotTemplate | linkNonexistent | unlinkLinkNotLink
  | panic (site : String)
deriving Repr, DecidableEq, Inhabited

/-- outcome of one `&mut self` call: the state afterwards (also after a failure), the error if any,
and the renaming returned by `merge` -/
structure Step (σ : Type) where
  ps : σ
  err : Option PSError := none
  rename : List (String × String) := []
deriving Repr

namespace PolicySet

/-- `PolicySet::add` -/
def add (ps : PolicySet) (p : TPolicy) : Step PolicySet :=
  let t := p.template
  -- `templates.entry(t.id)`: vacant, or occupied by an equal template
  match (match ps.templates.get? t.id with
         | none => some true
         | some t' => if !(t'.beq t) then none else some false) with
  | none => { ps := ps, err := some .occupied }
  | some templateVacant =>
    if ps.links.contains p.id then { ps := ps, err := some .occupied }
    else
      let (templates, t2l) :=
        if templateVacant then
          (ps.templates ++ [(t.id, t)], ps.t2l.insert t.id [p.id])
        else
          (ps.templates,
            if ps.t2l.contains t.id then ps.t2l.modify t.id (fun s => lhsInsert s p.id)
            else ps.t2l ++ [(t.id, [p.id])])
      { ps := { templates := templates, links := ps.links ++ [(p.id, p)], t2l := t2l } }

/-- `PolicySet::add_static` -/
def addStatic (ps : PolicySet) (b : TemplateBody) : Step PolicySet :=
  let (t, p) := linkStaticPolicy b
  if ps.templates.contains t.id then { ps := ps, err := some .occupied }
  else if ps.links.contains t.id then { ps := ps, err := some .occupied }
  else { ps := { templates := ps.templates ++ [(t.id, t)], links := ps.links ++ [(t.id, p)],
                 t2l := ps.t2l.insert t.id [p.id] } }

/-- `PolicySet::add_template` -/
def addTemplate (ps : PolicySet) (t : Template) : Step PolicySet :=
  if ps.links.contains t.id then { ps := ps, err := some .occupied }
  else if ps.templates.contains t.id then { ps := ps, err := some .occupied }
  else { ps := { ps with templates := ps.templates ++ [(t.id, t)], t2l := ps.t2l.insert t.id [] } }

/-- `PolicySet::remove_template` -/
def removeTemplate (ps : PolicySet) (id : String) : Step PolicySet :=
  if ps.links.contains id then { ps := ps, err := some .rmtNotTemplate }
  else match ps.t2l.get? id with
    | none => { ps := ps, err := some .rmtNoTemplate }
    | some s =>
      if !s.isEmpty then { ps := ps, err := some .rmtWithLinks }
      else match ps.templates.get? id with
        | some _ => { ps := { ps with templates := ps.templates.erase id, t2l := ps.t2l.erase id } }
        | none => { ps := ps, err := some (.panic "Found in template_to_links_map but not in templates") }

/-- `PolicySet::link` -/
def link (ps : PolicySet) (tid newId : String) (vals : SlotVals) : Step PolicySet :=
  match ps.templates.get? tid with
  | none => { ps := ps, err := some .noSuchTemplate }
  | some t =>
    match t.link newId vals with
    | none => { ps := ps, err := some .arity }
    | some r =>
      if ps.links.contains newId then { ps := ps, err := some .idConflict }
      else if ps.templates.contains newId then { ps := ps, err := some .idConflict }
      else
        let t2l := if ps.t2l.contains tid then ps.t2l.modify tid (fun s => lhsInsert s newId)
                   else ps.t2l ++ [(tid, [newId])]
        { ps := { ps with links := ps.links ++ [(newId, r)], t2l := t2l } }

/-- `PolicySet::unlink` -/
def unlink (ps : PolicySet) (id : String) : Step PolicySet :=
  if ps.templates.contains id then { ps := ps, err := some .notLink }
  else match ps.links.get? id with
    | none => { ps := ps, err := some .unlinkMissing }
    | some p =>
      let links := ps.links.erase id
      if ps.t2l.contains p.template.id then
        { ps := { ps with links := links, t2l := ps.t2l.modify p.template.id (fun s => lhsRemove s id) } }
      else { ps := { ps with links := links }, err := some (.panic "No template found for linked policy") }

/-- `PolicySet::remove_static` (note: on the `RemovePolicyNoTemplateError` path the link is removed and
re-inserted, i.e. moved to the back of `links`) -/
def removeStatic (ps : PolicySet) (id : String) : Step PolicySet :=
  match ps.links.get? id with
  | none => { ps := ps, err := some .rmsNoLink }
  | some p =>
    let links := ps.links.erase id
    match ps.templates.get? id with
    | some _ => { ps := { templates := ps.templates.erase id, links := links, t2l := ps.t2l.erase id } }
    | none => { ps := { ps with links := links ++ [(id, p)] }, err := some .rmsNoTemplate }

def idIsBound (ps : PolicySet) (id : String) : Bool := ps.templates.contains id || ps.links.contains id

/-- `get_fresh_id`: first `policy{n}`, n ≥ start, bound in neither set; returns the id and the next index.
`fuel` bounds the `while` loop (one more than the number of bound ids always suffices). -/
def freshId (ps other : PolicySet) : Nat → Nat → String × Nat
  | 0, start => (s!"policy{start}", start + 1)
  | fuel + 1, start =>
    let cand := s!"policy{start}"
    if ps.idIsBound cand || other.idIsBound cand then freshId ps other fuel (start + 1)
    else (cand, start + 1)

def freshFuel (ps other : PolicySet) : Nat :=
  ps.templates.length + ps.links.length + other.templates.length + other.links.length + 1

/-- renaming under construction: insertion-ordered old ↦ new, and the counter `min_id` -/
structure RenSt where
  ren : LHM String := []
  next : Nat := 0

def RenSt.addFresh (st : RenSt) (ps other : PolicySet) (pid : String) : RenSt :=
  let (n, next) := freshId ps other (freshFuel ps other) st.next
  { ren := st.ren.insert pid n, next := next }

/-- `update_renaming` -/
def updateRenaming {α} (ps other : PolicySet) (beq : α → α → Bool) (thisC otherC : LHM α) (st : RenSt) : RenSt :=
  otherC.foldl (fun st (e : String × α) =>
    match thisC.get? e.1 with
    | some tt => if !(beq tt e.2) && !(st.ren.contains e.1) then st.addFresh ps other e.1 else st
    | none => st) st

/-- the renaming computed by `merge_policyset` -/
def mergeRenaming (ps other : PolicySet) : LHM String :=
  let st : RenSt := {}
  let st := updateRenaming ps other Template.beq ps.templates other.templates st
  let st := updateRenaming ps other TPolicy.beq ps.links other.links st
  let st := other.templates.foldl (fun st (e : String × Template) =>
    if !e.2.isStatic && ps.links.contains e.1 && !(st.ren.contains e.1) then st.addFresh ps other e.1 else st) st
  let st := other.links.foldl (fun st (e : String × TPolicy) =>
    if !e.2.isStatic && ps.templates.contains e.1 && !(st.ren.contains e.1) then st.addFresh ps other e.1 else st) st
  st.ren

def renamed (ren : LHM String) (id : String) : String :=
  match ren.get? id with
  | some n => n
  | none => id

/-- the link stored by `merge_policyset` for `other`'s link `(pid, p)` (`none` = the `unwrap` of
`new_template_id` on a static policy, excluded by the guard `!other_policy.is_static()`) -/
def mergeLink (ren : LHM String) (pid : String) (p : TPolicy) : Option (String × TPolicy) :=
  let (newPid, p1) := match ren.get? pid with
    | some n => (n, p.newId n)
    | none => (pid, p)
  match ren.get? p1.template.id with
  | some ntid =>
    if !p1.isStatic then (p1.newTemplateId ntid).map (fun p2 => (newPid, p2)) else some (newPid, p1)
  | none => some (newPid, p1)

/-- `PolicySet::merge_policyset` -/
def merge (ps other : PolicySet) (renameDuplicates : Bool) : Step PolicySet :=
  let ren := mergeRenaming ps other
  if !renameDuplicates && !ren.isEmpty then { ps := ps, err := some .occupied }
  else
    let templates := other.templates.foldl (fun (m : LHM Template) (e : String × Template) =>
      match ren.get? e.1 with
      | some n => m.insert n (e.2.newId n)
      | none => m.insert e.1 e.2) ps.templates
    let links := other.links.foldl (fun (acc : Option (LHM TPolicy)) (e : String × TPolicy) =>
      match acc with
      | none => none
      | some m => match mergeLink ren e.1 e.2 with
        | some (k, p) => some (m.insert k p)
        | none => none) (some ps.links)
    let t2l := other.t2l.foldl (fun (m : LHM (List String)) (e : String × List String) =>
      let tid := renamed ren e.1
      let cur := match m.get? tid with | some s => s | none => []
      let cur := e.2.foldl (fun s pid => lhsInsert s (renamed ren pid)) cur
      (m.erase tid) ++ [(tid, cur)]) ps.t2l
    match links with
    | none => { ps := ps, err := some (.panic "new_template_id on a static policy") }
    | some links => { ps := { templates := templates, links := links, t2l := t2l }, rename := ren }

/-- what the authorizer iterates over: `PolicySet::policies()` = `links.values()` -/
def policies (ps : PolicySet) : List Policy := ps.links.map (fun e => e.2.toPolicy)

def authorize (ps : PolicySet) (req : Request) (es : Entities) : Response := isAuthorized req es ps.policies

end PolicySet

/-! ### the public API layer (cedar_policy::PolicySet) -/

/-- `cedar_policy::PolicySet`: the core set plus its own `policies` / `templates` maps
(the lossless source representation kept next to each AST is not modelled) -/
structure ApiPolicySet where
  ast : PolicySet := {}
  policies : LHM TPolicy := []
  templates : LHM Template := []
deriving Repr, Inhabited

namespace ApiPolicySet

def coreErr : PSError → PSError
  | .occupied => .alreadyDefined
  | e => e

/-- `PolicySet::add` -/
def add (s : ApiPolicySet) (p : TPolicy) : Step ApiPolicySet :=
  if p.isStatic then
    let r := s.ast.add p
    match r.err with
    | some e => { ps := { s with ast := r.ps }, err := some (coreErr e) }
    | none => { ps := { s with ast := r.ps, policies := s.policies.insert p.id p } }
  else { ps := s, err := some .expectedStatic }

/-- `PolicySet::remove_static` -/
def removeStatic (s : ApiPolicySet) (id : String) : Step ApiPolicySet :=
  match s.policies.get? id with
  | none => { ps := s, err := some .policyNonexistent }
  | some p =>
    let policies := s.policies.erase id
    let r := s.ast.removeStatic id
    match r.err with
    | none => { ps := { s with ast := r.ps, policies := policies } }
    | some _ => { ps := { s with ast := r.ps, policies := policies.insert id p }, err := some .policyNonexistent }

/-- `PolicySet::add_template` -/
def addTemplate (s : ApiPolicySet) (t : Template) : Step ApiPolicySet :=
  let r := s.ast.addTemplate t
  match r.err with
  | some e => { ps := { s with ast := r.ps }, err := some (coreErr e) }
  | none => { ps := { s with ast := r.ps, templates := s.templates.insert t.id t } }

/-- `PolicySet::remove_template` -/
def removeTemplate (s : ApiPolicySet) (id : String) : Step ApiPolicySet :=
  match s.templates.get? id with
  | none => { ps := s, err := some .templateNonexistent }
  | some t =>
    let templates := s.templates.erase id
    let r := s.ast.removeTemplate id
    match r.err with
    | none => { ps := { s with ast := r.ps, templates := templates } }
    | some .rmtWithLinks => { ps := { s with ast := r.ps, templates := templates.insert id t }, err := some .removeTemplateWithActiveLinks }
    | some .rmtNotTemplate => { ps := { s with ast := r.ps, templates := templates.insert id t }, err := some .removeTemplateNotTemplate }
    | some (.panic m) => { ps := { s with ast := r.ps, templates := templates }, err := some (.panic m) }
    | some _ => { ps := { s with ast := r.ps, templates := templates },
                  err := some (.panic "Found template policy in self.templates but not in self.ast") }

/-- `PolicySet::link` -/
def link (s : ApiPolicySet) (tid newId : String) (vals : SlotVals) : Step ApiPolicySet :=
  match s.templates.get? tid with
  | none =>
    if s.policies.contains tid then { ps := s, err := some .expectedTemplate }
    else { ps := s, err := some .noSuchTemplate }
  | some _ =>
    let r := s.ast.link tid newId vals
    match r.err with
    | some e => { ps := { s with ast := r.ps }, err := some e }
    | none => match r.ps.links.get? newId with
      | some linked => { ps := { s with ast := r.ps, policies := s.policies.insert newId linked } }
      | none => { ps := { s with ast := r.ps }, err := some (.panic "link result") }

/-- `PolicySet::unlink` -/
def unlink (s : ApiPolicySet) (id : String) : Step ApiPolicySet :=
  match s.policies.get? id with
  | none => { ps := s, err := some .linkNonexistent }
  | some p =>
    let policies := s.policies.erase id
    let r := s.ast.unlink id
    match r.err with
    | none => { ps := { s with ast := r.ps, policies := policies } }
    | some .notLink => { ps := { s with ast := r.ps, policies := policies.insert id p }, err := some .unlinkLinkNotLink }
    | some (.panic m) => { ps := { s with ast := r.ps, policies := policies }, err := some (.panic m) }
    | some _ => { ps := { s with ast := r.ps, policies := policies },
                  err := some (.panic "Found linked policy in self.policies but not in self.ast") }

/-- `PolicySet::merge` -/
def merge (s other : ApiPolicySet) (renameDuplicates : Bool) : Step ApiPolicySet :=
  let r := s.ast.merge other.ast renameDuplicates
  match r.err with
  | some e => { ps := { s with ast := r.ps }, err := some (coreErr e) }
  | none =>
    let ren := r.rename
    let policies := other.policies.foldl (fun (acc : Option (LHM TPolicy)) (e : String × TPolicy) =>
      match acc with
      | none => none
      | some m =>
        let pid := PolicySet.renamed ren e.1
        if m.contains pid then some m
        else match r.ps.links.get? pid with
          | some p => some (m.insert pid p)
          | none => none) (some s.policies)
    let templates := other.templates.foldl (fun (acc : Option (LHM Template)) (e : String × Template) =>
      match acc with
      | none => none
      | some m =>
        let pid := PolicySet.renamed ren e.1
        if m.contains pid then some m
        else match r.ps.templates.get? pid with
          | some t => some (m.insert pid t)
          | none => none) (some s.templates)
    match policies, templates with
    | some policies, some templates => { ps := { ast := r.ps, policies := policies, templates := templates }, rename := ren }
    | _, _ => { ps := { s with ast := r.ps }, err := some (.panic "merge: get(pid).unwrap()") }

def authorize (s : ApiPolicySet) (req : Request) (es : Entities) : Response := s.ast.authorize req es

end ApiPolicySet

/-! ### abstract specification: a set of static policies, a set of templates, a map link-id ↦ (template-id, env) -/

structure Spec where
  statics : List (String × TemplateBody) := []
  templates : List (String × Template) := []
  links : List (String × (String × SlotVals)) := []
deriving Repr, Inhabited

namespace Spec

def hasId (sp : Spec) (id : String) : Bool :=
  sp.statics.any (·.1 == id) || sp.templates.any (·.1 == id) || sp.links.any (·.1 == id)

def getTemplate (sp : Spec) (id : String) : Option Template := LHM.get? sp.templates id

/-- operations of the public API on the abstract state; `none` = the operation fails (state unchanged) -/
inductive Op where
  | add (b : TemplateBody)                        -- a static policy
  | addTemplate (t : Template)
  | link (tid newId : String) (vals : SlotVals)
  | unlink (id : String)
  | removeStatic (id : String)
  | removeTemplate (id : String)
deriving Repr

def apply (sp : Spec) : Op → Option Spec
  | .add b => if sp.hasId b.id then none else some { sp with statics := sp.statics ++ [(b.id, b)] }
  | .addTemplate t => if sp.hasId t.id then none else some { sp with templates := sp.templates ++ [(t.id, t)] }
  | .link tid newId vals =>
    match sp.getTemplate tid with
    | none => none
    | some t =>
      if !(t.checkBinding vals) then none
      else if sp.hasId newId then none
      else some { sp with links := sp.links ++ [(newId, (tid, vals))] }
  | .unlink id =>
    if sp.links.any (·.1 == id) then some { sp with links := sp.links.filter (fun e => !(e.1 == id)) } else none
  | .removeStatic id =>
    if sp.statics.any (·.1 == id) then some { sp with statics := sp.statics.filter (fun e => !(e.1 == id)) } else none
  | .removeTemplate id =>
    if sp.templates.any (·.1 == id) && !(sp.links.any (fun e => e.2.1 == id)) then
      some { sp with templates := sp.templates.filter (fun e => !(e.1 == id)) }
    else none

/-- the policies the specification says authorization must consider: each static policy, and for each link
the static policy obtained by substitution -/
def policies (sp : Spec) : List Policy :=
  sp.statics.map (fun e => { id := e.1, effect := e.2.effect, condition := e.2.condition, env := [] }) ++
  sp.links.filterMap (fun e =>
    match sp.getTemplate e.2.1 with
    | some t => some { id := e.1, effect := t.effect, condition := (t.substitute e.2.2 e.1).condition, env := [] }
    | none => none)

end Spec

/-- abstraction of the core policy set: static policies are the links without link id; templates are the
entries of `templates` that are not the body of a static policy; links are the links with a link id -/
def PolicySet.abs (ps : PolicySet) : Spec :=
  { statics := ps.links.filterMap (fun e => if e.2.isStatic then some (e.1, e.2.template.body) else none),
    templates := ps.templates.filter (fun e => !(ps.links.contains e.1)),
    links := ps.links.filterMap (fun e => if e.2.isStatic then none else some (e.1, (e.2.template.id, e.2.values))) }

def ApiPolicySet.abs (s : ApiPolicySet) : Spec := s.ast.abs

end Cedar
