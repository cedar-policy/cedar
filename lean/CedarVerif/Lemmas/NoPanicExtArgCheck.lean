import CedarVerif.Cedar.NoPanic.ExtArgCheck
/-
C20 lemmas for `Cedar/NoPanic/ExtArgCheck.lean`: the `exactly_one` form of the four argument checks has no panic outcome for
any argument list; `zip_longest` reaches neither `unreachable!` nor `last().unwrap()` once the two recorded arity tests both
passed (given: a variadic function has at least one argument type).
-/
namespace Cedar
namespace NoPanic
namespace ExtArg

theorem validateCtorString_exactlyOne_safe (ctor : List Char → Bool) (exprs : List Arg) (site : String) :
    validateCtorString .exactlyOne ctor exprs ≠ .panic site := by
  unfold validateCtorString
  simp only
  split
  · split <;> exact fun h => CheckOutcome.noConfusion h
  · exact fun h => CheckOutcome.noConfusion h

theorem zipLongest_ok (hl : Bool) : ∀ (args : List Arg) (k : Nat), k ≤ args.length → (k < args.length → hl = true) →
    zipLongest hl args k = .ok args.length
  | [], 0, _, _ => rfl
  | [], k + 1, h, _ => by simp at h
  | _ :: as, k + 1, h, h2 => by
    simp only [List.length_cons] at h h2
    simp only [zipLongest, zipLongest_ok hl as k (by omega) (fun h => h2 (by omega))]
    rfl
  | _ :: as, 0, _, h2 => by
    have hh : hl = true := h2 (by simp)
    subst hh
    simp only [zipLongest, if_true]
    rw [zipLongest_ok true as 0 (Nat.zero_le _) (fun _ => rfl)]
    rfl

theorem finish_safe (ft : FnType) (hinv : ft.variadic = true → 0 < ft.nArgTys) (args : List Arg) (failed : Bool)
    (errs : List TcErr) (hf : failed = false → arityFailed ft args.length = false) (site : String) :
    finish ft args failed errs ≠ .panic site := by
  unfold finish
  cases failed with
  | true => exact fun h => TcOutcome.noConfusion h
  | false =>
    -- the two recorded arity tests passed: enough arguments, and extra ones only for a variadic function
    obtain ⟨h1, h2⟩ : ft.nArgTys ≤ args.length ∧ (ft.nArgTys < args.length → ft.variadic = true) := by
      have h := hf rfl
      unfold arityFailed at h
      cases hv : ft.variadic <;> rw [hv] at h
      · have : args.length = ft.nArgTys := by simpa using h
        omega
      · have : ¬ args.length < ft.nArgTys := by simpa using h
        exact ⟨by omega, fun _ => rfl⟩
    rw [zipLongest_ok _ args ft.nArgTys h1 (fun h => by have := hinv (h2 h); simpa using this)]
    exact fun h => TcOutcome.noConfusion h

theorem typecheckExtensionFn_safe (strict : Bool) (lookup : Option FnType)
    (hinv : ∀ ft, lookup = some ft → ft.variadic = true → 0 < ft.nArgTys) (args : List Arg) (site : String) :
    typecheckExtensionFn .exactlyOne strict lookup args ≠ .panic site := by
  unfold typecheckExtensionFn
  cases lookup with
  | none => exact fun h => TcOutcome.noConfusion h
  | some ft =>
    simp only
    have hck : ∀ site, checkArguments .exactlyOne ft args ≠ .panic site := by
      intro site
      unfold checkArguments
      split
      · exact validateCtorString_exactlyOne_safe _ _ _
      · exact fun h => CheckOutcome.noConfusion h
    split
    · rename_i s hs; exact absurd hs (hck s)
    · exact finish_safe ft (hinv ft rfl) args _ _ (fun h => by cases h) site
    · exact finish_safe ft (hinv ft rfl) args _ _ (fun h => by
        rw [Bool.or_eq_false_iff] at h; exact h.1) site

end ExtArg
end NoPanic
end Cedar
