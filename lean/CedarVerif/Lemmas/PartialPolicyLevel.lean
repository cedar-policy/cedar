import CedarVerif.Lemmas.PartialFirstPass
import CedarVerif.Lemmas.PartialFull
import CedarVerif.Lemmas.PolicySetSubst
/-
`reauthorize` runs the same interpreter with mapper σ on the concretised request.  On the substituted store, and on a
store in concrete mode whose residual attribute values are direct `Unknown`s (which `get_attr` passes through the mapper)
and whose tag values are all known (`DirectUnk`), that pass computes `evaluate ∘ substUnk σ` (`bridge`, `bridge_direct`).
Then: slot-free residuals evaluate independently of the slot environment (the residual policy `reauthorize` builds is
static; by C08's `eval_subst`, `hasSlot` being `slots = []`), and policy-level agreement `PolicyAgrees` and `Consistent` from
first-pass soundness, once for every store the second pass may read (`authorization_sound_of`).
-/
namespace Cedar
namespace PS

/-- concrete mode; every residual attribute value is a direct `Unknown`; no residual tag value -/
def DirectUnk (pes : PEntities) : Prop :=
  pes.partialMode = false ∧
  ∀ u d, PEntities.find? pes.ents u = some d →
    (∀ a r, lookupKV d.attrs a = some (.residual r) → ∃ name ty, r = .unknown name ty) ∧
    (∀ a r, lookupKV d.tags a ≠ some (.residual r))

theorem evalIn_noRes (u1 : EntityUID) (anc : Option (List EntityUID)) (v2 : Value) (r : Expr) : evalIn u1 anc v2 ≠ .res r := by
  cases v2 with
  | prim p => cases p <;> simp [evalIn]
  | set vs => simp only [evalIn]; cases asEntityList vs <;> simp
  | record kvs => simp [evalIn]
  | ext x => simp [evalIn]

theorem papplyBinary_noRes {pes : PEntities} (hD : DirectUnk pes) (op : BinaryOp) (v1 v2 : Value) (r : Expr) :
    papplyBinary pes op v1 v2 ≠ .res r := by
  cases hop : op.storeFree with
  | true => rw [papplyBinary_storeFree pes [] op hop]; exact ofResult_noRes _ r
  | false =>
    cases op <;> simp [BinaryOp.storeFree] at hop
    case mem =>
      simp only [papplyBinary]
      cases he : v1.asEntity with
      | error c => simp
      | ok u1 =>
        simp only
        rcases entity_cases pes u1 with ⟨d, hf, hE⟩ | ⟨hf, hp, hE⟩ | ⟨hf, hp, hE⟩
        · rw [hE]; exact evalIn_noRes _ _ _ _
        · rw [hE]; exact evalIn_noRes _ _ _ _
        · rw [hD.1] at hp; cases hp
    case getTag =>
      simp only [papplyBinary]
      cases he : v1.asEntity with
      | error c => simp
      | ok u =>
        cases hs : v2.asString with
        | error c => simp
        | ok t =>
          simp only
          rcases entity_cases pes u with ⟨d, hf, hE⟩ | ⟨hf, hp, hE⟩ | ⟨hf, hp, hE⟩
          · rw [hE]
            simp only
            cases hl : lookupKV d.tags t with
            | none => simp
            | some pv =>
              cases pv with
              | value v => simp [PRes.ofPV]
              | residual x => exact ((hD.2 u d hf).2 t x hl).elim
          · rw [hE]; simp
          · rw [hD.1] at hp; cases hp
    case hasTag =>
      simp only [papplyBinary]
      cases he : v1.asEntity with
      | error c => simp
      | ok u =>
        cases hs : v2.asString with
        | error c => simp
        | ok t =>
          simp only
          rcases entity_cases pes u with ⟨d, hf, hE⟩ | ⟨hf, hp, hE⟩ | ⟨hf, hp, hE⟩
          · rw [hE]; simp
          · rw [hE]; simp
          · rw [hD.1] at hp; cases hp

theorem Frag2.closed {σ : Mapper} {e : Expr} (hf : Frag2 σ e) : Closed σ e := by
  induction hf with
  | lit p => exact .lit p
  | var v => exact .var v
  | slot s => exact .slot s
  | unknown name ty h => exact .unknown ty h.choose_spec.1
  | ite _ _ _ ihc iht ihe => exact .ite ihc iht ihe
  | and _ _ iha ihb => exact .and iha ihb
  | or _ _ iha ihb => exact .or iha ihb
  | unaryApp op _ ih => exact .unaryApp op ih
  | binaryApp op _ _ iha ihb => exact .binaryApp op iha ihb
  | getAttr a _ ih => exact .getAttr a ih
  | hasAttr a _ ih => exact .hasAttr a ih
  | like p _ ih => exact .like p ih
  | is ty _ ih => exact .is ty ih
  | set _ ih => exact .set ih
  | record _ _ ih => exact .record ih
  | call fn hfn _ ih => exact .call hfn ih

/-- the store accesses of the second pass return no residual: concrete mode, tags are values, and a residual attribute is
    a direct unknown, which `get_attr` passes through σ — and σ defines it, since `es` completes the store -/
theorem groundStore_of_direct {σ : Mapper} {pes : PEntities} {es : Entities} {U : EntityUID → Prop}
    (hS : StoreCompletesOn U σ pes es) (hD : DirectUnk pes) : GroundStore σ pes where
  binary := papplyBinary_noRes hD
  getAttr attr v r := by
    unfold getAttrVal
    split
    · split <;> nofun
    · rename_i u
      rcases entity_cases pes u with ⟨d, hf, hE⟩ | ⟨hf, hp, hE⟩ | ⟨hf, hp, hE⟩
      · rw [hE]
        simp only
        cases hl : lookupKV d.attrs attr with
        | none => nofun
        | some pv =>
          cases pv with
          | value v => nofun
          | residual x =>
            obtain ⟨name, ty, rfl⟩ := (hD.2 u d hf).1 attr x hl
            obtain ⟨_, _, _, hattrs, _⟩ := hS.data hf
            obtain ⟨_, _, hfr, _⟩ := hattrs.get_some hl
            cases hfr with
            | unknown _ _ hu => exact unknownToPV_noRes hu.choose_spec.1 ty r
      · rw [hE]; nofun
      · rw [hD.1] at hp; cases hp
    · nofun
  hasAttr attr v r := by
    unfold hasAttrVal
    split
    · nofun
    · rename_i u
      rcases entity_cases pes u with ⟨d, hf, hE⟩ | ⟨hf, hp, hE⟩ | ⟨hf, hp, hE⟩
      · rw [hE]; nofun
      · rw [hE]; nofun
      · rw [hD.1] at hp; cases hp
    · nofun

section
variable (σ : Mapper) (req : Request) (es : Entities) (env : SlotEnv)

/-- a second pass on a concrete-mode store whose accesses return no residual computes `evaluate ∘ substUnk σ`: by
    `pinterp_sound_mentioned` with first-pass mapper σ it is sound, and it leaves no residual -/
theorem bridge_ground (hctx : (Value.record req.context).Canon) (pes : PEntities) {U : EntityUID → Prop}
    (hS : StoreCompletesOn U σ pes es) (hp : pes.partialMode = false) (hG : GroundStore σ pes) {r : Expr} (hf : Frag2 σ r) :
    Means σ (.ofConcrete req) pes env r (Y σ req es env r) := by
  intro n'
  have h := pinterp_sound_mentioned σ req es env hctx σ (.ofConcrete req) pes n' r (hS.concreteMode hp) (MapLE.refl σ)
    (concretizes2_ofConcrete σ es req) hf
  cases hx : pinterp σ (.ofConcrete req) pes env n' r with
  | val v => rw [hx] at h; rw [h.1]; exact Sem.val v
  | err c => rw [hx] at h; obtain ⟨c', hc'⟩ := h; rw [hc']; exact Sem.err c c'
  | res r' => exact (pinterp_noRes hG req env hf.closed n' r' hx).elim
  | fuel => exact Sem.fuel _
  | panic => exact Sem.panic _

theorem bridge_direct (hctx : (Value.record req.context).Canon) (pes : PEntities) {U : EntityUID → Prop}
    (hS : StoreCompletesOn U σ pes es) (hD : DirectUnk pes) {r : Expr} (hf : Frag2 σ r) :
    Means σ (.ofConcrete req) pes env r (Y σ req es env r) :=
  bridge_ground σ req es env hctx pes hS hD.1 (groundStore_of_direct hS hD) hf

/-- `bridge_ground` on the substituted store (`reauthorize` as documented) -/
theorem bridge (hctx : (Value.record req.context).Canon) (hstore : StoreCanon es) {r : Expr} (hf : Frag2 σ r) :
    Means σ (.ofConcrete req) (.ofConcrete es) env r (Y σ req es env r) :=
  bridge_ground σ req es env hctx _ (U := fun _ => True) (storeCompletesOn_ofConcrete σ hstore) rfl (groundStore_ofConcrete σ es) hf

theorem sem_of_agree {x : PRes} {a y : Result Value} (h1 : Sem x a) (h2 : Agree a y) : Sem x y := by
  rcases h2 with ⟨v, rfl, rfl⟩ | ⟨c, c', rfl, rfl⟩
  · exact h1
  · rcases h1 with h | h | ⟨v, h, hy⟩ | ⟨c1, c2, h, hy⟩
    · exact Or.inl h
    · exact Or.inr (Or.inl h)
    · cases hy
    · exact Or.inr (Or.inr (Or.inr ⟨c1, c', h, rfl⟩))

end

theorem Sound2.reauthForm {σ : Mapper} {req : Request} {es : Entities} {env : SlotEnv} {pes2 : PEntities}
    (hbr : ∀ r, Frag2 σ r → Means σ (.ofConcrete req) pes2 env r (Y σ req es env r))
    {e : Expr} {x : PRes} : Sound2 σ req es env (Y σ req es env e) x →
    match x with
    | .val v => evaluate req es env (e.substUnk σ) = .ok v
    | .err _ => ∃ c, evaluate req es env (e.substUnk σ) = .error c
    | .res r => Means σ (.ofConcrete req) pes2 env r (evaluate req es env (e.substUnk σ))
    | .fuel => True
    | .panic => True := by
  intro h
  cases x with
  | val v => exact h.1
  | err c => exact h
  | res r => exact fun n' => sem_of_agree (hbr r h.2.2 n') h.1
  | fuel => trivial
  | panic => trivial

mutual
theorem hasSlot_toExpr : ∀ v : Value, v.toExpr.hasSlot = false
  | .prim p => rfl
  | .ext x => by
    cases x with
    | ipaddr v6 a p => cases v6 <;> rfl
    | _ => rfl
  | .set vs => by unfold Value.toExpr Expr.hasSlot; exact hasSlot_toExprList vs
  | .record kvs => by unfold Value.toExpr Expr.hasSlot; exact hasSlot_toExprKVs kvs
theorem hasSlot_toExprList : ∀ vs : List Value, Expr.hasSlotList (Value.toExprList vs) = false
  | [] => rfl
  | v :: vs => by unfold Value.toExprList Expr.hasSlotList; rw [hasSlot_toExpr v, hasSlot_toExprList vs]; rfl
theorem hasSlot_toExprKVs : ∀ kvs : List (String × Value), Expr.hasSlotKVs (Value.toExprKVs kvs) = false
  | [] => rfl
  | (k, v) :: kvs => by unfold Value.toExprKVs Expr.hasSlotKVs; rw [hasSlot_toExpr v, hasSlot_toExprKVs kvs]; rfl
end

mutual
theorem hasSlot_substUnk (σ : Mapper) : ∀ e : Expr, (e.substUnk σ).hasSlot = e.hasSlot
  | .lit _ => rfl
  | .var _ => rfl
  | .slot _ => rfl
  | .unknown n ty => by
    unfold Expr.substUnk
    cases lookupKV σ n with
    | none => rfl
    | some v => exact hasSlot_toExpr v
  | .ite c t e => by unfold Expr.substUnk Expr.hasSlot; rw [hasSlot_substUnk σ c, hasSlot_substUnk σ t, hasSlot_substUnk σ e]
  | .and a b => by unfold Expr.substUnk Expr.hasSlot; rw [hasSlot_substUnk σ a, hasSlot_substUnk σ b]
  | .or a b => by unfold Expr.substUnk Expr.hasSlot; rw [hasSlot_substUnk σ a, hasSlot_substUnk σ b]
  | .unaryApp _ a => by unfold Expr.substUnk Expr.hasSlot; rw [hasSlot_substUnk σ a]
  | .binaryApp _ a b => by unfold Expr.substUnk Expr.hasSlot; rw [hasSlot_substUnk σ a, hasSlot_substUnk σ b]
  | .call _ args => by unfold Expr.substUnk Expr.hasSlot; rw [hasSlot_substUnkList σ args]
  | .getAttr e _ => by unfold Expr.substUnk Expr.hasSlot; rw [hasSlot_substUnk σ e]
  | .hasAttr e _ => by unfold Expr.substUnk Expr.hasSlot; rw [hasSlot_substUnk σ e]
  | .like e _ => by unfold Expr.substUnk Expr.hasSlot; rw [hasSlot_substUnk σ e]
  | .is e _ => by unfold Expr.substUnk Expr.hasSlot; rw [hasSlot_substUnk σ e]
  | .set xs => by unfold Expr.substUnk Expr.hasSlot; rw [hasSlot_substUnkList σ xs]
  | .record kvs => by unfold Expr.substUnk Expr.hasSlot; rw [hasSlot_substUnkKVs σ kvs]
theorem hasSlot_substUnkList (σ : Mapper) : ∀ xs : List Expr, Expr.hasSlotList (Expr.substUnkList σ xs) = Expr.hasSlotList xs
  | [] => rfl
  | x :: xs => by unfold Expr.substUnkList Expr.hasSlotList; rw [hasSlot_substUnk σ x, hasSlot_substUnkList σ xs]
theorem hasSlot_substUnkKVs (σ : Mapper) : ∀ kvs : List (String × Expr),
    Expr.hasSlotKVs (Expr.substUnkKVs σ kvs) = Expr.hasSlotKVs kvs
  | [] => rfl
  | (k, x) :: kvs => by unfold Expr.substUnkKVs Expr.hasSlotKVs; rw [hasSlot_substUnk σ x, hasSlot_substUnkKVs σ kvs]
end

mutual
/-- an expression without unknown nodes (policy text as the parser produces it) is not changed by `substUnk` -/
theorem substUnk_of_noUnk (σ : Mapper) : ∀ e : Expr, e.unknowns = [] → e.substUnk σ = e
  | .lit _, _ => rfl
  | .var _, _ => rfl
  | .slot _, _ => rfl
  | .unknown _ _, h => by cases h
  | .ite c t e, h => by
    obtain ⟨hct, he⟩ := List.append_eq_nil_iff.mp h
    obtain ⟨hc, ht⟩ := List.append_eq_nil_iff.mp hct
    unfold Expr.substUnk; rw [substUnk_of_noUnk σ c hc, substUnk_of_noUnk σ t ht, substUnk_of_noUnk σ e he]
  | .and a b, h => by
    obtain ⟨ha, hb⟩ := List.append_eq_nil_iff.mp h
    unfold Expr.substUnk; rw [substUnk_of_noUnk σ a ha, substUnk_of_noUnk σ b hb]
  | .or a b, h => by
    obtain ⟨ha, hb⟩ := List.append_eq_nil_iff.mp h
    unfold Expr.substUnk; rw [substUnk_of_noUnk σ a ha, substUnk_of_noUnk σ b hb]
  | .unaryApp _ a, h => by unfold Expr.substUnk; rw [substUnk_of_noUnk σ a h]
  | .binaryApp _ a b, h => by
    obtain ⟨ha, hb⟩ := List.append_eq_nil_iff.mp h
    unfold Expr.substUnk; rw [substUnk_of_noUnk σ a ha, substUnk_of_noUnk σ b hb]
  | .call _ args, h => by unfold Expr.substUnk; rw [substUnkList_of_noUnk σ args h]
  | .getAttr e _, h => by unfold Expr.substUnk; rw [substUnk_of_noUnk σ e h]
  | .hasAttr e _, h => by unfold Expr.substUnk; rw [substUnk_of_noUnk σ e h]
  | .like e _, h => by unfold Expr.substUnk; rw [substUnk_of_noUnk σ e h]
  | .is e _, h => by unfold Expr.substUnk; rw [substUnk_of_noUnk σ e h]
  | .set xs, h => by unfold Expr.substUnk; rw [substUnkList_of_noUnk σ xs h]
  | .record kvs, h => by unfold Expr.substUnk; rw [substUnkKVs_of_noUnk σ kvs h]
theorem substUnkList_of_noUnk (σ : Mapper) : ∀ xs : List Expr, Expr.unknownsList xs = [] → Expr.substUnkList σ xs = xs
  | [], _ => rfl
  | x :: xs, h => by
    obtain ⟨hx, hxs⟩ := List.append_eq_nil_iff.mp h
    unfold Expr.substUnkList; rw [substUnk_of_noUnk σ x hx, substUnkList_of_noUnk σ xs hxs]
theorem substUnkKVs_of_noUnk (σ : Mapper) : ∀ kvs : List (String × Expr), Expr.unknownsKVs kvs = [] →
    Expr.substUnkKVs σ kvs = kvs
  | [], _ => rfl
  | (k, x) :: kvs, h => by
    obtain ⟨hx, hkvs⟩ := List.append_eq_nil_iff.mp h
    unfold Expr.substUnkKVs; rw [substUnk_of_noUnk σ x hx, substUnkKVs_of_noUnk σ kvs hkvs]
end

mutual
/-- `hasSlot` says that `Expr.slots`, the list C08 reasons about, is empty -/
theorem slots_of_hasSlot : ∀ e : Expr, e.hasSlot = false → e.slots = []
  | .lit _, _ | .var _, _ | .unknown _ _, _ => rfl
  | .slot _, h => by cases h
  | .ite c t e, h => by
    obtain ⟨hct, he⟩ := Bool.or_eq_false_iff.mp h
    obtain ⟨hc, ht⟩ := Bool.or_eq_false_iff.mp hct
    unfold Expr.slots; rw [slots_of_hasSlot c hc, slots_of_hasSlot t ht, slots_of_hasSlot e he]; rfl
  | .and a b, h | .or a b, h | .binaryApp _ a b, h => by
    obtain ⟨ha, hb⟩ := Bool.or_eq_false_iff.mp h
    unfold Expr.slots; rw [slots_of_hasSlot a ha, slots_of_hasSlot b hb]; rfl
  | .unaryApp _ a, h | .getAttr a _, h | .hasAttr a _, h | .like a _, h | .is a _, h => by
    unfold Expr.slots; exact slots_of_hasSlot a h
  | .call _ xs, h | .set xs, h => by unfold Expr.slots; exact slotsList_of_hasSlot xs h
  | .record kvs, h => by unfold Expr.slots; exact slotsKVs_of_hasSlot kvs h
theorem slotsList_of_hasSlot : ∀ xs : List Expr, Expr.hasSlotList xs = false → Expr.slotsList xs = []
  | [], _ => rfl
  | x :: xs, h => by
    obtain ⟨hx, hxs⟩ := Bool.or_eq_false_iff.mp h
    unfold Expr.slotsList; rw [slots_of_hasSlot x hx, slotsList_of_hasSlot xs hxs]; rfl
theorem slotsKVs_of_hasSlot : ∀ kvs : List (String × Expr), Expr.hasSlotKVs kvs = false → Expr.slotsKVs kvs = []
  | [], _ => rfl
  | (_, x) :: kvs, h => by
    obtain ⟨hx, hkvs⟩ := Bool.or_eq_false_iff.mp h
    unfold Expr.slotsKVs; rw [slots_of_hasSlot x hx, slotsKVs_of_hasSlot kvs hkvs]; rfl
end

section
variable (req : Request) (es : Entities) (env env' : SlotEnv)

/- Evaluation in any slot environment is evaluation of the substituted expression in the empty one (C08, `eval_subst`), and
   substitution leaves an expression without slots alone (`subst_noSlots`). -/

theorem evaluate_env (e : Expr) (h : e.hasSlot = false) : evaluate req es env e = evaluate req es env' e := by
  have hs := slots_of_hasSlot e h
  rw [eval_subst req es env e, eval_subst req es env' e, subst_noSlots env e hs, subst_noSlots env' e hs]

theorem evaluateList_env : ∀ xs : List Expr, Expr.hasSlotList xs = false →
    evaluateList req es env xs = evaluateList req es env' xs := by
  intro xs h
  have hs := slotsList_of_hasSlot xs h
  rw [evalList_subst req es env xs, evalList_subst req es env' xs, substList_noSlots env xs hs, substList_noSlots env' xs hs]

theorem evaluateKVs_env : ∀ kvs : List (String × Expr), Expr.hasSlotKVs kvs = false →
    evaluateKVs req es env kvs = evaluateKVs req es env' kvs := by
  intro kvs h
  have hs := slotsKVs_of_hasSlot kvs h
  rw [evalKVs_subst req es env kvs, evalKVs_subst req es env' kvs, substKVs_noSlots env kvs hs, substKVs_noSlots env' kvs hs]

theorem Y_env (σ : Mapper) {r : Expr} (h : r.hasSlot = false) : Y σ req es env r = Y σ req es env' r := by
  simp only [Y]
  exact evaluate_env req es env env' _ (by rw [hasSlot_substUnk]; exact h)

end

/-- no residual of the partial response kept a template slot (`residualPoliciesPanic = false`), policy by policy: the
    residual means the same in the empty slot environment of the static policy `reauthorize` builds from it -/
theorem static_of_panicFree (σ : Mapper) (req : Request) (es : Entities) (preq : PRequest) (pes : PEntities) (ps : List Policy)
    (hslot : (isAuthorizedCore [] preq pes ps).residualPoliciesPanic = false) {p : Policy} (hp : p ∈ ps) (r : Expr)
    (hr : partialEvaluate [] preq pes p = .residual r) : Y σ req es [] r = Y σ req es p.env r := by
  refine Y_env req es [] p.env σ ?_
  have S := core_spec [] pes preq ps
  unfold PartialResponse.residualPoliciesPanic at hslot
  simp only [Bool.or_eq_false_iff, List.any_eq_false] at hslot
  cases he : p.effect with
  | permit =>
    have hm : (p.id, r) ∈ (isAuthorizedCore [] preq pes ps).residualPermits := (S.rp p.id r).mpr ⟨p, hp, rfl, he, hr⟩
    simpa using hslot.1 _ hm
  | forbid =>
    have hm : (p.id, r) ∈ (isAuthorizedCore [] preq pes ps).residualForbids := (S.rf p.id r).mpr ⟨p, hp, rfl, he, hr⟩
    simpa using hslot.2 _ hm

section
variable (σ : Mapper) (req : Request) (es : Entities)

/-- `Consistent`, the hypothesis of `table_sound`, for a policy of the fragment without unknown nodes in its text (`hsub`): C01's
    `p.outcome` evaluates the condition as written, first-pass soundness speaks of the substituted one -/
theorem consistent_of_sound
    (preq : PRequest) (pes : PEntities)
    (p : Policy) (hS' : Sound2 σ req es p.env (Y σ req es p.env p.condition) (pinterp [] preq pes p.env defaultFuel p.condition))
    (hsub : p.condition.substUnk σ = p.condition)
    (hns1 : partialEvaluate [] preq pes p ≠ .stuck) :
    Consistent (partialEvaluate [] preq pes p) (p.outcome req es) := by
  rw [sound2_eq, Y, hsub] at hS'
  exact consistent_of_soundG req es preq pes p hS' hns1

/-- `hbr`: the second pass on `pes2` computes `evaluate ∘ substUnk σ` on a fragment residual (`bridge` for the substituted store,
    `bridge_direct` for the unsubstituted store with direct unknowns only).  Only a residual needs `hbr`, and `hstatic`: the
    residual policy has no slot environment. -/
theorem policyAgreesOn_of_sound (pes2 : PEntities)
    (hbr : ∀ r, Frag2 σ r → Means σ (.ofConcrete req) pes2 [] r (evaluate req es [] (r.substUnk σ)))
    (preq : PRequest) (pes : PEntities)
    (p : Policy) (hS' : Sound2 σ req es p.env (Y σ req es p.env p.condition) (pinterp [] preq pes p.env defaultFuel p.condition))
    (hsub : p.condition.substUnk σ = p.condition)
    (hstatic : ∀ r, partialEvaluate [] preq pes p = .residual r → Y σ req es [] r = Y σ req es p.env r)
    (hns2 : ∀ q, residualPolicy (partialEvaluate [] preq pes p) p = some q →
      partialEvaluate σ (.ofConcrete req) pes2 q ≠ .stuck)
    (hns1 : partialEvaluate [] preq pes p ≠ .stuck) :
    PolicyAgreesOn pes2 σ preq pes req es p := by
  refine policyAgreesOn_of_soundG σ req es pes2 preq pes p (G := Value.Canon) ?_ hns2 hns1
  rw [sound2_eq, Y, hsub] at hS'
  cases hx : pinterp [] preq pes p.env defaultFuel p.condition with
  | res r =>
    rw [hx] at hS'
    have hst : Y σ req es [] r = Y σ req es p.env r := hstatic r (by rw [partialEvaluate_eq, hx]; rfl)
    exact fun n => sem_of_agree (hbr r hS'.2.2 n) (by rw [show evaluate req es [] (r.substUnk σ) = Y σ req es [] r from rfl, hst]; exact hS'.1)
  | _ => rw [hx] at hS'; exact hS'

end

section
variable (σ : Mapper) (req : Request) (es : Entities)

/-- the policy level, once, for every store `pes2` the second pass may read.  `hsound`: first-pass soundness per policy
    (`sound_of_mentioned`, `pinterp_sound_concrete`); `hbr`: `bridge`, `bridge_direct` -/
theorem authorization_sound_of (pes2 : PEntities)
    (hbr : ∀ r, Frag2 σ r → Means σ (.ofConcrete req) pes2 [] r (evaluate req es [] (r.substUnk σ)))
    (preq : PRequest) (pes : PEntities) (ps : List Policy)
    (hsound : ∀ p, p ∈ ps →
      Sound2 σ req es p.env (Y σ req es p.env p.condition) (pinterp [] preq pes p.env defaultFuel p.condition))
    (hnu : ∀ p, p ∈ ps → p.condition.unknowns = [])
    (hreq : (isAuthorizedCore [] preq pes ps).concretizeRequest σ = .ok (.ofConcrete req))
    (hslot : (isAuthorizedCore [] preq pes ps).residualPoliciesPanic = false)
    (hfuel1 : ∀ p, p ∈ ps → partialEvaluate [] preq pes p ≠ .stuck)
    (hfuel2 : ∀ p, p ∈ ps → ∀ q, residualPolicy (partialEvaluate [] preq pes p) p = some q →
      partialEvaluate σ (.ofConcrete req) pes2 q ≠ .stuck) :
    let pr := isAuthorizedCore [] preq pes ps
    (∃ pr2, pr.reauthorize σ pes2 = .ok pr2 ∧
      pr2.decision = some (isAuthorized req es ps).decision ∧
      pr2.concretize.decision = (isAuthorized req es ps).decision ∧
      (∀ id, id ∈ pr2.concretize.reasons ↔ id ∈ (isAuthorized req es ps).reasons)) ∧
    (∀ d, pr.decision = some d → (isAuthorized req es ps).decision = d) ∧
    (∀ id, id ∈ pr.mustBeDetermining → id ∈ (isAuthorized req es ps).reasons) ∧
    (∀ id, id ∈ (isAuthorized req es ps).reasons → id ∈ pr.mayBeDetermining) := by
  intro pr
  obtain ⟨h1, h2, h3, _⟩ := definite_of_consistent req es preq pes ps fun p hp =>
    consistent_of_sound σ req es preq pes p (hsound p hp) (substUnk_of_noUnk σ _ (hnu p hp)) (hfuel1 p hp)
  exact ⟨reauthorize_core_on pes2 σ preq pes ps req es hreq hslot fun p hp =>
    policyAgreesOn_of_sound σ req es pes2 hbr preq pes p (hsound p hp) (substUnk_of_noUnk σ _ (hnu p hp))
      (static_of_panicFree σ req es preq pes ps hslot hp) (hfuel2 p hp) (hfuel1 p hp), h1, h2, h3⟩

/-- the uids a policy SET can dereference in the first pass (empty mapper): per policy, `mentioned` with its slot environment -/
def mentionedPolicies (preq : PRequest) (pes : PEntities) (ps : List Policy) : List EntityUID :=
  ps.flatMap fun p => mentioned [] preq pes p.env p.condition

theorem sound_of_mentioned (hctx : (Value.record req.context).Canon) (preq : PRequest) (pes : PEntities)
    {U : EntityUID → Prop} (hS : StoreCompletesOn U σ pes es) (hC : Concretizes2 σ es preq req)
    (p : Policy) (hU : ∀ u, u ∈ mentioned [] preq pes p.env p.condition → U u) (hf : Frag2 σ p.condition) :
    Sound2 σ req es p.env (Y σ req es p.env p.condition) (pinterp [] preq pes p.env defaultFuel p.condition) :=
  pinterp_sound_mentioned σ req es p.env hctx [] preq pes defaultFuel p.condition (hS.mono hU) (MapLE.nil σ) hC hf

end

def isStuck : PolicyResult → Bool
  | .stuck => true
  | _ => false

/-- neither pass exhausts the model's recursion budget, the second pass reading the store `pes2` -/
def fuelOKOn (pes2 : PEntities) (σ : Mapper) (req : Request) (preq : PRequest) (pes : PEntities) (ps : List Policy) : Bool :=
  ps.all fun p => !isStuck (partialEvaluate [] preq pes p) &&
    (match residualPolicy (partialEvaluate [] preq pes p) p with
     | some q => !isStuck (partialEvaluate σ (.ofConcrete req) pes2 q)
     | none => true)

theorem fuelOKOn_spec {pes2 : PEntities} {σ : Mapper} {req : Request} {preq : PRequest} {pes : PEntities} {ps : List Policy}
    (h : fuelOKOn pes2 σ req preq pes ps = true) :
    (∀ p, p ∈ ps → partialEvaluate [] preq pes p ≠ .stuck) ∧
    (∀ p, p ∈ ps → ∀ q, residualPolicy (partialEvaluate [] preq pes p) p = some q →
      partialEvaluate σ (.ofConcrete req) pes2 q ≠ .stuck) := by
  unfold fuelOKOn at h
  rw [List.all_eq_true] at h
  constructor
  · intro p hp hs
    have := h p hp
    rw [hs] at this
    simp [isStuck] at this
  · intro p hp q hq hs
    have := h p hp
    rw [hq] at this
    simp only [Bool.and_eq_true] at this
    have h2 := this.2
    rw [hs] at h2
    simp [isStuck] at h2

def fuelOK (σ : Mapper) (req : Request) (es : Entities) (preq : PRequest) (pes : PEntities) (ps : List Policy) : Bool :=
  ps.all fun p => !isStuck (partialEvaluate [] preq pes p) &&
    (match residualPolicy (partialEvaluate [] preq pes p) p with
     | some q => !isStuck (partialEvaluate σ (.ofConcrete req) (.ofConcrete es) q)
     | none => true)

theorem fuelOK_spec {σ : Mapper} {req : Request} {es : Entities} {preq : PRequest} {pes : PEntities} {ps : List Policy}
    (h : fuelOK σ req es preq pes ps = true) :
    (∀ p, p ∈ ps → partialEvaluate [] preq pes p ≠ .stuck) ∧
    (∀ p, p ∈ ps → ∀ q, residualPolicy (partialEvaluate [] preq pes p) p = some q →
      partialEvaluate σ (.ofConcrete req) (.ofConcrete es) q ≠ .stuck) :=
  fuelOKOn_spec (pes2 := .ofConcrete es) h

end PS
end Cedar
