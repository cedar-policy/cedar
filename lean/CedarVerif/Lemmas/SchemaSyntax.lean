import CedarVerif.Cedar.SchemaSyntax
/- The parser inverts the printer on Cedar type expressions; what translation through the Cedar syntax does to JSON type
expressions and to name resolution. -/
namespace Cedar.SchemaSyntax

theorem ofComps_append (p : List String) (b s : String) : QName.ofComps s (p ++ [b]) = ⟨s :: p, b⟩ := by
  induction p generalizing s with
  | nil => simp [QName.ofComps]
  | cons a p ih => simp [QName.ofComps, ih]

/-- the continuation does not extend a path (`::`) nor turn a leading `Set` into a set type (`<`) -/
def OkRest : List Tok → Prop
  | .dcolon :: _ => False
  | .lt :: _ => False
  | _ => True

theorem parsePathTail_end (rest : List Tok) (hr : OkRest rest) : parsePathTail rest = some ([], rest) := by
  unfold parsePathTail
  split
  · exact hr.elim
  · exact hr.elim
  · rfl

theorem parsePathTail_print (cs : List String) (rest : List Tok)
    (hv : ∀ c ∈ cs, validId c = true) (hr : OkRest rest) :
    parsePathTail (printPathTail cs ++ rest) = some (cs, rest) := by
  induction cs with
  | nil => exact parsePathTail_end rest hr
  | cons c cs ih =>
    have hc : validId c = true := hv c (by simp)
    have ih' := ih (fun x hx => hv x (by simp [hx]))
    simp [printPathTail, parsePathTail, hc, ih']

theorem printName_eq (q : QName) :
    ∃ s cs, q.comps = s :: cs ∧ printName q = .id s :: printPathTail cs ∧ QName.ofComps s cs = q := by
  obtain ⟨path, base⟩ := q
  cases path with
  | nil => exact ⟨base, [], rfl, rfl, rfl⟩
  | cons s path => exact ⟨s, path ++ [base], rfl, rfl, ofComps_append path base s⟩

theorem parsePath_print (q : QName) (rest : List Tok) (hv : ∀ c ∈ q.comps, validId c = true) (hr : OkRest rest) :
    ∃ s tl, printName q ++ rest = .id s :: tl ∧ parsePath s tl = some (.ident q, rest) := by
  obtain ⟨s, cs, hc, hp, hq⟩ := printName_eq q
  rw [hc] at hv
  refine ⟨s, printPathTail cs ++ rest, by rw [hp]; rfl, ?_⟩
  simp only [parsePath, hv s (by simp), if_true, parsePathTail_print cs rest (fun c h => hv c (by simp [h])) hr, hq]

mutual
def sizeC : TyCedar → Nat
  | .ident _ => 1
  | .set e => sizeC e + 1
  | .record attrs => sizeA attrs + 1
def sizeA : AttrsC → Nat
  | .nil => 0
  | .cons _ _ t rest => sizeC t + sizeA rest + 1
end

mutual
/-- every path component is an identifier the grammar's `Ident` accepts (true of every name a loaded schema contains) -/
def WFC : TyCedar → Prop
  | .ident p => ∀ c ∈ p.comps, validId c = true
  | .set e => WFC e
  | .record attrs => WFA attrs
def WFA : AttrsC → Prop
  | .nil => True
  | .cons _ _ t rest => WFC t ∧ WFA rest
end

theorem parseAttrNameTok_attrName (n : String) : parseAttrNameTok (attrName n) = some n := by
  unfold attrName
  split
  · rename_i h
    have : validId n = true := by
      simp [isNormalizedIdent] at h
      simp [validId, h.1.2]
    simp [parseAttrNameTok, this]
  · simp [parseAttrNameTok]

theorem attrName_cases (n : String) : attrName n = .id n ∨ attrName n = .str n := by
  unfold attrName; split <;> simp

/-- an identifier not followed by `<` starts a path, `Set` included -/
theorem parseC_id (s : String) (fuel : Nat) (r : List Tok) (h : ∀ r1, r ≠ .lt :: r1) :
    parseC (fuel + 1) (.id s :: r) = parsePath s r := by
  simp only [parseC]
  split <;> rfl

theorem parseC_ident (p : QName) (fuel : Nat) (rest : List Tok)
    (hv : ∀ c ∈ p.comps, validId c = true) (hr : OkRest rest) :
    parseC (fuel + 1) (printName p ++ rest) = some (.ident p, rest) := by
  obtain ⟨s, tl, h1, h2⟩ := parsePath_print p rest hv hr
  obtain ⟨s', cs, -, hp, -⟩ := printName_eq p
  rw [h1, parseC_id s fuel tl, h2]
  -- what follows the first component is `::` or the continuation
  rw [hp] at h1
  obtain ⟨-, rfl⟩ := List.cons.inj h1
  cases cs with
  | nil => intro r1 (h : rest = .lt :: r1); rw [h] at hr; exact hr
  | cons c cs => intro r1 h; cases h

theorem printAttrsC_cons_head (n : String) (req : Bool) (t : TyCedar) (rest : AttrsC) :
    ∃ tl, printAttrsC (.cons n req t rest) = attrName n :: tl := by
  simp [printAttrsC]

theorem printAttrsC_cons_cons (n : String) (req : Bool) (t : TyCedar) (n2 : String) (r2 : Bool) (t2 : TyCedar) (m2 : AttrsC) :
    printAttrsC (.cons n req t (.cons n2 r2 t2 m2)) =
      attrName n :: ((if req then [] else [.q]) ++ .colon :: (printC t ++ .comma :: printAttrsC (.cons n2 r2 t2 m2))) := by
  rw [printAttrsC]

mutual
theorem parseC_print (c : TyCedar) (h : WFC c) (fuel : Nat) (rest : List Tok)
    (hf : sizeC c ≤ fuel) (hr : OkRest rest) :
    parseC fuel (printC c ++ rest) = some (c, rest) := by
  match c, fuel with
  | .ident p, fuel + 1 =>
    simp only [printC]
    exact parseC_ident p fuel rest (by simpa [WFC] using h) hr
  | .ident p, 0 => simp [sizeC] at hf
  | .set e, 0 => simp [sizeC] at hf
  | .record _, 0 => simp [sizeC] at hf
  | .set e, fuel + 1 =>
    have ih := parseC_print e (by simpa [WFC] using h) fuel (.gt :: rest) (by simp [sizeC] at hf; omega) trivial
    simp only [printC, List.cons_append, List.append_assoc]
    simp [parseC, ih]
  | .record .nil, fuel + 1 =>
    simp [printC, printAttrsC, parseC]
  | .record (.cons n req t more), fuel + 1 =>
    have ih := parseAttrs_print (.cons n req t more) (by simp) (by simpa [WFC] using h) fuel rest (by simp [sizeC] at hf; omega)
    obtain ⟨tl, htl⟩ := printAttrsC_cons_head n req t more
    simp only [printC, List.cons_append, List.append_assoc] at ih ⊢
    rw [htl] at ih ⊢
    -- the first token is a name, not `}`
    rcases attrName_cases n with hn | hn <;> rw [hn] at ih ⊢ <;> simp only [List.cons_append] at ih ⊢ <;> simp [parseC, ih]
theorem parseAttrs_print (a : AttrsC) (hne : a ≠ .nil) (h : WFA a) (fuel : Nat) (rest : List Tok) (hf : sizeA a ≤ fuel) :
    parseDecls fuel (printAttrsC a ++ .rb :: rest) = some (a, rest) := by
  match a, fuel with
  | .nil, _ => exact absurd rfl hne
  | .cons _ _ _ _, 0 => simp [sizeA] at hf
  | .cons n req t .nil, fuel + 1 =>
    have hw : WFC t ∧ WFA .nil := by simpa [WFA] using h
    have ih := parseC_print t hw.1 fuel (.rb :: rest) (by simp [sizeA] at hf; omega) trivial
    cases req <;> simp [printAttrsC, parseDecls, parseAttrNameTok_attrName, ih]
  | .cons n req t (.cons n2 req2 t2 more2), fuel + 1 =>
    have hw : WFC t ∧ WFA (.cons n2 req2 t2 more2) := by simpa [WFA] using h
    have ih2 := parseAttrs_print (.cons n2 req2 t2 more2) (by simp) hw.2 fuel rest (by simp [sizeA] at hf ⊢; omega)
    obtain ⟨tl, htl⟩ := printAttrsC_cons_head n2 req2 t2 more2
    have ih := parseC_print t hw.1 fuel (.comma :: (printAttrsC (.cons n2 req2 t2 more2) ++ .rb :: rest))
      (by simp [sizeA] at hf; omega) trivial
    rw [printAttrsC_cons_cons]
    generalize printAttrsC (.cons n2 req2 t2 more2) = P at *
    subst htl
    -- after the comma comes a name, not `}`: the list goes on
    rcases attrName_cases n2 with hn | hn <;> rw [hn] at ih ih2 ⊢ <;> simp only [List.cons_append] at ih ih2 ⊢ <;>
      cases req <;> simp [parseDecls, parseAttrNameTok_attrName, ih, ih2]
end

theorem parseDecls_print (n : String) (req : Bool) (t : TyCedar) (more : AttrsC) (h : WFA (.cons n req t more))
    (fuel : Nat) (rest : List Tok) (hf : sizeA (.cons n req t more) ≤ fuel) :
    parseDecls fuel (printAttrsC (.cons n req t more) ++ .rb :: rest) = some (.cons n req t more, rest) :=
  parseAttrs_print _ (by simp) h fuel rest hf

mutual
theorem sizeC_le_length (c : TyCedar) : sizeC c ≤ (printC c).length := by
  match c with
  | .ident p =>
    obtain ⟨path, base⟩ := p
    cases path <;> simp [sizeC, printC, printName, QName.comps]
  | .set e =>
    have := sizeC_le_length e
    simp [sizeC, printC]; omega
  | .record attrs =>
    have := sizeA_le_length attrs
    simp [sizeC, printC]; omega
theorem sizeA_le_length (a : AttrsC) : sizeA a ≤ (printAttrsC a).length := by
  match a with
  | .nil => simp [sizeA]
  | .cons n req t more =>
    have h1 := sizeC_le_length t
    have h2 := sizeA_le_length more
    cases more with
    | nil => simp only [sizeA, printAttrsC, List.length_cons, List.length_append, List.length_nil]; omega
    | cons n2 r2 t2 m2 =>
      rw [printAttrsC_cons_cons]
      simp only [sizeA, List.length_cons, List.length_append] at h2 ⊢
      omega
end

mutual
theorem printTy_eq_printC (τ : TyJson) : printTy τ = printC (toCedar τ) := by
  match τ with
  | .bool | .long | .string | .ext _ | .entity _ | .entityOrCommon _ | .commonRef _ => simp [printTy, toCedar, printC]
  | .set e => simp [printTy, toCedar, printC, printTy_eq_printC e]
  | .record attrs => simp [printTy, toCedar, printC, printAttrsJ_eq attrs]
theorem printAttrsJ_eq (a : AttrsJ) : printAttrsJ a = printAttrsC (toCedarAttrs a) := by
  match a with
  | .nil => simp [printAttrsJ, toCedarAttrs, printAttrsC]
  | .cons n req t .nil => simp [printAttrsJ, toCedarAttrs, printAttrsC, printTy_eq_printC t]
  | .cons n req t (.cons n2 r2 t2 m2) =>
    have ih := printAttrsJ_eq (.cons n2 r2 t2 m2)
    have e1 : printAttrsJ (.cons n req t (.cons n2 r2 t2 m2)) =
        attrName n :: ((if req then [] else [.q]) ++ .colon :: (printTy t ++ .comma :: printAttrsJ (.cons n2 r2 t2 m2))) := by
      rw [printAttrsJ]
    have e2 : toCedarAttrs (.cons n req t (.cons n2 r2 t2 m2)) = .cons n req (toCedar t) (toCedarAttrs (.cons n2 r2 t2 m2)) := by
      rw [toCedarAttrs]
    have e3 : toCedarAttrs (.cons n2 r2 t2 m2) = .cons n2 r2 (toCedar t2) (toCedarAttrs m2) := by
      rw [toCedarAttrs]
    rw [e1, e2, ih, printTy_eq_printC t, e3, printAttrsC_cons_cons]
end

mutual
/-- names are made of identifiers the grammar accepts (guaranteed by `from_normalized_str` for every name of a loaded JSON schema) -/
def WFJ : TyJson → Prop
  | .bool | .long | .string => True
  | .ext n => validId n = true
  | .entity n | .entityOrCommon n | .commonRef n => ∀ c ∈ n.comps, validId c = true
  | .set e => WFJ e
  | .record attrs => WFAJ attrs
def WFAJ : AttrsJ → Prop
  | .nil => True
  | .cons _ _ t rest => WFJ t ∧ WFAJ rest
end

theorem validId_cedarName (b : String) (hb : validId b = true) : ∀ c ∈ (cedarName b).comps, validId c = true := by
  intro c hc
  rcases List.mem_cons.1 hc with rfl | hc
  · decide +kernel
  · rcases List.mem_cons.1 hc with rfl | hc
    · exact hb
    · cases hc

mutual
theorem wfc_toCedar (τ : TyJson) (h : WFJ τ) : WFC (toCedar τ) := by
  match τ with
  | .bool => exact validId_cedarName "Bool" (by decide +kernel)
  | .long => exact validId_cedarName "Long" (by decide +kernel)
  | .string => exact validId_cedarName "String" (by decide +kernel)
  | .ext n => exact validId_cedarName n h
  | .entity n | .entityOrCommon n | .commonRef n => simpa [toCedar, WFC, WFJ] using h
  | .set e => simpa [toCedar, WFC] using wfc_toCedar e (by simpa [WFJ] using h)
  | .record attrs => simpa [toCedar, WFC] using wfa_toCedar attrs (by simpa [WFJ] using h)
theorem wfa_toCedar (a : AttrsJ) (h : WFAJ a) : WFA (toCedarAttrs a) := by
  match a with
  | .nil => simp [toCedarAttrs, WFA]
  | .cons n req t rest =>
    have hw : WFJ t ∧ WFAJ rest := by simpa [WFAJ] using h
    simp only [toCedarAttrs, WFA]
    exact ⟨wfc_toCedar t hw.1, wfa_toCedar rest hw.2⟩
end

mutual
/-- what translation does to a type expression, stated directly: primitives and extension types become references to
their `__cedar::` definitions and every reference loses its kind (`Entity` / common-only ↦ `EntityOrCommon`) -/
def eocForm : TyJson → TyJson
  | .bool => .entityOrCommon (cedarName "Bool")
  | .long => .entityOrCommon (cedarName "Long")
  | .string => .entityOrCommon (cedarName "String")
  | .ext n => .entityOrCommon (cedarName n)
  | .entity n => .entityOrCommon n
  | .entityOrCommon n => .entityOrCommon n
  | .commonRef n => .entityOrCommon n
  | .set e => .set (eocForm e)
  | .record attrs => .record (eocFormAttrs attrs)
def eocFormAttrs : AttrsJ → AttrsJ
  | .nil => .nil
  | .cons n req t rest => .cons n req (eocForm t) (eocFormAttrs rest)
end

def keysJ : AttrsJ → List String
  | .nil => []
  | .cons n _ _ rest => n :: keysJ rest

def appendJ : AttrsJ → AttrsJ → AttrsJ
  | .nil, b => b
  | .cons n r t rest, b => .cons n r t (appendJ rest b)

mutual
/-- record attributes are in `BTreeMap` order: strictly ascending keys (at every nesting level) -/
def SortedT : TyJson → Prop
  | .set e => SortedT e
  | .record attrs => SortedA attrs
  | _ => True
def SortedA : AttrsJ → Prop
  | .nil => True
  | .cons n _ t rest => (∀ k ∈ keysJ rest, n < k) ∧ SortedT t ∧ SortedA rest
end

theorem insertJ_above (n : String) (req : Bool) (t : TyJson) (acc : AttrsJ) (h : ∀ k ∈ keysJ acc, k < n) :
    insertJ n req t acc = appendJ acc (.cons n req t .nil) := by
  match acc with
  | .nil => simp [insertJ, appendJ]
  | .cons n' r' t' rest =>
    have h1 : n' < n := h n' (by simp [keysJ])
    have h2 : ¬ n < n' := String.lt_asymm h1
    have h3 : n ≠ n' := fun e => String.lt_irrefl n (e ▸ h1)
    have ih' := insertJ_above n req t rest (fun k hk => h k (by simp [keysJ, hk]))
    simp [insertJ, appendJ, h2, h3, ih']

theorem keysJ_appendJ (a b : AttrsJ) : keysJ (appendJ a b) = keysJ a ++ keysJ b := by
  match a with
  | .nil => simp [appendJ, keysJ]
  | .cons n r t rest => simp [appendJ, keysJ, keysJ_appendJ rest b]

theorem appendJ_assoc_one (acc : AttrsJ) (n : String) (r : Bool) (t : TyJson) (b : AttrsJ) :
    appendJ (appendJ acc (.cons n r t .nil)) b = appendJ acc (.cons n r t b) := by
  match acc with
  | .nil => simp [appendJ]
  | .cons n' r' t' rest => simp [appendJ, appendJ_assoc_one rest n r t b]

theorem appendJ_nil (a : AttrsJ) : appendJ a .nil = a := by
  match a with
  | .nil => simp [appendJ]
  | .cons n r t rest => simp [appendJ, appendJ_nil rest]

mutual
theorem normalize_eq_eocForm (τ : TyJson) (h : SortedT τ) : toJson (toCedar τ) = eocForm τ := by
  match τ with
  | .bool | .long | .string | .ext _ | .entity _ | .entityOrCommon _ | .commonRef _ => simp [toCedar, toJson, eocForm]
  | .set e => simp [toCedar, toJson, eocForm, normalize_eq_eocForm e (by simpa [SortedT] using h)]
  | .record attrs =>
    have := collect_sorted attrs (by simpa [SortedT] using h) .nil (by simp [keysJ])
    simp [toCedar, toJson, eocForm, this, appendJ]
theorem collect_sorted (a : AttrsJ) (h : SortedA a) (acc : AttrsJ) (hacc : ∀ k ∈ keysJ a, ∀ k' ∈ keysJ acc, k' < k) :
    collectJ acc (toCedarAttrs a) = appendJ acc (eocFormAttrs a) := by
  match a with
  | .nil =>
    simp only [toCedarAttrs, collectJ, eocFormAttrs, appendJ_nil]
  | .cons n req t rest =>
    have hs : (∀ k ∈ keysJ rest, n < k) ∧ SortedT t ∧ SortedA rest := by simpa [SortedA] using h
    have ht := normalize_eq_eocForm t hs.2.1
    have hins := insertJ_above n req (eocForm t) acc (fun k hk => hacc n (by simp [keysJ]) k hk)
    have ih := collect_sorted rest hs.2.2 (appendJ acc (.cons n req (eocForm t) .nil)) (by
      intro k hk k' hk'
      rw [keysJ_appendJ] at hk'
      simp [keysJ] at hk'
      rcases hk' with hk' | rfl
      · exact hacc k (by simp [keysJ, hk]) k' hk'
      · exact hs.1 k hk)
    simp only [toCedarAttrs, collectJ, eocFormAttrs, ht, hins, ih, appendJ_assoc_one]
end

/-- declaration environments on which losing the kind of a reference is harmless -/
structure EnvOK (env : Env) : Prop where
  /-- no name is both a common type and an entity type (what fmt.rs checks, but only for non-empty namespaces) -/
  noClash : ∀ q, ¬ (env.isCommon q = true ∧ env.isEntity q = true)
  /-- no declaration in a non-empty namespace has the base name of something defined in the empty namespace
  (RFC 70, extended to the builtin aliases and the `Action` types, which the RFC 70 check of schema.rs does not see).
  Meant to exclude a user declaration `NS::b` beside a definition `b` of the empty namespace.  As written `ns` also ranges over
  the reserved namespace: `isCommon ⟨["__cedar"], "Bool"⟩` holds in every environment and `Bool` is always defined in the empty
  namespace (as the builtin alias, or by the user), so at `ns = ["__cedar"]` the clause asks for what no environment gives. -/
  noShadow : ∀ ns b, ns ≠ [] → (env.isCommon ⟨ns, b⟩ = true ∨ env.isEntity ⟨ns, b⟩ = true) →
    env.isCommon ⟨[], b⟩ = false ∧ env.isEntity ⟨[], b⟩ = false

theorem tryCandidate_either (env : Env) (kind : RefKind) (p : QName) (r : Resolved)
    (hc : ¬ (env.isCommon p = true ∧ env.isEntity p = true)) (h : tryCandidate env kind p = some r) :
    tryCandidate env .either p = some r := by
  unfold tryCandidate at h ⊢
  -- a kind only switches one of the two tests off; the answers differ in one case alone, `.entity` on a name that is both
  -- (it answers the entity type, `.either` the common type), and that is the clash `hc` excludes
  cases kind <;> cases hC : env.isCommon p <;> cases hE : env.isEntity p <;> simp_all

theorem tryCandidate_undefined (env : Env) (kind : RefKind) (p : QName) (hc : env.isCommon p = false) (he : env.isEntity p = false) :
    tryCandidate env kind p = none := by
  simp [tryCandidate, hc, he]

theorem defined_of_tryCandidate (env : Env) (kind : RefKind) (p : QName) (r : Resolved) (h : tryCandidate env kind p = some r) :
    env.isCommon p = true ∨ env.isEntity p = true := by
  cases hC : env.isCommon p with
  | true => exact Or.inl rfl
  | false =>
    cases hE : env.isEntity p with
    | true => exact Or.inr rfl
    | false => rw [tryCandidate_undefined env kind p hC hE] at h; cases h

theorem possibilities_cases (ns : List String) (n : QName) :
    possibilities ns n = [n] ∨ (ns ≠ [] ∧ n.path = [] ∧ possibilities ns n = [⟨ns, n.base⟩, n]) := by
  unfold possibilities
  split
  · split
    · exact Or.inl rfl
    · exact Or.inr ⟨‹_›, ‹_›, rfl⟩
  · exact Or.inl rfl

theorem resolveRef_kind_stable (env : Env) (ok : EnvOK env) (ns : List String) (kind : RefKind) (n : QName) (r : Resolved)
    (h : resolveRef env ns kind n = some r) : resolveRef env ns .either n = some r := by
  have key := fun p => tryCandidate_either env kind p r (ok.noClash p)
  unfold resolveRef at h ⊢
  rcases possibilities_cases ns n with hp | ⟨hns, hpath, hp⟩ <;> rw [hp] at h ⊢
  · cases hA : tryCandidate env kind n with
    | none => simp [List.findSome?, hA] at h
    | some x =>
      simp only [List.findSome?, hA] at h
      simp only [List.findSome?, key n (hA.trans h)]
  · cases hA : tryCandidate env kind ⟨ns, n.base⟩ with
    | some x =>
      simp only [List.findSome?, hA] at h
      simp only [List.findSome?, key _ (hA.trans h)]
    | none =>
      -- the reference resolved through the empty namespace, so nothing of that base name is declared in `ns`
      obtain ⟨path, base⟩ := n
      subst hpath
      cases hB : tryCandidate env kind ⟨[], base⟩ with
      | none => simp [List.findSome?, hA, hB] at h
      | some y =>
        simp only [List.findSome?, hA, hB] at h
        have hd := defined_of_tryCandidate env kind _ y hB
        have hu : tryCandidate env .either ⟨ns, base⟩ = none := by
          apply tryCandidate_undefined
          · cases hC : env.isCommon ⟨ns, base⟩ with
            | false => rfl
            | true => have := ok.noShadow ns base hns (Or.inl hC); simp [this.1, this.2] at hd
          · cases hE : env.isEntity ⟨ns, base⟩ with
            | false => rfl
            | true => have := ok.noShadow ns base hns (Or.inr hE); simp [this.1, this.2] at hd
        simp only [List.findSome?, hu, key _ (hB.trans h)]

theorem resolveLeaf_kind_stable (env : Env) (ok : EnvOK env) (ns : List String) (kind : RefKind) (n : QName) (r : RTy)
    (h : resolveLeaf env ns kind n = some r) : resolveLeaf env ns .either n = some r := by
  simp only [resolveLeaf, Option.map_eq_some_iff] at h ⊢
  obtain ⟨x, hx, hc⟩ := h
  exact ⟨x, resolveRef_kind_stable env ok ns kind n x hx, hc⟩

theorem ext_is_builtin (n : String) (h : extensionNames.contains n = true) : builtinNames.contains n = true := by
  rw [List.contains_iff_mem] at h ⊢
  exact List.mem_append_right _ h

theorem resolveLeaf_cedar (env : Env) (hres : ∀ b, env.commons.contains (cedarName b) = false) (ns : List String) (b : String)
    (hb : builtinNames.contains b = true) : resolveLeaf env ns .either (cedarName b) = some (.builtin b) := by
  have hb' : b ∈ builtinNames := by simpa using hb
  have hr : ¬ (⟨["__cedar"], b⟩ : QName) ∈ env.commons := by simpa [cedarName] using hres b
  have hc : env.isCommon ⟨["__cedar"], b⟩ = true := by simp [Env.isCommon, hb']
  have hp : (cedarName b).path ≠ [] := by simp [cedarName]
  unfold resolveLeaf resolveRef possibilities
  simp only [hp, if_false, List.findSome?]
  unfold tryCandidate
  simp [hc, classify, hr, cedarName]

/-! ### what may follow a printed nonterminal

The prefix round trips hold for every continuation outside the follow set of the nonterminal: `OkRest` (a name is not continued by
`::` or `<`), `NoComma` (a comma-separated list is over), and, positively, `StartsWith ts` (the next token is one of `ts`), from which
the two negative ones are read off. -/

theorem okRest_id (s : String) (r : List Tok) : OkRest (.id s :: r) := by simp [OkRest]

def NoComma : List Tok → Prop
  | .comma :: _ => False
  | _ => True

def StartsWith (ts : List Tok) (R : List Tok) : Prop := ∃ t tl, R = t :: tl ∧ t ∈ ts

theorem StartsWith.mono {ts ts' R : List Tok} (h : StartsWith ts R) (hs : ts ⊆ ts') : StartsWith ts' R :=
  let ⟨t, tl, e, ht⟩ := h
  ⟨t, tl, e, hs ht⟩

theorem StartsWith.noComma {ts R : List Tok} (h : StartsWith ts R) (hc : Tok.comma ∉ ts) : NoComma R := by
  obtain ⟨t, tl, rfl, ht⟩ := h
  unfold NoComma
  split
  · rename_i heq
    exact hc ((List.cons.inj heq).1 ▸ ht)
  · trivial

theorem StartsWith.okRest {ts R : List Tok} (h : StartsWith ts R) (hd : Tok.dcolon ∉ ts) (hl : Tok.lt ∉ ts) : OkRest R := by
  obtain ⟨t, tl, rfl, ht⟩ := h
  unfold OkRest
  split
  · rename_i heq
    exact hd ((List.cons.inj heq).1 ▸ ht)
  · rename_i heq
    exact hl ((List.cons.inj heq).1 ▸ ht)
  · trivial

theorem printName_head (q : QName) : ∃ s tl, printName q = .id s :: tl := by
  obtain ⟨s, cs, -, hp, -⟩ := printName_eq q
  exact ⟨s, _, hp⟩

theorem printName_length (q : QName) : 1 ≤ (printName q).length := by
  obtain ⟨s, tl, h⟩ := printName_head q
  simp [h]

end Cedar.SchemaSyntax
