import CedarVerif.Lemmas.LevelValues
/-
`Ok n act te` — the typed expression `te` passed the level checker in one of its two roles (as an ordinary
expression: `checkExpr = []`, or as a dereference target along some access path: `derefErrs = []` and level `< n`) — is
inherited by every immediate sub-expression that the checker visits, in the role the checker visits it in: the first operand
of `in`/`hasTag`/`getTag` and an entity-kinded target of `.`/`has` as dereference targets (`DerefOk`), the rest in either role.
-/
namespace Cedar.Level
open Cedar Cedar.Slice

def Ok (n : Nat) (act : EntityUID) (te : TExpr) : Prop :=
  checkExpr n act te = [] ∨ ∃ p, derefErrs n act te p = [] ∧ derefLevel act te p < n

def OkList (n : Nat) (act : EntityUID) (ts : List TExpr) : Prop := ∀ t, t ∈ ts → Ok n act t
def OkKVs (n : Nat) (act : EntityUID) (kvs : List (String × TExpr)) : Prop := ∀ kv, kv ∈ kvs → Ok n act kv.2

variable {req : Request} {es : Entities} {sl : SlotEnv} {n : Nat} {act : EntityUID}

def DerefOk (n : Nat) (act : EntityUID) (te : TExpr) : Prop := ∃ p, derefErrs n act te p = [] ∧ derefLevel act te p < n

/-- what the checker asks of the target of `.`/`has` under the kind annotation `k` -/
def OkTarget (n : Nat) (act : EntityUID) : TKind → TExpr → Prop
  | .entity, e => DerefOk n act e
  | .record, e => Ok n act e
  | .other, _ => False

theorem OkTarget.ok {k : TKind} {e : TExpr} (h : OkTarget n act k e) : Ok n act e := by
  cases k with
  | entity => exact Or.inr h
  | record => exact h
  | other => exact h.elim

theorem Ok.unary {op : UnaryOp} {a : TExpr} (h : Ok n act (.unaryApp op a)) : Ok n act a := by
  rcases h with h | ⟨p, h, _⟩
  · exact Or.inl (by simpa [checkExpr] using h)
  · cases h

theorem Ok.like {a : TExpr} {pat : Pattern} (h : Ok n act (.like a pat)) : Ok n act a := by
  rcases h with h | ⟨p, h, _⟩
  · exact Or.inl (by simpa [checkExpr] using h)
  · cases h

theorem Ok.is {a : TExpr} {ty : EntityType} (h : Ok n act (.is a ty)) : Ok n act a := by
  rcases h with h | ⟨p, h, _⟩
  · exact Or.inl (by simpa [checkExpr] using h)
  · cases h

theorem Ok.and {a b : TExpr} (h : Ok n act (.and a b)) : Ok n act a ∧ Ok n act b := by
  rcases h with h | ⟨p, h, _⟩
  · simp only [checkExpr, List.append_eq_nil_iff] at h
    exact ⟨Or.inl h.1, Or.inl h.2⟩
  · cases h

theorem Ok.or {a b : TExpr} (h : Ok n act (.or a b)) : Ok n act a ∧ Ok n act b := by
  rcases h with h | ⟨p, h, _⟩
  · simp only [checkExpr, List.append_eq_nil_iff] at h
    exact ⟨Or.inl h.1, Or.inl h.2⟩
  · cases h

theorem Ok.ite {c t e : TExpr} (h : Ok n act (.ite c t e)) : Ok n act c ∧ Ok n act t ∧ Ok n act e := by
  rcases h with h | ⟨p, h, hl⟩
  · simp only [checkExpr, List.append_eq_nil_iff] at h
    exact ⟨Or.inl h.1, Or.inl h.2.1, Or.inl h.2.2⟩
  · simp only [derefErrs, List.append_eq_nil_iff] at h
    simp only [derefLevel] at hl
    exact ⟨Or.inl h.1, Or.inr ⟨p, h.2.1, by omega⟩, Or.inr ⟨p, h.2.2, by omega⟩⟩

theorem Ok.binaryArgs {op : BinaryOp} {a b : TExpr} (h : Ok n act (.binaryApp op a b)) :
    (if isDerefOp op = true then DerefOk n act a else Ok n act a) ∧ Ok n act b := by
  rcases h with h | ⟨p, h, hl⟩
  · simp only [checkExpr] at h
    split at h <;> simp only [List.append_eq_nil_iff] at h
    next hop => exact ⟨(if_pos hop).mpr ⟨[], h.1, exceeds_nil_iff.mp h.2.1⟩, Or.inl h.2.2⟩
    next hop => exact ⟨(if_neg hop).mpr (Or.inl h.1), Or.inl h.2⟩
  · cases op <;> simp only [derefErrs, List.append_eq_nil_iff] at h <;> try (simp at h)
    simp only [derefLevel] at hl
    exact ⟨(if_pos rfl).mpr ⟨p, h.1, by omega⟩, Or.inl h.2⟩

theorem Ok.binary {op : BinaryOp} {a b : TExpr} (h : Ok n act (.binaryApp op a b)) : Ok n act a ∧ Ok n act b := by
  refine ⟨?_, h.binaryArgs.2⟩
  have ha := h.binaryArgs.1
  split at ha
  · exact Or.inr ha
  · exact ha

theorem Ok.getAttrTarget {k : TKind} {e : TExpr} {a : String} (h : Ok n act (.getAttr k e a)) : OkTarget n act k e := by
  rcases h with h | ⟨p, h, hl⟩
  · cases k with
    | entity =>
      simp only [checkExpr, List.append_eq_nil_iff] at h
      exact ⟨[], h.1, exceeds_nil_iff.mp h.2⟩
    | record => exact Or.inl (by simpa [checkExpr] using h)
    | other => simp [checkExpr] at h
  · cases k with
    | entity =>
      simp only [derefErrs] at h
      simp only [derefLevel] at hl
      exact ⟨p, h, by omega⟩
    | record =>
      simp only [derefErrs] at h
      simp only [derefLevel] at hl
      exact Or.inr ⟨a :: p, h, hl⟩
    | other => simp [derefErrs] at h

theorem Ok.hasAttrTarget {k : TKind} {e : TExpr} {a : String} (h : Ok n act (.hasAttr k e a)) : OkTarget n act k e := by
  rcases h with h | ⟨p, h, _⟩
  -- as an ordinary expression `has` is checked exactly like `.`
  · exact Ok.getAttrTarget (a := a) (Or.inl (by simpa only [checkExpr] using h))
  · cases h

theorem Ok.getAttr {k : TKind} {e : TExpr} {a : String} (h : Ok n act (.getAttr k e a)) : Ok n act e :=
  h.getAttrTarget.ok

theorem Ok.hasAttr {k : TKind} {e : TExpr} {a : String} (h : Ok n act (.hasAttr k e a)) : Ok n act e :=
  h.hasAttrTarget.ok

theorem okList_of_checkList : ∀ {ts : List TExpr}, checkList n act ts = [] → OkList n act ts
  | [], _ => by intro t ht; cases ht
  | x :: xs, h => by
    simp only [checkList, List.append_eq_nil_iff] at h
    intro t ht
    rcases List.mem_cons.mp ht with rfl | ht
    · exact Or.inl h.1
    · exact okList_of_checkList h.2 t ht

theorem okKVs_of_checkKVs : ∀ {kvs : List (String × TExpr)}, checkKVs n act kvs = [] → OkKVs n act kvs
  | [], _ => by intro t ht; cases ht
  | (k, x) :: xs, h => by
    simp only [checkKVs, List.append_eq_nil_iff] at h
    intro t ht
    rcases List.mem_cons.mp ht with rfl | ht
    · exact Or.inl h.1
    · exact okKVs_of_checkKVs h.2 t ht

theorem Ok.call {fn : String} {ts : List TExpr} (h : Ok n act (.call fn ts)) : OkList n act ts := by
  rcases h with h | ⟨p, h, _⟩
  · exact okList_of_checkList (by simpa [checkExpr] using h)
  · cases h

theorem Ok.set {ts : List TExpr} (h : Ok n act (.set ts)) : OkList n act ts := by
  rcases h with h | ⟨p, h, _⟩
  · exact okList_of_checkList (by simpa [checkExpr] using h)
  · cases h

theorem okKVs_of_derefErrsKVs (a : String) (p : List String) :
    ∀ {kvs : List (String × TExpr)}, derefErrsKVs n act a p kvs = [] →
      (∀ l, derefLevelKVs act a p kvs = some l → l < n) → OkKVs n act kvs
  | [], _, _ => by intro t ht; cases ht
  | (k, x) :: rest, h, hl => by
    simp only [derefErrsKVs, List.append_eq_nil_iff] at h
    simp only [derefLevelKVs] at hl
    have hrest : ∀ l, derefLevelKVs act a p rest = some l → l < n := by
      intro l hr
      exact hl l (by simp [hr])
    intro t ht
    rcases List.mem_cons.mp ht with rfl | ht
    · by_cases hc : (k == a && !hasKey a rest) = true
      · simp only [hc, if_true] at h
        simp only [Bool.and_eq_true, Bool.not_eq_true'] at hc
        have hnone := (derefLevelKVs_none_iff act a p rest).mpr hc.2
        exact Or.inr ⟨p, h.1, hl _ (by simp [hnone, hc.1])⟩
      · simp only [hc, Bool.false_eq_true, if_false] at h
        exact Or.inl h.1
    · exact okKVs_of_derefErrsKVs a p h.2 hrest t ht

theorem Ok.record {kvs : List (String × TExpr)} (h : Ok n act (.record kvs)) : OkKVs n act kvs := by
  rcases h with h | ⟨p, h, hl⟩
  · exact okKVs_of_checkKVs (by simpa [checkExpr] using h)
  · cases p with
    | nil => simp [derefErrs] at h
    | cons a p' =>
      simp only [derefErrs] at h
      cases hkey : hasKey a kvs with
      | false => simp [hkey] at h
      | true =>
        simp only [hkey, if_true] at h
        simp only [derefLevel] at hl
        refine okKVs_of_derefErrsKVs a p' h ?_
        intro l hlv
        simpa [hlv] using hl

theorem OkList.cons {t : TExpr} {ts : List TExpr} (h : OkList n act (t :: ts)) : Ok n act t ∧ OkList n act ts :=
  ⟨h t List.mem_cons_self, fun x hx => h x (List.mem_cons_of_mem _ hx)⟩

theorem OkKVs.cons {k : String} {t : TExpr} {ts : List (String × TExpr)} (h : OkKVs n act ((k, t) :: ts)) :
    Ok n act t ∧ OkKVs n act ts :=
  ⟨h (k, t) List.mem_cons_self, fun x hx => h x (List.mem_cons_of_mem _ hx)⟩

end Cedar.Level
