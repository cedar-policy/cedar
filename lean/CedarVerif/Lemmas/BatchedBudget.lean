import CedarVerif.Lemmas.BatchedMono
/- C15 helpers: the measure "ids of the universe not yet loaded" and termination of the loop of
   `is_authorized_batched` within `|universe|` rounds. -/
namespace Cedar.Batched
open Cedar Cedar.Tpe

theorem mem_dedup {x : EntityUID} {xs : List EntityUID} : x ∈ dedup xs ↔ x ∈ xs := by
  induction xs with
  | nil => simp [dedup]
  | cons a xs ih =>
    simp only [dedup]
    split
    · rename_i hc
      rw [ih]
      constructor
      · intro h; exact List.mem_cons_of_mem _ h
      · intro h
        rcases List.mem_cons.mp h with rfl | h
        · simpa using hc
        · exact h
    · simp [ih]

theorem find?_append (es es' : Tpe.PEntities) (u : EntityUID) :
    Tpe.PEntities.find? (es ++ es') u = (match Tpe.PEntities.find? es u with | some d => some d | none => Tpe.PEntities.find? es' u) := by
  simp only [Tpe.PEntities.find?_eq_assoc, assoc?_append]
  cases assoc? es u <;> rfl

theorem contains_append (es es' : Tpe.PEntities) (u : EntityUID) :
    Tpe.PEntities.contains (es ++ es') u = (Tpe.PEntities.contains es u || Tpe.PEntities.contains es' u) := by
  simp only [Tpe.PEntities.contains, find?_append]
  cases Tpe.PEntities.find? es u <;> simp

theorem addLoaded_contains {es es' : Tpe.PEntities} {l : List (EntityUID × Option EntityData)} (h : addLoaded es l = some es') (u : EntityUID) :
    (es.contains u = true → es'.contains u = true) ∧ (u ∈ l.map (·.1) → es'.contains u = true) := by
  induction l generalizing es with
  | nil => simp only [addLoaded, Option.some.injEq] at h; subst h; simp
  | cons a l ih =>
    obtain ⟨k, d⟩ := a
    simp only [addLoaded] at h
    split at h
    · cases h
    · obtain ⟨h1, h2⟩ := ih h
      have hk : Tpe.PEntities.contains (es ++ [(k, pentityOf d)]) k = true := by
        rw [contains_append]; simp [Tpe.PEntities.contains, Tpe.PEntities.find?]
      refine ⟨fun hc => h1 (by rw [contains_append, hc]; rfl), ?_⟩
      intro hm
      simp only [List.map_cons, List.mem_cons] at hm
      rcases hm with rfl | hm
      · exact h1 hk
      · exact h2 hm

def unseen (U : List EntityUID) (st : State) : Nat := (U.filter (fun u => !st.entities.contains u)).length

theorem filter_length_lt {α} (U : List α) (p q : α → Bool) (hpq : ∀ x, q x = true → p x = true)
    (hex : ∃ u, u ∈ U ∧ p u = true ∧ q u = false) : (U.filter q).length < (U.filter p).length := by
  induction U with
  | nil => obtain ⟨u, hu, _⟩ := hex; cases hu
  | cons a U ih =>
    have hle : (U.filter q).length ≤ (U.filter p).length := by
      clear ih hex
      induction U with
      | nil => simp
      | cons b U ih2 =>
        simp only [List.filter_cons]
        cases hq : q b
        · cases p b <;> simp <;> omega
        · simp [hpq b hq]; omega
    obtain ⟨u, hu, hp, hq⟩ := hex
    simp only [List.filter_cons]
    rcases List.mem_cons.mp hu with rfl | hu'
    · simp [hp, hq]; omega
    · have := ih ⟨u, hu', hp, hq⟩
      cases hqa : q a
      · cases p a <;> simp <;> omega
      · simp [hpq a hqa]; omega

def Complete (loader : Loader) : Prop := ∀ ids u, u ∈ ids → u ∈ (loader ids).map (·.1)

theorem unseen_decreases {req : Tpe.PRequest} {loader : Loader} (hl : Complete loader) {U : List EntityUID} {st st' : State}
    (h : step req loader st = some st') (hne : st.toLoad ≠ []) (hU : ∀ u, u ∈ st.toLoad → u ∈ U) :
    unseen U st' < unseen U st := by
  obtain ⟨es', ha, rfl⟩ := step_some h
  unfold unseen
  apply filter_length_lt
  · intro x hx
    simp only [Bool.not_eq_true'] at hx ⊢
    cases hc : st.entities.contains x
    · rfl
    · have := (addLoaded_contains ha x).1 hc; simp [this] at hx
  · obtain ⟨u, hu⟩ := List.exists_mem_of_ne_nil _ hne
    refine ⟨u, hU u hu, ?_, ?_⟩
    · have : u ∈ (st.residuals.flatMap (fun rp => rp.residual.uids)).filter (fun u => !st.entities.contains u) := mem_dedup.mp hu
      exact (List.mem_filter.mp this).2
    · have := (addLoaded_contains ha u).2 (hl _ u hu)
      simp [this]

theorem step_done {req : Tpe.PRequest} {loader : Loader} {st st' : State} (h : step req loader st = some st') (hd : st.done = true) :
    st'.done = true := by
  obtain ⟨_, _, rfl⟩ := step_some h
  simp only [State.done, List.all_eq_true, List.mem_map, forall_exists_index, and_imp, forall_apply_eq_imp_iff₂] at hd ⊢
  intro rp hrp
  have := hd rp hrp
  have hp : rp.residual.isPartial = false := by simpa using this
  simp [reinterpret, interpret_nonpartial _ _ _ hp, hp]

/-- an invariant of the loop together with what the budget argument needs of it -/
structure LoopInv (req : Tpe.PRequest) (loader : Loader) (U : List EntityUID) (Inv : State → Prop) : Prop where
  step : ∀ st st', Inv st → Batched.step req loader st = some st' → Inv st'
  /-- PROGRESS: a state with a `Partial` residual mentions an id that is not loaded (every `Partial` node produced by
      `interpret` under a concrete request sits above an entity whose data is missing) -/
  progress : ∀ st, Inv st → st.done = false → st.toLoad ≠ []
  /-- every id requested at a state of the invariant is in `U` (`Universe`: the ids of the request, the typed conditions and
      the attribute / tag values of the store) -/
  bounded : ∀ st, Inv st → ∀ u, u ∈ st.toLoad → u ∈ U
  boolTyped : ∀ st, Inv st → st.BoolTyped

theorem loop_terminates {req : Tpe.PRequest} {loader : Loader} {U : List EntityUID} {Inv : State → Prop}
    (hI : LoopInv req loader U Inv) (hok : StepOk req loader) (hl : Complete loader) :
    ∀ b st, Inv st → unseen U st < b → ∃ st', loop req loader b st = some st' ∧ st'.done = true ∧ Inv st' := by
  intro b
  induction b with
  | zero => intro st _ h; omega
  | succ n ih =>
    intro st hinv hlt
    obtain ⟨st1, hs⟩ := hok st
    have hinv1 := hI.step st st1 hinv hs
    simp only [loop, hs]
    cases hd1 : st1.done
    · simp only [Bool.false_eq_true, if_false]
      have hne : st.toLoad ≠ [] := by
        apply hI.progress st hinv
        cases hd : st.done
        · rfl
        · rw [step_done hs hd] at hd1; cases hd1
      have hdec := unseen_decreases hl hs hne (hI.bounded st hinv)
      exact ih st1 hinv1 (by omega)
    · exact ⟨st1, by simp, hd1, hinv1⟩

theorem unseen_le (U : List EntityUID) (st : State) : unseen U st ≤ U.length := by
  unfold unseen; exact List.length_filter_le _ _

end Cedar.Batched
