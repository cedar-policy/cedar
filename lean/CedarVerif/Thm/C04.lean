import CedarVerif.Lemmas.TCRemove
import CedarVerif.Lemmas.TCFrom
import CedarVerif.Lemmas.TCDedup
import CedarVerif.Cedar.Eval
import CedarVerif.Lemmas.Data
/-
C04 — Hierarchy membership equals parent-reachability after any store history.
Theorems about the mirror of `entities.rs` / `transitive_closure.rs` in `Cedar/TC.lean` (lemmas: Lemmas/TC*.lean).
 * `enforce_exact`, `enforce_reach`: what `enforce_tc_and_dag` accepts;
 * `repair_correct`: `repair_tc`, both directions;
 * `add_inv`, `upsert_inv`, `remove_inv`: each operation (ComputeNow, input without indirect ancestors) re-establishes
   `Inv` with the spec's parent graph and is rejected exactly when the spec says so;
 * `history_inv`, `in_iff_reach_history_full`: after any history of such operations `e in a` is reflexive
   parent-reachability;
 * `closure_correct_partial`: the one statement of which only a part is proved (`closure` stands for the unmirrored
   `compute_tc`).
Full statements are kept visible as `def …Full : Prop`. The `…_partial` theorems state a part of them or a reduction
to named residuals (`AcceptedAcyclic`, `UpsertMultiPreserves`, `FromPreserves`); all three residuals are proved, so
apart from `closure_correct_partial` and `repair_correct_partial` (the acyclic half of `repair_correct`) every
`…_partial` theorem is a corollary of its unconditional neighbour.
`upsert_entities` is mirrored with /repo's fix b19c617 (known_findings.jsonl `fixed: …
C04-upsert-batch-repeated-uid-stale-ancestor`): the collection is deduped first (`dedupLastAtFirstPos`: last value of
a uid, at the position of its first occurrence), then every uid is applied once. The code before the fix
(`upsertEntitiesPreFix`, `runOpsPreFix`) violates the invariant on a batch naming a uid twice
(`upsert_multi_repeated_uid_counterexample`, `upsert_multi_preserves_refuted`); on batches naming every uid once
the two coincide (`upsert_fix_conservative`).
-/
namespace Cedar.C04
open Cedar Cedar.TC

variable {α : Type} [DecidableEq α]

/-- out-edges are transitively closed -/
def TClosed (s : Store α) : Prop :=
  ∀ x n, (x, n) ∈ s → ∀ p, p ∈ n.out → ∀ pn, TC.get s p = some pn → ∀ g, g ∈ pn.out → g ∈ n.out

/-- no node has an out-edge to itself -/
def NoSelf (s : Store α) : Prop := ∀ x n, (x, n) ∈ s → x ∉ n.out

/-- C04: `enforce_tc_and_dag` accepts exactly the transitively closed stores without self-edge … -/
theorem enforce_exact (s : Store α) : enforceTcAndDag s = .ok () ↔ TClosed s ∧ NoSelf s := by
  unfold enforceTcAndDag TClosed NoSelf
  rw [← enforceTc_iff, ← enforceDag_iff]
  cases enforceTc s <;> cases enforceDag s <;> simp

/-- … and on such a store the ancestor listing is Reach⁺ over the out-edges, and the graph is acyclic. -/
theorem enforce_reach (s : Store α) (h : enforceTcAndDag s = .ok ()) :
    (∀ x n, TC.get s x = some n → ∀ y, y ∈ n.out ↔ Reach (outShape s) x y) ∧ ∀ x, ¬ Reach (outShape s) x x := by
  obtain ⟨ht, hd⟩ := (enforce_exact s).mp h
  obtain ⟨key, hac⟩ := closed_reach (P := outShape s) (fun x ps hps => by
    unfold outShape at hps
    cases hg : TC.get s x with
    | none => rw [hg] at hps; cases hps
    | some n => rw [hg] at hps; cases hps; exact ⟨n, rfl, fun _ hy => hy⟩)
    (enforceTc_iff.mpr ht) (enforceDag_iff.mpr hd)
  exact ⟨fun x n hx y => ⟨fun hy => Reach.edge (by simp [outShape, hx]) hy, fun hr => key x y hr n hx⟩, hac⟩

/-- a store accepted by `from_entities(…, EnforceAlreadyComputed)` is transitively closed and acyclic -/
theorem from_enforce_closed (es : List (α × Node α)) (s : Store α) (h : fromEntities .enforce es = .ok s) :
    TClosed s ∧ NoSelf s := by
  unfold fromEntities at h
  cases hc : createEntityMap es with
  | error e => rw [hc] at h; cases h
  | ok m =>
    rw [hc] at h
    simp only at h
    cases he : enforceTcAndDag m with
    | error e => rw [he] at h; cases h
    | ok u =>
      rw [he] at h
      cases h
      exact (enforce_exact _).mp he

example : enforceTcAndDag [(1, ({ parents := [2], indirect := [3] } : Node Nat)),
    (2, { parents := [3], indirect := [] })] = .ok () := by rfl
example : enforceTcAndDag [(1, ({ parents := [2], indirect := [] } : Node Nat)),
    (2, { parents := [3], indirect := [] })] = .error .missing := Res.eq_error (by decide +kernel)
example : enforceTcAndDag [(1, ({ parents := [2], indirect := [1] } : Node Nat)),
    (2, { parents := [1], indirect := [2] })] = .error .cycle := Res.eq_error (by decide +kernel)

/-- DESIGN's `closure_correct`, full statement: on a map with unique keys, `closure` succeeds iff the
    out-edge graph is acyclic, the result has the same records/parents and its ancestor listing is Reach⁺
    over the input's out-edges; otherwise it reports `cycle` (never `fuel`). -/
def ClosureCorrectFull (α : Type) [DecidableEq α] : Prop :=
  ∀ (s : Store α), (keys s).Nodup →
    ((∀ x, ¬ Reach (outShape s) x x) → ∃ s', closure s = .ok s' ∧ TC.Ext s s' ∧ Exact (outShape s) s') ∧
    ((∃ x, Reach (outShape s) x x) → closure s = .error .cycle)

/-- proved part of `ClosureCorrectFull`: whatever `closure` returns is transitively closed and has no
    self-edge (hence, by `enforce_reach`, its ancestor listing is Reach⁺ over its own out-edges and it is
    acyclic). MISSING: the relation to the input (same records, only justified edges added), that a cyclic
    input is reported as `cycle`, and that `Err.fuel` is unreachable. `closure` is a stand-in for the SCC
    algorithm `cyclic_tc`, which is not mirrored; `from_entities` is compared with the implementation on
    every generated history (all 729 parent graphs on ≤ 3 uids). -/
theorem closure_correct_partial (s s' : Store α) (h : closure s = .ok s') : TClosed s' ∧ NoSelf s' := by
  unfold closure at h
  simp only at h
  split at h
  · rename_i hst
    split at h
    · rename_i hd
      cases h
      exact ⟨enforceTc_iff.mp hst, enforceDag_iff.mp hd⟩
    · cases h
  · cases h

example : (closure [(0, ({ parents := [1], indirect := [] } : Node Nat)), (1, { parents := [2], indirect := [] }),
    (2, { parents := [], indirect := [] })]).toOption.map (fun s => ancestors s 0) = some [1, 2] := by decide +kernel
example : closure [(0, ({ parents := [1], indirect := [] } : Node Nat)), (1, { parents := [2], indirect := [] }),
    (2, { parents := [0], indirect := [] })] = .error .cycle := Res.eq_error (by decide +kernel)

/-- DESIGN's `repair_correct`, full statement: given justified edges and complete untouched nodes,
    `repair_tc` succeeds with an exactly closed store iff the parent graph is acyclic, and reports `cycle`
    otherwise. -/
def RepairCorrectFull (α : Type) [DecidableEq α] : Prop :=
  ∀ (s : Store α) (t : List α), Sound (shape s) s →
    (∀ k, k ∈ keys s → k ∉ t → Complete (shape s) s k) →
    (∀ x, Reach (shape s) x x → ∃ k, k ∈ t ∧ Reach (shape s) k k) →
    ((∀ x, ¬ Reach (shape s) x x) → ∃ s', repairTc t s = .ok s' ∧ TC.Ext s s' ∧ Exact (shape s) s') ∧
    ((∃ x, Reach (shape s) x x) → repairTc t s = .error .cycle)

/-- proved part of `RepairCorrectFull`: the acyclic direction (DFS with `seen`, outer loop over the touched
    nodes, no self-edge found, the `expect` site never reached). MISSING: on a cyclic graph a self-edge
    appears on some touched node (completeness of the two-scan cycle detection); that direction is
    `repairTc_complete`, the second half of `repair_correct`. -/
theorem repair_correct_partial (s : Store α) (t : List α) (hs : Sound (shape s) s)
    (hun : ∀ k, k ∈ keys s → k ∉ t → Complete (shape s) s k) (hacyc : ∀ x, ¬ Reach (shape s) x x) :
    ∃ s', repairTc t s = .ok s' ∧ TC.Ext s s' ∧ Exact (shape s) s' :=
  repairTc_ok s t (shape s) (shapeIs_shape s) hacyc hs hun

/-- rejection is sound on every graph: the only error is `cycle`, it is reported only if the parent
    graph has a cycle, and an accepted result contains only justified edges -/
theorem repair_rejects_only_cycles (s : Store α) (t : List α) (hs : Sound (shape s) s) :
    (∀ e, repairTc t s = .error e → e = .cycle ∧ ∃ x, Reach (shape s) x x) ∧
    (∀ s', repairTc t s = .ok s' → TC.Ext s s' ∧ Sound (shape s) s') := by
  obtain ⟨r1, r2, r3⟩ := repairTc_sound s t (shape s) hs
  exact ⟨fun e h => by have := r3 e h; subst this; exact ⟨rfl, r1 h⟩, fun s' h => ⟨(r2 s' h).1, (r2 s' h).2.1⟩⟩

/-- non-vacuity: a diamond with a stale-free touched node is repaired; a 3-cycle is rejected -/
example : (repairTc [0] [(0, ({ parents := [1, 2], indirect := [] } : Node Nat)),
    (1, { parents := [9], indirect := [] }), (2, { parents := [9], indirect := [] })]).toOption.map
      (fun s => ancestors s 0) = some [1, 2, 9] := by decide +kernel
example : repairTc [0, 1, 2] [(0, ({ parents := [1], indirect := [] } : Node Nat)),
    (1, { parents := [2], indirect := [] }), (2, { parents := [0], indirect := [] })] = .error .cycle :=
  Res.eq_error (by decide +kernel)

/-- `repair_correct` at full strength under the precondition the callers establish (justified edges;
    untouched records complete and WITHOUT SELF-EDGE — the last conjunct replaces the third hypothesis of
    `RepairCorrectFull`, which is too weak: a cycle among complete untouched records next to an unrelated
    touched cycle is not excluded by it): `repair_tc` succeeds with an exactly closed store iff the parent
    graph is acyclic and reports `cycle` otherwise -/
theorem repair_correct (s : Store α) (t : List α) (hs : Sound (shape s) s)
    (hun : ∀ k, k ∈ keys s → k ∉ t → Complete (shape s) s k)
    (hnoself : ∀ k n, TC.get s k = some n → k ∉ t → k ∉ n.out) :
    ((∀ x, ¬ Reach (shape s) x x) → ∃ s', repairTc t s = .ok s' ∧ TC.Ext s s' ∧ Exact (shape s) s') ∧
    ((∃ x, Reach (shape s) x x) → repairTc t s = .error .cycle) :=
  ⟨repair_correct_partial s t hs hun, repairTc_complete s t hun hnoself⟩

example : repairTc [0, 1, 2] [(0, ({ parents := [1], indirect := [] } : Node Nat)),
    (1, { parents := [2], indirect := [] }), (2, { parents := [0], indirect := [] }),
    (3, { parents := [0], indirect := [1, 2] })] = .error .cycle := Res.eq_error (by decide +kernel)

/-- `Inv` of DESIGN §6 C04: ancestors = Reach⁺ over direct-parent links of the records present, acyclic,
    parents ∩ indirect = ∅ -/
abbrev Inv (s : Store α) : Prop := StoreInv s

def Acyclic (g : PGraph α) : Prop := ∀ x, ¬ Reach (PGraph.get g) x x

theorem not_acyclic (g : PGraph α) : ¬ Acyclic g ↔ ∃ x, Reach (PGraph.get g) x x :=
  Classical.not_forall_not

/-- full statement for `add_entities`. PROVED: `add_inv`. -/
def AddInvFull (α : Type) [DecidableEq α] : Prop :=
  ∀ (s : Store α) (es : List (α × Node α)), Inv s → PureBatch es →
    (∀ s', addEntities .compute s es = .ok s' → Inv s' ∧ parentGraph s' = specAdd (parentGraph s) es) ∧
    (∀ e, addEntities .compute s es = .error e ↔
      (addLoop s [] es = .error e ∨
       (e = .cycle ∧ (∃ st, addLoop s [] es = .ok st) ∧ ¬ Acyclic (specAdd (parentGraph s) es))))

/-- `AddInvFull` holds: `add_entities` (ComputeNow, any batch without indirect ancestors) on a store
    satisfying the invariant is accepted exactly when the batch loop succeeds and the spec's parent graph
    is acyclic; then it re-establishes the invariant with the spec's parent graph; otherwise it reports
    the loop's `duplicate` resp. `cycle` -/
theorem add_inv : AddInvFull α := by
  intro s es hinv hp
  obtain ⟨a1, a2⟩ := addEntities_spec s es hinv hp
  exact ⟨a1, fun e => by rw [a2 e, not_acyclic]⟩

/-- `add_inv` weakened to implications: if the batch has no conflicting duplicate and the resulting parent graph
    is acyclic the operation succeeds, re-establishes `Inv` and yields the spec's parent graph; it fails
    only with `duplicate` (exactly when the batch loop does) or with `cycle`, the latter only if the
    resulting parent graph is cyclic. (The converse, "a cyclic result is always rejected", is in `add_inv`.) -/
theorem add_inv_partial (s : Store α) (es : List (α × Node α)) (hinv : Inv s) (hp : PureBatch es) :
    (∀ st, addLoop s [] es = .ok st → Acyclic (specAdd (parentGraph s) es) →
      ∃ s', addEntities .compute s es = .ok s' ∧ Inv s' ∧ parentGraph s' = specAdd (parentGraph s) es) ∧
    (∀ e, addEntities .compute s es = .error e →
      (addLoop s [] es = .error e ∨
       (e = .cycle ∧ (∃ st, addLoop s [] es = .ok st) ∧ ¬ Acyclic (specAdd (parentGraph s) es)))) := by
  obtain ⟨a1, a2⟩ := add_inv s es hinv hp
  refine ⟨fun st hl hac => Res.ok_of_spec a1 (fun e => (a2 e).mp) fun e h => ?_, fun e => (a2 e).mp⟩
  rcases h with h | h
  · rw [hl] at h; cases h
  · exact h.2.2 hac

/-- C04, `remove_entities` at full strength: for every store satisfying the invariant and every list of
    uids (absent ones, repeated ones, a node together with its ancestors or descendants, in any order) the
    operation is accepted, re-establishes `Inv` — no ancestor survives the removal of the only path that
    justified it, every ancestor with an alternative path survives — and the parent graph is the spec's
    (records deleted *and* parent links to them deleted). It never fails. -/
theorem remove_inv (s : Store α) (us : List α) (hinv : Inv s) :
    ∃ s', removeEntities .compute s us = .ok s' ∧ Inv s' ∧ parentGraph s' = specRemove (parentGraph s) us :=
  removeEntities_ok s us hinv

/-- non-vacuity: x → a → t, x → b → t, a → p; removing `a` keeps `t` (alternative path) and drops `p` -/
example : (removeEntities .compute
    [(0, ({ parents := [1, 2], indirect := [9, 7] } : Node Nat)), (1, { parents := [9, 7], indirect := [] }),
     (2, { parents := [9], indirect := [] })] [1]).toOption.map (fun s => ancestors s 0) = some [2, 9] := by decide +kernel

/-- full statement for `upsert_entities` (arbitrary batches). PROVED: `upsert_inv`.
    (For `upsertEntitiesPreFix` it is false on batches naming a uid twice — stale ancestors, and then also
    spurious `cycle` reports: see `upsert_multi_repeated_uid_counterexample`.) -/
def UpsertInvFull (α : Type) [DecidableEq α] : Prop :=
  ∀ (s : Store α) (es : List (α × Node α)), Inv s → PureBatch es →
    (∀ s', upsertEntities .compute s es = .ok s' → Inv s' ∧ parentGraph s' = specUpsert (parentGraph s) es) ∧
    (∀ e, upsertEntities .compute s es = .error e ↔ (e = .cycle ∧ ¬ Acyclic (specUpsert (parentGraph s) es)))

/-- non-vacuity: x → a → t, x → b → t, a → p; replacing `a` by a root keeps `t` for `x` and drops `p`;
    replacing `t` by `t → x` is rejected -/
example : (upsertEntities .compute
    [(0, ({ parents := [1, 2], indirect := [9, 7] } : Node Nat)), (1, { parents := [9, 7], indirect := [] }),
     (2, { parents := [9], indirect := [] })] [(1, { parents := [], indirect := [] })]).toOption.map
       (fun s => ancestors s 0) = some [1, 2, 9] := by decide +kernel
example : upsertEntities .compute
    [(0, ({ parents := [1], indirect := [9] } : Node Nat)), (1, { parents := [9], indirect := [] }),
     (9, { parents := [], indirect := [] })] [(9, { parents := [0], indirect := [] })] = .error .cycle :=
  Res.eq_error (by decide +kernel)

/-- the second loop of `upsert_entities` on a batch whose uids are pairwise distinct (any batch
    length; overwriting several nodes of one chain, in any order; inserting new records; dangling parents):
    accepted exactly when the spec's parent graph is acyclic, then the invariant is re-established — stale
    ancestors stripped from all descendants, alternative paths restored by the repair — with the spec's
    parent graph; otherwise `cycle` -/
theorem upsert_apply_inv (s : Store α) (es : List (α × Node α)) (hinv : Inv s) (hp : PureBatch es)
    (hnd : (es.map (·.1)).Nodup) :
    (∀ s', upsertApply .compute s es = .ok s' → Inv s' ∧ parentGraph s' = specUpsert (parentGraph s) es) ∧
    (∀ e, upsertApply .compute s es = .error e ↔ (e = .cycle ∧ ¬ Acyclic (specUpsert (parentGraph s) es))) := by
  obtain ⟨u1, u2⟩ := upsertApply_spec s es hinv hp hnd
  exact ⟨u1, fun e => by rw [u2 e, not_acyclic]⟩

/-- the first loop of the repaired `upsert_entities` (mirror of the `batch`/`position` loop) yields a batch
    whose uids are pairwise distinct, made of entities of the collection … -/
theorem upsert_dedup_nodup (es : List (α × Node α)) :
    ((dedupLastAtFirstPos es).map (·.1)).Nodup ∧ ∀ e, e ∈ dedupLastAtFirstPos es → e ∈ es :=
  ⟨dedup_nodup es, dedup_mem es⟩

/-- … and the spec does not see it: upserting the deduped batch and upserting the collection as given
    (record replaced or appended, last occurrence wins) give the same parent graph -/
theorem upsert_dedup_spec (g : PGraph α) (es : List (α × Node α)) :
    specUpsert g (dedupLastAtFirstPos es) = specUpsert g es :=
  specUpsert_dedup g es

/-- the repair changes nothing for a call naming every uid once: the deduped batch is the collection, the
    repaired and the pre-fix code coincide -/
theorem upsert_fix_conservative (m : Mode) (s : Store α) (es : List (α × Node α)) (hnd : (es.map (·.1)).Nodup) :
    dedupLastAtFirstPos es = es ∧ upsertEntities m s es = upsertEntitiesPreFix m s es := by
  have h := dedup_of_nodup es hnd
  exact ⟨h, by simp only [upsertEntities, upsertEntitiesPreFix, h]⟩

/-- C04, `upsert_entities` at full strength (`UpsertInvFull`), for EVERY batch — repeated uids included, any
    length, overwriting several nodes of one chain in any order, new records, dangling parents: on a store
    satisfying the invariant the call is accepted exactly when the spec's parent graph (of the batch AS GIVEN:
    last value wins) is acyclic; then the invariant is re-established — no stale ancestor survives, alternative
    paths are restored by the repair — with the spec's parent graph; otherwise it reports `cycle`. -/
theorem upsert_inv : UpsertInvFull α := by
  intro s es hinv hp
  obtain ⟨u1, u2⟩ := upsertEntities_spec s es hinv hp
  exact ⟨u1, fun e => by rw [u2 e, not_acyclic]⟩

/-- `upsert_inv` specialised to batches of ONE entity and weakened to implications: if the resulting parent
    graph is acyclic the operation is accepted, re-establishes `Inv` and yields the spec's parent graph; it
    fails only with `cycle` and only if the resulting parent graph is cyclic. -/
theorem upsert_inv_partial (s : Store α) (e : α × Node α) (hinv : Inv s) (hpure : e.2.indirect = []) :
    (Acyclic (specUpsert (parentGraph s) [e]) →
      ∃ s', upsertEntities .compute s [e] = .ok s' ∧ Inv s' ∧ parentGraph s' = specUpsert (parentGraph s) [e]) ∧
    (∀ err, upsertEntities .compute s [e] = .error err →
      err = .cycle ∧ ¬ Acyclic (specUpsert (parentGraph s) [e])) := by
  obtain ⟨u1, u2⟩ := upsert_inv s [e] hinv (fun e' he' => by cases List.mem_singleton.mp he'; exact hpure)
  exact ⟨fun hac => Res.ok_of_spec u1 (fun err => (u2 err).mp) fun err h => h.2 hac, fun err => (u2 err).mp⟩

/-- non-vacuity: x → a → t, x → b → t, a → p; ONE batch replaces `a` by a root and `b` by `b → p`:
    `x` loses `t` (both paths are cut) and keeps `p` (now through `b`) -/
example : (upsertEntities .compute
    [(0, ({ parents := [1, 2], indirect := [9, 7] } : Node Nat)), (1, { parents := [9, 7], indirect := [] }),
     (2, { parents := [9], indirect := [] })]
    [(1, { parents := [], indirect := [] }), (2, { parents := [7], indirect := [] })]).toOption.map
       (fun s => ancestors s 0) = some [1, 2, 7] := by decide +kernel

/-- non-vacuity, repeated uid: the same store; ONE batch names `a` twice (first `a → t only`, then `a` a root)
    around an overwrite of `b`: the last value of `a` wins, `x` keeps exactly a, b, p -/
example : (upsertEntities .compute
    [(0, ({ parents := [1, 2], indirect := [9, 7] } : Node Nat)), (1, { parents := [9, 7], indirect := [] }),
     (2, { parents := [9], indirect := [] })]
    [(1, { parents := [9], indirect := [] }), (2, { parents := [7], indirect := [] }),
     (1, { parents := [], indirect := [] })]).toOption.map
       (fun s => ancestors s 0) = some [1, 2, 7] := by decide +kernel

/-- the store as the evaluator sees it -/
def toEntities (s : Store EntityUID) : Entities :=
  s.map fun kn => (kn.1, { attrs := [], ancestors := kn.2.out, tags := [] })

theorem find_toEntities (s : Store EntityUID) (e : EntityUID) :
    (toEntities s).find? e = (TC.get s e).map fun n => { attrs := [], ancestors := n.out, tags := [] } := by
  rw [Entities.find?_eq_assoc, toEntities, assoc?_map fun _ (n : Node EntityUID) => (⟨[], n.out, []⟩ : EntityData),
    ← get_eq_assoc]

/-- C04: in every store satisfying the invariant, `e in a` (C02's `inE`) holds exactly when `a` is `e` or
    is reachable from `e` through direct-parent links of the records present -/
theorem in_iff_reach (s : Store EntityUID) (hinv : Inv s) (e a : EntityUID) :
    inE (toEntities s) e a = true ↔ a = e ∨ Reach (shape s) e a := by
  unfold inE
  rw [find_toEntities]
  cases hg : TC.get s e with
  | none =>
    simp only [Option.map_none, Bool.or_false, beq_iff_eq]
    constructor
    · intro h; exact Or.inl h.symm
    · rintro (h | h)
      · exact h.symm
      · exact absurd h (Reach.of_none (by simp [shape, hg]))
  | some n =>
    simp only [Option.map_some, Bool.or_eq_true, beq_iff_eq, List.contains_iff_mem]
    rw [hinv.exact e n hg a]
    constructor
    · rintro (h | h)
      · exact Or.inl h.symm
      · exact Or.inr h
    · rintro (h | h)
      · exact Or.inl h.symm
      · exact Or.inr h

/-- operations that let the library compute the closure: ComputeNow, inputs without indirect ancestors -/
def PureOp : Op α → Prop
  | .from m es => m = .compute ∧ PureBatch es
  | .add m es => m = .compute ∧ PureBatch es
  | .upsert m es => m = .compute ∧ PureBatch es
  | .remove m _ => m = .compute

/-- every accepted pure operation preserves the invariant (the per-operation obligations) -/
def OpPreserves (α : Type) [DecidableEq α] : Prop :=
  ∀ (s : Store α) (o : Op α) (s' : Store α), Inv s → PureOp o → applyOp s o = .ok s' → Inv s'

/-- full statement: after any history of pure operations (failed ones leave the store unchanged) the
    invariant holds. PROVED for the repaired code: `history_inv`. -/
def HistoryInvFull (α : Type) [DecidableEq α] : Prop :=
  ∀ ops : List (Op α), (∀ o, o ∈ ops → PureOp o) → Inv (runOps [] ops)

/-- the same statement about the code before /repo's fix: commit b19c617 (`runOpsPreFix`: upsert batches applied as
    given). FALSE: `upsert_multi_repeated_uid_counterexample`. -/
def HistoryInvFullPreFix (α : Type) [DecidableEq α] : Prop :=
  ∀ ops : List (Op α), (∀ o, o ∈ ops → PureOp o) → Inv (runOpsPreFix [] ops)

/-- residual 1 (completeness of cycle detection): an accepted pure operation leaves an acyclic parent graph.
    PROVED: `accepted_acyclic`. -/
def AcceptedAcyclic (α : Type) [DecidableEq α] : Prop :=
  ∀ (s : Store α) (o : Op α) (s' : Store α), Inv s → PureOp o → applyOp s o = .ok s' →
    ∀ x, ¬ Reach (shape s') x x

/-- residual 2: upsert batches that do not consist of exactly one entity.
    PROVED for the repaired code: `upsert_multi_preserves`. -/
def UpsertMultiPreserves (α : Type) [DecidableEq α] : Prop :=
  ∀ (s : Store α) (es : List (α × Node α)) (s' : Store α), Inv s → PureBatch es → es.length ≠ 1 →
    upsertEntities .compute s es = .ok s' → Inv s'

/-- residual 2 about the code before /repo's fix: commit b19c617. FALSE (`upsert_multi_preserves_refuted`: a batch
    naming a uid twice leaves a stale ancestor). -/
def UpsertMultiPreservesPreFix (α : Type) [DecidableEq α] : Prop :=
  ∀ (s : Store α) (es : List (α × Node α)) (s' : Store α), Inv s → PureBatch es → es.length ≠ 1 →
    upsertEntitiesPreFix .compute s es = .ok s' → Inv s'

/-- residual 3: the contract of `compute_tc` inside `from_entities` (SCC internals not mirrored).
    PROVED for the model's `closure`: `from_preserves`. -/
def FromPreserves (α : Type) [DecidableEq α] : Prop :=
  ∀ (es : List (α × Node α)) (s' : Store α), PureBatch es → fromEntities .compute es = .ok s' → Inv s'

theorem inv_empty : Inv ([] : Store α) :=
  ⟨fun x n h => by simp [TC.get] at h, fun x hr => by
    obtain ⟨ps, hps⟩ := hr.src_some
    simp [shape, TC.get] at hps, fun x n h => by simp [TC.get] at h⟩

/-- residual 3 discharged: whatever the contract `closure` (standing for `compute_tc`) returns on a batch
    without indirect ancestors satisfies the invariant (`fromEntities_inv`, Lemmas/TCFrom.lean) -/
theorem from_preserves : FromPreserves α :=
  fun es s' hpb hok => fromEntities_inv es s' hpb hok

/-- residual 2 discharged (the hypothesis `es.length ≠ 1` is not used) -/
theorem upsert_multi_preserves : UpsertMultiPreserves α :=
  fun s es s' hinv hp _ hok => ((upsert_inv s es hinv hp).1 s' hok).1

/-- every accepted pure operation preserves the invariant (no residual hypothesis, no restriction on upsert
    batches) -/
theorem op_preserves : OpPreserves α := by
  intro s o s' hinv hp hok
  cases o with
  | «from» m es => exact from_preserves es s' hp.2 (by obtain ⟨rfl, _⟩ := hp; exact hok)
  | remove m us =>
    have hm : m = .compute := hp
    subst hm
    obtain ⟨s'', h', hi, _⟩ := remove_inv s us hinv
    simp only [applyOp] at hok
    rw [h'] at hok; cases hok; exact hi
  | add m es =>
    obtain ⟨rfl, hpb⟩ := hp
    exact ((add_inv s es hinv hpb).1 s' hok).1
  | upsert m es =>
    obtain ⟨rfl, hpb⟩ := hp
    exact ((upsert_inv s es hinv hpb).1 s' hok).1

/-- residual 1 discharged: acyclicity is a conjunct of `Inv`, so this is `op_preserves`. The COMPLETENESS of
    the cycle detection behind it is `repairTc_complete` (Lemmas/TCCycle.lean) used through `finish_spec`
    (Lemmas/TCOps.lean): the records that stay untouched are unchanged records of a store
    satisfying the invariant, hence complete for the new parent graph and without self-edge, so every cycle
    runs through touched nodes only; the first node on a cycle visited by the DFS of `repair_tc` gets an edge
    to itself (`addAnc_cspec`), which `enforce_dag_from_tc_for` finds because that node is touched. -/
theorem accepted_acyclic : AcceptedAcyclic α :=
  fun s o s' hinv hp hok => (op_preserves s o s' hinv hp hok).acyclic

/-- the reduction of the per-operation obligations to the three residuals; all three hold (`accepted_acyclic`,
    `upsert_multi_preserves`, `from_preserves`), so this is an instance of `op_preserves` -/
theorem op_preserves_partial (_ : AcceptedAcyclic α) (_ : UpsertMultiPreserves α) (_ : FromPreserves α) :
    OpPreserves α :=
  op_preserves

/-- C04 `history_inv`, unconditional (= `HistoryInvFull`): after ANY history of pure operations the invariant
    holds: ancestors = Reach⁺ over the direct-parent links of the records present, acyclic,
    parents ∩ indirect = ∅. Failed operations leave the store unchanged. `PureOp` is needed and excludes
    exactly the calls in which the CALLER vouches for the closure: `AssumeAlreadyComputed` (nothing is checked),
    `EnforceAlreadyComputed` (`enforce_exact`: out-edges closed and irreflexive is checked, but not that every
    listed ancestor is justified by parent links) and entities handed in with indirect ancestors of their own
    (`Entity::new` with `ancestors`; ComputeNow only ever adds edges to what it is given). There is no
    restriction on the batches: duplicates, repeated uids, dangling parents, cycles (rejected) are covered. -/
theorem history_inv (ops : List (Op α)) (hp : ∀ o, o ∈ ops → PureOp o) : Inv (runOps [] ops) :=
  history_induction op_preserves ops [] inv_empty hp

/-- `HistoryInvFull` from the three named residuals: `AcceptedAcyclic` (completeness of the cycle detection),
    `UpsertMultiPreserves` (multi-entity upsert batches), `FromPreserves` (contract of `compute_tc`). The
    hypotheses are not used (`op_preserves_partial` ignores them; all three are proved: `accepted_acyclic`,
    `upsert_multi_preserves`, `from_preserves`); `history_inv` is the statement without them. -/
theorem history_inv_partial (h1 : AcceptedAcyclic α) (h2 : UpsertMultiPreserves α) (h3 : FromPreserves α) :
    HistoryInvFull α :=
  fun ops hp => history_induction (op_preserves_partial h1 h2 h3) ops [] inv_empty hp

theorem history_inv_full : HistoryInvFull α := fun ops hp => history_inv ops hp

/-- in every state reached by a history of pure operations, `e in a` is reflexive parent-reachability
    (given the residuals of `history_inv_partial`) -/
theorem in_iff_reach_history (h1 : AcceptedAcyclic EntityUID) (h2 : UpsertMultiPreserves EntityUID)
    (h3 : FromPreserves EntityUID) (ops : List (Op EntityUID)) (hp : ∀ o, o ∈ ops → PureOp o)
    (e a : EntityUID) :
    inE (toEntities (runOps [] ops)) e a = true ↔ a = e ∨ Reach (shape (runOps [] ops)) e a :=
  in_iff_reach _ (history_inv_partial h1 h2 h3 ops hp) e a

/-- C04, unconditional: in every state reached by a history of pure operations, `e in a` is reflexive
    parent-reachability -/
theorem in_iff_reach_history_full (ops : List (Op EntityUID)) (hp : ∀ o, o ∈ ops → PureOp o)
    (e a : EntityUID) :
    inE (toEntities (runOps [] ops)) e a = true ↔ a = e ∨ Reach (shape (runOps [] ops)) e a :=
  in_iff_reach _ (history_inv ops hp) e a

/-- non-vacuity of `history_inv`: from, an upsert naming uid 1 twice around an overwrite of 2, a rejected
    cyclic add, a remove -/
example : ∀ o, o ∈ [Op.from .compute [(0, ({ parents := [1], indirect := [] } : Node Nat)),
      (1, { parents := [2], indirect := [] })],
    Op.upsert .compute [(1, { parents := [5], indirect := [] }), (2, { parents := [3], indirect := [] }),
      (1, { parents := [2, 4], indirect := [] })],
    Op.add .compute [(3, { parents := [0], indirect := [] })], Op.remove .compute [1]] →
    PureOp o := by
  intro o ho
  simp only [List.mem_cons, List.mem_nil_iff, or_false] at ho
  rcases ho with rfl | rfl | rfl | rfl
  · exact ⟨rfl, by intro e he; simp only [List.mem_cons, List.mem_nil_iff, or_false] at he
                   rcases he with rfl | rfl <;> rfl⟩
  · exact ⟨rfl, by intro e he; simp only [List.mem_cons, List.mem_nil_iff, or_false] at he
                   rcases he with rfl | rfl | rfl <;> rfl⟩
  · exact ⟨rfl, by intro e he; simp only [List.mem_cons, List.mem_nil_iff, or_false] at he
                   rcases he with rfl; rfl⟩
  · exact rfl

example : (runOps [] [Op.from .compute [(0, ({ parents := [1], indirect := [] } : Node Nat)),
      (1, { parents := [2], indirect := [] })],
    Op.upsert .compute [(1, { parents := [5], indirect := [] }), (2, { parents := [3], indirect := [] }),
      (1, { parents := [2, 4], indirect := [] })],
    Op.add .compute [(3, { parents := [0], indirect := [] })], Op.remove .compute [1]]).map
      (fun kn => (kn.1, kn.2.out)) = [(0, []), (2, [3])] := by decide +kernel

omit [DecidableEq α] in
theorem reach_elim {P : α → Option (List α)} {x y : α} (h : Reach P x y) :
    ∃ ps, P x = some ps ∧ (y ∈ ps ∨ ∃ z, z ∈ ps ∧ Reach P z y) := by
  cases h with
  | edge hp hy => exact ⟨_, hp, Or.inl hy⟩
  | step hp hz hzy => exact ⟨_, hp, Or.inr ⟨_, hz, hzy⟩⟩

/-- the witness: x=0 → w=1 → u=2, w → v=3 → y=4 -/
def cexBase : List (Nat × Node Nat) :=
  [(0, { parents := [1], indirect := [] }), (1, { parents := [2, 3], indirect := [] }),
   (2, { parents := [], indirect := [] }), (3, { parents := [4], indirect := [] }),
   (4, { parents := [], indirect := [] })]

/-- one batch: u ↦ {y}, u ↦ {}, w ↦ {} -/
def cexBatch : List (Nat × Node Nat) :=
  [(2, { parents := [4], indirect := [] }), (2, { parents := [], indirect := [] }),
   (1, { parents := [], indirect := [] })]

theorem cexBase_pure : PureBatch cexBase := by
  intro e he; simp only [cexBase, List.mem_cons, List.mem_nil_iff, or_false] at he
  rcases he with rfl | rfl | rfl | rfl | rfl <;> rfl

theorem cexBatch_pure : PureBatch cexBatch := by
  intro e he; simp only [cexBatch, List.mem_cons, List.mem_nil_iff, or_false] at he
  rcases he with rfl | rfl | rfl <;> rfl

/-- what the pre-fix code leaves: x lists y although x → w and w has no parents -/
theorem cex_run :
    (TC.get (runOpsPreFix [] [Op.from .compute cexBase, Op.upsert .compute cexBatch]) 0).map
        (fun n => (n.parents, n.indirect)) = some ([1], [4]) ∧
    (TC.get (runOpsPreFix [] [Op.from .compute cexBase, Op.upsert .compute cexBatch]) 1).map
        (fun n => (n.parents, n.indirect)) = some ([], []) := by decide +kernel

/-- a store in which x=0 has parents {1} and indirect ancestor 4 while 1 has no parents violates the invariant -/
theorem cex_not_inv (sf : Store Nat)
    (hrun0 : (TC.get sf 0).map (fun n => (n.parents, n.indirect)) = some ([1], [4]))
    (hrun1 : (TC.get sf 1).map (fun n => (n.parents, n.indirect)) = some ([], [])) : ¬ Inv sf := by
  intro hinv
  cases hg0 : TC.get sf 0 with
  | none => rw [hg0] at hrun0; cases hrun0
  | some n0 =>
    cases hg1 : TC.get sf 1 with
    | none => rw [hg1] at hrun1; cases hrun1
    | some n1 =>
      rw [hg0] at hrun0; rw [hg1] at hrun1
      simp only [Option.map_some, Option.some.injEq, Prod.mk.injEq] at hrun0 hrun1
      obtain ⟨hp0, hi0⟩ := hrun0
      obtain ⟨hp1, _⟩ := hrun1
      have h4 : (4 : Nat) ∈ n0.out := by simp [Node.out, hp0, hi0]
      have hr := (hinv.exact 0 n0 hg0 4).mp h4
      obtain ⟨ps, hps, hcase⟩ := reach_elim hr
      rw [shape_some hg0, hp0] at hps
      cases hps
      rcases hcase with hc | ⟨z, hz, hzy⟩
      · simp at hc
      · simp only [List.mem_singleton] at hz
        subst hz
        obtain ⟨ps1, hps1, hcase1⟩ := reach_elim hzy
        rw [shape_some hg1, hp1] at hps1
        cases hps1
        simp at hcase1

/-- FINDING, FIXED in /repo (commit b19c617; known_findings.jsonl `fixed: …
    C04-upsert-batch-repeated-uid-stale-ancestor`; it was reproduced on the implementation). This theorem is
    about the code BEFORE /repo's fix (`runOpsPreFix` / `upsertEntitiesPreFix`): `HistoryInvFullPreFix` is FALSE.
    An upsert batch that names a uid twice leaves a stale indirect ancestor: after
    `from [x<w, w<u,v, u<, v<y, y<]` and the single call `upsert [u<y, u<, w<]` the record of x still lists y
    although x → w and w has no parents. The second overwrite of u strips u's ancestors {y} only from records
    that still list u (w, not x — x lost u in the first strip); the overwrite of w then strips only w's current
    ancestors from x. -/
theorem upsert_multi_repeated_uid_counterexample : ¬ HistoryInvFullPreFix Nat := by
  intro h
  have hinv := h [Op.from .compute cexBase, Op.upsert .compute cexBatch] (by
    intro o ho
    simp only [List.mem_cons, List.mem_nil_iff, or_false] at ho
    rcases ho with rfl | rfl
    · exact ⟨rfl, cexBase_pure⟩
    · exact ⟨rfl, cexBatch_pure⟩)
  exact cex_not_inv _ cex_run.1 cex_run.2 hinv

/-- … hence residual 2 for the code before /repo's fix: commit b19c617 (any batch of length ≠ 1) is false as well -/
theorem upsert_multi_preserves_refuted : ¬ UpsertMultiPreservesPreFix Nat := by
  intro h2
  -- with residual 2 the invariant would hold along the witness history
  refine cex_not_inv _ cex_run.1 cex_run.2 (history_induction (apply := applyOpPreFix)
    (Q := fun o => o = Op.from .compute cexBase ∨ o = Op.upsert .compute cexBatch) ?_ _ [] inv_empty ?_)
  · rintro s o s' hs (rfl | rfl) hok
    · exact from_preserves cexBase s' cexBase_pure hok
    · exact h2 s cexBatch s' hs cexBatch_pure (by decide) hok
  · intro o ho
    simpa using ho

/-- the repaired code on the witness: the batch is deduped to [u<, w<]; x keeps only w -/
example : (runOps [] [Op.from .compute cexBase, Op.upsert .compute cexBatch]).map
    (fun kn => (kn.1, kn.2.parents, kn.2.indirect)) =
    [(0, [1], []), (1, [], []), (2, [], []), (3, [4], []), (4, [], [])] := by decide +kernel
example : dedupLastAtFirstPos cexBatch =
    [(2, { parents := [], indirect := [] }), (1, { parents := [], indirect := [] })] := by rfl

end Cedar.C04
