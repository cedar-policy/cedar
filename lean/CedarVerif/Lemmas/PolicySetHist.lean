import CedarVerif.Lemmas.PolicySetInv
/-
The six core operations as data (`CoreOp`; `CoreOp.admissible`: the API's guard on `link`): what a failed call leaves behind,
the `panic!` sites are unreachable under `WF`, `WF` along admissible histories.
-/
namespace Cedar
open LHM

/-- the operations of the core policy set as data (merge is treated separately) -/
inductive CoreOp where
  | addStatic (b : TemplateBody)
  | addTemplate (t : Template)
  | link (tid newId : String) (vals : SlotVals)
  | unlink (id : String)
  | removeStatic (id : String)
  | removeTemplate (id : String)
deriving Repr

def PolicySet.applyOp (ps : PolicySet) : CoreOp → Step PolicySet
  | .addStatic b => ps.addStatic b
  | .addTemplate t => ps.addTemplate t
  | .link tid newId vals => ps.link tid newId vals
  | .unlink id => ps.unlink id
  | .removeStatic id => ps.removeStatic id
  | .removeTemplate id => ps.removeTemplate id

/-- the one precondition under which the public API layer calls the core `link`: the template id is not
the id of a (static) policy -/
def CoreOp.admissible (ps : PolicySet) : CoreOp → Prop
  | .link tid _ _ => ps.links.contains tid = false
  | _ => True

instance CoreOp.decAdmissible (ps : PolicySet) : (op : CoreOp) → Decidable (op.admissible ps)
  | .link tid _ _ => inferInstanceAs (Decidable (ps.links.contains tid = false))
  | .addStatic _ => isTrue trivial
  | .addTemplate _ => isTrue trivial
  | .unlink _ => isTrue trivial
  | .removeStatic _ => isTrue trivial
  | .removeTemplate _ => isTrue trivial

/-- `a` (the state after a failed call) has the same content as `b` (the state before), as maps: what a failed
`remove_static` may change is only the position of one link in the iteration order -/
def PolicySet.sameMaps (a b : PolicySet) : Prop :=
  a.templates = b.templates ∧ a.t2l = b.t2l ∧ (∀ k, a.links.get? k = b.links.get? k) ∧
  (b.links.keys.Nodup → a.links.keys.Nodup)

theorem PolicySet.WF_of_sameMaps {a b : PolicySet} (h : a.sameMaps b) (wf : b.WF) : a.WF := by
  obtain ⟨h1, h2, h3, h4⟩ := h
  constructor
  · rw [h1]; exact wf.tNodup
  · exact h4 wf.lNodup
  · rw [h2]; exact wf.mNodup
  · rw [h1]; exact wf.tKey
  · intro k p; rw [h3]; exact wf.lKey k p
  · rw [h1, h2]; exact wf.mKeys
  · intro k p; rw [h3, h1]; exact wf.lTemplate k p
  · intro tid s; rw [h2]; intro hs id; rw [wf.mExact tid s hs id]; simp only [h3]
  · intro k p; rw [h3, h1]; exact wf.shared k p
  · intro k p; rw [h3, h3]; exact wf.staticOne k p
  · intro k p; rw [h3]; exact wf.bound k p

theorem removeStatic_fail_sameMaps (ps : PolicySet) (id : String) (p : TPolicy) (hp : ps.links.get? id = some p) :
    PolicySet.sameMaps { ps with links := ps.links.erase id ++ [(id, p)] } ps := by
  refine ⟨rfl, rfl, ?_, ?_⟩
  · intro k
    show LHM.get? (LHM.insert ps.links id p) k = _
    rw [get?_insert]
    by_cases hk : k = id
    · simp [hk, hp]
    · simp [hk]
  · intro h
    exact nodup_insert _ _ _ h

theorem PolicySet.addStatic_fail {ps : PolicySet} {b : TemplateBody} {e : PSError}
    (h : (ps.addStatic b).err = some e) : e = .occupied ∧ (ps.addStatic b).ps = ps := by
  unfold PolicySet.addStatic linkStaticPolicy at h ⊢
  simp only [Template.id] at h ⊢
  by_cases h1 : ps.templates.contains b.id = true
  · simp only [h1, if_true] at h; exact ⟨(Option.some.inj h).symm, by simp only [h1, if_true]⟩
  · by_cases h2 : ps.links.contains b.id = true
    · simp only [h1, h2, if_true] at h; exact ⟨(Option.some.inj h).symm, by simp only [h2, if_true, ite_self]⟩
    · simp only [h1, h2] at h; cases h

theorem PolicySet.addTemplate_fail {ps : PolicySet} {t : Template} {e : PSError}
    (h : (ps.addTemplate t).err = some e) : e = .occupied ∧ (ps.addTemplate t).ps = ps := by
  unfold PolicySet.addTemplate at h ⊢
  by_cases h2 : ps.links.contains t.id = true
  · rw [if_pos h2] at h ⊢; exact ⟨(Option.some.inj h).symm, rfl⟩
  · by_cases h1 : ps.templates.contains t.id = true
    · rw [if_neg h2, if_pos h1] at h ⊢; exact ⟨(Option.some.inj h).symm, rfl⟩
    · rw [if_neg h2, if_neg h1] at h; cases h

theorem PolicySet.link_fail {ps : PolicySet} {tid newId : String} {vals : SlotVals} {e : PSError}
    (h : (ps.link tid newId vals).err = some e) :
    (e = .noSuchTemplate ∨ e = .arity ∨ e = .idConflict) ∧ (ps.link tid newId vals).ps = ps := by
  unfold PolicySet.link Template.link at h ⊢
  cases ht : ps.templates.get? tid with
  | none => rw [ht] at h; exact ⟨Or.inl (Option.some.inj h).symm, rfl⟩
  | some t =>
    rw [ht] at h
    dsimp only at h ⊢
    by_cases hb : t.checkBinding vals = true
    · rw [if_pos hb] at h ⊢
      dsimp only at h ⊢
      by_cases h2 : ps.links.contains newId = true
      · rw [if_pos h2] at h ⊢; exact ⟨Or.inr (Or.inr (Option.some.inj h).symm), rfl⟩
      · by_cases h1 : ps.templates.contains newId = true
        · rw [if_neg h2, if_pos h1] at h ⊢; exact ⟨Or.inr (Or.inr (Option.some.inj h).symm), rfl⟩
        · rw [if_neg h2, if_neg h1] at h; cases h
    · rw [if_neg hb] at h ⊢; exact ⟨Or.inr (Or.inl (Option.some.inj h).symm), rfl⟩

theorem PolicySet.unlink_fail {ps : PolicySet} {id : String} {e : PSError} (h : (ps.unlink id).err = some e) :
    ((e = .notLink ∨ e = .unlinkMissing ∧ ps.links.get? id = none) ∧ (ps.unlink id).ps = ps) ∨
    ∃ m p, e = .panic m ∧ ps.links.get? id = some p ∧ ps.t2l.get? p.template.id = none := by
  unfold PolicySet.unlink at h ⊢
  by_cases h1 : ps.templates.contains id = true
  · rw [if_pos h1] at h ⊢; exact Or.inl ⟨Or.inl (Option.some.inj h).symm, rfl⟩
  · rw [if_neg h1] at h ⊢
    cases hp : ps.links.get? id with
    | none => rw [hp] at h; exact Or.inl ⟨Or.inr ⟨(Option.some.inj h).symm, rfl⟩, rfl⟩
    | some p =>
      rw [hp] at h
      by_cases hm : ps.t2l.contains p.template.id = true
      · simp only [hm, if_true] at h; cases h
      · simp only [hm] at h
        exact Or.inr ⟨_, p, (Option.some.inj h).symm, rfl, get?_none_of_not_contains hm⟩

/-- a failed `remove_static` on the id of a template-linked policy removes and re-inserts that link -/
theorem PolicySet.removeStatic_fail {ps : PolicySet} {id : String} {e : PSError}
    (h : (ps.removeStatic id).err = some e) :
    (e = .rmsNoLink ∧ (ps.removeStatic id).ps = ps) ∨
    ∃ p, e = .rmsNoTemplate ∧ ps.links.get? id = some p ∧
      (ps.removeStatic id).ps = { ps with links := ps.links.erase id ++ [(id, p)] } := by
  unfold PolicySet.removeStatic at h ⊢
  cases hp : ps.links.get? id with
  | none => rw [hp] at h; exact Or.inl ⟨(Option.some.inj h).symm, rfl⟩
  | some p =>
    cases ht : ps.templates.get? id with
    | some t => rw [hp, ht] at h; cases h
    | none => rw [hp, ht] at h; exact Or.inr ⟨p, (Option.some.inj h).symm, rfl, rfl⟩

theorem PolicySet.removeTemplate_fail {ps : PolicySet} {id : String} {e : PSError}
    (h : (ps.removeTemplate id).err = some e) :
    ((e = .rmtNotTemplate ∨ e = .rmtNoTemplate ∧ ps.t2l.get? id = none ∨ e = .rmtWithLinks) ∧
      (ps.removeTemplate id).ps = ps) ∨
    ∃ m, e = .panic m ∧ (ps.t2l.get? id).isSome = true ∧ ps.templates.get? id = none := by
  unfold PolicySet.removeTemplate at h ⊢
  by_cases h1 : ps.links.contains id = true
  · rw [if_pos h1] at h ⊢; exact Or.inl ⟨Or.inl (Option.some.inj h).symm, rfl⟩
  · rw [if_neg h1] at h ⊢
    cases hs : ps.t2l.get? id with
    | none => rw [hs] at h; exact Or.inl ⟨Or.inr (Or.inl ⟨(Option.some.inj h).symm, rfl⟩), rfl⟩
    | some s =>
      cases s with
      | cons a s => rw [hs] at h; exact Or.inl ⟨Or.inr (Or.inr (Option.some.inj h).symm), rfl⟩
      | nil =>
        cases ht : ps.templates.get? id with
        | some t => rw [hs, ht] at h; cases h
        | none => rw [hs, ht] at h; exact Or.inr ⟨_, (Option.some.inj h).symm, rfl, rfl⟩

/-- Panics are not failures in this sense (`applyOp_no_panic` excludes them under `WF`). -/
theorem PolicySet.applyOp_fail (ps : PolicySet) (op : CoreOp) (e : PSError)
    (h : (ps.applyOp op).err = some e) (hnp : ∀ m, e ≠ .panic m) :
    (ps.applyOp op).ps.sameMaps ps ∧ ((∀ id, op ≠ .removeStatic id) → (ps.applyOp op).ps = ps) := by
  have same : (ps.applyOp op).ps = ps →
      (ps.applyOp op).ps.sameMaps ps ∧ ((∀ id, op ≠ .removeStatic id) → (ps.applyOp op).ps = ps) :=
    fun h0 => ⟨by rw [h0]; exact ⟨rfl, rfl, fun _ => rfl, id⟩, fun _ => h0⟩
  cases op with
  | addStatic b => exact same (PolicySet.addStatic_fail h).2
  | addTemplate t => exact same (PolicySet.addTemplate_fail h).2
  | link tid newId vals => exact same (PolicySet.link_fail h).2
  | unlink id =>
    rcases PolicySet.unlink_fail h with ⟨_, h0⟩ | ⟨m, _, he, _⟩
    · exact same h0
    · exact absurd he (hnp m)
  | removeStatic id =>
    rcases PolicySet.removeStatic_fail h with ⟨_, h0⟩ | ⟨p, _, hp, h0⟩
    · exact same h0
    · exact ⟨h0.symm ▸ removeStatic_fail_sameMaps ps id p hp, fun hne => absurd rfl (hne id)⟩
  | removeTemplate id =>
    rcases PolicySet.removeTemplate_fail h with ⟨_, h0⟩ | ⟨m, he, _⟩
    · exact same h0
    · exact absurd he (hnp m)

theorem PolicySet.applyOp_no_panic (ps : PolicySet) (op : CoreOp) (wf : ps.WF) (m : String) :
    (ps.applyOp op).err ≠ some (.panic m) := by
  intro hm
  cases op with
  | addStatic b => exact nomatch (PolicySet.addStatic_fail hm).1
  | addTemplate t => exact nomatch (PolicySet.addTemplate_fail hm).1
  | link tid newId vals => rcases (PolicySet.link_fail hm).1 with h | h | h <;> cases h
  | unlink id =>
    rcases PolicySet.unlink_fail hm with ⟨h | ⟨h, _⟩, _⟩ | ⟨_, p, _, hp, hn⟩
    · cases h
    · cases h
    · have := wf.mKeys p.template.id
      rw [wf.lTemplate id p hp, hn] at this
      cases this
  | removeStatic id => rcases PolicySet.removeStatic_fail hm with ⟨h, _⟩ | ⟨_, h, _⟩ <;> cases h
  | removeTemplate id =>
    rcases PolicySet.removeTemplate_fail hm with ⟨h | ⟨h, _⟩ | h, _⟩ | ⟨_, _, hs, hn⟩
    · cases h
    · cases h
    · cases h
    · have := wf.mKeys id
      rw [hn, Option.isSome_none] at this
      rw [this] at hs
      cases hs

theorem core_fail_frame (ps : PolicySet) (op : CoreOp) (wf : ps.WF) (e : PSError) (h : (ps.applyOp op).err = some e) :
    (ps.applyOp op).ps.sameMaps ps :=
  (PolicySet.applyOp_fail ps op e h (fun m he => PolicySet.applyOp_no_panic ps op wf m (he ▸ h))).1

theorem PolicySet.applyOp_wf (ps : PolicySet) (op : CoreOp) (wf : ps.WF) (adm : op.admissible ps) :
    (ps.applyOp op).ps.WF := by
  cases herr : (ps.applyOp op).err with
  | none =>
    cases op with
    | addStatic b => exact PolicySet.addStatic_wf ps b wf herr
    | addTemplate t => exact PolicySet.addTemplate_wf ps t wf herr
    | link tid newId vals => exact PolicySet.link_wf ps tid newId vals wf ((contains_false _ _).mp adm) herr
    | unlink id => exact PolicySet.unlink_wf ps id wf herr
    | removeStatic id => exact PolicySet.removeStatic_wf ps id wf herr
    | removeTemplate id => exact PolicySet.removeTemplate_wf ps id wf herr
  | some e =>
    have hnp : ∀ m, e ≠ .panic m := by
      intro m he; subst he
      exact PolicySet.applyOp_no_panic ps op wf m herr
    exact PolicySet.WF_of_sameMaps (PolicySet.applyOp_fail ps op e herr hnp).1 wf

def PolicySet.run (ps : PolicySet) : List CoreOp → PolicySet
  | [] => ps
  | op :: ops => PolicySet.run (ps.applyOp op).ps ops

def PolicySet.admissibleHist (ps : PolicySet) : List CoreOp → Prop
  | [] => True
  | op :: ops => op.admissible ps ∧ PolicySet.admissibleHist (ps.applyOp op).ps ops

def PolicySet.decAdmissibleHist : (ops : List CoreOp) → (ps : PolicySet) → Decidable (ps.admissibleHist ops)
  | [], _ => isTrue trivial
  | op :: ops, ps =>
    match CoreOp.decAdmissible ps op, PolicySet.decAdmissibleHist ops (ps.applyOp op).ps with
    | isTrue a, isTrue b => isTrue ⟨a, b⟩
    | isFalse a, _ => isFalse (fun h => a h.1)
    | _, isFalse b => isFalse (fun h => b h.2)

instance (ps : PolicySet) (ops : List CoreOp) : Decidable (ps.admissibleHist ops) := PolicySet.decAdmissibleHist ops ps

theorem PolicySet.run_wf (ops : List CoreOp) : ∀ (ps : PolicySet), ps.WF → ps.admissibleHist ops → (ps.run ops).WF := by
  induction ops with
  | nil => intro ps wf _; exact wf
  | cons op ops ih =>
    intro ps wf adm
    exact ih _ (PolicySet.applyOp_wf ps op wf adm.1) adm.2

end Cedar
