import CedarVerif.Lemmas.TypecheckLub
/-
C03: where the type operations of the two modes agree.  With a flat side (`Bool`, `Long`, `String`, an extension type, `Never`)
subtyping and least upper bounds do not look at the mode.  On the types that strict typing produces ("good" types: single entity
types, no `Never`/`AnyEntity`, closed records with distinct keys) a strict bound is the permissive bound (`lub_strict_perm`).
-/
namespace Cedar.C03

open Cedar

theorem isSubtype_flat_modes {a b : CedarType} (hf : a.flat = true ∨ b.flat = true) :
    isSubtype .strict a b = isSubtype .permissive a b := by
  -- the rows of `is_subtype` that look at the mode (records, entity types) have no flat side
  rw [isSubtype.eq_def, isSubtype.eq_def]
  split <;> first | rfl | (rcases hf with hf | hf <;> cases hf)

theorem lub_flat_modes {a b : CedarType} (hf : a.flat = true ∨ b.flat = true) : lub .strict a b = lub .permissive a b := by
  have h1 := isSubtype_flat_modes hf
  have h2 := isSubtype_flat_modes (a := b) (b := a) hf.symm
  conv => lhs; rw [lub.eq_def]
  conv => rhs; rw [lub.eq_def]
  simp only [h1, h2]
  -- the rows that depend on the mode have no flat side
  rcases hf with hf | hf
  · cases a <;> first | (cases hf; done) | (cases b <;> rfl)
  · cases b <;> first | (cases hf; done) | (cases a <;> first | rfl | (rename_i e; cases e <;> rfl))

theorem lub_flat_flat {m : ValidationMode} {a b c : CedarType} (h : lub m a b = some c) (ha : a.flat = true) (hb : b.flat = true) :
    c.flat = true := by
  obtain ⟨_, _, hshape⟩ := lub_flat h (Or.inl ha)
  rcases hshape with rfl | rfl | rfl
  · exact ha
  · exact hb
  · rfl

theorem foldl_lub_flat_modes : ∀ (ts : List CedarType) (acc : CedarType), acc.flat = true → (∀ t, t ∈ ts → t.flat = true) →
    ts.foldl (fun acc t => acc.bind (fun a => lub .strict a t)) (some acc) =
    ts.foldl (fun acc t => acc.bind (fun a => lub .permissive a t)) (some acc)
  | [], _, _, _ => rfl
  | t :: ts, acc, hacc, hall => by
    simp only [List.foldl_cons, Option.bind_some]
    rw [← lub_flat_modes (Or.inl hacc)]
    cases hl : lub .strict acc t with
    | none => rw [foldl_lub_none, foldl_lub_none]
    | some acc' =>
      exact foldl_lub_flat_modes ts acc' (lub_flat_flat hl hacc (hall t List.mem_cons_self))
        (fun t' ht' => hall t' (List.mem_cons_of_mem _ ht'))

-- closed records with distinct keys, everywhere inside the type
mutual
def cn : CedarType → Bool
  | .set (some t) => cn t
  | .record attrs o => !o && cnAttrs attrs && decide ((attrs.map (·.1)).Nodup)
  | _ => true
def cnAttrs : List (String × Bool × CedarType) → Bool
  | [] => true
  | (_, _, t) :: rest => cn t && cnAttrs rest
end

/-- the types strict typing produces -/
def GoodTy (t : CedarType) : Prop := t.mono = true ∧ cn t = true

theorem cnAttrs_iff {attrs : Attrs} : cnAttrs attrs = true ↔ ∀ k r t, (k, r, t) ∈ attrs → cn t = true :=
  attrsAll_iff rfl (fun _ _ _ _ => rfl)

theorem GoodTy.set {t : CedarType} (h : GoodTy (.set (some t))) : GoodTy t := by
  obtain ⟨h1, h2⟩ := h
  simp only [CedarType.mono] at h1
  simp only [cn] at h2
  exact ⟨h1, h2⟩

theorem GoodTy.record {attrs : Attrs} {o : Bool} (h : GoodTy (.record attrs o)) :
    o = false ∧ (attrs.map (·.1)).Nodup ∧ ∀ k r t, (k, r, t) ∈ attrs → GoodTy t := by
  obtain ⟨h1, h2⟩ := h
  simp only [CedarType.mono] at h1
  simp only [cn, Bool.and_eq_true, Bool.not_eq_true', decide_eq_true_eq] at h2
  refine ⟨h2.1.1, h2.2, fun k r t hm => ⟨(monoAttrs_iff.mp h1) k r t hm, (cnAttrs_iff.mp h2.1.2) k r t hm⟩⟩

theorem attrsSubtype_iff {m : ValidationMode} {a0 : Attrs} : ∀ {a1 : Attrs}, attrsSubtype m a0 a1 = true ↔
    ∀ k r1 t1, (k, r1, t1) ∈ a1 → ∃ r0 t0, Attrs.find? a0 k = some (r0, t0) ∧
      (if m.isStrict then r0 == r1 else (r0 || !r1)) = true ∧ isSubtype m t0 t1 = true
  | [] => by simp [attrsSubtype]
  | (k', r', t') :: rest => by
    simp only [attrsSubtype, Bool.and_eq_true, attrsSubtype_iff (a1 := rest), List.mem_cons, Prod.mk.injEq]
    constructor
    · rintro ⟨h1, h2⟩ k r1 t1 (⟨rfl, rfl, rfl⟩ | hm)
      · cases hf : Attrs.find? a0 k with
        | none => rw [hf] at h1; simp at h1
        | some qt =>
          obtain ⟨r0, t0⟩ := qt
          rw [hf] at h1
          simp only [Bool.and_eq_true] at h1
          exact ⟨r0, t0, rfl, h1.1, h1.2⟩
      · exact h2 k r1 t1 hm
    · intro h
      refine ⟨?_, fun k r1 t1 hm => h k r1 t1 (Or.inr hm)⟩
      obtain ⟨r0, t0, hf, hr, hs⟩ := h k' r' t' (Or.inl ⟨rfl, rfl, rfl⟩)
      rw [hf]
      simp only [Bool.and_eq_true]
      exact ⟨hr, hs⟩

theorem isSubtype_strict_perm_aux : ∀ (n : Nat) (a b : CedarType), sizeOf b < n → isSubtype .strict a b = true →
    isSubtype .permissive a b = true := by
  intro n
  induction n with
  | zero => intro a b hn; omega
  | succ n ih =>
    intro a b hn h
    -- the rows of `is_subtype` in its order: sets and records recurse, records and entity types look at the mode
    rw [isSubtype.eq_def] at h
    split at h
    next => simp only [isSubtype]  -- `Never`
    next => simpa only [isSubtype] using h  -- two boolean types
    next => rfl  -- `Long`
    next => rfl  -- `String`
    next => simp only [isSubtype]  -- a set below `Set<?>`
    next => cases h  -- `Set<?>` below no other set
    next e0 e1 =>
      simp only [isSubtype]
      exact ih e0 e1 (by simp at hn; omega) h
    next a0 o0 a1 o1 =>
      simp only [ValidationMode.isStrict, Bool.not_true, Bool.and_false, Bool.false_and, Bool.false_or, Bool.and_eq_true,
        Bool.or_eq_true, Bool.not_eq_true'] at h
      obtain ⟨hopen, hkeys, hattrs⟩ := h
      simp only [isSubtype, ValidationMode.isStrict, Bool.not_false, Bool.and_true, Bool.and_eq_true, Bool.or_eq_true,
        Bool.not_eq_true']
      refine ⟨hopen, Or.inr ⟨hkeys, ?_⟩⟩
      rw [attrsSubtype_iff] at hattrs ⊢
      intro k r1 t1 hm
      obtain ⟨r0, t0, hf, hr, hs⟩ := hattrs k r1 t1 hm
      refine ⟨r0, t0, hf, ?_, ih t0 t1 ?_ hs⟩
      · simp only [ValidationMode.isStrict, if_true, beq_iff_eq] at hr
        subst hr
        cases r0 <;> simp [ValidationMode.isStrict]
      · have := List.sizeOf_lt_of_mem hm
        simp at this hn
        omega
    next l0 l1 =>
      simp only [ValidationMode.isStrict, if_true, beq_iff_eq] at h
      subst h
      simp [isSubtype, ValidationMode.isStrict, lubSubset]
    next => rfl  -- `AnyEntity` below itself
    next => cases h  -- an entity type below `AnyEntity`: not in strict mode
    next => simpa only [isSubtype] using h  -- extension types
    next => cases h

theorem isSubtype_strict_perm {a b : CedarType} (h : isSubtype .strict a b = true) : isSubtype .permissive a b = true :=
  isSubtype_strict_perm_aux (sizeOf b + 1) a b (Nat.lt_succ_self _) h

theorem lubAttrsStrict_none {k : String} {r0 r1 : Bool} {t0 t1 : CedarType} {a1 : Attrs} :
    ∀ {a0 : Attrs}, (k, r0, t0) ∈ a0 → Attrs.find? a1 k = some (r1, t1) → (r0 ≠ r1 ∨ lub .strict t0 t1 = none) →
      lubAttrsStrict .strict a0 a1 = none
  | [], hm, _, _ => by cases hm
  | (k', r', t') :: rest, hm, hf, hbad => by
    simp only [lubAttrsStrict]
    rcases List.mem_cons.mp hm with heq | hm'
    · simp only [Prod.mk.injEq] at heq
      obtain ⟨rfl, rfl, rfl⟩ := heq
      rw [hf]
      simp only
      rcases hbad with hne | hl
      · cases hl' : lub .strict t0 t1 <;> cases hr : lubAttrsStrict .strict rest a1 <;> simp [hne]
      · rw [hl]
    · have ih := lubAttrsStrict_none hm' hf hbad
      rw [ih]
      cases Attrs.find? a1 k' with
      | none => rfl
      | some qt =>
        obtain ⟨r1', t1'⟩ := qt
        dsimp only
        cases lub .strict t' t1' <;> rfl

theorem sameKeys_symm {a b : Attrs} (h : sameKeys a b = true) : sameKeys b a = true := by
  unfold sameKeys at h ⊢
  simp only [beq_iff_eq] at h ⊢
  exact h.symm

/-- on good types, where permissive subtyping holds but strict subtyping does not (a required attribute against an
optional one), the strict least upper bound does not exist -/
theorem subtype_gap : ∀ (n : Nat) (a b : CedarType), sizeOf a + sizeOf b < n → GoodTy a → GoodTy b →
    isSubtype .permissive a b = true → isSubtype .strict a b = false →
    isSubtype .strict b a = false ∧ lub .strict a b = none ∧ lub .strict b a = none := by
  intro n
  induction n with
  | zero => intro a b hn; omega
  | succ n ih =>
    intro a b hn ga gb hp hs
    -- the rows of `is_subtype` in its order: a row that does not look at the mode contradicts `hs`
    rw [isSubtype.eq_def] at hp
    split at hp
    next => simp only [isSubtype, Bool.true_eq_false] at hs  -- `Never`
    next =>  -- two boolean types
      simp only [isSubtype] at hs
      rw [hs] at hp
      cases hp
    next => simp only [isSubtype, Bool.true_eq_false] at hs  -- `Long`
    next => simp only [isSubtype, Bool.true_eq_false] at hs  -- `String`
    next => simp only [isSubtype, Bool.true_eq_false] at hs  -- a set below `Set<?>`
    next => cases hp  -- `Set<?>` below no other set
    next e0 e1 =>
      simp only [isSubtype] at hs
      obtain ⟨h1, h2, h3⟩ := ih e0 e1 (by simp at hn; omega) ga.set gb.set hp hs
      refine ⟨by simp only [isSubtype]; exact h1, ?_, ?_⟩
      · rw [lub.eq_def]; simp [isSubtype, hs, h1, h2]
      · rw [lub.eq_def]; simp [isSubtype, hs, h1, h3]
    next a0 o0 a1 o1 =>
      obtain ⟨rfl, hn0, hg0⟩ := ga.record
      obtain ⟨rfl, hn1, hg1⟩ := gb.record
      simp only [isSubtype, ValidationMode.isStrict, Bool.not_false, Bool.not_true, Bool.or_false, Bool.true_and, Bool.false_and,
        Bool.and_false, Bool.false_or, Bool.and_eq_true, Bool.and_eq_false_iff] at hp hs
      obtain ⟨hkeys, hattrs⟩ := hp
      have hsattrs : ¬ attrsSubtype .strict a0 a1 = true := by
        rcases hs with h | h
        · rw [hkeys] at h; cases h
        · rw [h]; simp
      rw [attrsSubtype_iff] at hattrs hsattrs
      -- the offending attribute
      have hw : ∃ k r0 t0 r1 t1, (k, r0, t0) ∈ a0 ∧ (k, r1, t1) ∈ a1 ∧ Attrs.find? a0 k = some (r0, t0) ∧
          Attrs.find? a1 k = some (r1, t1) ∧ isSubtype .permissive t0 t1 = true ∧
          (r0 ≠ r1 ∨ isSubtype .strict t0 t1 = false) := by
        apply Classical.byContradiction
        intro hno
        apply hsattrs
        intro k r1 t1 hm
        obtain ⟨r0, t0, hf, _, hsub⟩ := hattrs k r1 t1 hm
        refine ⟨r0, t0, hf, ?_, ?_⟩
        · simp only [ValidationMode.isStrict, if_true, beq_iff_eq]
          apply Classical.byContradiction
          intro hne
          exact hno ⟨k, r0, t0, r1, t1, find_mem hf, hm, hf, find_of_nodup hn1 hm, hsub, Or.inl hne⟩
        · cases hst : isSubtype .strict t0 t1 with
          | true => rfl
          | false => exact (hno ⟨k, r0, t0, r1, t1, find_mem hf, hm, hf, find_of_nodup hn1 hm, hsub, Or.inr hst⟩).elim
      obtain ⟨k, r0, t0, r1, t1, hm0, hm1, hf0, hf1, hsub, hbad⟩ := hw
      have hsz : sizeOf t0 + sizeOf t1 < n := by
        have h0 := List.sizeOf_lt_of_mem hm0
        have h1 := List.sizeOf_lt_of_mem hm1
        simp at h0 h1 hn
        omega
      have hrec : r0 ≠ r1 ∨ (isSubtype .strict t1 t0 = false ∧ lub .strict t0 t1 = none ∧ lub .strict t1 t0 = none) := by
        rcases hbad with h | h
        · exact Or.inl h
        · exact Or.inr (ih t0 t1 hsz (hg0 _ _ _ hm0) (hg1 _ _ _ hm1) hsub h)
      -- strict subtyping fails in the other direction too
      have hi : isSubtype .strict (.record a1 false) (.record a0 false) = false := by
        cases hb : isSubtype .strict (.record a1 false) (.record a0 false) with
        | false => rfl
        | true =>
          simp only [isSubtype, ValidationMode.isStrict, Bool.not_false, Bool.not_true, Bool.or_false, Bool.true_and,
            Bool.false_and, Bool.and_false, Bool.false_or, Bool.and_eq_true] at hb
          have := (attrsSubtype_iff.mp hb.2) k r0 t0 hm0
          obtain ⟨r1', t1', hf1', hr, hs'⟩ := this
          rw [hf1] at hf1'; cases hf1'
          simp only [ValidationMode.isStrict, if_true, beq_iff_eq] at hr
          rcases hrec with h | ⟨h, _, _⟩
          · exact (h hr.symm).elim
          · rw [h] at hs'; cases hs'
      have hs' : isSubtype .strict (.record a0 false) (.record a1 false) = false := by
        simp only [isSubtype, ValidationMode.isStrict, Bool.not_false, Bool.not_true, Bool.or_false, Bool.true_and,
          Bool.false_and, Bool.and_false, Bool.false_or, Bool.and_eq_false_iff]
        exact hs
      refine ⟨hi, ?_, ?_⟩
      · have hnone : lubAttrsStrict .strict a0 a1 = none :=
          lubAttrsStrict_none hm0 hf1 (by rcases hrec with h | ⟨_, h, _⟩; exact Or.inl h; exact Or.inr h)
        rw [lub.eq_def]
        simp [hs', hi, ValidationMode.isStrict, hkeys, hnone]
      · have hnone : lubAttrsStrict .strict a1 a0 = none :=
          lubAttrsStrict_none hm1 hf0 (by rcases hrec with h | ⟨_, _, h⟩; exact Or.inl (Ne.symm h); exact Or.inr h)
        rw [lub.eq_def]
        simp [hs', hi, ValidationMode.isStrict, sameKeys_symm hkeys, hnone]
    next l0 l1 =>  -- single entity types: a subset is the type itself
      obtain ⟨T0, rfl⟩ := mono_entity ga.1
      obtain ⟨T1, rfl⟩ := mono_entity gb.1
      simp [isSubtype, ValidationMode.isStrict, lubSubset] at hp hs
      exact (hs hp).elim
    next => simp only [isSubtype, Bool.true_eq_false] at hs  -- `AnyEntity` below itself
    next => cases gb.1  -- `AnyEntity` is not a good type
    next =>  -- extension types
      simp only [isSubtype] at hs
      rw [hp] at hs
      cases hs
    next => cases hp

theorem isSubtype_refl_aux : ∀ (n : Nat) (a : CedarType), sizeOf a < n → GoodTy a → isSubtype .strict a a = true := by
  intro n
  induction n with
  | zero => intro a hn; omega
  | succ n ih =>
    intro a hn ga
    cases a <;> (try (simp [isSubtype]; done))
    case set x =>
      cases x with
      | none => simp [isSubtype]
      | some e => simp only [isSubtype]; exact ih e (by simp at hn; omega) ga.set
    case entity l => simp [isSubtype, ValidationMode.isStrict]
    case record a0 o0 =>
      obtain ⟨rfl, hn0, hg0⟩ := ga.record
      simp only [isSubtype, ValidationMode.isStrict, Bool.not_false, Bool.or_false, Bool.true_and, Bool.not_true, Bool.and_false,
        Bool.false_and, Bool.false_or, Bool.and_eq_true]
      refine ⟨by simp [sameKeys], ?_⟩
      rw [attrsSubtype_iff]
      intro k r t hm
      refine ⟨r, t, find_of_nodup hn0 hm, by simp [ValidationMode.isStrict], ih t ?_ (hg0 _ _ _ hm)⟩
      have := List.sizeOf_lt_of_mem hm
      simp at this hn
      omega

theorem isSubtype_refl_good (a : CedarType) (ga : GoodTy a) : isSubtype .strict a a = true :=
  isSubtype_refl_aux (sizeOf a + 1) a (Nat.lt_succ_self _) ga

theorem AttrsJoin.toPermissive {P : CedarType → CedarType → CedarType → Prop} {a0 a1 attrs : Attrs}
    (h : AttrsJoin .strict P a1 a0 attrs) :
    (∀ k r0 t0 r1 t1 t, (k, r0, t0) ∈ a0 → Attrs.find? a1 k = some (r1, t1) → lub .strict t0 t1 = some t → P t0 t1 t →
      lub .permissive t0 t1 = some t) →
    lubAttrsPermissive .permissive a0 a1 = attrs := by
  induction h with
  | nil => intro _; rfl
  | keep hf hl hp _ _ ih =>
    intro hall
    simp only [lubAttrsPermissive, hf, hall _ _ _ _ _ _ List.mem_cons_self hf hl hp,
      ih (fun k r0 t0 r1 t1 t hm => hall k r0 t0 r1 t1 t (List.mem_cons_of_mem _ hm))]
  | drop hp _ _ => cases hp

/-- on good types a strict bound exists only where strict and permissive subtyping agree -/
theorem perm_incomparable {a b c : CedarType} (h : lub .strict a b = some c) (ga : GoodTy a) (gb : GoodTy b)
    (hi : Incomparable .strict a b) : Incomparable .permissive a b := by
  refine ⟨?_, ?_⟩
  · cases hp : isSubtype .permissive a b with
    | false => rfl
    | true => have := (subtype_gap _ a b (Nat.lt_succ_self _) ga gb hp hi.1).2.1; rw [h] at this; cases this
  · cases hp : isSubtype .permissive b a with
    | false => rfl
    | true => have := (subtype_gap _ b a (Nat.lt_succ_self _) gb ga hp hi.2).2.2; rw [h] at this; cases this

theorem lub_strict_perm {a b c : CedarType} (h : lub .strict a b = some c) :
    GoodTy a → GoodTy b → lub .permissive a b = some c := by
  refine lub_rule_aux (m := .strict)
    (P := fun a b c => lub .strict a b = some c → GoodTy a → GoodTy b → lub .permissive a b = some c)
    ?_ ?_ ?_ ?_ ?_ ?_ (sizeOf a + 1) (Nat.lt_succ_self _) h h
  · exact fun hs _ _ _ => lub_of_sub_l (isSubtype_strict_perm hs)
  · intro a b hn hs _ ga gb
    refine lub_of_sub_r ?_ (isSubtype_strict_perm hs)
    cases hp : isSubtype .permissive a b with
    | false => rfl
    | true => have := (subtype_gap _ a b (Nat.lt_succ_self _) ga gb hp hn).1; rw [hs] at this; cases this
  · intro x y hi h ga gb
    have pi := perm_incomparable h ga gb hi
    exact lub_bool pi.1 pi.2
  · intro e0 e1 t hi hl ih h ga gb
    have pi := perm_incomparable h ga gb hi
    rw [lub_set pi.1 pi.2, ih hl ga.set gb.set]; rfl
  · intro a0 o0 a1 o1 attrs hi _ hj h ga gb
    have pi := perm_incomparable h ga gb hi
    obtain ⟨_, _, hg0⟩ := ga.record
    obtain ⟨_, _, hg1⟩ := gb.record
    rw [lub_record_perm pi.1 pi.2, hj.toPermissive (fun k r0 t0 r1 t1 t hm0 hf1 hl ih =>
      ih hl (hg0 _ _ _ hm0) (hg1 _ _ _ (find_mem hf1)))]
  · intro _ _ _ hp; cases hp

theorem lub_cn {a b c : CedarType} (h : lub .strict a b = some c) : GoodTy a → GoodTy b → cn c = true := by
  refine lub_rule (P := fun a b c => GoodTy a → GoodTy b → cn c = true) ?_ ?_ ?_ ?_ ?_ ?_ h
  · exact fun _ _ gb => gb.2
  · exact fun _ ga _ => ga.2
  · exact fun _ _ => rfl
  · exact fun _ ih ga gb => ih ga.set gb.set
  · intro a0 o0 a1 o1 attrs hk hj ga gb
    obtain ⟨rfl, hn0, hg0⟩ := ga.record
    obtain ⟨rfl, _, hg1⟩ := gb.record
    have hkeys := hj.keys rfl
    have hk' : a0.map (·.1) = a1.map (·.1) := by simpa [sameKeys] using hk rfl
    simp only [cn, Bool.and_eq_true, Bool.not_eq_true', decide_eq_true_eq, Bool.or_false, Bool.false_or, Bool.not_eq_false']
    refine ⟨⟨?_, cnAttrs_iff.mpr (fun k r t hm => ?_)⟩, hkeys ▸ hn0⟩
    · simp only [List.all_eq_true, List.contains_iff_mem, hkeys]
      exact ⟨fun x hx => List.mem_map.mpr ⟨x, hx, rfl⟩, fun x hx => hk' ▸ List.mem_map.mpr ⟨x, hx, rfl⟩⟩
    · obtain ⟨r0, t0, r1, t1, hm0, hf1, _, _, ih⟩ := hj.mem k r t hm
      exact ih (hg0 _ _ _ hm0) (hg1 _ _ _ (find_mem hf1))
  · intro _ _ hp; cases hp

theorem lub_good {a b c : CedarType} (ga : GoodTy a) (gb : GoodTy b) (h : lub .strict a b = some c) : GoodTy c :=
  ⟨lub_mono h ga.1 gb.1, lub_cn h ga gb⟩

theorem foldl_lub_strict_perm : ∀ (ts : List CedarType) (acc τ : CedarType), GoodTy acc → (∀ t, t ∈ ts → GoodTy t) →
    ts.foldl (fun acc t => acc.bind (fun a => lub .strict a t)) (some acc) = some τ →
    ts.foldl (fun acc t => acc.bind (fun a => lub .permissive a t)) (some acc) = some τ ∧ GoodTy τ
  | [], acc, τ, ga, _, h => by
    simp only [List.foldl_nil, Option.some.injEq] at h ⊢
    subst h; exact ⟨rfl, ga⟩
  | t :: ts, acc, τ, ga, hall, h => by
    simp only [List.foldl_cons, Option.bind_some] at h ⊢
    cases hl : lub .strict acc t with
    | none => rw [hl, foldl_lub_none] at h; cases h
    | some acc' =>
      rw [hl] at h
      have gt := hall t List.mem_cons_self
      rw [lub_strict_perm hl ga gt]
      exact foldl_lub_strict_perm ts acc' τ (lub_good ga gt hl) (fun t' ht' => hall t' (List.mem_cons_of_mem _ ht')) h

theorem lubAll_strict_perm {ts : List CedarType} {τ : CedarType} (hall : ∀ t, t ∈ ts → GoodTy t) (hne : ts ≠ [])
    (h : lubAll .strict ts = some τ) : lubAll .permissive ts = some τ ∧ GoodTy τ := by
  cases ts with
  | nil => exact (hne rfl).elim
  | cons t ts =>
    rw [lubAll_cons] at h ⊢
    exact foldl_lub_strict_perm ts t τ (hall t List.mem_cons_self) (fun t' ht' => hall t' (List.mem_cons_of_mem _ ht')) h

end Cedar.C03
