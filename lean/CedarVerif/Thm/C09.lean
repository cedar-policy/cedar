import CedarVerif.Cedar.SchemaFmtCheck
import CedarVerif.Lemmas.SchemaWFDecidable
/-
C09 — the JSON and the Cedar schema syntaxes denote the same schema.

Proved about the model, layer by layer; each layer is tied to the code by a differential run of harness/src/c09.rs (driver ops of
Driver/Ops/SchemaSyntax.lean in parentheses).  The normal forms (`eocForm`, `normAction`, `normFragment`, `normAnns`) say what
translation through the Cedar syntax changes; the `…_needed` theorems are counterexamples without the hypothesis they name.
  * TYPE EXPRESSIONS AND NAME RESOLUTION (`Cedar/SchemaSyntax.lean`; `sty print|parse|resolve`): `type_roundtrip`,
    `type_roundtrip_json`, `type_roundtrip_cedar_form`, `resolve_stable` under `EnvOK`, `translation_preserves_types_partial`.
    `envOK_needed_clash`, `envOK_needed_shadow` are the two translation defects the four-way run found in the implementation
    (fmt.rs checks clashes only in non-empty namespaces, and never looks at references).
  * STANDARD ENTITY DECLARATIONS (`Cedar/SchemaDecl.lean`): `decl_roundtrip`, `decl_roundtrip_json`, `decl_parser_accepts_more`.
  * ENUM / COMMON-TYPE / ACTION DECLARATIONS, NAMESPACES, WHOLE FRAGMENTS (`Cedar/SchemaDecl2.lean`, `Lemmas/SchemaFragment.lean`;
    `sty print-frag | parse-frag` on whole schemas): `enum_decl_roundtrip`, `common_decl_roundtrip`, `action_decl_roundtrip`
    (`appliesTo_half_empty_lost` is the known finding), `fragment_roundtrip`; non-vacuity: `demoFragment`.
  * THE `BTreeMap` COLLECTION of the parsed declarations (`Cedar/SchemaCollect.lean`: `collectFragment`, mirroring
    `build_namespace_bindings` / `NamespaceRecord::new` / `collect_decls` / `update_namespace_record` of to_json_schema.rs and the
    `.collect()` into `BTreeMap`s): `fragment_roundtrip_collected`, `collect_rejects_duplicates` (+ `…_examples`),
    `collect_allows_entity_common_clash`, `collect_sorts_example`.
    Not proved: that the output of `collectFragment` is always key-sorted (insertion sort; only used through `FragKeysOK` inputs);
    when a text has both a duplicate and a per-declaration conversion error the model answers `syntax` first, Rust the duplicate.
    Tied by `(sty collect-frag (toks …))` (harness `emit_frag_collect`): `parseFragmentCollected` against
    `Fragment::from_cedarschema_str`, accepted fragments in `BTreeMap` KEY ORDER (no sorting on either side), rejections by the class
    of the first `ToJsonSchemaError` (`DuplicateDeclarations` / `DuplicateNamespaces` / other), on generated texts, their mutations
    and a family with repeated declarations / namespace blocks; the deviation above is skipped and counted
    (`model:collect-frag:skipped-duplicate-and-conversion-error`).
  * THE REFUSAL CASES OF fmt.rs (`Cedar/SchemaFmtCheck.lean`: `toCedarChecked` = `json_schema_to_cedar_schema_str`):
    `toCedar_refuses_iff`, `finding_clash_not_refused`, `finding_shadow_not_refused`.  Shapes that are not record literals are
    outside `EntityTypeJ` and passed to `toCedarChecked` as a name list.
    Tied by `(sty to-cedar-checked <frag> (nonrec …))` against `Fragment::to_cedarschema()`: tokens, or the error class
    `ToCedarSchemaSyntaxError::NameCollisions` / `UnconvertibleEntityTypeShape`; the colliding names themselves are not compared.
  * ANNOTATIONS (`Cedar/SchemaAnnot.lean`, `Lemmas/SchemaAnnot.lean`): `est::Annotations` maps (identifier keys in `BTreeMap`
    order, optional values), `Annotations::fmt_indented`, the grammar's `Annotation*` + `deduplicate_annotations`:
    `annotations_roundtrip` (`annotation_null_becomes_empty`, `annotations_parser_accepts_more`), `annotated_namespace_roundtrip`,
    `annotated_fragment_roundtrip`; non-vacuity: `demoFragmentA`.  Values are token-level strings (escaping belongs to the lexer).
    Tied by `(sty print-frag-a <afrag>)` (`printFragmentA` against `to_cedarschema` on fragments whose record attributes carry no
    annotations) and `(sty parse-frag-a (toks …))` (`parseItemsA` against the real grammar `parse_schema` incl.
    `deduplicate_annotations`: items in source order, annotation maps, declaration kinds; duplicate / value-less / dangling
    annotations among the mutations).
NOT modelled (covered only by the four-way differential run of harness/src/c09.rs): the lexer and string escapes, annotations on record
attributes, action `attributes`, records with additional attributes, JSON (de)serialisation, the JSON-side pairing of converted
entries with their annotations, and everything `ValidatorSchema` construction does after name resolution (common-type inlining,
cycle detection, hierarchy closure, action entities).
-/
namespace Cedar.C09
open Cedar.SchemaSyntax

/-- an implementation of both syntaxes -/
structure Impl where
  SchemaJson : Type
  SchemaCedar : Type
  Loaded : Type
  loadJson : SchemaJson → Option Loaded
  loadCedar : SchemaCedar → Option Loaded
  jsonToCedar : SchemaJson → Option SchemaCedar
  cedarToJson : SchemaCedar → Option SchemaJson

/-- the property at full strength: for every accepted schema, whenever translation succeeds, loading the translation gives
the same resolved schema (entity types, attribute/tag types and optionality, memberOf, enum ids, actions, groups, appliesTo,
contexts).  No `Impl` is built from the model: the theorems below speak of the model's printers, parsers and `resolveTy` directly, for
what the head comment lists; the part after name resolution is not modelled. -/
def FullStatement (I : Impl) : Prop :=
  (∀ j a c, I.loadJson j = some a → I.jsonToCedar j = some c → I.loadCedar c = some a) ∧
  (∀ c a j, I.loadCedar c = some a → I.cedarToJson c = some j → I.loadJson j = some a)

/-- parse ∘ print = id on Cedar type expressions -/
theorem type_roundtrip (c : TyCedar) (h : WFC c) : parseCedar (printC c) = some c := by
  have := parseC_print c h ((printC c).length + 1) [] (by have := sizeC_le_length c; omega) (by simp [OkRest])
  simp only [List.append_nil] at this
  simp [parseCedar, this]

example : parseCedar (printC (.record (.cons "has space" false (.set (.ident ⟨["A", "B"], "Set"⟩))
    (.cons "if" true (.ident ⟨[], "Set"⟩) (.cons "ok" true (.record .nil) .nil))))) =
    some (.record (.cons "has space" false (.set (.ident ⟨["A", "B"], "Set"⟩))
      (.cons "if" true (.ident ⟨[], "Set"⟩) (.cons "ok" true (.record .nil) .nil)))) :=
  type_roundtrip _ (by decide +kernel)

/-- quoting: the printed tokens of that record start `{ "has space" ? : Set < A :: B :: Set > , "if" : Set , ok : { } }` -/
example : printC (.record (.cons "has space" false (.ident ⟨[], "T"⟩) (.cons "if" true (.ident ⟨[], "T"⟩) (.cons "ok" true (.ident ⟨[], "T"⟩) .nil)))) =
    [.lb, .str "has space", .q, .colon, .id "T", .comma, .str "if", .colon, .id "T", .comma, .id "ok", .colon, .id "T", .rb] := by
  decide +kernel

/-- JSON → Cedar tokens → JSON -/
theorem type_roundtrip_json (τ : TyJson) (hw : WFJ τ) (hs : SortedT τ) : parseTy (printTy τ) = some (eocForm τ) := by
  simp [parseTy, printTy_eq_printC, type_roundtrip (toCedar τ) (wfc_toCedar τ hw), normalize_eq_eocForm τ hs]

/-- on expressions the Cedar syntax can write directly (all leaves entity-or-common references): parse ∘ print = id -/
theorem type_roundtrip_cedar_form (τ : TyJson) (hw : WFJ τ) (hs : SortedT τ) (hc : eocForm τ = τ) :
    parseTy (printTy τ) = some τ := by
  rw [type_roundtrip_json τ hw hs, hc]

example : parseTy (printTy (.record (.cons "a b" false (.set .long) (.cons "b" true (.entity ⟨["NS"], "User"⟩) .nil)))) =
    some (.record (.cons "a b" false (.set (.entityOrCommon ⟨["__cedar"], "Long"⟩)) (.cons "b" true (.entityOrCommon ⟨["NS"], "User"⟩) .nil))) :=
  type_roundtrip_json _ (by decide +kernel) (by decide +kernel)

mutual
/-- losing the kind of every reference (what translation through the Cedar syntax does) keeps every resolution.
`hres`: no user common type lives under `__cedar::` (reserved; both parsers refuse it: `namespace_reserved_needed`) -/
theorem resolve_stable (env : Env) (ok : EnvOK env) (hres : ∀ b, env.commons.contains (cedarName b) = false)
    (ns : List String) (τ : TyJson) (r : RTy) (h : resolveTy env ns τ = some r) :
    resolveTy env ns (eocForm τ) = some r := by
  match τ with
  | .bool =>
    obtain rfl : RTy.builtin "Bool" = r := Option.some.inj h
    exact resolveLeaf_cedar env hres ns "Bool" (by decide +kernel)
  | .long =>
    obtain rfl : RTy.builtin "Long" = r := Option.some.inj h
    exact resolveLeaf_cedar env hres ns "Long" (by decide +kernel)
  | .string =>
    obtain rfl : RTy.builtin "String" = r := Option.some.inj h
    exact resolveLeaf_cedar env hres ns "String" (by decide +kernel)
  | .ext n =>
    simp only [resolveTy] at h
    split at h
    · rename_i hx
      obtain rfl := Option.some.inj h
      exact resolveLeaf_cedar env hres ns n (ext_is_builtin n hx)
    · cases h
  | .entity n => exact resolveLeaf_kind_stable env ok ns .entity n r h
  | .commonRef n => exact resolveLeaf_kind_stable env ok ns .common n r h
  | .entityOrCommon n => exact h
  | .set e =>
    simp only [resolveTy, Option.map_eq_some_iff] at h
    obtain ⟨x, hx, hc⟩ := h
    simp [eocForm, resolveTy, resolve_stable env ok hres ns e x hx, hc]
  | .record attrs =>
    simp only [resolveTy, Option.map_eq_some_iff] at h
    obtain ⟨x, hx, hc⟩ := h
    simp [eocForm, resolveTy, resolveAttrs_stable env ok hres ns attrs x hx, hc]
theorem resolveAttrs_stable (env : Env) (ok : EnvOK env) (hres : ∀ b, env.commons.contains (cedarName b) = false)
    (ns : List String) (a : AttrsJ) (r : List (String × Bool × RTy)) (h : resolveAttrs env ns a = some r) :
    resolveAttrs env ns (eocFormAttrs a) = some r := by
  match a with
  | .nil => simpa [eocFormAttrs] using h
  | .cons n req t rest =>
    simp only [resolveAttrs] at h
    split at h
    · rename_i t' rest' ht hrest
      simp [eocFormAttrs, resolveAttrs, resolve_stable env ok hres ns t t' ht, resolveAttrs_stable env ok hres ns rest rest' hrest]
      simpa using h
    · simp at h
end

/-- a harmless environment with a common type shadowing an extension type, an entity type shadowing a primitive, and actions -/
def demoEnv : Env := { commons := [⟨[], "ipaddr"⟩, ⟨["NS"], "Ctx"⟩], entities := [⟨["NS"], "User"⟩, ⟨[], "Long"⟩], actionNs := [["NS"]] }

/-- in `demoEnv`: `ipaddr` is the user's common type, `__cedar::ipaddr` the extension type, `Long` the user's entity type,
`{"type":"Long"}` the primitive, `Action` inside NS the action entity type — before and after translation -/
example : resolveRef demoEnv ["NS"] .either ⟨[], "ipaddr"⟩ = some (.common ⟨[], "ipaddr"⟩)
    ∧ resolveRef demoEnv ["NS"] .either ⟨["__cedar"], "ipaddr"⟩ = some (.common ⟨["__cedar"], "ipaddr"⟩)
    ∧ resolveRef demoEnv ["NS"] .either ⟨[], "Long"⟩ = some (.entity ⟨[], "Long"⟩)
    ∧ resolveRef demoEnv ["NS"] .entity ⟨[], "Action"⟩ = some (.entity ⟨["NS"], "Action"⟩)
    ∧ resolveRef demoEnv ["NS"] .common ⟨[], "Ctx"⟩ = some (.common ⟨["NS"], "Ctx"⟩)
    ∧ resolveRef demoEnv ["NS"] .either ⟨[], "decimal"⟩ = some (.common ⟨[], "decimal"⟩)
    ∧ resolveRef demoEnv ["NS"] .either ⟨[], "Nope"⟩ = none
    ∧ shadowing demoEnv = false := by decide +kernel

/-- the statement of `resolve_stable` fails without `EnvOK` (here `noClash` is what is violated; the step from `resolveRef` to
`resolveTy` is `classify`): empty namespace declares `T` as common type and as entity type; the must-be-entity reference
`{"type":"Entity","name":"T"}` resolves to the entity type, its translation `T` to the common type.
(Implementation: known finding C09-entity-ref-rebinds-to-common-type-empty-namespace.) -/
theorem envOK_needed_clash :
    let env : Env := { commons := [⟨[], "T"⟩], entities := [⟨[], "T"⟩], actionNs := [] }
    shadowing env = false ∧ resolveRef env [] .entity ⟨[], "T"⟩ = some (.entity ⟨[], "T"⟩)
      ∧ resolveRef env [] .either ⟨[], "T"⟩ = some (.common ⟨[], "T"⟩) := by decide +kernel

/-- … and here `noShadow` is what is violated (the RFC 70 check does not imply it, since the builtin aliases are added after it):
namespace `A` declares an entity type `ipaddr`; the must-be-common reference `{"type":"ipaddr"}` written in `A` resolves to the
builtin alias, its translation `ipaddr` to the entity type `A::ipaddr`.
(Implementation: known finding C09-common-ref-rebinds-to-entity-type.) -/
theorem envOK_needed_shadow :
    let env : Env := { commons := [], entities := [⟨["A"], "ipaddr"⟩], actionNs := [] }
    shadowing env = false ∧ resolveRef env ["A"] .common ⟨[], "ipaddr"⟩ = some (.common ⟨[], "ipaddr"⟩)
      ∧ resolveRef env ["A"] .either ⟨[], "ipaddr"⟩ = some (.entity ⟨["A"], "ipaddr"⟩) := by decide +kernel

/-- the type-expression part of the property: a JSON type expression that resolves (in namespace `ns` of an `EnvOK` declaration
environment, which translation keeps: same namespaces, same declared names) is printed by `to_cedarschema` to tokens that parse,
and the parsed expression resolves to the same thing -/
theorem translation_preserves_types_partial (env : Env) (ok : EnvOK env) (hres : ∀ b, env.commons.contains (cedarName b) = false)
    (ns : List String) (τ : TyJson) (hw : WFJ τ) (hs : SortedT τ) (r : RTy) (h : resolveTy env ns τ = some r) :
    ∃ τ', parseTy (printTy τ) = some τ' ∧ resolveTy env ns τ' = some r :=
  ⟨eocForm τ, type_roundtrip_json τ hw hs, resolve_stable env ok hres ns τ r h⟩

/-- parse ∘ print = id on standard entity declarations (any number of names ≥ 1, any `memberOf` list, any shape with optional
fields, optional tags), for names the grammar's `Ident` accepts -/
theorem decl_roundtrip (d : EntityDecl) (h : WFD d) : parseEntityDecl (printEntity d) = some d := by
  have := parseEntity_print d h ((printEntity d).length + 1) (declFuel_le_length d) []
  simp only [List.append_nil] at this
  simp [parseEntityDecl, this]

/-- and with any continuation (the next declaration): the parser stops exactly after the `;` -/
theorem decl_roundtrip_prefix (d : EntityDecl) (h : WFD d) (fuel : Nat) (hf : declFuel d ≤ fuel) (rest : List Tok) :
    parseEntity fuel (printEntity d ++ rest) = some (d, rest) :=
  parseEntity_print d h fuel hf rest

/-- JSON entry → Cedar tokens → JSON entries -/
theorem decl_roundtrip_json (name : String) (e : EntityTypeJ) (hn : validId name = true) (hr : name ≠ "__cedar")
    (hm : ∀ q ∈ e.memberOf, ∀ c ∈ q.comps, validId c = true)
    (hws : WFJ (.record e.shape)) (hss : SortedT (.record e.shape))
    (hwt : ∀ t, e.tags = some t → WFJ t ∧ SortedT t) :
    (parseEntityDecl (printEntity (e.toDecl name))).map EntityDecl.toJsonTypes =
      some [(name, { memberOf := e.memberOf, shape := eocFormAttrs e.shape, tags := e.tags.map eocForm })] := by
  rw [decl_roundtrip _ (wfd_toDecl name e ⟨hn, hr, hm, hws, fun t ht => (hwt t ht).1⟩), Option.map_some,
    toJsonTypes_toDecl name e hss fun t ht => (hwt t ht).2]

-- non-vacuity: every optional part present, an optional field, a quoted attribute name, a qualified parent
example : parseEntityDecl (printEntity ⟨["User"], [⟨["NS"], "Group"⟩, ⟨[], "Team"⟩],
      .cons "name" true (.ident ⟨[], "String"⟩) (.cons "has space" false (.set (.ident ⟨[], "Long"⟩)) .nil),
      some (.set (.ident ⟨[], "String"⟩))⟩) =
    some ⟨["User"], [⟨["NS"], "Group"⟩, ⟨[], "Team"⟩],
      .cons "name" true (.ident ⟨[], "String"⟩) (.cons "has space" false (.set (.ident ⟨[], "Long"⟩)) .nil),
      some (.set (.ident ⟨[], "String"⟩))⟩ :=
  decl_roundtrip _ (by decide +kernel)

/-- what is printed: `entity User in [NS::Group, Team] = { name : String, "has space" ? : Set<Long> } tags Set<String> ;` -/
example : printEntity ⟨["User"], [⟨["NS"], "Group"⟩, ⟨[], "Team"⟩],
      .cons "name" true (.ident ⟨[], "String"⟩) (.cons "has space" false (.set (.ident ⟨[], "Long"⟩)) .nil),
      some (.set (.ident ⟨[], "String"⟩))⟩ =
    [.id "entity", .id "User", .id "in", .other "[", .id "NS", .dcolon, .id "Group", .comma, .id "Team", .other "]",
     .other "=", .lb, .id "name", .colon, .id "String", .comma, .str "has space", .q, .colon, .id "Set", .lt, .id "Long", .gt, .rb,
     .id "tags", .id "Set", .lt, .id "String", .gt, .other ";"] := by decide +kernel

/-- nothing optional: `entity E;` -/
example : parseEntityDecl (printEntity ⟨["E"], [], .nil, none⟩) = some ⟨["E"], [], .nil, none⟩ :=
  decl_roundtrip _ (by decide +kernel)

/-- the parser accepts the forms only the Cedar syntax has: several names, no `=`, a bare path after `in`, `{}` -/
theorem decl_parser_accepts_more :
    parseEntityDecl [.id "entity", .id "A", .comma, .id "B", .id "in", .id "G", .lb, .id "x", .colon, .id "Long", .rb, .other ";"] =
      some ⟨["A", "B"], [⟨[], "G"⟩], .cons "x" true (.ident ⟨[], "Long"⟩) .nil, none⟩ ∧
    parseEntityDecl [.id "entity", .id "A", .id "in", .other "[", .other "]", .other "=", .lb, .rb, .id "tags", .id "String", .other ";"] =
      some ⟨["A"], [], .nil, some (.ident ⟨[], "String"⟩)⟩ ∧
    parseEntityDecl [.id "entity", .id "A", .other "=", .other ";"] = none ∧
    parseEntityDecl [.id "entity", .id "A", .comma, .other ";"] = none ∧
    parseEntityDecl [.id "entity", .id "if", .other ";"] = none ∧
    parseEntityDecl [.id "entity", .id "__cedar", .other ";"] = none := by
  refine ⟨by rfl, by rfl, by rfl, by rfl, by rfl, by rfl⟩

/-- `entity N enum ["a", …];` reads back as the same enum entry -/
theorem enum_decl_roundtrip (name : String) (cs : List String) (hn : validId name = true) (hr : name ≠ "__cedar") (hc : cs ≠ []) :
    parseEntityAnyDecl (printEnumJ name cs) = some [(name, .enum cs)] := by
  have h := parseEntityAny_enum name cs ((printEnumJ name cs).length + 1) [] hn hr hc
  simp only [List.append_nil] at h
  simp [parseEntityAnyDecl, h, EntDeclC.toJsonKinds]

example : parseEntityAnyDecl (printEnumJ "enum" ["enum", "has space", ""]) = some [("enum", .enum ["enum", "has space", ""])] :=
  enum_decl_roundtrip _ _ (by decide +kernel) (by decide +kernel) (by simp)

/-- the non-emptiness hypothesis is needed (json_schema.rs has `NonEmpty` there: the JSON form cannot be empty either) -/
theorem enum_nonempty_needed : parseEntityAnyDecl (printEnumJ "E" []) = none := by decide +kernel

/-- `type N = T;` reads back as the entity-or-common form of `T`, for names that are not reserved common-type names -/
theorem common_decl_roundtrip (name : String) (t : TyJson) (hn : validId name = true) (hr : name ≠ "__cedar")
    (hk : reservedCommonNames.contains name = false) (hw : WFJ t) (hs : SortedT t) :
    parseCommonDecl (printCommonJ name t) = some (name, eocForm t) := by
  have h := parseCommon_print name t hn hr hk hw ((printCommonJ name t).length + 1) (Nat.le_succ _) []
  simp only [List.append_nil] at h
  simp [parseCommonDecl, h, normalize_eq_eocForm t hs]

example : parseCommonDecl (printCommonJ "Ctx" (.record (.cons "ip" false (.ext "ipaddr") .nil))) =
    some ("Ctx", .record (.cons "ip" false (.entityOrCommon ⟨["__cedar"], "ipaddr"⟩) .nil)) :=
  common_decl_roundtrip _ _ (by decide +kernel) (by decide +kernel) (by decide +kernel) (by decide +kernel) (by decide +kernel)

/-- the reserved-name hypothesis is needed: a JSON common type cannot be called `Long` either (`CommonTypeId`), and the parser refuses it -/
theorem common_reserved_needed : parseCommonDecl (printCommonJ "Long" .bool) = none := by decide +kernel

/-- JSON `actions` entry → `action "N" in [..] appliesTo {..};` → JSON entries: the entry comes back as `normAction` of itself —
parents get their type written out (`Action` when absent), `memberOf: []` becomes absent, an absent OR HALF-EMPTY `appliesTo`
becomes the empty `ApplySpec` (principal/resource lists and context LOST), the context becomes its `normCtx` -/
theorem action_decl_roundtrip (name : String) (a : ActionJ) (hw : WFAct a)
    (hs : ∀ s, a.appliesTo = some s → SortedT s.context) :
    parseActionDecl (printActionJ name a) = some [(name, normAction a)] := by
  have h := parseAction_print name a hw ((printActionJ name a).length + 1) (Nat.le_succ _) []
  simp only [List.append_nil] at h
  have hs' : ∀ s, a.appliesTo = some s → SortedT s.context ∧ CtxOK s.context :=
    fun s h' => ⟨hs s h', (hw.2 s h').2.2.2⟩
  simp [parseActionDecl, h, toJsonActions_toDecl name a hs']

/-- an action with a bare and a qualified parent, two principal types, a record context with an optional field -/
def demoAction : ActionJ :=
  { memberOf := some [⟨none, "all"⟩, ⟨some ⟨["NS"], "Action"⟩, "adm in"⟩],
    appliesTo := some ⟨[⟨[], "User"⟩, ⟨["NS"], "Svc"⟩], [⟨[], "Doc"⟩], .record (.cons "ip" false (.ext "ipaddr") (.cons "n" true .long .nil))⟩ }

theorem demoAction_wf : WFAct demoAction ∧ (∀ s, demoAction.appliesTo = some s → SortedT s.context) := by
  decide +kernel

example : parseActionDecl (printActionJ "view doc" demoAction) = some [("view doc", normAction demoAction)] :=
  action_decl_roundtrip _ _ demoAction_wf.1 demoAction_wf.2

/-- what is printed: `action "view doc" in [Action::"all", NS::Action::"adm in"] appliesTo { principal: [User, NS::Svc], resource: [Doc],
context: { ip?: __cedar::ipaddr, n: __cedar::Long } };` -/
example : printActionJ "view doc" demoAction =
    [.id "action", .str "view doc", .id "in", .other "[", .id "Action", .dcolon, .str "all", .comma, .id "NS", .dcolon, .id "Action",
     .dcolon, .str "adm in", .other "]", .id "appliesTo", .lb, .id "principal", .colon, .other "[", .id "User", .comma, .id "NS",
     .dcolon, .id "Svc", .other "]", .comma, .id "resource", .colon, .other "[", .id "Doc", .other "]", .comma, .id "context", .colon,
     .lb, .id "ip", .q, .colon, .id "__cedar", .dcolon, .id "ipaddr", .comma, .id "n", .colon, .id "__cedar", .dcolon, .id "Long", .rb,
     .rb, .other ";"] := by decide +kernel

/-- HALF-EMPTY `appliesTo` (known finding C09-half-empty-appliesTo-dropped): `{principalTypes: [], resourceTypes: [E], context: {x: Long}}`
is printed as `action "a";` and comes back with `resourceTypes: []` and the empty context — `normAction` is NOT the
entity-or-common form here, the declaration is genuinely changed by fmt.rs -/
theorem appliesTo_half_empty_lost :
    let a : ActionJ := ⟨none, some ⟨[], [⟨[], "E"⟩], .record (.cons "x" true .long .nil)⟩⟩
    printActionJ "a" a = [.id "action", .str "a", .other ";"] ∧
    (normAction a).appliesTo.map (·.resources) = some [] ∧
    parseActionDecl (printActionJ "a" a) = parseActionDecl (printActionJ "a" ⟨none, none⟩) := by
  refine ⟨by decide +kernel, by decide +kernel, by rfl⟩

/-- `CtxOK` is needed: fmt.rs prints any context type, the grammar reads only a record or a name after `context:` -/
theorem ctxOK_needed :
    parseActionDecl (printActionJ "a" ⟨none, some ⟨[⟨[], "E"⟩], [⟨[], "E"⟩], .set .long⟩⟩) = none := by decide +kernel

/-- the forms only the Cedar syntax has: bare names, several names, a single parent without brackets, an unqualified parent,
principal/resource/context in any order with a trailing comma, `context: Path`, `attributes {}`; and what to_json_schema.rs refuses -/
theorem action_parser_accepts_more :
    parseActionDecl [.id "action", .id "a", .comma, .str "b c", .id "in", .str "g", .id "appliesTo", .lb, .id "context", .colon, .id "C",
        .comma, .id "resource", .colon, .id "R", .comma, .id "principal", .colon, .other "[", .id "P", .other "]", .comma, .rb,
        .id "attributes", .lb, .rb, .other ";"] =
      some [("a", ⟨some [⟨none, "g"⟩], some ⟨[⟨[], "P"⟩], [⟨[], "R"⟩], .commonRef ⟨[], "C"⟩⟩⟩),
            ("b c", ⟨some [⟨none, "g"⟩], some ⟨[⟨[], "P"⟩], [⟨[], "R"⟩], .commonRef ⟨[], "C"⟩⟩⟩)] ∧
    -- empty list, missing resource, duplicate principal, empty `in []`
    parseActionDecl [.id "action", .id "a", .id "appliesTo", .lb, .id "principal", .colon, .other "[", .other "]", .comma,
        .id "resource", .colon, .id "R", .rb, .other ";"] = none ∧
    parseActionDecl [.id "action", .id "a", .id "appliesTo", .lb, .id "principal", .colon, .id "P", .rb, .other ";"] = none ∧
    parseActionDecl [.id "action", .id "a", .id "appliesTo", .lb, .id "principal", .colon, .id "P", .comma, .id "principal", .colon,
        .id "P", .comma, .id "resource", .colon, .id "R", .rb, .other ";"] = none ∧
    parseActionDecl [.id "action", .id "a", .id "in", .other "[", .other "]", .other ";"] = none ∧
    parseActionDecl [.id "action", .id "a", .id "appliesTo", .lb, .rb, .other ";"] = none := by
  refine ⟨by rfl, by rfl, by rfl, by rfl, by rfl, by rfl⟩

/-- WHOLE FRAGMENT: a JSON fragment (empty namespace + named namespaces, each with common types, entity types of both kinds, actions)
→ printed by fmt.rs → parsed by the grammar → converted by to_json_schema.rs = `normFragment` of the fragment, where `normFragment`
(Lemmas/SchemaConvert.lean) is spelled out: every type leaf an entity-or-common reference (`eocForm`), contexts `normCtx`, parents
`normActRef`, `memberOf: []` absent, absent / half-empty `appliesTo` the empty `ApplySpec`, an empty-namespace entry without
declarations absent.  Hypotheses: names are identifiers the grammar accepts (`WFFrag`: no `__cedar`, common-type names not reserved,
enum lists non-empty, contexts records or names), record attributes in `BTreeMap` order (`SortedFrag`). -/
theorem fragment_roundtrip (f : FragmentJ) (hw : WFFrag f) (hs : SortedFrag f) :
    parseFragment (printFragmentJ f) = some (normFragment f) := by
  simp [parseFragment, parseItems_fragment f hw, toJsonFragment_itemsOf f hw hs]

/-- the namespace-name hypothesis of `WFFrag` is needed: `namespace __cedar { … }` is refused (`convert_namespace`) -/
theorem namespace_reserved_needed :
    parseFragment (printFragmentJ ⟨none, [(⟨[], "__cedar"⟩, ⟨[], [("E", .enum ["a"])], []⟩)]⟩) = none := by decide +kernel

/-- two namespaces (the empty one and `NS`), an enum entity, a common type used by an entity, an action with parents and an
`appliesTo` with a record context, a half-empty `appliesTo` -/
def demoFragment : FragmentJ :=
  { empty := some ⟨[("Ctx", .record (.cons "ip" false (.ext "ipaddr") .nil))],
                   [("Color", .enum ["red", "dark blue"]), ("Doc", .standard ⟨[⟨[], "Doc"⟩], .cons "c" true (.commonRef ⟨[], "Ctx"⟩) .nil, none⟩)],
                   [("half", ⟨some [], some ⟨[], [⟨[], "Doc"⟩], .record .nil⟩⟩)]⟩,
    named := [(⟨[], "NS"⟩, ⟨[], [("Svc", .standard ⟨[], .nil, some .string⟩), ("User", .standard ⟨[], .nil, none⟩)],
                            [("all", ⟨none, none⟩), ("view doc", demoAction)]⟩)] }

theorem demoFragment_ok : WFFrag demoFragment ∧ SortedFrag demoFragment := by
  decide +kernel

example : parseFragment (printFragmentJ demoFragment) = some (normFragment demoFragment) :=
  fragment_roundtrip _ demoFragment_ok.1 demoFragment_ok.2

/-- … and that normal form, computed: the common-type reference of `Doc.c` is now entity-or-common, the half-empty `appliesTo` of
`half` is empty, `all` got the empty `ApplySpec`, the bare parent of `view doc` its `Action` type -/
example : (normFragment demoFragment).empty.map (fun d => d.actions.map fun x => (x.1, x.2.memberOf, x.2.appliesTo.map (·.resources)))
      = some [("half", none, some [])] ∧
    (normFragment demoFragment).named.map (fun x => x.2.actions.map fun y => (y.1, y.2.memberOf)) =
      [[("all", none), ("view doc", some [⟨some ⟨[], "Action"⟩, "all"⟩, ⟨some ⟨["NS"], "Action"⟩, "adm in"⟩])]] := by
  refine ⟨by decide +kernel, by decide +kernel⟩

/-- WHOLE FRAGMENT, COLLECTED: for a JSON fragment with the `BTreeMap` invariant at every level (`FragKeysOK`: keys distinct and in
key order — `SmolStr` order for declaration names, the derived `InternalName` order, basename first, for namespace names), printing,
parsing, the duplicate checks of `build_namespace_bindings` and the `BTreeMap` collection give exactly `normFragment f`: nothing is
refused as a duplicate and no entry moves. -/
theorem fragment_roundtrip_collected (f : FragmentJ) (hw : WFFrag f) (hs : SortedFrag f) (hk : FragKeysOK f) :
    parseFragmentCollected (printFragmentJ f) = .ok (normFragment f) := by
  simp only [parseFragmentCollected, fragment_roundtrip f hw hs]
  exact collectFragment_of_keysOK _ (fragKeysOK_normFragment f hk)

/-- the same statement with the two stages visible -/
theorem fragment_roundtrip_collected_bind (f : FragmentJ) (hw : WFFrag f) (hs : SortedFrag f) (hk : FragKeysOK f) :
    (parseFragment (printFragmentJ f)).map collectFragment = some (.ok (normFragment f)) := by
  rw [fragment_roundtrip f hw hs]
  simp [collectFragment_of_keysOK _ (fragKeysOK_normFragment f hk)]

theorem demoFragment_keysOK : FragKeysOK demoFragment := by
  decide +kernel

example : parseFragmentCollected (printFragmentJ demoFragment) = .ok (normFragment demoFragment) :=
  fragment_roundtrip_collected _ demoFragment_ok.1 demoFragment_ok.2 demoFragment_keysOK

/-- some namespace of the fragment declares an entity type, an action or a common type twice -/
def DupDecl (f : FragmentJ) : Prop :=
  ∃ d, (f.empty = some d ∨ ∃ q, (q, d) ∈ f.named) ∧
    (hasDupKeys (d.entities.map (·.1)) = true ∨ hasDupKeys (d.actions.map (·.1)) = true ∨ hasDupKeys (d.commons.map (·.1)) = true)

theorem dupDecl_iff (f : FragmentJ) : DupDecl f ↔ (f.named.any (fun x => nsHasDup x.2) || optNsHasDup f.empty) = true := by
  simp only [DupDecl, Bool.or_eq_true, List.any_eq_true]
  constructor
  · rintro ⟨d, hd | ⟨q, hq⟩, h⟩
    · right; simpa [hd, optNsHasDup, nsHasDup, or_assoc] using h
    · left; exact ⟨(q, d), hq, by simpa [nsHasDup, or_assoc] using h⟩
  · rintro (⟨x, hx, h⟩ | h)
    · exact ⟨x.2, Or.inr ⟨x.1, hx⟩, by simpa [nsHasDup, or_assoc] using h⟩
    · cases he : f.empty with
      | none => simp [he, optNsHasDup] at h
      | some d => exact ⟨d, Or.inl rfl, by simpa [he, optNsHasDup, nsHasDup, or_assoc] using h⟩

/-- DUPLICATES are refused with the modelled error class, and only they are refused: a repeated entity-type / action / common-type
name in one namespace is `DuplicateDeclarations` (whatever else the fragment contains); otherwise a repeated namespace name is
`DuplicateNameSpaces`; otherwise the fragment is accepted (that its entries come out sorted is not stated).  A name declared BOTH as an entity type and as a
common type is no duplicate (`collect_allows_entity_common_clash`). -/
theorem collect_rejects_duplicates (f : FragmentJ) :
    (DupDecl f → collectFragment f = .error .duplicateDecl) ∧
    (¬ DupDecl f → hasDupKeys (f.named.map (·.1)) = true → collectFragment f = .error .duplicateNamespace) ∧
    (¬ DupDecl f → hasDupKeys (f.named.map (·.1)) = false → ∃ g, collectFragment f = .ok g) := by
  have hnd : ¬ DupDecl f → (f.named.any (fun x => nsHasDup x.2) || optNsHasDup f.empty) = false :=
    fun h => Bool.eq_false_iff.2 (mt (dupDecl_iff f).2 h)
  refine ⟨fun h => ?_, fun h h2 => ?_, fun h h2 => ?_⟩
  · simp [collectFragment, (dupDecl_iff f).1 h]
  · simp [collectFragment, hnd h, h2]
  · simp [collectFragment, hnd h, h2]

/-- the keys of one namespace: common types, entity types, actions -/
structure NsKeys where
  commons : List String
  entities : List String
  actions : List String
deriving DecidableEq, Repr

/-- what a text is answered: the error class, or the keys in collected order -/
structure CollectOutcome where
  err : Option DeclErr
  empty : Option NsKeys
  named : List (QName × NsKeys)
deriving DecidableEq, Repr

def nsKeysOf (d : NamespaceJ) : NsKeys := ⟨d.commons.map (·.1), d.entities.map (·.1), d.actions.map (·.1)⟩

def collectOutcome (toks : List Tok) : CollectOutcome :=
  match parseFragmentCollected toks with
  | .error e => ⟨some e, none, []⟩
  | .ok g => ⟨none, g.empty.map nsKeysOf, g.named.map fun x => (x.1, nsKeysOf x.2)⟩

/-- each duplicate kind, end to end from tokens: `entity A; entity A;` · `entity A, A;` · `entity A; entity A enum ["x"];` ·
`action a; action "a";` · `type T = Long; type T = Bool;` (all `DuplicateDeclarations`) · `namespace N {} namespace N {}`
(`DuplicateNameSpaces`) · a duplicate declaration wins over a duplicate namespace · the same name in DIFFERENT namespaces is fine -/
theorem collect_rejects_duplicates_examples :
    (collectOutcome [.id "entity", .id "A", .other ";", .id "entity", .id "A", .other ";"]).err = some .duplicateDecl ∧
    (collectOutcome [.id "entity", .id "A", .comma, .id "A", .other ";"]).err = some .duplicateDecl ∧
    (collectOutcome [.id "entity", .id "A", .other ";", .id "entity", .id "A", .id "enum", .other "[", .str "x", .other "]", .other ";"]).err = some .duplicateDecl ∧
    (collectOutcome [.id "action", .id "a", .other ";", .id "action", .str "a", .other ";"]).err = some .duplicateDecl ∧
    (collectOutcome [.id "type", .id "T", .other "=", .id "Long", .other ";", .id "type", .id "T", .other "=", .id "Bool", .other ";"]).err = some .duplicateDecl ∧
    (collectOutcome [.id "namespace", .id "N", .lb, .rb, .id "namespace", .id "N", .lb, .rb]).err = some .duplicateNamespace ∧
    (collectOutcome [.id "namespace", .id "N", .lb, .id "entity", .id "A", .comma, .id "A", .other ";", .rb, .id "namespace", .id "N", .lb, .rb]).err = some .duplicateDecl ∧
    collectOutcome [.id "namespace", .id "N", .lb, .id "entity", .id "A", .other ";", .rb, .id "entity", .id "A", .other ";"] =
      ⟨none, some ⟨[], ["A"], []⟩, [(⟨[], "N"⟩, ⟨[], ["A"], []⟩)]⟩ := by
  decide +kernel

/-- `entity T; type T = Long;`: entity names and common-type names are collected into different maps — NOT refused here (whether the
pair is usable is decided by name resolution: `envOK_needed_clash`) -/
theorem collect_allows_entity_common_clash :
    collectOutcome [.id "entity", .id "T", .other ";", .id "type", .id "T", .other "=", .id "Long", .other ";"] =
      ⟨none, some ⟨["T"], ["T"], []⟩, []⟩ := by decide +kernel

/-- the collection SORTS: declarations and namespaces written out of order come back in key order; namespace names are ordered by
BASENAME first (`B::A` before `A::B`: derived `Ord` of `InternalName`) -/
theorem collect_sorts_example :
    collectOutcome [.id "entity", .id "b", .comma, .id "a", .other ";", .id "action", .id "z", .comma, .str "A b", .other ";",
        .id "namespace", .id "A", .dcolon, .id "B", .lb, .rb, .id "namespace", .id "B", .dcolon, .id "A", .lb, .rb, .id "entity", .id "B", .other ";"] =
      ⟨none, some ⟨[], ["B", "a", "b"], ["A b", "z"]⟩, [(⟨["B"], "A"⟩, ⟨[], [], []⟩), (⟨["A"], "B"⟩, ⟨[], [], []⟩)]⟩ := by decide +kernel

/-- some NAMED namespace declares the same name as an entity type and as a common type -/
def Collides (f : FragmentJ) : Prop :=
  ∃ x ∈ f.named, ∃ n, n ∈ x.2.entities.map (·.1) ∧ n ∈ x.2.commons.map (·.1)

theorem fragCollisions_eq_nil_iff (l : List (QName × NamespaceJ)) :
    fragCollisions l = [] ↔ ∀ x ∈ l, ∀ n, n ∈ x.2.entities.map (·.1) → ¬ n ∈ x.2.commons.map (·.1) := by
  induction l with
  | nil => simp [fragCollisions]
  | cons x rest ih =>
    obtain ⟨q, d⟩ := x
    simp only [fragCollisions, List.append_eq_nil_iff, ih, List.forall_mem_cons, nsCollisions, List.map_eq_nil_iff,
      List.filter_eq_nil_iff, List.contains_iff_mem]

/-- fmt.rs REFUSES EXACTLY on the modelled predicates: a fragment is refused iff a named namespace has an entity-type / common-type
name collision or some standard entity type's shape is not a record literal; the collision error has priority; otherwise the result
is the printed fragment. -/
theorem toCedar_refuses_iff (f : FragmentJ) (nonRec : List QName) :
    ((∃ e, toCedarChecked f nonRec = .error e) ↔ (Collides f ∨ nonRec ≠ [])) ∧
    (Collides f → ∃ l, l ≠ [] ∧ toCedarChecked f nonRec = .error (.nameCollisions l)) ∧
    (¬ Collides f → nonRec ≠ [] → toCedarChecked f nonRec = .error (.unconvertibleShape nonRec)) ∧
    (¬ Collides f → nonRec = [] → toCedarChecked f nonRec = .ok (printFragmentJ f)) := by
  have hc : Collides f ↔ fragCollisions f.named ≠ [] := by
    simp only [Collides, ne_eq, fragCollisions_eq_nil_iff, Classical.not_forall, Classical.not_not, exists_prop]
  rw [hc]
  cases hfc : fragCollisions f.named with
  | cons c cs => simp [toCedarChecked, hfc]
  | nil =>
    cases nonRec with
    | nil => simp [toCedarChecked, hfc]
    | cons n ns => simp [toCedarChecked, hfc]

/-- a collision in namespace `NS` is refused (with the qualified name); the same collision in the EMPTY namespace is not -/
example :
    toCedarChecked ⟨none, [(⟨[], "NS"⟩, ⟨[("T", .long)], [("T", .standard ⟨[], .nil, none⟩)], []⟩)]⟩ = .error (.nameCollisions [⟨["NS"], "T"⟩]) ∧
    toCedarChecked ⟨some ⟨[("T", .long)], [("T", .standard ⟨[], .nil, none⟩)], []⟩, []⟩ =
      .ok [.id "type", .id "T", .other "=", .id "__cedar", .dcolon, .id "Long", .other ";", .id "entity", .id "T", .other ";"] := by
  decide +kernel

/-- FINDING 1 (C09-entity-ref-rebinds-to-common-type-empty-namespace) IS NOT COVERED BY THE CHECK: the empty namespace declares `T` as
a common type and as an entity type and `U.x` is the must-be-entity reference `{"type":"Entity","name":"T"}`.  fmt.rs does not refuse
(the collision check skips the empty namespace), prints the reference as the bare `T`, and in the fragment's own declaration
environment — exactly the one of `envOK_needed_clash` — the entity reference resolves to the entity type, the printed `T` to the
common type. -/
theorem finding_clash_not_refused :
    let f : FragmentJ := ⟨some ⟨[("T", .long)],
        [("T", .standard ⟨[], .nil, none⟩), ("U", .standard ⟨[], .cons "x" true (.entity ⟨[], "T"⟩) .nil, none⟩)], []⟩, []⟩
    toCedarChecked f = .ok [.id "type", .id "T", .other "=", .id "__cedar", .dcolon, .id "Long", .other ";", .id "entity", .id "T", .other ";",
        .id "entity", .id "U", .other "=", .lb, .id "x", .colon, .id "T", .rb, .other ";"] ∧
    (envOfFragment f).commons = [⟨[], "T"⟩] ∧ (envOfFragment f).entities = [⟨[], "T"⟩, ⟨[], "U"⟩] ∧
    resolveRef (envOfFragment f) [] .entity ⟨[], "T"⟩ = some (.entity ⟨[], "T"⟩) ∧
    resolveRef (envOfFragment f) [] .either ⟨[], "T"⟩ = some (.common ⟨[], "T"⟩) := by
  decide +kernel

/-- FINDING 2 (C09-common-ref-rebinds-to-entity-type) IS NOT COVERED EITHER: namespace `A` declares an entity type `ipaddr` and `E.x` is
the must-be-common reference `{"type":"ipaddr"}`.  No common type is declared, so nothing collides; fmt.rs prints the bare `ipaddr`,
which in `A` resolves to the entity type `A::ipaddr` while the original resolved to the builtin alias. -/
theorem finding_shadow_not_refused :
    let f : FragmentJ := ⟨none, [(⟨[], "A"⟩, ⟨[],
        [("E", .standard ⟨[], .cons "x" true (.commonRef ⟨[], "ipaddr"⟩) .nil, none⟩), ("ipaddr", .standard ⟨[], .nil, none⟩)], []⟩)]⟩
    toCedarChecked f = .ok [.id "namespace", .id "A", .lb, .id "entity", .id "E", .other "=", .lb, .id "x", .colon, .id "ipaddr", .rb, .other ";",
        .id "entity", .id "ipaddr", .other ";", .rb] ∧
    (envOfFragment f).commons = [] ∧ (envOfFragment f).entities = [⟨["A"], "E"⟩, ⟨["A"], "ipaddr"⟩] ∧
    resolveRef (envOfFragment f) ["A"] .common ⟨[], "ipaddr"⟩ = some (.common ⟨[], "ipaddr"⟩) ∧
    resolveRef (envOfFragment f) ["A"] .either ⟨[], "ipaddr"⟩ = some (.entity ⟨["A"], "ipaddr"⟩) := by
  decide +kernel

/-- an entity type whose shape is a common-type reference (not expressible as `EntityTypeJ`) is refused when nothing collides -/
example : toCedarChecked ⟨none, [(⟨[], "NS"⟩, ⟨[("S", .record .nil)], [], []⟩)]⟩ [⟨["NS"], "E"⟩] = .error (.unconvertibleShape [⟨["NS"], "E"⟩]) := by
  decide +kernel

/-- an ANNOTATION MAP (`est::Annotations`: identifier keys in `BTreeMap` order, values optional) printed by `Annotations::fmt_indented`
(`@key("value")`, `@key` for an absent value) and read by the grammar's `Annotation*` + `deduplicate_annotations` comes back as
`normAnns` of itself: same keys, same values, an ABSENT value (`null` in JSON) becomes `""`.  `R` is what follows (a declaration, the
`namespace` keyword, `}` or the end of the input — anything not starting with a punctuation token like `@` or `(`). -/
theorem annotations_roundtrip (a : AnnsJ) (hw : WFAnns a) (hk : KeysSorted a) (R : List Tok) (hR : startsId R = true) :
    parseAnnotations (printAnns a ++ R) = some (normAnns a, R) :=
  parseAnnotations_print a hw hk R hR

example : parseAnnotations (printAnns [("doc", some "a \"doc\""), ("if", none), ("z", some "")] ++ [.id "entity", .id "E", .other ";"]) =
    some ([("doc", some "a \"doc\""), ("if", some ""), ("z", some "")], [.id "entity", .id "E", .other ";"]) :=
  annotations_roundtrip _ (by decide +kernel) (by decide +kernel) _ (by decide +kernel)

/-- what the parser does beyond the printed forms: annotations in any order are SORTED, a repeated key is refused
(`DuplicateAnnotations`), a key must be identifier-shaped, the value a single string literal in parentheses -/
theorem annotations_parser_accepts_more :
    parseAnnotations [.other "@", .id "z", .other "@", .id "a", .other "(", .str "v", .other ")", .id "type"] =
      some ([("a", some "v"), ("z", some "")], [.id "type"]) ∧
    parseAnnotations [.other "@", .id "a", .other "@", .id "a", .other "(", .str "v", .other ")", .id "type"] = none ∧
    parseAnnotations [.other "@", .str "a", .id "type"] = none ∧
    parseAnnotations [.other "@", .id "a b", .id "type"] = none ∧
    parseAnnotations [.id "type"] = some ([], [.id "type"]) := by
  decide +kernel

/-- the absent-value normalisation is a genuine change of the JSON fragment: `{"annotations": {"a": null}}` comes back as
`{"annotations": {"a": ""}}` (both denote the annotation value `""`: `Annotation::with_optional_value`) -/
theorem annotation_null_becomes_empty :
    parseAnnotations (printAnns [("a", none)] ++ [.id "entity"]) = some ([("a", some "")], [.id "entity"]) := by decide +kernel

/-- an ANNOTATED NAMESPACE BODY (`Annotated<Decl>*`): common types, entity types of both kinds and actions, each with its annotation
map, printed by `NamespaceDefinition::fmt_indented` and read by the grammar, come back as the Cedar declarations the un-annotated
theorems talk about (`fragment_roundtrip`), each with `normAnns` of its annotations; `rest` is what follows the body (`}` or the
end of the input). -/
theorem annotated_namespace_roundtrip (d : NamespaceA) (hw : WFNs d.strip) (ha : AnnsOKNs d) (fuel : Nat)
    (rest : List Tok) (hr : isDeclStart rest = false) (hs : startsId rest = true) (hf : nsCount d.strip < fuel) :
    parseDeclListA fuel (printNsA d ++ rest) =
      some ((triplesOfNsA d).map (fun x => (normAnns x.1, x.2.2)), rest) := by
  have h := parseDeclListA_triples (triplesOfNsA d) fuel rest (good_triplesOfNsA d hw ha) hr hs
    (by rw [triplesOfNsA_length]; exact hf)
  rwa [printTriples_nsA] at h

/-- forgetting the annotations of the parsed body gives exactly the declarations of the un-annotated theorem (`declsOfNs`), so
`convertDecls` (to_json_schema.rs) turns them into `normNs d.strip` as in `fragment_roundtrip` -/
theorem annotated_namespace_strip (d : NamespaceA) : (triplesOfNsA d).map (·.2.2) = declsOfNs d.strip :=
  triplesOfNsA_strip d

/-- `@doc("types") type Ctx = {…};  @a @b("x") entity Color enum [..];  action "view doc" …;` followed by `}` -/
def demoNsA : NamespaceA :=
  { commons := [([("doc", some "types")], "Ctx", .record (.cons "ip" false (.ext "ipaddr") .nil))],
    entities := [([("a", none), ("b", some "x")], "Color", .enum ["red", "dark blue"])],
    actions := [([], "view doc", demoAction)] }

theorem demoNsA_ok : WFNs demoNsA.strip ∧ AnnsOKNs demoNsA := by
  decide +kernel

example : ∃ ds, parseDeclListA 10 (printNsA demoNsA ++ [.rb]) = some (ds, [.rb]) ∧
    ds.map (·.1) = [[("doc", some "types")], [("a", some ""), ("b", some "x")], []] :=
  ⟨_, annotated_namespace_roundtrip demoNsA demoNsA_ok.1 demoNsA_ok.2 10 [.rb] (by decide) (by decide) (by decide), by decide +kernel⟩

/-- WHOLE ANNOTATED FRAGMENT: annotations on `namespace` blocks and on every declaration (`FragmentA`; the empty namespace has none of
its own, as the JSON deserialiser demands).  The printed fragment parses (`parseItemsA`: `Annotated<Namedspace> | Annotated<Decl>`) to
`itemsOfA f` — every annotation map in its `normAnns` form (same keys and values, absent value ↦ `""`) — and, forgetting the
annotations, these are exactly the items of the un-annotated theorem, which to_json_schema.rs converts to `normFragment f.strip`.
Not covered: annotations on record ATTRIBUTES (inside type expressions), and the JSON-side pairing of each converted entry with its
annotations (`convert_entity_decl` clones the annotations of a multi-name declaration onto every name; trivial for printed
fragments, where every declaration has one name). -/
theorem annotated_fragment_roundtrip (f : FragmentA) (hw : WFFragA f) (hs : SortedFrag f.strip) :
    parseItemsA ((printFragmentA f).length + 1) (printFragmentA f) = some (itemsOfA f) ∧
    toJsonFragment ((itemsOfA f).map ItemA.strip) = some (normFragment f.strip) := by
  refine ⟨parseItemsA_fragment f hw.1 hw.2, ?_⟩
  rw [itemsOfA_strip]
  exact toJsonFragment_itemsOf f.strip (wfFrag_strip f hw) hs

/-- `@doc("ns") @internal namespace NS { <demoNsA> }` -/
def demoFragmentA : FragmentA := ⟨none, [(⟨[], "NS"⟩, [("doc", some "ns"), ("internal", none)], demoNsA)]⟩

example : ∃ its, parseItemsA ((printFragmentA demoFragmentA).length + 1) (printFragmentA demoFragmentA) = some its ∧
    its.map (fun | .ns a q ds => (a, q, ds.map (·.1)) | .decl a _ => (a, ⟨[], ""⟩, [])) =
      [([("doc", some "ns"), ("internal", some "")], ⟨[], "NS"⟩, [[("doc", some "types")], [("a", some ""), ("b", some "x")], []])] := by
  exact ⟨_, (annotated_fragment_roundtrip demoFragmentA (by decide +kernel) (by decide +kernel)).1, by decide +kernel⟩

end Cedar.C09
