import CedarVerif.Lemmas.TableDecide
/- Bucket membership of the partial authorizer loop and the decision-table lemma (DESIGN.md appendix C),
   stated over the model's `PartialResponse`. -/
namespace Cedar

/-- what is known about one policy after partial evaluation vs. its final outcome under a completion -/
def Consistent (c : PolicyResult) (o : Outcome) : Prop :=
  match c with
  | .sat => o = .sat
  | .unsat => o = .unsat
  | .err => o = .err
  | .residual _ => True
  | .stuck => False

/-- the concrete authorizer's decision from final per-policy outcomes (C01 `allow_iff`, as a definition) -/
def concreteDecision (ps : List Policy) (out : Policy → Outcome) : Decision :=
  if ps.any (fun p => p.effect == .permit && out p == .sat) && !ps.any (fun p => p.effect == .forbid && out p == .sat)
  then .allow else .deny

/-- the concrete determining policies (C01 `reasons_exact`, as a definition) -/
def determining (ps : List Policy) (out : Policy → Outcome) : List String :=
  if ps.any (fun p => p.effect == .forbid && out p == .sat)
  then (ps.filter (fun p => p.effect == .forbid && out p == .sat)).map (·.id)
  else (ps.filter (fun p => p.effect == .permit && out p == .sat)).map (·.id)

section
variable (m : Mapper) (es : PEntities)

theorem step_request (pr : PartialResponse) (p : Policy) :
    (PartialResponse.step m es pr p).request = pr.request := by
  unfold PartialResponse.step
  split <;> rfl

theorem fold_request (ps : List Policy) (pr : PartialResponse) :
    (ps.foldl (PartialResponse.step m es) pr).request = pr.request :=
  List.foldlRecOn (motive := fun (pr' : PartialResponse) => pr'.request = pr.request) ps _ rfl
    fun pr' h p _ => (step_request m es pr' p).trans h

structure StepSpec (pr pr' : PartialResponse) (p : Policy) (c : PolicyResult) : Prop where
  sp : ∀ id, id ∈ pr'.satisfiedPermits ↔ id ∈ pr.satisfiedPermits ∨ (id = p.id ∧ p.effect = .permit ∧ c = .sat)
  sf : ∀ id, id ∈ pr'.satisfiedForbids ↔ id ∈ pr.satisfiedForbids ∨ (id = p.id ∧ p.effect = .forbid ∧ c = .sat)
  fp : ∀ id b, (id, b) ∈ pr'.falsePermits ↔ (id, b) ∈ pr.falsePermits ∨
        (id = p.id ∧ p.effect = .permit ∧ ((b = false ∧ c = .unsat) ∨ (b = true ∧ c = .err)))
  ff : ∀ id b, (id, b) ∈ pr'.falseForbids ↔ (id, b) ∈ pr.falseForbids ∨
        (id = p.id ∧ p.effect = .forbid ∧ ((b = false ∧ c = .unsat) ∨ (b = true ∧ c = .err)))
  rp : ∀ id e, (id, e) ∈ pr'.residualPermits ↔ (id, e) ∈ pr.residualPermits ∨ (id = p.id ∧ p.effect = .permit ∧ c = .residual e)
  rf : ∀ id e, (id, e) ∈ pr'.residualForbids ↔ (id, e) ∈ pr.residualForbids ∨ (id = p.id ∧ p.effect = .forbid ∧ c = .residual e)
  st : ∀ id, id ∈ pr'.stuck ↔ id ∈ pr.stuck ∨ (id = p.id ∧ c = .stuck)

theorem step_spec (pr : PartialResponse) (p : Policy) :
    StepSpec pr (PartialResponse.step m es pr p) p (partialEvaluate m pr.request es p) := by
  unfold PartialResponse.step
  cases hc : partialEvaluate m pr.request es p <;> cases he : p.effect <;>
    constructor <;> intros <;> simp [Prod.ext_iff, he] <;>
    try (constructor <;> (intro h; rcases h with h | ⟨h1, h2⟩ <;> first | exact Or.inl h | exact Or.inr ⟨h1, h2.symm⟩))

structure CoreSpec (req : PRequest) (pr' : PartialResponse) (ps : List Policy) : Prop where
  sp : ∀ id, id ∈ pr'.satisfiedPermits ↔ ∃ p, p ∈ ps ∧ id = p.id ∧ p.effect = .permit ∧ partialEvaluate m req es p = .sat
  sf : ∀ id, id ∈ pr'.satisfiedForbids ↔ ∃ p, p ∈ ps ∧ id = p.id ∧ p.effect = .forbid ∧ partialEvaluate m req es p = .sat
  fp : ∀ id b, (id, b) ∈ pr'.falsePermits ↔ ∃ p, p ∈ ps ∧ id = p.id ∧ p.effect = .permit ∧
        ((b = false ∧ partialEvaluate m req es p = .unsat) ∨ (b = true ∧ partialEvaluate m req es p = .err))
  ff : ∀ id b, (id, b) ∈ pr'.falseForbids ↔ ∃ p, p ∈ ps ∧ id = p.id ∧ p.effect = .forbid ∧
        ((b = false ∧ partialEvaluate m req es p = .unsat) ∨ (b = true ∧ partialEvaluate m req es p = .err))
  rp : ∀ id e, (id, e) ∈ pr'.residualPermits ↔
        ∃ p, p ∈ ps ∧ id = p.id ∧ p.effect = .permit ∧ partialEvaluate m req es p = .residual e
  rf : ∀ id e, (id, e) ∈ pr'.residualForbids ↔
        ∃ p, p ∈ ps ∧ id = p.id ∧ p.effect = .forbid ∧ partialEvaluate m req es p = .residual e
  st : ∀ id, id ∈ pr'.stuck ↔ ∃ p, p ∈ ps ∧ id = p.id ∧ partialEvaluate m req es p = .stuck

/-- the loop keeps the specification: the policies seen so far are `qs`, then `ps` -/
theorem fold_spec (ps : List Policy) : ∀ (pr : PartialResponse) (qs : List Policy), CoreSpec m es pr.request pr qs →
    CoreSpec m es pr.request (ps.foldl (PartialResponse.step m es) pr) (qs ++ ps) := by
  induction ps with
  | nil => intro pr qs h; rw [List.append_nil]; exact h
  | cons p ps ih =>
    intro pr qs h
    have h1 := step_spec m es pr p
    have h2 := ih (PartialResponse.step m es pr p) (qs ++ [p])
    rw [step_request, List.append_assoc, List.singleton_append] at h2
    refine h2 ?_
    constructor
    · intro id; rw [h1.sp, h.sp]; simp only [List.mem_append, List.mem_singleton, or_and_right, exists_or, exists_eq_left]
    · intro id; rw [h1.sf, h.sf]; simp only [List.mem_append, List.mem_singleton, or_and_right, exists_or, exists_eq_left]
    · intro id b; rw [h1.fp, h.fp]; simp only [List.mem_append, List.mem_singleton, or_and_right, exists_or, exists_eq_left]
    · intro id b; rw [h1.ff, h.ff]; simp only [List.mem_append, List.mem_singleton, or_and_right, exists_or, exists_eq_left]
    · intro id e; rw [h1.rp, h.rp]; simp only [List.mem_append, List.mem_singleton, or_and_right, exists_or, exists_eq_left]
    · intro id e; rw [h1.rf, h.rf]; simp only [List.mem_append, List.mem_singleton, or_and_right, exists_or, exists_eq_left]
    · intro id; rw [h1.st, h.st]; simp only [List.mem_append, List.mem_singleton, or_and_right, exists_or, exists_eq_left]

theorem core_spec (req : PRequest) (ps : List Policy) : CoreSpec m es req (isAuthorizedCore m req es ps) ps :=
  fold_spec m es ps { request := req } [] (by constructor <;> intros <;> simp)

end

theorem ne_isEmpty_iff {α} {l : List α} : (!l.isEmpty) = true ↔ ∃ x, x ∈ l := by
  rw [Bool.not_eq_true', List.isEmpty_eq_false_iff_exists_mem]

section
variable (m : Mapper) (req : PRequest) (es : PEntities) (ps : List Policy) (out : Policy → Outcome)

def FinalSat (eff : Effect) : Prop := ∃ p, p ∈ ps ∧ p.effect = eff ∧ out p = .sat

theorem any_sat_iff (eff : Effect) :
    ps.any (fun p => p.effect == eff && out p == .sat) = true ↔ FinalSat ps out eff := by
  unfold FinalSat
  simp only [List.any_eq_true, Bool.and_eq_true, beq_iff_eq]

theorem concreteDecision_allow_iff :
    concreteDecision ps out = .allow ↔ FinalSat ps out .permit ∧ ¬ FinalSat ps out .forbid := by
  unfold concreteDecision
  rw [← any_sat_iff, ← any_sat_iff]
  cases ps.any (fun p => p.effect == .permit && out p == .sat) <;>
    cases ps.any (fun p => p.effect == .forbid && out p == .sat) <;> simp

theorem mem_determining (id : String) :
    id ∈ determining ps out ↔
      (FinalSat ps out .forbid ∧ ∃ p, p ∈ ps ∧ id = p.id ∧ p.effect = .forbid ∧ out p = .sat) ∨
      (¬ FinalSat ps out .forbid ∧ ∃ p, p ∈ ps ∧ id = p.id ∧ p.effect = .permit ∧ out p = .sat) := by
  unfold determining
  rw [← any_sat_iff]
  cases h : ps.any (fun p => p.effect == .forbid && out p == .sat) <;>
    simp only [List.mem_map, List.mem_filter, Bool.and_eq_true, beq_iff_eq, Bool.false_eq_true, if_false, if_true,
      not_false_eq_true, true_and, false_and, or_false, false_or, not_true_eq_false] <;>
    constructor <;> (try rintro ⟨p, ⟨hp, he, ho⟩, rfl⟩) <;> (try exact ⟨p, hp, rfl, he, ho⟩) <;>
    (rintro ⟨p, hp, rfl, he, ho⟩; exact ⟨p, ⟨hp, he, ho⟩, rfl⟩)

variable (hc : ∀ p, p ∈ ps → Consistent (partialEvaluate m req es p) (out p))
include hc

theorem sat_cases {p : Policy} (hp : p ∈ ps) (ho : out p = .sat) :
    partialEvaluate m req es p = .sat ∨ ∃ e, partialEvaluate m req es p = .residual e := by
  have h := hc p hp
  cases hpe : partialEvaluate m req es p with
  | sat => exact Or.inl rfl
  | residual e => exact Or.inr ⟨e, rfl⟩
  | unsat => rw [hpe] at h; simp only [Consistent] at h; rw [h] at ho; cases ho
  | err => rw [hpe] at h; simp only [Consistent] at h; rw [h] at ho; cases ho
  | stuck => rw [hpe] at h; exact h.elim

theorem sat_of_class {p : Policy} (hp : p ∈ ps) (h : partialEvaluate m req es p = .sat) : out p = .sat := by
  have := hc p hp; rw [h] at this; exact this

theorem table_sound_core :
    let pr := isAuthorizedCore m req es ps
    (∀ d, pr.decision = some d → concreteDecision ps out = d) ∧
    (∀ id, id ∈ pr.mustBeDetermining → id ∈ determining ps out) ∧
    (∀ id, id ∈ determining ps out → id ∈ pr.mayBeDetermining) := by
  intro pr
  have S := core_spec m es req ps
  have hSF : (∃ x, x ∈ pr.satisfiedForbids) ↔ ∃ p, p ∈ ps ∧ p.effect = .forbid ∧ partialEvaluate m req es p = .sat := by
    constructor
    · rintro ⟨x, hx⟩; obtain ⟨p, hp, _, he, hs⟩ := (S.sf x).mp hx
      exact ⟨p, hp, he, hs⟩
    · rintro ⟨p, hp, he, hs⟩; exact ⟨p.id, (S.sf p.id).mpr ⟨p, hp, rfl, he, hs⟩⟩
  have hSP : (∃ x, x ∈ pr.satisfiedPermits) ↔ ∃ p, p ∈ ps ∧ p.effect = .permit ∧ partialEvaluate m req es p = .sat := by
    constructor
    · rintro ⟨x, hx⟩; obtain ⟨p, hp, _, he, hs⟩ := (S.sp x).mp hx
      exact ⟨p, hp, he, hs⟩
    · rintro ⟨p, hp, he, hs⟩; exact ⟨p.id, (S.sp p.id).mpr ⟨p, hp, rfl, he, hs⟩⟩
  have hRP : (∃ x, x ∈ pr.residualPermits) ↔ ∃ p, p ∈ ps ∧ p.effect = .permit ∧ ∃ e, partialEvaluate m req es p = .residual e := by
    constructor
    · rintro ⟨⟨id, e⟩, hx⟩; obtain ⟨p, hp, _, he, hs⟩ := (S.rp id e).mp hx
      exact ⟨p, hp, he, e, hs⟩
    · rintro ⟨p, hp, he, e, hs⟩; exact ⟨(p.id, e), (S.rp p.id e).mpr ⟨p, hp, rfl, he, hs⟩⟩
  have hRF : (∃ x, x ∈ pr.residualForbids) ↔ ∃ p, p ∈ ps ∧ p.effect = .forbid ∧ ∃ e, partialEvaluate m req es p = .residual e := by
    constructor
    · rintro ⟨⟨id, e⟩, hx⟩; obtain ⟨p, hp, _, he, hs⟩ := (S.rf id e).mp hx
      exact ⟨p, hp, he, e, hs⟩
    · rintro ⟨p, hp, he, e, hs⟩; exact ⟨(p.id, e), (S.rf p.id e).mpr ⟨p, hp, rfl, he, hs⟩⟩
  have forbidSat_of_SF : (∃ x, x ∈ pr.satisfiedForbids) → FinalSat ps out .forbid := by
    intro h; obtain ⟨p, hp, he, hs⟩ := hSF.mp h
    exact ⟨p, hp, he, sat_of_class m req es ps out hc hp hs⟩
  have flagsF : FinalSat ps out .forbid → (∃ x, x ∈ pr.satisfiedForbids) ∨ (∃ x, x ∈ pr.residualForbids) := by
    rintro ⟨p, hp, he, ho⟩
    rcases sat_cases m req es ps out hc hp ho with hs | ⟨e, hs⟩
    · exact Or.inl (hSF.mpr ⟨p, hp, he, hs⟩)
    · exact Or.inr (hRF.mpr ⟨p, hp, he, e, hs⟩)
  have flagsP : FinalSat ps out .permit → (∃ x, x ∈ pr.satisfiedPermits) ∨ (∃ x, x ∈ pr.residualPermits) := by
    rintro ⟨p, hp, he, ho⟩
    rcases sat_cases m req es ps out hc hp ho with hs | ⟨e, hs⟩
    · exact Or.inl (hSP.mpr ⟨p, hp, he, hs⟩)
    · exact Or.inr (hRP.mpr ⟨p, hp, he, e, hs⟩)
  have permitSat_of_SP : (∃ x, x ∈ pr.satisfiedPermits) → FinalSat ps out .permit := by
    intro h; obtain ⟨p, hp, he, hs⟩ := hSP.mp h
    exact ⟨p, hp, he, sat_of_class m req es ps out hc hp hs⟩
  refine ⟨?_, ?_, ?_⟩
  · intro d hd
    refine Decision.eq_of_allow_iff ((concreteDecision_allow_iff ps out).trans (Table.decide_sound hd ?_ ?_ ?_ ?_).symm)
    · exact fun h => forbidSat_of_SF (ne_isEmpty_iff.mp h)
    · exact fun h => permitSat_of_SP (ne_isEmpty_iff.mp h)
    · exact fun h => (flagsP h).imp ne_isEmpty_iff.mpr ne_isEmpty_iff.mpr
    · exact fun h => (flagsF h).imp ne_isEmpty_iff.mpr ne_isEmpty_iff.mpr
  · intro id hid
    unfold PartialResponse.mustBeDetermining at hid
    rw [mem_determining]
    by_cases hE : (pr.satisfiedForbids.isEmpty && pr.residualForbids.isEmpty) = true
    · rw [if_pos hE] at hid
      simp only [Bool.and_eq_true, List.isEmpty_iff] at hE
      have h1 : ¬ ∃ x, x ∈ pr.satisfiedForbids := by rw [hE.1]; simp
      have h4 : ¬ ∃ x, x ∈ pr.residualForbids := by rw [hE.2]; simp
      obtain ⟨p, hp, rfl, he, hs⟩ := (S.sp id).mp hid
      exact Or.inr ⟨fun h => (flagsF h).elim h1 h4, p, hp, rfl, he, sat_of_class m req es ps out hc hp hs⟩
    · rw [if_neg hE] at hid
      obtain ⟨p, hp, rfl, he, hs⟩ := (S.sf id).mp hid
      have ho := sat_of_class m req es ps out hc hp hs
      exact Or.inl ⟨⟨p, hp, he, ho⟩, p, hp, rfl, he, ho⟩
  · intro id hid
    rw [mem_determining] at hid
    unfold PartialResponse.mayBeDetermining
    rcases hid with ⟨_, p, hp, rfl, he, ho⟩ | ⟨hnf, p, hp, rfl, he, ho⟩
    · rcases sat_cases m req es ps out hc hp ho with hs | ⟨e, hs⟩
      · have hm : p.id ∈ pr.satisfiedForbids := (S.sf p.id).mpr ⟨p, hp, rfl, he, hs⟩
        have hne : pr.satisfiedForbids.isEmpty = false := by
          cases hl : pr.satisfiedForbids with
          | nil => rw [hl] at hm; cases hm
          | cons a t => rfl
        rw [hne]; simp only [Bool.false_eq_true, if_false, List.mem_append]; exact Or.inl hm
      · have hm : (p.id, e) ∈ pr.residualForbids := (S.rf p.id e).mpr ⟨p, hp, rfl, he, hs⟩
        have hm' : p.id ∈ pr.residualForbids.map (·.1) := List.mem_map.mpr ⟨(p.id, e), hm, rfl⟩
        split <;> simp only [List.mem_append] <;> exact Or.inr hm'
    · have hE : pr.satisfiedForbids.isEmpty = true := by
        cases hl : pr.satisfiedForbids with
        | nil => rfl
        | cons a t => exact (hnf (forbidSat_of_SF ⟨a, by rw [hl]; exact List.mem_cons_self⟩)).elim
      rw [if_pos hE]
      rcases sat_cases m req es ps out hc hp ho with hs | ⟨e, hs⟩
      · have hm : p.id ∈ pr.satisfiedPermits := (S.sp p.id).mpr ⟨p, hp, rfl, he, hs⟩
        simp only [List.mem_append]; exact Or.inl (Or.inl hm)
      · have hm : (p.id, e) ∈ pr.residualPermits := (S.rp p.id e).mpr ⟨p, hp, rfl, he, hs⟩
        have hm' : p.id ∈ pr.residualPermits.map (·.1) := List.mem_map.mpr ⟨(p.id, e), hm, rfl⟩
        simp only [List.mem_append]; exact Or.inl (Or.inr hm')

theorem definite_sound_core :
    let pr := isAuthorizedCore m req es ps
    (∀ id, id ∈ pr.definitelySatisfied → ∃ p, p ∈ ps ∧ p.id = id ∧ out p = .sat) ∧
    (∀ id, id ∈ pr.definitelyErrored → ∃ p, p ∈ ps ∧ p.id = id ∧ out p = .err) ∧
    (∀ id, id ∈ pr.definitelyFalse → ∃ p, p ∈ ps ∧ p.id = id ∧ out p = .unsat) := by
  intro pr
  have S := core_spec m es req ps
  have falseBucket : ∀ id b, (id, b) ∈ pr.falsePermits ++ pr.falseForbids → ∃ p, p ∈ ps ∧ id = p.id ∧
      ((b = false ∧ partialEvaluate m req es p = .unsat) ∨ (b = true ∧ partialEvaluate m req es p = .err)) := by
    intro id b hx
    rcases List.mem_append.mp hx with h | h
    · obtain ⟨p, hp, hid, _, hs⟩ := (S.fp id b).mp h
      exact ⟨p, hp, hid, hs⟩
    · obtain ⟨p, hp, hid, _, hs⟩ := (S.ff id b).mp h
      exact ⟨p, hp, hid, hs⟩
  refine ⟨?_, ?_, ?_⟩
  · intro id hid
    unfold PartialResponse.definitelySatisfied at hid
    rcases List.mem_append.mp hid with h | h
    · obtain ⟨p, hp, rfl, _, hs⟩ := (S.sp id).mp h
      exact ⟨p, hp, rfl, sat_of_class m req es ps out hc hp hs⟩
    · obtain ⟨p, hp, rfl, _, hs⟩ := (S.sf id).mp h
      exact ⟨p, hp, rfl, sat_of_class m req es ps out hc hp hs⟩
  · intro id hid
    obtain ⟨⟨id', b⟩, hx, rfl⟩ := List.mem_map.mp hid
    obtain ⟨hx, hb⟩ := List.mem_filter.mp hx
    simp only at hb; subst hb
    obtain ⟨p, hp, rfl, hs⟩ := falseBucket _ _ hx
    rcases hs with ⟨hb, _⟩ | ⟨_, hs⟩
    · cases hb
    · have := hc p hp; rw [hs] at this; exact ⟨p, hp, rfl, this⟩
  · intro id hid
    obtain ⟨⟨id', b⟩, hx, rfl⟩ := List.mem_map.mp hid
    obtain ⟨hx, hb⟩ := List.mem_filter.mp hx
    simp only [Bool.not_eq_true'] at hb; subst hb
    obtain ⟨p, hp, rfl, hs⟩ := falseBucket _ _ hx
    rcases hs with ⟨_, hs⟩ | ⟨hb, _⟩
    · have := hc p hp; rw [hs] at this; exact ⟨p, hp, rfl, this⟩
    · cases hb

end

end Cedar
