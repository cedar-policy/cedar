import CedarVerif.Cedar.Batched
import CedarVerif.Lemmas.TpeTable
/- C15: re-interpretation keeps the definite classes (`interpret` returns `Concrete` / `Error` unchanged) and the decision table is
   monotone under such refinements, so the loop of `is_authorized_batched` keeps a decision it has reached when the budget grows. -/
namespace Cedar.Batched
open Cedar Cedar.Tpe

theorem interpret_nonpartial (req : Tpe.PRequest) (es : Tpe.PEntities) (r : Residual) (h : r.isPartial = false) :
    interpret req es r = r := by
  cases r with
  | concrete v ty => simp [interpret]
  | error ty => simp [interpret]
  | part k ty => simp [Residual.isPartial] at h

theorem cls_res_of_partial {r : Residual} (h : r.isPartial = true) : r.cls = .res := by
  cases r with
  | part k ty => simp [Residual.cls, Residual.isTrue, Residual.isFalse, Residual.isError]
  | concrete v ty => simp [Residual.isPartial] at h
  | error ty => simp [Residual.isPartial] at h

theorem reinterpret_cls (req : Tpe.PRequest) (es : Tpe.PEntities) (rp : ResidualPolicy) (h : rp.residual.cls ≠ .res) :
    (reinterpret req es rp).residual.cls = rp.residual.cls := by
  have hp : rp.residual.isPartial = false := by
    cases hq : rp.residual.isPartial
    · rfl
    · exact absurd (cls_res_of_partial hq) h
  simp [reinterpret, interpret_nonpartial req es rp.residual hp]

/-- `rs'` refines `rs`: same policies in the same order, effects kept, definite classes kept -/
inductive Refines : List ResidualPolicy → List ResidualPolicy → Prop
  | nil : Refines [] []
  | cons {a b : ResidualPolicy} {rs rs' : List ResidualPolicy} :
      (b.effect = a.effect ∧ (a.residual.cls ≠ .res → b.residual.cls = a.residual.cls)) → Refines rs rs' →
      Refines (a :: rs) (b :: rs')

theorem refines_map (req : Tpe.PRequest) (es : Tpe.PEntities) (rs : List ResidualPolicy) :
    Refines rs (rs.map (reinterpret req es)) := by
  induction rs with
  | nil => exact .nil
  | cons a rs ih => exact .cons ⟨rfl, reinterpret_cls req es a⟩ ih

theorem Refines.mem_left {rs rs' : List ResidualPolicy} (h : Refines rs rs') {a : ResidualPolicy} (ha : a ∈ rs) :
    ∃ b, b ∈ rs' ∧ b.effect = a.effect ∧ (a.residual.cls ≠ .res → b.residual.cls = a.residual.cls) := by
  induction h with
  | nil => cases ha
  | cons hab _ ih =>
    rcases List.mem_cons.mp ha with rfl | ha
    · exact ⟨_, List.mem_cons_self, hab⟩
    · obtain ⟨b, hb, h⟩ := ih ha; exact ⟨b, List.mem_cons_of_mem _ hb, h⟩

theorem Refines.mem_right {rs rs' : List ResidualPolicy} (h : Refines rs rs') {b : ResidualPolicy} (hb : b ∈ rs') :
    ∃ a, a ∈ rs ∧ b.effect = a.effect ∧ (a.residual.cls ≠ .res → b.residual.cls = a.residual.cls) := by
  induction h with
  | nil => cases hb
  | cons hab _ ih =>
    rcases List.mem_cons.mp hb with rfl | hb
    · exact ⟨_, List.mem_cons_self, hab⟩
    · obtain ⟨a, ha, h⟩ := ih hb; exact ⟨a, List.mem_cons_of_mem _ ha, h⟩

theorem refines_flag_definite {rs rs' : List ResidualPolicy} (h : Refines rs rs') (eff : Effect) (c : Class) (hc : c ≠ .res)
    (rq : Tpe.PRequest) (e e' : Tpe.PEntities)
    (hf : (Tpe.Response.mk rs rq e).flag eff c = true) : (Tpe.Response.mk rs' rq e').flag eff c = true := by
  obtain ⟨a, ha, he, hcl⟩ := flag_true.mp hf
  obtain ⟨b, hb, hbe, hbc⟩ := h.mem_left ha
  exact flag_true.mpr ⟨b, hb, hbe.trans he, (hbc (hcl ▸ hc)).trans hcl⟩

theorem refines_flag_res_false {rs rs' : List ResidualPolicy} (h : Refines rs rs') (eff : Effect)
    (rq : Tpe.PRequest) (e e' : Tpe.PEntities)
    (hf : (Tpe.Response.mk rs rq e).flag eff .res = false) : (Tpe.Response.mk rs' rq e').flag eff .res = false := by
  refine flag_false.mpr fun b hb hbe hbc => ?_
  obtain ⟨a, ha, he, hcl⟩ := h.mem_right hb
  -- `b` is a residual only if the policy it refines was one
  have hac : a.residual.cls = .res := Decidable.byContradiction fun hn => hn ((hcl hn).symm.trans hbc)
  exact flag_false.mp hf a ha (he.symm.trans hbe) hac

/-- a `tt` flag of an effect can only appear where that effect had a `res` flag -/
theorem refines_flag_tt_false {rs rs' : List ResidualPolicy} (h : Refines rs rs') (eff : Effect)
    (rq : Tpe.PRequest) (e e' : Tpe.PEntities)
    (h1 : (Tpe.Response.mk rs rq e).flag eff .tt = false) (h2 : (Tpe.Response.mk rs rq e).flag eff .res = false) :
    (Tpe.Response.mk rs' rq e').flag eff .tt = false := by
  refine flag_false.mpr fun b hb hbe hbc => ?_
  obtain ⟨a, ha, he, hcl⟩ := h.mem_right hb
  have hae := he.symm.trans hbe
  exact flag_false.mp h1 a ha hae ((hcl (flag_false.mp h2 a ha hae)).symm.trans hbc)

theorem decision_refines {rs rs' : List ResidualPolicy} (h : Refines rs rs') (rq : Tpe.PRequest) (e e' : Tpe.PEntities) (d : Decision)
    (hd : (Tpe.Response.mk rs rq e).decision = some d) : (Tpe.Response.mk rs' rq e').decision = some d := by
  unfold Tpe.Response.decision at hd ⊢
  rw [← hd]
  exact Table.decide_refines (by rw [hd]; rfl)
    (refines_flag_definite h .forbid .tt (by decide) rq e e') (refines_flag_definite h .permit .tt (by decide) rq e e')
    (refines_flag_res_false h .permit rq e e') (refines_flag_res_false h .forbid rq e e')
    (refines_flag_tt_false h .forbid rq e e') (refines_flag_tt_false h .permit rq e e')

theorem step_some {req : Tpe.PRequest} {loader : Loader} {st st' : State} (h : step req loader st = some st') :
    ∃ es', addLoaded st.entities (loader st.toLoad) = some es' ∧ st' = ⟨es', st.residuals.map (reinterpret req es')⟩ := by
  unfold step at h
  cases ha : addLoaded st.entities (loader st.toLoad) <;> rw [ha] at h <;> cases h
  exact ⟨_, rfl, rfl⟩

theorem initState_some {req : Tpe.PRequest} {tps : List TPolicy} {st0 : State} (h : initState req tps = some st0) :
    ∃ rs, mapM? (residualPolicyOf req ([] : Tpe.PEntities)) tps = some rs ∧ st0 = ⟨[], rs⟩ := by
  unfold initState at h
  cases hm : mapM? (residualPolicyOf req ([] : Tpe.PEntities)) tps <;> rw [hm] at h <;> cases h
  exact ⟨_, rfl, rfl⟩

theorem step_decision {req : Tpe.PRequest} {loader : Loader} {st st' : State} (h : step req loader st = some st') (d : Decision)
    (hd : st.decision req = some d) : st'.decision req = some d := by
  obtain ⟨_, _, rfl⟩ := step_some h
  exact decision_refines (refines_map req _ st.residuals) req st.entities _ d hd

/-- the residuals of a state are boolean-typed: a `Concrete` one is `true` or `false` (a residual evaluates like its policy condition, and
    conditions are Boolean-valued: from `CondsBool` by `sinv_boolTyped`). -/
def State.BoolTyped (st : State) : Prop :=
  ∀ rp, rp ∈ st.residuals → ∀ v ty, rp.residual = .concrete v ty → ∃ b, v = .prim (.bool b)

theorem done_decides (req : Tpe.PRequest) (st : State) (hb : st.BoolTyped) (h : st.done = true) : ∃ d, st.decision req = some d := by
  apply decides_of_no_residual
  all_goals
    apply flag_false.mpr
    intro rp hrp _ hc
    simp only [State.done, List.all_eq_true] at h
    have := h rp hrp
    cases hq : rp.residual with
    | part k ty => simp [hq, Residual.isPartial] at this
    | concrete v ty =>
      obtain ⟨b, rfl⟩ := hb rp hrp v ty hq
      rw [hq] at hc
      cases b <;> simp [Residual.cls, Residual.isTrue, Residual.isFalse] at hc
    | error ty => rw [hq] at hc; simp [Residual.cls, Residual.isTrue, Residual.isFalse, Residual.isError] at hc

/-- every round succeeds (no duplicate error) from EVERY state, reachable or not.  True of a loader that returns exactly the ids
    it is asked for (`toLoad` leaves out what is loaded); a loader that returns more can fail it at a state no run reaches. -/
def StepOk (req : Tpe.PRequest) (loader : Loader) : Prop := ∀ st, ∃ st', step req loader st = some st'

theorem loop_mono {req : Tpe.PRequest} {loader : Loader} (hok : StepOk req loader) (b : Nat) (st st1 : State) (d : Decision)
    (h : loop req loader b st = some st1) (hd : st1.decision req = some d) :
    ∃ st2, loop req loader (b + 1) st = some st2 ∧ st2.decision req = some d := by
  induction b generalizing st with
  | zero =>
    simp only [loop, Option.some.injEq] at h; subst h
    obtain ⟨st', hs⟩ := hok st
    have hd' := step_decision hs d hd
    refine ⟨st', ?_, hd'⟩
    simp only [loop, hs]
    split <;> rfl
  | succ n ih =>
    simp only [loop] at h ⊢
    cases hs : step req loader st with
    | none => simp [hs] at h
    | some st' =>
      simp only [hs] at h ⊢
      cases hdn : st'.done
      · simp only [hdn] at h
        obtain ⟨st2, h2, hd2⟩ := ih st' h
        refine ⟨st2, ?_, hd2⟩
        simpa [loop, hdn] using h2
      · simp only [hdn, if_true, Option.some.injEq] at h
        subst h
        exact ⟨st', by simp, hd⟩

end Cedar.Batched
