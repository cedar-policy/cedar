import CedarVerif.Lemmas.ManifestIn
import CedarVerif.Lemmas.EvalStore
/-
The pieces of the induction over expressions (ManifestSim.lean): for each construct, one lemma about its evaluation over the
store and over the slice (`resRel_*`) and one inversion of the analysis (`manifest_*`).
-/
namespace Cedar.Manifest
open Cedar

def FragOp (op : BinaryOp) : Prop :=
  op = .less ∨ op = .lessEq ∨ op = .add ∨ op = .sub ∨ op = .mul ∨
  op = .eq ∨ op = .contains ∨ op = .containsAll ∨ op = .containsAny ∨ op = .mem

/-- the fragment covered by the soundness proof: literals, variables, `.`/`has`, `&& || !`, `if`, unary `-`, `isEmpty`,
`== < <= + - *`, `in`, `contains containsAll containsAny`, `like`, `is`.  Outside: extension calls (in `FragE`,
ManifestValid.lean) and record / set literals (in `FragL`, ManifestLitValid.lean), slots, unknowns (differential run only),
tags (rejected by the analysis). -/
def InFrag : TExpr → Prop
  | .lit _ => True
  | .var _ => True
  | .ite c t e => InFrag c ∧ InFrag t ∧ InFrag e
  | .and a b => InFrag a ∧ InFrag b
  | .or a b => InFrag a ∧ InFrag b
  | .unaryApp _ _ a => InFrag a
  | .binaryApp op _ _ a b => FragOp op ∧ InFrag a ∧ InFrag b
  | .getAttr e _ => InFrag e
  | .hasAttr e _ => InFrag e
  | .like e _ => InFrag e
  | .is e _ => InFrag e
  | _ => False

def NonRec (r : Result Value) : Prop := ∀ kvs, r ≠ .ok (.record kvs)

/-- side condition: the operands of binary operators are not records (in the full store).  For strictly valid policies
this is the case whenever the annotated operand types are not record types (type soundness, C03). -/
def SafeOps (req : Request) (es : Entities) : TExpr → Prop
  | .ite c t e => SafeOps req es c ∧ SafeOps req es t ∧ SafeOps req es e
  | .and a b => SafeOps req es a ∧ SafeOps req es b
  | .or a b => SafeOps req es a ∧ SafeOps req es b
  | .unaryApp _ _ a => SafeOps req es a
  | .binaryApp _ _ _ a b =>
    NonRec (evaluate req es [] a.erase) ∧ NonRec (evaluate req es [] b.erase) ∧ SafeOps req es a ∧ SafeOps req es b
  | .getAttr e _ => SafeOps req es e
  | .hasAttr e _ => SafeOps req es e
  | .like e _ => SafeOps req es e
  | .is e _ => SafeOps req es e
  | _ => True

def ArithOp (op : BinaryOp) : Prop := op = .less ∨ op = .lessEq ∨ op = .add ∨ op = .sub ∨ op = .mul
def FullOp (op : BinaryOp) : Prop := op = .eq ∨ op = .contains ∨ op = .containsAll ∨ op = .containsAny ∨ op = .mem

theorem fragOp_cases {op : BinaryOp} (h : FragOp op) : ArithOp op ∨ FullOp op := by
  rcases h with e | e | e | e | e | e | e | e | e | e <;> subst e <;> simp [ArithOp, FullOp]

theorem ArithOp.frag {op : BinaryOp} (h : ArithOp op) : FragOp op := by
  rcases h with e | e | e | e | e <;> subst e <;> simp [FragOp]
theorem FullOp.frag {op : BinaryOp} (h : FullOp op) : FragOp op := by
  rcases h with e | e | e | e | e <;> subst e <;> simp [FragOp]
theorem ArithOp.ne_mem {op : BinaryOp} (h : ArithOp op) : op ≠ .mem := by
  rcases h with e | e | e | e | e <;> subst e <;> decide

theorem applyUnary_trim (op : UnaryOp) {v' v : Value} (h : Trim v' v) : applyUnary op v' = applyUnary op v := by
  rcases trim_shape h with rfl | ⟨_, _, rfl, rfl⟩
  · rfl
  · cases op <;> rfl

theorem scalar_bool (b : Bool) : Scalar (.prim (.bool b)) := by simp [Scalar]

theorem trim_scalar {v : Value} (h : Scalar v) : Trim v v := by
  cases v with
  | record kvs => simp [Scalar] at h
  | prim p => simp [Trim]
  | set s => simp [Trim]
  | ext x => simp [Trim]

theorem pcover_scalar_empty {es es' : Entities} {req : Request} (v v' : Value) (h : Scalar v) : PCover es es' req .empty v v' := h

theorem rootVal_var (req : Request) (x : Var) : evaluate req es [] (.var x) = .ok (rootVal req (.var x)) := by
  cases x <;> rfl

theorem FragOp.ne_getTag {op : BinaryOp} (h : FragOp op) : op ≠ .getTag := by
  rcases h with e | e | e | e | e | e | e | e | e | e <;> subst e <;> exact fun h => nomatch h

theorem FragOp.storeFree {op : BinaryOp} (h : FragOp op) (hne : op ≠ .mem) : op.storeFree = true := by
  rcases h with e | e | e | e | e | e | e | e | e | e <;> subst e <;> first | rfl | exact absurd rfl hne

theorem FragOp.scalar {op : BinaryOp} (hop : FragOp op) {es : Entities} {v1 v2 w : Value}
    (h : applyBinary es op v1 v2 = .ok w) : Scalar w :=
  applyBinary_out scalar_bool (fun _ => trivial) (fun h => absurd h hop.ne_getTag) h

theorem applyBinary_nonmem (es es' : Entities) (op : BinaryOp) (hop : FragOp op) (hne : op ≠ .mem) (v1 v2 : Value) :
    applyBinary es' op v1 v2 = applyBinary es op v1 v2 :=
  applyBinary_storeFree (hop.storeFree hne) es' es v1 v2

/-- over a trimmed copy, every operator but `==` (both sides) and `contains` (the element) answers a record operand with
the same type error over both stores, whatever the other operand is -/
theorem applyBinary_trim (es es' : Entities) {op : BinaryOp} (hop : FragOp op) {v v' w w' : Value}
    (hv : Trim v' v) (hw : Trim w' w)
    (heq : op = .eq → (∀ kvs, v ≠ .record kvs) ∧ ∀ kvs, w ≠ .record kvs) (hco : op = .contains → ∀ kvs, w ≠ .record kvs)
    (hmem : op = .mem → applyBinary es' .mem v w = applyBinary es .mem v w) :
    applyBinary es' op v' w' = applyBinary es op v w := by
  rcases trim_shape hv with rfl | ⟨a, a', rfl, rfl⟩
  · rcases trim_shape hw with rfl | ⟨b, b', rfl, rfl⟩
    · by_cases hm : op = .mem
      · subst hm; exact hmem rfl
      · exact applyBinary_nonmem es es' op hop hm v' w'
    · rcases hop with e | e | e | e | e | e | e | e | e | e <;> subst e
      · cases v' with | prim p => cases p <;> rfl | ext x => cases x <;> rfl | _ => rfl
      · cases v' with | prim p => cases p <;> rfl | ext x => cases x <;> rfl | _ => rfl
      · simp only [applyBinary]; cases v'.asInt <;> rfl
      · simp only [applyBinary]; cases v'.asInt <;> rfl
      · simp only [applyBinary]; cases v'.asInt <;> rfl
      · exact absurd rfl ((heq rfl).2 b)
      · exact absurd rfl (hco rfl b)
      · simp only [applyBinary]; cases v'.asSet <;> rfl
      · simp only [applyBinary]; cases v'.asSet <;> rfl
      · simp only [applyBinary]
  · by_cases he : op = .eq
    · exact absurd rfl ((heq he).1 a)
    · rcases hop with e | e | e | e | e | e | e | e | e | e <;> subst e <;> first | rfl | exact absurd rfl he

/-! `Ra`, `Rb` relate the operands' values, `R` the results; each lemma asks of `Ra`, `Rb` only what the construct reads. -/

section constructs
variable {req : Request} {es es' : Entities} {Ra Rb R : Value → Value → Prop}

theorem ResRel.sameBool {r r' : Result Value} (hb : ∀ v v', Ra v v' → v'.asBool = v.asBool) (h : ResRel Ra r r') :
    RRel Eq SameBool r r' :=
  h.mono fun v v' h => (hb v v' h).symm

theorem resRel_ite {c t e : Expr} (hb : ∀ v v', Ra v v' → v'.asBool = v.asBool)
    (ihc : ResRel Ra (evaluate req es [] c) (evaluate req es' [] c))
    (iht : evaluate req es [] c = .ok (.prim (.bool true)) → ResRel R (evaluate req es [] t) (evaluate req es' [] t))
    (ihe : evaluate req es [] c = .ok (.prim (.bool false)) → ResRel R (evaluate req es [] e) (evaluate req es' [] e)) :
    ResRel R (evaluate req es [] (.ite c t e)) (evaluate req es' [] (.ite c t e)) := by
  rw [evaluate_ite, evaluate_ite]
  exact iteR_rel (fun _ => rfl) (ihc.sameBool hb) (fun h _ => iht h) fun h _ => ihe h

theorem resRel_and {a b : Expr} (ha : ∀ v v', Ra v v' → v'.asBool = v.asBool)
    (hb : ∀ v v', Rb v v' → v'.asBool = v.asBool) (hR : ∀ b : Bool, R (.prim (.bool b)) (.prim (.bool b)))
    (iha : ResRel Ra (evaluate req es [] a) (evaluate req es' [] a))
    (ihb : evaluate req es [] a = .ok (.prim (.bool true)) → ResRel Rb (evaluate req es [] b) (evaluate req es' [] b)) :
    ResRel R (evaluate req es [] (.and a b)) (evaluate req es' [] (.and a b)) := by
  rw [evaluate_and, evaluate_and]
  exact andR_rel (fun _ => rfl) hR (iha.sameBool ha) fun h _ => (ihb h).sameBool hb

theorem resRel_or {a b : Expr} (ha : ∀ v v', Ra v v' → v'.asBool = v.asBool)
    (hb : ∀ v v', Rb v v' → v'.asBool = v.asBool) (hR : ∀ b : Bool, R (.prim (.bool b)) (.prim (.bool b)))
    (iha : ResRel Ra (evaluate req es [] a) (evaluate req es' [] a))
    (ihb : evaluate req es [] a = .ok (.prim (.bool false)) → ResRel Rb (evaluate req es [] b) (evaluate req es' [] b)) :
    ResRel R (evaluate req es [] (.or a b)) (evaluate req es' [] (.or a b)) := by
  rw [evaluate_or, evaluate_or]
  exact orR_rel (fun _ => rfl) hR (iha.sameBool ha) fun h _ => (ihb h).sameBool hb

/-- `a && b` where `a` is never `true`, `a || b` where `a` is never `false`: the value is that of `a` -/
theorem resRel_short {a b : Expr} {s : Bool} (hprim : ∀ p v', R (.prim p) v' → v' = .prim p)
    (hs : ∀ v, evaluate req es [] a = .ok v → v = .prim (.bool s))
    (iha : ResRel R (evaluate req es [] a) (evaluate req es' [] a)) :
    ResRel R (evaluate req es [] (if s then .or a b else .and a b))
      (evaluate req es' [] (if s then .or a b else .and a b)) := by
  rcases iha.cases with ⟨x, _, e1, e2, rfl⟩ | ⟨v, v', e1, e2, hr⟩
  · cases s <;> simp only [Bool.false_eq_true, if_false, if_true, evaluate, e1, e2] <;> exact rfl
  obtain rfl := hs v e1
  obtain rfl := hprim _ _ hr
  cases s <;> simp only [Bool.false_eq_true, if_false, if_true, evaluate, e1, e2, Value.asBool] <;> exact hr

theorem resRel_unary {op : UnaryOp} {a : Expr}
    (hop : ∀ v v', evaluate req es [] a = .ok v → Ra v v' → applyUnary op v' = applyUnary op v)
    (hR : ∀ w, Scalar w → R w w) (iha : ResRel Ra (evaluate req es [] a) (evaluate req es' [] a)) :
    ResRel R (evaluate req es [] (.unaryApp op a)) (evaluate req es' [] (.unaryApp op a)) := by
  rw [evaluate_unary, evaluate_unary]
  refine bindR_rel iha fun v v' e1 _ hr => ?_
  rw [hop v v' e1 hr]
  exact .refl (fun _ => rfl) fun w h => hR w (applyUnary_out scalar_bool (fun _ => trivial) h)

theorem resRel_like {e : Expr} {p : Pattern} (hs : ∀ v v', Ra v v' → v'.asString = v.asString)
    (hR : ∀ w, Scalar w → R w w) (ihe : ResRel Ra (evaluate req es [] e) (evaluate req es' [] e)) :
    ResRel R (evaluate req es [] (.like e p)) (evaluate req es' [] (.like e p)) := by
  rw [evaluate_like, evaluate_like]
  refine bindR_rel ihe fun v v' _ _ hr => ?_
  simp only [Tpe.likeV, hs v v' hr]
  cases v.asString with
  | error x => exact rfl
  | ok s => exact hR _ (scalar_bool _)

theorem resRel_is {e : Expr} {ty : EntityType} (hs : ∀ v v', Ra v v' → v'.asEntity = v.asEntity)
    (hR : ∀ w, Scalar w → R w w) (ihe : ResRel Ra (evaluate req es [] e) (evaluate req es' [] e)) :
    ResRel R (evaluate req es [] (.is e ty)) (evaluate req es' [] (.is e ty)) := by
  rw [evaluate_is, evaluate_is]
  refine bindR_rel ihe fun v v' _ _ hr => ?_
  simp only [Tpe.isV, hs v v' hr]
  cases v.asEntity with
  | error x => exact rfl
  | ok u => exact hR _ (scalar_bool _)

theorem resRel_getAttr {e : Expr} {a : String} (hg : ∀ v v', Ra v v' → ResRel R (Tpe.getAttrV es a v) (Tpe.getAttrV es' a v'))
    (ihe : ResRel Ra (evaluate req es [] e) (evaluate req es' [] e)) :
    ResRel R (evaluate req es [] (.getAttr e a)) (evaluate req es' [] (.getAttr e a)) := by
  rw [evaluate_getAttr, evaluate_getAttr]
  exact bindR_rel ihe fun v v' _ _ hr => hg v v' hr

theorem resRel_hasAttr {e : Expr} {a : String} (hh : ∀ v v', Ra v v' → Tpe.hasAttrV es' a v' = Tpe.hasAttrV es a v)
    (hR : ∀ w, Scalar w → R w w) (ihe : ResRel Ra (evaluate req es [] e) (evaluate req es' [] e)) :
    ResRel R (evaluate req es [] (.hasAttr e a)) (evaluate req es' [] (.hasAttr e a)) := by
  rw [evaluate_hasAttr, evaluate_hasAttr]
  refine bindR_rel ihe fun v v' _ _ hr => ?_
  rw [hh v v' hr]
  exact .refl (fun _ => rfl) fun w h => hR w (hasAttrV_scalar h)

theorem resRel_binaryApp {op : BinaryOp} {a b : Expr} (hop : FragOp op)
    (iha : ResRel Ra (evaluate req es [] a) (evaluate req es' [] a))
    (ihb : ResRel Rb (evaluate req es [] b) (evaluate req es' [] b))
    (happ : ∀ v v' w w', evaluate req es [] a = .ok v → evaluate req es [] b = .ok w → Ra v v' → Rb w w' →
      applyBinary es' op v' w' = applyBinary es op v w)
    (hR : ∀ w, Scalar w → R w w) :
    ResRel R (evaluate req es [] (.binaryApp op a b)) (evaluate req es' [] (.binaryApp op a b)) := by
  rw [evaluate_binary, evaluate_binary]
  refine bindR_rel iha fun v v' e1 _ hv => bindR_rel ihb fun w w' f1 _ hw => ?_
  rw [happ v v' w w' e1 f1 hv hw]
  exact .refl (fun _ => rfl) fun r hr => hR r (hop.scalar hr)

theorem evaluateList_congr : ∀ (args : List Expr), (∀ a, a ∈ args → evaluate req es' [] a = evaluate req es [] a) →
    evaluateList req es' [] args = evaluateList req es [] args
  | [], _ => rfl
  | a :: args, h => by
    simp only [evaluateList, h a (by simp), evaluateList_congr args (fun x hx => h x (by simp [hx]))]

theorem resRel_call {fn : String} {args : List Expr}
    (h : ∀ a, a ∈ args → evaluate req es' [] a = evaluate req es [] a)
    (hs : ∀ w, evaluate req es [] (.call fn args) = .ok w → R w w) :
    ResRel R (evaluate req es [] (.call fn args)) (evaluate req es' [] (.call fn args)) := by
  have e : evaluate req es' [] (.call fn args) = evaluate req es [] (.call fn args) := by
    simp only [evaluate, evaluateList_congr args h]
  rw [e]
  exact .refl (fun _ => rfl) hs

end constructs

section analysis
variable {es es' : Entities} {req : Request}

theorem manifest_ite {c t e : TExpr} {r : Res} (hm : manifestOfExpr (.ite c t e) = .ok r)
    (hc : CoverRoots es es' req r.global) :
    ∃ rc rt re, manifestOfExpr c = .ok rc ∧ manifestOfExpr t = .ok rt ∧ manifestOfExpr e = .ok re ∧
      r.paths = .union (.union .empty rt.paths) re.paths ∧
      CoverRoots es es' req rc.global ∧ CoverRoots es es' req rt.global ∧ CoverRoots es es' req re.global := by
  unfold manifestOfExpr at hm
  obtain ⟨rc, h1, hm⟩ := ok_of_match_res hm
  obtain ⟨rt, h2, hm⟩ := ok_of_match_res hm
  obtain ⟨re, h3, hm⟩ := ok_of_match_res hm
  cases hm
  obtain ⟨hc12, hc3⟩ := coverRoots_union es es' req _ _ hc
  obtain ⟨hc1, hc2⟩ := coverRoots_union es es' req _ _ hc12
  exact ⟨rc, rt, re, h1, h2, h3, rfl, hc1, hc2, hc3⟩

theorem primPair_ok {x y : M Res} {r : Res} (hm : primPair x y = .ok r) (hc : CoverRoots es es' req r.global) :
    ∃ ra rb, x = .ok ra ∧ y = .ok rb ∧ r.paths = .union .empty .empty ∧
      CoverRoots es es' req ra.global ∧ CoverRoots es es' req rb.global := by
  unfold primPair at hm
  obtain ⟨ra, rfl, hm⟩ := ok_of_match_res hm
  obtain ⟨rb, rfl, hm⟩ := ok_of_match_res hm
  cases hm
  exact ⟨ra, rb, rfl, rfl, rfl, coverRoots_union es es' req _ _ hc⟩

theorem arith_manifest {op : BinaryOp} {ty1 ty2 : Option CedarType} {a b : TExpr} {r : Res}
    (hop : ArithOp op) (hm : manifestOfExpr (.binaryApp op ty1 ty2 a b) = .ok r) (hc : CoverRoots es es' req r.global) :
    ∃ ra rb, manifestOfExpr a = .ok ra ∧ manifestOfExpr b = .ok rb ∧ r.paths = .union .empty .empty ∧
      CoverRoots es es' req ra.global ∧ CoverRoots es es' req rb.global := by
  unfold manifestOfExpr at hm
  rcases hop with e | e | e | e | e <;> subst e <;> exact primPair_ok hm hc

theorem manifestOfExpr_full {op : BinaryOp} (hop : FullOp op) (ty1 ty2 : Option CedarType) (a b : TExpr) :
    manifestOfExpr (.binaryApp op ty1 ty2 a b) =
      match manifestOfExpr a with
      | .error x => .error x
      | .ok r1 => match manifestOfExpr b with
        | .error x => .error x
        | .ok r2 => match needTy ty1 with
          | .error x => .error x
          | .ok ty1 => match needTy ty2 with
            | .error x => .error x
            | .ok ty2 =>
              match (if op == .mem then r1.withAncestorsRequired r2.paths.toAncestorTrie else r1).fullTypeRequired ty1 with
              | .error x => .error x
              | .ok f1 => match r2.fullTypeRequired ty2 with
                | .error x => .error x
                | .ok f2 => .ok (f1.union f2).emptyPaths := by
  conv => lhs; unfold manifestOfExpr
  rcases hop with e | e | e | e | e <;> subst e <;> rfl

theorem full_manifest {op : BinaryOp} {ty1 ty2 : Option CedarType} {a b : TExpr} {r : Res}
    (hop : FullOp op) (hm : manifestOfExpr (.binaryApp op ty1 ty2 a b) = .ok r) (hc : CoverRoots es es' req r.global) :
    ∃ ra rb t1 t2 p1 p2, manifestOfExpr a = .ok ra ∧ manifestOfExpr b = .ok rb ∧ ty1 = some t1 ∧ ty2 = some t2 ∧
      ra.paths.fullTypeRequired t1 = .ok p1 ∧ rb.paths.fullTypeRequired t2 = .ok p2 ∧ r.paths = .empty ∧
      CoverRoots es es' req ra.global ∧ CoverRoots es es' req rb.global ∧
      CoverRoots es es' req p1 ∧ CoverRoots es es' req p2 ∧
      (op = .mem → PathsCov es es' req false rb.paths.toAncestorTrie ra.paths) := by
  rw [manifestOfExpr_full hop] at hm
  obtain ⟨ra, h1, hm⟩ := ok_of_match_res hm
  obtain ⟨rb, h2, hm⟩ := ok_of_match_res hm
  obtain ⟨t1, ht1, hm⟩ := ok_of_match_ty hm
  obtain ⟨t2, ht2, hm⟩ := ok_of_match_ty hm
  obtain rfl : ty1 = some t1 := by cases ty1 <;> cases ht1; rfl
  obtain rfl : ty2 = some t2 := by cases ty2 <;> cases ht2; rfl
  obtain ⟨r1, hr1, hp, hr1c⟩ : ∃ r1, (if op == .mem then ra.withAncestorsRequired rb.paths.toAncestorTrie else ra) = r1 ∧
      r1.paths = ra.paths ∧ (CoverRoots es es' req r1.global → CoverRoots es es' req ra.global ∧
        (op = .mem → PathsCov es es' req false rb.paths.toAncestorTrie ra.paths)) := by
    refine ⟨_, rfl, ?_⟩
    by_cases hmem : op = .mem
    · subst hmem
      refine ⟨rfl, fun h => ?_⟩
      obtain ⟨c4, c5⟩ := coverRoots_addWrapped es es' req false rb.paths.toAncestorTrie ra.paths ra.global h
      exact ⟨c4, fun _ => c5⟩
    · have : (op == .mem) = false := by cases op <;> first | rfl | exact absurd rfl hmem
      simp only [this, Bool.false_eq_true, if_false]
      exact ⟨trivial, fun h => ⟨h, fun e => absurd e hmem⟩⟩
  rw [hr1] at hm
  obtain ⟨f1, hf1, hm⟩ := ok_of_match_res hm
  obtain ⟨f2, hf2, hm⟩ := ok_of_match_res hm
  cases hm
  unfold Res.fullTypeRequired at hf1 hf2
  rw [hp] at hf1
  obtain ⟨p1, hp1, hf1⟩ := ok_of_match_roots hf1
  obtain ⟨p2, hp2, hf2⟩ := ok_of_match_roots hf2
  cases hf1
  cases hf2
  obtain ⟨c1, c2⟩ := coverRoots_union es es' req _ _ hc
  obtain ⟨c3, c3'⟩ := coverRoots_union es es' req _ _ c1
  obtain ⟨c4, c4'⟩ := coverRoots_union es es' req _ _ c2
  obtain ⟨c5, c6⟩ := hr1c c3
  exact ⟨ra, rb, t1, t2, p1, p2, h1, h2, rfl, rfl, hp1, hp2, rfl, c5, c4, c3', c4', c6⟩

theorem manifest_unary {op : UnaryOp} {ty : Option CedarType} {a : TExpr} {r : Res}
    (hm : manifestOfExpr (.unaryApp op ty a) = .ok r) (hc : CoverRoots es es' req r.global) :
    ∃ ra, manifestOfExpr a = .ok ra ∧ r.paths = .empty ∧ CoverRoots es es' req ra.global ∧
      (op = .isEmpty → ∃ τ p, ty = some τ ∧ ra.paths.fullTypeRequired τ = .ok p ∧ CoverRoots es es' req p) := by
  unfold manifestOfExpr at hm
  cases op with
  | not =>
    obtain ⟨ra, h1, hm⟩ := ok_of_match_res hm
    cases hm
    exact ⟨ra, h1, rfl, hc, fun e => nomatch e⟩
  | neg =>
    obtain ⟨ra, h1, hm⟩ := ok_of_match_res hm
    cases hm
    exact ⟨ra, h1, rfl, hc, fun e => nomatch e⟩
  | isEmpty =>
    dsimp only at hm
    obtain ⟨τ, hτ, hm⟩ := ok_of_match_ty hm
    obtain ⟨ra, h1, hm⟩ := ok_of_match_res hm
    obtain ⟨r', hf, hm⟩ := ok_of_match_res hm
    cases hm
    unfold Res.fullTypeRequired at hf
    obtain ⟨p, hp, hf⟩ := ok_of_match_roots hf
    cases hf
    obtain ⟨c1, c2⟩ := coverRoots_union es es' req _ _ hc
    cases ty with
    | none => cases hτ
    | some τ' => cases hτ; exact ⟨ra, h1, rfl, c1, fun _ => ⟨_, p, rfl, hp, c2⟩⟩

/-- `e.a` (`has = false`) and `e has a` (`has = true`) -/
theorem manifest_attr {has : Bool} {e : TExpr} {a : String} {r : Res}
    (hm : manifestOfExpr (if has then .hasAttr e a else .getAttr e a) = .ok r) (hc : CoverRoots es es' req r.global) :
    ∃ re p', manifestOfExpr e = .ok re ∧ re.paths.getOrHasAttr a = .ok p' ∧ r.paths = (if has then .empty else p') ∧
      CoverRoots es es' req re.global ∧ PathsCov es es' req false [] p' := by
  have hget : ∀ {re r' : Res}, re.getOrHasAttr a = .ok r' → ∃ p', re.paths.getOrHasAttr a = .ok p' ∧
      r' = ⟨addWrapped re.global false [] p', p'⟩ := fun h => by
    unfold Res.getOrHasAttr at h
    obtain ⟨p', hp, h⟩ := ok_of_match_paths h
    cases h
    exact ⟨p', hp, rfl⟩
  cases has <;> simp only [Bool.false_eq_true, if_false, if_true] at hm ⊢ <;> unfold manifestOfExpr at hm <;>
    obtain ⟨re, h1, hm⟩ := ok_of_match_res hm
  · obtain ⟨p', hp, rfl⟩ := hget hm
    exact ⟨re, p', h1, hp, rfl, coverRoots_addWrapped es es' req false [] p' re.global hc⟩
  · obtain ⟨r', hg, hm⟩ := ok_of_match_res hm
    cases hm
    obtain ⟨p', hp, rfl⟩ := hget hg
    exact ⟨re, p', h1, hp, rfl, coverRoots_addWrapped es es' req false [] p' re.global hc⟩

theorem manifest_test {e x : TExpr} {r : Res} (hx : (∃ p, x = .like e p) ∨ ∃ ty, x = .is e ty)
    (hm : manifestOfExpr x = .ok r) : ∃ re, manifestOfExpr e = .ok re ∧ r = re.emptyPaths := by
  rcases hx with ⟨p, rfl⟩ | ⟨ty, rfl⟩ <;> unfold manifestOfExpr at hm <;> obtain ⟨re, h1, hm⟩ := ok_of_match_res hm <;>
    cases hm <;> exact ⟨re, h1, rfl⟩

theorem manifest_call1 {fn : String} {a : TExpr} {r : Res} (hm : manifestOfExpr (.call fn [a]) = .ok r)
    (hc : CoverRoots es es' req r.global) :
    ∃ ra, manifestOfExpr a = .ok ra ∧ r.paths = .union .empty ra.paths ∧ CoverRoots es es' req ra.global := by
  unfold manifestOfExpr at hm
  simp only [manifestUnionList] at hm
  obtain ⟨ra, h1, hm⟩ := ok_of_match_res hm
  cases hm
  exact ⟨ra, h1, rfl, (coverRoots_union es es' req _ _ hc).2⟩

theorem manifest_call2 {fn : String} {a b : TExpr} {r : Res} (hm : manifestOfExpr (.call fn [a, b]) = .ok r)
    (hc : CoverRoots es es' req r.global) :
    ∃ ra rb, manifestOfExpr a = .ok ra ∧ manifestOfExpr b = .ok rb ∧ r.paths = .union (.union .empty ra.paths) rb.paths ∧
      CoverRoots es es' req ra.global ∧ CoverRoots es es' req rb.global := by
  unfold manifestOfExpr at hm
  simp only [manifestUnionList] at hm
  obtain ⟨ra, h1, hm⟩ := ok_of_match_res hm
  obtain ⟨rb, h2, hm⟩ := ok_of_match_res hm
  cases hm
  obtain ⟨hc12, hc2⟩ := coverRoots_union es es' req _ _ hc
  exact ⟨ra, rb, h1, h2, rfl, (coverRoots_union es es' req _ _ hc12).2, hc2⟩

end analysis

/-- the trie of a policy set (for one request type): the union of the policies' tries, in order -/
def unionAll (gs : List RootAccessTrie) : RootAccessTrie := gs.foldl unionRoots []

theorem coverRoots_foldl (es es' : Entities) (req : Request) : ∀ (gs : List RootAccessTrie) (acc : RootAccessTrie),
    CoverRoots es es' req (gs.foldl unionRoots acc) → CoverRoots es es' req acc ∧ ∀ g, g ∈ gs → CoverRoots es es' req g
  | [], acc, h => ⟨h, by simp⟩
  | g :: gs, acc, h => by
    simp only [List.foldl_cons] at h
    obtain ⟨h1, h2⟩ := coverRoots_foldl es es' req gs _ h
    obtain ⟨h3, h4⟩ := coverRoots_union es es' req g acc h1
    refine ⟨h3, ?_⟩
    intro g' hg'
    simp only [List.mem_cons] at hg'
    rcases hg' with e | e
    · subst e; exact h4
    · exact h2 g' e

theorem coverRoots_unionAll (es es' : Entities) (req : Request) (gs : List RootAccessTrie)
    (h : CoverRoots es es' req (unionAll gs)) : ∀ g, g ∈ gs → CoverRoots es es' req g :=
  (coverRoots_foldl es es' req gs [] h).2

end Cedar.Manifest
