import CedarVerif.Cedar.TC
import CedarVerif.Lemmas.Assoc
/-
C04: the association-list store (`get`/`set`/`erase`, `addEdges`) and its parent graph, `Reach`, and the mirror of `add_ancestors` on
acyclic parent graphs: `addAnc_spec`. Its invariant (`Pre.inv`, `LI.inv`): every node in `seen` is the node being
processed, or reaches it (is on the DFS stack), or is already complete; on an acyclic graph a stack node is never
an out-neighbour of the current node, so skipping seen nodes loses nothing. `x ∈ seen` is not required of the
start node, because `repair_tc` with cycle detection does not insert the node it starts from.
-/
namespace Cedar.TC
set_option linter.unusedSectionVars false

variable {α : Type} [DecidableEq α]

theorem get_set (s : Store α) (x y : α) (n : Node α) :
    get (set s x n) y = if y = x then (get s x).map (fun _ => n) else get s y := by
  induction s with
  | nil => simp [set, get]
  | cons kv rest ih =>
    obtain ⟨k, v⟩ := kv
    by_cases hk : k = x
    · subst hk
      by_cases hy : y = k
      · simp [set, get, hy]
      · have : ¬ k = y := fun e => hy e.symm
        simp [set, get, hy, this]
    · by_cases hy : k = y
      · subst hy; simp [set, get, hk]
      · simp only [set, get, if_neg hk, if_neg hy, ih]

theorem get_set_self (s : Store α) (x : α) (n m : Node α) (h : get s x = some m) :
    get (set s x n) x = some n := by
  rw [get_set, if_pos rfl, h]; rfl

theorem get_set_other (s : Store α) (x y : α) (n : Node α) (h : y ≠ x) :
    get (set s x n) y = get s y := by
  rw [get_set, if_neg h]

theorem get_eq_assoc (s : Store α) (x : α) : get s x = assoc? s x := by
  induction s with
  | nil => rfl
  | cons kv rest ih => rw [get, assoc?_cons, ih]; simp only [beq_iff_eq]

theorem PGraph.get_eq_assoc (g : PGraph α) (x : α) : PGraph.get g x = assoc? g x := by
  induction g with
  | nil => rfl
  | cons kv rest ih => rw [PGraph.get, assoc?_cons, ih]; simp only [beq_iff_eq]

theorem get_some_mem {s : Store α} {x : α} {n : Node α} (h : get s x = some n) : (x, n) ∈ s :=
  mem_of_assoc? (get_eq_assoc s x ▸ h)

theorem get_some_mem_keys {s : Store α} {x : α} {n : Node α} (h : get s x = some n) : x ∈ keys s :=
  List.mem_map_of_mem (f := (·.1)) (get_some_mem h)

theorem mem_keys_get {s : Store α} {x : α} (h : x ∈ keys s) : ∃ n, get s x = some n := by
  rw [get_eq_assoc]
  exact Option.isSome_iff_exists.1 (assoc?_isSome_iff.2 h)

theorem get_append_single (s : Store α) (e : α × Node α) (x : α) :
    get (s ++ [e]) x = match get s x with
      | some n => some n
      | none => if e.1 = x then some e.2 else none := by
  obtain ⟨k, v⟩ := e
  rw [get_eq_assoc, assoc?_append, ← get_eq_assoc, assoc?_cons, assoc?_nil]
  cases get s x <;> simp

theorem get_map_node (s : Store α) (g : α × Node α → α × Node α) (f : α → Node α → Node α)
    (hg : ∀ kn, g kn = (kn.1, f kn.1 kn.2)) (x : α) : get (s.map g) x = (get s x).map (f x) := by
  rw [funext hg, get_eq_assoc, assoc?_map, get_eq_assoc]

theorem get_erase (s : Store α) (u x : α) : get (erase s u) x = if x = u then none else get s x := by
  rw [get_eq_assoc, erase, assoc?_filter (fun k => decide (k ≠ u)), ← get_eq_assoc]
  by_cases h : x = u <;> simp [h]

theorem keys_set (b : List (α × Node α)) (u : α) (n : Node α) : keys (set b u n) = keys b := by
  induction b with
  | nil => rfl
  | cons x rest ih =>
    obtain ⟨u0, n0⟩ := x
    by_cases h : u0 = u
    · simp [set, h, keys]
    · simp only [set, h, if_false, keys, List.map_cons] at ih ⊢
      rw [ih]

theorem mem_set (b : List (α × Node α)) (u : α) (n : Node α) (x : α × Node α) (h : x ∈ set b u n) :
    x ∈ b ∨ x = (u, n) := by
  induction b with
  | nil => simp [set] at h
  | cons y rest ih =>
    obtain ⟨u0, n0⟩ := y
    by_cases hu : u0 = u
    · simp only [set, hu, if_true, List.mem_cons] at h
      rcases h with h | h
      · exact Or.inr h
      · exact Or.inl (List.mem_cons_of_mem _ h)
    · simp only [set, hu, if_false, List.mem_cons] at h
      rcases h with h | h
      · exact Or.inl (h ▸ List.mem_cons_self)
      · rcases ih h with h' | h'
        · exact Or.inl (List.mem_cons_of_mem _ h')
        · exact Or.inr h'

theorem pg_get (s : Store α) (x : α) : PGraph.get (parentGraph s) x = shape s x := by
  rw [PGraph.get_eq_assoc, parentGraph, assoc?_map fun _ (n : Node α) => n.parents, ← get_eq_assoc]
  rfl

theorem pg_get_fun (s : Store α) : PGraph.get (parentGraph s) = shape s := funext (pg_get s)

theorem pg_set (s : Store α) (x : α) (n : Node α) :
    parentGraph (set s x n) = PGraph.set (parentGraph s) x n.parents := by
  induction s with
  | nil => rfl
  | cons kv rest ih =>
    obtain ⟨k, v⟩ := kv
    by_cases hk : k = x
    · simp [set, parentGraph, PGraph.set, hk]
    · simp only [parentGraph] at ih
      simp [set, parentGraph, PGraph.set, hk, ih]

theorem pg_set_same (s : Store α) (x : α) (n n' : Node α) (hg : get s x = some n) (hp : n'.parents = n.parents) :
    parentGraph (set s x n') = parentGraph s := by
  induction s with
  | nil => rfl
  | cons kv rest ih =>
    obtain ⟨k, v⟩ := kv
    by_cases hk : k = x
    · simp only [get, hk, if_true, Option.some.injEq] at hg
      subst hg
      simp [set, hk, parentGraph, hp]
    · simp only [get, hk, if_false] at hg
      have := ih hg
      simp only [parentGraph] at this
      simp [set, hk, parentGraph, this]

theorem mem_out {n : Node α} {y : α} : y ∈ n.out ↔ y ∈ n.parents ∨ y ∈ n.indirect := by
  unfold Node.out; exact List.mem_append

theorem mem_uidsOf {s : Store α} {x y : α} {n : Node α} (h : get s x = some n) (hy : y ∈ n.out) : y ∈ uidsOf s := by
  unfold uidsOf
  rw [List.mem_flatMap]
  exact ⟨(x, n), get_some_mem h, List.mem_cons_of_mem _ hy⟩

theorem ancestors_some {s : Store α} {x : α} {n : Node α} (h : get s x = some n) : ancestors s x = n.out := by
  simp [ancestors, h]

theorem mem_ancestors {s : Store α} {x y : α} (h : y ∈ ancestors s x) : ∃ n, get s x = some n ∧ y ∈ n.out := by
  unfold ancestors at h
  cases hg : get s x with
  | none => rw [hg] at h; cases h
  | some n => rw [hg] at h; exact ⟨n, rfl, h⟩

theorem shape_some {s : Store α} {x : α} {n : Node α} (h : get s x = some n) : shape s x = some n.parents := by
  simp [shape, h]

theorem shape_some_inv {s : Store α} {x : α} {ps : List α} (h : shape s x = some ps) :
    ∃ n, get s x = some n ∧ n.parents = ps := by
  unfold shape at h
  cases hg : get s x with
  | none => rw [hg] at h; cases h
  | some n => rw [hg] at h; simp at h; exact ⟨n, rfl, h⟩

theorem addEdge_parents (n : Node α) (k : α) : (n.addEdge k).parents = n.parents := by
  unfold Node.addEdge; split <;> rfl

theorem mem_addEdge_out (n : Node α) (k y : α) : y ∈ (n.addEdge k).out ↔ y ∈ n.out ∨ y = k := by
  unfold Node.addEdge Node.out
  split
  · rename_i h
    constructor
    · exact Or.inl
    · rintro (h' | rfl)
      · exact h'
      · simp only [List.mem_append]; exact h
  · simp only [List.mem_append, List.mem_singleton]
    constructor
    · rintro (h | h | h)
      · exact Or.inl (Or.inl h)
      · exact Or.inl (Or.inr h)
      · exact Or.inr h
    · rintro ((h | h) | h)
      · exact Or.inl h
      · exact Or.inr (Or.inl h)
      · exact Or.inr (Or.inr h)

theorem addEdges_parents (n : Node α) (ks : List α) : (n.addEdges ks).parents = n.parents := by
  unfold Node.addEdges
  induction ks generalizing n with
  | nil => rfl
  | cons k ks ih => simp only [List.foldl_cons]; rw [ih, addEdge_parents]

theorem addEdge_tag (n : Node α) (k : α) : (n.addEdge k).tag = n.tag := by
  unfold Node.addEdge; split <;> rfl

theorem addEdges_tag (n : Node α) (ks : List α) : (n.addEdges ks).tag = n.tag := by
  unfold Node.addEdges
  induction ks generalizing n with
  | nil => rfl
  | cons k ks ih => simp only [List.foldl_cons]; rw [ih, addEdge_tag]

theorem addEdge_indirect (n : Node α) (k y : α) (h : y ∈ (n.addEdge k).indirect) :
    y ∈ n.indirect ∨ y ∉ (n.addEdge k).parents := by
  unfold Node.addEdge at h ⊢
  split
  · rename_i hk; simp only [hk, if_true] at h; exact Or.inl h
  · rename_i hk
    simp only [hk, if_false, List.mem_append, List.mem_singleton] at h
    rcases h with h | rfl
    · exact Or.inl h
    · exact Or.inr (fun hp => hk (Or.inl hp))

theorem addEdges_indirect (n : Node α) (ks : List α) :
    ∀ y, y ∈ (n.addEdges ks).indirect → y ∈ n.indirect ∨ y ∉ (n.addEdges ks).parents := by
  unfold Node.addEdges
  induction ks generalizing n with
  | nil => intro y h; exact Or.inl h
  | cons k ks ih =>
    intro y h
    simp only [List.foldl_cons] at h ⊢
    rcases ih (n.addEdge k) y h with h' | h'
    · rcases addEdge_indirect n k y h' with h'' | h''
      · exact Or.inl h''
      · right
        have e1 := addEdges_parents (n.addEdge k) ks
        unfold Node.addEdges at e1
        rw [e1]; exact h''
    · exact Or.inr h'

theorem mem_addEdges_out (n : Node α) (ks : List α) (y : α) :
    y ∈ (n.addEdges ks).out ↔ y ∈ n.out ∨ y ∈ ks := by
  unfold Node.addEdges
  induction ks generalizing n with
  | nil => simp
  | cons k ks ih =>
    simp only [List.foldl_cons, List.mem_cons]
    rw [ih, mem_addEdge_out]
    constructor
    · rintro ((h | h) | h)
      · exact Or.inl h
      · exact Or.inr (Or.inl h)
      · exact Or.inr (Or.inr h)
    · rintro (h | h | h)
      · exact Or.inl (Or.inl h)
      · exact Or.inl (Or.inr h)
      · exact Or.inr h

theorem Reach.trans {P : α → Option (List α)} {x y z : α} (h1 : Reach P x y) (h2 : Reach P y z) : Reach P x z := by
  induction h1 with
  | edge hp hy => exact Reach.step hp hy h2
  | step hp hz _ ih => exact Reach.step hp hz (ih h2)

theorem Reach.src_some {P : α → Option (List α)} {x y : α} (h : Reach P x y) : ∃ ps, P x = some ps := by
  cases h with
  | edge hp _ => exact ⟨_, hp⟩
  | step hp _ _ => exact ⟨_, hp⟩

theorem Reach.of_none {P : α → Option (List α)} {x y : α} (h : P x = none) : ¬ Reach P x y := by
  intro hr
  obtain ⟨ps, hps⟩ := hr.src_some
  rw [h] at hps; cases hps

theorem Reach.mono {P P' : α → Option (List α)}
    (h : ∀ x ps, P x = some ps → ∃ ps', P' x = some ps' ∧ ∀ y, y ∈ ps → y ∈ ps')
    {x y : α} (hr : Reach P x y) : Reach P' x y := by
  induction hr with
  | edge hp hy => obtain ⟨ps', h1, h2⟩ := h _ _ hp; exact Reach.edge h1 (h2 _ hy)
  | step hp hz _ ih => obtain ⟨ps', h1, h2⟩ := h _ _ hp; exact Reach.step h1 (h2 _ hz) ih

/-- monotonicity along the paths to a fixed target `y`: it suffices that, out of the nodes of a set `K` which
    such paths do not leave, the edges that can still lead to `y` are edges of `P'` -/
theorem Reach.mono_on {P P' : α → Option (List α)} {y : α} (K : α → Prop)
    (h : ∀ a ps b, K a → P a = some ps → b ∈ ps → (b = y ∨ Reach P b y) →
      (∃ ps', P' a = some ps' ∧ b ∈ ps') ∧ (Reach P b y → K b)) :
    ∀ {x : α}, Reach P x y → K x → Reach P' x y := by
  intro x hr
  induction hr with
  | edge hp hy =>
    intro hk
    obtain ⟨⟨ps', h1, h2⟩, _⟩ := h _ _ _ hk hp hy (Or.inl rfl)
    exact Reach.edge h1 h2
  | step hp hz hzy ih =>
    intro hk
    obtain ⟨⟨ps', h1, h2⟩, h3⟩ := h _ _ _ hk hp hz (Or.inr hzy)
    exact Reach.step h1 h2 (ih h (h3 hzy))

def Good (P : α → Option (List α)) (U : List α) (s : Store α) : Prop :=
  ∀ x n, get s x = some n → ∀ y, y ∈ n.out → Reach P x y ∧ y ∈ U

def Complete (P : α → Option (List α)) (s : Store α) (x : α) : Prop :=
  ∀ n, get s x = some n → ∀ y, Reach P x y → y ∈ n.out

/-- the fourth clause (a new indirect ancestor is not a parent) is there so that parents ∩ indirect = ∅ survives -/
def Ext (s s' : Store α) : Prop :=
  (∀ x n, get s x = some n → ∃ n', get s' x = some n' ∧ n'.parents = n.parents ∧ (∀ y, y ∈ n.out → y ∈ n'.out) ∧
      (∀ y, y ∈ n'.indirect → y ∈ n.indirect ∨ y ∉ n'.parents) ∧ n'.tag = n.tag) ∧
  (∀ x, get s x = none → get s' x = none)

theorem Ext.refl (s : Store α) : Ext s s := ⟨fun _ n h => ⟨n, h, rfl, fun _ h => h, fun _ h => Or.inl h, rfl⟩, fun _ h => h⟩

theorem Ext.trans {s1 s2 s3 : Store α} (h12 : Ext s1 s2) (h23 : Ext s2 s3) : Ext s1 s3 := by
  constructor
  · intro x n h
    obtain ⟨n2, g2, p2, o2, d2, t2⟩ := h12.1 x n h
    obtain ⟨n3, g3, p3, o3, d3, t3⟩ := h23.1 x n2 g2
    refine ⟨n3, g3, p3.trans p2, fun y hy => o3 y (o2 y hy), ?_, t3.trans t2⟩
    intro y hy
    rcases d3 y hy with h' | h'
    · rcases d2 y h' with h'' | h''
      · exact Or.inl h''
      · exact Or.inr (by rw [p3]; exact h'')
    · exact Or.inr h'
  · intro x h; exact h23.2 x (h12.2 x h)

theorem Complete.mono {P : α → Option (List α)} {s s' : Store α} {x : α} (he : Ext s s') (hc : Complete P s x) :
    Complete P s' x := by
  intro n' hn' y hr
  cases hg : get s x with
  | none => have := he.2 x hg; rw [this] at hn'; cases hn'
  | some n =>
    obtain ⟨n2, g2, _, o2, _, _⟩ := he.1 x n hg
    rw [g2] at hn'; cases hn'
    exact o2 y (hc n hg y hr)

def unseen (U seen : List α) : Nat := (U.filter (fun u => decide (u ∉ seen))).length

theorem unseen_cons_lt (U seen : List α) (a : α) (ha : a ∈ U) (hs : a ∉ seen) :
    unseen U (a :: seen) < unseen U seen := by
  have e : U.filter (fun u => decide (u ∉ a :: seen)) =
      (U.filter (fun u => decide (u ∉ seen))).filter (fun u => decide (u ≠ a)) := by
    rw [List.filter_filter]
    apply List.filter_congr
    intro x _
    simp only [List.mem_cons, not_or, Bool.decide_and]
  unfold unseen
  rw [e]
  exact List.length_filter_lt_length_iff_exists.mpr
    ⟨a, List.mem_filter.mpr ⟨ha, decide_eq_true hs⟩, by simp⟩

theorem unseen_mono (U seen seen' : List α) (h : ∀ a, a ∈ seen → a ∈ seen') :
    unseen U seen' ≤ unseen U seen := by
  unfold unseen
  rw [← List.countP_eq_length_filter, ← List.countP_eq_length_filter]
  exact List.countP_mono_left fun x _ hx => decide_eq_true fun hx' => of_decide_eq_true hx (h x hx')

theorem unseen_cons_lt_fuel {U seen0 seen : List α} {a : α} {f : Nat} (hsub : ∀ b, b ∈ seen0 → b ∈ seen)
    (haU : a ∈ U) (hin : a ∉ seen) (hfuel : unseen U seen0 < f + 1) : unseen U (a :: seen) < f :=
  Nat.lt_of_lt_of_le (unseen_cons_lt U seen a haU hin)
    (Nat.le_of_lt_succ (Nat.lt_of_le_of_lt (unseen_mono U seen0 seen hsub) hfuel))

def loopCall (rec : α → Store α → List α → Store α × List α) (st : LoopSt α) (a : α) : Store α × List α :=
  if a ∈ st.seen then (st.s, st.seen) else rec a st.s (a :: st.seen)

theorem loopStep_eq (rec : α → Store α → List α → Store α × List α) (st : LoopSt α) (a : α) :
    loopStep rec st a =
      { s := (loopCall rec st a).1, seen := (loopCall rec st a).2,
        acc := if a ∈ st.explored then st.acc else st.acc ++ ancestors (loopCall rec st a).1 a,
        explored := if a ∈ st.explored then st.explored else a :: st.explored } := by
  unfold loopStep loopCall ancestors
  by_cases hex : a ∈ st.explored
  · simp only [hex, if_true]
  · simp only [hex, if_false]
    split <;> simp

theorem mem_ite_cons {a b : α} {E : List α} : b ∈ (if a ∈ E then E else a :: E) ↔ b = a ∨ b ∈ E := by
  split
  · exact ⟨Or.inr, fun h => h.elim (fun e => e ▸ ‹a ∈ E›) id⟩
  · exact List.mem_cons

/-- an invariant `I done b` that speaks of the elements folded so far (`done`), carried through a left fold; for one that
    does not, `List.foldlRecOn` -/
theorem foldl_inv {β γ : Type} {I : List γ → β → Prop} (f : β → γ → β) :
    ∀ (l done : List γ) (b : β), (∀ done b a, a ∈ l → I done b → I (done ++ [a]) (f b a)) → I done b →
      I (done ++ l) (l.foldl f b) := by
  intro l
  induction l with
  | nil => intro done b _ h; rw [List.append_nil]; exact h
  | cons a l ih =>
    intro done b hstep h
    have h2 := ih (done ++ [a]) (f b a)
      (fun done b c hc => hstep done b c (List.mem_cons_of_mem _ hc)) (hstep done b a List.mem_cons_self h)
    rw [List.append_assoc] at h2
    exact h2

def ShapeIs (P : α → Option (List α)) (s : Store α) : Prop := ∀ x, (get s x).map (·.parents) = P x

theorem ShapeIs.ext {P : α → Option (List α)} {s s' : Store α} (h : ShapeIs P s) (he : Ext s s') : ShapeIs P s' := by
  intro x
  rw [← h x]
  cases hg : get s x with
  | none => rw [he.2 x hg]
  | some n =>
    obtain ⟨n', g', p', _, _, _⟩ := he.1 x n hg
    simp [g', p']

structure Pre (P : α → Option (List α)) (U : List α) (x : α) (s : Store α) (seen : List α) : Prop where
  good : Good P U s
  shp : ShapeIs P s
  inv : ∀ a, a ∈ seen → a = x ∨ Reach P a x ∨ Complete P s a

structure Post (P : α → Option (List α)) (U : List α) (x : α) (s : Store α) (seen : List α)
    (r : Store α × List α) : Prop where
  ext : Ext s r.1
  good : Good P U r.1
  sub : ∀ a, a ∈ seen → a ∈ r.2
  cx : Complete P r.1 x
  new : ∀ a, a ∈ r.2 → a ∈ seen ∨ Complete P r.1 a

def Spec (P : α → Option (List α)) (U : List α) (rec : α → Store α → List α → Store α × List α) (f : Nat) : Prop :=
  ∀ x s seen, Pre P U x s seen → unseen U seen < f → Post P U x s seen (rec x s seen)

theorem shapeIs_shape (s : Store α) : ShapeIs (shape s) s := fun _ => rfl

theorem Good.anc {P : α → Option (List α)} {U : List α} {s : Store α} (hg : Good P U s) {a y : α}
    (hy : y ∈ ancestors s a) : Reach P a y ∧ y ∈ U := by
  obtain ⟨n, hn, hy⟩ := mem_ancestors hy
  exact hg a n hn y hy

structure LI (P : α → Option (List α)) (U : List α) (x : α) (s0 : Store α) (seen0 : List α)
    (done : List α) (st : LoopSt α) : Prop where
  ext : Ext s0 st.s
  good : Good P U st.s
  sub : ∀ a, a ∈ seen0 → a ∈ st.seen
  inv : ∀ a, a ∈ st.seen → a = x ∨ Reach P a x ∨ Complete P st.s a
  new : ∀ a, a ∈ st.seen → a ∈ seen0 ∨ Complete P st.s a
  accSound : ∀ y, y ∈ st.acc → Reach P x y ∧ y ∈ U
  accComplete : ∀ a, a ∈ done → ∀ na, get st.s a = some na → ∀ y, Reach P a y → y ∈ st.acc
  expl : ∀ a, a ∈ st.explored ↔ a ∈ done

theorem loopStep_LI (P : α → Option (List α)) (U : List α) (hacyc : ∀ x, ¬ Reach P x x)
    (rec : α → Store α → List α → Store α × List α) (f : Nat) (hrec : Spec P U rec f)
    (x : α) (s0 : Store α) (seen0 : List α) (hshape : ShapeIs P s0) (hfuel : unseen U seen0 < f + 1)
    (done : List α) (st : LoopSt α) (a : α) (hxa : Reach P x a) (haU : a ∈ U)
    (h : LI P U x s0 seen0 done st) :
    LI P U x s0 seen0 (done ++ [a]) (loopStep rec st a) := by
  have key : Ext st.s (loopCall rec st a).1 ∧ Good P U (loopCall rec st a).1 ∧
      (∀ b, b ∈ st.seen → b ∈ (loopCall rec st a).2) ∧ Complete P (loopCall rec st a).1 a ∧
      (∀ b, b ∈ (loopCall rec st a).2 → b ∈ st.seen ∨ Complete P (loopCall rec st a).1 b) := by
    unfold loopCall
    by_cases hin : a ∈ st.seen
    · rw [if_pos hin]
      refine ⟨Ext.refl _, h.good, fun _ hb => hb, ?_, fun b hb => Or.inl hb⟩
      rcases h.inv a hin with rfl | hr | hc
      · exact absurd hxa (hacyc _)
      · exact absurd (hxa.trans hr) (hacyc _)
      · exact hc
    · rw [if_neg hin]
      have hpre : Pre P U a st.s (a :: st.seen) := by
        refine ⟨h.good, hshape.ext h.ext, ?_⟩
        intro b hb
        rcases List.mem_cons.mp hb with rfl | hb
        · exact Or.inl rfl
        · rcases h.inv b hb with rfl | hr | hc
          · exact Or.inr (Or.inl hxa)
          · exact Or.inr (Or.inl (hr.trans hxa))
          · exact Or.inr (Or.inr hc)
      have hpost := hrec a st.s (a :: st.seen) hpre (unseen_cons_lt_fuel h.sub haU hin hfuel)
      refine ⟨hpost.ext, hpost.good, fun b hb => hpost.sub b (List.mem_cons_of_mem _ hb), hpost.cx, ?_⟩
      intro b hb
      rcases hpost.new b hb with hb' | hc
      · rcases List.mem_cons.mp hb' with rfl | hb'
        · exact Or.inr hpost.cx
        · exact Or.inl hb'
      · exact Or.inr hc
  rw [loopStep_eq]
  generalize loopCall rec st a = r at key
  obtain ⟨hext, hgood, hsub, hca, hnew⟩ := key
  have hold : ∀ b, b ∈ done → ∀ nb, get r.1 b = some nb → ∀ y, Reach P b y → y ∈ st.acc := by
    intro b hb nb hnb y hy
    cases hg : get st.s b with
    | none => rw [hext.2 b hg] at hnb; cases hnb
    | some n => exact h.accComplete b hb n hg y hy
  refine ⟨h.ext.trans hext, hgood, fun b hb => hsub b (h.sub b hb), ?_, ?_, ?_, ?_, ?_⟩
  · intro b hb
    rcases hnew b hb with hb' | hc
    · rcases h.inv b hb' with e | r | c
      · exact Or.inl e
      · exact Or.inr (Or.inl r)
      · exact Or.inr (Or.inr (c.mono hext))
    · exact Or.inr (Or.inr hc)
  · intro b hb
    rcases hnew b hb with hb' | hc
    · rcases h.new b hb' with e | c
      · exact Or.inl e
      · exact Or.inr (c.mono hext)
    · exact Or.inr hc
  · intro y hy
    dsimp only at hy
    split at hy
    · exact h.accSound y hy
    · rcases List.mem_append.mp hy with hy | hy
      · exact h.accSound y hy
      · exact ⟨hxa.trans (hgood.anc hy).1, (hgood.anc hy).2⟩
  · intro b hb nb hnb y hy
    dsimp only
    rcases List.mem_append.mp hb with hb | hb
    · split
      · exact hold b hb nb hnb y hy
      · exact List.mem_append_left _ (hold b hb nb hnb y hy)
    · cases List.mem_singleton.mp hb
      split
      · exact hold a ((h.expl a).mp ‹_›) nb hnb y hy
      · exact List.mem_append_right _ (by rw [ancestors_some hnb]; exact hca nb hnb y hy)
  · intro b
    dsimp only
    rw [mem_ite_cons, h.expl, List.mem_append, List.mem_singleton, or_comm]

theorem Ext_set_addEdges (s : Store α) (x : α) (n : Node α) (acc : List α) (hg : get s x = some n) :
    Ext s (set s x (n.addEdges acc)) := by
  constructor
  · intro z m hz
    by_cases hzx : z = x
    · subst hzx
      rw [hg] at hz; cases hz
      exact ⟨_, get_set_self s z _ _ hg, addEdges_parents _ _,
        fun _ hy => (mem_addEdges_out _ _ _).mpr (Or.inl hy), addEdges_indirect _ _, addEdges_tag _ _⟩
    · exact ⟨m, by rw [get_set_other _ _ _ _ hzx]; exact hz, rfl, fun _ h => h, fun _ h => Or.inl h, rfl⟩
  · intro z hz
    rw [get_set]
    split
    · rw [← ‹z = x›, hz]; rfl
    · exact hz

theorem edges_set_addEdges {Q : α → α → Prop} {s : Store α} {x : α} {n : Node α} {acc : List α}
    (h : ∀ z m, get s z = some m → ∀ y, y ∈ m.out → Q z y) (hg : get s x = some n)
    (hacc : ∀ y, y ∈ acc → Q x y) :
    ∀ z m, get (set s x (n.addEdges acc)) z = some m → ∀ y, y ∈ m.out → Q z y := by
  intro z m hz y hy
  by_cases hzx : z = x
  · subst hzx
    rw [get_set_self _ _ _ _ hg] at hz; cases hz
    rcases (mem_addEdges_out _ _ _).mp hy with hy | hy
    · exact h z n hg y hy
    · exact hacc y hy
  · rw [get_set_other _ _ _ _ hzx] at hz
    exact h z m hz y hy

theorem addAnc_none {f : Nat} {x : α} {s : Store α} {seen : List α} (hgx : get s x = none) :
    addAnc (f + 1) x s seen = (s, seen) := by
  simp only [addAnc, hgx]

/-- `add_ancestors` on a node with a record, when the loop keeps that record (as every `Ext` does): the
    `expect("This node should always exist.")` site is not reached -/
theorem addAnc_succ {f : Nat} {x : α} {s : Store α} {seen : List α} {nx : Node α} (hgx : get s x = some nx)
    {st : LoopSt α}
    (hst : nx.out.foldl (loopStep (addAnc f)) { s := s, seen := seen, acc := [], explored := [] } = st)
    (hext : Ext s st.s) :
    ∃ nx', get st.s x = some nx' ∧ nx'.parents = nx.parents ∧
      addAnc (f + 1) x s seen = (set st.s x (nx'.addEdges st.acc), st.seen) := by
  obtain ⟨nx', hgx', hpar', _⟩ := hext.1 x nx hgx
  refine ⟨nx', hgx', hpar', ?_⟩
  simp only [addAnc, hgx, hst, hgx']

/-- on an acyclic parent graph, with enough fuel, `add_ancestors` makes `x`
    (and everything it newly visits) exactly closed, keeps every edge justified, and never reaches the
    `expect("This node should always exist.")` site. -/
theorem addAnc_spec (P : α → Option (List α)) (U : List α) (hacyc : ∀ x, ¬ Reach P x x) :
    ∀ f, Spec P U (addAnc f) f := by
  intro f
  induction f with
  | zero => intro x s seen _ hf; exact absurd hf (Nat.not_lt_zero _)
  | succ f ih =>
    intro x s seen pre hf
    cases hgx : get s x with
    | none =>
      rw [addAnc_none hgx]
      exact ⟨Ext.refl _, pre.good, fun _ h => h, (by intro n hn; rw [hgx] at hn; cases hn), fun _ h => Or.inl h⟩
    | some nx =>
      have hinit : LI P U x s seen [] { s := s, seen := seen, acc := [], explored := [] } :=
        ⟨Ext.refl _, pre.good, fun _ h => h, pre.inv, fun _ h => Or.inl h,
          (by intro y hy; cases hy), (by intro a ha; cases ha), (by intro a; simp)⟩
      have hli := foldl_inv (I := LI P U x s seen) (loopStep (addAnc f)) nx.out [] _
        (fun done st a ha => loopStep_LI P U hacyc (addAnc f) f ih x s seen pre.shp hf done st a
          (pre.good x nx hgx a ha).1 (pre.good x nx hgx a ha).2) hinit
      rw [List.nil_append] at hli
      generalize hst : nx.out.foldl (loopStep (addAnc f)) { s := s, seen := seen, acc := [], explored := [] } = st
        at hli
      obtain ⟨nx', hgx', hpar', he⟩ := addAnc_succ hgx hst hli.ext
      rw [he]
      have hE := Ext_set_addEdges st.s x nx' st.acc hgx'
      refine ⟨hli.ext.trans hE, edges_set_addEdges hli.good hgx' hli.accSound, hli.sub, ?_, ?_⟩
      · -- every node reachable from `x` is a parent or was reached through an explored parent
        intro n hn y hr
        rw [get_set_self _ _ _ _ hgx'] at hn; cases hn
        have hPx : P x = some nx.parents := by rw [← pre.shp x, hgx]; rfl
        apply (mem_addEdges_out _ _ _).mpr
        cases hr with
        | edge hp hy =>
          rw [hPx] at hp; cases hp
          exact Or.inl (mem_out.mpr (Or.inl (hpar' ▸ hy)))
        | @step _ _ z _ hp hz hzy =>
          rw [hPx] at hp; cases hp
          obtain ⟨pz, hpz⟩ := hzy.src_some
          have : ∃ nz, get s z = some nz := by
            have := pre.shp z; rw [hpz] at this
            cases hgz : get s z with
            | none => rw [hgz] at this; cases this
            | some nz => exact ⟨nz, rfl⟩
          obtain ⟨nz, hgz⟩ := this
          obtain ⟨nz', hgz', _⟩ := hli.ext.1 z nz hgz
          exact Or.inr (hli.accComplete z (mem_out.mpr (Or.inl hz)) nz' hgz' y hzy)
      · intro a ha
        rcases hli.new a ha with h | h
        · exact Or.inl h
        · exact Or.inr (h.mono hE)

end Cedar.TC
