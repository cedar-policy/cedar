import CedarVerif.Lemmas.Est
/-
JSON policy format, policy level: `toTemplate (ofTemplate t) = ok t` and the link record round trip.
-/
namespace Cedar.Est
open Cedar

def WFRef : EntityRef → Prop
  | .euid u => validName u.ty = true
  | .slot => True

def WFScope : ScopeC → Prop
  | .any => True
  | .eq r => WFRef r
  | .mem r => WFRef r
  | .is ty => validName ty = true
  | .isIn ty r => validName ty = true ∧ WFRef r

def WFUid (u : EntityUID) : Prop := validName u.ty = true ∧ isActionType u.ty = true

def WFAction : ActionC → Prop
  | .any => True
  | .eq u => WFUid u
  | .mem us => ∀ u ∈ us, WFUid u

/-- invariants of a Rust `ast::Template` obtained from Cedar text -/
structure WFT (t : Template) : Prop where
  principal : WFScope t.principal
  action : WFAction t.action
  resource : WFScope t.resource
  annKeys : ∀ kv ∈ t.annotations, validAnyId kv.1 = true
  annSorted : SortedKeys t.annotations
  cond : ∀ e, t.cond = some e → WF e ∧ exprHasSlot e = false

theorem WFT.withCond {t : Template} (h : WFT t) (e : Expr) (hw : WF e) (hs : exprHasSlot e = false) :
    WFT { t with cond := some e } :=
  { h with cond := fun _ he => by cases he; exact ⟨hw, hs⟩ }

theorem readEntityUid_uidJson (u : EntityUID) (h : validName u.ty = true) : readEntityUid (uidJson u) = .ok u := by
  simp [readEntityUid, uidJson, jlookup, readTypeAndId, uidOf, h]

theorem readRef_refMember (slot : SlotId) (r : EntityRef) (h : WFRef r) (op : Json) :
    readRef slot [refMember slot r] = .ok r ∧ readRef slot [("op", op), refMember slot r] = .ok r := by
  cases r with
  | euid u => simp [refMember, readRef, jlookup, readEntityUid_uidJson u h, Except.map]
  | slot => simp [refMember, readRef, jlookup, readSlot_slotName, bind, Except.bind]

theorem refMember_ne_op (slot : SlotId) (r : EntityRef) : ((refMember slot r).1 == "op") = false := by
  cases r <;> rfl

theorem readScope_scopeJson (slot : SlotId) (c : ScopeC) (h : WFScope c) :
    readScope slot (scopeJson slot c) = .ok c := by
  cases c with
  | any => simp [scopeJson, readScope, noDupKeys, hasKey, jlookup]
  | eq r | mem r =>
    simp [scopeJson, readScope, noDupKeys, hasKey, refMember_ne_op, jlookup, (readRef_refMember slot r h _).2, Except.map]
  | is ty =>
    have h : validName ty = true := h
    simp [scopeJson, readScope, noDupKeys, hasKey, jlookup, onlyKeys, getS, h, bind, Except.bind]
  | isIn ty r =>
    simp [scopeJson, readScope, noDupKeys, hasKey, jlookup, onlyKeys, getS, h.1, bind, Except.bind,
      (readRef_refMember slot r h.2 .null).1, Except.map]

theorem readUids_map (us : List EntityUID) (h : ∀ u ∈ us, validName u.ty = true) :
    readUids (us.map uidJson) = .ok us := by
  induction us with
  | nil => rfl
  | cons u rest ih =>
    simp [readUids, readEntityUid_uidJson u (h u (.head _)), ih fun v hv => h v (.tail _ hv), bind, Except.bind]

theorem checkActions_ok (c : ActionC) (h : WFAction c) : checkActions c = .ok c := by
  cases c with
  | any => rfl
  | eq u => simp [checkActions, (show WFUid u from h).2]
  | mem us =>
    have h : ∀ u ∈ us, WFUid u := h
    simp only [checkActions, List.all_eq_true.mpr fun u hu => (h u hu).2, if_true]

theorem readAction_actionJson (c : ActionC) (h : WFAction c) : readAction (actionJson c) = .ok c := by
  have hc := checkActions_ok c h
  cases c with
  | any => simp [actionJson, readAction, noDupKeys, hasKey, jlookup]
  | eq u =>
    simp [actionJson, readAction, noDupKeys, hasKey, jlookup, readEntityUid_uidJson u (show WFUid u from h).1, hc, bind,
      Except.bind]
  | mem us =>
    have hn : ∀ u ∈ us, validName u.ty = true := fun u hu => ((show ∀ u ∈ us, WFUid u from h) u hu).1
    have hus := readUids_map us hn
    -- `actionJson` writes a one-element list as `entity`, any other as `entities`
    rcases us with _ | ⟨u, _ | ⟨v, rest⟩⟩
    · simp [actionJson, readAction, noDupKeys, hasKey, jlookup, readUids, hc, bind, Except.bind]
    · simp [actionJson, readAction, noDupKeys, hasKey, jlookup, readEntityUid_uidJson u (hn u (.head _)), hc, bind,
        Except.bind]
    · simp only [List.map_cons] at hus
      simp [actionJson, readAction, noDupKeys, hasKey, jlookup, hus, hc, bind, Except.bind]

theorem readAnnValues_map (anns : List (String × String)) (h : ∀ kv ∈ anns, validAnyId kv.1 = true) :
    readAnnValues (anns.map (fun (k, v) => (k, Json.str v))) = .ok anns := by
  induction anns with
  | nil => rfl
  | cons kv rest ih =>
    simp [readAnnValues, h kv (.head _), ih fun kv hkv => h kv (.tail _ hkv), bind, Except.bind]

theorem readClause_clauseJson (w : Bool) (e : Expr) (hw : WF e) (hs : exprHasSlot e = false) :
    readClause (.obj [("kind", .str (if w then "when" else "unless")), ("body", ofExpr e)])
      = .ok (if w then e else .unaryApp .not e) := by
  cases w <;> simp [readClause, exactKeys, hasKey, jlookup, toExpr_ofExpr e hw, hs, bind, Except.bind]

theorem readClauses_condsJson (c : Option Expr) (h : ∀ e, c = some e → WF e ∧ exprHasSlot e = false) :
    ∃ cs l, condsJson c = .arr cs ∧ readClauses cs = .ok l ∧ foldConds l = c := by
  cases c with
  | none => exact ⟨[], [], rfl, rfl, rfl⟩
  | some e =>
    have hc : readClause (.obj [("kind", .str "when"), ("body", ofExpr e)]) = .ok e :=
      readClause_clauseJson true e (h e rfl).1 (h e rfl).2
    exact ⟨_, [e], rfl, by simp [readClauses, hc, bind, Except.bind], rfl⟩

theorem toTemplate_ofTemplate (t : Template) (h : WFT t) : toTemplate (ofTemplate t) = .ok t := by
  obtain ⟨cs, l, hcs, hl, hlf⟩ := readClauses_condsJson t.cond h.cond
  have hp := readScope_scopeJson .principal t.principal h.principal
  have hr := readScope_scopeJson .resource t.resource h.resource
  have ha := readAction_actionJson t.action h.action
  have heff : readEffect (.str (effectName t.effect)) = .ok t.effect := by
    cases t.effect <;> rfl
  -- the writer omits an empty `annotations` member
  cases hann : t.annotations.isEmpty with
  | true =>
    simp [ofTemplate, hann, toTemplate, onlyKeys, policyKeys, noDupKeys, hasKey, jlookup, hcs, heff, hp, hr, ha, hl, hlf,
      readAnnotations, bind, Except.bind, ← List.isEmpty_iff.mp hann]
  | false =>
    have hav := readAnnValues_map t.annotations h.annKeys
    simp [ofTemplate, hann, toTemplate, onlyKeys, policyKeys, noDupKeys, hasKey, jlookup, hcs, heff, hp, hr, ha, hl, hlf,
      readAnnotations, hav, sortKVs_sorted _ h.annSorted, bind, Except.bind]

def WFLink (l : Linked) : Prop :=
  (∀ b ∈ l.env, validName b.2.ty = true) ∧ noDupKeys (l.env.map (fun (s, u) => (slotName s, uidJson u))) = true

theorem readLinkValues_map (env : SlotEnv) (h : ∀ b ∈ env, validName b.2.ty = true) :
    readLinkValues (env.map (fun (s, u) => (slotName s, uidJson u))) = .ok env := by
  induction env with
  | nil => rfl
  | cons b rest ih =>
    simp only [List.map, readLinkValues, readSlot_slotName, readEntityUid_uidJson b.2 (h b (.head _)), bind, Except.bind]
    rw [ih fun b hb => h b (.tail _ hb)]

theorem toLinked_linkJson (l : Linked) (h : WFLink l) : toLinked (linkJson l) = .ok l := by
  simp [linkJson, toLinked, exactKeys, hasKey, jlookup, h.2, readLinkValues_map l.env h.1, bind, Except.bind]

end Cedar.Est
