import CedarVerif.Lemmas.PartialArms
import CedarVerif.Lemmas.ValueUids
/-
The closed-world invariant of the first pass, for `.partial()` stores.

`U : EntityUID → Prop` is a set of entity uids ("mentioned").  If the literal uids of the expression, the known request
entries, the context, the values of the mapper, the slot environment and the attribute / tag values of the partial store all
lie in `U`, then every value `pinterp` returns, and every residual it returns, mentions only uids of `U` (`pinterp_in`).
Hence the only uids `pinterp` ever dereferences (`Entities::entity`) are in `U`, and the hypothesis on entities missing from
a `.partial()` store (`Bound`) is needed only for uids of `U`: `StoreCompletesOn U`.

`mentioned m0 preq pes env e` is the finite list of those uids; `mentioned_closed` shows it satisfies all the hypotheses.
Ancestor lists are not part of it: ancestors never flow into a value (`eval_in` returns a Boolean).
-/
namespace Cedar
namespace PS
open Cedar.Tpe (valueUids valueUidsList valueUidsKVs)

mutual
def exprUids : Expr → List EntityUID
  | .lit (.entityUID u) => [u]
  | .lit _ => []
  | .var _ => []
  | .slot _ => []
  | .unknown _ _ => []
  | .ite c t e => exprUids c ++ exprUids t ++ exprUids e
  | .and a b => exprUids a ++ exprUids b
  | .or a b => exprUids a ++ exprUids b
  | .unaryApp _ a => exprUids a
  | .binaryApp _ a b => exprUids a ++ exprUids b
  | .call _ args => exprUidsList args
  | .getAttr e _ => exprUids e
  | .hasAttr e _ => exprUids e
  | .like e _ => exprUids e
  | .is e _ => exprUids e
  | .set xs => exprUidsList xs
  | .record kvs => exprUidsKVs kvs
def exprUidsList : List Expr → List EntityUID
  | [] => []
  | x :: xs => exprUids x ++ exprUidsList xs
def exprUidsKVs : List (String × Expr) → List EntityUID
  | [] => []
  | (_, x) :: xs => exprUids x ++ exprUidsKVs xs
end

section
variable (U : EntityUID → Prop)

def VIn (v : Value) : Prop := ∀ u, u ∈ valueUids v → U u
def EIn (e : Expr) : Prop := ∀ u, u ∈ exprUids e → U u

def PVIn : PartialValue → Prop
  | .value v => VIn U v
  | .residual r => EIn U r

def PAttrsIn (kvs : List (String × PartialValue)) : Prop := ∀ k pv, lookupKV kvs k = some pv → PVIn U pv

def StoreIn (pes : PEntities) : Prop :=
  ∀ u d, PEntities.find? pes.ents u = some d → PAttrsIn U d.attrs ∧ PAttrsIn U d.tags

def EntryIn : UidEntry → Prop
  | .known u => U u
  | .unknown _ => True

def CtxIn : Option PContext → Prop
  | none => True
  | some (.value kvs) => VIn U (.record kvs)
  | some (.residual kvs) => EIn U (.record kvs)

structure ReqIn (preq : PRequest) : Prop where
  principal : EntryIn U preq.principal
  action : EntryIn U preq.action
  resource : EntryIn U preq.resource
  context : CtxIn U preq.context

def MapIn (m : Mapper) : Prop := ∀ k v, lookupKV m k = some v → VIn U v
def EnvIn (env : SlotEnv) : Prop := ∀ s u, env.lookup s = some u → U u

def GoodRes : PRes → Prop
  | .val v => VIn U v
  | .res r => EIn U r
  | _ => True

end

section
variable {U : EntityUID → Prop} {pes : PEntities}

theorem eIn_app {xs ys : List EntityUID} : (∀ u, u ∈ xs ++ ys → U u) ↔ (∀ u, u ∈ xs → U u) ∧ (∀ u, u ∈ ys → U u) := by
  simp only [List.mem_append]
  constructor
  · intro h; exact ⟨fun u hu => h u (Or.inl hu), fun u hu => h u (Or.inr hu)⟩
  · rintro ⟨h1, h2⟩ u (hu | hu)
    · exact h1 u hu
    · exact h2 u hu

theorem eIn_ite {c t e : Expr} : EIn U (.ite c t e) ↔ EIn U c ∧ EIn U t ∧ EIn U e :=
  eIn_app.trans ((and_congr_left fun _ => eIn_app).trans and_assoc)
theorem eIn_and {a b : Expr} : EIn U (.and a b) ↔ EIn U a ∧ EIn U b := eIn_app
theorem eIn_or {a b : Expr} : EIn U (.or a b) ↔ EIn U a ∧ EIn U b := eIn_app
theorem eIn_binary {op : BinaryOp} {a b : Expr} : EIn U (.binaryApp op a b) ↔ EIn U a ∧ EIn U b := eIn_app
theorem eIn_unary {op : UnaryOp} {a : Expr} : EIn U (.unaryApp op a) ↔ EIn U a := Iff.rfl
theorem eIn_getAttr {a : Expr} {k : String} : EIn U (.getAttr a k) ↔ EIn U a := Iff.rfl
theorem eIn_hasAttr {a : Expr} {k : String} : EIn U (.hasAttr a k) ↔ EIn U a := Iff.rfl
theorem eIn_like {a : Expr} {p : Pattern} : EIn U (.like a p) ↔ EIn U a := Iff.rfl
theorem eIn_is {a : Expr} {t : EntityType} : EIn U (.is a t) ↔ EIn U a := Iff.rfl
theorem eIn_unknown (name : String) (ty : Option TyAnn) : EIn U (.unknown name ty) := fun _ hu => nomatch hu
theorem eIn_litBool (b : Bool) : EIn U (.lit (.bool b)) := fun _ hu => nomatch hu
theorem eIn_litString (s : String) : EIn U (.lit (.string s)) := fun _ hu => nomatch hu

theorem eIn_list_mem {xs : List Expr} (h : ∀ u, u ∈ exprUidsList xs → U u) {x : Expr} (hx : x ∈ xs) : EIn U x := by
  induction xs with
  | nil => cases hx
  | cons y ys ih =>
    simp only [exprUidsList] at h
    obtain ⟨h1, h2⟩ := eIn_app.mp h
    rcases List.mem_cons.mp hx with rfl | hx
    · exact h1
    · exact ih h2 hx

theorem eIn_kvs_mem {kvs : List (String × Expr)} (h : ∀ u, u ∈ exprUidsKVs kvs → U u) {kv : String × Expr} (hx : kv ∈ kvs) :
    EIn U kv.2 := by
  induction kvs with
  | nil => cases hx
  | cons y ys ih =>
    obtain ⟨k, y⟩ := y
    simp only [exprUidsKVs] at h
    obtain ⟨h1, h2⟩ := eIn_app.mp h
    rcases List.mem_cons.mp hx with rfl | hx
    · exact h1
    · exact ih h2 hx

theorem eIn_set_mem {xs : List Expr} (h : EIn U (.set xs)) {x : Expr} (hx : x ∈ xs) : EIn U x :=
  eIn_list_mem h hx
theorem eIn_call_mem {fn : String} {xs : List Expr} (h : EIn U (.call fn xs)) {x : Expr} (hx : x ∈ xs) : EIn U x :=
  eIn_list_mem h hx
theorem eIn_record_mem {kvs : List (String × Expr)} (h : EIn U (.record kvs)) {kv : String × Expr} (hx : kv ∈ kvs) : EIn U kv.2 :=
  eIn_kvs_mem h hx

theorem eIn_lookupKV {kvs : List (String × Expr)} (h : EIn U (.record kvs)) {k : String} {e : Expr}
    (hl : lookupKV kvs k = some e) : EIn U e := by
  exact eIn_record_mem h (lookupKV_mem hl)

theorem exprUids_extToExpr (x : Ext) : exprUids (Ext.toExpr x) = [] := by
  cases x with
  | decimal d => simp [Ext.toExpr, exprUids, exprUidsList]
  | ipaddr v6 a p => cases v6 <;> simp [Ext.toExpr, exprUids, exprUidsList]
  | datetime ms => simp [Ext.toExpr, exprUids, exprUidsList]
  | duration ms => simp [Ext.toExpr, exprUids, exprUidsList]

mutual
theorem exprUids_toExpr : ∀ v : Value, exprUids v.toExpr = valueUids v
  | .prim p => by cases p <;> simp [Value.toExpr, exprUids, valueUids]
  | .set vs => by simp only [Value.toExpr, exprUids, valueUids]; exact exprUids_toExprList vs
  | .record kvs => by simp only [Value.toExpr, exprUids, valueUids]; exact exprUids_toExprKVs kvs
  | .ext x => by simp only [Value.toExpr, valueUids]; exact exprUids_extToExpr x
theorem exprUids_toExprList : ∀ vs : List Value, exprUidsList (Value.toExprList vs) = valueUidsList vs
  | [] => by simp [Value.toExprList, exprUidsList, valueUidsList]
  | v :: vs => by simp only [Value.toExprList, exprUidsList, valueUidsList]; rw [exprUids_toExpr v, exprUids_toExprList vs]
theorem exprUids_toExprKVs : ∀ kvs : List (String × Value), exprUidsKVs (Value.toExprKVs kvs) = valueUidsKVs kvs
  | [] => by simp [Value.toExprKVs, exprUidsKVs, valueUidsKVs]
  | (k, v) :: kvs => by simp only [Value.toExprKVs, exprUidsKVs, valueUidsKVs]; rw [exprUids_toExpr v, exprUids_toExprKVs kvs]
end

theorem eIn_toExpr {v : Value} (h : VIn U v) : EIn U v.toExpr := by
  intro u hu; rw [exprUids_toExpr] at hu; exact h u hu

theorem vIn_noUids {v : Value} (h : valueUids v = []) : VIn U v := by
  intro u hu; rw [h] at hu; cases hu

theorem vIn_bool (b : Bool) : VIn U (.prim (.bool b)) := vIn_noUids rfl

theorem vIn_lookupKV {kvs : List (String × Value)} (h : VIn U (.record kvs)) {k : String} {v : Value}
    (hl : lookupKV kvs k = some v) : VIn U v :=
  fun u hu => h u (Tpe.mem_valueUidsKVs_of_lookupKV hl hu)

theorem goodRes_ofResult {x : Result Value} (h : ∀ w, x = .ok w → valueUids w = []) : GoodRes U (PRes.ofResult x) := by
  cases x with
  | error c => trivial
  | ok w => exact vIn_noUids (h w rfl)

theorem goodRes_ofPV {pv : PartialValue} (h : PVIn U pv) : GoodRes U (PRes.ofPV pv) := by
  cases pv with
  | value v => exact h
  | residual r => exact h

theorem goodRes_unknownToPV {m : Mapper} (hm : MapIn U m) (name : String) (ty : Option TyAnn) :
    GoodRes U (unknownToPV m name ty) := by
  unfold unknownToPV
  split
  · exact eIn_unknown _ _
  · rename_i v hl; exact hm _ _ hl
  · rename_i v t hl
    split
    · exact hm _ _ hl
    · trivial

theorem goodRes_bestEffort {r : PRes} {orig : Expr} {k : Expr → PRes} (hr : GoodRes U r) (ho : EIn U orig)
    (hk : ∀ x, EIn U x → GoodRes U (k x)) : GoodRes U (bestEffort r orig k) := by
  cases r with
  | val v => exact hk _ (eIn_toExpr hr)
  | res e => exact hk _ hr
  | err c => exact hk _ ho
  | fuel => trivial
  | panic => trivial

theorem valueUidsKVs_zip (ks : List String) (vs : List Value) : ∀ u, u ∈ valueUidsKVs (ks.zip vs) → u ∈ valueUidsList vs := by
  induction ks generalizing vs with
  | nil => intro u hu; simp [valueUidsKVs] at hu
  | cons k ks ih =>
    cases vs with
    | nil => intro u hu; simp [valueUidsKVs] at hu
    | cons v vs =>
      intro u hu
      simp only [List.zip_cons_cons, valueUidsKVs, valueUidsList, List.mem_append] at hu ⊢
      rcases hu with hu | hu
      · exact Or.inl hu
      · exact Or.inr (ih vs u hu)

theorem exprUidsKVs_zip (ks : List String) (rs : List Expr) : ∀ u, u ∈ exprUidsKVs (ks.zip rs) → u ∈ exprUidsList rs := by
  induction ks generalizing rs with
  | nil => intro u hu; simp [exprUidsKVs] at hu
  | cons k ks ih =>
    cases rs with
    | nil => intro u hu; simp [exprUidsKVs] at hu
    | cons v vs =>
      intro u hu
      simp only [List.zip_cons_cons, exprUidsKVs, exprUidsList, List.mem_append] at hu ⊢
      rcases hu with hu | hu
      · exact Or.inl hu
      · exact Or.inr (ih vs u hu)

theorem goodRes_evalIn (u1 : EntityUID) (anc : Option (List EntityUID)) (v2 : Value) : GoodRes U (evalIn u1 anc v2) := by
  cases v2 with
  | prim p => cases p <;> first | exact vIn_bool _ | trivial
  | set vs =>
    simp only [evalIn]
    cases asEntityList vs with
    | error c => trivial
    | ok us => exact vIn_bool _
  | record kvs => trivial
  | ext x => trivial

theorem goodRes_papplyBinary (hS : StoreIn U pes) (op : BinaryOp) {v1 v2 : Value} (h2 : VIn U v2) :
    GoodRes U (papplyBinary pes op v1 v2) := by
  cases hop : op.storeFree with
  | true =>
    have : papplyBinary pes op v1 v2 = PRes.ofResult (applyBinary [] op v1 v2) := by
      cases op <;> first | (simp [BinaryOp.storeFree] at hop; done) | rfl
    rw [this]
    exact goodRes_ofResult (fun w hw => Cedar.Tpe.applyBinary_noUids hop hw)
  | false =>
    cases op <;> simp [BinaryOp.storeFree] at hop
    case mem =>
      simp only [papplyBinary]
      cases he : v1.asEntity with
      | error c => trivial
      | ok u1 =>
        simp only []
        rcases entity_cases pes u1 with ⟨d, hf, hE⟩ | ⟨hf, hp, hE⟩ | ⟨hf, hp, hE⟩
        · rw [hE]; exact goodRes_evalIn _ _ _
        · rw [hE]; exact goodRes_evalIn _ _ _
        · rw [hE]; exact eIn_binary.mpr ⟨eIn_unknown _ _, eIn_toExpr h2⟩
    case getTag =>
      simp only [papplyBinary]
      cases he : v1.asEntity with
      | error c => trivial
      | ok u =>
        cases hs : v2.asString with
        | error c => trivial
        | ok t =>
          simp only []
          rcases entity_cases pes u with ⟨d, hf, hE⟩ | ⟨hf, hp, hE⟩ | ⟨hf, hp, hE⟩
          · rw [hE]
            simp only []
            cases hl : lookupKV d.tags t with
            | none => trivial
            | some pv => exact goodRes_ofPV ((hS u d hf).2 t pv hl)
          · rw [hE]; trivial
          · rw [hE]; exact eIn_binary.mpr ⟨eIn_unknown _ _, eIn_litString _⟩
    case hasTag =>
      simp only [papplyBinary]
      cases he : v1.asEntity with
      | error c => trivial
      | ok u =>
        cases hs : v2.asString with
        | error c => trivial
        | ok t =>
          simp only []
          rcases entity_cases pes u with ⟨d, hf, hE⟩ | ⟨hf, hp, hE⟩ | ⟨hf, hp, hE⟩
          · rw [hE]; exact vIn_bool _
          · rw [hE]; exact vIn_bool _
          · rw [hE]; exact eIn_binary.mpr ⟨eIn_unknown _ _, eIn_litString _⟩

theorem goodRes_pcallExt (fn : String) (vs : List Value) : GoodRes U (pcallExt fn vs) := by
  unfold pcallExt
  split
  · split
    · split
      · exact eIn_unknown _ _
      · trivial
    · trivial
  · exact goodRes_ofResult (fun w hw => Cedar.Tpe.callExt_noUids hw)

theorem goodRes_bind {x : PRes} {f : Value → PRes} {g : Expr → PRes} (hx : GoodRes U x)
    (hf : ∀ v, VIn U v → GoodRes U (f v)) (hg : ∀ r, EIn U r → GoodRes U (g r)) : GoodRes U (x.bind f g) := by
  cases x with
  | val v => exact hf v hx
  | res r => exact hg r hx
  | _ => trivial

theorem exprUidsList_map_toExpr (vs : List Value) : exprUidsList (vs.map Value.toExpr) = valueUidsList vs := by
  induction vs with
  | nil => rfl
  | cons v vs ih => simp only [List.map_cons, exprUidsList, valueUidsList, exprUids_toExpr, ih]

theorem goodRes_ofCollect {f : Expr → PRes} {xs : List Expr} (h : ∀ x, x ∈ xs → GoodRes U (f x))
    {k : List Value → PRes} {g : List Expr → PRes} (hk : ∀ vs, (∀ u, u ∈ valueUidsList vs → U u) → GoodRes U (k vs))
    (hg : ∀ rs, (∀ u, u ∈ exprUidsList rs → U u) → GoodRes U (g rs)) :
    GoodRes U (.ofCollect (collectPV f xs) k g) := by
  induction xs generalizing k g with
  | nil => exact hk [] (fun _ hu => nomatch hu)
  | cons x xs ih =>
    have ih' := @ih fun y hy => h y (List.mem_cons_of_mem _ hy)
    rw [ofCollect_cons]
    refine goodRes_bind (h x (List.mem_cons_self ..)) (fun v hv => ih' ?_ ?_) (fun e he => ih' ?_ ?_)
    · exact fun vs hvs => hk _ (eIn_app.mpr ⟨hv, hvs⟩)
    · exact fun rs hrs => hg _ (eIn_app.mpr ⟨eIn_toExpr hv, hrs⟩)
    · exact fun vs hvs => hg _ (eIn_app.mpr ⟨he, by rw [exprUidsList_map_toExpr]; exact hvs⟩)
    · exact fun rs hrs => hg _ (eIn_app.mpr ⟨he, hrs⟩)

theorem goodRes_boolV (w : Value) : GoodRes U (PRes.boolV w) := by
  unfold PRes.boolV
  split
  · trivial
  · exact vIn_bool _

theorem goodRes_iteV {xt xe : PRes} (ht : GoodRes U xt) (he : GoodRes U xe) (v : Value) : GoodRes U (PRes.iteV xt xe v) := by
  unfold PRes.iteV
  split
  · trivial
  · exact ht
  · exact he

theorem goodRes_sc {o : Option PRes} {r : Expr} (ho : ∀ x, o = some x → ∃ b, x = .val (.prim (.bool b))) (hr : EIn U r) :
    GoodRes U (match (generalizing := false) o with
      | some x => x
      | none => .res r) := by
  cases o with
  | none => exact hr
  | some x => obtain ⟨b, rfl⟩ := ho x rfl; exact vIn_bool _

theorem goodRes_entity (u : EntityUID) {k : Deref → PRes} (hno : GoodRes U (k .noSuch))
    (hres : ∀ r, EIn U r → GoodRes U (k (.residual r)))
    (hdata : ∀ d, PEntities.find? pes.ents u = some d → GoodRes U (k (.data d))) : GoodRes U (k (pes.entity u)) := by
  rcases entity_cases pes u with ⟨d, hf, hE⟩ | ⟨_, _, hE⟩ | ⟨_, _, hE⟩ <;> rw [hE]
  · exact hdata d hf
  · exact hno
  · exact hres _ (eIn_unknown _ _)

theorem goodRes_getAttrVal {m0 : Mapper} (hS : StoreIn U pes) (hM : MapIn U m0) (attr : String) {v : Value} (hv : VIn U v) :
    GoodRes U (getAttrVal m0 pes attr v) := by
  unfold getAttrVal
  split
  · split
    · rename_i hl; exact vIn_lookupKV hv hl
    · trivial
  · rename_i u
    refine goodRes_entity (k := fun d => match d with
      | .noSuch => .err .entity
      | .residual r => .res (.getAttr r attr)
      | .data d => match lookupKV d.attrs attr with
        | none => .err .attr
        | some (.value v) => .val v
        | some (.residual (.unknown name ty)) => unknownToPV m0 name ty
        | some (.residual r) => .res r) u trivial (fun r hr => eIn_getAttr.mpr hr) fun d hf => ?_
    simp only []
    split
    · trivial
    · rename_i hl; exact (hS u d hf).1 attr _ hl
    · exact goodRes_unknownToPV hM _ _
    · rename_i hl; exact (hS u d hf).1 attr _ hl
  · trivial

theorem goodRes_hasAttrVal (attr : String) (v : Value) : GoodRes U (hasAttrVal pes attr v) := by
  unfold hasAttrVal
  split
  · exact vIn_bool _
  · rename_i u
    exact goodRes_entity (k := fun d => match d with
      | .noSuch => .val (.prim (.bool false))
      | .residual r => .res (.hasAttr r attr)
      | .data d => .val (.prim (.bool (lookupKV d.attrs attr).isSome))) u (vIn_bool _) (fun r hr => eIn_hasAttr.mpr hr)
      fun d _ => vIn_bool _
  · trivial

theorem scVR_bool {v1 : Value} {e2 : Expr} {op : BinaryOp} (x : PRes) (h : shortCircuitVR v1 e2 op = some x) :
    ∃ b, x = .val (.prim (.bool b)) := by
  obtain ⟨_, _, _, _, _, _, _, rfl⟩ := shortCircuitVR_some h; exact ⟨_, rfl⟩
theorem scRV_bool {e1 : Expr} {v2 : Value} {op : BinaryOp} (x : PRes) (h : shortCircuitRV e1 v2 op = some x) :
    ∃ b, x = .val (.prim (.bool b)) := by
  obtain ⟨_, _, _, _, _, _, _, rfl⟩ := shortCircuitRV_some h; exact ⟨_, rfl⟩
theorem scRR_bool {e1 e2 : Expr} {op : BinaryOp} (x : PRes) (h : shortCircuitRR e1 e2 op = some x) :
    ∃ b, x = .val (.prim (.bool b)) := by
  obtain ⟨_, _, _, _, _, _, _, _, rfl⟩ := shortCircuitRR_some h; exact ⟨_, rfl⟩

theorem goodRes_entry {en : UidEntry} (key : String) (h : EntryIn U en) : GoodRes U (en.eval key) := by
  cases en with
  | known u => intro w hw; simp only [valueUids, List.mem_singleton] at hw; subst hw; exact h
  | unknown ty => cases ty <;> exact eIn_unknown _ _

theorem pinterp_in {m0 : Mapper} {preq : PRequest} {env : SlotEnv}
    (hS : StoreIn U pes) (hR : ReqIn U preq) (hM : MapIn U m0) (hV : EnvIn U env) :
    ∀ (n : Nat) (e : Expr), EIn U e → GoodRes U (pinterp m0 preq pes env n e) := by
  intro n
  induction n with
  | zero => intro e _; rw [pinterp_zero]; trivial
  | succ n ih =>
  intro e hE
  cases e with
  | lit p =>
    simp only [pinterp]
    intro u hu
    apply hE
    cases p <;> simp [valueUids, exprUids] at hu ⊢ <;> exact hu
  | var v =>
    cases v with
    | principal => exact goodRes_entry _ hR.principal
    | action => exact goodRes_entry _ hR.action
    | resource => exact goodRes_entry _ hR.resource
    | context =>
      have hc := hR.context
      simp only [pinterp]
      revert hc
      rcases preq.context with _ | kvs | kvs
      · exact fun _ => eIn_unknown _ _
      · exact id
      · exact id
  | slot s =>
    simp only [pinterp]
    cases hl : env.lookup s with
    | none => trivial
    | some u => intro w hw; simp only [valueUids, List.mem_singleton] at hw; subst hw; exact hV s _ hl
  | unknown name ty => exact goodRes_unknownToPV hM name ty
  | ite c t e =>
    obtain ⟨hc, ht, he⟩ := eIn_ite.mp hE
    rw [pinterp_ite]
    exact goodRes_bind (ih c hc) (fun v _ => goodRes_iteV (ih t ht) (ih e he) v) fun g hg =>
      goodRes_bestEffort (ih t ht) ht fun t' ht' => goodRes_bestEffort (ih e he) he fun e' he' => eIn_ite.mpr ⟨hg, ht', he'⟩
  | and a b =>
    obtain ⟨ha, hb⟩ := eIn_and.mp hE
    rw [pinterp_and]
    refine goodRes_bind (ih a ha) (fun v _ => goodRes_iteV (xe := .val _) ?_ (vIn_bool _) v) fun l hl =>
      goodRes_bestEffort (ih b hb) hb fun b' hb' => eIn_and.mpr ⟨hl, hb'⟩
    exact goodRes_bind (ih b hb) (fun w _ => goodRes_boolV w) fun r hr => eIn_and.mpr ⟨eIn_litBool _, hr⟩
  | or a b =>
    obtain ⟨ha, hb⟩ := eIn_or.mp hE
    rw [pinterp_or]
    refine goodRes_bind (ih a ha) (fun v _ => goodRes_iteV (xt := .val _) (vIn_bool _) ?_ v) fun l hl =>
      goodRes_bestEffort (ih b hb) hb fun b' hb' => eIn_or.mpr ⟨hl, hb'⟩
    exact goodRes_bind (ih b hb) (fun w _ => goodRes_boolV w) fun r hr => eIn_or.mpr ⟨eIn_litBool _, hr⟩
  | unaryApp op a =>
    rw [pinterp_unary]
    exact goodRes_bind (ih a (eIn_unary.mp hE)) (fun v _ => goodRes_ofResult fun w hw => Cedar.Tpe.applyUnary_noUids hw)
      fun r hr => eIn_unary.mpr hr
  | binaryApp op a b =>
    obtain ⟨ha, hb⟩ := eIn_binary.mp hE
    rw [pinterp_binary]
    exact goodRes_bind (ih a ha)
      (fun v1 h1 => goodRes_bind (ih b hb) (fun v2 h2 => goodRes_papplyBinary hS op h2)
        fun e2 h2 => goodRes_sc scVR_bool (eIn_binary.mpr ⟨eIn_toExpr h1, h2⟩))
      fun e1 h1 => goodRes_bind (ih b hb) (fun v2 h2 => goodRes_sc scRV_bool (eIn_binary.mpr ⟨h1, eIn_toExpr h2⟩))
        fun e2 h2 => goodRes_sc scRR_bool (eIn_binary.mpr ⟨h1, h2⟩)
  | like e0 p =>
    rw [pinterp_like]
    refine goodRes_bind (ih e0 (eIn_like.mp hE)) (fun v _ => ?_) fun r hr => eIn_like.mpr hr
    split
    · trivial
    · exact vIn_bool _
  | is e0 ty =>
    rw [pinterp_is]
    refine goodRes_bind (ih e0 (eIn_is.mp hE)) (fun v _ => ?_) fun r hr => ?_
    · split
      · trivial
      · exact vIn_bool _
    · split
      · exact vIn_bool _
      · exact eIn_is.mpr hr
  | set xs =>
    rw [pinterp_set]
    exact goodRes_ofCollect (fun x hx => ih x (eIn_set_mem hE hx))
      (fun vs hvs u hu => hvs u (Cedar.Tpe.mkSet_sub vs u (by simpa only [valueUids] using hu))) fun rs hrs => hrs
  | call fn args =>
    rw [pinterp_call]
    exact goodRes_ofCollect (fun x hx => ih x (eIn_call_mem hE hx)) (fun vs _ => goodRes_pcallExt fn vs) fun rs hrs => hrs
  | record kvs =>
    rw [pinterp_record]
    refine goodRes_ofCollect (fun x hx => ?_) (fun vs hvs u hu => ?_) fun rs hrs u hu => hrs u (exprUidsKVs_zip _ _ u hu)
    · obtain ⟨kv, hkv, rfl⟩ := List.mem_map.mp hx
      exact ih kv.2 (eIn_record_mem hE hkv)
    · rcases Cedar.Tpe.foldl_insertKV_sub _ _ u hu with h | h
      · exact hvs u (valueUidsKVs_zip _ _ u h)
      · cases h
  | getAttr e0 attr =>
    rw [pinterp_getAttr]
    refine goodRes_bind (ih e0 (eIn_getAttr.mp hE)) (fun v hv => goodRes_getAttrVal hS hM attr hv) fun r hr => ?_
    split
    · split
      · split
        · trivial
        · rename_i e' hlk; exact ih e' (eIn_lookupKV hr hlk)
      · split
        · exact eIn_getAttr.mpr hr
        · trivial
    · exact eIn_getAttr.mpr hr
  | hasAttr e0 attr =>
    rw [pinterp_hasAttr]
    refine goodRes_bind (ih e0 (eIn_hasAttr.mp hE)) (fun v _ => goodRes_hasAttrVal attr v) fun r hr => ?_
    split
    · split
      · exact vIn_bool _
      · exact eIn_hasAttr.mpr hr
    · exact eIn_hasAttr.mpr hr

end

def pvUids : PartialValue → List EntityUID
  | .value v => valueUids v
  | .residual r => exprUids r

def pattrsUids : List (String × PartialValue) → List EntityUID
  | [] => []
  | (_, pv) :: rest => pvUids pv ++ pattrsUids rest

def storeUids : List (EntityUID × PEntityData) → List EntityUID
  | [] => []
  | (_, d) :: rest => pattrsUids d.attrs ++ pattrsUids d.tags ++ storeUids rest

def entryUids : UidEntry → List EntityUID
  | .known u => [u]
  | .unknown _ => []

def ctxUids : Option PContext → List EntityUID
  | none => []
  | some (.value kvs) => valueUidsKVs kvs
  | some (.residual kvs) => exprUidsKVs kvs

def mapUids : Mapper → List EntityUID
  | [] => []
  | (_, v) :: rest => valueUids v ++ mapUids rest

/-- every uid the first pass on `e` can dereference: literals of `e`, known request entries, context, values of the mapper,
    slot environment, attribute / tag values (known or residual) of the partial store.  An over-approximation: a KNOWN principal,
    action or resource that a `.partial()` store lacks is in the list, so `StoreCompletesOn` asks σ to bind it under its uid name
    whether or not a policy dereferences it. -/
def mentioned (m0 : Mapper) (preq : PRequest) (pes : PEntities) (env : SlotEnv) (e : Expr) : List EntityUID :=
  exprUids e ++ entryUids preq.principal ++ entryUids preq.action ++ entryUids preq.resource ++ ctxUids preq.context ++
    mapUids m0 ++ env.map (·.2) ++ storeUids pes.ents

/- The collectors are `flatMap`s, so what a lookup finds (`lookupKV_mem`, `mem_of_assoc?`) contributes its uids. -/

theorem pattrsUids_eq (kvs : List (String × PartialValue)) : pattrsUids kvs = kvs.flatMap fun p => pvUids p.2 := by
  induction kvs with
  | nil => rfl
  | cons p rest ih => obtain ⟨_, _⟩ := p; simp only [pattrsUids, ih, List.flatMap_cons]

theorem storeUids_eq (ents : List (EntityUID × PEntityData)) :
    storeUids ents = ents.flatMap fun p => pattrsUids p.2.attrs ++ pattrsUids p.2.tags := by
  induction ents with
  | nil => rfl
  | cons p rest ih => obtain ⟨_, _⟩ := p; simp only [storeUids, ih, List.flatMap_cons]

theorem mapUids_eq (m : Mapper) : mapUids m = m.flatMap fun p => valueUids p.2 := by
  induction m with
  | nil => rfl
  | cons p rest ih => obtain ⟨_, _⟩ := p; simp only [mapUids, ih, List.flatMap_cons]

theorem pattrsIn_of {U : EntityUID → Prop} {kvs : List (String × PartialValue)} (h : ∀ u, u ∈ pattrsUids kvs → U u) :
    PAttrsIn U kvs := fun _ pv hl => by
  rw [pattrsUids_eq] at h
  cases pv <;> exact fun u hu => h u (List.mem_flatMap.mpr ⟨_, lookupKV_mem hl, hu⟩)

theorem storeIn_of {U : EntityUID → Prop} {pes : PEntities} (h : ∀ u, u ∈ storeUids pes.ents → U u) : StoreIn U pes := by
  intro u d hf
  rw [storeUids_eq] at h
  have hm := mem_of_assoc? ((PEntities.find?_eq_assoc u pes.ents).symm.trans hf)
  exact ⟨pattrsIn_of fun w hw => h w (List.mem_flatMap.mpr ⟨_, hm, List.mem_append_left _ hw⟩),
    pattrsIn_of fun w hw => h w (List.mem_flatMap.mpr ⟨_, hm, List.mem_append_right _ hw⟩)⟩

theorem mapIn_of {U : EntityUID → Prop} {m : Mapper} (h : ∀ u, u ∈ mapUids m → U u) : MapIn U m := fun _ _ hl u hu =>
  h u (mapUids_eq m ▸ List.mem_flatMap.mpr ⟨_, lookupKV_mem hl, hu⟩)

theorem envIn_of {U : EntityUID → Prop} {env : SlotEnv} (h : ∀ u, u ∈ env.map (·.2) → U u) : EnvIn U env := fun s u hl => by
  obtain ⟨l₁, l₂, rfl, _⟩ := List.lookup_eq_some_iff.mp hl
  exact h u (List.mem_map.mpr ⟨(s, u), List.mem_append_right _ (List.mem_cons_self ..), rfl⟩)

theorem entryIn_of {U : EntityUID → Prop} {en : UidEntry} (h : ∀ u, u ∈ entryUids en → U u) : EntryIn U en := by
  cases en with
  | known u => exact h u (by simp [entryUids])
  | unknown ty => trivial

theorem ctxIn_of {U : EntityUID → Prop} {c : Option PContext} (h : ∀ u, u ∈ ctxUids c → U u) : CtxIn U c := by
  cases c with
  | none => trivial
  | some c =>
    cases c with
    | value kvs => intro u hu; exact h u (by simpa [ctxUids, valueUids] using hu)
    | residual kvs => intro u hu; exact h u (by simpa [ctxUids, exprUids] using hu)

theorem mentioned_closed (m0 : Mapper) (preq : PRequest) (pes : PEntities) (env : SlotEnv) (e : Expr) :
    let U := fun u => u ∈ mentioned m0 preq pes env e
    EIn U e ∧ StoreIn U pes ∧ ReqIn U preq ∧ MapIn U m0 ∧ EnvIn U env := by
  intro U
  have hall : ∀ u, u ∈ mentioned m0 preq pes env e → U u := fun u hu => hu
  unfold mentioned at hall
  obtain ⟨h7, hstore⟩ := eIn_app.mp hall
  obtain ⟨h6, henv⟩ := eIn_app.mp h7
  obtain ⟨h5, hmap⟩ := eIn_app.mp h6
  obtain ⟨h4, hctx⟩ := eIn_app.mp h5
  obtain ⟨h3, hres⟩ := eIn_app.mp h4
  obtain ⟨h2, hact⟩ := eIn_app.mp h3
  obtain ⟨hexpr, hprin⟩ := eIn_app.mp h2
  exact ⟨hexpr, storeIn_of hstore, ⟨entryIn_of hprin, entryIn_of hact, entryIn_of hres, ctxIn_of hctx⟩, mapIn_of hmap, envIn_of henv⟩

end PS
end Cedar
