/-
`Except` plumbing, for every cluster: when a step of a `do` block succeeds or fails, checkers that answer `Except ε Unit`, and the Boolean
view of an outcome (`Manifest.isOkB`: `Except` has no `DecidableEq`, so closed computations are evaluated through it).
-/
namespace Cedar

theorem bind_ok {ε α β} {x : Except ε α} {f : α → Except ε β} {b : β} :
    (x >>= f) = .ok b ↔ ∃ a, x = .ok a ∧ f a = .ok b := by
  cases x with
  | error e => exact ⟨nofun, fun ⟨_, h, _⟩ => nomatch h⟩
  | ok a => exact ⟨fun h => ⟨a, rfl, h⟩, fun ⟨_, h, hb⟩ => by cases h; exact hb⟩

/-- a fact about what a `do` block returns follows from its last step -/
theorem of_bind_ok {ε α β} {x : Except ε α} {k : α → Except ε β} {w : β} {P : Prop}
    (h : (x >>= k) = .ok w) (hk : ∀ a, k a = .ok w → P) : P :=
  let ⟨a, _, ha⟩ := bind_ok.1 h
  hk a ha

theorem bind_ok_unit {ε : Type} (x : Except ε Unit) (f : Unit → Except ε Unit) :
    (x >>= f) = .ok () ↔ x = .ok () ∧ f () = .ok () :=
  bind_ok.trans ⟨fun ⟨(), h⟩ => h, fun h => ⟨(), h⟩⟩

theorem ite_ok_iff {ε : Type} (c : Prop) [Decidable c] (e : ε) :
    (if c then (Except.ok () : Except ε Unit) else .error e) = .ok () ↔ c := by
  by_cases h : c <;> simp [h]

namespace CJson

theorem bind_err {ε α β} {x : Except ε α} {f : α → Except ε β} {e : ε} :
    (x >>= f) = .error e ↔ x = .error e ∨ ∃ a, x = .ok a ∧ f a = .error e := by
  cases x with
  | error e' => simp [bind, Except.bind]
  | ok a => simp [bind, Except.bind]

end CJson

namespace Manifest

def isOkB {ε α} : Except ε α → Bool
  | .ok _ => true
  | .error _ => false

theorem ok_of_check {ε α} {r : Except ε α} (h : isOkB r = true) : ∃ x, r = .ok x := by
  cases r with
  | ok x => exact ⟨x, rfl⟩
  | error e => simp [isOkB] at h

/-- a computation found to succeed by evaluation returns what `match r with | .ok x => x | .error _ => d` extracts -/
theorem eq_ok_of_check {ε α} {r : Except ε α} {x : α} (h : isOkB r = true) (hx : ∀ y, r = .ok y → x = y) : r = .ok x := by
  obtain ⟨y, hy⟩ := ok_of_check h
  rw [hx y hy]
  exact hy

end Manifest

theorem ok_iff_isOkB {ε : Type} (x : Except ε Unit) : x = .ok () ↔ Manifest.isOkB x = true := by
  cases x with
  | ok u => cases u; simp [Manifest.isOkB]
  | error e => simp [Manifest.isOkB]

end Cedar
