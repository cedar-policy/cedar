import CedarVerif.Lemmas.TypecheckOps
import CedarVerif.Lemmas.ExtTable
/-
C03: soundness of extension function calls: a call whose arguments have the signature's types yields a
value of the result type or an extension error (class `ext`: unparsable literal, overflow of datetime arithmetic).
-/
namespace Cedar.C03

open Cedar

theorem forall2_one {α β : Type} {R : α → β → Prop} {vs : List α} {t : β} (h : Forall2 R vs [t]) : ∃ a, vs = [a] ∧ R a t := by
  cases h with
  | cons hr hrest => cases hrest; exact ⟨_, rfl, hr⟩

theorem forall2_two {α β : Type} {R : α → β → Prop} {vs : List α} {t1 t2 : β} (h : Forall2 R vs [t1, t2]) :
    ∃ a b, vs = [a, b] ∧ R a t1 ∧ R b t2 := by
  cases h with
  | cons hr hrest =>
    obtain ⟨b, rfl, hb⟩ := forall2_one hrest
    exact ⟨_, b, rfl, hr, hb⟩

theorem forall2_subtype {vs : List Value} : ∀ {τs args : List CedarType}, Forall2 InstanceOfType vs τs →
    τs.length = args.length → (τs.zip args).all (fun p => isSubtype .permissive p.1 p.2) = true →
    Forall2 InstanceOfType vs args := by
  intro τs args h
  induction h generalizing args with
  | nil =>
    intro hl _
    cases args with
    | nil => exact .nil
    | cons _ _ => simp at hl
  | cons hr _ ih =>
    intro hl hall
    cases args with
    | nil => simp at hl
    | cons t args =>
      simp only [List.zip_cons_cons, List.all_cons, Bool.and_eq_true] at hall
      simp only [List.length_cons, Nat.add_right_cancel_iff] at hl
      exact .cons (isSubtype_inst hr _ hall.1) (ih hl hall.2)

def _root_.Cedar.ExtTy.cedarType : ExtTy → CedarType
  | .string => .string
  | .bool => .bool .anyBool
  | .long => .long
  | .decimal => .ext "decimal"
  | .ipaddr => .ext "ipaddr"
  | .datetime => .ext "datetime"
  | .duration => .ext "duration"

theorem toValue_inst : ∀ (t : ExtTy) (x : t.Val), InstanceOfType (t.toValue x) t.cedarType
  | .string, _ => .string _
  | .bool, _ => .anyBool _
  | .long, _ => .long _
  | .decimal, _ => .ext (.decimal _)
  | .ipaddr, (_, _, _) => .ext (.ipaddr _ _ _)
  | .datetime, _ => .ext (.datetime _)
  | .duration, _ => .ext (.duration _)

theorem inst_toValue : ∀ {t : ExtTy} {v : Value}, InstanceOfType v t.cedarType → ∃ x, v = t.toValue x
  | .string, _, h => inst_string h (Or.inr rfl)
  | .bool, _, h => by cases h; exact ⟨_, rfl⟩
  | .long, _, h => by cases h; exact ⟨_, rfl⟩
  | .decimal, _, h => inst_decimal h
  | .ipaddr, _, h => by obtain ⟨v6, a, p, rfl⟩ := inst_ipaddr h; exact ⟨(v6, a, p), rfl⟩
  | .datetime, _, h => inst_datetime h
  | .duration, _, h => inst_duration h

theorem call_typed (impl : ExtImpl) {vs : List Value} (hvs : Forall2 InstanceOfType vs (impl.args.map ExtTy.cedarType)) :
    impl.call vs = .error .ext ∨ ∃ v, impl.call vs = .ok v ∧ InstanceOfType v impl.ret.cedarType := by
  cases impl with
  | un a r f =>
    obtain ⟨_, rfl, ha⟩ := forall2_one hvs
    obtain ⟨x, rfl⟩ := inst_toValue ha
    rw [ExtImpl.call_un]
    cases f x with
    | none => exact .inl rfl
    | some v => exact .inr ⟨_, rfl, toValue_inst r v⟩
  | bin a b r f =>
    obtain ⟨_, _, rfl, ha, hb⟩ := forall2_two hvs
    obtain ⟨x, rfl⟩ := inst_toValue ha
    obtain ⟨y, rfl⟩ := inst_toValue hb
    rw [ExtImpl.call_bin]
    cases f x y with
    | none => exact .inl rfl
    | some v => exact .inr ⟨_, rfl, toValue_inst r v⟩

/-- the validator's signature table and the evaluator's dispatch agree: the signature of a row is its sorts -/
theorem extSig_of_extFn {fn : String} {impl : ExtImpl} (h : ExtFn fn impl) :
    ∃ c, extSig fn = some ⟨impl.args.map ExtTy.cedarType, impl.ret.cedarType, c⟩ := by
  cases h <;> exact ⟨_, rfl⟩

theorem callExt_typed {fn : String} {sig : ExtSig} {vs : List Value} (h : extSig fn = some sig)
    (hvs : Forall2 InstanceOfType vs sig.args) :
    callExt fn vs = .error .ext ∨ ∃ v, callExt fn vs = .ok v ∧ InstanceOfType v sig.ret := by
  rcases callExt_table fn vs with e | ⟨impl, hfn, e⟩
  · exact .inl e
  · obtain ⟨c, hs⟩ := extSig_of_extFn hfn
    cases h.symm.trans hs
    rw [e]
    exact call_typed impl hvs

theorem call_good {w : World} {fn : String} {sig : ExtSig} {args : List Expr} {τs : List CedarType}
    (hsig : extSig fn = some sig) (hl : ListGood w args τs) (hlen : τs.length = sig.args.length)
    (hall : (τs.zip sig.args).all (fun p => isSubtype .permissive p.1 p.2) = true) :
    Good w (.call fn args) sig.ret [] := by
  rcases hl with ⟨err, he, hp⟩ | ⟨vs, hvs, hinst⟩
  · exact Good.err (by simp [evaluate, he]) hp
  · rcases callExt_typed hsig (forall2_subtype hinst hlen hall) with he | ⟨v, hv, hi⟩
    · exact Good.err (err := .ext) (by simp [evaluate, hvs, he]) (Or.inr (Or.inr rfl))
    · exact Good.value (v := v) (by simp [evaluate, hvs, hv]) hi

theorem extSig_facts {fn : String} {sig : ExtSig} (h : extSig fn = some sig) :
    sig.ret.flat = true ∧ sig.ret.mono = true ∧ (∀ t, t ∈ sig.args → t.flat = true) ∧
      (sig.args.length = 1 ∨ sig.args.length = 2) := by
  unfold extSig at h
  simp only at h
  split at h <;> first | (cases h; exact ⟨rfl, rfl, by decide, by decide⟩) | cases h

theorem extSig_ret_flat {fn : String} {sig : ExtSig} (h : extSig fn = some sig) : sig.ret.flat = true :=
  (extSig_facts h).1

theorem extSig_ret_mono {fn : String} {sig : ExtSig} (h : extSig fn = some sig) : sig.ret.mono = true :=
  (extSig_facts h).2.1

end Cedar.C03
