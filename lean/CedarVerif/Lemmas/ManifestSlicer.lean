import CedarVerif.Lemmas.ManifestLoad
/-
The slicer meets its specification (`sliceStorePure_meets_spec`).  For a trie whose children maps have unique keys
(`RootsWF`: they are hash maps in Rust) and whose `is_entity_type` annotations agree with the data (`FlagsRoots`: a node
annotated as entity-typed never sits on a record value — `prune_child_entity_dereferences` drops the children of such
nodes), the store computed by `sliceStorePure` is a sub-store of the full store and covers the trie.
-/
namespace Cedar.Manifest
open Cedar

mutual
def AccessTrie.WF : AccessTrie → Prop
  | .mk c _ _ _ => fieldsWF c
def fieldsWF : Fields → Prop
  | [] => True
  | (k, t) :: rest => lookupField rest k = none ∧ AccessTrie.WF t ∧ fieldsWF rest
end

def RootsWF : RootAccessTrie → Prop
  | [] => True
  | (_, t) :: rest => AccessTrie.WF t ∧ RootsWF rest

theorem fieldsWF_mem : ∀ (c : Fields) (f : String) (t : AccessTrie), fieldsWF c → (f, t) ∈ c →
    lookupField c f = some t ∧ AccessTrie.WF t
  | [] => fun _ _ _ h => by simp at h
  | (k0, t0) :: rest => fun f t hwf hm => by
    simp only [fieldsWF] at hwf
    simp only [List.mem_cons, Prod.mk.injEq] at hm
    rcases hm with ⟨e1, e2⟩ | hm
    · subst e1; subst e2
      simp [lookupField, hwf.2.1]
    · obtain ⟨h1, h2⟩ := fieldsWF_mem rest f t hwf.2.2 hm
      refine ⟨?_, h2⟩
      simp only [lookupField]
      by_cases e : k0 = f
      · subst e; rw [hwf.1] at h1; cases h1
      · have e' : (k0 == f) = false := by simpa using e
        simp only [e', Bool.false_eq_true, if_false]
        exact h1

theorem lookupField_pruneFields : ∀ (c : Fields) (f : String),
    lookupField (pruneFields c) f = (lookupField c f).map pruneEntityDeref
  | [] => fun f => by simp [pruneFields, lookupField]
  | (k0, t0) :: rest => fun f => by
    simp only [pruneFields, lookupField]
    by_cases e : (k0 == f) = true
    · simp [e]
    · simp only [e, Bool.false_eq_true, if_false]
      exact lookupField_pruneFields rest f

theorem lookup_slice_pruned {c : Fields} {f : String} {t : AccessTrie} {kvs : List (String × Value)} {w : Value}
    (hwf : fieldsWF c) (hm : (f, t) ∈ c) (hl : lookupKV kvs f = some w) :
    lookupKV (sliceFields (pruneFields c) kvs) f = some (sliceVal (pruneEntityDeref t) w) := by
  rw [lookup_sliceFields, lookupField_pruneFields, (fieldsWF_mem c f t hwf hm).1]
  simp [hl]

theorem rootVal_of_rootUid {req : Request} {root : EntityRoot} {u : EntityUID} (h : rootUid req root = some u) :
    rootVal req root = .prim (.entityUID u) := by
  cases root with
  | literal u0 => simp only [rootUid, Option.some.injEq] at h; subst h; rfl
  | var v => cases v <;> simp only [rootUid, Option.some.injEq] at h <;> first | (subst h; rfl) | cases h

theorem rootVal_of_rootUid_none {req : Request} {root : EntityRoot} (h : rootUid req root = none) :
    rootVal req root = .record req.context := by
  cases root with
  | literal u0 => simp [rootUid] at h
  | var v => cases v <;> simp only [rootUid] at h <;> first | rfl | cases h

theorem mem_expandFields {es : Entities} {q : EntityUID × AccessTrie} : ∀ (c : Fields) (kvs : List (String × Value)),
    q ∈ expandFields es c kvs ↔ ∃ f t v, (f, t) ∈ c ∧ lookupKV kvs f = some v ∧ q ∈ expandValue es t v
  | [], _ => by simp [expandFields]
  | (f0, t0) :: rest, kvs => by
    simp only [expandFields, List.mem_append, mem_expandFields rest kvs, List.mem_cons]
    constructor
    · rintro (h | ⟨f, t, v, hm, hl, hx⟩)
      · cases hl : lookupKV kvs f0 with
        | none => simp [hl] at h
        | some v => rw [hl] at h; exact ⟨f0, t0, v, .inl rfl, hl, h⟩
      · exact ⟨f, t, v, .inr hm, hl, hx⟩
    · rintro ⟨f, t, v, hm | hm, hl, hx⟩
      · cases hm; left; rw [hl]; exact hx
      · exact .inr ⟨f, t, v, hm, hl, hx⟩

theorem allRequests_cons (es : Entities) (req : Request) (root : EntityRoot) (t : AccessTrie) (rest : RootAccessTrie) :
    allRequests es req ((root, t) :: rest) = expandValue es t (rootVal req root) ++ allRequests es req rest := by
  obtain ⟨c, a, i, e⟩ := t
  cases root with
  | literal u => rfl
  | var x => cases x <;> rfl

theorem mem_allRequests {es : Entities} {req : Request} {q : EntityUID × AccessTrie} : ∀ (g : RootAccessTrie),
    q ∈ allRequests es req g ↔ ∃ root t, (root, t) ∈ g ∧ q ∈ expandValue es t (rootVal req root)
  | [] => by simp [allRequests]
  | (r0, t0) :: rest => by
    rw [allRequests_cons, List.mem_append, mem_allRequests rest]
    simp only [List.mem_cons, Prod.mk.injEq]
    constructor
    · rintro (h | ⟨root, t, hm, hx⟩)
      · exact ⟨r0, t0, .inl ⟨rfl, rfl⟩, h⟩
      · exact ⟨root, t, .inr hm, hx⟩
    · rintro ⟨root, t, ⟨rfl, rfl⟩ | hm, hx⟩
      · exact .inl hx
      · exact .inr ⟨root, t, hm, hx⟩

-- a node annotated `is_entity_type` is never applied to a record (hereditarily, following entity references through the
-- store as the slicer does)
mutual
def FlagsV (es : Entities) : AccessTrie → Value → Prop
  | .mk c _ _ e, v =>
    match v with
    | .prim (.entityUID u) => ∀ d, es.find? u = some d → FlagsF es c d.attrs
    | .record kvs => e = false ∧ FlagsF es c kvs
    | _ => True
def FlagsF (es : Entities) : Fields → List (String × Value) → Prop
  | [], _ => True
  | (f, t) :: rest, kvs => (∀ w, lookupKV kvs f = some w → FlagsV es t w) ∧ FlagsF es rest kvs
end

def FlagsRoots (es : Entities) (req : Request) : RootAccessTrie → Prop
  | [] => True
  | (root, t) :: rest =>
    (match rootUid req root with
     | some u => FlagsV es t (.prim (.entityUID u))
     | none => FlagsF es t.children req.context) ∧ FlagsRoots es req rest

theorem flagsF_iff {es : Entities} (c : Fields) (kvs : List (String × Value)) :
    FlagsF es c kvs ↔ ∀ f t, (f, t) ∈ c → ∀ w, lookupKV kvs f = some w → FlagsV es t w :=
  forall_mem_of_eqns (S := fun c => FlagsF es c kvs) trivial (fun _ _ _ => Iff.rfl) c

theorem rootsWF_iff (g : RootAccessTrie) : RootsWF g ↔ ∀ root t, (root, t) ∈ g → AccessTrie.WF t :=
  forall_mem_of_eqns (S := RootsWF) trivial (fun _ _ _ => Iff.rfl) g

theorem flagsRoots_iff {es : Entities} {req : Request} (g : RootAccessTrie) :
    FlagsRoots es req g ↔ ∀ root t, (root, t) ∈ g →
      match rootUid req root with
      | some u => FlagsV es t (.prim (.entityUID u))
      | none => FlagsF es t.children req.context :=
  forall_mem_of_eqns (S := FlagsRoots es req) trivial (fun _ _ _ => Iff.rfl) g

section cover
variable (es es' : Entities) (req : Request) (reqs : List (EntityUID × AccessTrie))
/- what the loading loop guarantees for each request it processed -/
variable (hserved : ∀ u tr, (u, tr) ∈ reqs → ∀ d, es.find? u = some d →
    ∃ d', es'.find? u = some d' ∧ Le (.record (sliceEntity tr d).attrs) (.record d'.attrs) ∧
      (∀ x, x ∈ ancRequest es' req tr.ancestors → x ∈ d.ancestors → x ∈ d'.ancestors))
include hserved

omit hserved in
/-- `S` is the record the slicer walks to find further requests: the full one at a root or inside the context, the already
sliced one inside the attributes of a loaded entity -/
theorem coverF_main_of {c : Fields} {kvs S kvs' : List (String × Value)}
    (hV : ∀ f t, (f, t) ∈ c → ∀ w s w', AccessTrie.WF t → FlagsV es t w →
      (s = w ∨ s = sliceVal (pruneEntityDeref t) w) → (∀ r, r ∈ expandValue es t s → r ∈ reqs) →
      Le (sliceVal (pruneEntityDeref t) w) w' → CoverV es es' req t w w')
    (hwf : fieldsWF c) (hfl : FlagsF es c kvs)
    (h1 : ∀ f t w, (f, t) ∈ c → lookupKV kvs f = some w →
      ∃ s, lookupKV S f = some s ∧ (s = w ∨ s = sliceVal (pruneEntityDeref t) w))
    (hex : ∀ r, r ∈ expandFields es c S → r ∈ reqs)
    (h3 : ∀ f t w, (f, t) ∈ c → lookupKV kvs f = some w →
      ∃ w', lookupKV kvs' f = some w' ∧ Le (sliceVal (pruneEntityDeref t) w) w') :
    CoverF es es' req c kvs kvs' :=
  (coverF_iff c kvs kvs').2 fun f t hm w hw =>
    let ⟨s, hs1, hs2⟩ := h1 f t w hm hw
    let ⟨w', hw1, hw2⟩ := h3 f t w hm hw
    ⟨w', hw1, hV f t hm w s w' (fieldsWF_mem c f t hwf hm).2 ((flagsF_iff c kvs).1 hfl f t hm w hw) hs2
      (fun r hr => hex r ((mem_expandFields c S).2 ⟨f, t, s, hm, hs1, hr⟩)) hw2⟩

/-- `s`: the value the slicer walks to find further requests (`expandValue`), as `S` in `coverF_main_of` -/
theorem coverV_main : ∀ (t : AccessTrie) (w s w' : Value), AccessTrie.WF t → FlagsV es t w →
    (s = w ∨ s = sliceVal (pruneEntityDeref t) w) → (∀ r, r ∈ expandValue es t s → r ∈ reqs) →
    Le (sliceVal (pruneEntityDeref t) w) w' → CoverV es es' req t w w' :=
  AccessTrie.induct fun c a i e ihc _ w s w' hwf hfl hs hex hle => by
    simp only [AccessTrie.WF] at hwf
    cases w with
    | prim p =>
      cases p with
      | entityUID u =>
        have hs' : s = .prim (.entityUID u) := by
          rcases hs with hs | hs
          · exact hs
          · simpa [sliceVal, pruneEntityDeref] using hs
        subst hs'
        have hw' : w' = .prim (.entityUID u) := by
          apply le_nonrecord (by intro kvs; simp) (y := w')
          simpa [sliceVal, pruneEntityDeref] using hle
        simp only [CoverV]
        refine ⟨hw', ?_⟩
        intro d hd
        simp only [FlagsV] at hfl
        simp only [expandValue, hd, List.mem_cons] at hex
        obtain ⟨d', h1, h2, h3⟩ := hserved u (.mk c a i e) (hex _ (Or.inl rfl)) d hd
        refine ⟨d', h1, ?_, h3⟩
        apply coverF_main_of es es' req reqs ihc hwf (hfl d hd) (S := sliceFields (pruneFields c) d.attrs)
        · exact fun f t wf hm hl => ⟨_, lookup_slice_pruned hwf hm hl, Or.inr rfl⟩
        · exact fun r hr => hex r (Or.inr hr)
        · intro f t wf hm hl
          obtain ⟨ky, y', e1, e2, e3⟩ := le_lookup h2 (lookup_slice_pruned hwf hm hl)
          cases e1
          exact ⟨y', e2, e3⟩
      | _ => simp [CoverV]
    | record kvs =>
      simp only [FlagsV] at hfl
      obtain ⟨he, hfl⟩ := hfl
      subst he
      simp only [pruneEntityDeref, Bool.false_eq_true, if_false, sliceVal] at hle hs
      obtain ⟨kvs', e⟩ := le_record_inv hle
      subst e
      simp only [CoverV]
      refine ⟨kvs', rfl, ?_⟩
      have hkept : ∀ f t wf, (f, t) ∈ c → lookupKV kvs f = some wf →
          ∃ w', lookupKV kvs' f = some w' ∧ Le (sliceVal (pruneEntityDeref t) wf) w' := by
        intro f t wf hm hl
        obtain ⟨ky, y', e1, e2, e3⟩ := le_lookup hle (lookup_slice_pruned hwf hm hl)
        cases e1
        exact ⟨y', e2, e3⟩
      rcases hs with hs | hs <;> subst hs <;> simp only [expandValue] at hex
      · exact coverF_main_of es es' req reqs ihc hwf hfl (fun f t wf _ hl => ⟨wf, hl, Or.inl rfl⟩) hex hkept
      · exact coverF_main_of es es' req reqs ihc hwf hfl
          (fun f t wf hm hl => ⟨_, lookup_slice_pruned hwf hm hl, Or.inr rfl⟩) hex hkept
    | _ => simp [CoverV]

theorem coverRoots_main (g : RootAccessTrie) (hwf : RootsWF g) (hfl : FlagsRoots es req g)
    (hex : ∀ r, r ∈ allRequests es req g → r ∈ reqs) : CoverRoots es es' req g :=
  (coverRoots_iff g).2 fun root t hm => by
    have hwf := (rootsWF_iff g).1 hwf root t hm
    have hfl := (flagsRoots_iff g).1 hfl root t hm
    have hex : ∀ r, r ∈ expandValue es t (rootVal req root) → r ∈ reqs :=
      fun r hr => hex r ((mem_allRequests g).2 ⟨root, t, hm, hr⟩)
    obtain ⟨c, a, i, e⟩ := t
    cases hr : rootUid req root with
    | some u =>
      rw [rootVal_of_rootUid hr] at hex ⊢
      simp only [hr] at hfl
      apply coverV_main es es' req reqs hserved (.mk c a i e) _ (.prim (.entityUID u)) _ hwf hfl (Or.inl rfl) hex
      simp only [pruneEntityDeref, sliceVal]
      exact Le.refl _
    | none =>
      rw [rootVal_of_rootUid_none hr] at hex ⊢
      simp only [hr] at hfl
      simp only [CoverV, AccessTrie.children, AccessTrie.WF, expandValue] at hfl hwf hex ⊢
      refine ⟨req.context, rfl, ?_⟩
      apply coverF_main_of es es' req reqs (fun f t _ => coverV_main es es' req reqs hserved t) hwf hfl
        (S := req.context) (fun f t w _ hl => ⟨w, hl, Or.inl rfl⟩) hex
      intro f t w _ hl
      exact ⟨w, hl, fun b hb => trim_trans b _ w hb (sliceVal_trim _ w)⟩

end cover

theorem sliceStorePure_meets_spec (t : RootAccessTrie) (req : Request) (es : Entities) (hwf : RootsWF t) (hfl : FlagsRoots es req t) :
    SubStore es (sliceStorePure t req es) ∧ CoverRoots es (sliceStorePure t req es) req t := by
  refine ⟨sliceStorePure_sub t req es, ?_⟩
  exact coverRoots_main es (sliceStorePure t req es) req (allRequests es req t)
    (fun u tr hm d hd => sliceStorePure_served t req es u tr hm d hd) t hwf hfl (fun _ h => h)

end Cedar.Manifest
