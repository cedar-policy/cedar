import CedarVerif.Lemmas.JsonBasic
/-
C10, schema-directed parsing: the vocabulary of `typed_agrees_explicit` — value-level conformance `instOf`, the
documents `Form τ v j` for a value (implicit / explicit choice per node), and what a Rust `SchemaType` with closed
record types guarantees (`ClosedType`: `open_attrs = false`, attributes a key-sorted `BTreeMap`).
-/
namespace Cedar.C10
open Cedar Cedar.CJson

mutual
/-- `v` is an instance of `τ` (value-level conformance; the checker itself is C11's subject) -/
def instOf : Value → SchemaType → Bool
  | .prim (.bool _), .bool => true
  | .prim (.int _), .long => true
  | .prim (.string _), .string => true
  | .prim (.entityUID u), .entity ty => u.ty == ty
  | .ext (.decimal _), .ext n => n == "decimal"
  | .ext (.ipaddr ..), .ext n => n == "ipaddr"
  | .ext (.datetime _), .ext n => n == "datetime"
  | .ext (.duration _), .ext n => n == "duration"
  | .set [], .emptySet => true
  | .set vs, .set τ => instOfList vs τ
  | .record kvs, .record attrs openAttrs =>
    instOfKVs kvs attrs openAttrs && attrs.all (fun a => !a.2.1 || (lookupKV kvs a.1).isSome)
  | _, _ => false
def instOfList : List Value → SchemaType → Bool
  | [], _ => true
  | v :: vs, τ => instOf v τ && instOfList vs τ
def instOfKVs : List (String × Value) → List (String × Bool × SchemaType) → Bool → Bool
  | [], _, _ => true
  | (k, v) :: kvs, attrs, openAttrs =>
    (match lookupKV attrs k with
     | some (_, τ) => instOf v τ
     | none => openAttrs) && instOfKVs kvs attrs openAttrs
end

mutual
/-- `Form τ v j`: `j` is one of the documents for `v` under expected type `τ`, each entity reference / extension
    value written either with its explicit escape or in an implicit form the schema allows — always with the text
    `toJson (.ext x)` writes (`canonRepr`): `"1.5"` is no `Form` of the decimal whose canonical text is `"1.5000"` -/
inductive Form : Option SchemaType → Value → Json → Prop
  | lit (τ) (p : Prim) : (∀ u, p ≠ .entityUID u) → Form τ (.prim p) (CJ.ofPrim p).toJson
  | entExplicit (τ) (u : EntityUID) : Form τ (.prim (.entityUID u)) (CJ.ofPrim (.entityUID u)).toJson
  | entImplicit (ty) (u : EntityUID) : Form (some (.entity ty)) (.prim (.entityUID u)) (uidJson u)
  | extExplicit (τ) (x : Ext) (j : Json) : toJson (.ext x) = .ok j → Form τ (.ext x) j
  | extImplicit (n) (x : Ext) (payload : Json) :
      toJson (.ext x) = .ok (.obj [("__extn", payload)]) → Form (some (.ext n)) (.ext x) payload
  -- only where the canonical call is a constructor applied to one string: never for a datetime, whose canonical call is `offset(…)`
  | extBare (n) (x : Ext) (f s : String) :
      toJson (.ext x) = .ok (.obj [("__extn", .obj [("fn", .str f), ("arg", .str s)])]) → singleArgCtor n = some f →
      Form (some (.ext n)) (.ext x) (.str s)
  | set (τ : Option SchemaType) (vs : List Value) (js : List Json) :
      FormList (match τ with | some (.set e) => some e | _ => none) vs js → Form τ (.set vs) (.arr js)
  | record (τ : Option SchemaType) (kvs : List (String × Value)) (js : List (String × Json)) :
      FormKVs (match τ with | some (.record attrs _) => attrs | _ => []) kvs js → Form τ (.record kvs) (.obj js)
inductive FormList : Option SchemaType → List Value → List Json → Prop
  | nil (τ) : FormList τ [] []
  | cons (τ) (v : Value) (j : Json) (vs : List Value) (js : List Json) :
      Form τ v j → FormList τ vs js → FormList τ (v :: vs) (j :: js)
inductive FormKVs : List (String × Bool × SchemaType) → List (String × Value) → List (String × Json) → Prop
  | nil (attrs) : FormKVs attrs [] []
  | cons (attrs) (k : String) (v : Value) (j : Json) (kvs : List (String × Value)) (js : List (String × Json)) :
      Form ((lookupKV attrs k).map (·.2)) v j → FormKVs attrs kvs js → FormKVs attrs ((k, v) :: kvs) ((k, j) :: js)
end

mutual
/-- what a Rust `SchemaType` with closed record types guarantees, hereditarily: `open_attrs = false` and the
    attribute map is a `BTreeMap` (strictly key-sorted, so no attribute is declared twice) -/
def ClosedType : SchemaType → Prop
  | .set e => ClosedType e
  | .record attrs isOpen => isOpen = false ∧ Sorted (attrs.map Prod.fst) ∧ ClosedAttrs attrs
  | _ => True
def ClosedAttrs : List (String × Bool × SchemaType) → Prop
  | [] => True
  | (_, _, t) :: rest => ClosedType t ∧ ClosedAttrs rest
end

def PairOK (f : SchemaType → Json → R Expr) (attrs : List (String × Bool × SchemaType))
    (kj : String × Json) (ke : String × Expr) : Prop :=
  kj.1 = ke.1 ∧ ∃ req ty, lookupKV attrs kj.1 = some (req, ty) ∧ f ty kj.2 = .ok ke.2

end Cedar.C10
