import CedarVerif.Lemmas.TC
/-
C04: `repair_tc` (outer loop over the touched nodes + self-edge check). On an acyclic parent graph, if every out-edge is
justified and the untouched nodes are complete, it leaves every node exactly closed (`repairTc_ok`); whatever the graph, a
reported cycle is a real cycle and only justified edges are added (`repairTc_sound`: needs no acyclicity).
-/
namespace Cedar.TC
set_option linter.unusedSectionVars false

variable {α : Type} [DecidableEq α]

/-- the nodes `repair_tc` starts with as seen: the records that are not to be fixed -/
theorem mem_untouched {s : Store α} {t : List α} {a : α} :
    a ∈ (keys s).filter (fun k => decide (k ∉ t)) ↔ a ∈ keys s ∧ a ∉ t := by
  simp only [List.mem_filter, decide_eq_true_eq]

theorem unseen_lt_fuelOf (s : Store α) (seen : List α) : unseen (uidsOf s) seen < fuelOf s :=
  Nat.lt_succ_of_le (List.length_filter_le _ _)

theorem repairLoop_spec (P : α → Option (List α)) (U : List α) (hacyc : ∀ x, ¬ Reach P x x) (fuel : Nat)
    (t : List α) (s : Store α) (seen : List α) (hg : Good P U s) (hs : ShapeIs P s)
    (hc : ∀ a, a ∈ seen → Complete P s a) (hf : unseen U seen < fuel) :
    Ext s (repairLoop fuel t s seen).1 ∧ Good P U (repairLoop fuel t s seen).1 ∧
    (∀ a, a ∈ seen → Complete P (repairLoop fuel t s seen).1 a) ∧
    (∀ x, x ∈ t → Complete P (repairLoop fuel t s seen).1 x) := by
  -- all seen nodes and all nodes started so far are complete
  have h := foldl_inv (I := fun done st => Ext s st.1 ∧ Good P U st.1 ∧ unseen U st.2 < fuel ∧
      ∀ a, a ∈ seen ∨ a ∈ st.2 ∨ a ∈ done → Complete P st.1 a)
    (fun (st : Store α × List α) x => addAnc fuel x st.1 st.2) t [] (s, seen) ?_
    ⟨Ext.refl _, hg, hf, fun a ha => hc a (ha.elim id fun h => h.elim id fun h => nomatch h)⟩
  · exact ⟨h.1, h.2.1, fun a ha => h.2.2.2 a (Or.inl ha), fun x hx => h.2.2.2 x (Or.inr (Or.inr hx))⟩
  rintro done st x _ ⟨he, hg, hf, hc⟩
  have hpost := addAnc_spec P U hacyc fuel x st.1 st.2
    ⟨hg, hs.ext he, fun a ha => Or.inr (Or.inr (hc a (Or.inr (Or.inl ha))))⟩ hf
  refine ⟨he.trans hpost.ext, hpost.good, Nat.lt_of_le_of_lt (unseen_mono U st.2 _ hpost.sub) hf, fun a ha => ?_⟩
  rcases ha with ha | ha | ha
  · exact (hc a (Or.inl ha)).mono hpost.ext
  · exact (hpost.new a ha).elim (fun h => (hc a (Or.inr (Or.inl h))).mono hpost.ext) id
  · rcases List.mem_append.mp ha with ha | ha
    · exact (hc a (Or.inr (Or.inr ha))).mono hpost.ext
    · exact List.mem_singleton.mp ha ▸ hpost.cx

/-- every out-edge is justified by reachability: `Good` without the universe, which for `uidsOf s` holds of every store -/
def Sound (P : α → Option (List α)) (s : Store α) : Prop :=
  ∀ x n, get s x = some n → ∀ y, y ∈ n.out → Reach P x y

theorem Sound.good {P : α → Option (List α)} {s : Store α} (hs : Sound P s) : Good P (uidsOf s) s :=
  fun x n hx y hy => ⟨hs x n hx y hy, mem_uidsOf hx hy⟩

def Exact (P : α → Option (List α)) (s : Store α) : Prop :=
  ∀ x n, get s x = some n → ∀ y, y ∈ n.out ↔ Reach P x y

theorem enforceDagFor_iff {t : List α} {s : Store α} :
    enforceDagFor t s = true ↔ ∀ k, k ∈ t → ∀ n, get s k = some n → k ∉ n.out := by
  unfold enforceDagFor
  simp only [List.all_eq_true]
  refine forall_congr' fun k => forall_congr' fun _ => ?_
  cases get s k with
  | none => simp
  | some n => simp

/-- `repair_correct`, acyclic direction -/
theorem repairTc_ok (s : Store α) (t : List α) (P : α → Option (List α)) (hP : ShapeIs P s)
    (hacyc : ∀ x, ¬ Reach P x x) (hs : Sound P s)
    (hun : ∀ k, k ∈ keys s → k ∉ t → Complete P s k) :
    ∃ s', repairTc t s = .ok s' ∧ Ext s s' ∧ Exact P s' := by
  have hseen : ∀ a, a ∈ (keys s).filter (fun k => decide (k ∉ t)) → Complete P s a :=
    fun a ha => hun a (mem_untouched.mp ha).1 (mem_untouched.mp ha).2
  have h := repairLoop_spec P (uidsOf s) hacyc (fuelOf s) t s _ hs.good hP hseen (unseen_lt_fuelOf s _)
  refine ⟨(repairLoop (fuelOf s) t s ((keys s).filter (fun k => decide (k ∉ t)))).1, ?_, h.1, ?_⟩
  · unfold repairTc
    simp only [enforceDagFor_iff.mpr fun k _ n hk hin => hacyc k (h.2.1 k n hk k hin).1, if_true]
  · intro x n hx y
    constructor
    · intro hy; exact (h.2.1 x n hx y hy).1
    · intro hr
      have hcx : Complete P (repairLoop (fuelOf s) t s ((keys s).filter (fun k => decide (k ∉ t)))).1 x := by
        by_cases hxt : x ∈ t
        · exact h.2.2.2 x hxt
        · refine h.2.2.1 x (mem_untouched.mpr ⟨?_, hxt⟩)
          cases hgx : get s x with
          | none => have := h.1.2 x hgx; rw [this] at hx; cases hx
          | some m => exact get_some_mem_keys hgx
      exact hcx n hx y hr

structure SLI (P : α → Option (List α)) (x : α) (s0 : Store α) (st : LoopSt α) : Prop where
  ext : Ext s0 st.s
  snd : Sound P st.s
  acc : ∀ y, y ∈ st.acc → Reach P x y
  pg : parentGraph st.s = parentGraph s0

def SSpec (P : α → Option (List α)) (rec : α → Store α → List α → Store α × List α) : Prop :=
  ∀ x s seen, Sound P s →
    Ext s (rec x s seen).1 ∧ Sound P (rec x s seen).1 ∧ parentGraph (rec x s seen).1 = parentGraph s

theorem loopStep_SLI (P : α → Option (List α)) (rec : α → Store α → List α → Store α × List α)
    (hrec : SSpec P rec) (x : α) (s0 : Store α) (st : LoopSt α) (a : α) (hxa : Reach P x a)
    (h : SLI P x s0 st) : SLI P x s0 (loopStep rec st a) := by
  have key : Ext st.s (loopCall rec st a).1 ∧ Sound P (loopCall rec st a).1 ∧
      parentGraph (loopCall rec st a).1 = parentGraph st.s := by
    unfold loopCall
    split
    · exact ⟨Ext.refl _, h.snd, rfl⟩
    · exact hrec a st.s (a :: st.seen) h.snd
  rw [loopStep_eq]
  refine ⟨h.ext.trans key.1, key.2.1, ?_, key.2.2.trans h.pg⟩
  intro y hy
  dsimp only at hy
  split at hy
  · exact h.acc y hy
  · rcases List.mem_append.mp hy with hy | hy
    · exact h.acc y hy
    · obtain ⟨na, hga, hy⟩ := mem_ancestors hy
      exact hxa.trans (key.2.1 a na hga y hy)

/-- on any graph and with any fuel, `add_ancestors` only ever adds justified edges and leaves keys and direct
    parents (the parent graph, as a list) alone -/
theorem addAnc_sound (P : α → Option (List α)) : ∀ f, SSpec P (addAnc f) := by
  intro f
  induction f with
  | zero => intro x s seen hs; exact ⟨Ext.refl _, hs, rfl⟩
  | succ f ih =>
    intro x s seen hs
    cases hgx : get s x with
    | none => rw [addAnc_none hgx]; exact ⟨Ext.refl _, hs, rfl⟩
    | some nx =>
      have hli := List.foldlRecOn (motive := SLI P x s) nx.out (loopStep (addAnc f))
        (⟨Ext.refl _, hs, (by intro y hy; cases hy), rfl⟩ :
          SLI P x s { s := s, seen := seen, acc := [], explored := [] })
        (fun st h a ha => loopStep_SLI P (addAnc f) ih x s st a (hs x nx hgx a ha) h)
      generalize hst : nx.out.foldl (loopStep (addAnc f)) { s := s, seen := seen, acc := [], explored := [] } = st
        at hli
      obtain ⟨nx', hgx', _, he⟩ := addAnc_succ hgx hst hli.ext
      rw [he]
      exact ⟨hli.ext.trans (Ext_set_addEdges st.s x nx' st.acc hgx'),
        edges_set_addEdges hli.snd hgx' hli.acc,
        (pg_set_same st.s x nx' _ hgx' (addEdges_parents _ _)).trans hli.pg⟩

theorem repairLoop_sound (P : α → Option (List α)) (fuel : Nat) (t : List α) (s : Store α) (seen : List α)
    (hs : Sound P s) :
    Ext s (repairLoop fuel t s seen).1 ∧ Sound P (repairLoop fuel t s seen).1 ∧
      parentGraph (repairLoop fuel t s seen).1 = parentGraph s := by
  refine List.foldlRecOn (motive := fun (st : Store α × List α) => Ext s st.1 ∧ Sound P st.1 ∧ parentGraph st.1 = parentGraph s) t _
    ⟨Ext.refl _, hs, rfl⟩ ?_
  rintro st ⟨e, h, g⟩ x _
  obtain ⟨a1, a2, a3⟩ := addAnc_sound P fuel x st.1 st.2 h
  exact ⟨e.trans a1, a2, a3.trans g⟩

theorem repairTc_sound (s : Store α) (t : List α) (P : α → Option (List α)) (hs : Sound P s) :
    (repairTc t s = .error .cycle → ∃ x, Reach P x x) ∧
    (∀ s', repairTc t s = .ok s' → Ext s s' ∧ Sound P s' ∧ parentGraph s' = parentGraph s) ∧
    (∀ e, repairTc t s = .error e → e = .cycle) := by
  have h := repairLoop_sound P (fuelOf s) t s ((keys s).filter (fun k => decide (k ∉ t))) hs
  unfold repairTc
  simp only
  cases hd : enforceDagFor t (repairLoop (fuelOf s) t s ((keys s).filter (fun k => decide (k ∉ t)))).1 with
  | true =>
    simp only [if_true]
    exact ⟨fun h' => (nomatch h'), fun s' h' => (by cases h'; exact h), fun e h' => nomatch h'⟩
  | false =>
    simp only [Bool.false_eq_true, if_false]
    refine ⟨fun _ => ?_, fun s' h' => (nomatch h'), fun e h' => (by cases h'; rfl)⟩
    apply Classical.byContradiction
    intro hne
    rw [enforceDagFor_iff.mpr fun k _ n hgk hk => hne ⟨k, h.2.1 k n hgk k hk⟩] at hd
    cases hd

end Cedar.TC
