import CedarVerif.Lemmas.ExtDigits
/-
Decimal: declarative language, syntactic split characterisation, exactness of the checked-arithmetic tail; together: which strings
`parse` accepts and what it returns (`parse_eq_some_iff`).
-/
namespace Cedar.Ext.Decimal

def render (neg : Bool) (ip fp : List Char) : List Char := (if neg then ['-'] else []) ++ ip ++ '.' :: fp

def WF (ip fp : List Char) : Prop := ip ≠ [] ∧ fp ≠ [] ∧ allDigits ip = true ∧ allDigits fp = true

instance (ip fp : List Char) : Decidable (WF ip fp) := by unfold WF; infer_instance

/-- the exact value of the literal, scaled by 10^4 (meaningful when `fp.length ≤ 4`) -/
def exact (neg : Bool) (ip fp : List Char) : Int :=
  (if neg then -1 else 1) * ((natOfDigits ip : Int) * 10 ^ 4 + (natOfDigits fp : Int) * 10 ^ (4 - fp.length))

def splitRest (neg : Bool) (rest : List Char) : Option (Bool × List Char × List Char) :=
  match (spanDigits rest).2 with
  | '.' :: rest' =>
    if (spanDigits rest).1.isEmpty || (spanDigits rest').1.isEmpty || !(spanDigits rest').2.isEmpty then none
    else some (neg, (spanDigits rest).1, (spanDigits rest').1)
  | _ => none

theorem split_eq (s : List Char) : split s = splitRest (stripSign s).1 (stripSign s).2 := rfl

theorem render_eq (neg : Bool) (ip fp : List Char) : render neg ip fp = signText neg ++ (ip ++ '.' :: fp) := by
  simp only [render, signText, List.append_assoc]

theorem dot_not_digit : isDigit '.' = false := by decide

theorem splitRest_iff (neg neg' : Bool) (rest ip fp : List Char) :
    splitRest neg rest = some (neg', ip, fp) ↔ neg' = neg ∧ rest = ip ++ '.' :: fp ∧ WF ip fp := by
  constructor
  · intro h
    unfold splitRest at h
    split at h
    · rename_i rest' hr
      split at h
      · cases h
      · rename_i hc
        simp only [Bool.or_eq_true, Bool.not_eq_true', not_or, Bool.not_eq_true, Bool.not_eq_false] at hc
        cases h
        obtain ⟨a1, a2, _⟩ := spanDigits_spec rest
        obtain ⟨b1, b2, _⟩ := spanDigits_spec rest'
        have hnil : (spanDigits rest').2 = [] := by simpa using hc.2
        refine ⟨rfl, ?_, ?_, ?_, a2, b2⟩
        · rw [hr] at a1; rw [hnil, List.append_nil] at b1; rw [← b1]; exact a1
        · intro e; rw [e] at hc; simp at hc
        · intro e; rw [e] at hc; simp at hc
    · cases h
  · rintro ⟨rfl, rfl, h1, h2, h3, h4⟩
    have e1 : spanDigits (ip ++ '.' :: fp) = (ip, '.' :: fp) :=
      spanDigits_append _ _ h3 (noDigitHead_cons dot_not_digit)
    have e2 : spanDigits fp = (fp, []) := by
      have := spanDigits_append fp [] h4 noDigitHead_nil
      simpa using this
    unfold splitRest
    rw [e1]; simp only [e2]
    cases ip with
    | nil => exact absurd rfl h1
    | cons a as =>
      cases fp with
      | nil => exact absurd rfl h2
      | cons b bs => simp

theorem split_iff (s : List Char) (neg : Bool) (ip fp : List Char) :
    split s = some (neg, ip, fp) ↔ s = render neg ip fp ∧ WF ip fp := by
  rw [split_eq, splitRest_iff, render_eq]
  constructor
  · rintro ⟨rfl, h, hwf⟩
    exact ⟨by rw [← h, stripSign_text], hwf⟩
  · rintro ⟨rfl, hwf⟩
    rw [stripSign_signText neg (HeadDigit.of_digits hwf.1 hwf.2.2.1 _)]
    exact ⟨rfl, rfl, hwf⟩

theorem fp_bound (fp : List Char) (hne : fp ≠ []) (hlen : fp.length ≤ 4) (hd : allDigits fp = true) :
    natOfDigits fp * 10 ^ (4 - fp.length) < 10000 ∧ natOfDigits fp < 10000 := by
  have h := natOfDigits_lt fp hd
  have hpos : 0 < fp.length := List.length_pos_iff.mpr hne
  generalize natOfDigits fp = n at *
  generalize fp.length = k at *
  have : k = 1 ∨ k = 2 ∨ k = 3 ∨ k = 4 := by omega
  rcases this with rfl | rfl | rfl | rfl <;> simp at h ⊢ <;> omega

theorem arith_exact (neg : Bool) (n m k : Nat) (hk : k ≤ 4) (h1 : m * 10 ^ (4 - k) < 10000) (h2 : m < 10000) :
    arith neg n m k =
      let e : Int := (if neg then -1 else 1) * ((n : Int) * 10 ^ 4 + (m : Int) * 10 ^ (4 - k))
      if inI64 e then some e else none := by
  have hP : (((10 ^ (4 - k) : Nat)) : Int) = (10 : Int) ^ (4 - k) := by simp
  have hF : (m : Int) * ((10 ^ (4 - k) : Nat) : Int) < 10000 := by
    have := Int.ofNat_lt.mpr h1
    rw [Int.natCast_mul] at this; exact this
  have hF0 : (0 : Int) ≤ (m : Int) * ((10 ^ (4 - k) : Nat) : Int) :=
    Int.mul_nonneg (Int.natCast_nonneg _) (Int.natCast_nonneg _)
  have hM : (m : Int) < 10000 := Int.ofNat_lt.mpr h2
  have hk' : ¬ (4 < k) := by omega
  have e4 : (10 : Int) ^ 4 = 10000 := by decide
  simp only [arith, hk', if_false, ← hP, e4, Option.bind_eq_bind]
  show _ = checkedI64 _
  generalize hFF : (m : Int) * ((10 ^ (4 - k) : Nat) : Int) = F at *
  -- the fraction part is below 10^4: its two checks always pass
  have cM : inI64 (m : Int) = true := by rw [inI64_iff]; omega
  have cF : inI64 F = true := by rw [inI64_iff]; omega
  simp only [checkedI64_some cM, hFF, checkedI64_some cF, Option.bind_some]
  have hN0 : (0 : Int) ≤ (n : Int) := Int.natCast_nonneg _
  generalize (n : Int) = N at *
  -- the integer part carries the sign from the start, so each check is implied by the next
  cases neg <;> simp only [Bool.false_eq_true, if_false, if_true, Bool.not_false, Bool.not_true]
  all_goals
    rw [checkedI64_bind, checkedI64_bind]
    · congr 1; omega
    · intro hx; rw [inI64_false_iff] at hx; apply checkedI64_none; rw [inI64_false_iff]; omega
    · intro hx; rw [inI64_false_iff] at hx; rw [checkedI64_none (by rw [inI64_false_iff]; omega)]; rfl

theorem arith_tooManyDigits (neg : Bool) (n m k : Nat) (hk : 4 < k) : arith neg n m k = none := by
  simp only [arith, hk, if_true, Option.bind_eq_bind]
  cases h1 : checkedI64 (if neg = true then -(n : Int) else n) with
  | none => rfl
  | some l =>
    simp only [Option.bind_some]
    cases h2 : checkedI64 (l * 10000) with
    | none => rfl
    | some l' => rfl

theorem parse_render (neg : Bool) (ip fp : List Char) (hwf : WF ip fp) (h4 : fp.length ≤ 4) :
    parse (String.ofList (render neg ip fp)) = if inI64 (exact neg ip fp) then some (exact neg ip fp) else none := by
  have hs := (split_iff (render neg ip fp) neg ip fp).mpr ⟨rfl, hwf⟩
  obtain ⟨_, h2, _, h5⟩ := hwf
  obtain ⟨b1, b2⟩ := fp_bound fp h2 h4 h5
  simp only [parse, String.toList_ofList, hs]
  exact arith_exact neg _ _ _ h4 b1 b2

theorem parse_eq_some_iff (s : String) (v : Int) :
    parse s = some v ↔
      ∃ neg ip fp, s.toList = render neg ip fp ∧ WF ip fp ∧ fp.length ≤ 4 ∧ v = exact neg ip fp ∧ inI64 v = true := by
  constructor
  · intro h
    unfold parse at h
    split at h
    · cases h
    · rename_i neg ip fp hs
      obtain ⟨hr, hwf⟩ := (split_iff _ _ _ _).mp hs
      by_cases h4 : fp.length ≤ 4
      · obtain ⟨b1, b2⟩ := fp_bound fp hwf.2.1 h4 hwf.2.2.2
        have ha : arith neg (natOfDigits ip) (natOfDigits fp) fp.length = checkedI64 (exact neg ip fp) :=
          arith_exact neg _ _ _ h4 b1 b2
        rw [ha] at h
        obtain ⟨hin, rfl⟩ := (checkedI64_eq_some _ _).mp h
        exact ⟨neg, ip, fp, hr, hwf, h4, rfl, hin⟩
      · rw [arith_tooManyDigits neg _ _ _ (by omega)] at h; cases h
  · rintro ⟨neg, ip, fp, hr, hwf, h4, rfl, hin⟩
    have := parse_render neg ip fp hwf h4
    rw [← hr, String.ofList_toList, hin] at this
    simpa using this

end Cedar.Ext.Decimal
