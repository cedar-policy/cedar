import CedarVerif.Cedar.NoPanic.Utf8
/-
C20 mirror of `parse_datetime` (cedar-policy-core/src/extensions/datetime.rs) with every `unwrap` on a value that depends
on the input, every string slice and checked arithmetic site kept as an explicit `.panic site` outcome
(`NaiveTime::from_hms_opt(0, 0, 0).unwrap()` has constant arguments and is left out). The regex captures are written out as recognisers
that return the capture *strings* (what `str::parse::<u32>()` is then applied to) and the matched prefix
(what `date_str.len()` / `hms_str.len()` measure, in bytes).
`parse_duration` uses `.ok()`, not `unwrap`, on its captures, so it has no panic site (it is mirrored in `Ext`).
Imports only model files.
-/
namespace Cedar
namespace NoPanic
open Cedar.Ext (isDigit natOfDigits)
open Cedar.Ext.Datetime (takeDigits expect dateOk daysFromCivil)

inductive DtOutcome where
  | ok (epochMs : Int)
  | err (e : String)
  | panic (site : String)
deriving Repr, DecidableEq

def u32Max : Nat := 4294967295

/-- `str::parse::<u32>()` restricted to what a `[0-9]{n}` capture can be: fails on the empty string, on a
non-digit, and on overflow of `u32` -/
def parseU32 (ds : List Char) : Option Nat :=
  if ds.isEmpty then none
  else if ds.any (fun c => !isDigit c) then none
  else if natOfDigits ds > u32Max then none
  else some (natOfDigits ds)

/-- `x.parse().unwrap()` -/
def unwrapU32 (site : String) (ds : List Char) (k : Nat → DtOutcome) : DtOutcome :=
  match parseU32 ds with
  | some n => k n
  | none => .panic site

/-- `DATE_PATTERN = ^([0-9]{4})-([0-9]{2})-([0-9]{2})`: (matched prefix, year, month, day) -/
def capDate (s : List Char) : Option (List Char × List Char × List Char × List Char) :=
  match takeDigits 4 s with
  | none => none
  | some (y, s1) => match expect '-' s1 with
    | none => none
    | some s2 => match takeDigits 2 s2 with
      | none => none
      | some (m, s3) => match expect '-' s3 with
        | none => none
        | some s4 => match takeDigits 2 s4 with
          | none => none
          | some (d, _) => some (y ++ '-' :: m ++ '-' :: d, y, m, d)

/-- `HMS_PATTERN = ^T([0-9]{2}):([0-9]{2}):([0-9]{2})` -/
def capHMS (s : List Char) : Option (List Char × List Char × List Char × List Char) :=
  match expect 'T' s with
  | none => none
  | some s1 => match takeDigits 2 s1 with
    | none => none
    | some (h, s2) => match expect ':' s2 with
      | none => none
      | some s3 => match takeDigits 2 s3 with
        | none => none
        | some (m, s4) => match expect ':' s4 with
          | none => none
          | some s5 => match takeDigits 2 s5 with
            | none => none
            | some (sec, _) => some ('T' :: h ++ ':' :: m ++ ':' :: sec, h, m, sec)

/-- `(Z|((\+|-)([0-9]{2})([0-9]{2})))$`: `none` = no match; `some none` = `Z`; `some (some (positive, hh, mm))` -/
def capOffset (s : List Char) : Option (Option (Bool × List Char × List Char)) :=
  match s with
  | ['Z'] => some none
  | sign :: r =>
    if sign == '+' || sign == '-' then
      match takeDigits 2 r with
      | none => none
      | some (hh, r1) => match takeDigits 2 r1 with
        | none => none
        | some (mm, r2) => if r2.isEmpty then some (some (sign == '+', hh, mm)) else none
    else none
  | [] => none

/-- `MS_AND_OFFSET_PATTERN = ^(\.([0-9]{3}))?(Z|((\+|-)([0-9]{2})([0-9]{2})))$`: (group 2, offset groups) -/
def capMsOffset (s : List Char) : Option (Option (List Char) × Option (Bool × List Char × List Char)) :=
  match s with
  | '.' :: r => match takeDigits 3 r with
    | none => none
    | some (ms, r1) => match capOffset r1 with
      | none => none
      | some o => some (some ms, o)
  | _ => match capOffset s with
    | none => none
    | some o => some (none, o)

/-- chrono: `TimeDelta::new(secs, 0)` is `Some` iff `|secs| <= i64::MAX / 1000` -/
def timeDeltaSecsMax : Int := 9223372036854775
/-- chrono: `NaiveDate::MIN` = -262143-01-01, `NaiveDate::MAX` = 262142-12-31, as days since 1970-01-01;
`NaiveDateTime + TimeDelta` panics when the sum leaves this range -/
def chronoMinDays : Int := -96465293
def chronoMaxDays : Int := 95026236

/-- `UTCOffset::to_seconds` (u32 arithmetic `hh * 3600 + mm * 60`, overflow checked in debug builds) followed by
`TimeDelta::new(-offset_in_secs, 0).unwrap()`; result: the TimeDelta in seconds -/
def offsetDelta (positive : Bool) (hh mm : Nat) (k : Int → DtOutcome) : DtOutcome :=
  if hh * 3600 + mm * 60 > u32Max then .panic "u32 overflow in UTCOffset::to_seconds"
  else
    let secs : Int := if positive then ((hh * 3600 + mm * 60 : Nat) : Int) else -((hh * 3600 + mm * 60 : Nat) : Int)
    if -secs < -timeDeltaSecsMax ∨ -secs > timeDeltaSecsMax then .panic "TimeDelta::new(-offset_in_secs, 0).unwrap()"
    else k (-secs)

def parseDatetime (s : List Char) : DtOutcome :=
  match capDate s with
  | none => .err "InvalidDatePattern"
  | some (dateStr, y, mo, d) =>
    -- the closure `date`
    let date (k : Int → DtOutcome) : DtOutcome :=
      unwrapU32 "year.parse().unwrap()" y fun y =>
      unwrapU32 "month.parse().unwrap()" mo fun mo =>
      unwrapU32 "day.parse().unwrap()" d fun d =>
      if dateOk y mo d then k (daysFromCivil y mo d) else .err "InvalidDate"
    if bytes dateStr == bytes s then date fun days => .ok (days * 86400000)
    else
      match sliceFrom s (bytes dateStr) with
      | none => .panic "&s[date_str.len()..]"
      | some s1 =>
        match capHMS s1 with
        | none => .err "InvalidHMSPattern"
        | some (hmsStr, h, m, sec) =>
          unwrapU32 "h.parse().unwrap()" h fun h =>
          unwrapU32 "m.parse().unwrap()" m fun m =>
          unwrapU32 "sec.parse().unwrap()" sec fun sec =>
          match sliceFrom s1 (bytes hmsStr) with
          | none => .panic "&s[hms_str.len()..]"
          | some s2 =>
            match capMsOffset s2 with
            | none => .err "InvalidMSOffsetPattern"
            | some (msCap, off) =>
              (match msCap with
                | some ds => unwrapU32 "captures[2].parse().unwrap()" ds
                | none => fun k => k 0) fun ms =>
              date fun days =>
              -- NaiveTime::from_hms_milli_opt
              if ¬ (h < 24 ∧ m < 60 ∧ sec < 60 ∧ ms < 1000) then
                match sliceFrom hmsStr 1 with
                | none => .panic "hms_str[1..]"
                | some _ => .err "InvalidHMS"
              else
                let finish (delta : Int) : DtOutcome :=
                  let total : Int := days * 86400 + ((h * 3600 + m * 60 + sec : Nat) : Int) + delta
                  if total < chronoMinDays * 86400 ∨ total ≥ (chronoMaxDays + 1) * 86400 then
                    .panic "`NaiveDateTime + TimeDelta` overflowed"
                  else .ok (total * 1000 + ms)
                match off with
                | none => finish 0
                | some (positive, hh, mm) =>
                  unwrapU32 "captures[6].parse().unwrap()" hh fun hh =>
                  unwrapU32 "captures[7].parse().unwrap()" mm fun mm =>
                  if hh < 24 ∧ mm < 60 then offsetDelta positive hh mm finish
                  else .err "InvalidOffset"

end NoPanic
end Cedar
