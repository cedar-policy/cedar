import CedarVerif.Cedar.Authorizer
/- The authorizer's bucket loop: what the three buckets that `concretize` reads hold afterwards, and membership of ids in them; the
   response depends on the policies only through id, effect and outcome (`isAuthorized_congr`), the outcome only on the evaluation
   result (`outcomeOf`). -/
namespace Cedar

variable (req : Request) (es : Entities)

def Sat (p : Policy) : Prop := p.outcome req es = .sat
def Errs (p : Policy) : Prop := p.outcome req es = .err

theorem foldl_step_buckets : ∀ (ps : List Policy) (b : Buckets),
    (ps.foldl (Buckets.step req es) b).satPermits =
      b.satPermits ++ (ps.filter (fun p => p.effect == .permit && p.outcome req es == .sat)).map (·.id) ∧
    (ps.foldl (Buckets.step req es) b).satForbids =
      b.satForbids ++ (ps.filter (fun p => p.effect == .forbid && p.outcome req es == .sat)).map (·.id) ∧
    (ps.foldl (Buckets.step req es) b).errors =
      b.errors ++ (ps.filter (fun p => p.outcome req es == .err)).map (·.id)
  | [], b => by simp
  | p :: ps, b => by
    obtain ⟨h1, h2, h3⟩ := foldl_step_buckets ps (Buckets.step req es b p)
    simp only [List.foldl_cons, h1, h2, h3]
    cases ho : p.outcome req es <;> cases he : p.effect <;> simp [Buckets.step, ho, he]

theorem mem_map_filter_id (ps : List Policy) (q : Policy → Bool) (id : String) :
    id ∈ (ps.filter q).map (·.id) ↔ ∃ p, p ∈ ps ∧ id = p.id ∧ q p = true := by
  simp only [List.mem_map, List.mem_filter]
  exact ⟨fun ⟨p, ⟨h1, h2⟩, h3⟩ => ⟨p, h1, h3.symm, h2⟩, fun ⟨p, h1, h3, h2⟩ => ⟨p, ⟨h1, h2⟩, h3.symm⟩⟩

theorem mem_satPermits (ps : List Policy) (b : Buckets) (id : String) :
    id ∈ (ps.foldl (Buckets.step req es) b).satPermits ↔
      id ∈ b.satPermits ∨ ∃ p, p ∈ ps ∧ id = p.id ∧ p.effect = .permit ∧ Sat req es p := by
  rw [(foldl_step_buckets req es ps b).1, List.mem_append, mem_map_filter_id]
  simp only [Bool.and_eq_true, beq_iff_eq, Sat]

theorem mem_satForbids (ps : List Policy) (b : Buckets) (id : String) :
    id ∈ (ps.foldl (Buckets.step req es) b).satForbids ↔
      id ∈ b.satForbids ∨ ∃ p, p ∈ ps ∧ id = p.id ∧ p.effect = .forbid ∧ Sat req es p := by
  rw [(foldl_step_buckets req es ps b).2.1, List.mem_append, mem_map_filter_id]
  simp only [Bool.and_eq_true, beq_iff_eq, Sat]

theorem mem_errors (ps : List Policy) (b : Buckets) (id : String) :
    id ∈ (ps.foldl (Buckets.step req es) b).errors ↔
      id ∈ b.errors ∨ ∃ p, p ∈ ps ∧ id = p.id ∧ Errs req es p := by
  rw [(foldl_step_buckets req es ps b).2.2, List.mem_append, mem_map_filter_id]
  simp only [beq_iff_eq, Errs]

theorem isEmpty_iff_of_mem {ps : List Policy} {l : List String} {P : Policy → Prop}
    (h : ∀ id, id ∈ l ↔ ∃ p, p ∈ ps ∧ id = p.id ∧ P p) : l.isEmpty = true ↔ ¬ ∃ p, p ∈ ps ∧ P p := by
  rw [List.isEmpty_iff, List.eq_nil_iff_forall_not_mem]
  exact ⟨fun hn ⟨p, hp, hP⟩ => hn p.id ((h p.id).mpr ⟨p, hp, rfl, hP⟩),
    fun hn x hx => let ⟨p, hp, _, hP⟩ := (h x).mp hx; hn ⟨p, hp, hP⟩⟩

theorem satPermits_isEmpty (ps : List Policy) :
    (ps.foldl (Buckets.step req es) {}).satPermits.isEmpty = true ↔ ¬ ∃ p, p ∈ ps ∧ p.effect = .permit ∧ Sat req es p :=
  isEmpty_iff_of_mem fun id => by simpa using mem_satPermits req es ps {} id

theorem satForbids_isEmpty (ps : List Policy) :
    (ps.foldl (Buckets.step req es) {}).satForbids.isEmpty = true ↔ ¬ ∃ p, p ∈ ps ∧ p.effect = .forbid ∧ Sat req es p :=
  isEmpty_iff_of_mem fun id => by simpa using mem_satForbids req es ps {} id

theorem isAuthorized_allow_iff (ps : List Policy) :
    (isAuthorized req es ps).decision = .allow ↔
      (∃ p, p ∈ ps ∧ p.effect = .permit ∧ Sat req es p) ∧
      ¬ (∃ p, p ∈ ps ∧ p.effect = .forbid ∧ Sat req es p) := by
  unfold isAuthorized Buckets.concretize
  rw [← satForbids_isEmpty, ← Classical.not_not (a := ∃ p, p ∈ ps ∧ p.effect = .permit ∧ Sat req es p),
    ← satPermits_isEmpty]
  cases (ps.foldl (Buckets.step req es) {}).satPermits.isEmpty <;>
    cases (ps.foldl (Buckets.step req es) {}).satForbids.isEmpty <;> simp

/-- two policy lists given as images of one list, as a linked or renamed set is of the set it came from -/
theorem isAuthorized_congr (req : Request) (es es' : Entities) {α} (l : List α) (f g : α → Policy)
    (h : ∀ x, x ∈ l → (f x).id = (g x).id ∧ (f x).effect = (g x).effect ∧ (f x).outcome req es = (g x).outcome req es') :
    isAuthorized req es (l.map f) = isAuthorized req es' (l.map g) := by
  unfold isAuthorized
  have : ∀ (b : Buckets), (l.map f).foldl (Buckets.step req es) b = (l.map g).foldl (Buckets.step req es') b := by
    induction l with
    | nil => intro b; rfl
    | cons x xs ih =>
      intro b
      simp only [List.map_cons, List.foldl_cons]
      obtain ⟨h1, h2, h3⟩ := h x (by simp)
      unfold Buckets.step
      rw [h1, h2, h3]
      exact ih (fun y hy => h y (by simp [hy])) _
  rw [this]

theorem isAuthorized_congr_store (req : Request) (es es' : Entities) (ps : List Policy)
    (h : ∀ p, p ∈ ps → p.outcome req es' = p.outcome req es) : isAuthorized req es' ps = isAuthorized req es ps := by
  simpa using isAuthorized_congr req es' es ps id id (fun p hp => ⟨rfl, rfl, h p hp⟩)

def outcomeOf (y : Result Value) : Outcome :=
  match y with
  | .error _ => .err
  | .ok v => match v.asBool with
    | .ok true => .sat
    | .ok false => .unsat
    | .error _ => .err

theorem outcome_eq (p : Policy) (req : Request) (es : Entities) :
    p.outcome req es = outcomeOf (evaluate req es p.env p.condition) := rfl

end Cedar
