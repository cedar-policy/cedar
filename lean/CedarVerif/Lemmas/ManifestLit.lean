import CedarVerif.Lemmas.ManifestFull
/-
The fragment WITH RECORD AND SET LITERALS and WITHOUT the `NoRecOps` side condition.  `SimL req es e te`: `te` is a typed
AST of `e` in that fragment: record / set literal nodes; the operands of `== in contains containsAll containsAny` and of
`isEmpty` may be anything of the annotated type (`TypedRes`: type soundness) — the analysis requests their full type and
the slice holds them whole (`full_eq`); the operands of `< <= + - *` and of extension functions are scalars (`ScalarRes`:
their types are `Long` / extension types / `String`).
-/
namespace Cedar.Manifest
open Cedar Cedar.C03

def ScalarRes (r : Result Value) : Prop := ∀ v, r = .ok v → Scalar v

/-- the result has the annotated type, a closed type with distinct attribute names -/
def TypedRes (r : Result Value) (ty : Option CedarType) : Prop :=
  ∃ τ, ty = some τ ∧ cn τ = true ∧ ∀ v, r = .ok v → InstanceOfType v τ

inductive SimL (req : Request) (es : Entities) : Expr → TExpr → Prop
  | lit (p : Prim) : SimL req es (.lit p) (.lit p)
  | var (x : Var) : SimL req es (.var x) (.var x)
  | ite {c t e : Expr} {tc tt te : TExpr} : SimL req es c tc →
      (evaluate req es [] c = .ok (.prim (.bool true)) → SimL req es t tt) →
      (evaluate req es [] c = .ok (.prim (.bool false)) → SimL req es e te) → SimL req es (.ite c t e) (.ite tc tt te)
  | iteTrue {c t e : Expr} {tc tt : TExpr} : SimL req es c tc →
      (∀ v, evaluate req es [] c = .ok v → v = .prim (.bool true)) →
      (evaluate req es [] c = .ok (.prim (.bool true)) → SimL req es t tt) → SimL req es (.ite c t e) (.ite tc tt tt)
  | iteFalse {c t e : Expr} {tc te : TExpr} : SimL req es c tc →
      (∀ v, evaluate req es [] c = .ok v → v = .prim (.bool false)) →
      (evaluate req es [] c = .ok (.prim (.bool false)) → SimL req es e te) → SimL req es (.ite c t e) (.ite tc te te)
  | and {a b : Expr} {ta tb : TExpr} : SimL req es a ta →
      (evaluate req es [] a = .ok (.prim (.bool true)) → SimL req es b tb) → SimL req es (.and a b) (.and ta tb)
  | andFalse {a b : Expr} {ta : TExpr} : SimL req es a ta →
      (∀ v, evaluate req es [] a = .ok v → v = .prim (.bool false)) → SimL req es (.and a b) ta
  | or {a b : Expr} {ta tb : TExpr} : SimL req es a ta →
      (evaluate req es [] a = .ok (.prim (.bool false)) → SimL req es b tb) → SimL req es (.or a b) (.or ta tb)
  | orTrue {a b : Expr} {ta : TExpr} : SimL req es a ta →
      (∀ v, evaluate req es [] a = .ok v → v = .prim (.bool true)) → SimL req es (.or a b) ta
  | unary (op : UnaryOp) (ty : Option CedarType) {a : Expr} {ta : TExpr} : op ≠ .isEmpty → SimL req es a ta →
      SimL req es (.unaryApp op a) (.unaryApp op ty ta)
  | isEmpty (ty : Option CedarType) {a : Expr} {ta : TExpr} : SimL req es a ta → TypedRes (evaluate req es [] a) ty →
      SimL req es (.unaryApp .isEmpty a) (.unaryApp .isEmpty ty ta)
  | arith (op : BinaryOp) (ty1 ty2 : Option CedarType) {a b : Expr} {ta tb : TExpr} : ArithOp op →
      SimL req es a ta → SimL req es b tb →
      ScalarRes (evaluate req es [] a) → ScalarRes (evaluate req es [] b) →
      SimL req es (.binaryApp op a b) (.binaryApp op ty1 ty2 ta tb)
  | full (op : BinaryOp) (ty1 ty2 : Option CedarType) {a b : Expr} {ta tb : TExpr} : FullOp op →
      SimL req es a ta → SimL req es b tb →
      TypedRes (evaluate req es [] a) ty1 → TypedRes (evaluate req es [] b) ty2 →
      SimL req es (.binaryApp op a b) (.binaryApp op ty1 ty2 ta tb)
  | getAttr (attr : String) {e : Expr} {te : TExpr} : SimL req es e te → SimL req es (.getAttr e attr) (.getAttr te attr)
  | hasAttr (attr : String) {e : Expr} {te : TExpr} : SimL req es e te → SimL req es (.hasAttr e attr) (.hasAttr te attr)
  | like (p : Pattern) {e : Expr} {te : TExpr} : SimL req es e te → SimL req es (.like e p) (.like te p)
  | is (ty : EntityType) {e : Expr} {te : TExpr} : SimL req es e te → SimL req es (.is e ty) (.is te ty)
  | call1 (fn : String) {a : Expr} {ta : TExpr} : SimL req es a ta → ScalarRes (evaluate req es [] a) →
      (∀ w, evaluate req es [] (.call fn [a]) = .ok w → Scalar w) → SimL req es (.call fn [a]) (.call fn [ta])
  | call2 (fn : String) {a b : Expr} {ta tb : TExpr} : SimL req es a ta → SimL req es b tb →
      ScalarRes (evaluate req es [] a) → ScalarRes (evaluate req es [] b) →
      (∀ w, evaluate req es [] (.call fn [a, b]) = .ok w → Scalar w) → SimL req es (.call fn [a, b]) (.call fn [ta, tb])
  | set {xs : List Expr} {txs : List TExpr} : xs.length = txs.length →
      (∀ x tx, (x, tx) ∈ xs.zip txs → SimL req es x tx) → SimL req es (.set xs) (.set txs)
  /-- record literal with distinct keys (the parser and `Expr::record` reject duplicates): field by field -/
  | record {kvs : List (String × Expr)} {tkvs : List (String × TExpr)} : (kvs.map (·.1)).Nodup →
      kvs.map (·.1) = tkvs.map (·.1) →
      (∀ x tx, (x, tx) ∈ (kvs.map (·.2)).zip (tkvs.map (·.2)) → SimL req es x tx) → SimL req es (.record kvs) (.record tkvs)

def AllRel (R : Value → Value → Prop) : List Value → List Value → Prop
  | [], [] => True
  | a :: as, b :: bs => R a b ∧ AllRel R as bs
  | _, _ => False

theorem allRel_idx {R : Value → Value → Prop} : ∀ (ws ws' : List Value), AllRel R ws ws' →
    ws.length = ws'.length ∧ ∀ (i : Nat) (h : i < ws.length) (h' : i < ws'.length), R ws[i] ws'[i]
  | [], [], _ => ⟨rfl, fun i h _ => absurd h (by simp)⟩
  | [], _ :: _, h => by simp [AllRel] at h
  | _ :: _, [], h => by simp [AllRel] at h
  | a :: as, b :: bs, h => by
    simp only [AllRel] at h
    obtain ⟨h1, h2⟩ := allRel_idx as bs h.2
    refine ⟨by simp [h1], ?_⟩
    intro i hi hi'
    cases i with
    | zero => exact h.1
    | succ j => simpa using h2 j (by simpa using hi) (by simpa using hi')

theorem allRel_mono {R Q : Value → Value → Prop} (hrq : ∀ v v', R v v' → Q v v') : ∀ (ws ws' : List Value),
    AllRel R ws ws' → AllRel Q ws ws'
  | [], [], _ => trivial
  | [], _ :: _, h => by simp [AllRel] at h
  | _ :: _, [], h => by simp [AllRel] at h
  | a :: as, b :: bs, h => by
    simp only [AllRel] at h ⊢
    exact ⟨hrq _ _ h.1, allRel_mono hrq as bs h.2⟩

def KVRel (es es' : Entities) (req : Request) : List (String × WPaths) → List (String × Value) → List (String × Value) → Prop
  | [], [], [] => True
  | (k, p) :: ps, (k1, w) :: vs, (k2, w') :: vs' => k1 = k ∧ k2 = k ∧ VRel es es' req p w w' ∧ KVRel es es' req ps vs vs'
  | _, _, _ => False

theorem lookupW_none_of_not_mem : ∀ (ps : List (String × WPaths)) (k : String), k ∉ ps.map (·.1) → lookupW ps k = none :=
  fun ps k h => (lookupW_eq ps k).trans (lookupKV_none_iff.2 h)

theorem lookupW_mem : ∀ (ps : List (String × WPaths)) (k : String) (p : WPaths), lookupW ps k = some p → k ∈ ps.map (·.1) :=
  fun ps k p h => List.mem_map.2 ⟨(k, p), lookupKV_mem ((lookupW_eq ps k).symm.trans h), rfl⟩

theorem lookupW_some_of_mem (ps : List (String × WPaths)) (k : String) (p : WPaths) (h : (k, p) ∈ ps) :
    ∃ p', lookupW ps k = some p' := by
  rw [lookupW_eq]
  exact Option.isSome_iff_exists.mp (mem_lookupKV h)

theorem kvRel_keys {es es' : Entities} {req : Request} : ∀ (ps : List (String × WPaths)) (vs vs' : List (String × Value)),
    KVRel es es' req ps vs vs' → vs.map (·.1) = ps.map (·.1) ∧ vs'.map (·.1) = ps.map (·.1)
  | [], [], [], _ => ⟨rfl, rfl⟩
  | [], [], _ :: _, h => by simp [KVRel] at h
  | [], _ :: _, _, h => by simp [KVRel] at h
  | _ :: _, [], _, h => by simp [KVRel] at h
  | _ :: _, _ :: _, [], h => by simp [KVRel] at h
  | (k, p) :: ps, (k1, w) :: vs, (k2, w') :: vs', h => by
    simp only [KVRel] at h
    obtain ⟨e1, e2, _, hr⟩ := h
    obtain ⟨h1, h2⟩ := kvRel_keys ps vs vs' hr
    simp [e1, e2, h1, h2]

theorem vrelF_of_kvRel {es es' : Entities} {req : Request} : ∀ (ps : List (String × WPaths)) (vs vs' : List (String × Value)),
    KVRel es es' req ps vs vs' → (ps.map (·.1)).Nodup → ∀ (K K' : List (String × Value)),
    (∀ k w, lookupKV vs k = some w → lookupKV K k = some w) → (∀ k w, lookupKV vs' k = some w → lookupKV K' k = some w) →
    VRelF es es' req ps K K'
  | [], _, _, _, _, _, _, _, _ => trivial
  | _ :: _, [], _, h, _, _, _, _, _ => by simp [KVRel] at h
  | _ :: _, _ :: _, [], h, _, _, _, _, _ => by simp [KVRel] at h
  | (k, p) :: ps, (k1, w) :: vs, (k2, w') :: vs', h, hnd, K, K', hK, hK' => by
    simp only [KVRel] at h
    obtain ⟨e1, e2, hrel, hr⟩ := h
    subst e1; subst e2
    simp only [List.map_cons, List.nodup_cons] at hnd
    obtain ⟨hk1, hk2⟩ := kvRel_keys ps vs vs' hr
    simp only [VRelF]
    refine ⟨⟨w, w', hK k2 w (by simp [lookupKV]), hK' k2 w' (by simp [lookupKV]), hrel⟩, ?_⟩
    apply vrelF_of_kvRel ps vs vs' hr hnd.2 K K'
    · intro k0 w0 hl
      apply hK
      have hm : k0 ∈ ps.map (·.1) := by rw [← hk1]; exact List.mem_map.2 ⟨(k0, w0), lookupKV_mem hl, rfl⟩
      rw [lookupKV_cons_ne k2 k0 _ _ fun e => hnd.1 (e ▸ hm)]
      exact hl
    · intro k0 w0 hl
      apply hK'
      have hm : k0 ∈ ps.map (·.1) := by rw [← hk2]; exact List.mem_map.2 ⟨(k0, w0), lookupKV_mem hl, rfl⟩
      rw [lookupKV_cons_ne k2 k0 _ _ fun e => hnd.1 (e ▸ hm)]
      exact hl

section lemmas
variable {es es' : Entities} {req : Request}

theorem applyUnary_vrel (op : UnaryOp) (hne : op ≠ .isEmpty) {P : WPaths} {v v' : Value} (h : VRel es es' req P v v') :
    applyUnary op v' = applyUnary op v := by
  cases op
  · simp only [applyUnary, vrel_asBool h]
  · simp only [applyUnary, vrel_asInt h]
  · exact absurd rfl hne

theorem get_has_vrel (hsub : SubStore es es') (hctx : CtxWF req) (a : String) :
    ∀ (P P' : WPaths) (v v' : Value), P.getOrHasAttr a = .ok P' → VRel es es' req P v v' →
      PathsCov es es' req false [] P' →
      Tpe.hasAttrV es' a v' = Tpe.hasAttrV es a v ∧ RelL es es' req P' (Tpe.getAttrV es a v) (Tpe.getAttrV es' a v')
  | .path root fs, P', v, v', hp, hr, hcov => by
    simp only [WPaths.getOrHasAttr, Except.ok.injEq] at hp
    subst hp
    simp only [PathsCov, toRootTrieWithLeaf, pathTrie_snoc_not_new, Bool.false_eq_true, if_false, CoverRoots] at hcov
    obtain ⟨h1, h2, ht⟩ := hr
    have hroot := hcov.1
    rw [pathTrie_append] at hroot
    obtain ⟨hnode, _⟩ := cover_walk_leaf hsub _ fs _ _ v v' hroot (trim_rootVal hctx root) h1 h2
    obtain ⟨hh, hg⟩ := node_get_has (c := []) hsub hnode ht
    refine ⟨hh, ?_⟩
    cases hgv : Tpe.getAttrV es a v with
    | error x => simp only [hgv] at hg; rw [hg]; exact rfl
    | ok w =>
      simp only [hgv] at hg
      obtain ⟨w', e1, e2, e3, e4⟩ := hg
      rw [e1]
      show VRel es es' req _ w w'
      simp only [VRel, walk_snoc, h1, h2, Option.bind_some]
      exact ⟨e3, e4, e2⟩
  | .union p q, P', v, v', hp, hr, hcov => by
    simp only [WPaths.getOrHasAttr] at hp
    obtain ⟨p', hp1, hp⟩ := ok_of_match_paths hp
    obtain ⟨q', hq1, hp⟩ := ok_of_match_paths hp
    cases hp
    simp only [PathsCov] at hcov
    rcases hr with hr | hr
    · obtain ⟨hh, hg⟩ := get_has_vrel hsub hctx a p p' v v' hp1 hr hcov.1
      exact ⟨hh, hg.mono (fun _ _ h => Or.inl h)⟩
    · obtain ⟨hh, hg⟩ := get_has_vrel hsub hctx a q q' v v' hq1 hr hcov.2
      exact ⟨hh, hg.mono (fun _ _ h => Or.inr h)⟩
  | .empty, P', v, v', hp, hr, _ => by
    obtain ⟨hs, e⟩ := hr
    subst e
    obtain ⟨h1, h2, h3⟩ := scalar_get_has (es := es) (es' := es') hs (trim_scalar hs) a
    refine ⟨h1, ?_⟩
    rw [h2, h3]; rfl
  | .record pkvs, P', v, v', hp, hr, _ => by
    obtain ⟨kvs, kvs', e1, e2, _, _, hnone, hF⟩ := hr
    subst e1; subst e2
    simp only [WPaths.getOrHasAttr] at hp
    cases hw : lookupW pkvs a with
    | none =>
      obtain ⟨l1, l2⟩ := hnone a hw
      simp only [hw, Except.ok.injEq] at hp
      subst hp
      refine ⟨by simp only [Tpe.hasAttrV, l1, l2], ?_⟩
      simp only [Tpe.getAttrV, l1, l2]
      rfl
    | some f =>
      simp only [hw, Except.ok.injEq] at hp
      subst hp
      obtain ⟨w, w', l1, l2, hrel⟩ := vrelF_lookup pkvs kvs kvs' a f hF hw
      refine ⟨by simp [Tpe.hasAttrV, l1, l2], ?_⟩
      simp only [Tpe.getAttrV, l1, l2]
      exact hrel
  | .set p, _, _, _, hp, _, _ => by simp [WPaths.getOrHasAttr] at hp

theorem mem_entityElems : ∀ (vs : List Value) (x : EntityUID), x ∈ entityElems vs → Value.prim (.entityUID x) ∈ vs
  | [], _, h => by simp [entityElems] at h
  | v :: vs, x, h => by
    cases v with
    | prim p =>
      cases p with
      | entityUID u =>
        simp only [entityElems, List.mem_cons] at h
        rcases h with rfl | h
        · simp
        · exact List.mem_cons_of_mem _ (mem_entityElems vs x h)
      | bool b => simp only [entityElems] at h; exact List.mem_cons_of_mem _ (mem_entityElems vs x h)
      | int b => simp only [entityElems] at h; exact List.mem_cons_of_mem _ (mem_entityElems vs x h)
      | string b => simp only [entityElems] at h; exact List.mem_cons_of_mem _ (mem_entityElems vs x h)
    | set s => simp only [entityElems] at h; exact List.mem_cons_of_mem _ (mem_entityElems vs x h)
    | record s => simp only [entityElems] at h; exact List.mem_cons_of_mem _ (mem_entityElems vs x h)
    | ext s => simp only [entityElems] at h; exact List.mem_cons_of_mem _ (mem_entityElems vs x h)

theorem anc_of_vrel (x : EntityUID) : ∀ (P : WPaths) (g : RootAccessTrie) (v v' : Value), VRel es es' req P v v' →
    x ∈ memTargets v → x ∈ ancRequest es' req (addWrapped g true [] P)
  | .path root fs, g, v, v', hr, hx => by
    have e : v' = v := by
      cases v with
      | record kvs => simp [memTargets] at hx
      | prim p => exact trim_prim hr.2.2
      | set s => exact trim_nonrecord hr.2.2 (by intro kvs; simp)
      | ext y => simp [memTargets] at hx
    subst e
    simp only [addWrapped]
    apply (ancRequest_union es' req x _ g).2
    have hw := anc_walk es' x [] false fs _ _ hr.2.1 hx
    have hnn : (pathTrie fs (AccessTrie.mk [] [] true false)).isNew = false := by
      cases fs <;> rfl
    simp only [toRootTrieWithLeaf, hnn, Bool.false_eq_true, if_false, ancRequest_cons, List.mem_append, ancRoot_eq]
    left; exact hw
  | .union a b, g, v, v', hr, hx => by
    simp only [addWrapped]
    rcases hr with hr | hr
    · exact anc_mono_addWrapped es' req x true [] b _ (anc_of_vrel x a g v v' hr hx)
    · exact anc_of_vrel x b _ v v' hr hx
  | .empty, g, v, v', hr, hx => by
    exfalso
    obtain ⟨hs, _⟩ := hr
    cases v with
    | prim p => cases p <;> simp_all [memTargets, Scalar]
    | set vs => simp [Scalar] at hs
    | record kvs => simp [memTargets] at hx
    | ext y => simp [memTargets] at hx
  | .record kvs, _, v, _, hr, hx => by
    obtain ⟨a, b, e1, _⟩ := hr
    subst e1
    simp [memTargets] at hx
  | .set p, g, v, v', hr, hx => by
    obtain ⟨ws, ws', e1, e2, hlen, hall⟩ := hr
    subst e1
    simp only [memTargets] at hx
    have hm := mem_mkSet (mem_entityElems _ x hx)
    obtain ⟨i, hi, hget⟩ := List.getElem_of_mem hm
    have hrel := hall i hi (by omega)
    rw [hget] at hrel
    simp only [addWrapped]
    exact anc_of_vrel x p g _ _ hrel (by simp [memTargets])

end lemmas

section main
variable {es es' : Entities} {req : Request}

theorem evalList_simL (xs : List Expr) : ∀ (txs : List TExpr) (acc r : Res), xs.length = txs.length →
    (∀ x tx, (x, tx) ∈ xs.zip txs → ∀ (r : Res), manifestOfExpr tx = .ok r → CoverRoots es es' req r.global →
      RelL es es' req r.paths (evaluate req es [] x) (evaluate req es' [] x)) →
    manifestUnionList acc txs = .ok r → CoverRoots es es' req r.global →
    CoverRoots es es' req acc.global ∧ (∀ v v', VRel es es' req acc.paths v v' → VRel es es' req r.paths v v') ∧
    ResRel (AllRel (VRel es es' req r.paths)) (evaluateList req es [] xs) (evaluateList req es' [] xs) := by
  induction xs with
  | nil =>
    intro txs acc r hl _ hm hc
    cases txs with
    | cons _ _ => simp at hl
    | nil =>
      simp only [manifestUnionList, Except.ok.injEq] at hm
      subst hm
      exact ⟨hc, fun _ _ h => h, trivial⟩
  | cons x xs ih =>
    intro txs acc r hl IH hm hc
    cases txs with
    | nil => simp at hl
    | cons tx txs =>
      simp only [manifestUnionList] at hm
      obtain ⟨rx, h1, hm⟩ := ok_of_match_res hm
      obtain ⟨c1, m1, hev⟩ := ih txs (acc.union rx) r (by simpa using hl)
        (fun y ty hy => IH y ty (by simp [List.zip_cons_cons, hy])) hm hc
      obtain ⟨c2, c3⟩ := coverRoots_union es es' req _ _ c1
      refine ⟨c2, fun v v' h => m1 v v' (Or.inl h), ?_⟩
      rw [evaluateList_cons, evaluateList_cons]
      exact consR_rel (IH x tx (by simp [List.zip_cons_cons]) rx h1 c3) hev fun v v' _ _ hv hws =>
        ⟨m1 v v' (Or.inr hv), hws⟩

theorem evalKVs_simL (kvs : List (String × Expr)) : ∀ (tkvs : List (String × TExpr)) (g : RootAccessTrie)
    (ps : List (String × WPaths)), kvs.map (·.1) = tkvs.map (·.1) →
    (∀ x tx, (x, tx) ∈ (kvs.map (·.2)).zip (tkvs.map (·.2)) → ∀ (r : Res), manifestOfExpr tx = .ok r →
      CoverRoots es es' req r.global → RelL es es' req r.paths (evaluate req es [] x) (evaluate req es' [] x)) →
    manifestRecord tkvs = .ok (g, ps) → CoverRoots es es' req g →
    ps.map (·.1) = kvs.map (·.1) ∧
    ResRel (KVRel es es' req ps) (evaluateKVs req es [] kvs) (evaluateKVs req es' [] kvs) := by
  induction kvs with
  | nil =>
    intro tkvs g ps hk _ hm _
    cases tkvs with
    | cons _ _ => simp at hk
    | nil =>
      simp only [manifestRecord, Except.ok.injEq, Prod.mk.injEq] at hm
      obtain ⟨_, e⟩ := hm
      subst e
      exact ⟨rfl, trivial⟩
  | cons kx kvs ih =>
    intro tkvs g ps hk IH hm hc
    obtain ⟨k, x⟩ := kx
    cases tkvs with
    | nil => simp at hk
    | cons ktx tkvs =>
      obtain ⟨k', tx⟩ := ktx
      simp only [List.map_cons, List.cons.injEq] at hk
      obtain ⟨ek, hk⟩ := hk
      subst ek
      simp only [manifestRecord] at hm
      obtain ⟨rx, h1, hm⟩ := ok_of_match_res hm
      obtain ⟨g2, ps2, h2, hm⟩ := ok_of_match_record hm
      cases hm
      obtain ⟨c1, c2⟩ := coverRoots_union es es' req _ _ hc
      obtain ⟨hkeys, hev⟩ := ih tkvs g2 ps2 hk
        (fun y ty hy => IH y ty (by simp [List.zip_cons_cons, hy])) h2 c2
      refine ⟨by simp [hkeys], ?_⟩
      rcases (IH x tx (by simp [List.zip_cons_cons]) rx h1 c1).cases with ⟨e, _, e1, e2, rfl⟩ | ⟨v, v', e1, e2, hv⟩
      · simp only [evaluateKVs, e1, e2]; rfl
      rcases hev.cases with ⟨e, _, f1, f2, rfl⟩ | ⟨ws, ws', f1, f2, hws⟩
      · simp only [evaluateKVs, e1, e2, f1, f2]; rfl
      simp only [evaluateKVs, e1, e2, f1, f2]
      exact ⟨rfl, rfl, hv, hws⟩

end main

end Cedar.Manifest
