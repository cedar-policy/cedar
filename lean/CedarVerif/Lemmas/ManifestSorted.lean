import CedarVerif.Lemmas.ManifestFull
/-
The slicer keeps records key-sorted.  The store `slice_entities` computes
(`sliceStorePure`: `slice_val` builds records with `insert`, `merge_values` merges with `insert`) has key-sorted attribute
records whenever the full store has (`sortedStore_slice`) — the hypothesis `SortedStore es'` of `eval_simL` / `full_eq`
is a property of the model's slicer, not an assumption about it.
-/
namespace Cedar.Manifest
open Cedar

theorem rsortedKVs_insertKV (k : String) (v : Value) (l : List (String × Value)) (hv : RSorted v) (hl : RSortedKVs l) :
    RSortedKVs (insertKV k v l) := by
  apply rsortedKVs_of_mem
  intro p hp
  rcases mem_insertKV hp with rfl | hp
  · exact hv
  · exact rsortedKVs_mem hl p hp

theorem ksorted_sliceFields : ∀ (c : Fields) (kvs : List (String × Value)), KSorted (sliceFields c kvs)
  | [], _ => trivial
  | (f, t) :: rest, kvs => by
    unfold sliceFields
    cases lookupKV kvs f with
    | none => exact ksorted_sliceFields rest kvs
    | some v => exact ksorted_insertKV f _ _ (ksorted_sliceFields rest kvs)

theorem rsortedKVs_sliceFields_of {c : Fields} {kvs : List (String × Value)}
    (hV : ∀ k t, (k, t) ∈ c → ∀ v, RSorted v → RSorted (sliceVal t v)) (h : RSortedKVs kvs) :
    RSortedKVs (sliceFields c kvs) :=
  rsortedKVs_of_mem fun p hp =>
    let ⟨t, v, h1, h2, e⟩ := mem_sliceFields c kvs p.1 p.2 hp
    e ▸ hV p.1 t h1 v (rsorted_lookup h h2)

theorem rsorted_sliceVal : ∀ (t : AccessTrie) (v : Value), RSorted v → RSorted (sliceVal t v) :=
  AccessTrie.induct fun c _ _ _ hc _ v h => by
    cases v with
    | record kvs => exact ⟨ksorted_sliceFields c kvs, rsortedKVs_sliceFields_of hc h.2⟩
    | prim p => simp [sliceVal, RSorted]
    | set s => simp [sliceVal, RSorted]
    | ext x => simp [sliceVal, RSorted]

theorem sorted_sliceFields (c : Fields) (kvs : List (String × Value)) (h : RSortedKVs kvs) :
    KSorted (sliceFields c kvs) ∧ RSortedKVs (sliceFields c kvs) :=
  ⟨ksorted_sliceFields c kvs, rsortedKVs_sliceFields_of (fun _ t _ => rsorted_sliceVal t) h⟩

mutual
theorem rsorted_mergeValues : ∀ (v2 v1 : Value), RSorted v1 → RSorted v2 → RSorted (mergeValues v1 v2)
  | .record r2, v1, h1, h2 => by
    cases v1 with
    | record r1 =>
      simp only [RSorted] at h1 h2
      simp only [mergeValues, RSorted]
      exact sorted_mergeKVs r2 r1 h1.1 h1.2 h2.2
    | prim p => simpa [mergeValues] using h1
    | set s => simpa [mergeValues] using h1
    | ext x => simpa [mergeValues] using h1
  | .prim _, v1, h1, _ => by simpa [mergeValues] using h1
  | .set _, v1, h1, _ => by simpa [mergeValues] using h1
  | .ext _, v1, h1, _ => by simpa [mergeValues] using h1
theorem sorted_mergeKVs : ∀ (r2 r1 : List (String × Value)), KSorted r1 → RSortedKVs r1 → RSortedKVs r2 →
    KSorted (mergeKVs r1 r2) ∧ RSortedKVs (mergeKVs r1 r2)
  | [], r1, h1, h2, _ => by simp only [mergeKVs]; exact ⟨h1, h2⟩
  | (k, v2) :: rest, r1, h1, h2, h3 => by
    simp only [RSortedKVs] at h3
    unfold mergeKVs
    cases hl : lookupKV r1 k with
    | none =>
      simp only
      exact sorted_mergeKVs rest _ (ksorted_insertKV k v2 r1 h1) (rsortedKVs_insertKV k v2 r1 h3.1 h2) h3.2
    | some v1 =>
      simp only
      exact sorted_mergeKVs rest _ (ksorted_insertKV k _ r1 h1)
        (rsortedKVs_insertKV k _ r1 (rsorted_mergeValues v2 v1 (rsorted_lookup h2 hl) h3.1) h2) h3.2
end

def AllSorted (m : Entities) : Prop := ∀ p, p ∈ m → KSorted p.2.attrs ∧ RSortedKVs p.2.attrs

theorem allSorted_insertOrMerge : ∀ (m : Entities) (u : EntityUID) (d : EntityData), AllSorted m →
    KSorted d.attrs → RSortedKVs d.attrs → AllSorted (insertOrMerge m u d)
  | [], u, d, _, h1, h2 => by
    intro p hp
    simp only [insertOrMerge, List.mem_singleton] at hp
    subst hp
    exact ⟨h1, h2⟩
  | (u', d') :: rest, u, d, hm, h1, h2 => by
    intro p hp
    simp only [insertOrMerge] at hp
    have hd' := hm (u', d') (by simp)
    split at hp
    · simp only [List.mem_cons] at hp
      rcases hp with rfl | hp
      · simp only [mergeEntities]
        exact sorted_mergeKVs d.attrs d'.attrs hd'.1 hd'.2 h2
      · exact hm p (by simp [hp])
    · simp only [List.mem_cons] at hp
      rcases hp with rfl | hp
      · exact hd'
      · exact allSorted_insertOrMerge rest u d (fun q hq => hm q (by simp [hq])) h1 h2 p hp

theorem allSorted_loadAll (es : Entities) (hst : SortedStore es) : ∀ (reqs : List (EntityUID × AccessTrie)) (m : Entities),
    AllSorted m → AllSorted (loadAll es reqs m)
  | [], m, h => h
  | (u, t) :: rest, m, h => by
    simp only [loadAll]
    cases hf : es.find? u with
    | none => exact allSorted_loadAll es hst rest m h
    | some d =>
      simp only
      apply allSorted_loadAll es hst rest
      obtain ⟨c, a, i, e⟩ := t
      have := sorted_sliceFields (pruneChildEntityDeref (.mk c a i e)).children d.attrs (hst u d hf).2
      exact allSorted_insertOrMerge m u _ h this.1 this.2

theorem allSorted_addAncestors (es m : Entities) (req : Request) : ∀ (reqs : List (EntityUID × AccessTrie)) (acc : Entities),
    AllSorted acc → AllSorted (addAncestors es m req reqs acc)
  | [], acc, h => h
  | (u, t) :: rest, acc, h => by
    simp only [addAncestors]
    apply allSorted_addAncestors es m req rest
    intro p hp
    simp only [List.mem_map] at hp
    obtain ⟨q, hq, e⟩ := hp
    obtain ⟨u', d'⟩ := q
    have := h (u', d') hq
    simp only at e
    split at e <;> (subst e; exact this)

theorem sortedStore_slice (t : RootAccessTrie) (req : Request) (es : Entities) (hst : SortedStore es) :
    SortedStore (sliceStorePure t req es) := by
  intro u d hf
  have hm := Entities.find?_mem hf
  have : AllSorted (sliceStorePure t req es) := by
    simp only [sliceStorePure]
    apply allSorted_addAncestors
    apply allSorted_loadAll es hst
    intro p hp; cases hp
  exact this (u, d) hm

theorem sortedStore_sliceStore {t : RootAccessTrie} {req : Request} {es es' : Entities} (hst : SortedStore es)
    (hs : sliceStore (some t) req es = .ok es') : SortedStore es' :=
  sliceStore_ok hs ▸ sortedStore_slice t req es hst

def ksortedB : List (String × Value) → Bool
  | [] => true
  | (k, _) :: rest => rest.all (fun p => decide (k < p.1)) && ksortedB rest

mutual
def rsortedB : Value → Bool
  | .record kvs => ksortedB kvs && rsortedKVsB kvs
  | _ => true
def rsortedKVsB : List (String × Value) → Bool
  | [] => true
  | (_, v) :: rest => rsortedB v && rsortedKVsB rest
end

theorem ksortedB_sound : ∀ (l : List (String × Value)), ksortedB l = true → KSorted l
  | [], _ => trivial
  | (k, v) :: rest, h => by
    simp only [ksortedB, Bool.and_eq_true, List.all_eq_true, decide_eq_true_eq] at h
    exact ⟨h.1, ksortedB_sound rest h.2⟩

mutual
theorem rsortedB_sound : ∀ (v : Value), rsortedB v = true → RSorted v
  | .record kvs, h => by
    simp only [rsortedB, Bool.and_eq_true] at h
    exact ⟨ksortedB_sound kvs h.1, rsortedKVsB_sound kvs h.2⟩
  | .prim _, _ => trivial
  | .set _, _ => trivial
  | .ext _, _ => trivial
theorem rsortedKVsB_sound : ∀ (l : List (String × Value)), rsortedKVsB l = true → RSortedKVs l
  | [], _ => trivial
  | (k, v) :: rest, h => by
    simp only [rsortedKVsB, Bool.and_eq_true] at h
    exact ⟨rsortedB_sound v h.1, rsortedKVsB_sound rest h.2⟩
end

def sortedStoreB (es : Entities) : Bool := es.all (fun p => ksortedB p.2.attrs && rsortedKVsB p.2.attrs)
def sortedReqB (req : Request) : Bool := ksortedB req.context && rsortedKVsB req.context

theorem sortedStoreB_sound (es : Entities) (h : sortedStoreB es = true) : SortedStore es := by
  intro u d hf
  have hm := Entities.find?_mem hf
  simp only [sortedStoreB, List.all_eq_true, Bool.and_eq_true] at h
  have := h (u, d) hm
  exact ⟨ksortedB_sound _ this.1, rsortedKVsB_sound _ this.2⟩

theorem sortedReqB_sound (req : Request) (h : sortedReqB req = true) : SortedReq req := by
  simp only [sortedReqB, Bool.and_eq_true] at h
  exact ⟨ksortedB_sound _ h.1, rsortedKVsB_sound _ h.2⟩

end Cedar.Manifest
