import CedarVerif.Cedar.PolicySet
/-
Evaluation commutes with slot substitution (induction over `Expr` with the mutual evaluator); the condition of the
substituted template is the substituted condition, so the authorizer sees each stored policy as its substituted static policy;
`check_binding` holds iff exactly the template's slots are bound.
-/
namespace Cedar

mutual
theorem eval_subst (req : Request) (es : Entities) (env : SlotEnv) :
    (e : Expr) → evaluate req es env e = evaluate req es [] (Expr.subst env e)
  | .lit _ | .unknown _ _ => rfl
  | .var v => by cases v <;> rfl
  | .slot s => by
    unfold Expr.subst evaluate
    cases List.lookup s env <;> rfl
  | .ite c t e => by
    unfold Expr.subst evaluate
    rw [eval_subst req es env c, eval_subst req es env t, eval_subst req es env e]
  | .and a b | .or a b | .binaryApp _ a b => by
    unfold Expr.subst evaluate
    rw [eval_subst req es env a, eval_subst req es env b]
  | .unaryApp _ a | .getAttr a _ | .hasAttr a _ | .like a _ | .is a _ => by
    unfold Expr.subst evaluate
    rw [eval_subst req es env a]
  | .call _ xs | .set xs => by
    unfold Expr.subst evaluate
    rw [evalList_subst req es env xs]
  | .record kvs => by
    unfold Expr.subst evaluate
    rw [evalKVs_subst req es env kvs]
termination_by structural e => e
theorem evalList_subst (req : Request) (es : Entities) (env : SlotEnv) :
    (xs : List Expr) → evaluateList req es env xs = evaluateList req es [] (Expr.substList env xs)
  | [] => rfl
  | x :: xs => by
    unfold Expr.substList evaluateList
    rw [eval_subst req es env x, evalList_subst req es env xs]
termination_by structural xs => xs
theorem evalKVs_subst (req : Request) (es : Entities) (env : SlotEnv) :
    (kvs : List (String × Expr)) → evaluateKVs req es env kvs = evaluateKVs req es [] (Expr.substKVs env kvs)
  | [] => rfl
  | (k, x) :: xs => by
    unfold Expr.substKVs evaluateKVs
    rw [eval_subst req es env x, evalKVs_subst req es env xs]
termination_by structural kvs => kvs
end


mutual
theorem subst_noSlots (env : SlotEnv) : (e : Expr) → e.slots = [] → Expr.subst env e = e
  | .lit _, _ | .var _, _ | .unknown _ _, _ => rfl
  | .slot s, h => by cases h
  | .ite c t e, h => by
    unfold Expr.slots at h
    simp only [List.append_eq_nil_iff] at h
    unfold Expr.subst
    rw [subst_noSlots env c h.1.1, subst_noSlots env t h.1.2, subst_noSlots env e h.2]
  | .and a b, h | .or a b, h | .binaryApp _ a b, h => by
    unfold Expr.slots at h
    rw [List.append_eq_nil_iff] at h
    unfold Expr.subst
    rw [subst_noSlots env a h.1, subst_noSlots env b h.2]
  | .unaryApp _ a, h | .getAttr a _, h | .hasAttr a _, h | .like a _, h | .is a _, h => by
    unfold Expr.subst
    rw [subst_noSlots env a h]
  | .call _ xs, h | .set xs, h => by
    unfold Expr.subst
    rw [substList_noSlots env xs h]
  | .record kvs, h => by
    unfold Expr.subst
    rw [substKVs_noSlots env kvs h]
termination_by structural e => e
theorem substList_noSlots (env : SlotEnv) : (xs : List Expr) → Expr.slotsList xs = [] → Expr.substList env xs = xs
  | [], _ => rfl
  | x :: xs, h => by
    unfold Expr.slotsList at h
    rw [List.append_eq_nil_iff] at h
    unfold Expr.substList
    rw [subst_noSlots env x h.1, substList_noSlots env xs h.2]
termination_by structural xs => xs
theorem substKVs_noSlots (env : SlotEnv) : (kvs : List (String × Expr)) → Expr.slotsKVs kvs = [] → Expr.substKVs env kvs = kvs
  | [], _ => rfl
  | (k, x) :: xs, h => by
    unfold Expr.slotsKVs at h
    rw [List.append_eq_nil_iff] at h
    unfold Expr.substKVs
    rw [subst_noSlots env x h.1, substKVs_noSlots env xs h.2]
termination_by structural kvs => kvs
end

theorem toEnv_lookup (v : SlotVals) (s : SlotId) : List.lookup s v.toEnv = v.get s := by
  obtain ⟨p, r⟩ := v
  cases s <;> cases p <;> cases r <;> rfl

theorem substList_lits (env : SlotEnv) (us : List EntityUID) :
    Expr.substList env (us.map (fun u => Expr.lit (.entityUID u))) = us.map (fun u => Expr.lit (.entityUID u)) := by
  induction us with
  | nil => rfl
  | cons u us ih => simp only [List.map_cons, Expr.substList, Expr.subst, ih]

theorem subst_ref (env : SlotEnv) (r : EntityRef) (s : SlotId) :
    Expr.subst env (r.toExpr s) = (r.fill (List.lookup s env)).toExpr s := by
  cases r with
  | euid u => cases h : List.lookup s env <;> simp [EntityRef.toExpr, EntityRef.fill, Expr.subst]
  | slot => cases h : List.lookup s env <;> simp [EntityRef.toExpr, EntityRef.fill, Expr.subst, h]

theorem subst_scope (env : SlotEnv) (c : ScopeC) (v : Var) (s : SlotId) :
    Expr.subst env (c.toExpr v s) = (c.fill (List.lookup s env)).toExpr v s := by
  cases c <;> simp [ScopeC.toExpr, ScopeC.fill, Expr.subst, subst_ref]

theorem subst_action (env : SlotEnv) (c : ActionC) : Expr.subst env c.toExpr = c.toExpr := by
  cases c <;> simp [ActionC.toExpr, Expr.subst, substList_lits]

theorem asBoolLit_subst (env : SlotEnv) (e : Expr) : (Expr.subst env e).asBoolLit = e.asBoolLit := by
  cases e with
  | slot s =>
    unfold Expr.subst
    cases List.lookup s env <;> rfl
  | _ => rfl

theorem subst_mkAnd (env : SlotEnv) (a b : Expr) :
    Expr.subst env (mkAnd a b) = mkAnd (Expr.subst env a) (Expr.subst env b) := by
  unfold mkAnd
  rw [asBoolLit_subst, asBoolLit_subst]
  cases a.asBoolLit <;> cases b.asBoolLit <;> simp [Expr.subst]

theorem substitute_condition (t : Template) (vals : SlotVals) (newId : String) :
    (t.substitute vals newId).condition = Expr.subst vals.toEnv t.condition := by
  unfold Template.substitute Template.condition TemplateBody.condition
  simp only [subst_mkAnd, subst_scope, subst_action, toEnv_lookup, SlotVals.get]
  cases t.body.nonScope <;> simp [Expr.subst]

/-- the static policy a stored policy stands for: its template with the slots replaced by the linked entities -/
def TPolicy.substituted (p : TPolicy) : Policy :=
  { id := p.id, effect := (p.template.substitute p.values p.id).effect,
    condition := (p.template.substitute p.values p.id).condition, env := [] }

theorem TPolicy.outcome_substituted (p : TPolicy) (req : Request) (es : Entities) :
    p.toPolicy.outcome req es = p.substituted.outcome req es := by
  unfold Policy.outcome TPolicy.toPolicy TPolicy.substituted
  simp only
  rw [substitute_condition, ← eval_subst]

theorem SlotVals.mem_keys (v : SlotVals) (s : SlotId) : s ∈ v.keys ↔ (v.get s).isSome = true := by
  obtain ⟨p, r⟩ := v
  cases s <;> cases p <;> cases r <;> simp [SlotVals.keys, SlotVals.get]

theorem checkBinding_iff (t : Template) (vals : SlotVals) :
    t.checkBinding vals = true ↔ ∀ s : SlotId, s ∈ t.slots ↔ (vals.get s).isSome = true := by
  unfold Template.checkBinding
  simp only [Bool.and_eq_true, List.isEmpty_iff, List.filter_eq_nil_iff, SlotVals.mem_keys, Bool.not_eq_true',
    Bool.not_eq_false, List.any_eq_true, beq_iff_eq, exists_eq_right, Option.isNone_iff_eq_none, ← Option.isSome_iff_ne_none]
  exact ⟨fun h s => ⟨h.1 s, h.2 s⟩, fun h => ⟨fun s => (h s).mp, fun s => (h s).mpr⟩⟩

end Cedar
