import CedarVerif.Lemmas.TpeArmOut
/- C14: `TypeSafe` — "no node of the residual raises a *type* error on this completion" (what validation of the typed
   expression gives, C03; guarded by short-circuiting exactly like the capabilities of the typechecker).  On type-safe residuals
   the can-error analysis `can_error_assuming_well_formed` is sound, and `interpret` is sound and returns a type-safe residual:
   the guarded arms `&&`, `||`, `if` by hand, every other arm through `ArmOut`. -/
namespace Cedar.Tpe
open Cedar

section
variable (req : Request) (es : Entities)

/-- **dynamic type safety of a residual on a request / store**: at every node the operand values (when the operands
evaluate) have the dynamic kind the operator demands, i.e. the operator application is not a *type* error.  The right
operand of `&&` (`||`) and the branches of `if` are only constrained when they are reached.  Shape conditions are stated
with the store-free parts of the evaluator (`applyBinary []`, `hasAttrV []`: whether an application is a type error does
not depend on the store).  Nothing is asked of `.`, `getTag`, arithmetic or extension calls beyond their operands
(the analysis declares them error-prone anyway). -/
inductive TypeSafe : Residual → Prop
  | concrete (v ty) : TypeSafe (.concrete v ty)
  | error (ty) : TypeSafe (.error ty)
  | var (x ty) : TypeSafe (.part (.var x) ty)
  | and {l r ty} : TypeSafe l → IsBoolR req es l → (EvB req es l true → TypeSafe r) → (EvB req es l true → IsBoolR req es r) →
      TypeSafe (.part (.and l r) ty)
  | or {l r ty} : TypeSafe l → IsBoolR req es l → (EvB req es l false → TypeSafe r) → (EvB req es l false → IsBoolR req es r) →
      TypeSafe (.part (.or l r) ty)
  | ite {c t e ty} : TypeSafe c → IsBoolR req es c → (EvB req es c true → TypeSafe t) → (EvB req es c false → TypeSafe e) →
      TypeSafe (.part (.ite c t e) ty)
  | unary {op a ty} : TypeSafe a → (∀ v, a.eval req es = .ok v → applyUnary op v ≠ .error .type) →
      TypeSafe (.part (.unaryApp op a) ty)
  | binary {op a b ty} : TypeSafe a → TypeSafe b →
      (∀ v1 v2, a.eval req es = .ok v1 → b.eval req es = .ok v2 → applyBinary [] op v1 v2 ≠ .error .type) →
      TypeSafe (.part (.binaryApp op a b) ty)
  | getAttr {e a ty} : TypeSafe e → TypeSafe (.part (.getAttr e a) ty)
  | hasAttr {e a ty} : TypeSafe e → (∀ v, e.eval req es = .ok v → hasAttrV [] a v ≠ .error .type) →
      TypeSafe (.part (.hasAttr e a) ty)
  | like {e p ty} : TypeSafe e → (∀ v, e.eval req es = .ok v → likeV p v ≠ .error .type) → TypeSafe (.part (.like e p) ty)
  | is {e ety ty} : TypeSafe e → (∀ v, e.eval req es = .ok v → isV ety v ≠ .error .type) → TypeSafe (.part (.is e ety) ty)
  | call {fn args ty} : (∀ r, r ∈ args → TypeSafe r) → TypeSafe (.part (.call fn args) ty)
  | set {xs ty} : (∀ r, r ∈ xs → TypeSafe r) → TypeSafe (.part (.set xs) ty)
  | record {kvs ty} : (∀ kv, kv ∈ kvs → TypeSafe kv.2) → TypeSafe (.part (.record kvs) ty)

variable {req es}

/-- `x` succeeds, or `y` is a type error.  With `y = x`: `x` has no other way to fail; with `x` over the store and `y` over
the empty store: the form the shape conditions of `TypeSafe` need.  Closed under `>>=` on a common first step. -/
def OkOrType {α β} (x : Result α) (y : Result β) : Prop := (∃ w, x = .ok w) ∨ y = .error .type

theorem OkOrType.ok {α β} {a : α} {y : Result β} : OkOrType (.ok a) y := Or.inl ⟨a, rfl⟩

theorem OkOrType.bind {α β γ} {x : Result α} (hx : OkOrType x x) {f : α → Result β} {g : α → Result γ}
    (h : ∀ a, OkOrType (f a) (g a)) : OkOrType (x >>= f) (x >>= g) := by
  rcases hx with ⟨a, rfl⟩ | rfl
  · exact h a
  · exact Or.inr rfl

theorem asBool_okOrType (v : Value) : OkOrType v.asBool v.asBool := by
  cases v with
  | prim p => cases p <;> first | exact .ok | exact Or.inr rfl
  | _ => exact Or.inr rfl

theorem asString_okOrType (v : Value) : OkOrType v.asString v.asString := by
  cases v with
  | prim p => cases p <;> first | exact .ok | exact Or.inr rfl
  | _ => exact Or.inr rfl

theorem asEntity_okOrType (v : Value) : OkOrType v.asEntity v.asEntity := by
  cases v with
  | prim p => cases p <;> first | exact .ok | exact Or.inr rfl
  | _ => exact Or.inr rfl

theorem asSet_okOrType (v : Value) : OkOrType v.asSet v.asSet := by
  cases v <;> first | exact .ok | exact Or.inr rfl

theorem asEntityList_okOrType (vs : List Value) : OkOrType (asEntityList vs) (asEntityList vs) := by
  induction vs with
  | nil => exact .ok
  | cons v vs ih => exact .bind (asEntity_okOrType v) fun _ => .bind ih fun _ => .ok

/-- the operators the analysis declares error-free can only fail with a type error -/
theorem applyUnary_ok_or_type (op : UnaryOp) (hop : op ≠ .neg) (v : Value) :
    OkOrType (applyUnary op v) (applyUnary op v) := by
  cases op with
  | neg => exact absurd rfl hop
  | not => exact .bind (asBool_okOrType v) fun _ => .ok
  | isEmpty => exact .bind (asSet_okOrType v) fun _ => .ok

def errProneOp : BinaryOp → Bool
  | .add | .sub | .mul | .getTag => true
  | _ => false

theorem applyCmp_ok_or_type (s : Bool) (v1 v2 : Value) : OkOrType (applyCmp s v1 v2) (applyCmp s v1 v2) := by
  unfold applyCmp
  simp only []
  split <;> first | exact .ok | exact Or.inr rfl

theorem applyBinary_ok_or_type (es : Entities) (op : BinaryOp) (hop : errProneOp op = false) (v1 v2 : Value) :
    OkOrType (applyBinary es op v1 v2) (applyBinary [] op v1 v2) := by
  cases op with
  | add | sub | mul | getTag => cases hop
  | eq => exact .ok
  | less => exact applyCmp_ok_or_type true v1 v2
  | lessEq => exact applyCmp_ok_or_type false v1 v2
  | contains => exact .bind (asSet_okOrType v1) fun _ => .ok
  | containsAll => exact .bind (asSet_okOrType v1) fun _ => .bind (asSet_okOrType v2) fun _ => .ok
  | containsAny => exact .bind (asSet_okOrType v1) fun _ => .bind (asSet_okOrType v2) fun _ => .ok
  | hasTag =>
    -- a missing entity has no tags: `false`, not an error
    refine .bind (asEntity_okOrType v1) fun u => .bind (asString_okOrType v2) fun _ => ?_
    cases es.find? u <;> exact .ok
  | mem =>
    refine .bind (asEntity_okOrType v1) fun u => ?_
    cases v2 with
    | prim p => cases p <;> first | exact .ok | exact Or.inr rfl
    | set vs => exact .bind (asEntityList_okOrType vs) fun _ => .ok
    | _ => exact Or.inr rfl

theorem hasAttrV_ok_or_type (es : Entities) (a : String) (v : Value) : OkOrType (hasAttrV es a v) (hasAttrV [] a v) := by
  cases v with
  | prim p =>
    cases p with
    | entityUID u => simp only [hasAttrV]; cases es.find? u <;> exact .ok
    | _ => exact Or.inr rfl
  | record kvs => exact .ok
  | _ => exact Or.inr rfl

theorem likeV_ok_or_type (p : Pattern) (v : Value) : OkOrType (likeV p v) (likeV p v) := by
  unfold likeV
  rcases asString_okOrType v with ⟨s, h⟩ | h <;> rw [h]
  · exact .ok
  · exact Or.inr rfl

theorem isV_ok_or_type (ty : EntityType) (v : Value) : OkOrType (isV ty v) (isV ty v) := by
  unfold isV
  rcases asEntity_okOrType v with ⟨s, h⟩ | h <;> rw [h]
  · exact .ok
  · exact Or.inr rfl

theorem evalList_ok_of_all {xs : List Residual}
    (h : ∀ r, r ∈ xs → r.canError = false → ∃ v, r.eval req es = .ok v) (hc : Residual.canErrorList xs = false) :
    ∃ vs, Residual.evalList req es xs = .ok vs := by
  induction xs with
  | nil => exact ⟨[], rfl⟩
  | cons a l ih =>
    simp only [Residual.canErrorList, Bool.or_eq_false_iff] at hc
    obtain ⟨v, hv⟩ := h a (by simp) hc.1
    obtain ⟨vs, hvs⟩ := ih (fun r hr => h r (by simp [hr])) hc.2
    exact ⟨v :: vs, by simp [Residual.evalList, hv, hvs]⟩

theorem evalKVs_ok_of_all {xs : List (String × Residual)}
    (h : ∀ kv, kv ∈ xs → kv.2.canError = false → ∃ v, kv.2.eval req es = .ok v) (hc : Residual.canErrorKVs xs = false) :
    ∃ vs, Residual.evalKVs req es xs = .ok vs := by
  induction xs with
  | nil => exact ⟨[], rfl⟩
  | cons a l ih =>
    obtain ⟨k, r⟩ := a
    simp only [Residual.canErrorKVs, Bool.or_eq_false_iff] at hc
    obtain ⟨v, hv⟩ := h (k, r) (by simp) hc.1
    obtain ⟨vs, hvs⟩ := ih (fun kv hkv => h kv (by simp [hkv])) hc.2
    exact ⟨(k, v) :: vs, by simp [Residual.evalKVs, hv, hvs]⟩

theorem canError_unary {op : UnaryOp} {a : Residual} {ty : Ty} (h : (Residual.part (.unaryApp op a) ty).canError = false) :
    op ≠ .neg ∧ a.canError = false := by
  rw [Residual.canError] at h
  cases op <;> simp only [RKind.canError, reduceCtorEq] at h <;> exact ⟨nofun, h⟩

theorem canError_binary {op : BinaryOp} {a b : Residual} {ty : Ty}
    (h : (Residual.part (.binaryApp op a b) ty).canError = false) :
    errProneOp op = false ∧ a.canError = false ∧ b.canError = false := by
  rw [Residual.canError] at h
  cases op <;> simp only [RKind.canError, Bool.or_eq_false_iff, reduceCtorEq] at h <;> exact ⟨rfl, h⟩

/-- **the can-error analysis is sound for type-safe residuals**: what `can_error_assuming_well_formed` declares
error-free (variables, literals, `&&` `||` `if` `!` `isEmpty` `==` `<` `<=` `in` `contains*` `hasTag` `has` `like` `is`, set and
record constructors — over error-free operands) evaluates on every request / store on which no node is a type error:
none of these operators has another way to fail (a missing entity makes `has` / `hasTag` / `in` false, not an error). -/
theorem typeSafe_errFree {r : Residual} (h : TypeSafe req es r) : r.canError = false → ∃ v, r.eval req es = .ok v := by
  induction h with
  | concrete v ty => intro _; exact ⟨v, rfl⟩
  | error ty => intro hc; simp [Residual.canError] at hc
  | var x ty => intro _; cases x <;> exact ⟨_, rfl⟩
  | @and l r ty _ hbl _ hbr ihl ihr =>
    intro hc
    simp only [Residual.canError, RKind.canError, Bool.or_eq_false_iff] at hc
    obtain ⟨v, hv⟩ := ihl hc.1
    obtain ⟨b, rfl⟩ := hbl v hv
    simp only [Residual.eval, RKind.eval, hv]
    cases b
    · exact ⟨_, rfl⟩
    · obtain ⟨w, hw⟩ := ihr hv hc.2
      obtain ⟨b', rfl⟩ := hbr hv w hw
      rw [hw]; exact ⟨_, rfl⟩
  | @or l r ty _ hbl _ hbr ihl ihr =>
    intro hc
    simp only [Residual.canError, RKind.canError, Bool.or_eq_false_iff] at hc
    obtain ⟨v, hv⟩ := ihl hc.1
    obtain ⟨b, rfl⟩ := hbl v hv
    simp only [Residual.eval, RKind.eval, hv]
    cases b
    · obtain ⟨w, hw⟩ := ihr hv hc.2
      obtain ⟨b', rfl⟩ := hbr hv w hw
      rw [hw]; exact ⟨_, rfl⟩
    · exact ⟨_, rfl⟩
  | @ite c t e ty _ hbc _ _ ihc iht ihe =>
    intro hc
    simp only [Residual.canError, RKind.canError, Bool.or_eq_false_iff] at hc
    obtain ⟨v, hv⟩ := ihc hc.1.1
    obtain ⟨b, rfl⟩ := hbc v hv
    simp only [Residual.eval, RKind.eval, hv]
    cases b
    · obtain ⟨w, hw⟩ := ihe hv hc.2
      exact ⟨w, by simp [iteR, asBool_bool, hw]⟩
    · obtain ⟨w, hw⟩ := iht hv hc.1.2
      exact ⟨w, by simp [iteR, asBool_bool, hw]⟩
  | @unary op a ty _ hsh ih =>
    intro hc
    obtain ⟨hop, hca⟩ := canError_unary hc
    obtain ⟨v, hv⟩ := ih hca
    simp only [Residual.eval, RKind.eval, hv, bindR]
    exact (applyUnary_ok_or_type op hop v).resolve_right (hsh v hv)
  | @binary op a b ty _ _ hsh iha ihb =>
    intro hc
    obtain ⟨hop, hca, hcb⟩ := canError_binary hc
    obtain ⟨v1, hv1⟩ := iha hca
    obtain ⟨v2, hv2⟩ := ihb hcb
    simp only [Residual.eval, RKind.eval, hv1, hv2, bindR]
    exact (applyBinary_ok_or_type es op hop v1 v2).resolve_right (hsh v1 v2 hv1 hv2)
  | @getAttr e a ty _ _ => intro hc; simp [Residual.canError, RKind.canError] at hc
  | @hasAttr e a ty _ hsh ih =>
    intro hc
    obtain ⟨v, hv⟩ := ih (by simpa [Residual.canError, RKind.canError] using hc)
    simp only [Residual.eval, RKind.eval, hv, bindR]
    rcases hasAttrV_ok_or_type es a v with h | h
    · exact h
    · exact absurd h (hsh v hv)
  | @like e p ty _ hsh ih =>
    intro hc
    obtain ⟨v, hv⟩ := ih (by simpa [Residual.canError, RKind.canError] using hc)
    simp only [Residual.eval, RKind.eval, hv, bindR]
    rcases likeV_ok_or_type p v with h | h
    · exact h
    · exact absurd h (hsh v hv)
  | @is e ety ty _ hsh ih =>
    intro hc
    obtain ⟨v, hv⟩ := ih (by simpa [Residual.canError, RKind.canError] using hc)
    simp only [Residual.eval, RKind.eval, hv, bindR]
    rcases isV_ok_or_type ety v with h | h
    · exact h
    · exact absurd h (hsh v hv)
  | @call fn args ty _ _ => intro hc; simp [Residual.canError, RKind.canError] at hc
  | @set xs ty _ ih =>
    intro hc
    obtain ⟨vs, hvs⟩ := evalList_ok_of_all ih (by simpa [Residual.canError, RKind.canError] using hc)
    simp only [Residual.eval, RKind.eval, hvs]; exact ⟨_, rfl⟩
  | @record kvs ty _ ih =>
    intro hc
    obtain ⟨vs, hvs⟩ := evalKVs_ok_of_all ih (by simpa [Residual.canError, RKind.canError] using hc)
    simp only [Residual.eval, RKind.eval, hvs]; exact ⟨_, rfl⟩

end

variable {preq : PRequest} {pes : PEntities} {req : Request} {es : Entities}

theorem ok_of_agree {A a : Residual} (h : Agree (A.eval req es) (a.eval req es)) {v : Value} (hv : A.eval req es = .ok v) :
    a.eval req es = .ok v := by
  rw [hv] at h; exact agree_ok_left h

theorem isBoolR_of_agree {A a : Residual} (h : Agree (A.eval req es) (a.eval req es)) (hb : IsBoolR req es a) :
    IsBoolR req es A := fun v hv => hb v (ok_of_agree h hv)

theorem evB_of_agree {A a : Residual} (h : Agree (A.eval req es) (a.eval req es)) {b : Bool} (hA : EvB req es A b) :
    EvB req es a b := ok_of_agree h hA

theorem isBoolR_mkBool (b : Bool) (ty : Ty) : IsBoolR req es (mkBool b ty) := by
  intro v hv; simp only [mkBool, Residual.eval, Except.ok.injEq] at hv; exact ⟨b, hv.symm⟩

theorem isBoolR_error (ty : Ty) : IsBoolR req es (.error ty) := by
  intro v hv; simp [Residual.eval] at hv

theorem shortResult_ts (s : Bool) (ty : Ty) {L R : Residual} (tsL : TypeSafe req es L) (hbL : IsBoolR req es L)
    (fromR : EvB req es L (!s) → TypeSafe req es R ∧ IsBoolR req es R) : TypeSafe req es (shortResult s ty L R) := by
  have mk : ∀ R' : Residual, (EvB req es L (!s) → TypeSafe req es R' ∧ IsBoolR req es R') →
      TypeSafe req es (.part (shortK s L R') ty) := fun R' h => by
    cases s
    · exact .and tsL hbL (fun hL => (h hL).1) (fun hL => (h hL).2)
    · exact .or tsL hbL (fun hL => (h hL).1) (fun hL => (h hL).2)
  cases L with
  | concrete v t =>
    simp only [shortResult]
    cases hv : v.asBool with
    | error e => exact .error _
    | ok b =>
      obtain rfl := asBool_ok hv
      simp only
      split
      · exact .concrete _ _
      · rename_i hbs
        obtain rfl : b = !s := Bool.eq_not_of_ne hbs
        exact (fromR rfl).1
  | error t => exact .error _
  | part lk lt =>
    cases R with
    | concrete w t =>
      simp only [shortResult]
      cases hw : w.asBool with
      | error e => exact mk _ (fun _ => ⟨.error _, isBoolR_error _⟩)
      | ok b =>
        simp only
        split
        · split
          · exact .concrete _ _
          · exact mk _ (fun _ => ⟨.concrete _ _, isBoolR_mkBool _ _⟩)
        · exact tsL
    | part rk rt => exact mk _ fromR
    | error t => exact mk _ fromR

theorem iteResult_ts (ty : Ty) {C T E : Residual} (tsC : TypeSafe req es C) (hbC : IsBoolR req es C)
    (ht : EvB req es C true → TypeSafe req es T) (he : EvB req es C false → TypeSafe req es E) :
    TypeSafe req es (iteResult ty C T E) := by
  cases C with
  | concrete v t' =>
    simp only [iteResult]
    cases hv : v.asBool with
    | error e => exact .error _
    | ok b =>
      obtain rfl := asBool_ok hv
      cases b
      · exact he rfl
      · exact ht rfl
  | error t' => exact .error _
  | part ck ct => exact .ite tsC hbC ht he

theorem typeSafe_of_armOut (preq : PRequest) (pes : PEntities) {ops : List Residual} {N : RKind → Prop} {ty : Ty} {res : Residual}
    (h : ArmOut preq pes ops N ty res) (hops : ∀ o, o ∈ ops → TypeSafe req es o)
    (hN : ∀ k, N k → TypeSafe req es (.part k ty)) : TypeSafe req es res := by
  cases h with
  | operand ho => exact hops _ ho
  | error => exact .error _
  | value _ => exact .concrete _ _
  | openVar _ => exact .var _ _
  | rebuilt hn _ _ _ _ => exact hN _ hn

theorem interpret_typeSafe (hC : Completes preq pes req es) {r : Residual} (h : TypeSafe req es r) :
    Agree ((interpret preq pes r).eval req es) (r.eval req es) ∧ TypeSafe req es (interpret preq pes r) := by
  induction h with
  | concrete v ty => exact ⟨Agree.rfl' _, .concrete _ _⟩
  | error ty => exact ⟨Agree.rfl' _, .error _⟩
  | var x ty =>
    rw [interpret]
    refine ⟨sound_var hC x ty, ?_⟩
    cases x
    · rw [interpretKind]; cases preq.principal.uid? <;> first | exact .concrete _ _ | exact .var _ _
    · rw [interpretKind]; exact .concrete _ _
    · rw [interpretKind]; cases preq.resource.uid? <;> first | exact .concrete _ _ | exact .var _ _
    · rw [interpretKind]; cases preq.context <;> first | exact .concrete _ _ | exact .var _ _
  | @and l r ty _ hbl _ hbr ihl ihr =>
    rw [interpret, interpretKind_and]
    have hbL := isBoolR_of_agree ihl.1 hbl
    have hR : EvB req es (interpret preq pes l) true →
        TypeSafe req es (interpret preq pes r) ∧ IsBoolR req es (interpret preq pes r) := fun hL =>
      have ht := evB_of_agree ihl.1 hL
      ⟨(ihr ht).2, isBoolR_of_agree (ihr ht).1 (hbr ht)⟩
    exact ⟨agree_trans (shortResult_eval false ty _ _ hbL (fun hL => (hR hL).2) (typeSafe_errFree ihl.2))
      (andR_congr' ihl.1 fun ht => (ihr ht).1), shortResult_ts false ty ihl.2 hbL hR⟩
  | @or l r ty _ hbl _ hbr ihl ihr =>
    rw [interpret, interpretKind_or]
    have hbL := isBoolR_of_agree ihl.1 hbl
    have hR : EvB req es (interpret preq pes l) false →
        TypeSafe req es (interpret preq pes r) ∧ IsBoolR req es (interpret preq pes r) := fun hL =>
      have ht := evB_of_agree ihl.1 hL
      ⟨(ihr ht).2, isBoolR_of_agree (ihr ht).1 (hbr ht)⟩
    exact ⟨agree_trans (shortResult_eval true ty _ _ hbL (fun hL => (hR hL).2) (typeSafe_errFree ihl.2))
      (orR_congr' ihl.1 fun ht => (ihr ht).1), shortResult_ts true ty ihl.2 hbL hR⟩
  | @ite c t e ty _ hbc _ _ ihc iht ihe =>
    rw [interpret, interpretKind_ite]
    exact ⟨agree_trans (iteResult_eval ty _ _ _) (iteR_congr' ihc.1 (fun h => (iht h).1) fun h => (ihe h).1),
      iteResult_ts ty ihc.2 (isBoolR_of_agree ihc.1 hbc) (fun h => (iht (evB_of_agree ihc.1 h)).2)
        fun h => (ihe (evB_of_agree ihc.1 h)).2⟩
  | @unary op a ty _ hsh ih =>
    rw [interpret, interpretKind_unary]
    exact ⟨agree_trans (unaryResult_eval ty op _) (bindR_congr _ ih.1),
      typeSafe_of_armOut preq pes (unaryResult_out op _) (by simpa using ih.2) fun _ hk =>
        hk ▸ .unary ih.2 fun v hv => hsh v (ok_of_agree ih.1 hv)⟩
  | @binary op a b ty _ _ hsh iha ihb =>
    rw [interpret, interpretKind_binary]
    exact ⟨agree_trans (binaryResult_eval hC ty op _ _) (bindR_congr2 _ iha.1 ihb.1),
      typeSafe_of_armOut preq pes (binaryResult_out op _ _) (by simpa using ⟨iha.2, ihb.2⟩) fun _ hk =>
        hk ▸ .binary iha.2 ihb.2 fun v1 v2 h1 h2 => hsh v1 v2 (ok_of_agree iha.1 h1) (ok_of_agree ihb.1 h2)⟩
  | @getAttr e a ty _ ih =>
    rw [interpret, interpretKind_getAttr]
    exact ⟨agree_trans (getAttrResult_eval hC ty a _) (bindR_congr _ ih.1),
      typeSafe_of_armOut preq pes (getAttrResult_out a _) (by simpa using ih.2) fun _ hk => hk ▸ .getAttr ih.2⟩
  | @hasAttr e a ty _ hsh ih =>
    rw [interpret, interpretKind_hasAttr]
    exact ⟨agree_trans (hasAttrResult_eval hC ty a _) (bindR_congr _ ih.1),
      typeSafe_of_armOut preq pes (hasAttrResult_out a _) (by simpa using ih.2) fun _ hk =>
        hk ▸ .hasAttr ih.2 fun v hv => hsh v (ok_of_agree ih.1 hv)⟩
  | @like e p ty _ hsh ih =>
    rw [interpret, interpretKind_like]
    exact ⟨agree_trans (likeResult_eval ty p _) (bindR_congr _ ih.1),
      typeSafe_of_armOut preq pes (likeResult_out p _) (by simpa using ih.2) fun _ hk =>
        hk ▸ .like ih.2 fun v hv => hsh v (ok_of_agree ih.1 hv)⟩
  | @is e ety ty _ hsh ih =>
    rw [interpret, interpretKind_is]
    exact ⟨agree_trans (isResult_eval hC ty ety _) (bindR_congr _ ih.1),
      typeSafe_of_armOut preq pes (isResult_out ety _) (by simpa using ih.2) fun _ hk =>
        hk ▸ .is ih.2 fun v hv => hsh v (ok_of_agree ih.1 hv)⟩
  | @call fn args ty _ ih =>
    rw [interpret, interpretKind_call, Residual.eval, eval_call]
    refine ⟨agree_trans (listResult_eval ty _ _ _ _ (fun _ => agree_ofResult ty req es _) (fun rs => eval_call fn rs))
      (listR_congr _ (evalList_interp args fun r hr => (ih r hr).1)), ?_⟩
    have hall : ∀ r', r' ∈ interpretList preq pes args → TypeSafe req es r' := fun r' hr' => by
      obtain ⟨r, hr, rfl⟩ := mem_interpretList hr'; exact (ih r hr).2
    exact typeSafe_of_armOut preq pes (callResult_out fn _) hall fun _ hk => hk ▸ .call hall
  | @set xs ty _ ih =>
    rw [interpret, interpretKind_set, Residual.eval, eval_set]
    refine ⟨agree_trans (listResult_eval ty _ _ _ _ (fun _ => Agree.rfl' _) (fun rs => eval_set rs))
      (listR_congr _ (evalList_interp xs fun r hr => (ih r hr).1)), ?_⟩
    have hall : ∀ r', r' ∈ interpretList preq pes xs → TypeSafe req es r' := fun r' hr' => by
      obtain ⟨r, hr, rfl⟩ := mem_interpretList hr'; exact (ih r hr).2
    exact typeSafe_of_armOut preq pes (setResult_out _) hall fun _ hk => hk ▸ .set hall
  | @record kvs ty _ ih =>
    rw [interpret, interpretKind_record, Residual.eval, eval_record]
    refine ⟨agree_trans (recordResult_eval ty _) (listR_congr _ (evalKVs_interp kvs fun kv hkv => (ih kv hkv).1)), ?_⟩
    have hall : ∀ kv', kv' ∈ interpretKVs preq pes kvs → TypeSafe req es kv'.2 := fun kv' hkv' => by
      obtain ⟨kv, hkv, heq⟩ := mem_interpretKVs hkv'; rw [heq]; exact (ih kv hkv).2
    refine typeSafe_of_armOut preq pes (recordResult_out _) (fun o ho => ?_) fun _ hk => hk ▸ .record hall
    obtain ⟨kv', hkv', rfl⟩ := List.mem_map.mp ho
    exact hall kv' hkv'

end Cedar.Tpe
