import CedarVerif.Lemmas.TpeBridge
import CedarVerif.Lemmas.TpeTypeSafe
import CedarVerif.Lemmas.TpeTable
/- C14 / C15: the semantic hypotheses about the typed conditions; the class read off a residual is the outcome of the original
   policy on every completion; the permission queries, whose partial inputs are completed by every candidate request over the
   same store. -/
namespace Cedar.Tpe
open Cedar

/-- the typed conditions are dynamically type-safe on the request and the store (what validation gives, C03) -/
def TypedSafe (q : Request) (es : Entities) (tps : List TPolicy) : Prop :=
  ∀ tp, tp ∈ tps → ∀ r0, Residual.ofExpr tp.typed = some r0 → TypeSafe q es r0

theorem cls_consistent_of_agree {q q' : Request} {E es : Entities} {r : Residual} {p : Policy}
    (h : Agree (r.eval q E) (evaluate q' es p.env p.condition)) : r.cls.Consistent (p.outcome q' es) := by
  cases r with
  | part k ty => exact True.intro
  | error ty =>
    obtain ⟨e', he'⟩ := agree_err_left h
    show Policy.outcome p q' es = .err
    rw [Policy.outcome, he']
  | concrete v ty =>
    have hx : evaluate q' es p.env p.condition = .ok v := agree_ok_left h
    cases v with
    | prim pr =>
      cases pr with
      | bool b => cases b <;> (show Policy.outcome p q' es = _; rw [Policy.outcome, hx]; rfl)
      | _ => exact True.intro
    | _ => exact True.intro

/-- the typed condition of every policy evaluates like the condition of the policy (the typechecker only annotates and
    prunes statically decided operands) -/
def TypedAgrees (q : Request) (es : Entities) (tps : List TPolicy) : Prop :=
  ∀ tp, tp ∈ tps → Agree (evaluate q es [] tp.typed) (evaluate q es tp.policy.env tp.policy.condition)

/-- policy conditions are boolean-valued when they evaluate (validation: C03 `strict_validation_sound_static`) -/
def _root_.Cedar.Batched.CondsBool (q : Request) (es : Entities) (tps : List TPolicy) : Prop :=
  ∀ tp, tp ∈ tps → ∀ v, evaluate q es tp.policy.env tp.policy.condition = .ok v → ∃ b, v = .prim (.bool b)

theorem isAuthorized_consistent {preq : PRequest} {pes : PEntities} {req : Request} {es : Entities} {tps : List TPolicy}
    {resp : Response} (hC : Completes preq pes req es) (hT : TypedSafe req es tps) (hE : TypedAgrees req es tps)
    (h : isAuthorized preq pes tps = some resp) :
    ∀ rp, rp ∈ resp.residuals → rp.residual.cls.Consistent (rp.original.outcome req es) := by
  intro rp hrp
  obtain ⟨tp, htp, hf⟩ := (mapM?_spec (isAuthorized_some h)).2 rp hrp
  obtain ⟨r0, ho, rfl⟩ := residualPolicyOf_some hf
  have h1 := (interpret_typeSafe hC (hT tp htp r0 ho)).1
  rw [ofExpr_eval tp.typed r0 ho] at h1
  exact cls_consistent_of_agree (agree_trans h1 (hE tp htp))

theorem mem_candidates {es : Entities} {ty : EntityType} {u : EntityUID} :
    u ∈ candidates es ty ↔ ∃ d, (u, d) ∈ es ∧ u.ty = ty := by
  simp only [candidates, List.mem_map, List.mem_filter, beq_iff_eq]
  constructor
  · rintro ⟨⟨u', d⟩, ⟨hm, ht⟩, rfl⟩; exact ⟨d, hm, ht⟩
  · rintro ⟨d, hm, ht⟩; exact ⟨(u, d), ⟨hm, ht⟩, rfl⟩

theorem candidates_ty {es : Entities} {ty : EntityType} {u : EntityUID} (h : u ∈ candidates es ty) : u.ty = ty := by
  obtain ⟨_, _, ht⟩ := mem_candidates.mp h
  exact ht

/-- the three arms `query_resource` and `query_principal` share: on a definite TPE decision all candidates or none,
    otherwise the candidates a concrete authorization allows -/
def queryArms (d : Option Decision) (cands : List EntityUID) (allowed : EntityUID → Bool) : List EntityUID :=
  match d with
  | some .allow => cands
  | some .deny => []
  | none => cands.filter allowed

theorem mem_queryArms {d : Option Decision} {cands : List EntityUID} {concrete : EntityUID → Decision}
    (hsound : ∀ d', d = some d' → ∀ u, u ∈ cands → concrete u = d') (u : EntityUID) :
    u ∈ queryArms d cands (fun u => concrete u == .allow) ↔ u ∈ cands ∧ concrete u = .allow := by
  cases d with
  | none => exact List.mem_filter.trans (and_congr_right fun _ => beq_iff_eq)
  | some d =>
    cases d
    · exact ⟨fun hu => ⟨hu, hsound _ rfl u hu⟩, fun hu => hu.1⟩
    · exact ⟨(nomatch ·), fun hu => nomatch (hsound _ rfl u hu.1).symm.trans hu.2⟩

/-- `query_resource` and `query_principal` are one `match`: TPE on the partial request, then `queryArms` over the candidates, each
    re-authorized as the request `mk u` -/
theorem query_some {preq : PRequest} {pes : PEntities} {tps : List TPolicy} {cands : List EntityUID} {mk : EntityUID → Request}
    {es : Entities} {us : List EntityUID}
    (h : (match isAuthorized preq pes tps with
      | none => none
      | some resp =>
        match resp.decision with
        | some .allow => some cands
        | some .deny => some []
        | none => some (cands.filter (fun u => (Cedar.isAuthorized (mk u) es resp.policySet).decision == .allow))) = some us) :
    ∃ resp, isAuthorized preq pes tps = some resp ∧
      us = queryArms resp.decision cands (fun u => (Cedar.isAuthorized (mk u) es (tps.map (·.policy))).decision == .allow) := by
  cases hr : isAuthorized preq pes tps with
  | none => simp only [hr, reduceCtorEq] at h
  | some resp =>
    simp only [hr, isAuthorized_policySet hr] at h
    refine ⟨resp, rfl, ?_⟩
    unfold queryArms
    cases hd : resp.decision with
    | none => simp only [hd, Option.some.injEq] at h; exact h.symm
    | some d => cases d <;> (simp only [hd, Option.some.injEq] at h; exact h.symm)

theorem queryResource_some {tps : List TPolicy} {principal action : EntityUID} {rty : EntityType}
    {ctx : List (String × Value)} {es : Entities} {us : List EntityUID}
    (h : queryResource tps principal action rty ctx es = some us) :
    ∃ resp, isAuthorized ⟨⟨principal.ty, some principal.eid⟩, action, ⟨rty, none⟩, some ctx⟩ (PEntities.ofConcrete es) tps =
        some resp ∧
      us = queryArms resp.decision (candidates es rty)
        (fun u => (Cedar.isAuthorized ⟨principal, action, u, ctx⟩ es (tps.map (·.policy))).decision == .allow) :=
  query_some (mk := fun u => ⟨principal, action, u, ctx⟩) h

theorem queryPrincipal_some {tps : List TPolicy} {pty : EntityType} {action resource : EntityUID}
    {ctx : List (String × Value)} {es : Entities} {us : List EntityUID}
    (h : queryPrincipal tps pty action resource ctx es = some us) :
    ∃ resp, isAuthorized ⟨⟨pty, none⟩, action, ⟨resource.ty, some resource.eid⟩, some ctx⟩ (PEntities.ofConcrete es) tps =
        some resp ∧
      us = queryArms resp.decision (candidates es pty)
        (fun u => (Cedar.isAuthorized ⟨u, action, resource, ctx⟩ es (tps.map (·.policy))).decision == .allow) :=
  query_some (mk := fun u => ⟨u, action, resource, ctx⟩) h

theorem ofConcrete_find? (es : Entities) (u : EntityUID) :
    (PEntities.ofConcrete es).find? u =
      (es.find? u).map (fun d => { attrs := some d.attrs, ancestors := some d.ancestors, tags := some d.tags }) := by
  rw [PEntities.find?_eq_assoc, Entities.find?_eq_assoc]
  exact assoc?_map (fun _ d => (⟨some d.attrs, some d.ancestors, some d.tags⟩ : PEntity)) es u

theorem ofConcrete_component {es : Entities} {u : EntityUID} {α} {f : PEntity → Option α} {g : EntityData → α} {a : α}
    (hfg : ∀ d : EntityData, f { attrs := some d.attrs, ancestors := some d.ancestors, tags := some d.tags } = some (g d))
    (h : ((PEntities.ofConcrete es).find? u).bind f = some a) : ∃ d, es.find? u = some d ∧ g d = a := by
  rw [ofConcrete_find?] at h
  cases hf : es.find? u with
  | none => rw [hf] at h; cases h
  | some d =>
    rw [hf, Option.map_some, Option.bind_some, hfg, Option.some.injEq] at h
    exact ⟨d, rfl, h⟩

theorem completes_ofConcrete (preq : PRequest) (req : Request) (es : Entities)
    (hp : ∀ u, preq.principal.uid? = some u → req.principal = u) (hr : ∀ u, preq.resource.uid? = some u → req.resource = u)
    (hpt : req.principal.ty = preq.principal.ty) (hrt : req.resource.ty = preq.resource.ty) (ha : req.action = preq.action)
    (hc : ∀ c, preq.context = some c → req.context = c) : Completes preq (PEntities.ofConcrete es) req es where
  principal := hp
  resource := hr
  ptype := hpt
  rtype := hrt
  action := ha
  context := hc
  attrs := fun _ _ h => ofConcrete_component (g := (·.attrs)) (fun _ => rfl) h
  ancestors := fun _ _ h => by
    obtain ⟨d, hd, rfl⟩ := ofConcrete_component (g := (·.ancestors)) (fun _ => rfl) h
    exact ⟨d, hd, fun _ => rfl⟩
  tags := fun _ _ h => ofConcrete_component (g := (·.tags)) (fun _ => rfl) h

end Cedar.Tpe
