import CedarVerif.Lemmas.TpeSound
/- C14 helpers: the arms of `interpret`, each as a function of the interpreted operands (`…Result`, `interpretKind_…`),
   and for each arm: its result evaluates like the operator applied to the values of the interpreted operands
   (`…Result_eval`).  Soundness of `interpret` is this fact followed by the congruence of the operator for `Agree`. -/
namespace Cedar.Tpe
open Cedar

variable {preq : PRequest} {pes : PEntities} {req : Request} {es : Entities}

theorem interpretBinary_storeFree {op : BinaryOp} (h : op.storeFree = true) (ty : Ty) (v1 v2 : Value) (a1 a2 : Residual) :
    interpretBinary pes ty op v1 v2 a1 a2 = ofResult ty (applyBinary es op v1 v2) := by
  cases op <;> first | exact absurd h (by decide) | rfl

theorem sound_var (hC : Completes preq pes req es) (x : Var) (ty : Ty) :
    Agree ((interpretKind preq pes ty (.var x)).eval req es) ((RKind.var x).eval req es) := by
  cases x <;> rw [interpretKind]
  · cases hu : preq.principal.uid? with
    | none => exact Agree.rfl' _
    | some u =>
      show Agree (.ok (.prim (.entityUID u))) (.ok (.prim (.entityUID req.principal)))
      rw [hC.principal u hu]; exact Agree.rfl' _
  · show Agree (.ok (.prim (.entityUID preq.action))) (.ok (.prim (.entityUID req.action)))
    rw [hC.action]; exact Agree.rfl' _
  · cases hu : preq.resource.uid? with
    | none => exact Agree.rfl' _
    | some u =>
      show Agree (.ok (.prim (.entityUID u))) (.ok (.prim (.entityUID req.resource)))
      rw [hC.resource u hu]; exact Agree.rfl' _
  · cases hc : preq.context with
    | none => exact Agree.rfl' _
    | some c =>
      show Agree (.ok (.record c)) (.ok (.record req.context))
      rw [hC.context c hc]; exact Agree.rfl' _

/-- arms of the shape "interpret the operand; concrete ⇒ apply `f`; partial ⇒ rebuild; error ⇒ error" -/
theorem sound_unaryLike (ty : Ty) (E : Residual) (x : Result Value) (f : Value → Result Value)
    (mk : Residual → RKind) (hmk : ∀ r, (mk r).eval req es = bindR (r.eval req es) f)
    (hE : Agree (E.eval req es) x) (res : Residual)
    (hres : res = match E with
      | .concrete v _ => ofResult ty (f v)
      | .part k kty => .part (mk (.part k kty)) ty
      | .error _ => .error ty) :
    Agree (res.eval req es) (bindR x f) := by
  subst hres
  cases E with
  | concrete v t =>
    have hx : x = .ok v := agree_ok_left (by simpa [Residual.eval] using hE)
    subst hx
    exact agree_ofResult ty req es (f v)
  | part k kty =>
    simp only [Residual.eval, hmk]
    exact bindR_congr f hE
  | error t =>
    obtain ⟨e', rfl⟩ := agree_err_left (by simpa [Residual.eval] using hE)
    simp [Residual.eval, bindR, Agree]

/-! `&&` and `||` are one arm: `s` is the Boolean with which an operand decides alone (`false` for `&&`, `true` for `||`). -/

def shortK (s : Bool) (l r : Residual) : RKind :=
  match s with
  | false => .and l r
  | true => .or l r

def shortR (s : Bool) (x y : Result Value) : Result Value :=
  match s with
  | false => andR x y
  | true => orR x y

def shortResult (s : Bool) (ty : Ty) (L R : Residual) : Residual :=
  match L with
  | .concrete v _ =>
    (match v.asBool with
     | .ok b => if b = s then mkBool s ty else R
     | .error _ => .error ty)
  | .part lk lty =>
    (match R with
     | .concrete v _ =>
       (match v.asBool with
        | .ok b =>
          if b = s then
            if !(Residual.part lk lty).canError then mkBool s ty
            else .part (shortK s (.part lk lty) (mkBool s ty)) ty
          else .part lk lty
        | .error _ => .part (shortK s (.part lk lty) (.error ty)) ty)
     | right => .part (shortK s (.part lk lty) right) ty)
  | .error _ => .error ty

theorem interpretKind_short (s : Bool) (req : PRequest) (es : PEntities) (ty : Ty) (l r : Residual) :
    interpretKind req es ty (shortK s l r) = shortResult s ty (interpret req es l) (interpret req es r) := by
  cases s <;> rw [shortK, interpretKind] <;> unfold shortResult
  all_goals
    cases interpret req es l with
    | concrete v t => simp only; cases v.asBool with | error _ => rfl | ok b => cases b <;> rfl
    | error t => rfl
    | part lk lt =>
      simp only
      cases interpret req es r with
      | concrete w t => simp only; cases w.asBool with | error _ => rfl | ok b => cases b <;> rfl
      | _ => rfl

theorem interpretKind_and (req : PRequest) (es : PEntities) (ty : Ty) (l r : Residual) :
    interpretKind req es ty (.and l r) = shortResult false ty (interpret req es l) (interpret req es r) :=
  interpretKind_short false req es ty l r

theorem interpretKind_or (req : PRequest) (es : PEntities) (ty : Ty) (l r : Residual) :
    interpretKind req es ty (.or l r) = shortResult true ty (interpret req es l) (interpret req es r) :=
  interpretKind_short true req es ty l r

theorem shortK_eval (s : Bool) (l r : Residual) (ty : Ty) :
    (Residual.part (shortK s l r) ty).eval req es = shortR s (l.eval req es) (r.eval req es) := by
  cases s <;> rfl

theorem shortR_neutral_right (s : Bool) {x : Result Value} (hx : ∀ v, x = .ok v → ∃ b, v = .prim (.bool b)) :
    shortR s x (.ok (.prim (.bool !s))) = x := by
  cases x with
  | error e => cases s <;> rfl
  | ok v => obtain ⟨b, rfl⟩ := hx v rfl; cases s <;> cases b <;> rfl

theorem shortR_neutral_left (s : Bool) {y : Result Value} (hy : ∀ v, y = .ok v → ∃ b, v = .prim (.bool b)) :
    shortR s (.ok (.prim (.bool !s))) y = y := by
  cases y with
  | error e => cases s <;> rfl
  | ok v => obtain ⟨b, rfl⟩ := hy v rfl; cases s <;> rfl

/-- `hef` (a left operand the can-error analysis declares error-free evaluates) is what `<error-free> && false → false`
    needs; the right operand is only looked at when the left one does not decide -/
theorem shortResult_eval (s : Bool) (ty : Ty) (L R : Residual) (hbL : IsBoolR req es L)
    (hbR : EvB req es L (!s) → IsBoolR req es R) (hef : L.canError = false → ∃ v, L.eval req es = .ok v) :
    Agree ((shortResult s ty L R).eval req es) (shortR s (L.eval req es) (R.eval req es)) := by
  cases L with
  | error t => cases s <;> exact True.intro
  | concrete v t =>
    obtain ⟨b, rfl⟩ := hbL v rfl
    by_cases hbs : b = s
    · subst hbs; cases b <;> exact Agree.rfl' _
    · obtain rfl : b = !s := Bool.eq_not_of_ne hbs
      simp only [shortResult, asBool_bool, hbs, if_false]
      rw [Residual.eval, shortR_neutral_left s (hbR rfl)]; exact Agree.rfl' _
  | part lk lt =>
    cases R with
    | part rk rt => simp only [shortResult]; rw [shortK_eval]; exact Agree.rfl' _
    | error t => simp only [shortResult]; rw [shortK_eval]; exact Agree.rfl' _
    | concrete w t =>
      simp only [shortResult]
      cases hw : w.asBool with
      | error e =>
        -- both sides are `s` or an error, according to the left operand
        simp only; rw [shortK_eval]
        cases hx : Residual.eval req es (.part lk lt) with
        | error e' => cases s <;> exact True.intro
        | ok v =>
          obtain ⟨b, rfl⟩ := hbL v hx
          cases s <;> cases b <;> simp only [shortR, andR, orR, Residual.eval, asBool_bool, hw] <;>
            first | exact True.intro | exact Agree.rfl' _
      | ok b =>
        obtain rfl := asBool_ok hw
        by_cases hbs : b = s
        · subst hbs
          simp only [if_true]
          split
          · rename_i hce
            obtain ⟨v, hv⟩ := hef (by simpa using hce)
            obtain ⟨b', rfl⟩ := hbL v hv
            rw [hv]; cases b <;> cases b' <;> exact Agree.rfl' _
          · rw [shortK_eval]; exact Agree.rfl' _
        · obtain rfl : b = !s := Bool.eq_not_of_ne hbs
          simp only [hbs, if_false]
          show Agree _ (shortR s _ (.ok (.prim (.bool !s))))
          rw [shortR_neutral_right s hbL]; exact Agree.rfl' _

def iteResult (ty : Ty) (C T E : Residual) : Residual :=
  match C with
  | .concrete v _ =>
    (match v.asBool with
     | .ok true => T
     | .ok false => E
     | .error _ => .error ty)
  | .part ck cty => .part (.ite (.part ck cty) T E) ty
  | .error _ => .error ty

theorem interpretKind_ite (ty : Ty) (c t e : Residual) :
    interpretKind preq pes ty (.ite c t e) = iteResult ty (interpret preq pes c) (interpret preq pes t) (interpret preq pes e) := by
  rw [interpretKind]
  unfold iteResult
  cases interpret preq pes c <;> rfl

theorem iteResult_eval (ty : Ty) (C T E : Residual) :
    Agree ((iteResult ty C T E).eval req es) (iteR (C.eval req es) (T.eval req es) (E.eval req es)) := by
  cases C with
  | error t => exact True.intro
  | part ck ct => exact Agree.rfl' _
  | concrete v t =>
    simp only [iteResult, Residual.eval, iteR]
    cases v.asBool with
    | error e => exact True.intro
    | ok b => cases b <;> exact Agree.rfl' _

def unaryResult (ty : Ty) (op : UnaryOp) (A : Residual) : Residual :=
  match A with
  | .concrete v _ => ofResult ty (applyUnary op v)
  | .part k kty => .part (.unaryApp op (.part k kty)) ty
  | .error _ => .error ty

theorem interpretKind_unary (ty : Ty) (op : UnaryOp) (a : Residual) :
    interpretKind preq pes ty (.unaryApp op a) = unaryResult ty op (interpret preq pes a) := by
  rw [interpretKind]; unfold unaryResult; cases interpret preq pes a <;> rfl

theorem unaryResult_eval (ty : Ty) (op : UnaryOp) (A : Residual) :
    Agree ((unaryResult ty op A).eval req es) (bindR (A.eval req es) (applyUnary op)) := by
  cases A with
  | concrete v t => exact agree_ofResult ty req es _
  | part k t => exact Agree.rfl' _
  | error t => exact True.intro

def likeResult (ty : Ty) (p : Pattern) (A : Residual) : Residual :=
  match A with
  | .concrete v _ =>
    (match v.asString with
     | .ok s => mkBool (wm p s.toList) ty
     | .error _ => .error ty)
  | .part k kty => .part (.like (.part k kty) p) ty
  | .error _ => .error ty

theorem interpretKind_like (ty : Ty) (p : Pattern) (a : Residual) :
    interpretKind preq pes ty (.like a p) = likeResult ty p (interpret preq pes a) := by
  rw [interpretKind]; unfold likeResult; cases interpret preq pes a <;> rfl

theorem likeResult_eval (ty : Ty) (p : Pattern) (A : Residual) :
    Agree ((likeResult ty p A).eval req es) (bindR (A.eval req es) (likeV p)) := by
  cases A with
  | concrete v t =>
    simp only [likeResult, Residual.eval, bindR, likeV]
    cases v.asString with
    | error e => exact True.intro
    | ok s => exact Agree.rfl' _
  | part k t => exact Agree.rfl' _
  | error t => exact True.intro

theorem beq_comm_str (a b : String) : (a == b) = (b == a) := BEq.comm

def isResult (preq : PRequest) (ty : Ty) (ety : EntityType) (A : Residual) : Residual :=
  match A with
  | .concrete v _ =>
    (match v.asEntity with
     | .ok u => mkBool (u.ty == ety) ty
     | .error _ => .error ty)
  | .part (.var .principal) _ => mkBool (ety == preq.principal.ty) ty
  | .part (.var .resource) _ => mkBool (ety == preq.resource.ty) ty
  | .part k kty => .part (.is (.part k kty) ety) ty
  | .error _ => .error ty

theorem interpretKind_is (ty : Ty) (ety : EntityType) (a : Residual) :
    interpretKind preq pes ty (.is a ety) = isResult preq ty ety (interpret preq pes a) := by
  rw [interpretKind]; unfold isResult
  cases interpret preq pes a with
  | concrete v t => rfl
  | error t => rfl
  | part k t =>
    cases k with
    | var x => cases x <;> rfl
    | _ => rfl

theorem isResult_eval (hC : Completes preq pes req es) (ty : Ty) (ety : EntityType) (A : Residual) :
    Agree ((isResult preq ty ety A).eval req es) (bindR (A.eval req es) (isV ety)) := by
  cases A with
  | concrete v t =>
    simp only [isResult, Residual.eval, bindR, isV]
    cases v.asEntity with
    | error e => exact True.intro
    | ok u => exact Agree.rfl' _
  | error t => exact True.intro
  | part k t =>
    cases k with
    | var x =>
      -- an unknown principal / resource still has its type
      cases x with
      | principal =>
        show Agree (.ok (.prim (.bool (ety == preq.principal.ty)))) (.ok (.prim (.bool (req.principal.ty == ety))))
        rw [hC.ptype, beq_comm_str]; exact Agree.rfl' _
      | resource =>
        show Agree (.ok (.prim (.bool (ety == preq.resource.ty)))) (.ok (.prim (.bool (req.resource.ty == ety))))
        rw [hC.rtype, beq_comm_str]; exact Agree.rfl' _
      | action => exact Agree.rfl' _
      | context => exact Agree.rfl' _
    | _ => exact Agree.rfl' _

def getAttrResult (pes : PEntities) (ty : Ty) (a : String) (A : Residual) : Residual :=
  match A with
  | .concrete (.record kvs) _ =>
    (match lookupKV kvs a with | some x => .concrete x ty | none => .error ty)
  | .concrete (.prim (.entityUID u)) vty =>
    (match pes.attrs? u with
     | some attrs => (match lookupKV attrs a with | some x => .concrete x ty | none => .error ty)
     | none => .part (.getAttr (.concrete (.prim (.entityUID u)) vty) a) ty)
  | .concrete _ _ => .error ty
  | .part k kty => .part (.getAttr (.part k kty) a) ty
  | .error _ => .error ty

theorem interpretKind_getAttr (ty : Ty) (a : String) (e : Residual) :
    interpretKind preq pes ty (.getAttr e a) = getAttrResult pes ty a (interpret preq pes e) := by
  rw [interpretKind]; unfold getAttrResult
  cases interpret preq pes e with
  | concrete v t =>
    cases v with
    | prim p => cases p <;> rfl
    | _ => rfl
  | error t => rfl
  | part k t => rfl

theorem getAttrResult_eval (hC : Completes preq pes req es) (ty : Ty) (a : String) (A : Residual) :
    Agree ((getAttrResult pes ty a A).eval req es) (bindR (A.eval req es) (getAttrV es a)) := by
  cases A with
  | error t => exact True.intro
  | part k t => exact Agree.rfl' _
  | concrete v t =>
    cases v with
    | record kvs =>
      simp only [getAttrResult, Residual.eval, bindR, getAttrV]
      cases lookupKV kvs a
      · exact True.intro
      · exact Agree.rfl' _
    | prim p =>
      cases p with
      | entityUID u =>
        simp only [getAttrResult]
        cases ha : pes.attrs? u with
        | none => exact Agree.rfl' _
        | some attrs =>
          obtain ⟨d, hd, rfl⟩ := hC.attrs u attrs ha
          simp only [Residual.eval, bindR, getAttrV, hd]
          cases lookupKV d.attrs a
          · exact True.intro
          · exact Agree.rfl' _
      | _ => exact True.intro
    | _ => exact True.intro

def hasAttrResult (pes : PEntities) (ty : Ty) (a : String) (A : Residual) : Residual :=
  match A with
  | .concrete (.record kvs) _ => mkBool (lookupKV kvs a).isSome ty
  | .concrete (.prim (.entityUID u)) vty =>
    (match pes.attrs? u with
     | some attrs => mkBool (lookupKV attrs a).isSome ty
     | none => .part (.hasAttr (.concrete (.prim (.entityUID u)) vty) a) ty)
  | .concrete _ _ => .error ty
  | .part k kty => .part (.hasAttr (.part k kty) a) ty
  | .error _ => .error ty

theorem interpretKind_hasAttr (ty : Ty) (a : String) (e : Residual) :
    interpretKind preq pes ty (.hasAttr e a) = hasAttrResult pes ty a (interpret preq pes e) := by
  rw [interpretKind]; unfold hasAttrResult
  cases interpret preq pes e with
  | concrete v t =>
    cases v with
    | prim p => cases p <;> rfl
    | _ => rfl
  | error t => rfl
  | part k t => rfl

theorem hasAttrResult_eval (hC : Completes preq pes req es) (ty : Ty) (a : String) (A : Residual) :
    Agree ((hasAttrResult pes ty a A).eval req es) (bindR (A.eval req es) (hasAttrV es a)) := by
  cases A with
  | error t => exact True.intro
  | part k t => exact Agree.rfl' _
  | concrete v t =>
    cases v with
    | record kvs => exact Agree.rfl' _
    | prim p =>
      cases p with
      | entityUID u =>
        simp only [hasAttrResult]
        cases ha : pes.attrs? u with
        | none => exact Agree.rfl' _
        | some attrs =>
          obtain ⟨d, hd, rfl⟩ := hC.attrs u attrs ha
          simp only [mkBool, Residual.eval, bindR, hasAttrV, hd]
          exact Agree.rfl' _
      | _ => exact True.intro
    | _ => exact True.intro

def binaryResult (pes : PEntities) (ty : Ty) (op : BinaryOp) (A B : Residual) : Residual :=
  match A, B with
  | .concrete v1 t1, .concrete v2 t2 => interpretBinary pes ty op v1 v2 (.concrete v1 t1) (.concrete v2 t2)
  | .error _, _ => .error ty
  | _, .error _ => .error ty
  | a1, a2 => .part (.binaryApp op a1 a2) ty

theorem interpretKind_binary (ty : Ty) (op : BinaryOp) (x y : Residual) :
    interpretKind preq pes ty (.binaryApp op x y) = binaryResult pes ty op (interpret preq pes x) (interpret preq pes y) := by
  rw [interpretKind]
  unfold binaryResult
  cases interpret preq pes x <;> cases interpret preq pes y <;> rfl

theorem contains_or_any (uids : List EntityUID) (u1 : EntityUID) (f : EntityUID → Bool) :
    (uids.contains u1 || uids.any f) = uids.any (fun u => u1 == u || f u) := by
  induction uids with
  | nil => rfl
  | cons a l ih =>
    simp only [List.contains_cons, List.any_cons, ← ih]
    cases (u1 == a) <;> cases (f a) <;> cases (l.contains u1) <;> cases (l.any f) <;> rfl

theorem eval_resid_concrete (ty : Ty) (op : BinaryOp) (v1 v2 : Value) (t1 t2 : Ty) :
    (Residual.part (.binaryApp op (.concrete v1 t1) (.concrete v2 t2)) ty).eval req es = applyBinary es op v1 v2 := by
  simp [Residual.eval, RKind.eval, bindR]

/-- `es` holds, of the entity `v1`, the ancestors and the tags that `pes` knows -/
def KnownAt (pes : PEntities) (es : Entities) (v1 : Value) : Prop :=
  ∀ u, v1 = .prim (.entityUID u) →
    (∀ anc, pes.ancestors? u = some anc → ∃ d, es.find? u = some d ∧ ∀ x, anc.contains x = d.ancestors.contains x) ∧
    (∀ t, pes.tags? u = some t → ∃ d, es.find? u = some d ∧ d.tags = t)

theorem any_inE (es : Entities) (u1 : EntityUID) (uids : List EntityUID) :
    uids.any (inE es u1 ·) = (uids.contains u1 ||
      uids.any fun u2 => match es.find? u1 with | some d => d.ancestors.contains u2 | none => false) :=
  (contains_or_any uids u1 _).symm

/-- the `in` arm on an entity set -/
theorem memSet_spec (pes : PEntities) (ty : Ty) (u1 : EntityUID) (uids : List EntityUID) (resid : Residual) {R : Residual}
    (hR : R = if uids.contains u1 || (match pes.ancestors? u1 with | some a => uids.any (fun u2 => a.contains u2) | none => false)
      then mkBool true ty else if !uids.isEmpty && (pes.ancestors? u1).isNone then resid else mkBool false ty) :
    (R = resid ∧ pes.ancestors? u1 = none) ∨
    ∀ es, KnownAt pes es (.prim (.entityUID u1)) → R = mkBool (uids.any (inE es u1 ·)) ty := by
  subst hR
  cases ha : pes.ancestors? u1 with
  | some a =>
    refine .inr fun es hk => ?_
    obtain ⟨d, hd, hda⟩ := (hk u1 rfl).1 a ha
    simp only [any_inE, hd, hda, Option.isNone_some, Bool.and_false, Bool.false_eq_true, if_false]
    split <;> rename_i h <;> simp only [h] <;> rfl
  | none =>
    by_cases hc : uids.contains u1 = true
    · exact .inr fun es _ => by simp only [any_inE, hc, Bool.true_or, if_true]
    · cases uids with
      | nil => exact .inr fun es _ => rfl
      | cons x xs => exact .inl ⟨by simp only [hc]; rfl, rfl⟩

/-- **the `(Concrete, Concrete)` arm of `BinaryApp`**: it stays the residual for want of the ancestors / tags of its left operand,
    or it is what `applyBinary` computes over any store that holds what `pes` knows of that operand -/
theorem interpretBinary_spec (pes : PEntities) (ty : Ty) (op : BinaryOp) (v1 v2 : Value) (a1 a2 : Residual) :
    (interpretBinary pes ty op v1 v2 a1 a2 = .part (.binaryApp op a1 a2) ty ∧
      ∃ u, v1 = .prim (.entityUID u) ∧ (pes.ancestors? u = none ∨ pes.tags? u = none)) ∨
    ∀ es, KnownAt pes es v1 → interpretBinary pes ty op v1 v2 a1 a2 = ofResult ty (applyBinary es op v1 v2) := by
  cases hop : op.storeFree with
  | true => exact .inr fun es _ => interpretBinary_storeFree hop ty v1 v2 a1 a2
  | false =>
    cases h1 : v1.asEntity with
    | error e =>
      refine .inr fun es _ => ?_
      cases op with
      | mem | getTag | hasTag => simp only [interpretBinary, applyBinary, h1, bind, Except.bind, ofResult]
      | _ => exact absurd hop (by decide)
    | ok u =>
      obtain rfl := asEntity_ok h1
      cases op with
      | mem =>
        cases v2 with
        | prim p =>
          cases p with
          | entityUID u2 =>
            cases he : u == u2 with
            | true =>
              exact .inr fun es _ => by
                simp only [interpretBinary, applyBinary, Value.asEntity, inE, he, bind, Except.bind]; rfl
            | false =>
              cases ha : pes.ancestors? u with
              | none => exact .inl ⟨by simp only [interpretBinary, Value.asEntity, he, ha]; rfl, u, rfl, .inl ha⟩
              | some anc =>
                refine .inr fun es hk => ?_
                obtain ⟨d, hd, hda⟩ := (hk u rfl).1 anc ha
                simp only [interpretBinary, applyBinary, Value.asEntity, inE, he, ha, hd, hda, bind, Except.bind]; rfl
          | _ => exact .inr fun es _ => rfl
        | set vs =>
          cases hl : asEntityList vs with
          | error e => exact .inr fun es _ => by simp only [interpretBinary, applyBinary, Value.asEntity, asEntitySet, Value.asSet, hl, bind, Except.bind, ofResult]
          | ok uids =>
            rcases memSet_spec pes ty u uids (.part (.binaryApp .mem a1 a2) ty) (R := interpretBinary pes ty .mem (.prim (.entityUID u)) (.set vs) a1 a2)
              (by simp only [interpretBinary, Value.asEntity, asEntitySet, Value.asSet, hl]; rfl) with ⟨h, ha⟩ | h
            · exact .inl ⟨h, u, rfl, .inl ha⟩
            · exact .inr fun es hk => by
                rw [h es hk]; simp only [applyBinary, Value.asEntity, hl, bind, Except.bind, ofResult, mkBool]
        | _ => exact .inr fun es _ => rfl
      | getTag =>
        cases h2 : v2.asString with
        | error e => exact .inr fun es _ => by simp only [interpretBinary, applyBinary, Value.asEntity, h2, bind, Except.bind, ofResult]
        | ok tag =>
          cases ht : pes.tags? u with
          | none => exact .inl ⟨by simp only [interpretBinary, Value.asEntity, h2, ht], u, rfl, .inr ht⟩
          | some tags =>
            refine .inr fun es hk => ?_
            obtain ⟨d, hd, rfl⟩ := (hk u rfl).2 tags ht
            simp only [interpretBinary, applyBinary, Value.asEntity, h2, ht, hd, bind, Except.bind]
            cases lookupKV d.tags tag <;> rfl
      | hasTag =>
        cases h2 : v2.asString with
        | error e => exact .inr fun es _ => by simp only [interpretBinary, applyBinary, Value.asEntity, h2, bind, Except.bind, ofResult]
        | ok tag =>
          cases ht : pes.tags? u with
          | none => exact .inl ⟨by simp only [interpretBinary, Value.asEntity, h2, ht], u, rfl, .inr ht⟩
          | some tags =>
            refine .inr fun es hk => ?_
            obtain ⟨d, hd, rfl⟩ := (hk u rfl).2 tags ht
            simp only [interpretBinary, applyBinary, Value.asEntity, h2, ht, hd, bind, Except.bind]
            rfl
      | _ => exact absurd hop (by decide)

theorem interpretBinary_sound (hC : Completes preq pes req es) (ty : Ty) (op : BinaryOp) (v1 v2 : Value) (t1 t2 : Ty) :
    Agree ((interpretBinary pes ty op v1 v2 (.concrete v1 t1) (.concrete v2 t2)).eval req es) (applyBinary es op v1 v2) := by
  rcases interpretBinary_spec pes ty op v1 v2 (.concrete v1 t1) (.concrete v2 t2) with ⟨h, _⟩ | h
  · rw [h, eval_resid_concrete]; exact Agree.rfl' _
  · rw [h es fun u _ => ⟨hC.ancestors u, hC.tags u⟩]; exact agree_ofResult ty req es _

theorem binaryResult_eval (hC : Completes preq pes req es) (ty : Ty) (op : BinaryOp) (A B : Residual) :
    Agree ((binaryResult pes ty op A B).eval req es)
      (bindR (A.eval req es) (fun v1 => bindR (B.eval req es) (fun v2 => applyBinary es op v1 v2))) := by
  cases A with
  | error t => exact True.intro
  | concrete v1 t1 =>
    cases B with
    | error t => exact True.intro
    | concrete v2 t2 => exact interpretBinary_sound hC ty op v1 v2 t1 t2
    | part k t => exact Agree.rfl' _
  | part k t =>
    cases B with
    | error t2 =>
      show Agree (.error .ext) (bindR (k.eval req es) _)
      cases k.eval req es <;> exact True.intro
    | concrete v2 t2 => exact Agree.rfl' _
    | part k2 t2 => exact Agree.rfl' _

theorem evalList_interp (args : List Residual)
    (h : ∀ r, r ∈ args → Agree ((interpret preq pes r).eval req es) (r.eval req es)) :
    AgreeL (Residual.evalList req es (interpretList preq pes args)) (Residual.evalList req es args) := by
  induction args with
  | nil => simp [interpretList, Residual.evalList, AgreeL]
  | cons a as ih =>
    rw [interpretList]
    exact evalList_cons_congr (h a (by simp)) (ih (fun r hr => h r (by simp [hr])))

theorem allConcrete_evalList {rs : List Residual} {vals : List Value} (h : allConcrete rs = some vals) :
    Residual.evalList req es rs = .ok vals := by
  induction rs generalizing vals with
  | nil => simp [allConcrete] at h; subst h; rfl
  | cons r rs ih =>
    cases r with
    | concrete v t =>
      simp only [allConcrete, Option.map_eq_some_iff] at h
      obtain ⟨vs, hvs, rfl⟩ := h
      simp [Residual.evalList, Residual.eval, ih hvs]
    | part k t => simp [allConcrete] at h
    | error t => simp [allConcrete] at h

theorem anyError_evalList {rs : List Residual} (h : rs.any Residual.isError = true) :
    ∃ e, Residual.evalList req es rs = .error e := by
  induction rs with
  | nil => simp at h
  | cons r rs ih =>
    simp only [List.any_cons, Bool.or_eq_true] at h
    simp only [Residual.evalList]
    cases hr : r.eval req es with
    | error e => exact ⟨e, rfl⟩
    | ok v =>
      rcases h with h | h
      · cases r <;> simp [Residual.isError] at h
        simp [Residual.eval] at hr
      · obtain ⟨e, he⟩ := ih h
        exact ⟨e, by simp [he]⟩

/-- the shape shared by the `ExtensionFunctionApp` and `Set` arms -/
def listResult (ty : Ty) (rs : List Residual) (onVals : List Value → Residual) (mk : List Residual → RKind) : Residual :=
  match allConcrete rs with
  | some vals => onVals vals
  | none => if rs.any Residual.isError then .error ty else .part (mk rs) ty

theorem interpretKind_call (ty : Ty) (fn : String) (args : List Residual) :
    interpretKind preq pes ty (.call fn args) =
      listResult ty (interpretList preq pes args) (fun vals => ofResult ty (callExt fn vals)) (.call fn) := by
  rw [interpretKind]; rfl

theorem interpretKind_set (ty : Ty) (xs : List Residual) :
    interpretKind preq pes ty (.set xs) =
      listResult ty (interpretList preq pes xs) (fun vals => .concrete (.set (Value.mkSet vals)) ty) .set := by
  rw [interpretKind]; rfl

theorem listResult_eval (ty : Ty) (rs : List Residual) (onVals : List Value → Residual) (mk : List Residual → RKind)
    (f : List Value → Result Value) (hon : ∀ vals, Agree ((onVals vals).eval req es) (f vals))
    (hmk : ∀ rs, (mk rs).eval req es = listR (Residual.evalList req es rs) f) :
    Agree ((listResult ty rs onVals mk).eval req es) (listR (Residual.evalList req es rs) f) := by
  unfold listResult
  cases hac : allConcrete rs with
  | some vals => rw [allConcrete_evalList hac]; exact hon vals
  | none =>
    simp only
    split
    · rename_i hany
      obtain ⟨e, he⟩ := anyError_evalList (req := req) (es := es) hany
      rw [he]; exact True.intro
    · rw [Residual.eval, hmk]; exact Agree.rfl' _

theorem evalKVs_interp (kvs : List (String × Residual))
    (h : ∀ kv, kv ∈ kvs → Agree ((interpret preq pes kv.2).eval req es) (kv.2.eval req es)) :
    AgreeL (Residual.evalKVs req es (interpretKVs preq pes kvs)) (Residual.evalKVs req es kvs) := by
  induction kvs with
  | nil => simp [interpretKVs, Residual.evalKVs, AgreeL]
  | cons a as ih =>
    obtain ⟨k, r⟩ := a
    rw [interpretKVs]
    exact evalKVs_cons_congr (h (k, r) (by simp)) (ih (fun kv hkv => h kv (by simp [hkv])))

theorem allConcreteKVs_evalKVs {rs : List (String × Residual)} {vals : List (String × Value)} (h : allConcreteKVs rs = some vals) :
    Residual.evalKVs req es rs = .ok vals := by
  induction rs generalizing vals with
  | nil => simp [allConcreteKVs] at h; subst h; rfl
  | cons kr rs ih =>
    obtain ⟨k, r⟩ := kr
    cases r with
    | concrete v t =>
      simp only [allConcreteKVs, Option.map_eq_some_iff] at h
      obtain ⟨vs, hvs, rfl⟩ := h
      simp [Residual.evalKVs, Residual.eval, ih hvs]
    | part k t => simp [allConcreteKVs] at h
    | error t => simp [allConcreteKVs] at h

theorem anyErrorKVs_evalKVs {rs : List (String × Residual)} (h : rs.any (fun kv => kv.2.isError) = true) :
    ∃ e, Residual.evalKVs req es rs = .error e := by
  induction rs with
  | nil => simp at h
  | cons kr rs ih =>
    obtain ⟨k, r⟩ := kr
    simp only [List.any_cons, Bool.or_eq_true] at h
    simp only [Residual.evalKVs]
    cases hr : r.eval req es with
    | error e => exact ⟨e, rfl⟩
    | ok v =>
      rcases h with h | h
      · cases r <;> simp [Residual.isError] at h
        simp [Residual.eval] at hr
      · obtain ⟨e, he⟩ := ih h
        exact ⟨e, by simp [he]⟩

def recordResult (ty : Ty) (rs : List (String × Residual)) : Residual :=
  match allConcreteKVs rs with
  | some vals => .concrete (recordOfKVs vals) ty
  | none => if rs.any (fun kv => kv.2.isError) then .error ty else .part (.record rs) ty

theorem interpretKind_record (ty : Ty) (kvs : List (String × Residual)) :
    interpretKind preq pes ty (.record kvs) = recordResult ty (interpretKVs preq pes kvs) := by
  rw [interpretKind]; rfl

theorem recordResult_eval (ty : Ty) (rs : List (String × Residual)) :
    Agree ((recordResult ty rs).eval req es) (listR (Residual.evalKVs req es rs) (fun vs => .ok (recordOfKVs vs))) := by
  unfold recordResult
  cases hac : allConcreteKVs rs with
  | some vals => rw [allConcreteKVs_evalKVs hac]; exact Agree.rfl' _
  | none =>
    simp only
    split
    · rename_i hany
      obtain ⟨e, he⟩ := anyErrorKVs_evalKVs (req := req) (es := es) hany
      rw [he]; exact True.intro
    · rw [Residual.eval, eval_record]; exact Agree.rfl' _

theorem interpretList_eq_map (rs : List Residual) : interpretList preq pes rs = rs.map (interpret preq pes) := by
  induction rs with
  | nil => rfl
  | cons r rs ih => rw [interpretList, ih]; rfl

theorem interpretKVs_eq_map (kvs : List (String × Residual)) :
    interpretKVs preq pes kvs = kvs.map fun kv => (kv.1, interpret preq pes kv.2) := by
  induction kvs with
  | nil => rfl
  | cons kv kvs ih => obtain ⟨k, r⟩ := kv; rw [interpretKVs, ih]; rfl

theorem mem_interpretList {args : List Residual} {r' : Residual} (h : r' ∈ interpretList preq pes args) :
    ∃ r, r ∈ args ∧ r' = interpret preq pes r := by
  rw [interpretList_eq_map] at h
  obtain ⟨r, hr, rfl⟩ := List.mem_map.mp h
  exact ⟨r, hr, rfl⟩

theorem mem_interpretKVs {kvs : List (String × Residual)} {kv' : String × Residual} (h : kv' ∈ interpretKVs preq pes kvs) :
    ∃ kv, kv ∈ kvs ∧ kv'.2 = interpret preq pes kv.2 := by
  rw [interpretKVs_eq_map] at h
  obtain ⟨kv, hkv, rfl⟩ := List.mem_map.mp h
  exact ⟨kv, hkv, rfl⟩

theorem interpret_sound_frag (hC : Completes preq pes req es) {r : Residual} (hf : Frag preq pes req es r) :
    Agree ((interpret preq pes r).eval req es) (r.eval req es) := by
  induction hf with
  | concrete v ty => exact Agree.rfl' _
  | error ty => exact Agree.rfl' _
  | var x ty => rw [interpret]; exact sound_var hC x ty
  | @and l r ty _ _ hbl hbr hef ihl ihr =>
    rw [interpret, interpretKind_and]
    exact agree_trans (shortResult_eval false ty _ _ hbl (fun _ => hbr) hef) (andR_congr ihl ihr)
  | @or l r ty _ _ hbl hbr hef ihl ihr =>
    rw [interpret, interpretKind_or]
    exact agree_trans (shortResult_eval true ty _ _ hbl (fun _ => hbr) hef) (orR_congr ihl ihr)
  | @ite c t e ty _ _ _ ihc iht ihe =>
    rw [interpret, interpretKind_ite]
    exact agree_trans (iteResult_eval ty _ _ _) (iteR_congr ihc iht ihe)
  | @unary op a ty _ ih =>
    rw [interpret, interpretKind_unary]
    exact agree_trans (unaryResult_eval ty op _) (bindR_congr _ ih)
  | @like e p ty _ ih =>
    rw [interpret, interpretKind_like]
    exact agree_trans (likeResult_eval ty p _) (bindR_congr _ ih)
  | @is e ety ty _ ih =>
    rw [interpret, interpretKind_is]
    exact agree_trans (isResult_eval hC ty ety _) (bindR_congr _ ih)
  | @getAttr e a ty _ ih =>
    rw [interpret, interpretKind_getAttr]
    exact agree_trans (getAttrResult_eval hC ty a _) (bindR_congr _ ih)
  | @hasAttr e a ty _ ih =>
    rw [interpret, interpretKind_hasAttr]
    exact agree_trans (hasAttrResult_eval hC ty a _) (bindR_congr _ ih)
  | @binary op a b ty _ _ iha ihb =>
    rw [interpret, interpretKind_binary]
    exact agree_trans (binaryResult_eval hC ty op _ _) (bindR_congr2 _ iha ihb)
  | @call fn args ty _ ih =>
    rw [interpret, interpretKind_call, Residual.eval, eval_call]
    exact agree_trans (listResult_eval ty _ _ _ _ (fun _ => agree_ofResult ty req es _) (fun rs => eval_call fn rs))
      (listR_congr _ (evalList_interp args ih))
  | @set xs ty _ ih =>
    rw [interpret, interpretKind_set, Residual.eval, eval_set]
    exact agree_trans (listResult_eval ty _ _ _ _ (fun _ => Agree.rfl' _) (fun rs => eval_set rs))
      (listR_congr _ (evalList_interp xs ih))
  | @record kvs ty _ ih =>
    rw [interpret, interpretKind_record, Residual.eval, eval_record]
    exact agree_trans (recordResult_eval ty _) (listR_congr _ (evalKVs_interp kvs ih))

end Cedar.Tpe
