import CedarVerif.Cedar.Syntax.Parse
/-
C05: the fragments on which `Parse.expr (Print.expr e) = some e` is stated (`inFrag ⊆ inFrag2 ⊆ inFrag3`, the last one being
everything the parser can produce), and insertion into a key-sorted association list (`insertByKey`: records and annotation maps).
-/
namespace Cedar.Syntax
open Cedar

def fsize : Expr → Nat
  | .ite c t e => 1 + fsize c + fsize t + fsize e
  | .and a b => 1 + fsize a + fsize b
  | .or a b => 1 + fsize a + fsize b
  | .unaryApp _ a => 1 + fsize a
  | .binaryApp _ a b => 1 + fsize a + fsize b
  | .getAttr e _ => 1 + fsize e
  | .hasAttr e _ => 1 + fsize e
  | .like e _ => 1 + fsize e
  | .is e _ => 1 + fsize e
  | _ => 1

def isBoolLit : Expr → Bool
  | .lit (.bool _) => true
  | _ => false

def infixOp : BinaryOp → Bool
  | .eq | .less | .lessEq | .mem | .add | .sub | .mul => true
  | _ => false

/-- The left operand of `&& ||` and of a binary operator is not the same operator again (those are the nodes the printer
leaves unparenthesised on the left), and `&&`/`||` do not join two Boolean literals (the parser folds those, so they are not
in its image). -/
def inFrag : Expr → Bool
  | .lit (.bool _) => true
  | .lit (.int i) => decide (-(Int.ofNat i64Max) - 1 ≤ i ∧ i ≤ Int.ofNat i64Max)
  | .lit (.string _) => true
  | .var _ => true
  | .ite c t e => inFrag c && inFrag t && inFrag e
  | .and a b => inFrag a && inFrag b && !(isBoolLit a && isBoolLit b) && !isAnd a
  | .or a b => inFrag a && inFrag b && !(isBoolLit a && isBoolLit b) && !isOr a
  | .unaryApp .not a => inFrag a
  | .unaryApp .neg a => inFrag a
  | .binaryApp op a b => infixOp op && inFrag a && inFrag b && !isBin op a
  | _ => false

/-- `inFrag` with `e has attr` and the left-nested chains the printer leaves unparenthesised (`a + b + c`, `a && b && c`). -/
def inFrag2 : Expr → Bool
  | .lit (.bool _) => true
  | .lit (.int i) => decide (-(Int.ofNat i64Max) - 1 ≤ i ∧ i ≤ Int.ofNat i64Max)
  | .lit (.string _) => true
  | .var _ => true
  | .ite c t e => inFrag2 c && inFrag2 t && inFrag2 e
  | .and a b => inFrag2 a && inFrag2 b && !(isBoolLit a && isBoolLit b)
  | .or a b => inFrag2 a && inFrag2 b && !(isBoolLit a && isBoolLit b)
  | .unaryApp .not a => inFrag2 a
  | .unaryApp .neg a => inFrag2 a
  | .binaryApp op a b => infixOp op && inFrag2 a && inFrag2 b
  | .hasAttr e _ => inFrag2 e
  | _ => false

mutual
def sz3 : Expr → Nat
  | .ite c t e => 1 + sz3 c + sz3 t + sz3 e
  | .and a b => 1 + sz3 a + sz3 b
  | .or a b => 1 + sz3 a + sz3 b
  | .unaryApp _ a => 1 + sz3 a
  | .binaryApp _ a b => 1 + sz3 a + sz3 b
  | .getAttr e _ => 1 + sz3 e
  | .hasAttr e _ => 1 + sz3 e
  | .like e _ => 1 + sz3 e
  | .is e _ => 1 + sz3 e
  | .call _ args => 1 + sz3L args
  | .set es => 1 + sz3L es
  | .record kvs => 1 + sz3K kvs
  | _ => 1
def sz3L : List Expr → Nat
  | [] => 0
  | e :: es => sz3 e + sz3L es
def sz3K : List (String × Expr) → Nat
  | [] => 0
  | (_, e) :: kvs => sz3 e + sz3K kvs
end

theorem sz3_pos (e : Expr) : 1 ≤ sz3 e := by
  cases e <;> simp only [sz3] <;> omega

theorem sz3L_mem {a : Expr} : ∀ {es : List Expr}, a ∈ es → sz3 a ≤ sz3L es
  | [], h => by cases h
  | e :: es, h => by
    simp only [sz3L]
    cases h with
    | head => omega
    | tail _ h' => have := sz3L_mem h'; omega

theorem sz3K_mem {k : String} {a : Expr} : ∀ {kvs : List (String × Expr)}, (k, a) ∈ kvs → sz3 a ≤ sz3K kvs
  | [], h => by cases h
  | (k', e) :: kvs, h => by
    simp only [sz3K]
    cases h with
    | head => omega
    | tail _ h' => have := sz3K_mem h'; omega

/-- `::`-separated unreserved identifiers; the last conjunct always holds (`joinName_splitOn`, SyntaxSplitOn.lean) -/
def typeNameOk (ty : String) : Bool :=
  (ty.splitOn "::").all (fun c => isIdentChars c.toList && unreservedIdent c) && joinName (ty.splitOn "::") == ty

def sortedKeys3 : List (String × Expr) → Bool
  | (k1, _) :: (k2, v2) :: rest => decide (k1 < k2) && sortedKeys3 ((k2, v2) :: rest)
  | _ => true

mutual
/-- Everything in `ParserImage` (the only difference is the extra `intercalate ∘ splitOn = id` side condition in `typeNameOk`). -/
def inFrag3 : Expr → Bool
  | .lit (.bool _) => true
  | .lit (.int i) => decide (-(Int.ofNat i64Max) - 1 ≤ i ∧ i ≤ Int.ofNat i64Max)
  | .lit (.string _) => true
  | .lit (.entityUID u) => typeNameOk u.ty
  | .var _ => true
  | .slot _ => true
  | .unknown _ _ => false
  | .ite c t e => inFrag3 c && inFrag3 t && inFrag3 e
  | .and a b => inFrag3 a && inFrag3 b && !(isBoolLit a && isBoolLit b)
  | .or a b => inFrag3 a && inFrag3 b && !(isBoolLit a && isBoolLit b)
  | .unaryApp _ a => inFrag3 a
  | .binaryApp _ a b => inFrag3 a && inFrag3 b
  | .call fn args => (isExtFunction fn || (isExtMethod fn && !args.isEmpty)) && inFrag3L args
  | .getAttr e _ => inFrag3 e
  | .hasAttr e _ => inFrag3 e
  | .like e _ => inFrag3 e
  | .is e ty => inFrag3 e && typeNameOk ty
  | .set es => inFrag3L es
  | .record kvs => sortedKeys3 kvs && inFrag3K kvs
def inFrag3L : List Expr → Bool
  | [] => true
  | e :: es => inFrag3 e && inFrag3L es
def inFrag3K : List (String × Expr) → Bool
  | [] => true
  | (_, e) :: kvs => inFrag3 e && inFrag3K kvs
end

theorem inFrag3L_mem {a : Expr} : ∀ {es : List Expr}, inFrag3L es = true → a ∈ es → inFrag3 a = true
  | [], _, h => by cases h
  | e :: es, hf, h => by
    simp only [inFrag3L, Bool.and_eq_true] at hf
    cases h with
    | head => exact hf.1
    | tail _ h' => exact inFrag3L_mem hf.2 h'

theorem inFrag3K_mem {k : String} {a : Expr} : ∀ {kvs : List (String × Expr)}, inFrag3K kvs = true → (k, a) ∈ kvs → inFrag3 a = true
  | [], _, h => by cases h
  | (k', e) :: kvs, hf, h => by
    simp only [inFrag3K, Bool.and_eq_true] at hf
    cases h with
    | head => exact hf.1
    | tail _ h' => exact inFrag3K_mem hf.2 h'

/- `ExprBuilder::record` and the annotation map of a policy are `BTreeMap`s filled by insertion.  The model's
`insertKV` / `hasDupKey` (records, Cedar/Syntax/Parse.lean) and `insertAnn` / `hasDupAnn` (annotations, PolicyParse.lean), and
the predicates `sortedKeys3` (above) / `sortedAnn` (SyntaxPolicy.lean), are the instances at `Expr` and `String` of the
three functions below. -/

def insertByKey {β : Type} (kv : String × β) : List (String × β) → List (String × β)
  | [] => [kv]
  | x :: xs => if kv.1 < x.1 then kv :: x :: xs else x :: insertByKey kv xs

def hasDupKeys {β : Type} : List (String × β) → Bool
  | [] => false
  | (k, _) :: xs => xs.any (fun y => y.1 == k) || hasDupKeys xs

def keysSorted {β : Type} : List (String × β) → Bool
  | (k1, _) :: (k2, v2) :: rest => decide (k1 < k2) && keysSorted ((k2, v2) :: rest)
  | _ => true

section
variable {β : Type}

theorem keysSorted_tail {kv : String × β} {kvs : List (String × β)} (h : keysSorted (kv :: kvs) = true) :
    keysSorted kvs = true := by
  cases kvs with
  | nil => rfl
  | cons kv2 kvs => obtain ⟨k1, v1⟩ := kv; obtain ⟨k2, v2⟩ := kv2; simp only [keysSorted, Bool.and_eq_true] at h; exact h.2

theorem keysSorted_cons {k : String} {v : β} {xs : List (String × β)} (hs : keysSorted xs = true)
    (hlt : ∀ y, xs.head? = some y → k < y.1) : keysSorted ((k, v) :: xs) = true := by
  cases xs with
  | nil => rfl
  | cons y ys =>
    obtain ⟨k2, v2⟩ := y
    simp only [keysSorted, Bool.and_eq_true, decide_eq_true_eq]
    exact ⟨hlt (k2, v2) rfl, hs⟩

theorem keysSorted_lt {k : String} {v : β} : ∀ {kvs : List (String × β)}, keysSorted ((k, v) :: kvs) = true →
    ∀ y ∈ kvs, k < y.1
  | [], _, y, hy => by cases hy
  | (k2, v2) :: kvs, h, y, hy => by
    simp only [keysSorted, Bool.and_eq_true, decide_eq_true_eq] at h
    cases hy with
    | head => exact h.1
    | tail _ hy' => exact String.lt_trans h.1 (keysSorted_lt h.2 y hy')

theorem hasDupKeys_sorted : ∀ {kvs : List (String × β)}, keysSorted kvs = true → hasDupKeys kvs = false
  | [], _ => rfl
  | (k, v) :: kvs, h => by
    simp only [hasDupKeys, Bool.or_eq_false_iff]
    refine ⟨?_, hasDupKeys_sorted (keysSorted_tail h)⟩
    rw [List.any_eq_false]
    intro y hy hc
    have := keysSorted_lt h y hy
    simp only [beq_iff_eq] at hc
    rw [hc] at this
    exact String.lt_irrefl _ this

theorem foldr_insertByKey_sorted : ∀ {kvs : List (String × β)}, keysSorted kvs = true → kvs.foldr insertByKey [] = kvs
  | [], _ => rfl
  | [(k, v)], _ => rfl
  | (k, v) :: (k2, v2) :: kvs, h => by
    have ih := foldr_insertByKey_sorted (keysSorted_tail h)
    simp only [keysSorted, Bool.and_eq_true, decide_eq_true_eq] at h
    rw [List.foldr_cons, ih]
    simp [insertByKey, h.1]

theorem mem_insertByKey {kv y : String × β} : ∀ {xs : List (String × β)}, y ∈ insertByKey kv xs ↔ y = kv ∨ y ∈ xs
  | [] => by simp [insertByKey]
  | x :: xs => by
    simp only [insertByKey]
    split
    · simp
    · simp only [List.mem_cons, mem_insertByKey (xs := xs)]
      constructor
      · rintro (h | h | h) <;> simp [h]
      · rintro (h | h | h) <;> simp [h]

theorem keysSorted_insertByKey {k : String} {v : β} : ∀ {xs : List (String × β)}, keysSorted xs = true →
    (∀ y ∈ xs, y.1 ≠ k) → keysSorted (insertByKey (k, v) xs) = true
  | [], _, _ => rfl
  | (k2, v2) :: xs, hs, hne => by
    simp only [insertByKey]
    split
    · rename_i hlt
      exact keysSorted_cons hs (by intro y hy; simp at hy; subst hy; exact hlt)
    · rename_i hnl
      have hlt : k2 < k := by
        apply Decidable.byContradiction
        intro hc
        exact hne (k2, v2) (by simp) (String.le_antisymm (String.not_lt.mp hnl) (String.not_lt.mp hc))
      have ih := keysSorted_insertByKey (k := k) (v := v) (keysSorted_tail hs) (fun y hy => hne y (by simp [hy]))
      refine keysSorted_cons ih ?_
      intro y hy
      cases xs with
      | nil => simp [insertByKey] at hy; subst hy; exact hlt
      | cons z zs =>
        obtain ⟨k3, v3⟩ := z
        simp only [keysSorted, Bool.and_eq_true, decide_eq_true_eq] at hs
        simp only [insertByKey] at hy
        split at hy
        · simp at hy; subst hy; exact hlt
        · simp at hy; subst hy; exact hs.1

theorem foldr_insertByKey_ok : ∀ {kvs : List (String × β)}, hasDupKeys kvs = false →
    keysSorted (kvs.foldr insertByKey []) = true ∧ ∀ y, y ∈ kvs.foldr insertByKey [] ↔ y ∈ kvs
  | [], _ => ⟨rfl, by simp⟩
  | (k, v) :: kvs, h => by
    simp only [hasDupKeys, Bool.or_eq_false_iff] at h
    obtain ⟨ih1, ih2⟩ := foldr_insertByKey_ok h.2
    have hk := h.1
    rw [List.any_eq_false] at hk
    refine ⟨?_, ?_⟩
    · rw [List.foldr_cons]
      exact keysSorted_insertByKey ih1 (fun y hy hc => hk y ((ih2 y).mp hy) (by simp [hc]))
    · intro y
      rw [List.foldr_cons, mem_insertByKey, ih2]
      simp

end

theorem insertKV_eq_insertByKey : insertKV = insertByKey (β := Expr) := by
  funext kv xs
  induction xs with
  | nil => rfl
  | cons x xs ih => simp only [insertKV, insertByKey, ih]

theorem hasDupKey_eq_hasDupKeys : hasDupKey = hasDupKeys (β := Expr) := by
  funext xs
  induction xs with
  | nil => rfl
  | cons x xs ih => obtain ⟨k, v⟩ := x; simp only [hasDupKey, hasDupKeys, ih]

theorem sortedKeys3_eq_keysSorted : ∀ kvs, sortedKeys3 kvs = keysSorted kvs
  | [] => rfl
  | [_] => rfl
  | (k1, _) :: (k2, v2) :: rest => by simp only [sortedKeys3, keysSorted, sortedKeys3_eq_keysSorted ((k2, v2) :: rest)]

theorem inFrag2_of_inFrag : ∀ e : Expr, inFrag e = true → inFrag2 e = true
  | .lit p, h => by cases p <;> simp_all [inFrag, inFrag2]
  | .var _, _ => rfl
  | .ite c t e, h => by
    simp only [inFrag, Bool.and_eq_true] at h
    simp only [inFrag2, inFrag2_of_inFrag c h.1.1, inFrag2_of_inFrag t h.1.2, inFrag2_of_inFrag e h.2, Bool.and_self]
  | .and a b, h | .or a b, h => by
    simp only [inFrag, Bool.and_eq_true] at h
    simp only [inFrag2, inFrag2_of_inFrag a h.1.1.1, inFrag2_of_inFrag b h.1.1.2, h.1.2, Bool.and_self]
  | .unaryApp .not a, h | .unaryApp .neg a, h => by
    simp only [inFrag] at h
    simp only [inFrag2, inFrag2_of_inFrag a h]
  | .binaryApp op a b, h => by
    simp only [inFrag, Bool.and_eq_true] at h
    simp only [inFrag2, h.1.1.1, inFrag2_of_inFrag a h.1.1.2, inFrag2_of_inFrag b h.1.2, Bool.and_self]
  | .unaryApp .isEmpty _, h | .slot _, h | .unknown _ _, h | .call _ _, h | .getAttr _ _, h | .hasAttr _ _, h
  | .like _ _, h | .is _ _, h | .set _, h | .record _, h => by simp [inFrag] at h
termination_by structural e => e

/-- `inFrag2` has no calls, sets or records, so the two size measures agree on it -/
theorem inFrag2_sub : ∀ e : Expr, inFrag2 e = true → inFrag3 e = true ∧ sz3 e = fsize e
  | .lit p, h => by cases p <;> simp_all [inFrag2, inFrag3, sz3, fsize]
  | .var _, _ => ⟨rfl, rfl⟩
  | .ite c t e, h => by
    simp only [inFrag2, Bool.and_eq_true] at h
    have hc := inFrag2_sub c h.1.1
    have ht := inFrag2_sub t h.1.2
    have he := inFrag2_sub e h.2
    simp only [inFrag3, sz3, fsize, hc, ht, he, Bool.and_self, and_self]
  | .and a b, h | .or a b, h => by
    simp only [inFrag2, Bool.and_eq_true] at h
    have ha := inFrag2_sub a h.1.1
    have hb := inFrag2_sub b h.1.2
    simp only [inFrag3, sz3, fsize, ha, hb, h.2, Bool.and_self, and_self]
  | .unaryApp .not a, h | .unaryApp .neg a, h | .hasAttr a _, h => by
    simp only [inFrag2] at h
    simp only [inFrag3, sz3, fsize, inFrag2_sub a h, and_self]
  | .binaryApp op a b, h => by
    simp only [inFrag2, Bool.and_eq_true] at h
    have ha := inFrag2_sub a h.1.2
    have hb := inFrag2_sub b h.2
    simp only [inFrag3, sz3, fsize, ha, hb, Bool.and_self, and_self]
  | .unaryApp .isEmpty _, h | .slot _, h | .unknown _ _, h | .call _ _, h | .getAttr _ _, h
  | .like _ _, h | .is _ _, h | .set _, h | .record _, h => by simp [inFrag2] at h
termination_by structural e => e

theorem inFrag3_of_inFrag2 (e : Expr) (h : inFrag2 e = true) : inFrag3 e = true := (inFrag2_sub e h).1

theorem sz3_eq_fsize (e : Expr) (h : inFrag2 e = true) : sz3 e = fsize e := (inFrag2_sub e h).2

end Cedar.Syntax
