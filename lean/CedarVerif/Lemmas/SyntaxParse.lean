import CedarVerif.Lemmas.SyntaxEscape
import CedarVerif.Lemmas.SyntaxFrag
/-
C05: precedence-climbing facts about the model parser, for an arbitrary `Expr` parser `pe` underneath.
`tokLevel t` = the lowest grammar level that consumes `t` when it follows a complete operand
(0 Member/Name path, 2 Mult, 3 Add, 4 Relation, 5 And, 6 Or, 7 nobody; 1 would be Unary, whose `!` / `-` stand in front
of an operand, never after one).  A result of a level is a result of every
level above it as long as the next token belongs to a level higher still (`to_*`, `m_*`); the loops of the chain
levels are described in continuation form (`ChainK`).
-/
namespace Cedar.Syntax
open Cedar

def tokLevel : Token → Nat
  | .dot | .lparen | .lbrack | .dcolon => 0
  | .star | .slash | .percent => 2
  | .plus | .minus => 3
  | .lt | .le | .ge | .gt | .neq | .eqeq | .eq => 4
  | .ident s => if s = "in" ∨ s = "has" ∨ s = "like" ∨ s = "is" then 4 else 7
  | .andand => 5
  | .oror => 6
  | _ => 7

def headLv : List Token → Nat
  | [] => 7
  | t :: _ => tokLevel t

theorem headLv_seven_ge {rest : List Token} (h : headLv rest = 7) : 1 ≤ headLv rest := by omega

theorem multOp_none {t : Token} (h : 2 < tokLevel t) : multOp t = none := by
  unfold multOp; split <;> first | rfl | simp [tokLevel] at h
theorem addOp_none {t : Token} (h : 3 < tokLevel t) : addOp t = none := by
  unfold addOp; split <;> first | rfl | simp [tokLevel] at h
theorem andOp_none {t : Token} (h : 5 < tokLevel t) : andOp t = none := by
  unfold andOp; split <;> first | rfl | simp [tokLevel] at h
theorem orOp_none {t : Token} (h : 6 < tokLevel t) : orOp t = none := by
  unfold orOp; split <;> first | rfl | simp [tokLevel] at h
theorem relOp_none {t : Token} (h : 4 < tokLevel t) : relOp t = none := by
  unfold relOp
  split <;> try (first | rfl | (simp [tokLevel] at h; done))
  rename_i s
  by_cases hs : s = "in"
  · simp [tokLevel, hs] at h
  · rw [if_neg hs]
theorem not_kw {t : Token} (h : 4 < tokLevel t) : t ≠ .ident "has" ∧ t ≠ .ident "like" ∧ t ≠ .ident "is" := by
  refine ⟨?_, ?_, ?_⟩ <;> (intro hc; subst hc; simp [tokLevel] at h)

theorem stop_of_seven {opOf : OpOf} {rest : List Token} (h : ∀ t, 6 < tokLevel t → opOf t = none) (hr : headLv rest = 7) :
    ∀ t r, rest = t :: r → opOf t = none := by
  intro t r e; subst e; exact h t (by simp [headLv] at hr; omega)

def noPath : List Token → Bool
  | .dcolon :: _ => false
  | _ => true
def noCall : List Token → Bool
  | .lparen :: _ => false
  | _ => true

theorem noPath_of_lv {R : List Token} (h : 1 ≤ headLv R) : noPath R = true := by
  unfold noPath
  split
  · simp [headLv, tokLevel] at h
  · rfl
theorem noCall_of_lv {R : List Token} (h : 1 ≤ headLv R) : noCall R = true := by
  unfold noCall
  split
  · simp [headLv, tokLevel] at h
  · rfl

theorem pathRest_noPath {ts : List Token} (h : noPath ts = true) : pathRest ts = ([], ts) := by
  unfold pathRest
  split
  · simp [noPath] at h
  · rfl

theorem accesses_stop (pe : P EOS) (n : Nat) {ts : List Token} (h : 1 ≤ headLv ts) : accesses pe n ts = some ([], ts) := by
  unfold accesses
  split <;> (try split) <;> first | rfl | simp [headLv, tokLevel] at h

theorem mkAnd_eq {a b : Expr} (h : (isBoolLit a && isBoolLit b) = false) : mkAnd a b = .and a b := by
  unfold mkAnd
  split
  · simp [isBoolLit] at h
  · rfl
theorem mkOr_eq {a b : Expr} (h : (isBoolLit a && isBoolLit b) = false) : mkOr a b = .or a b := by
  unfold mkOr
  split
  · simp [isBoolLit] at h
  · rfl

theorem strOfRaw_escapeStr (me : Char → Bool) (s : String) : strOfRaw (escapeStr me s.toList) = some s := by
  rw [strOfRaw, escapeStr, unescapeStr_escapeStrAt]
  exact congrArg some (String.ofList_toList ..)

theorem unreserved_of_normalized {a : String} (h : isNormalizedIdent a = true) : unreservedIdent a = true := by
  simp only [isNormalizedIdent, Bool.and_eq_true] at h
  simp only [unreservedIdent, validIdent, Bool.and_eq_true]
  exact ⟨h.1.2, h.2⟩

theorem unreserved_ne {c : String} (h : unreservedIdent c = true) : c ≠ "true" ∧ c ≠ "false" ∧ c ≠ "if" := by
  refine ⟨?_, ?_, ?_⟩ <;> (intro hc; subst hc; revert h; decide)

theorem dropLast_getLast (c : String) : ∀ (l : List String), l ≠ [] → l.dropLast ++ [l.getLast?.getD c] = l
  | [], h => absurd rfl h
  | [x], _ => rfl
  | x :: y :: l, _ => by
    have := dropLast_getLast c (y :: l) (by simp)
    simp only [List.dropLast_cons_cons, List.getLast?_cons_cons, List.cons_append, this]

theorem toMeth_cases {id : String} {e e' : Expr} {args : List Expr} (h : toMeth id e args = some e') :
    (∃ op a, args = [a] ∧ e' = .binaryApp op e a) ∨ (args = [] ∧ e' = .unaryApp .isEmpty e) ∨
      (isExtMethod id = true ∧ e' = .call id (e :: args)) := by
  revert h
  -- one arm per method name and shape of `args`; those with the wrong number of arguments answer `none`
  fun_cases toMeth id e args <;> intro h <;> try (cases h; done)
  -- `contains containsAll containsAny getTag hasTag` on one argument
  case case1 | case3 | case5 | case9 | case11 => cases h; exact .inl ⟨_, _, rfl, rfl⟩
  -- `isEmpty` on none
  case case7 => cases h; exact .inr (.inl ⟨rfl, rfl⟩)
  -- an extension method
  case case13 hm => cases h; exact .inr (.inr ⟨hm, rfl⟩)

theorem primary_ident (pe : P EOS) (s : String) {ts : List Token} (h : noPath ts = true) :
    primary pe (.ident s :: ts) =
      if s = "true" then some (.boolLit true, ts)
      else if s = "false" then some (.boolLit false, ts)
      else match varOfName s with
        | some v => some (.var v, ts)
        | none => if unreservedIdent s then some (.name [] s, ts) else none := by
  simp only [primary, pathRest_noPath h]
  split
  · simp [noPath] at h
  · simp [noPath] at h
  · rfl

theorem member_of_primary {pe : P EOS} {ts rest : List Token} {s : EOS} (h : primary pe ts = some (s, rest))
    (hr : 1 ≤ headLv rest) : member pe ts = some (s, rest) := by
  unfold member
  rw [h]
  simp only [accesses_stop pe _ hr]
  cases s <;> rfl

theorem exprLevel_close (pe : P EOS) (t : Token) (ht : t = .rparen ∨ t = .rbrack ∨ t = .rbrace ∨ t = .comma) (ts : List Token) :
    exprLevel pe (t :: ts) = none := by
  -- every level hands its first token down to `primary`, which has no arm for a closing token
  rcases ht with h | h | h | h <;> subst h <;>
    simp [exprLevel, orLevel, andLevel, chainLevel, relation, add, mult, unary, member, primary]

theorem chain_lift {opd : P EOS} {opOf : OpOf} {ts r : List Token} {s : EOS}
    (h : opd ts = some (s, r)) (hr : ∀ t r', r = t :: r' → opOf t = none) :
    chainLevel opd opOf ts = some (s, r) := by
  unfold chainLevel
  rw [h]
  cases r with
  | nil => rfl
  | cons t r' => simp [hr t r' rfl]

theorem to_mult {pe : P EOS} {ts r : List Token} {s : EOS} (h : unary pe ts = some (s, r)) (hr : 2 < headLv r) :
    mult pe ts = some (s, r) :=
  chain_lift h (fun t r' e => by subst e; exact multOp_none hr)

theorem to_add {pe : P EOS} {ts r : List Token} {s : EOS} (h : mult pe ts = some (s, r)) (hr : 3 < headLv r) :
    add pe ts = some (s, r) :=
  chain_lift h (fun t r' e => by subst e; exact addOp_none hr)

theorem to_relation {pe : P EOS} {ts r : List Token} {s : EOS} (h : add pe ts = some (s, r)) (hr : 4 < headLv r) :
    relation pe ts = some (s, r) := by
  unfold relation
  rw [h]
  cases r with
  | nil => rfl
  | cons t r' =>
    have hk := not_kw (t := t) hr
    simp [hk.1, hk.2.1, hk.2.2, relOp_none (t := t) hr]

theorem to_and {pe : P EOS} {ts r : List Token} {s : EOS} (h : relation pe ts = some (s, r)) (hr : 5 < headLv r) :
    andLevel pe ts = some (s, r) :=
  chain_lift h (fun t r' e => by subst e; exact andOp_none hr)

theorem to_or {pe : P EOS} {ts r : List Token} {s : EOS} (h : andLevel pe ts = some (s, r)) (hr : 6 < headLv r) :
    orLevel pe ts = some (s, r) :=
  chain_lift h (fun t r' e => by subst e; exact orOp_none hr)

/-- the first token of an operand / of a non-`if` expression -/
def startsPlain : List Token → Bool
  | .bang :: _ | .minus :: _ => false
  | .ident s :: _ => s != "if"
  | _ => true

theorem to_unary {pe : P EOS} {ts : List Token} (hs : startsPlain ts = true) : unary pe ts = member pe ts := by
  unfold unary
  cases ts with
  | nil => rfl
  | cons t r => cases t <;> simp_all [startsPlain]

theorem to_expr {pe : P EOS} {ts : List Token} (hs : ∀ r, ts ≠ .ident "if" :: r) : exprLevel pe ts = orLevel pe ts := by
  unfold exprLevel
  split
  · rename_i ts1; exact absurd rfl (hs ts1)
  · rfl

theorem not_if_of_plain {ts : List Token} (hs : startsPlain ts = true) : ∀ r, ts ≠ .ident "if" :: r := by
  intro r h; subst h; simp [startsPlain] at hs

section
variable {pe : P EOS} {ts r : List Token} {s : EOS}

theorem or_to_top (h : orLevel pe ts = some (s, r)) (hs : ∀ r, ts ≠ .ident "if" :: r) : exprLevel pe ts = some (s, r) := by
  rw [to_expr hs]; exact h
theorem and_to_top (h : andLevel pe ts = some (s, r)) (hr : headLv r = 7) (hs : ∀ r, ts ≠ .ident "if" :: r) :
    exprLevel pe ts = some (s, r) :=
  or_to_top (to_or h (by omega)) hs
theorem rel_to_top (h : relation pe ts = some (s, r)) (hr : headLv r = 7) (hs : ∀ r, ts ≠ .ident "if" :: r) :
    exprLevel pe ts = some (s, r) :=
  and_to_top (to_and h (by omega)) hr hs
theorem add_to_top (h : add pe ts = some (s, r)) (hr : headLv r = 7) (hs : ∀ r, ts ≠ .ident "if" :: r) :
    exprLevel pe ts = some (s, r) :=
  rel_to_top (to_relation h (by omega)) hr hs
theorem mult_to_top (h : mult pe ts = some (s, r)) (hr : headLv r = 7) (hs : ∀ r, ts ≠ .ident "if" :: r) :
    exprLevel pe ts = some (s, r) :=
  add_to_top (to_add h (by omega)) hr hs
theorem unary_to_add (h : unary pe ts = some (s, r)) (hr : 3 < headLv r) : add pe ts = some (s, r) :=
  to_add (to_mult h (by omega)) hr

theorem m_unary (h : member pe ts = some (s, r)) (hs : startsPlain ts = true) : unary pe ts = some (s, r) := by
  rw [to_unary hs]; exact h
theorem m_mult (h : member pe ts = some (s, r)) (hs : startsPlain ts = true) (hr : 2 < headLv r) : mult pe ts = some (s, r) :=
  to_mult (m_unary h hs) hr
theorem m_add (h : member pe ts = some (s, r)) (hs : startsPlain ts = true) (hr : 3 < headLv r) : add pe ts = some (s, r) :=
  to_add (m_mult h hs (by omega)) hr
theorem m_rel (h : member pe ts = some (s, r)) (hs : startsPlain ts = true) (hr : 4 < headLv r) : relation pe ts = some (s, r) :=
  to_relation (m_add h hs (by omega)) hr
theorem m_and (h : member pe ts = some (s, r)) (hs : startsPlain ts = true) (hr : 5 < headLv r) : andLevel pe ts = some (s, r) :=
  to_and (m_rel h hs (by omega)) hr
theorem m_top (h : member pe ts = some (s, r)) (hs : startsPlain ts = true) (hr : headLv r = 7) : exprLevel pe ts = some (s, r) :=
  add_to_top (m_add h hs (by omega)) hr (not_if_of_plain hs)
end

theorem str_top (pe : P EOS) (raw : List Char) (R : List Token) (hR : headLv R = 7) :
    exprLevel pe (.str raw :: R) = some (.strLit raw, R) :=
  m_top (member_of_primary (by simp [primary]) (by omega)) (by simp [startsPlain]) hR

theorem countBang_plain {ts : List Token} (hs : startsPlain ts = true) : countBang ts = (0, ts) := by
  cases ts with
  | nil => rfl
  | cons t r => cases t <;> simp_all [startsPlain, countBang]

theorem i64Max_le_u64Max : i64Max + 1 ≤ u64Max := by decide

theorem negLit_expr (pe : P EOS) (k : Nat) (hk : k ≤ i64Max + 1) (rest : List Token) :
    exprLevel pe (.minus :: .num k :: .rparen :: rest) = some (.expr (.lit (.int (-(Int.ofNat k)))), .rparen :: rest) := by
  have hku : k ≤ u64Max := by have := i64Max_le_u64Max; omega
  have hm : member pe (.num k :: .rparen :: rest) = some (.num k, .rparen :: rest) :=
    member_of_primary (by simp [primary, hku]) (by simp [headLv, tokLevel])
  have hu : unary pe (.minus :: .num k :: .rparen :: rest) = some (.expr (.lit (.int (-(Int.ofNat k)))), .rparen :: rest) := by
    unfold unary
    simp [countMinus, hm, hk, applyN]
  exact add_to_top (unary_to_add hu (by simp [headLv, tokLevel])) (by simp [headLv, tokLevel]) (by intro r h; cases h)

theorem startsWithRelOp_stop {rest : List Token} (h : headLv rest = 7) : startsWithRelOp rest = false := by
  cases rest with
  | nil => rfl
  | cons t r => simp [startsWithRelOp, relOp_none (t := t) (by simp [headLv] at h; omega)]

theorem rel_one {pe : P EOS} {tok : Token} {g : Expr → Expr → Expr} {A B rest : List Token} {sa sb : EOS} {a b : Expr}
    (hk : tok ≠ .ident "has" ∧ tok ≠ .ident "like" ∧ tok ≠ .ident "is") (hop : relOp tok = some (some g))
    (ha : add pe (A ++ tok :: (B ++ rest)) = some (sa, tok :: (B ++ rest))) (hsa : sa.toExpr = some a)
    (hb : add pe (B ++ rest) = some (sb, rest)) (hsb : sb.toExpr = some b) (hrest : headLv rest = 7) :
    relation pe (A ++ tok :: (B ++ rest)) = some (.expr (g a b), rest) := by
  unfold relation
  rw [ha]
  simp [hk.1, hk.2.1, hk.2.2, hop, hsa, hb, hsb, startsWithRelOp_stop hrest]

theorem continuesAdd_stop {rest : List Token} (h : headLv rest = 7) : continuesAdd rest = false := by
  unfold continuesAdd; split <;> first | rfl | simp [headLv, tokLevel] at h

theorem hasFields_stop {rest : List Token} (h : headLv rest = 7) : hasFields rest = some ([], rest) := by
  unfold hasFields; split <;> first | rfl | simp [headLv, tokLevel] at h

theorem hasRhs_key (me : Char → Bool) (a : String) {rest : List Token} (h : headLv rest = 7) :
    hasRhs (keyTok me a :: rest) = some ([a], rest) := by
  unfold keyTok
  cases hn : isNormalizedIdent a
  · simp [hasRhs, strTok, continuesAdd_stop h, strOfRaw_escapeStr]
  · simp only [if_true, hasRhs, unreserved_of_normalized hn]
    split
    · simp [headLv, tokLevel] at h
    · simp [hasFields_stop h, continuesAdd_stop h]

/-- after reading `toks`, the chain level is in its loop with accumulator `e`, enough fuel, and `R` still to read -/
def ChainK (opd : P EOS) (opOf : OpOf) (toks : List Token) (e : Expr) (R : List Token) : Prop :=
  ∃ fuel, R.length ≤ fuel ∧
    chainLevel opd opOf (toks ++ R) = (chainLoop opd opOf fuel e R).map (fun r => (EOS.expr r.1, r.2))

theorem chainLoop_step {opd : P EOS} {opOf : OpOf} {tok : Token} {g : Expr → Expr → Expr} {B R : List Token} {sb : EOS}
    {b : Expr} (acc : Expr) (fuel : Nat) (hop : opOf tok = some (some g))
    (hb : opd (B ++ R) = some (sb, R)) (hsb : sb.toExpr = some b) :
    chainLoop opd opOf (fuel + 1) acc (tok :: (B ++ R)) = chainLoop opd opOf fuel (g acc b) R := by
  rw [chainLoop]
  simp only [hop, hb, hsb]

theorem chainLoop_stop {opd : P EOS} {opOf : OpOf} {R : List Token} (acc : Expr) (fuel : Nat)
    (hR : ∀ t r, R = t :: r → opOf t = none) : chainLoop opd opOf fuel acc R = some (acc, R) := by
  cases R with
  | nil => cases fuel <;> simp [chainLoop]
  | cons t r => have := hR t r rfl; cases fuel <;> simp [chainLoop, this]

theorem chainK_node {opd : P EOS} {opOf : OpOf} {tok : Token} {g : Expr → Expr → Expr}
    {L B R : List Token} {sb : EOS} {a b : Expr}
    (hop : opOf tok = some (some g))
    (hb : opd (B ++ R) = some (sb, R)) (hsb : sb.toExpr = some b)
    (hL : (∃ sa, opd (L ++ tok :: (B ++ R)) = some (sa, tok :: (B ++ R)) ∧ sa.toExpr = some a) ∨
          ChainK opd opOf L a (tok :: (B ++ R))) :
    ChainK opd opOf (L ++ tok :: B) (g a b) R := by
  have hassoc : (L ++ tok :: B) ++ R = L ++ tok :: (B ++ R) := by simp
  cases hL with
  | inl h =>
    obtain ⟨sa, ha, hsa⟩ := h
    refine ⟨(B ++ R).length, by simp, ?_⟩
    rw [hassoc]
    unfold chainLevel
    rw [ha]
    simp only [hop, Option.isSome_some, if_true, hsa, List.length_cons]
    rw [chainLoop_step a _ hop hb hsb]
  | inr h =>
    obtain ⟨fuel, hfl, heq⟩ := h
    obtain ⟨m, rfl⟩ : ∃ m, fuel = m + 1 := ⟨fuel - 1, by simp at hfl; omega⟩
    refine ⟨m, by simp at hfl; omega, ?_⟩
    rw [hassoc, heq, chainLoop_step a _ hop hb hsb]

theorem chainK_done {opd : P EOS} {opOf : OpOf} {toks R : List Token} {e : Expr} (h : ChainK opd opOf toks e R)
    (hR : ∀ t r, R = t :: r → opOf t = none) : chainLevel opd opOf (toks ++ R) = some (.expr e, R) := by
  obtain ⟨fuel, _, heq⟩ := h
  rw [heq, chainLoop_stop e fuel hR]
  rfl

end Cedar.Syntax
