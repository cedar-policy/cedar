import CedarVerif.Driver.CodecSchema
import CedarVerif.Driver.CodecExpr
import CedarVerif.Cedar.Validation.Level
/-
Driver ops that tie the model's TYPED AST (`Cedar.Level.annotate`, the object the C14 / C15 / C16 `*_valid`
theorems speak about through `IsTypedFor` / `typedPolicy`; C17's `Cedar.Manifest.typedAst`, Lemmas/ManifestValid.lean, is
a separate definition over `Cedar.Manifest.TExpr` that no lemma relates to `annotate`, and is not printed here) to the typed expression that the Rust
typechecker hands back (`Typechecker::typecheck_by_single_request_env` → `PolicyCheck::{Success, Irrelevant}`):

  (typedast shape <schema> (env <P> <action uid> <R>) <cond>)
      → (typed success|irrelevant <expr>) | (err) | (outside-model)
        `<expr>` = `(annotate .strict s env cond []).erase`, printed like harness/src/sx.rs `expr` (= `into_expr` of Rust's
        typed expression); `irrelevant` when the condition is typed `False` (`PolicyCheck::Irrelevant`), `(err)` when the
        strict typechecker model rejects (`PolicyCheck::Fail`, or `Irrelevant` with errors).
  (typedast types <schema> (env <P> <action uid> <R>) <cond>)
      → (typed success|irrelevant <ttree>) | (err) | (outside-model) | (model-mismatch)
        `<ttree>` ::= (ty <type> (<head> …<ttree>…))  : the same tree with the type annotation of EVERY node (`expr.data()`
        in Rust, `typeOf` under the capabilities in force at that node in the model; types printed as in
        harness/src/sx_schema.rs `ty`).  The tree is rebuilt here (`ann`, same recursion as `annotate`), and the op answers
        `(model-mismatch)` unless the `TExpr` it builds alongside (kinds = `kindOf` of the printed child types) is
        literally the `TExpr` that `annotate` returns — so what is compared with Rust is `annotate`'s output, decorated.
-/
namespace CedarVerif.Ops.TypedAst
open CedarVerif Cedar Cedar.Level

partial def encType : CedarType → Sexp
  | .never => .atom "never"
  | .bool .anyBool => .list [.atom "bool", .atom "any"]
  | .bool .tt => .list [.atom "bool", .atom "tt"]
  | .bool .ff => .list [.atom "bool", .atom "ff"]
  | .long => .atom "long"
  | .string => .atom "string"
  | .set none => .list [.atom "set", .atom "any"]
  | .set (some t) => .list [.atom "set", encType t]
  | .record attrs o =>
    .list (.atom "record" :: .atom (if o then "open" else "closed") ::
      attrs.map (fun (k, r, t) => .list [.str k, .atom (if r then "req" else "opt"), encType t]))
  | .entity names => .list (.atom "entity" :: names.map Sexp.str)
  | .anyEntity => .atom "anyEntity"
  | .ext n => .list [.atom "ext", .str n]

def tnode (τ : CedarType) (body : List Sexp) : Sexp := .list [.atom "ty", encType τ, .list body]

abbrev R := Except TcError (Sexp × TExpr)

-- the typed tree, and the `TExpr` it decorates; same recursion and capability threading as `annotate`
mutual
partial def ann (s : Schema) (env : RequestEnv) (e : Expr) (caps : Capabilities) : R :=
  match typeOf .strict s env e caps with
  | .error err => .error err
  | .ok (τ, _) =>
    match e with
    | .lit p => .ok (tnode τ [.atom "lit", encPrim p], .lit p)
    | .var v => .ok (tnode τ [.atom "var", .atom (encVar v)], .var v)
    | .slot sl => .ok (tnode τ [.atom "slot", .atom (encSlotId sl)], .slot sl)
    | .unknown _ _ => .error .outside
    | .ite c t f =>
      match typeOf .strict s env c caps, ann s env c caps with
      | .error err, _ => .error err
      | _, .error err => .error err
      | .ok (τc, cc), .ok (xc, tc) =>
        if τc.isTrue then
          match ann s env t (caps.union cc) with
          | .error err => .error err
          | .ok (xt, tt) => .ok (tnode τ [.atom "ite", xc, xt, xt], .ite tc tt tt)
        else if τc.isFalse then
          match ann s env f caps with
          | .error err => .error err
          | .ok (xf, tf) => .ok (tnode τ [.atom "ite", xc, xf, xf], .ite tc tf tf)
        else
          match ann s env t (caps.union cc), ann s env f caps with
          | .error err, _ => .error err
          | _, .error err => .error err
          | .ok (xt, tt), .ok (xf, tf) => .ok (tnode τ [.atom "ite", xc, xt, xf], .ite tc tt tf)
    | .and a b =>
      match typeOf .strict s env a caps, ann s env a caps with
      | .error err, _ => .error err
      | _, .error err => .error err
      | .ok (τa, ca), .ok (xa, ta) =>
        if τa.isFalse then .ok (xa, ta)
        else match ann s env b (caps.union ca) with
          | .error err => .error err
          | .ok (xb, tb) => .ok (tnode τ [.atom "and", xa, xb], .and ta tb)
    | .or a b =>
      match typeOf .strict s env a caps, ann s env a caps with
      | .error err, _ => .error err
      | _, .error err => .error err
      | .ok (τa, _), .ok (xa, ta) =>
        if τa.isTrue then .ok (xa, ta)
        else match ann s env b caps with
          | .error err => .error err
          | .ok (xb, tb) => .ok (tnode τ [.atom "or", xa, xb], .or ta tb)
    | .unaryApp op a =>
      match ann s env a caps with
      | .error err => .error err
      | .ok (xa, ta) => .ok (tnode τ [.atom "un", .atom (encUnary op), xa], .unaryApp op ta)
    | .binaryApp op a b =>
      match ann s env a caps, ann s env b caps with
      | .error err, _ => .error err
      | _, .error err => .error err
      | .ok (xa, ta), .ok (xb, tb) => .ok (tnode τ [.atom "bin", .atom (encBinary op), xa, xb], .binaryApp op ta tb)
    | .call fn args =>
      match annList s env args caps with
      | .error err => .error err
      | .ok xs => .ok (tnode τ (.atom "call" :: .str fn :: xs.map (·.1)), .call fn (xs.map (·.2)))
    | .getAttr x a =>
      match typeOf .strict s env x caps, ann s env x caps with
      | .error err, _ => .error err
      | _, .error err => .error err
      | .ok (τx, _), .ok (xx, tx) => .ok (tnode τ [.atom "get", xx, .str a], .getAttr (kindOf τx) tx a)
    | .hasAttr x a =>
      match typeOf .strict s env x caps, ann s env x caps with
      | .error err, _ => .error err
      | _, .error err => .error err
      | .ok (τx, _), .ok (xx, tx) => .ok (tnode τ [.atom "has", xx, .str a], .hasAttr (kindOf τx) tx a)
    | .like x p =>
      match ann s env x caps with
      | .error err => .error err
      | .ok (xx, tx) => .ok (tnode τ [.atom "like", xx, .list (.atom "pat" :: p.map encPatElem)], .like tx p)
    | .is x ety =>
      match ann s env x caps with
      | .error err => .error err
      | .ok (xx, tx) => .ok (tnode τ [.atom "is", xx, .str ety], .is tx ety)
    | .set es =>
      match annList s env es caps with
      | .error err => .error err
      | .ok xs => .ok (tnode τ (.atom "set" :: xs.map (·.1)), .set (xs.map (·.2)))
    | .record kvs =>
      match annList s env (kvs.map (·.2)) caps with
      | .error err => .error err
      | .ok xs =>
        let ks := kvs.map (·.1)
        .ok (tnode τ (.atom "rec" :: (ks.zip xs).map (fun (k, x) => .list [.str k, x.1])), .record ((ks.zip xs).map (fun (k, x) => (k, x.2))))
partial def annList (s : Schema) (env : RequestEnv) (es : List Expr) (caps : Capabilities) : Except TcError (List (Sexp × TExpr)) :=
  match es with
  | [] => .ok []
  | e :: rest =>
    match ann s env e caps, annList s env rest caps with
    | .error err, _ => .error err
    | _, .error err => .error err
    | .ok x, .ok xs => .ok (x :: xs)
end

/-- literal equality of typed ASTs (through the derived `Repr`) -/
def sameTExpr (a b : TExpr) : Bool := toString (repr a) == toString (repr b)

def decEnv (s : Schema) : Sexp → Option RequestEnv
  | .list [.atom "env", .str p, a, .str r] => do
    let a ← decUid a
    let act ← s.action? a
    some { principal := p, action := a, resource := r, context := act.context, principalSlot := none, resourceSlot := none }
  | _ => none

def handleTypedAst (x : Sexp) : Option String :=
  match x with
  | .list [.atom "typedast", .atom which, s, env, e] =>
    match decSchema s, decExpr e with
    | some s, some e =>
      match decEnv s env with
      | none => some "(bad-op)"
      | some env =>
        some (match expectOneOf (typeOf .strict s env e []) [boolT] with
          | .error .outside => "(outside-model)"
          | .error .fail => "(err)"
          | .ok (τ, _) =>
            let verdict := if τ.isFalse then "irrelevant" else "success"
            match annotate .strict s env e [] with
            | .error .outside => "(outside-model)"
            | .error .fail => "(err)"
            | .ok te =>
              if which == "shape" then "(typed " ++ verdict ++ " " ++ (encExpr te.erase).toString ++ ")"
              else if which == "types" then
                match ann s env e [] with
                | .error .outside => "(outside-model)"
                | .error .fail => "(model-mismatch)"
                | .ok (x, te') =>
                  if sameTExpr te te' then "(typed " ++ verdict ++ " " ++ x.toString ++ ")" else "(model-mismatch)"
              else "(bad-op)")
    | _, _ => some "(bad-op)"
  | _ => none

end CedarVerif.Ops.TypedAst
