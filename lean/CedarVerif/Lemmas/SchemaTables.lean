import CedarVerif.Cedar.Validation.Schema
import CedarVerif.Lemmas.Assoc
/-
The two tables of a resolved schema, entity types and actions, are association lists: `Schema.entityType?` and `Schema.action?`
are `assoc?`.  What a lookup finds is an entry of the table, so a Boolean test that every entry passes holds of it.
-/
namespace Cedar

theorem Schema.entityType?_eq_assoc (s : Schema) (T : EntityType) : s.entityType? T = assoc? s.ets T := by
  unfold Schema.entityType? assoc?
  cases s.ets.find? (fun p => p.1 == T) <;> rfl

theorem Schema.action?_eq_assoc (s : Schema) (u : EntityUID) : s.action? u = assoc? s.acts u := by
  unfold Schema.action? assoc?
  cases s.acts.find? (fun p => p.1 == u) <;> rfl

theorem entityType?_mem {s : Schema} {T : EntityType} {et : EntityTypeEntry} (h : s.entityType? T = some et) : (T, et) ∈ s.ets :=
  mem_of_assoc? (Schema.entityType?_eq_assoc s T ▸ h)

theorem action?_mem {s : Schema} {u : EntityUID} {a : ActionEntry} (h : s.action? u = some a) : (u, a) ∈ s.acts :=
  mem_of_assoc? (Schema.action?_eq_assoc s u ▸ h)

theorem entityType?_all {s : Schema} {f : EntityType × EntityTypeEntry → Bool} (h : s.ets.all f = true)
    {T : EntityType} {et : EntityTypeEntry} (hl : s.entityType? T = some et) : f (T, et) = true :=
  List.all_eq_true.mp h _ (entityType?_mem hl)

theorem action?_all {s : Schema} {f : EntityUID × ActionEntry → Bool} (h : s.acts.all f = true)
    {u : EntityUID} {a : ActionEntry} (hl : s.action? u = some a) : f (u, a) = true :=
  List.all_eq_true.mp h _ (action?_mem hl)

end Cedar
