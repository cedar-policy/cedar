import CedarVerif.Lemmas.TpeArmOut
/- C14 / C15: the residual a typed expression starts as (`try_from_typed_expr`) evaluates like the expression; structural
   induction over expressions and over ALL residuals, with membership-indexed hypotheses for the n-ary nodes. -/
namespace Cedar.Tpe
open Cedar

variable {req : Request} {es : Entities}

theorem _root_.Cedar.Expr.induct {P : Expr → Prop} (lit : ∀ p, P (.lit p)) (var : ∀ v, P (.var v)) (slot : ∀ s, P (.slot s))
    (unknown : ∀ n t, P (.unknown n t)) (ite : ∀ c t e, P c → P t → P e → P (.ite c t e))
    (and : ∀ a b, P a → P b → P (.and a b)) (or : ∀ a b, P a → P b → P (.or a b))
    (unaryApp : ∀ op a, P a → P (.unaryApp op a)) (binaryApp : ∀ op a b, P a → P b → P (.binaryApp op a b))
    (call : ∀ fn args, (∀ x, x ∈ args → P x) → P (.call fn args))
    (getAttr : ∀ e a, P e → P (.getAttr e a)) (hasAttr : ∀ e a, P e → P (.hasAttr e a))
    (like : ∀ e p, P e → P (.like e p)) (is : ∀ e ty, P e → P (.is e ty))
    (set : ∀ xs, (∀ x, x ∈ xs → P x) → P (.set xs)) (record : ∀ kvs, (∀ kv, kv ∈ kvs → P kv.2) → P (.record kvs))
    (e : Expr) : P e :=
  Expr.rec (motive_1 := P) (motive_2 := fun xs => ∀ x, x ∈ xs → P x) (motive_3 := fun kvs => ∀ kv, kv ∈ kvs → P kv.2)
    (motive_4 := fun kv => P kv.2) lit var slot unknown ite and or unaryApp binaryApp call getAttr hasAttr like is set record
    (fun _ h => nomatch h) (fun _ _ hx hxs y hy => (List.mem_cons.mp hy).elim (fun h => h ▸ hx) (hxs y))
    (fun _ h => nomatch h) (fun _ _ hx hxs y hy => (List.mem_cons.mp hy).elim (fun h => h ▸ hx) (hxs y))
    (fun _ _ h => h) e

theorem ofExprList_eval_of (xs : List Expr)
    (ih : ∀ x, x ∈ xs → ∀ r, Residual.ofExpr x = some r → r.eval req es = evaluate req es [] x) :
    ∀ rs, Residual.ofExprList xs = some rs → Residual.evalList req es rs = evaluateList req es [] xs := by
  induction xs with
  | nil => intro rs h; cases h; rfl
  | cons x xs ihx =>
    intro rs h
    simp only [Residual.ofExprList] at h
    cases hx : Residual.ofExpr x <;> cases hxs : Residual.ofExprList xs <;> simp [hx, hxs] at h
    subst h
    rw [evaluateList_cons, ← ih x List.mem_cons_self _ hx, ← ihx (fun y hy => ih y (List.mem_cons_of_mem _ hy)) _ hxs]
    exact evalList_cons _ _ _ _

theorem ofExprKVs_eval_of (xs : List (String × Expr))
    (ih : ∀ kv, kv ∈ xs → ∀ r, Residual.ofExpr kv.2 = some r → r.eval req es = evaluate req es [] kv.2) :
    ∀ rs, Residual.ofExprKVs xs = some rs → Residual.evalKVs req es rs = evaluateKVs req es [] xs := by
  induction xs with
  | nil => intro rs h; cases h; rfl
  | cons kx xs ihx =>
    obtain ⟨k, x⟩ := kx
    intro rs h
    simp only [Residual.ofExprKVs] at h
    cases hx : Residual.ofExpr x <;> cases hxs : Residual.ofExprKVs xs <;> simp [hx, hxs] at h
    subst h
    rw [evaluateKVs_cons, ← ih (k, x) List.mem_cons_self _ hx, ← ihx (fun y hy => ih y (List.mem_cons_of_mem _ hy)) _ hxs]
    exact evalKVs_cons _ _ _ _ _

/-- `Residual.eval` is written with the combinators of which `evaluate_*` say that `evaluate` computes them -/
theorem ofExpr_eval : ∀ (e : Expr) (r : Residual), Residual.ofExpr e = some r → r.eval req es = evaluate req es [] e := by
  intro e
  induction e using Expr.induct with
  | lit p => intro r h; simp only [Residual.ofExpr, Option.some.injEq] at h; subst h; simp [Residual.eval, evaluate]
  | var v =>
      intro r h; simp only [Residual.ofExpr, Option.some.injEq] at h; subst h
      cases v <;> simp [Residual.eval, RKind.eval, evaluate]
  | slot _ => intro r h; simp [Residual.ofExpr] at h
  | unknown _ _ => intro r h; simp [Residual.ofExpr] at h
  | ite c t e ihc iht ihe =>
      intro r h
      simp only [Residual.ofExpr] at h
      cases hc : Residual.ofExpr c <;> cases ht : Residual.ofExpr t <;> cases he : Residual.ofExpr e <;> simp [hc, ht, he] at h
      subst h
      simp only [Residual.eval, RKind.eval, evaluate_ite, ihc _ hc, iht _ ht, ihe _ he]
  | and a b iha ihb =>
      intro r h
      simp only [Residual.ofExpr] at h
      cases ha : Residual.ofExpr a <;> cases hb : Residual.ofExpr b <;> simp [ha, hb] at h
      subst h
      simp only [Residual.eval, RKind.eval, evaluate_and, iha _ ha, ihb _ hb]
  | or a b iha ihb =>
      intro r h
      simp only [Residual.ofExpr] at h
      cases ha : Residual.ofExpr a <;> cases hb : Residual.ofExpr b <;> simp [ha, hb] at h
      subst h
      simp only [Residual.eval, RKind.eval, evaluate_or, iha _ ha, ihb _ hb]
  | unaryApp op a iha =>
      intro r h
      simp only [Residual.ofExpr] at h
      cases ha : Residual.ofExpr a <;> simp [ha] at h
      subst h
      simp only [Residual.eval, RKind.eval, evaluate_unary, iha _ ha]
  | binaryApp op a b iha ihb =>
      intro r h
      simp only [Residual.ofExpr] at h
      cases ha : Residual.ofExpr a <;> cases hb : Residual.ofExpr b <;> simp [ha, hb] at h
      subst h
      simp only [Residual.eval, RKind.eval, evaluate_binary, iha _ ha, ihb _ hb]
  | call fn args ih =>
      intro r h
      simp only [Residual.ofExpr] at h
      cases hl : Residual.ofExprList args <;> simp [hl] at h
      subst h
      simp only [Residual.eval, eval_call, evaluate_call, ofExprList_eval_of args ih _ hl]
  | getAttr e a ihe =>
      intro r h
      simp only [Residual.ofExpr] at h
      cases he : Residual.ofExpr e <;> simp [he] at h
      subst h
      simp only [Residual.eval, RKind.eval, evaluate_getAttr, ihe _ he]
  | hasAttr e a ihe =>
      intro r h
      simp only [Residual.ofExpr] at h
      cases he : Residual.ofExpr e <;> simp [he] at h
      subst h
      simp only [Residual.eval, RKind.eval, evaluate_hasAttr, ihe _ he]
  | like e p ihe =>
      intro r h
      simp only [Residual.ofExpr] at h
      cases he : Residual.ofExpr e <;> simp [he] at h
      subst h
      simp only [Residual.eval, RKind.eval, evaluate_like, ihe _ he]
  | is e ty ihe =>
      intro r h
      simp only [Residual.ofExpr] at h
      cases he : Residual.ofExpr e <;> simp [he] at h
      subst h
      simp only [Residual.eval, RKind.eval, evaluate_is, ihe _ he]
  | set xs ih =>
      intro r h
      simp only [Residual.ofExpr] at h
      cases hl : Residual.ofExprList xs <;> simp [hl] at h
      subst h
      simp only [Residual.eval, eval_set, evaluate_set, ofExprList_eval_of xs ih _ hl]
  | record kvs ih =>
      intro r h
      simp only [Residual.ofExpr] at h
      cases hl : Residual.ofExprKVs kvs <;> simp [hl] at h
      subst h
      simp only [Residual.eval, eval_record, evaluate_record, ofExprKVs_eval_of kvs ih _ hl]

theorem ofExprList_eval : ∀ (xs : List Expr) (rs : List Residual), Residual.ofExprList xs = some rs →
    Residual.evalList req es rs = evaluateList req es [] xs :=
  fun xs => ofExprList_eval_of xs fun x _ => ofExpr_eval x

theorem ofExprKVs_eval : ∀ (xs : List (String × Expr)) (rs : List (String × Residual)), Residual.ofExprKVs xs = some rs →
    Residual.evalKVs req es rs = evaluateKVs req es [] xs :=
  fun xs => ofExprKVs_eval_of xs fun kv _ => ofExpr_eval kv.2

/-- the shape of a residual, as an inductive predicate that every residual satisfies: `induction (Residual.all r)` is
    structural induction over the nested type `Residual` / `RKind` / lists, with membership-indexed hypotheses -/
inductive Residual.All : Residual → Prop
  | concrete (v ty) : Residual.All (.concrete v ty)
  | error (ty) : Residual.All (.error ty)
  | var (x ty) : Residual.All (.part (.var x) ty)
  | and {l r ty} : Residual.All l → Residual.All r → Residual.All (.part (.and l r) ty)
  | or {l r ty} : Residual.All l → Residual.All r → Residual.All (.part (.or l r) ty)
  | ite {c t e ty} : Residual.All c → Residual.All t → Residual.All e → Residual.All (.part (.ite c t e) ty)
  | unary {op a ty} : Residual.All a → Residual.All (.part (.unaryApp op a) ty)
  | binary {op a b ty} : Residual.All a → Residual.All b → Residual.All (.part (.binaryApp op a b) ty)
  | getAttr {e a ty} : Residual.All e → Residual.All (.part (.getAttr e a) ty)
  | hasAttr {e a ty} : Residual.All e → Residual.All (.part (.hasAttr e a) ty)
  | like {e p ty} : Residual.All e → Residual.All (.part (.like e p) ty)
  | is {e ety ty} : Residual.All e → Residual.All (.part (.is e ety) ty)
  | call {fn args ty} : (∀ r, r ∈ args → Residual.All r) → Residual.All (.part (.call fn args) ty)
  | set {xs ty} : (∀ r, r ∈ xs → Residual.All r) → Residual.All (.part (.set xs) ty)
  | record {kvs ty} : (∀ kv, kv ∈ kvs → Residual.All kv.2) → Residual.All (.part (.record kvs) ty)

mutual
theorem Residual.all : ∀ r : Residual, Residual.All r
  | .concrete v ty => .concrete v ty
  | .error ty => .error ty
  | .part k ty => RKind.all k ty
theorem RKind.all : ∀ (k : RKind) (ty : Ty), Residual.All (.part k ty)
  | .var x, ty => .var x ty
  | .ite c t e, _ => .ite (Residual.all c) (Residual.all t) (Residual.all e)
  | .and a b, _ => .and (Residual.all a) (Residual.all b)
  | .or a b, _ => .or (Residual.all a) (Residual.all b)
  | .unaryApp _ a, _ => .unary (Residual.all a)
  | .binaryApp _ a b, _ => .binary (Residual.all a) (Residual.all b)
  | .call _ args, _ => .call (Residual.allList args)
  | .getAttr e _, _ => .getAttr (Residual.all e)
  | .hasAttr e _, _ => .hasAttr (Residual.all e)
  | .like e _, _ => .like (Residual.all e)
  | .is e _, _ => .is (Residual.all e)
  | .set es, _ => .set (Residual.allList es)
  | .record kvs, _ => .record (Residual.allKVs kvs)
theorem Residual.allList : ∀ (rs : List Residual), ∀ r : Residual, r ∈ rs → Residual.All r
  | [] => fun r h => by cases h
  | a :: as => fun r h => by
      rcases List.mem_cons.mp h with heq | h
      · rw [heq]; exact Residual.all a
      · exact Residual.allList as r h
theorem Residual.allKVs : ∀ (kvs : List (String × Residual)), ∀ kv : String × Residual, kv ∈ kvs → Residual.All kv.2
  | [] => fun kv h => by cases h
  | (k, a) :: as => fun kv h => by
      rcases List.mem_cons.mp h with heq | h
      · rw [heq]; exact Residual.all a
      · exact Residual.allKVs as kv h
end

/-- the same induction with one case for all nodes: the hypothesis speaks of the operands `k.children` -/
theorem Residual.induct_children {P : Residual → Prop} (concrete : ∀ v ty, P (.concrete v ty)) (error : ∀ ty, P (.error ty))
    (part : ∀ k ty, (∀ c, c ∈ k.children → P c) → P (.part k ty)) (r : Residual) : P r := by
  induction Residual.all r with
  | concrete v ty => exact concrete v ty
  | error ty => exact error ty
  | var x ty => exact part _ _ (fun c hc => nomatch hc)
  | and _ _ ihl ihr => exact part _ _ (by simpa [RKind.children] using ⟨ihl, ihr⟩)
  | or _ _ ihl ihr => exact part _ _ (by simpa [RKind.children] using ⟨ihl, ihr⟩)
  | ite _ _ _ ihc iht ihe => exact part _ _ (by simpa [RKind.children] using ⟨ihc, iht, ihe⟩)
  | unary _ ih => exact part _ _ (by simpa [RKind.children] using ih)
  | binary _ _ iha ihb => exact part _ _ (by simpa [RKind.children] using ⟨iha, ihb⟩)
  | getAttr _ ih => exact part _ _ (by simpa [RKind.children] using ih)
  | hasAttr _ ih => exact part _ _ (by simpa [RKind.children] using ih)
  | like _ ih => exact part _ _ (by simpa [RKind.children] using ih)
  | is _ ih => exact part _ _ (by simpa [RKind.children] using ih)
  | call _ ih => exact part _ _ ih
  | set _ ih => exact part _ _ ih
  | record _ ih =>
    refine part _ _ (fun c hc => ?_)
    obtain ⟨kv, hkv, rfl⟩ := List.mem_map.mp hc
    exact ih kv hkv

theorem RKind.uids_children (k : RKind) (u : EntityUID) : u ∈ k.uids ↔ u ∈ Residual.uidsList k.children := by
  cases k <;> simp [RKind.uids, RKind.children, Residual.uidsList, uidsList_map_snd]

end Cedar.Tpe
