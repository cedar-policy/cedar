import CedarVerif.Lemmas.SymCompile
import CedarVerif.Lemmas.EvalArms
/-
C18: the helpers of `compile` on folded operands, and the compiler's OWN typing discipline `ctype`.

`ctype` mirrors the type checks compiler.rs makes (`compile_app1/app2/if/and/or/attrs_of/has_attr/get_attr`,
`reducible_eq`) — NOT the validator's.  Those checks are not purely type-directed: `compile_if/and/or` first look at
whether the compiled guard is the CONSTANT `some true` / `some false`, and then never inspect the other operand's result.
On a literal environment the guard is such a constant exactly when `evaluate` gives that boolean, so `ctype` reads the
guard's constant from `evaluate` (`guardConst`).

Every operand the compiler sees here is `some` of a literal (or of the context record) or `none`.  For each helper of
`compile` two facts on such operands: what it returns (`…_rel`, in terms of `Rel` and of the function the evaluator applies to
the operand's value) and whether it accepts and at which type (`…_ty`, in terms of `ctype`'s checks).
-/
namespace Cedar.SymC
-- `Cedar.Tpe` is where Lemmas/EvalArms declares the arms of `evaluate` as functions (`bindR`, `getAttrV`, `likeV`, …)
open Cedar Cedar.Tpe

def resTy : CResult → Except CErr TermType
  | .ok t => .ok t.typeOf
  | .error e => .error e

def tyMap (f : TermType → TermType) : Except CErr TermType → Except CErr TermType
  | .ok t => .ok (f t)
  | .error e => .error e

/-- the checks of `compile_app1` -/
def ctApp1 : UnaryOp → TermType → Except CErr TermType
  | .not, .bool => .ok (.option .bool)
  | .neg, .bitvec64 => .ok (.option .bitvec64)
  | _, _ => .error .typeError

/-- the checks of `compile_app2` (with `reducible_eq`) -/
def ctApp2 (op : BinaryOp) (ty1 ty2 : TermType) : Except CErr TermType :=
  match op, ty1, ty2 with
  | .eq, ty1, ty2 =>
    match reducibleEq ty1 ty2 with
    | .error e => .error e
    | .ok _ => .ok (.option .bool)
  | .less, .bitvec64, .bitvec64 => .ok (.option .bool)
  | .lessEq, .bitvec64, .bitvec64 => .ok (.option .bool)
  | .add, .bitvec64, .bitvec64 => .ok (.option .bitvec64)
  | .sub, .bitvec64, .bitvec64 => .ok (.option .bitvec64)
  | .mul, .bitvec64, .bitvec64 => .ok (.option .bitvec64)
  | .less, _, _ | .lessEq, _, _ | .add, _, _ | .sub, _, _ | .mul, _, _ => .error .typeError
  | _, _, _ => .error .outside

/-- the checks of `compile_has_attr` / `compile_attrs_of` -/
def ctHasAttr (ty : TermType) : Except CErr TermType :=
  match ty with
  | .entity _ => .error .outside
  | .recNil | .recCons _ _ _ => .ok (.option .bool)
  | _ => .error .typeError

/-- the checks of `compile_get_attr` / `compile_attrs_of` -/
def ctGetAttr (ty : TermType) (a : Attr) : Except CErr TermType :=
  match ty with
  | .entity _ => .error .outside
  | .recNil | .recCons _ _ _ =>
    match tyFind? ty a with
    | some fty => .ok (optTy fty)
    | none => .error .noSuchAttr
  | _ => .error .typeError

/-- the check of `compile_like` -/
def ctLike : TermType → Except CErr TermType
  | .string => .ok (.option .bool)
  | _ => .error .typeError

/-- the check of `compile_is` -/
def ctIs : TermType → Except CErr TermType
  | .entity _ => .ok (.option .bool)
  | _ => .error .typeError

def guardConst : Result Value → Option Bool
  | .ok (.prim (.bool b)) => some b
  | _ => none

/-- the compiler's typing discipline: `.ok ty` = the compiler accepts and the term has type `ty`; `.error c` = it
    returns that error.  Reads from `env` only types (of the request variables, of the context term, the entity-type
    table) and from `evaluate` only which boolean constant (if any) a guard is. -/
def ctype (req : Request) (es : Entities) (senv : SlotEnv) (env : SymEnvLit) : Expr → Except CErr TermType
  | .lit (.bool _) => .ok (.option .bool)
  | .lit (.int _) => .ok (.option .bitvec64)
  | .lit (.string _) => .ok (.option .string)
  | .lit (.entityUID uid) => if env.isValidEntityUID uid then .ok (.option (.entity uid.ty)) else .error .typeError
  | .var .principal => .ok (.option (.entity env.principal.ty))
  | .var .action => .ok (.option (.entity env.action.ty))
  | .var .resource => .ok (.option (.entity env.resource.ty))
  | .var .context => if env.context.typeOf.isRecordType then .ok (.option env.context.typeOf) else .error .typeError
  | .ite c x y =>
    match ctype req es senv env c with
    | .error e => .error e
    | .ok tc =>
      match guardConst (evaluate req es senv c) with
      | some true => ctype req es senv env x
      | some false => ctype req es senv env y
      | none =>
        if tc = .option .bool then
          match ctype req es senv env x with
          | .error e => .error e
          | .ok tx =>
            match ctype req es senv env y with
            | .error e => .error e
            | .ok ty => if tx = ty then .ok (optTy tx) else .error .typeError
        else .error .typeError
  | .and a b =>
    match ctype req es senv env a with
    | .error e => .error e
    | .ok ta =>
      match guardConst (evaluate req es senv a) with
      | some false => .ok (.option .bool)
      | _ =>
        if ta = .option .bool then
          match ctype req es senv env b with
          | .error e => .error e
          | .ok tb => if tb = .option .bool then .ok (.option .bool) else .error .typeError
        else .error .typeError
  | .or a b =>
    match ctype req es senv env a with
    | .error e => .error e
    | .ok ta =>
      match guardConst (evaluate req es senv a) with
      | some true => .ok (.option .bool)
      | _ =>
        if ta = .option .bool then
          match ctype req es senv env b with
          | .error e => .error e
          | .ok tb => if tb = .option .bool then .ok (.option .bool) else .error .typeError
        else .error .typeError
  | .unaryApp op a =>
    match ctype req es senv env a with
    | .error e => .error e
    | .ok ta => tyMap optTy (ctApp1 op (getOpt ta))
  | .binaryApp op a b =>
    match ctype req es senv env a with
    | .error e => .error e
    | .ok ta =>
      match ctype req es senv env b with
      | .error e => .error e
      | .ok tb => tyMap optTy (ctApp2 op (getOpt ta) (getOpt tb))
  | .hasAttr a _ =>
    match ctype req es senv env a with
    | .error e => .error e
    | .ok ta => tyMap optTy (ctHasAttr (getOpt ta))
  | .getAttr a attr =>
    match ctype req es senv env a with
    | .error e => .error e
    | .ok ta => tyMap optTy (ctGetAttr (getOpt ta) attr)
  | .like a _ =>
    match ctype req es senv env a with
    | .error e => .error e
    | .ok ta => tyMap optTy (ctLike (getOpt ta))
  | .is a _ =>
    match ctype req es senv env a with
    | .error e => .error e
    | .ok ta => tyMap optTy (ctIs (getOpt ta))
  | _ => .error .outside

theorem guardConst_none {r : Result Value} (h : ∀ b, r ≠ .ok (.prim (.bool b))) : guardConst r = none := by
  unfold guardConst
  split
  · exact absurd rfl (h _)
  · rfl

theorem compileCond_nonbool {t1 : Term} (h : t1.typeOf ≠ .option .bool) (r2 r3 : CResult) :
    compileIf t1 r2 r3 = .error .typeError ∧ compileAnd t1 r2 = .error .typeError ∧
    compileOr t1 r2 = .error .typeError := by
  refine ⟨?_, ?_, ?_⟩
  · unfold compileIf
    split
    · exact absurd rfl h
    · exact absurd rfl h
    · split
      · rename_i hty; exact absurd hty h
      · rfl
  · unfold compileAnd
    split
    · exact absurd rfl h
    · split
      · rename_i hty; exact absurd hty h
      · rfl
  · unfold compileOr
    split
    · exact absurd rfl h
    · split
      · rename_i hty; exact absurd hty h
      · rfl

/-- the second operand of `&&` / `||` once the first has not decided: accepted at type `option bool` only -/
def boolOperand (r2 : CResult) (k : Term → Term) : CResult :=
  match r2 with
  | .error e => .error e
  | .ok t2 => if t2.typeOf = .option .bool then .ok (k t2) else .error .typeError

theorem boolOperand_ok {r2 : CResult} {k : Term → Term} {t : Term} (h : boolOperand r2 k = .ok t) :
    ∃ t2, r2 = .ok t2 ∧ t2.typeOf = .option .bool ∧ t = k t2 := by
  cases r2 with
  | error e => cases h
  | ok t2 =>
    simp only [boolOperand] at h
    split at h
    · rename_i hty; exact ⟨t2, rfl, hty, (Except.ok.inj h).symm⟩
    · cases h

theorem boolOperand_ty {r2 : CResult} {k : Term → Term}
    (hk : ∀ t2, t2.typeOf = .option .bool → (k t2).typeOf = .option .bool) :
    resTy (boolOperand r2 k) =
      match resTy r2 with
      | .error e => .error e
      | .ok tb => if tb = .option .bool then .ok (.option .bool) else .error .typeError := by
  cases r2 with
  | error e => rfl
  | ok t2 =>
    by_cases h : t2.typeOf = .option .bool
    · simp only [boolOperand, resTy, if_pos h, hk t2 h]
    · simp only [boolOperand, resTy, if_neg h]

theorem compileAnd_none (r2 : CResult) : compileAnd (.none .bool) r2 = boolOperand r2 fun _ => .none .bool := by
  cases r2 with
  | error e => rfl
  | ok t2 =>
    simp only [compileAnd, boolOperand, Term.typeOf, beq_iff_eq]
    split
    · rename_i h; rw [cond_none (by rw [h]; rfl), h]; rfl
    · rfl

theorem compileOr_none (r2 : CResult) : compileOr (.none .bool) r2 = boolOperand r2 fun _ => .none .bool := by
  cases r2 with
  | error e => rfl
  | ok t2 =>
    simp only [compileOr, boolOperand, Term.typeOf, beq_iff_eq]
    split
    · rename_i h; rw [cond_none (t2 := someOf tTrue) (by rw [h]; rfl)]; rfl
    · rfl

theorem compileAnd_true (r2 : CResult) : compileAnd (.some tTrue) r2 = boolOperand r2 id := by
  cases r2 with
  | error e => rfl
  | ok t2 =>
    simp only [compileAnd, boolOperand, Term.typeOf, TermPrim.typeOf, beq_iff_eq]
    split
    · rename_i h; rw [optionGet_some, fite_true, ifSome_some_opt h]; rfl
    · rfl

theorem compileOr_false (r2 : CResult) : compileOr (.some tFalse) r2 = boolOperand r2 id := by
  cases r2 with
  | error e => rfl
  | ok t2 =>
    simp only [compileOr, boolOperand, Term.typeOf, TermPrim.typeOf, beq_iff_eq]
    split
    · rename_i h; rw [optionGet_some, fite_false, ifSome_some_opt h]; rfl
    · rfl

theorem compileIf_none (r2 r3 : CResult) :
    compileIf (.none .bool) r2 r3 =
      match r2 with
      | .error e => .error e
      | .ok t2 =>
        match r3 with
        | .error e => .error e
        | .ok t3 => if t2.typeOf = t3.typeOf then .ok (.none (getOpt t2.typeOf)) else .error .typeError := by
  cases r2 with
  | error e => rfl
  | ok t2 =>
    cases r3 with
    | error e => rfl
    | ok t3 =>
      simp only [compileIf, Term.typeOf, beq_iff_eq]
      split
      · rename_i h; rw [cond_none h]
      · rfl

section
variable {ctx : List (String × Value)} {ctxT : Term}

theorem checked_fold (i : Int) :
    Rel ctx ctxT (intOrErr i) (ifFalse (.prim (.bool (overflows i))) (.prim (.bitvec (BitVec.ofInt 64 i)))) := by
  rw [overflows_eq]
  unfold intOrErr ifFalse
  cases hov : inI64 i
  · simp only [Bool.not_false, fite_true, Bool.false_eq_true, if_false]
    exact ⟨_, rfl⟩
  · simp only [Bool.not_true, fite_false, if_true]
    exact Rel.prim (p := .int i) hov

/-- `+ - *`: `f` is the exact operation, `g` its wrapping counterpart on bitvectors -/
theorem arith_fold {a b : Int} (ha : inI64 a = true) (hb : inI64 b = true) (opo opg : Op) (f : Int → Int → Int)
    (g : BitVec 64 → BitVec 64 → BitVec 64) (hom : BitVec.ofInt 64 (f a b) = g (BitVec.ofInt 64 a) (BitVec.ofInt 64 b)) :
    Rel ctx ctxT (intOrErr (f a b))
      (ifFalse (bvso opo f (.prim (.bitvec (BitVec.ofInt 64 a))) (.prim (.bitvec (BitVec.ofInt 64 b))))
        (bvapp opg g (.prim (.bitvec (BitVec.ofInt 64 a))) (.prim (.bitvec (BitVec.ofInt 64 b))))) := by
  simp only [bvso, bvapp, toInt_ofInt_of_inI64 ha, toInt_ofInt_of_inI64 hb, ← hom]
  exact checked_fold _

theorem compileApp1_rel {op : UnaryOp} {v : Value} {x r0 : Term} (hv : RelV ctx ctxT v x)
    (h : compileApp1 op x = .ok r0) : Rel ctx ctxT (applyUnary op v) r0 := by
  rcases hv with ⟨p, rfl, hp, rfl⟩ | ⟨rfl, rfl, hck⟩
  · cases op with
    | isEmpty => cases p <;> cases h
    | not =>
      cases p with
      | bool b => obtain rfl := Except.ok.inj h; exact Rel.prim (p := .bool (!b)) trivial
      | _ => cases h
    | neg =>
      cases p with
      | int a =>
        obtain rfl := Except.ok.inj h
        show Rel ctx ctxT (intOrErr (-a)) (ifFalse (.prim (.bool (overflows (-(BitVec.ofInt 64 a).toInt))))
          (.prim (.bitvec (-(BitVec.ofInt 64 a)))))
        rw [toInt_ofInt_of_inI64 hp, ← BitVec.ofInt_neg]
        exact checked_fold _
      | _ => cases h
  · have hty := isRecord_typeOf hck.1
    unfold compileApp1 at h
    split at h <;> first | (rename_i hx; rw [hx] at hty; cases hty) | cases h

theorem compileApp1_ty (op : UnaryOp) (hop : op ≠ .isEmpty) {x : Term} (hs : Simple x) :
    resTy (compileApp1 op x) = ctApp1 op x.typeOf := by
  unfold compileApp1
  cases op
  case isEmpty => exact absurd rfl hop
  case not =>
    cases hx : x.typeOf
    case bool => simp [ctApp1, resTy, someOf, Term.typeOf, fnot_typeOf hs.noNot]
    all_goals rfl
  case neg =>
    cases hx : x.typeOf
    case bitvec64 => simp [ctApp1, resTy, ifFalse_typeOf, bvneg_typeOf hs, hx]
    all_goals rfl

theorem compileApp2_ok_types {op : BinaryOp} {t1 t2 r : Term} (h : compileApp2 op t1 t2 = .ok r) :
    (op = .eq ∧ ∃ b, reducibleEq t1.typeOf t2.typeOf = .ok b) ∨ (t1.typeOf = .bitvec64 ∧ t2.typeOf = .bitvec64) ∨
    (∃ ty, t1.typeOf = .set ty) := by
  unfold compileApp2 at h
  split at h
  case h_1 =>
    cases hr : reducibleEq t1.typeOf t2.typeOf with
    | error e => simp only [hr] at h; cases h
    | ok b => exact Or.inl ⟨rfl, b, rfl⟩
  -- every other alternative of the match names the operand types it accepts, or is an error
  all_goals first
    | exact Or.inr (Or.inl ⟨by assumption, by assumption⟩)
    | exact Or.inr (Or.inr ⟨_, by assumption⟩)
    | cases h

theorem reducibleEq_record {ty1 ty2 : TermType} (h : ty1.isRecordType = true ∨ ty2.isRecordType = true) {b : Bool}
    (h0 : reducibleEq ty1 ty2 = .ok b) : ty1 = ty2 := by
  unfold reducibleEq at h0
  by_cases he : ty1 = ty2
  · exact he
  · have : (ty1.isPrimType && ty2.isPrimType) = false := by
      rcases h with h | h <;> simp [isRecordType_not_prim h]
    rw [if_neg (by simpa using he), this] at h0
    cases h0

theorem compileApp2_record {op : BinaryOp} {t1 t2 r0 : Term}
    (h : t1.typeOf.isRecordType = true ∨ (t2.typeOf.isRecordType = true ∧ ∀ ty, t1.typeOf ≠ .set ty))
    (h0 : compileApp2 op t1 t2 = .ok r0) : op = .eq ∧ t1.typeOf = t2.typeOf := by
  rcases compileApp2_ok_types h0 with ⟨rfl, b, hb⟩ | ⟨h1, h2⟩ | ⟨ty, hs⟩
  · exact ⟨rfl, reducibleEq_record (h.imp id And.left) hb⟩
  · rw [h1, h2] at h; rcases h with h | ⟨h, _⟩ <;> cases h
  · rcases h with h | ⟨_, h⟩
    · rw [hs] at h; cases h
    · exact absurd hs (h ty)

theorem reducibleEq_self (ty : TermType) : reducibleEq ty ty = .ok true := by
  unfold reducibleEq; rw [if_pos (beq_self_eq_true ty)]

theorem compileApp2_eq_self (t : Term) : compileApp2 .eq t t = .ok (.some tTrue) := by
  simp only [compileApp2, reducibleEq_self, feq_self]
  rfl

theorem compileApp2_eq (l1 l2 : TermPrim) :
    compileApp2 .eq (.prim l1) (.prim l2) = .ok (.some (.prim (.bool (l1 == l2)))) := by
  by_cases hl : l1 = l2
  · subst hl
    rw [compileApp2_eq_self, beq_self_eq_true]
  · have hp : ∀ l : TermPrim, l.typeOf.isPrimType = true := fun l => by cases l <;> rfl
    have hb : (l1 == l2) = false := by simpa using hl
    -- two distinct literals: `eqSimplify` answers `false` at its second test
    have hf : feq (.prim l1) (.prim l2) = tFalse := by
      show eqSimplify (.prim l1) (.prim l2) = tFalse
      unfold eqSimplify
      rw [if_neg (by simpa using hl)]
      rfl
    simp only [compileApp2, Term.typeOf, reducibleEq, hp, Bool.and_self, if_true, hf, hb]
    cases (l1.typeOf == l2.typeOf) <;> rfl

theorem compileApp2_rel (es : Entities) {op : BinaryOp} {v1 v2 : Value} {x1 x2 r0 : Term}
    (h1 : RelV ctx ctxT v1 x1) (h2 : RelV ctx ctxT v2 x2) (h : compileApp2 op x1 x2 = .ok r0) :
    Rel ctx ctxT (applyBinary es op v1 v2) r0 := by
  rcases h1 with ⟨p1, rfl, hp1, rfl⟩ | ⟨rfl, rfl, hck⟩
  · rcases h2 with ⟨p2, rfl, hp2, rfl⟩ | ⟨rfl, rfl, hck⟩
    · by_cases hop : op = .eq
      · subst hop
        rw [compileApp2_eq] at h
        obtain rfl := Except.ok.inj h
        rw [litPrim_beq hp1 hp2]
        refine Or.inl ⟨.bool (p1 == p2), ?_, trivial, rfl⟩
        simp only [Value.beq_prim]
      rcases compileApp2_ok_types h with ⟨rfl, _⟩ | ⟨hb1, hb2⟩ | ⟨ty, hs⟩
      · exact absurd rfl hop
      · obtain ⟨a, rfl⟩ := litPrim_typeOf_bv hb1
        obtain ⟨b, rfl⟩ := litPrim_typeOf_bv hb2
        have ha : inI64 a = true := hp1
        have hb : inI64 b = true := hp2
        cases op with
        | eq => exact absurd rfl hop
        | less =>
          obtain rfl := Except.ok.inj h
          refine Or.inl ⟨.bool (decide (a < b)), by simp, trivial, ?_⟩
          simp only [someOf, bvslt, bvcmp, litPrim, toInt_ofInt_of_inI64 ha, toInt_ofInt_of_inI64 hb]
        | lessEq =>
          obtain rfl := Except.ok.inj h
          refine Or.inl ⟨.bool (decide (a ≤ b)), by simp, trivial, ?_⟩
          simp only [someOf, bvsle, bvcmp, litPrim, toInt_ofInt_of_inI64 ha, toInt_ofInt_of_inI64 hb]
        | add =>
          obtain rfl := Except.ok.inj h
          exact arith_fold ha hb .bvsaddo .bvadd (· + ·) (· + ·) (BitVec.ofInt_add ..)
        | sub =>
          obtain rfl := Except.ok.inj h
          exact arith_fold ha hb .bvssubo .bvsub (· - ·) (· - ·) (ofInt_sub64 a b)
        | mul =>
          obtain rfl := Except.ok.inj h
          exact arith_fold ha hb .bvsmulo .bvmul (· * ·) (· * ·) (BitVec.ofInt_mul ..)
        | _ => cases h
      · cases p1 <;> cases hs
    · have := (compileApp2_record (Or.inr ⟨isRecord_typeOf hck.1, by intro ty hty; cases p1 <;> cases hty⟩) h).2
      have hh := isRecord_typeOf hck.1
      rw [← this] at hh
      exact absurd hh (by rw [Term.typeOf.eq_1, litPrim_not_record]; exact Bool.false_ne_true)
  · have hrt := isRecord_typeOf hck.1
    obtain ⟨rfl, hty⟩ := compileApp2_record (Or.inl hrt) h
    rcases h2 with ⟨p2, rfl, hp2, rfl⟩ | ⟨rfl, rfl, _⟩
    · rw [hty] at hrt
      exact absurd hrt (by rw [Term.typeOf.eq_1, litPrim_not_record]; exact Bool.false_ne_true)
    · rw [compileApp2_eq_self] at h
      obtain rfl := Except.ok.inj h
      simp only [applyBinary, Value.beq_rfl]
      exact Rel.prim (p := .bool true) trivial

theorem compileApp2_ty (op : BinaryOp) (hop : op ≠ .contains ∧ op ≠ .containsAll ∧ op ≠ .containsAny)
    {x1 x2 : Term} (h1 : Simple x1) (h2 : Simple x2) :
    resTy (compileApp2 op x1 x2) = ctApp2 op x1.typeOf x2.typeOf := by
  cases op
  case contains => exact absurd rfl hop.1
  case containsAll => exact absurd rfl hop.2.1
  case containsAny => exact absurd rfl hop.2.2
  case eq =>
    simp only [compileApp2, ctApp2]
    cases hr : reducibleEq x1.typeOf x2.typeOf with
    | error e => rfl
    | ok b => cases b <;> simp [resTy, someOf, Term.typeOf, feq_typeOf h1 h2, TermPrim.typeOf]
  -- the other operators are outside the model whatever the operand types
  case mem | getTag | hasTag => rfl
  -- `< <= + - *`: a type error unless both operands are bitvectors
  all_goals
    unfold compileApp2
    cases hx1 : x1.typeOf
    case bitvec64 =>
      cases hx2 : x2.typeOf
      case bitvec64 =>
        simp [ctApp2, resTy, someOf, Term.typeOf, ifFalse_typeOf, bvadd, bvsub, bvmul, bvslt, bvsle, bvapp_typeOf,
          bvcmp_typeOf, hx1]
      all_goals rfl
    all_goals rfl

theorem compileAttrsOf_record {t : Term} (h : t.isRecord = true) : compileAttrsOf t = .ok t := by
  cases t <;> first | rfl | cases h

theorem compileGetAttr_record {t : Term} (h : t.isRecord = true) (a : Attr) :
    compileGetAttr t a =
      match recFind? t a with
      | none => .error .noSuchAttr
      | some ft => .ok (if ft.typeOf.isOptionType then ft else someOf ft) := by
  unfold compileGetAttr
  rw [compileAttrsOf_record h]
  simp only [isRecord_typeOf h, if_true, tyFind_typeOf h]
  cases hf : recFind? t a with
  | none => rfl
  | some ft => simp only [Option.map_some, recordGet_record h hf]; split <;> rfl

theorem compileHasAttr_record {t : Term} (h : t.isRecord = true) (a : Attr) :
    compileHasAttr t a =
      match recFind? t a with
      | none => .ok (someOf tFalse)
      | some ft => .ok (someOf (if ft.typeOf.isOptionType then isSome ft else tTrue)) := by
  unfold compileHasAttr
  rw [compileAttrsOf_record h]
  simp only [isRecord_typeOf h, if_true, tyFind_typeOf h]
  cases hf : recFind? t a with
  | none => rfl
  | some ft => simp only [Option.map_some, recordGet_record h hf]; split <;> rfl

theorem FieldOK.getAttr {ov : Option Value} {ft : Term} : FieldOK ov ft →
    Rel ctx ctxT (match ov with
      | some v => .ok v
      | none => .error .attr) (if ft.typeOf.isOptionType then ft else someOf ft) := by
  intro h
  rcases h with ⟨p, hp, rfl, rfl | rfl⟩ | ⟨rfl, ty, rfl⟩
  · rw [litPrim_not_option]; exact Rel.prim hp
  · exact Rel.prim hp
  · exact ⟨ty, rfl⟩

theorem FieldOK.hasAttr {ov : Option Value} {ft : Term} (h : FieldOK ov ft) :
    (if ft.typeOf.isOptionType then isSome ft else tTrue) = .prim (.bool ov.isSome) := by
  rcases h with ⟨p, _, rfl, rfl | rfl⟩ | ⟨rfl, ty, rfl⟩
  · rw [litPrim_not_option]; rfl
  · rfl
  · rfl

theorem compileAttr_prim (p : Prim) (attr : String) :
    (∃ e, compileGetAttr (.prim (litPrim p)) attr = .error e) ∧ (∃ e, compileHasAttr (.prim (litPrim p)) attr = .error e) := by
  cases p <;> exact ⟨⟨_, rfl⟩, ⟨_, rfl⟩⟩

theorem compileHasAttr_ty {x : Term} (hs : Simple x) (hf : FieldsNoApp3 x) (hf' : ∀ a ft, recFind? x a = some ft → NoNot ft)
    (a : Attr) : resTy (compileHasAttr x a) = ctHasAttr x.typeOf := by
  -- `is_some t` is `not (is_none t)`, and `not` has type bool only where it does not fold: the one place that needs
  -- `NoApp3`, `FieldsNoApp3`, `recordGet_cases`, `isNone_noNot` and the two field conjuncts of `Rel.opnd`
  have hb : (isSome (recordGet x a)).typeOf = .bool := fnot_typeOf <| isNone_noNot (recordGet_cases a hs.noApp3 (hf a) fun ty op g a b ty' e => by cases e)
    (recordGet_cases a hs.noNot (hf' a) fun ty a ty' e => by cases e)
  unfold compileHasAttr compileAttrsOf
  cases hx : x.typeOf
  case recNil => simp [hx, ctHasAttr, resTy, TermType.isRecordType, tyFind?, someOf, Term.typeOf, TermPrim.typeOf]
  case recCons b fty rest =>
    simp only [hx, ctHasAttr, resTy, TermType.isRecordType, tyFind?, if_true]
    generalize (if (b == a) = true then some fty else tyFind? rest a) = o
    cases o with
    | none => simp [someOf, Term.typeOf, TermPrim.typeOf]
    | some ty => by_cases ho : ty.isOptionType = true <;> simp [ho, someOf, Term.typeOf, TermPrim.typeOf, hb]
  all_goals rfl

theorem compileGetAttr_ty {x : Term} (a : Attr) : resTy (compileGetAttr x a) = ctGetAttr x.typeOf a := by
  unfold compileGetAttr compileAttrsOf
  cases hx : x.typeOf
  case recNil => simp [hx, ctGetAttr, resTy, TermType.isRecordType, tyFind?]
  case recCons b fty rest =>
    simp only [hx, ctGetAttr, resTy, TermType.isRecordType, if_true]
    cases ho : tyFind? (.recCons b fty rest) a with
    | none => rfl
    | some ty =>
      have := recordGet_typeOf (x := x) (a := a) (fty := ty) (by rw [hx]; exact ho)
      cases ty <;> simp [TermType.isOptionType, someOf, Term.typeOf, this, optTy]
  all_goals rfl

theorem compileLike_ty (x : Term) (p : Pattern) : resTy (compileLike x p) = ctLike x.typeOf := by
  have : (stringLike x p).typeOf = .bool := by unfold stringLike; split <;> rfl
  unfold compileLike
  cases hx : x.typeOf
  case string => simp [ctLike, resTy, someOf, Term.typeOf, this]
  all_goals rfl

theorem compileIs_ty (x : Term) (ety : EntityType) : resTy (compileIs x ety) = ctIs x.typeOf := by
  unfold compileIs
  cases hx : x.typeOf <;> rfl

theorem compileGetAttr_rel (es : Entities) (attr : Attr) {v : Value} {x r0 : Term} (hv : RelV ctx ctxT v x)
    (h0 : compileGetAttr x attr = .ok r0) : Rel ctx ctxT (getAttrV es attr v) r0 := by
  rcases hv with ⟨q, rfl, hq, rfl⟩ | ⟨rfl, rfl, hrec, hfld, hno⟩
  · obtain ⟨e, he⟩ := (compileAttr_prim q attr).1
    rw [he] at h0
    cases h0
  · rw [compileGetAttr_record hrec] at h0
    cases hf : recFind? x attr with
    | none => simp only [hf] at h0; cases h0
    | some ft =>
      simp only [hf] at h0
      obtain rfl := Except.ok.inj h0
      exact (hfld attr ft hf).getAttr

theorem compileHasAttr_rel (es : Entities) (attr : Attr) {v : Value} {x r0 : Term} (hv : RelV ctx ctxT v x)
    (h0 : compileHasAttr x attr = .ok r0) : Rel ctx ctxT (hasAttrV es attr v) r0 := by
  rcases hv with ⟨q, rfl, hq, rfl⟩ | ⟨rfl, rfl, hrec, hfld, hno⟩
  · obtain ⟨e, he⟩ := (compileAttr_prim q attr).2
    rw [he] at h0
    cases h0
  · rw [compileHasAttr_record hrec] at h0
    cases hf : recFind? x attr with
    | none =>
      simp only [hf] at h0
      obtain rfl := Except.ok.inj h0
      simp only [hasAttrV, hno attr hf]
      exact Rel.prim (p := .bool false) trivial
    | some ft =>
      simp only [hf] at h0
      obtain rfl := Except.ok.inj h0
      rw [(hfld attr ft hf).hasAttr]
      exact Rel.prim (p := .bool _) trivial

theorem compileLike_rel (p : Pattern) {v : Value} {x r0 : Term} (hv : RelV ctx ctxT v x)
    (h0 : compileLike x p = .ok r0) : Rel ctx ctxT (likeV p v) r0 := by
  rcases hv with ⟨q, rfl, hq, rfl⟩ | ⟨rfl, rfl, hrec, _⟩
  · cases q with
    | string s =>
      obtain rfl := Except.ok.inj h0
      exact Rel.prim (p := .bool _) trivial
    | _ => cases h0
  · have hty := isRecord_typeOf hrec
    unfold compileLike at h0
    split at h0
    · rename_i hx; rw [hx] at hty; cases hty
    · cases h0

theorem compileIs_rel (ety : EntityType) {v : Value} {x r0 : Term} (hv : RelV ctx ctxT v x)
    (h0 : compileIs x ety = .ok r0) : Rel ctx ctxT (isV ety v) r0 := by
  rcases hv with ⟨q, rfl, hq, rfl⟩ | ⟨rfl, rfl, hrec, _⟩
  · cases q with
    | entityUID u =>
      obtain rfl := Except.ok.inj h0
      have : (ety == u.ty) = (u.ty == ety) := by
        rw [Bool.eq_iff_iff, beq_iff_eq, beq_iff_eq]; exact eq_comm
      rw [someOf, this]
      exact Rel.prim (p := .bool _) trivial
    | _ => cases h0
  · have hty := isRecord_typeOf hrec
    unfold compileIs at h0
    split at h0
    · rename_i hx; rw [hx] at hty; cases hty
    · cases h0

end

end Cedar.SymC
