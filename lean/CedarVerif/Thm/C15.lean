import CedarVerif.Lemmas.BatchedInv
import CedarVerif.Lemmas.TpeValidTotal
import CedarVerif.Thm.C03
/-
C15 — batched (loader-driven) authorization equals ordinary authorization.  Model: Cedar/Batched.lean (`run budget loader`),
on top of Cedar/Tpe.lean; helpers: Lemmas/Batched*.lean.  The loop is treated for ARBITRARY loaders; what a theorem needs of
the loader is a named hypothesis: `StepOk` (no round fails, from any state: true of loaders that return exactly what is
asked — a loader that returns an id again runs into the `Duplicate` error, known finding C15-loader-repeat-duplicate),
`Complete` (everything asked for is returned), `Faithful loader es` (what the loader returns for an id is what the store `es` holds,
`None` iff absent).
-/
namespace Cedar.C15
open Cedar Cedar.Tpe Cedar.Batched Cedar.Tpe.Valid

/-- **budget_monotone** (every loader whose rounds do not fail): enlarging the budget never changes a decision already
obtained.  `interpret` returns `Concrete` / `Error` residuals unchanged, so re-interpretation only refines `Partial` residuals,
and the decision table is monotone under such refinements. -/
theorem budget_monotone (loader : Loader) (q : Request) (tps : List TPolicy) (hok : StepOk (prequestOf q) loader)
    (b : Nat) (d : Decision) (h : run b loader q tps = .ok d) : run (b + 1) loader q tps = .ok d := by
  unfold run at h ⊢
  cases hi : initState (prequestOf q) tps with
  | none => simp [hi] at h
  | some st =>
    simp only [hi] at h ⊢
    unfold runFrom at h ⊢
    cases hl : loop (prequestOf q) loader b st with
    | none => simp [hl] at h
    | some st1 =>
      simp only [hl] at h
      cases hd : st1.decision (prequestOf q) with
      | none => simp [hd] at h
      | some d' =>
        simp only [hd, Outcome.ok.injEq] at h; subst h
        obtain ⟨st2, h2, hd2⟩ := loop_mono hok b st st1 d' hl hd
        simp [h2, hd2]

/-- `budget_monotone` iterated: a decision obtained with budget `b` is the answer for every larger budget -/
theorem budget_monotone_le (loader : Loader) (q : Request) (tps : List TPolicy) (hok : StepOk (prequestOf q) loader)
    (b b' : Nat) (hle : b ≤ b') (d : Decision) (h : run b loader q tps = .ok d) : run b' loader q tps = .ok d := by
  induction b' with
  | zero => have : b = 0 := by omega
            subst this; exact h
  | succ n ih =>
    by_cases hb : b = n + 1
    · subst hb; exact h
    · exact budget_monotone loader q tps hok n d (ih (by omega))

/-- **enough_budget**: with `U` ⊇ the ids ever requested, every budget larger than `|U|` yields a decision (never
`insufficient`).  Measure: ids of `U` not yet loaded; each non-final round loads at least one (`LoopInv.progress`), all requested
ids are in `U` (`LoopInv.bounded`). -/
theorem enough_budget (loader : Loader) (q : Request) (tps : List TPolicy) (U : List EntityUID) (Inv : State → Prop)
    (hI : LoopInv (prequestOf q) loader U Inv) (hok : StepOk (prequestOf q) loader) (hl : Complete loader)
    (st0 : State) (h0 : initState (prequestOf q) tps = some st0) (hinv0 : Inv st0)
    (b : Nat) (hb : U.length < b) : ∃ d, run b loader q tps = .ok d := by
  obtain ⟨st', hl', hd', hinv'⟩ := loop_terminates hI hok hl b st0 hinv0 (Nat.lt_of_le_of_lt (unseen_le U st0) hb)
  obtain ⟨d, hd⟩ := done_decides (prequestOf q) st' (hI.boolTyped st' hinv') hd'
  exact ⟨d, by simp [run, h0, runFrom, hl', hd]⟩

theorem loop_inv {req : Tpe.PRequest} {loader : Loader} {Inv : State → Prop}
    (hstep : ∀ st st', Inv st → step req loader st = some st' → Inv st') :
    ∀ b st st', Inv st → loop req loader b st = some st' → Inv st' := by
  intro b
  induction b with
  | zero => intro st st' hi h; simp only [loop, Option.some.injEq] at h; subst h; exact hi
  | succ n ih =>
    intro st st' hi h
    simp only [loop] at h
    cases hs : step req loader st with
    | none => simp [hs] at h
    | some st1 =>
      simp only [hs] at h
      have hi1 := hstep st st1 hi hs
      split at h
      · simp only [Option.some.injEq] at h; subst h; exact hi1
      · exact ih st1 st' hi1 h

/-- TPE soundness at the states of the loop: at every reachable state a policy in a definite bucket has that outcome under
ordinary evaluation over the whole store. -/
structure SoundStates (q : Request) (es : Entities) (loader : Loader) (Inv : State → Prop) : Prop where
  step : ∀ st st', Inv st → Batched.step (prequestOf q) loader st = some st' → Inv st'
  sound : ∀ st, Inv st → ∀ rp, rp ∈ st.residuals → rp.residual.cls.Consistent (rp.original.outcome q es)
  wf : ∀ st, Inv st → ∀ rp, rp ∈ st.residuals → rp.effect = rp.original.effect ∧ rp.id = rp.original.id

/-- **batched_decision_sound_partial**: a decision `run b` returns is the decision of ordinary authorization, given TPE
soundness at the states of the loop (`SoundStates`): the decision-table lemma at the final state. -/
theorem batched_decision_sound_partial (loader : Loader) (q : Request) (es : Entities) (tps : List TPolicy)
    (Inv : State → Prop) (hS : SoundStates q es loader Inv)
    (st0 : State) (h0 : initState (prequestOf q) tps = some st0) (hinv0 : Inv st0)
    (hpol : ∀ st, Inv st → st.residuals.map (·.original) = tps.map (·.policy))
    (b : Nat) (d : Decision) (h : run b loader q tps = .ok d) :
    d = (Cedar.isAuthorized q es (tps.map (·.policy))).decision := by
  unfold run at h
  simp only [h0, runFrom] at h
  cases hl : loop (prequestOf q) loader b st0 with
  | none => simp [hl] at h
  | some st1 =>
    simp only [hl] at h
    cases hd : st1.decision (prequestOf q) with
    | none => simp [hd] at h
    | some d' =>
      simp only [hd, Outcome.ok.injEq] at h; subst h
      have hinv1 := loop_inv hS.step b st0 st1 hinv0 hl
      let r : Tpe.Response := ⟨st1.residuals, prequestOf q, st1.entities⟩
      have hwf : r.WF := hS.wf st1 hinv1
      have hc := concrete_decision_eq r hwf q es
      have ht := table_sound_core r (fun rp => rp.original.outcome q es) (hS.sound st1 hinv1) d' hd
      have hp : r.policySet = tps.map (·.policy) := hpol st1 hinv1
      rw [hp] at hc
      rw [hc]; exact ht.symm

/-- **batched_decision_sound**: a decision `run b` returns is the decision of ordinary authorization over `es` — for EVERY
budget and EVERY loader that answers from `es` (`Faithful`; it may return more than asked, it may miss entities: those are
loaded as empty ones).  `SoundStates` holds of the invariant `SInv`: the loaded store is completed by `es` padded with empty
entities (`completes_pad`), each residual evaluates on every such completion like the typed condition it started from (C14
`interpret_typeSafe`), and evaluation on the padded store is evaluation on `es` (**missing ≡ empty**, `eval_pad`). -/
theorem batched_decision_sound (loader : Loader) (q : Request) (es : Entities) (tps : List TPolicy)
    (hF : Faithful loader es) (hT : TypedSafe q es tps) (hE : TypedAgrees q es tps)
    (b : Nat) (d : Decision) (h : run b loader q tps = .ok d) :
    d = (Cedar.isAuthorized q es (tps.map (·.policy))).decision := by
  cases h0 : initState (prequestOf q) tps with
  | none => simp [run, h0] at h
  | some st0 =>
    exact batched_decision_sound_partial loader q es tps (SInv q es tps)
      ⟨fun _ _ hi hs => sinv_step hF hi hs, fun _ hi => sinv_sound hE hi, fun _ hi => sinv_wf hi⟩
      st0 h0 (sinv_init hT h0) (fun _ hi => hi.pols) b d h

/-- **enough_budget_sound**: with `U` ⊇ the ids requested at EVERY state satisfying `SInv`, reachable or not (`hU`), every
budget larger than `|U|` yields the decision of ordinary authorization (`LoopInv` holds of `SInv`: `sinv_loopInv`). -/
theorem enough_budget_sound (loader : Loader) (q : Request) (es : Entities) (tps : List TPolicy) (U : List EntityUID)
    (hF : Faithful loader es) (hok : StepOk (prequestOf q) loader) (hl : Complete loader)
    (hT : TypedSafe q es tps) (hE : TypedAgrees q es tps) (hB : CondsBool q es tps)
    (hU : ∀ st, SInv q es tps st → ∀ u, u ∈ st.toLoad → u ∈ U)
    (st0 : State) (h0 : initState (prequestOf q) tps = some st0)
    (b : Nat) (hb : U.length < b) :
    run b loader q tps = .ok (Cedar.isAuthorized q es (tps.map (·.policy))).decision := by
  obtain ⟨d, hd⟩ := enough_budget loader q tps U (SInv q es tps) (sinv_loopInv hF hE hB hU) hok hl st0 h0 (sinv_init hT h0) b hb
  rw [hd, batched_decision_sound loader q es tps hF hT hE b d hd]

/-- **enough_budget_full**: if `U` contains the ids of the request, of the typed conditions and of the attribute / tag values
of the store (`Universe`), every budget larger than `|U|` yields the decision of ordinary authorization, for every faithful,
complete loader whose rounds do not fail.  `h0`: `policy_residual_map` succeeds (no slot / unknown in a policy). -/
theorem enough_budget_full (loader : Loader) (q : Request) (es : Entities) (tps : List TPolicy) (U : List EntityUID)
    (hF : Faithful loader es) (hok : StepOk (prequestOf q) loader) (hl : Complete loader)
    (hT : TypedSafe q es tps) (hE : TypedAgrees q es tps) (hB : CondsBool q es tps) (hU : Universe U q es tps)
    (st0 : State) (h0 : initState (prequestOf q) tps = some st0)
    (b : Nat) (hb : U.length < b) :
    run b loader q tps = .ok (Cedar.isAuthorized q es (tps.map (·.policy))).decision := by
  obtain ⟨d, hd⟩ := enough_budget loader q tps U (SInvU q es tps U) (sinvU_loopInv hF hE hB hU) hok hl st0 h0
    (sinvU_init hT hU h0) b hb
  rw [hd, batched_decision_sound loader q es tps hF hT hE b d hd]

theorem storeLoader_faithful (es : Entities) : Faithful (storeLoader es) es := by
  intro ids u d hm
  simp only [storeLoader, List.mem_map] at hm
  obtain ⟨u', _, heq⟩ := hm
  cases heq; rfl

theorem storeLoader_complete (es : Entities) : Complete (storeLoader es) := by
  intro ids u hu
  simp only [storeLoader, List.map_map, List.mem_map]
  exact ⟨u, hu, rfl⟩

/-- non-vacuity (and the model agreeing with the probe of the harness): a policy that needs two loading rounds
    (`principal has manager && principal.manager.name like "*"`): budgets 0 and 1 are insufficient, 2 and 3 allow -/
example :
    let user (mgr : Option String) : EntityData :=
      ⟨(match mgr with | some m => [("manager", Value.prim (.entityUID ⟨"User", m⟩))] | none => []) ++ [("name", .prim (.string "x"))], [], []⟩
    let es : Entities := [(⟨"User", "a"⟩, user (some "b")), (⟨"User", "b"⟩, user none)]
    let q : Request := ⟨⟨"User", "a"⟩, ⟨"Action", "view"⟩, ⟨"Doc", "d"⟩, []⟩
    let cond : Expr := .and (.hasAttr (.var .principal) "manager") (.like (.getAttr (.getAttr (.var .principal) "manager") "name") [.star])
    let tps : List TPolicy := [⟨⟨"p0", .permit, cond, []⟩, cond⟩]
    run 0 (storeLoader es) q tps = .insufficient ∧ run 1 (storeLoader es) q tps = .insufficient ∧
    run 2 (storeLoader es) q tps = .ok .allow ∧ run 3 (storeLoader es) q tps = .ok .allow ∧
    (Cedar.isAuthorized q es (tps.map (·.policy))).decision = .allow := by
  decide +kernel

/-- non-vacuity of `batched_decision_sound` / `enough_budget_full`: their hypotheses about the input (`StepOk` and `Complete`
    of the loader are not among them) hold for the two-round example above, with the exact store loader -/
example :
    let user (mgr : Option String) : EntityData :=
      ⟨(match mgr with | some m => [("manager", Value.prim (.entityUID ⟨"User", m⟩))] | none => []) ++ [("name", .prim (.string "x"))], [], []⟩
    let es : Entities := [(⟨"User", "a"⟩, user (some "b")), (⟨"User", "b"⟩, user none)]
    let q : Request := ⟨⟨"User", "a"⟩, ⟨"Action", "view"⟩, ⟨"Doc", "d"⟩, []⟩
    let cond : Expr := .and (.hasAttr (.var .principal) "manager") (.like (.getAttr (.getAttr (.var .principal) "manager") "name") [.star])
    let tps : List TPolicy := [⟨⟨"p0", .permit, cond, []⟩, cond⟩]
    Faithful (storeLoader es) es ∧ TypedSafe q es tps ∧ TypedAgrees q es tps ∧ CondsBool q es tps ∧
    Universe [⟨"User", "a"⟩, ⟨"Action", "view"⟩, ⟨"Doc", "d"⟩, ⟨"User", "b"⟩] q es tps := by
  intro user es q cond tps
  let l : Residual := .part (.hasAttr (.part (.var .principal) "") "manager") ""
  let r : Residual := .part (.like (.part (.getAttr (.part (.getAttr (.part (.var .principal) "") "manager") "") "name") "") [.star]) ""
  have hl : l.eval q es = .ok (.prim (.bool true)) := by rfl
  have hr : r.eval q es = .ok (.prim (.bool true)) := by rfl
  refine ⟨storeLoader_faithful es, ?_, ?_, ?_, ?_⟩
  rotate_left 3
  · refine ⟨⟨?_, by decide, ?_, ?_⟩, ?_, ?_⟩
    · intro u hu; cases hu; decide
    · intro u hu; cases hu; decide
    · intro c hc; cases hc; intro x hx; cases hx
    · intro u d hf
      simp only [es, Entities.find?] at hf
      split at hf
      · cases hf
        refine ⟨?_, fun x hx => by cases hx⟩
        intro x hx
        simp only [user, List.cons_append, List.nil_append, valueUidsKVs, valueUids, List.append_nil, List.mem_singleton] at hx
        subst hx; decide
      · split at hf
        · cases hf
          exact ⟨fun x hx => by simp [user, valueUidsKVs, valueUids] at hx, fun x hx => by cases hx⟩
        · cases hf
    · intro tp htp r0 h0
      simp only [tps, List.mem_singleton] at htp; subst htp
      have h1 : Residual.ofExpr cond = some (.part (.and l r) "") := by rfl
      rw [h1] at h0; cases h0
      exact uidsIn_nil rfl
  · intro tp htp r0 h0
    simp only [tps, List.mem_singleton] at htp; subst htp
    have h1 : Residual.ofExpr cond = some (.part (.and l r) "") := by rfl
    rw [h1] at h0; cases h0
    refine .and (.hasAttr (.var _ _) ?_) ?_ (fun _ => .like (.getAttr (.getAttr (.var _ _))) ?_) ?_
    · intro v hv
      have : (Residual.part (.var .principal) "").eval q es = .ok (.prim (.entityUID ⟨"User", "a"⟩)) := by rfl
      rw [this] at hv; cases hv; simp [hasAttrV, Entities.find?]
    · intro v hv; rw [hl] at hv; cases hv; exact ⟨true, rfl⟩
    · intro v hv
      have : (Residual.part (.getAttr (.part (.getAttr (.part (.var .principal) "") "manager") "") "name") "").eval q es =
          .ok (.prim (.string "x")) := by rfl
      rw [this] at hv; cases hv; simp [likeV, Value.asString]
    · intro _ v hv; rw [hr] at hv; cases hv; exact ⟨true, rfl⟩
  · intro tp htp
    simp only [tps, List.mem_singleton] at htp; subst htp
    exact Agree.rfl' _
  · intro tp htp v hv
    simp only [tps, List.mem_singleton] at htp; subst htp
    have : evaluate q es [] cond = .ok (.prim (.bool true)) := by rfl
    rw [this] at hv; cases hv; exact ⟨true, rfl⟩

/-- **batched_decision_sound_valid**: `batched_decision_sound` for strictly valid static policies typed for the environment of a
conformant request (store conformant, action entities present). -/
theorem batched_decision_sound_valid (s : Schema) (hWF : C03.SchemaWF2 s) (env : RequestEnv)
    (loader : Loader) (q : Request) (es : Entities) (tps : List TPolicy)
    (hF : Faithful loader es) (hV : ValidTyped s env tps) (hq : Conformant s q es) (he : EnvOf s env q)
    (b : Nat) (d : Decision) (h : run b loader q tps = .ok d) :
    d = (Cedar.isAuthorized q es (tps.map (·.policy))).decision :=
  batched_decision_sound loader q es tps hF (valid_typedSafe hWF hV hq he) (valid_typedAgrees hWF hV hq he) b d h

/-- **enough_budget_full_valid**: `enough_budget_full` from validation; remaining hypotheses: the loader and `Universe U`. -/
theorem enough_budget_full_valid (s : Schema) (hWF : C03.SchemaWF2 s) (env : RequestEnv)
    (loader : Loader) (q : Request) (es : Entities) (tps : List TPolicy) (U : List EntityUID)
    (hF : Faithful loader es) (hok : StepOk (prequestOf q) loader) (hl : Complete loader)
    (hV : ValidTyped s env tps) (hq : Conformant s q es) (he : EnvOf s env q) (hU : Universe U q es tps)
    (b : Nat) (hb : U.length < b) :
    run b loader q tps = .ok (Cedar.isAuthorized q es (tps.map (·.policy))).decision := by
  obtain ⟨st0, h0⟩ := valid_initState_some hV he.pslot he.rslot (prequestOf q)
  exact enough_budget_full loader q es tps U hF hok hl (valid_typedSafe hWF hV hq he) (valid_typedAgrees hWF hV hq he)
    (valid_condsBool hWF hV hq he) hU st0 h0 b hb

/-- **batched_total_valid**: on validated static policies the batched evaluator never answers `TpeError` -/
theorem batched_total_valid (s : Schema) (env : RequestEnv) (loader : Loader) (q : Request) (tps : List TPolicy)
    (hV : ValidTyped s env tps) (hp : env.principalSlot = none) (hr : env.resourceSlot = none) (b : Nat) :
    run b loader q tps ≠ .tpeError := by
  obtain ⟨st0, h0⟩ := valid_initState_some hV hp hr (prequestOf q)
  unfold run
  simp only [h0, runFrom]
  cases loop (prequestOf q) loader b st0 with
  | none => simp
  | some st1 => simp only; cases st1.decision (prequestOf q) <;> simp

/-- non-vacuity of the `…_valid` theorems: C03's example schema and world; a permit whose typed AST is the condition itself
and a forbid `resource in principal && context.level < 5` whose left operand is typed `False`, so that the typechecker hands
back `resource in principal` ALONE (the typed condition differs from the condition): all validation-level hypotheses hold,
and `Universe` for the ids of the request. -/
example :
    let c1 : Expr := .and (.binaryApp .mem (.var .resource) (.var .principal)) (.binaryApp .less (.getAttr (.var .context) "level") (.lit (.int 5)))
    let tps : List TPolicy := [⟨⟨"p0", .permit, C03.ex2Static, []⟩, C03.ex2Static⟩,
                               ⟨⟨"p1", .forbid, c1, []⟩, .binaryApp .mem (.var .resource) (.var .principal)⟩]
    let env : RequestEnv := ⟨"User", ⟨"Action", "view"⟩, "Group", C03.ex2View.context, none, none⟩
    C03.SchemaWF2 C03.ex2Schema ∧ ValidTyped C03.ex2Schema env tps ∧ EnvOf C03.ex2Schema env C03.ex2World.q ∧
    Conformant C03.ex2Schema C03.ex2World.q C03.ex2World.es ∧ Faithful (storeLoader C03.ex2World.es) C03.ex2World.es ∧
    Universe [⟨"User", "alice"⟩, ⟨"Action", "view"⟩, ⟨"Group", "admins"⟩] C03.ex2World.q C03.ex2World.es tps ∧
    run 1 (storeLoader C03.ex2World.es) C03.ex2World.q tps = .ok (Cedar.isAuthorized C03.ex2World.q C03.ex2World.es (tps.map (·.policy))).decision := by
  intro c1 tps env
  have hV : ValidTyped C03.ex2Schema env tps := by
    refine ⟨?_, ?_⟩
    · intro tp htp
      simp only [tps, List.mem_cons, List.not_mem_nil, or_false] at htp
      rcases htp with rfl | rfl
      · exact ⟨rfl, fun _ => rfl, ⟨_, rfl, rfl⟩⟩
      · exact ⟨rfl, fun _ => rfl, ⟨_, rfl, rfl⟩⟩
    · intro tp htp
      simp only [tps, List.mem_cons, List.not_mem_nil, or_false] at htp
      rcases htp with rfl | rfl
      · exact ⟨_, rfl, rfl⟩
      · exact ⟨_, rfl, rfl⟩
  refine ⟨C03.ex2_schemaWF, hV, ⟨⟨rfl, rfl, rfl, C03.ex2View, rfl, rfl⟩, rfl, rfl⟩,
    ⟨C03.ex2_request, C03.ex2_store, C03.ex2_actions⟩, storeLoader_faithful _, ?_, by decide +kernel⟩
  refine ⟨⟨?_, by decide, ?_, ?_⟩, ?_, ?_⟩
  · intro u hu; cases hu; decide
  · intro u hu; cases hu; decide
  · intro c hc; cases hc; intro x hx; simp [C03.ex2World, valueUidsKVs, valueUids] at hx
  · intro u d hf
    have hm := Entities.find?_mem hf
    simp only [C03.ex2World, List.mem_cons, Prod.mk.injEq, List.not_mem_nil, or_false] at hm
    rcases hm with ⟨rfl, rfl⟩ | ⟨rfl, rfl⟩ | ⟨rfl, rfl⟩ | ⟨rfl, rfl⟩ <;>
      exact ⟨fun x hx => by simp [valueUidsKVs, valueUids] at hx, fun x hx => by simp [valueUidsKVs, valueUids] at hx⟩
  · intro tp htp r0 h0
    simp only [tps, List.mem_cons, List.not_mem_nil, or_false] at htp
    rcases htp with rfl | rfl
    · have h1 : (Residual.ofExpr C03.ex2Static).map (·.uids) = some [] := by rfl
      simp only [h0, Option.map_some, Option.some.injEq] at h1
      exact uidsIn_nil h1
    · have h1 : (Residual.ofExpr (.binaryApp .mem (.var .resource) (.var .principal))).map (·.uids) = some [] := by rfl
      simp only [h0, Option.map_some, Option.some.injEq] at h1
      exact uidsIn_nil h1

end Cedar.C15
