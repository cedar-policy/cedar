import CedarVerif.Lemmas.TypecheckSub
/-
C03: what single rules evaluate to: `TySound` (or `Good`) of the operands in, of the node out.
-/
namespace Cedar

def boolInst (x : Bool) : CedarType → Bool
  | .bool .anyBool => true
  | .bool .tt => x
  | .bool .ff => !x
  | _ => false

theorem inst_bool_iff {x : Bool} {τ : CedarType} : InstanceOfType (.prim (.bool x)) τ ↔ boolInst x τ = true := by
  constructor
  · intro h; cases h <;> simp [boolInst]
  · intro h
    cases τ with
    | bool b => cases b <;> cases x <;> simp [boolInst] at h ⊢ <;> constructor
    | _ => simp [boolInst] at h

def Boolish (τ : CedarType) : Prop := τ = .never ∨ ∃ bt, τ = .bool bt

theorem inst_never {v : Value} (h : InstanceOfType v .never) : False := by cases h

theorem inst_string {v : Value} {τ : CedarType} (h : InstanceOfType v τ) (hτ : τ = .never ∨ τ = .string) : ∃ i, v = .prim (.string i) := by
  rcases hτ with rfl | rfl
  · exact (inst_never h).elim
  · cases h; exact ⟨_, rfl⟩

theorem subtype_bool {τ : CedarType} (h : [boolT].any (fun t => isSubtype .permissive τ t) = true) : Boolish τ := by
  simp only [List.any_cons, List.any_nil, Bool.or_false, boolT] at h
  cases τ <;> simp [isSubtype] at h
  · exact Or.inl rfl
  · exact Or.inr ⟨_, rfl⟩

theorem subtype_long {τ : CedarType} (h : [CedarType.long].any (fun t => isSubtype .permissive τ t) = true) : τ = .never ∨ τ = .long := by
  simp only [List.any_cons, List.any_nil, Bool.or_false] at h
  cases τ <;> simp [isSubtype] at h
  · exact Or.inl rfl
  · exact Or.inr rfl

theorem subtype_string {τ : CedarType} (h : [CedarType.string].any (fun t => isSubtype .permissive τ t) = true) : τ = .never ∨ τ = .string := by
  simp only [List.any_cons, List.any_nil, Bool.or_false] at h
  cases τ <;> simp [isSubtype] at h
  · exact Or.inl rfl
  · exact Or.inr rfl

theorem subtype_anySet {τ : CedarType} (h : [CedarType.set none].any (fun t => isSubtype .permissive τ t) = true) :
    τ = .never ∨ ∃ e, τ = .set e := by
  simp only [List.any_cons, List.any_nil, Bool.or_false] at h
  cases τ <;> simp [isSubtype] at h
  · exact Or.inl rfl
  · exact Or.inr ⟨_, rfl⟩

theorem subtype_anyEntity {τ : CedarType} (h : [CedarType.anyEntity].any (fun t => isSubtype .permissive τ t) = true) :
    τ = .never ∨ τ = .anyEntity ∨ ∃ l, τ = .entity l := by
  simp only [List.any_cons, List.any_nil, Bool.or_false] at h
  cases τ <;> simp [isSubtype] at h
  · exact Or.inl rfl
  · exact Or.inr (Or.inr ⟨_, rfl⟩)
  · exact Or.inr (Or.inl rfl)

theorem subtype_entityOrRecord {τ : CedarType} (h : [CedarType.anyEntity, anyRecord].any (fun t => isSubtype .permissive τ t) = true) :
    τ = .never ∨ τ = .anyEntity ∨ (∃ l, τ = .entity l) ∨ ∃ a o, τ = .record a o := by
  simp only [List.any_cons, List.any_nil, Bool.or_false, anyRecord] at h
  cases τ <;> simp [isSubtype] at h
  · exact Or.inl rfl
  · exact Or.inr (Or.inr (Or.inr ⟨_, _, rfl⟩))
  · exact Or.inr (Or.inr (Or.inl ⟨_, rfl⟩))
  · exact Or.inr (Or.inl rfl)

/-- the operand of `.` / `has` once the rule has excluded `AnyEntity` (which the model answers `outside` for) -/
theorem shape_attr_operand {τe : CedarType} (hne : τe ≠ .anyEntity)
    (hsub : [CedarType.anyEntity, anyRecord].any (fun t => isSubtype .permissive τe t) = true) :
    τe = .never ∨ (∃ l, τe = .entity l) ∨ ∃ attrs o, τe = .record attrs o := by
  rcases subtype_entityOrRecord hsub with h1 | h1 | h1 | h1
  · exact Or.inl h1
  · exact (hne h1).elim
  · exact Or.inr (Or.inl h1)
  · exact Or.inr (Or.inr h1)

theorem TySound.bool_cases {w : World} {e : Expr} {τ : CedarType} {c : Capabilities} (h : TySound w e τ c) (hτ : Boolish τ) :
    (∃ err, w.eval e = .error err ∧ Permitted err) ∨
    ∃ b, w.eval e = .ok (.prim (.bool b)) ∧ boolInst b τ = true ∧ (b = true → CapsHold w c) := by
  rcases h with he | ⟨v, hv, hi, hc⟩
  · exact Or.inl he
  · have hb : ∃ b, v = .prim (.bool b) := by
      rcases hτ with rfl | ⟨bt, rfl⟩
      · exact (inst_never hi).elim
      · cases hi <;> exact ⟨_, rfl⟩
    obtain ⟨b, rfl⟩ := hb
    exact Or.inr ⟨b, hv, inst_bool_iff.mp hi, fun hb => hc (by rw [hb])⟩

theorem TySound.of_err {w : World} {e : Expr} {τ : CedarType} {c : Capabilities} {err : ErrClass}
    (h : w.eval e = .error err) (hp : Permitted err) : TySound w e τ c := Or.inl ⟨err, h, hp⟩

theorem TySound.of_bool {w : World} {e : Expr} {τ : CedarType} {c : Capabilities} {b : Bool}
    (h : w.eval e = .ok (.prim (.bool b))) (hi : boolInst b τ = true) (hc : b = true → CapsHold w c) : TySound w e τ c :=
  Or.inr ⟨_, h, inst_bool_iff.mpr hi, fun hv => hc (by simpa using hv)⟩

theorem and_sound {w : World} {a b : Expr} {τa τb τ : CedarType} {ca cb c' : Capabilities}
    (ha : TySound w a τa ca) (hτa : Boolish τa)
    (hb : CapsHold w ca → TySound w b τb cb) (hτb : Boolish τb)
    (hτ : ∀ x y : Bool, boolInst x τa = true → (x = true → boolInst y τb = true) → boolInst (x && y) τ = true)
    (hcaps : CapsHold w ca → CapsHold w cb → CapsHold w c') : TySound w (.and a b) τ c' := by
  rcases ha.bool_cases hτa with ⟨err, he, hp⟩ | ⟨x, hx, hix, hcx⟩
  · exact TySound.of_err (by simp [evaluate, he]) hp
  · cases x with
    | false =>
      refine TySound.of_bool (b := false) (by simp [evaluate, hx, Value.asBool]) ?_ (fun h => by cases h)
      simpa using hτ false false hix (fun h => by cases h)
    | true =>
      have hca := hcx rfl
      rcases (hb hca).bool_cases hτb with ⟨err, he, hp⟩ | ⟨y, hy, hiy, hcy⟩
      · exact TySound.of_err (by simp [evaluate, hx, he, Value.asBool]) hp
      · refine TySound.of_bool (b := y) (by simp [evaluate, hx, hy, Value.asBool]) ?_ (fun h => hcaps hca (hcy h))
        simpa using hτ true y hix (fun _ => hiy)

theorem or_sound {w : World} {a b : Expr} {τa τb τ : CedarType} {ca cb c' : Capabilities}
    (ha : TySound w a τa ca) (hτa : Boolish τa)
    (hb : TySound w b τb cb) (hτb : Boolish τb)
    (hτ : ∀ x y : Bool, boolInst x τa = true → (x = false → boolInst y τb = true) → boolInst (x || y) τ = true)
    (hcL : boolInst true τa = true → CapsHold w ca → CapsHold w c')
    (hcR : boolInst true τb = true → CapsHold w cb → CapsHold w c') : TySound w (.or a b) τ c' := by
  rcases ha.bool_cases hτa with ⟨err, he, hp⟩ | ⟨x, hx, hix, hcx⟩
  · exact TySound.of_err (by simp [evaluate, he]) hp
  · cases x with
    | true =>
      refine TySound.of_bool (b := true) (by simp [evaluate, hx, Value.asBool]) ?_ (fun _ => hcL hix (hcx rfl))
      simpa using hτ true false hix (fun h => by cases h)
    | false =>
      rcases hb.bool_cases hτb with ⟨err, he, hp⟩ | ⟨y, hy, hiy, hcy⟩
      · exact TySound.of_err (by simp [evaluate, hx, he, Value.asBool]) hp
      · refine TySound.of_bool (b := y) (by simp [evaluate, hx, hy, Value.asBool]) ?_ (fun h => ?_)
        · simpa using hτ false y hix (fun _ => hiy)
        · subst h; exact hcR hiy (hcy rfl)

theorem andType_inst {τa τb : CedarType} (ha : Boolish τa) (hb : Boolish τb) (x y : Bool)
    (hx : boolInst x τa = true) (hy : x = true → boolInst y τb = true) : boolInst (x && y) (andType τa τb) = true := by
  rcases ha with rfl | ⟨ba, rfl⟩
  · cases hx
  · rcases hb with rfl | ⟨bb, rfl⟩
    · cases x
      · cases ba <;> first | rfl | cases hx
      · cases hy rfl
    · cases ba <;> cases bb <;> cases x <;> cases y <;> first | rfl | (cases hx; done) | (cases hy rfl; done)

theorem andType_tt {τa τb : CedarType} (h : andType τa τb = .bool .tt) (ha : Boolish τa) (hb : Boolish τb) :
    τa = .bool .tt ∧ τb = .bool .tt := by
  rcases ha with rfl | ⟨ba, rfl⟩ <;> rcases hb with rfl | ⟨bb, rfl⟩
  · simp [andType, boolT] at h
  · cases bb <;> simp [andType, boolT] at h
  · cases ba <;> simp [andType, boolT] at h
  · cases ba <;> cases bb <;> simp [andType, boolT] at h ⊢

theorem andCaps_hold {w : World} {τa τb : CedarType} {ca cb : Capabilities} (h1 : CapsHold w ca) (h2 : CapsHold w cb) :
    CapsHold w (andCaps τa τb ca cb) := by
  unfold andCaps
  split
  · exact capsHold_nil w
  · exact capsHold_union.mpr ⟨h1, h2⟩
  · exact capsHold_union.mpr ⟨h2, h2⟩
  · exact capsHold_union.mpr ⟨h1, h2⟩

theorem orType_inst {τa τb : CedarType} (ha : Boolish τa) (hb : Boolish τb) (x y : Bool)
    (hx : boolInst x τa = true) (hy : x = false → boolInst y τb = true) : boolInst (x || y) (orType τa τb) = true := by
  rcases ha with rfl | ⟨ba, rfl⟩
  · cases hx
  · rcases hb with rfl | ⟨bb, rfl⟩
    · cases x
      · cases hy rfl
      · cases ba <;> first | rfl | cases hx
    · cases ba <;> cases bb <;> cases x <;> cases y <;> first | rfl | (cases hx; done) | (cases hy rfl; done)

theorem orType_tt {τa τb : CedarType} (h : orType τa τb = .bool .tt) (ha : Boolish τa) (hb : Boolish τb) :
    τb = .bool .tt ∨ (τb = .bool .ff ∧ τa = .bool .tt) := by
  rcases ha with rfl | ⟨ba, rfl⟩ <;> rcases hb with rfl | ⟨bb, rfl⟩
  · simp [orType, boolT] at h
  · cases bb <;> simp [orType, boolT] at h ⊢
  · cases ba <;> simp [orType, boolT] at h
  · cases ba <;> cases bb <;> simp [orType, boolT] at h ⊢

theorem andType_boolish {τa τb : CedarType} (ha : Boolish τa) (hb : Boolish τb) : Boolish (andType τa τb) := by
  unfold andType
  split
  · exact Or.inr ⟨_, rfl⟩
  · exact ha
  · exact hb
  · exact Or.inr ⟨_, rfl⟩

theorem orType_boolish {τa τb : CedarType} (ha : Boolish τa) (hb : Boolish τb) : Boolish (orType τa τb) := by
  unfold orType
  split
  · exact Or.inr ⟨_, rfl⟩
  · exact ha
  · exact hb
  · exact Or.inr ⟨_, rfl⟩

theorem record_get {kvs : List (String × Value)} {attrs : Attrs} {o : Bool} {a : String} {req : Bool} {τa : CedarType}
    (hi : InstanceOfType (.record kvs) (.record attrs o)) (hf : Attrs.find? attrs a = some (req, τa)) :
    (∀ v, lookupKV kvs a = some v → InstanceOfType v τa) ∧ (req = true → (lookupKV kvs a).isSome = true) := by
  cases hi with
  | record _ _ _ h1 h2 h3 =>
    refine ⟨fun v hv => h1 a v (lookupKV_mem hv) req τa hf, fun hr => ?_⟩
    subst hr
    obtain ⟨v, hv⟩ := h3 a τa (find_mem hf)
    exact mem_lookupKV hv

theorem record_no_attr {kvs : List (String × Value)} {attrs : Attrs} {a : String}
    (hi : InstanceOfType (.record kvs) (.record attrs false)) (hf : Attrs.find? attrs a = none) : lookupKV kvs a = none := by
  cases hi with
  | record _ _ _ h1 h2 h3 =>
    cases hl : lookupKV kvs a with
    | none => rfl
    | some v => have := h2 a v (lookupKV_mem hl) hf; cases this

/-- the attributes an entity type contributes to `EntityLUB::get_attribute_types` (an undeclared type: none) -/
def attrsOfTy (s : Schema) (t : EntityType) : Attrs :=
  match s.entityType? t with
  | some et => et.attrs
  | none => []

theorem lubAttrs_cons (s : Schema) (t : EntityType) (rest : List EntityType) :
    lubAttrs s (t :: rest) =
      rest.foldl (fun acc t' => lubAttrsPermissive .permissive acc (attrsOfTy s t')) (attrsOfTy s t) := rfl

theorem lubAttrs_single (s : Schema) (T : EntityType) : lubAttrs s [T] = attrsOfTy s T := rfl

theorem entity_get {s : Schema} {u : EntityUID} {d : EntityData} {a : String} {req : Bool} {τa : CedarType}
    (hWF : SchemaWF s) (hc : ConformsEntity s u d) (hf : Attrs.find? (lubAttrs s [u.ty]) a = some (req, τa)) :
    (∀ v, lookupKV d.attrs a = some v → InstanceOfType v τa) ∧ (req = true → (lookupKV d.attrs a).isSome = true) ∧
    τa.mono = true := by
  rw [lubAttrs_single, attrsOfTy] at hf
  cases het : s.entityType? u.ty with
  | none => rw [het] at hf; simp [Attrs.find?] at hf
  | some et =>
    rw [het] at hf
    simp only at hf
    have hna : ¬ isActionType u.ty = true := by
      intro h; rw [hWF.no_action_etype _ h] at het; cases het
    unfold ConformsEntity at hc
    rw [if_neg hna] at hc
    obtain ⟨et', het', _, hreq, htyped, _⟩ := hc
    rw [het] at het'; cases het'
    refine ⟨fun v hv => htyped a v (lookupKV_mem hv) req τa hf, fun hr => ?_, mono_find (hWF.et_mono _ _ het).1 hf⟩
    subst hr
    obtain ⟨v, hv⟩ := hreq a τa (find_mem hf)
    exact mem_lookupKV hv

theorem entity_no_attr {s : Schema} {u : EntityUID} {d : EntityData} {a : String}
    (hWF : SchemaWF s) (hc : ConformsEntity s u d) (hf : Attrs.find? (lubAttrs s [u.ty]) a = none)
    (hno : mayHaveAttr s (.entity [u.ty]) a = false) : lookupKV d.attrs a = none := by
  unfold ConformsEntity at hc
  by_cases hact : isActionType u.ty = true
  · rw [if_pos hact] at hc
    obtain ⟨act, hact', hbeq, _⟩ := hc
    rw [(hWF.act_wf _ _ hact').2] at hbeq
    cases hd : d.attrs with
    | nil => simp [lookupKV]
    | cons kv rest => rw [hd] at hbeq; simp [Value.beqKVs] at hbeq
  · rw [if_neg hact] at hc
    obtain ⟨et, het, _, _, _, hopen, _⟩ := hc
    rw [lubAttrs_single, attrsOfTy, het] at hf
    simp only at hf
    cases hl : lookupKV d.attrs a with
    | none => rfl
    | some v =>
      have ho := hopen a v (lookupKV_mem hl) hf
      simp [mayHaveAttr, lubHasOpenAttrs, het, ho, hact] at hno

theorem sound_tt {w : World} {g : Expr} {c : Capabilities} (h : TySound w g (.bool .tt) c) : TrueOrPermitted w g := by
  rcases h with he | ⟨v, hv, hi, _⟩
  · exact Or.inr he
  · cases hi; exact Or.inl hv

theorem Good.value {w : World} {e : Expr} {v : Value} {τ : CedarType} (hv : w.eval e = .ok v) (hi : InstanceOfType v τ) :
    Good w e τ [] :=
  ⟨Or.inr ⟨v, hv, hi, fun _ => capsHold_nil w⟩, fun _ => capsHold_nil w⟩

theorem Good.err {w : World} {e : Expr} {err : ErrClass} {τ : CedarType} (he : w.eval e = .error err) (hp : Permitted err) :
    Good w e τ [] :=
  ⟨Or.inl ⟨err, he, hp⟩, fun _ => capsHold_nil w⟩

theorem not_sound {w : World} {a : Expr} {τa τ : CedarType} {ca : Capabilities} (ha : TySound w a τa ca) (hb : Boolish τa)
    (hτ : ∀ x : Bool, boolInst x τa = true → boolInst (!x) τ = true) : TySound w (.unaryApp .not a) τ [] := by
  rcases ha.bool_cases hb with ⟨err, he, hp⟩ | ⟨x, hx, hix, _⟩
  · exact TySound.of_err (by simp [evaluate, he]) hp
  · exact TySound.of_bool (b := !x) (by simp [evaluate, hx, applyUnary, Value.asBool, bind, Except.bind]) (hτ x hix) (fun _ => capsHold_nil w)

theorem TySound.long_cases {w : World} {e : Expr} {τ : CedarType} {c : Capabilities} (h : TySound w e τ c) (hτ : τ = .never ∨ τ = .long) :
    (∃ err, w.eval e = .error err ∧ Permitted err) ∨ ∃ i, w.eval e = .ok (.prim (.int i)) := by
  rcases h with he | ⟨v, hv, hi, _⟩
  · exact Or.inl he
  · rcases hτ with rfl | rfl
    · exact (inst_never hi).elim
    · cases hi; exact Or.inr ⟨_, hv⟩

theorem Good.intOrErr {w : World} {e : Expr} {k : Int} (h : w.eval e = intOrErr k) : Good w e .long [] := by
  unfold Cedar.intOrErr at h
  split at h
  · exact Good.value h (.long k)
  · exact Good.err h (Or.inr (Or.inl rfl))

theorem arith_sound {w : World} {op : BinaryOp} {a b : Expr} {τa τb : CedarType} {ca cb : Capabilities}
    (hop : op = .add ∨ op = .sub ∨ op = .mul)
    (ha : TySound w a τa ca) (hτa : τa = .never ∨ τa = .long) (hb : TySound w b τb cb) (hτb : τb = .never ∨ τb = .long) :
    Good w (.binaryApp op a b) .long [] := by
  rcases ha.long_cases hτa with ⟨err, he, hp⟩ | ⟨i, hi⟩
  · exact Good.err (by simp [evaluate, he]) hp
  · rcases hb.long_cases hτb with ⟨err, he, hp⟩ | ⟨j, hj⟩
    · exact Good.err (by simp [evaluate, hi, he]) hp
    · rcases hop with rfl | rfl | rfl
      · exact Good.intOrErr (k := i + j) (by simp [evaluate, hi, hj, applyBinary, Value.asInt, bind, Except.bind])
      · exact Good.intOrErr (k := i - j) (by simp [evaluate, hi, hj, applyBinary, Value.asInt, bind, Except.bind])
      · exact Good.intOrErr (k := i * j) (by simp [evaluate, hi, hj, applyBinary, Value.asInt, bind, Except.bind])

theorem neg_sound {w : World} {a : Expr} {τa : CedarType} {ca : Capabilities}
    (ha : TySound w a τa ca) (hτa : τa = .never ∨ τa = .long) : Good w (.unaryApp .neg a) .long [] := by
  rcases ha.long_cases hτa with ⟨err, he, hp⟩ | ⟨i, hi⟩
  · exact Good.err (by simp [evaluate, he]) hp
  · exact Good.intOrErr (k := -i) (by simp [evaluate, hi, applyUnary, Value.asInt, bind, Except.bind])

theorem lookupAttr_mono {s : Schema} {τe : CedarType} {a : String} {req : Bool} {τa : CedarType} (hWF : SchemaWF s)
    (hm : τe.mono = true) (h : lookupAttr s τe a = some (req, τa)) : τa.mono = true := by
  cases τe <;> simp only [lookupAttr] at h <;> try (cases h)
  · exact mono_find (by simpa [CedarType.mono] using hm) h
  · obtain ⟨T, rfl⟩ := mono_entity hm
    rw [lubAttrs_single, attrsOfTy] at h
    cases het : s.entityType? T with
    | none => rw [het] at h; simp [Attrs.find?] at h
    | some et => rw [het] at h; exact mono_find (hWF.et_mono _ _ het).1 h

theorem inst_entity_single {v : Value} {T : EntityType} (h : InstanceOfType v (.entity [T])) : ∃ u : EntityUID, v = .prim (.entityUID u) ∧ u.ty = T := by
  cases h with
  | entity u _ hm => exact ⟨u, rfl, by simpa using hm⟩

theorem inst_record {v : Value} {attrs : Attrs} {o : Bool} (h : InstanceOfType v (.record attrs o)) : ∃ kvs, v = .record kvs := by
  cases h; exact ⟨_, rfl⟩

theorem hasAttr_err {w : World} {e : Expr} {a : String} {err : ErrClass} (he : w.eval e = .error err) :
    w.eval (.hasAttr e a) = .error err := by simp [evaluate, he]

theorem cap_attr_guard (e : Expr) (a : String) : (Capability.attr e a).guard = some (.hasAttr e a) := rfl

theorem capHolds_attr {w : World} {e : Expr} {a : String} (h : TrueOrPermitted w (.hasAttr e a)) : CapsHold w [Capability.attr e a] := by
  apply capsHold_singleton
  intro g hg
  rw [cap_attr_guard] at hg
  cases hg; exact h

theorem cap_attr_true {w : World} {e : Expr} {a : String} {caps : Capabilities} {p : Bool} (hc : CapsHold w caps)
    (hcap : caps.has (Capability.attr e a) = true) (hp : w.eval (.hasAttr e a) = .ok (.prim (.bool p))) : p = true := by
  have := capsHold_has hc hcap _ (cap_attr_guard e a)
  rcases this with h | ⟨err, h, _⟩
  · rw [hp] at h; simpa using h
  · rw [hp] at h; cases h

theorem asLiteral_eval {s : Schema} {env : RequestEnv} {w : World} {a : Expr} {la : Prim} (henv : EnvMatches s env w.q)
    (h : asLiteral env a = some la) : w.eval a = .ok (.prim la) := by
  unfold asLiteral at h
  split at h
  · cases h; simp [evaluate]
  · cases h; simp [evaluate, henv.2.1]
  · cases h

theorem boolish_flat {τ : CedarType} (h : Boolish τ) : τ.flat = true := by
  rcases h with rfl | ⟨bt, rfl⟩ <;> rfl

theorem TySound.of_ok {w : World} {e : Expr} {τ : CedarType} {c : Capabilities} (h : TySound w e τ c) {v : Value}
    (hv : w.eval e = .ok v) : InstanceOfType v τ ∧ (v = .prim (.bool true) → CapsHold w c) := by
  rcases h with ⟨err, he, _⟩ | ⟨v', hv', hi, hc⟩
  · rw [hv] at he; cases he
  · rw [hv] at hv'
    cases hv'
    exact ⟨hi, hc⟩

end Cedar
