import CedarVerif.Lemmas.TypecheckBasic
import CedarVerif.Lemmas.TypecheckLub
import CedarVerif.Lemmas.TypecheckRules
/-
C03: what `hasTag` / `getTag` evaluate to and soundness of `getTag` given a bound of the tag types of the operand's entity
types: capability flow as for optional attributes.
-/
namespace Cedar.C03

open Cedar

theorem cap_tag_guard (a b : Expr) : (Capability.tag a b).guard = some (.binaryApp .hasTag a b) := by
  unfold Capability.tag
  cases b with
  | lit p => cases p <;> rfl
  | _ => rfl

theorem capHolds_tag {w : World} {a b : Expr} (h : TrueOrPermitted w (.binaryApp .hasTag a b)) : CapsHold w [Capability.tag a b] := by
  apply capsHold_singleton
  intro g hg
  rw [cap_tag_guard] at hg
  cases hg; exact h

theorem cap_tag_true {w : World} {a b : Expr} {caps : Capabilities} {p : Bool} (hc : CapsHold w caps)
    (hcap : caps.has (Capability.tag a b) = true) (hp : w.eval (.binaryApp .hasTag a b) = .ok (.prim (.bool p))) : p = true := by
  have := capsHold_has hc hcap _ (cap_tag_guard a b)
  rcases this with h | ⟨err, h, _⟩
  · rw [hp] at h; simpa using h
  · rw [hp] at h; cases h

theorem tagTypes_single (s : Schema) (T : EntityType) :
    tagTypes s [T] = (match s.entityType? T with
      | some et => (match et.tags with | some t => [t] | none => [])
      | none => []) := by
  unfold tagTypes
  cases h : s.entityType? T with
  | none => simp [List.filterMap, h]
  | some et => cases h2 : et.tags <;> simp [List.filterMap, h, h2]

theorem entity_tag {s : Schema} {u : EntityUID} {d : EntityData} {k : String} {v : Value}
    (hc : ConformsEntity s u d) (hl : lookupKV d.tags k = some v) :
    ∃ et t, s.entityType? u.ty = some et ∧ et.tags = some t ∧ InstanceOfType v t := by
  unfold ConformsEntity at hc
  by_cases hact : isActionType u.ty = true
  · rw [if_pos hact] at hc
    obtain ⟨_, _, _, htags, _⟩ := hc
    rw [htags] at hl; simp [lookupKV] at hl
  · rw [if_neg hact] at hc
    obtain ⟨et, het, _, _, _, _, _, _, htags, _⟩ := hc
    obtain ⟨t, ht, hi⟩ := htags k v (lookupKV_mem hl)
    exact ⟨et, t, het, ht, hi⟩

theorem hasTag_eval {w : World} {a b : Expr} {u : EntityUID} {k : String}
    (hv1 : w.eval a = .ok (.prim (.entityUID u))) (hv2 : w.eval b = .ok (.prim (.string k))) :
    w.eval (.binaryApp .hasTag a b) = .ok (.prim (.bool (match w.es.find? u with
      | none => false
      | some d => (lookupKV d.tags k).isSome))) := by
  simp only [World.eval] at hv1 hv2
  simp only [World.eval, evaluate, hv1, hv2, applyBinary, Value.asEntity, Value.asString, bind, Except.bind]
  cases w.es.find? u <;> rfl

theorem lubAll_single (m : ValidationMode) (t : CedarType) : lubAll m [t] = some t := lubAll_cons m t []

theorem mem_tagTypes {s : Schema} {l : List EntityType} {T : EntityType} {et : EntityTypeEntry} {t : CedarType}
    (hT : T ∈ l) (het : s.entityType? T = some et) (ht : et.tags = some t) : t ∈ tagTypes s l := by
  unfold tagTypes
  exact List.mem_filterMap.mpr ⟨T, hT, by simp [het, ht]⟩

theorem tagTypes_mem {s : Schema} {l : List EntityType} {t : CedarType} (h : t ∈ tagTypes s l) :
    ∃ T et, T ∈ l ∧ s.entityType? T = some et ∧ et.tags = some t := by
  unfold tagTypes at h
  obtain ⟨T, hl, hT⟩ := List.mem_filterMap.mp h
  cases het : s.entityType? T with
  | none => rw [het] at hT; cases hT
  | some et => rw [het] at hT; exact ⟨T, et, hl, het, hT⟩

theorem getTag_arm {m : ValidationMode} {s : Schema} {a b : Expr} {caps : Capabilities} {l : List EntityType} {τ : CedarType}
    {c' : Capabilities}
    (h : getTagCont m s a b caps l = .ok (τ, c')) :
    caps.has (Capability.tag a b) = true ∧ c' = [] ∧ tagTypes s l ≠ [] ∧ lubAll m (tagTypes s l) = some τ := by
  unfold getTagCont at h
  split at h
  · rename_i hcap
    split at h
    · cases h
    · rename_i hne
      cases hlub : lubAll m (tagTypes s l) with
      | none => rw [hlub] at h; cases h
      | some τ' =>
        rw [hlub] at h
        simp only [ok, Except.ok.injEq, Prod.mk.injEq] at h
        exact ⟨hcap, h.2.symm, fun h0 => hne h0, h.1 ▸ rfl⟩
  · cases h

theorem tagTypes_single_bound {m : ValidationMode} {s : Schema} {T : EntityType} {τ : CedarType}
    (hne : tagTypes s [T] ≠ []) (hlub : lubAll m (tagTypes s [T]) = some τ) :
    ∃ et, s.entityType? T = some et ∧ et.tags = some τ ∧ tagTypes s [T] = [τ] := by
  rw [tagTypes_single] at hne hlub ⊢
  cases het : s.entityType? T with
  | none => rw [het] at hne; exact (hne rfl).elim
  | some et =>
    rw [het] at hne hlub
    simp only at hne hlub ⊢
    cases htag : et.tags with
    | none => rw [htag] at hne; exact (hne rfl).elim
    | some t =>
      rw [htag] at hlub
      simp only [lubAll_single, Option.some.injEq] at hlub
      subst hlub
      exact ⟨et, rfl, htag, rfl⟩

theorem getTag_sound {s : Schema} {w : World} {a b : Expr} {caps : Capabilities} {l : List EntityType} {τb τ : CedarType}
    {ca cb : Capabilities} (hcap : caps.has (Capability.tag a b) = true) (hsub : ∀ t, t ∈ tagTypes s l → Below t τ)
    (hst : StoreConforms s w.es) (hc : CapsHold w caps) (sa : TySound w a (.entity l) ca) (sb : TySound w b τb cb)
    (hτb : τb = .never ∨ τb = .string) : Good w (.binaryApp .getTag a b) τ [] := by
  rcases sa with ⟨err, he, hp⟩ | ⟨v1, hv1, hi1, _⟩
  · exact Good.err (by simp [evaluate, he]) hp
  · cases hi1 with
    | entity u _ hm =>
      rcases sb with ⟨err, he, hp⟩ | ⟨v2, hv2, hi2, _⟩
      · exact Good.err (by simp only [World.eval] at hv1 he; simp [evaluate, hv1, he]) hp
      · obtain ⟨k, rfl⟩ := inst_string hi2 hτb
        have hev := hasTag_eval hv1 hv2
        have hp := cap_tag_true hc hcap hev
        simp only [World.eval] at hv1 hv2
        cases hf : w.es.find? u with
        | none =>
          exact Good.err (err := .entity) (by simp [evaluate, hv1, hv2, applyBinary, Value.asEntity, Value.asString, bind, Except.bind, hf]) (Or.inl rfl)
        | some d =>
          rw [hf] at hp; simp only at hp
          cases hl : lookupKV d.tags k with
          | none => rw [hl] at hp; cases hp
          | some v =>
            obtain ⟨et', t', het', ht', hi⟩ := entity_tag (hst _ _ hf) hl
            exact Good.value (v := v) (by simp [evaluate, hv1, hv2, applyBinary, Value.asEntity, Value.asString, bind, Except.bind, hf, hl])
              (hsub t' (mem_tagTypes hm het' ht') v hi)

end Cedar.C03
