import CedarVerif.Cedar.PolicySet
/-
C19 model, part 2: how the FFI assembles a policy set (cedar-policy/src/ffi/utils.rs).

Mirrors, function by function,
  * `ffi::Policy::parse(self, id: Option<PolicyId>)`            -> `PolicyDoc.parse`
  * `ffi::Template::parse` / `Template::parse_and_add_to_set`     -> `addTemplateStep`
  * `ffi::StaticPolicySet::parse` (Concatenated | Set | Map)      -> `StaticPolicySet.parse`
      - `PolicySet::from_str` (cedar-policy/src/api.rs; ids `policy{n}` by position in the text, from
        `cst::Policies::with_generated_policyids`, parser/cst_to_ast.rs)                   -> `fromStr`
      - `PolicySet::from_policies` (`set.add(policy)?` one by one, first error aborts)      -> `fromPolicies`
  * `ffi::TemplateLink::parse_and_add_to_set`                     -> `linkStep`
  * `ffi::PolicySet::parse`                                       -> `assembleSteps`, `assemble`
on top of the C08 model of the public `cedar_policy::PolicySet` (`ApiPolicySet.add / addTemplate / link`).

What is abstract (trusted, not modelled here): the text / EST-JSON parsers themselves (C05) and serde's decoding of
the JSON envelope. A document is represented by the parser's verdict on it:
  * a static-policy document = its format + `Option TemplateBody` (`none` = `Policy::parse` / `Policy::from_json`
    fails, which includes "a template was given"); the id the caller passes is *assigned* to the parsed body
    (`parse_policy(id, text)` builds the body with that id; `None` = the default id "policy0" for Cedar text,
    "JSON policy" for EST JSON);
  * a template document = `Option Template` (`none` = parse error, which includes "no slot");
  * a concatenated text = `Option (List ConcatItem)` (`none` = some policy of the text fails to parse/convert:
    `to_policyset` "fails on any error"), items in text order;
  * link values = `Option SlotVals` (`none` = some `EntityUid` fails to parse: "failed to parse link values").
`HashMap` arguments (`Map`, `templates`) are given as the list of their entries in the iteration order the Rust
code happens to see; every statement below holds for every such order.
Imports model files only; total, computable.
-/
namespace Cedar.FfiP

/-- `ffi::Policy` / `ffi::Template`: Cedar text or EST JSON -/
inductive Fmt where
  | cedar | json
deriving Repr, DecidableEq, Inhabited

/-- the id `Policy::parse(None, …)` / `Policy::from_json(None, …)` assigns -/
def Fmt.defaultId : Fmt → String
  | .cedar => "policy0"
  | .json => "JSON policy"

/-- a static-policy document and the parser's verdict on it -/
structure PolicyDoc where
  fmt : Fmt := .cedar
  parsed : Option TemplateBody
deriving Repr, Inhabited

/-- a template document and the parser's verdict on it -/
structure TemplateDoc where
  fmt : Fmt := .cedar
  parsed : Option Template
deriving Repr, Inhabited

/-- one statement of a concatenated policy text, as `to_policy_or_template` classifies it -/
inductive ConcatItem where
  | static (b : TemplateBody)
  | template (t : Template)
deriving Repr, Inhabited

/-- `ffi::StaticPolicySet` -/
inductive StaticPolicySet where
  | concatenated (parsed : Option (List ConcatItem))
  | set (docs : List PolicyDoc)
  | map (entries : List (String × PolicyDoc))
deriving Repr, Inhabited

/-- `ffi::TemplateLink` -/
structure TemplateLink where
  templateId : String
  newId : String
  values : Option SlotVals
deriving Repr, Inhabited

/-- `ffi::PolicySet` -/
structure FfiPolicySet where
  staticPolicies : StaticPolicySet := .set []
  templates : List (String × TemplateDoc) := []
  templateLinks : List TemplateLink := []
deriving Repr, Inhabited

/-- the `miette::Report`s of `ffi::PolicySet::parse`, by origin (messages are not modelled) -/
inductive Err where
  | parsePolicies                               -- "failed to parse policies from string"
  | templateInStatic                            -- "static policy set includes a template"
  | parsePolicy (id : Option String)            -- "failed to parse policy{ with id `id`} from string/JSON"
  | fromPolicies (e : PSError)                  -- the `PolicySetError` of `PolicySet::from_policies`
  | parseTemplate (id : String)                 -- "failed to parse template with id `id` from string/JSON"
  | addTemplate (id : String) (e : PSError)     -- "failed to add template with id `id` to policy set"
  | linkValues                                  -- "failed to parse link values"
  | link (e : PSError)                          -- the `PolicySetError` of `PolicySet::link`
deriving Repr, DecidableEq, Inhabited

/-- `ffi::Policy::parse(self, id)`: the body carries the given id, or the format's default id -/
def PolicyDoc.parse (d : PolicyDoc) (id : Option String) : Except Err TemplateBody :=
  match d.parsed with
  | none => .error (.parsePolicy id)
  | some b => .ok (b.newId (match id with | some i => i | none => d.fmt.defaultId))

/-- `PolicySet::from_policies` continued from `s`: `set.add(policy)?` for each policy, the first error aborts -/
def fromPoliciesFrom (s : ApiPolicySet) : List TemplateBody → Except PSError ApiPolicySet
  | [] => .ok s
  | b :: bs =>
    let r := s.add (linkStaticPolicy b).2
    match r.err with
    | some e => .error e
    | none => fromPoliciesFrom r.ps bs

/-- `PolicySet::from_policies` -/
def fromPolicies (bs : List TemplateBody) : Except PSError ApiPolicySet := fromPoliciesFrom {} bs

/-- the `.map(parse).filter_map(|r| r.map_err(|e| errs.push(e)).ok())` pipeline of the `Set` / `Map` arms:
parsed bodies and errors, both in input order -/
def parseDocs : List (Option String × PolicyDoc) → List TemplateBody × List Err
  | [] => ([], [])
  | (id, d) :: rest =>
    let (bs, es) := parseDocs rest
    match d.parse id with
    | .ok b => (b :: bs, es)
    | .error e => (bs, e :: es)

/-- the ids `with_generated_policyids` gives the statements of a text: `policy{n}`, n = position -/
def numbered : Nat → List ConcatItem → List ConcatItem
  | _, [] => []
  | n, .static b :: rest => .static (b.newId s!"policy{n}") :: numbered (n + 1) rest
  | n, .template t :: rest => .template (t.newId s!"policy{n}") :: numbered (n + 1) rest

def ConcatItem.isTemplate : ConcatItem → Bool
  | .template _ => true
  | .static _ => false

def staticBodies : List ConcatItem → List TemplateBody
  | [] => []
  | .static b :: rest => b :: staticBodies rest
  | .template _ :: rest => staticBodies rest

/-- `StaticPolicySet::parse`, arm `Concatenated`: `PolicySet::from_str`, then the check
`policies.templates().count() > 0`. `from_str` numbers every statement (templates included) by position; a set that
contains a template is refused, so only the all-static case builds a set: the statements are added in text order
(core `add_static`, which on the sets reachable here is the API's `add`: C08 `api_add_is_add_static`).
A failing add (impossible: the generated ids are distinct) is a `DuplicatePolicyId` parse error of `from_str`. -/
def fromStr (items : List ConcatItem) : Except (List Err) ApiPolicySet :=
  let its := numbered 0 items
  if its.any ConcatItem.isTemplate then .error [.templateInStatic]
  else match fromPolicies (staticBodies its) with
    | .ok s => .ok s
    | .error _ => .error [.parsePolicies]

/-- `ffi::StaticPolicySet::parse` -/
def StaticPolicySet.parse : StaticPolicySet → Except (List Err) ApiPolicySet
  | .concatenated none => .error [.parsePolicies]
  | .concatenated (some items) => fromStr items
  | .set docs =>
    let (bs, errs) := parseDocs (docs.map (fun d => (none, d)))
    if errs.isEmpty then
      match fromPolicies bs with
      | .ok s => .ok s
      | .error e => .error [.fromPolicies e]
    else .error errs
  | .map entries =>
    let (bs, errs) := parseDocs (entries.map (fun e => (some e.1, e.2)))
    if errs.isEmpty then
      match fromPolicies bs with
      | .ok s => .ok s
      | .error e => .error [.fromPolicies e]
    else .error errs

/-- one iteration of `self.templates.into_iter().for_each(…)`: `Template::parse_and_add_to_set(Some(id), &mut policies)`
with `.unwrap_or_else(|e| errs.push(e))` -/
def addTemplateStep (acc : ApiPolicySet × List Err) (e : String × TemplateDoc) : ApiPolicySet × List Err :=
  match e.2.parsed with
  | none => (acc.1, acc.2 ++ [.parseTemplate e.1])
  | some t =>
    let r := acc.1.addTemplate (t.newId e.1)
    match r.err with
    | some er => (r.ps, acc.2 ++ [.addTemplate e.1 er])
    | none => (r.ps, acc.2)

/-- one iteration of `self.template_links.into_iter().for_each(…)`: `TemplateLink::parse_and_add_to_set` -/
def linkStep (acc : ApiPolicySet × List Err) (l : TemplateLink) : ApiPolicySet × List Err :=
  match l.values with
  | none => (acc.1, acc.2 ++ [.linkValues])
  | some v =>
    let r := acc.1.link l.templateId l.newId v
    match r.err with
    | some er => (r.ps, acc.2 ++ [.link er])
    | none => (r.ps, acc.2)

/-- `ffi::PolicySet::parse` up to its last `if`: the set built and the errors collected.
A failing static part contributes its errors and the EMPTY set (`unwrap_or_else(|e| { errs.append(e); PolicySet::new() })`);
templates and links are still processed (and may produce follow-up errors). -/
def assembleSteps (f : FfiPolicySet) : ApiPolicySet × List Err :=
  let start : ApiPolicySet × List Err :=
    match f.staticPolicies.parse with
    | .ok s => (s, [])
    | .error es => ({}, es)
  let afterTemplates := f.templates.foldl addTemplateStep start
  f.templateLinks.foldl linkStep afterTemplates

/-- `ffi::PolicySet::parse` -/
def assemble (f : FfiPolicySet) : Except (List Err) ApiPolicySet :=
  let r := assembleSteps f
  if r.2.isEmpty then .ok r.1 else .error r.2

/-- the ids the static part is given (whether or not the documents parse) -/
def staticIds : StaticPolicySet → List String
  | .concatenated none => []
  | .concatenated (some items) => (List.range items.length).map (fun n => s!"policy{n}")
  | .set docs => docs.map (fun d => d.fmt.defaultId)
  | .map entries => entries.map (·.1)

def FfiPolicySet.templateIds (f : FfiPolicySet) : List String := f.templates.map (·.1)
def FfiPolicySet.linkIds (f : FfiPolicySet) : List String := f.templateLinks.map (·.newId)

end Cedar.FfiP
