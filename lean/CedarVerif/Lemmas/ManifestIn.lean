import CedarVerif.Lemmas.ManifestSound
/-
The `in` operator — the ancestors trie attached to the left operand's paths requests the
entities the right operand denotes, so the sliced store answers `in` like the full store.
-/
namespace Cedar.Manifest
open Cedar

def memTargets : Value → List EntityUID
  | .prim (.entityUID u) => [u]
  | .set vs => entityElems vs
  | _ => []

theorem anc_walk (m : Entities) (x : EntityUID) (anc : RootAccessTrie) (e : Bool) : ∀ (fs : List String) (v0 v : Value),
    walk m v0 fs = some v → x ∈ memTargets v → x ∈ ancValue m (pathTrie fs (.mk [] anc true e)) v0
  | [], v0, v, h, hx => by
    simp only [walk, Option.some.injEq] at h
    subst h
    cases v0 with
    | prim p =>
      cases p with
      | entityUID u =>
        simp only [memTargets, List.mem_singleton] at hx
        subst hx
        simp [pathTrie, ancValue]
      | bool b => simp [memTargets] at hx
      | int n => simp [memTargets] at hx
      | string s => simp [memTargets] at hx
    | set vs => simpa [pathTrie, ancValue, memTargets] using hx
    | record kvs => simp [memTargets] at hx
    | ext y => simp [memTargets] at hx
  | f :: fs, v0, v, h, hx => by
    simp only [walk] at h
    cases hs : stepV m v0 f with
    | none => simp [hs] at h
    | some w =>
      simp only [hs] at h
      have ih := anc_walk m x anc e fs w v h hx
      rcases stepV_some hs with ⟨kvs, rfl, hl⟩ | ⟨u, d, rfl, hf, hl⟩
      · simp only [pathTrie, ancValue, ancFields, hl, List.mem_append]
        left; exact ih
      · simp only [pathTrie, ancValue, hf, ancFields, hl, List.mem_append]
        right; left; exact ih

theorem anc_mono_addWrapped (m : Entities) (req : Request) (x : EntityUID) (i : Bool) (anc : RootAccessTrie) :
    ∀ (p : WPaths) (g : RootAccessTrie), x ∈ ancRequest m req g → x ∈ ancRequest m req (addWrapped g i anc p) := fun p g =>
  ancRequest_sub m m (.refl m) req x _ _ (rootsSub_addWrapped i anc p g g (rootsSub_refl g))

theorem anc_mono_addWrappedKVs (m : Entities) (req : Request) (x : EntityUID) (i : Bool) (anc : RootAccessTrie) :
    ∀ (kvs : List (String × WPaths)) (g : RootAccessTrie), x ∈ ancRequest m req g → x ∈ ancRequest m req (addWrappedKVs g i anc kvs) :=
  fun kvs g => ancRequest_sub m m (.refl m) req x _ _ (rootsSub_addWrappedKVs i anc kvs g g (rootsSub_refl g))

theorem inE_sliced {es es' : Entities} {req : Request} (hsub : SubStore es es') (hctx : CtxWF req) (ancT : RootAccessTrie)
    (u1 x : EntityUID) (hx : x ∈ ancRequest es' req ancT) :
    ∀ (P : WPaths), PCover es es' req P (.prim (.entityUID u1)) (.prim (.entityUID u1)) →
      PathsCov es es' req false ancT P → inE es' u1 x = inE es u1 x
  | .path root fs, hp, hcov => by
    simp only [PathsCov, toRootTrieWithLeaf] at hcov
    simp only [inE]
    cases hf : es.find? u1 with
    | none =>
      have : es'.find? u1 = none := by
        cases hf' : es'.find? u1 with
        | none => rfl
        | some d' =>
          obtain ⟨d, hd, _⟩ := hsub u1 d' hf'
          rw [hf] at hd; cases hd
      simp [this]
    | some d =>
      by_cases hnew : (pathTrie fs (AccessTrie.mk [] ancT false false)).isNew = true
      · -- nothing requested: then the ancestors trie is empty and offers no `x`
        exfalso
        cases fs with
        | nil =>
          simp only [pathTrie, AccessTrie.isNew, Bool.and_eq_true, List.isEmpty_iff] at hnew
          have : ancT = [] := hnew.1.1.2
          subst this
          simp [ancRequest] at hx
        | cons f fs => simp [pathTrie, AccessTrie.isNew] at hnew
      · simp only [hnew, Bool.false_eq_true, if_false, CoverRoots] at hcov
        obtain ⟨hleaf, _⟩ := cover_walk_leaf hsub (.mk [] ancT false false) fs _ _ _ _ hcov.1
          (trim_rootVal hctx root) hp.1 hp.2
        simp only [CoverV] at hleaf
        obtain ⟨d', h1, _, h3⟩ := hleaf.2 d hf
        obtain ⟨d0, hd0, _, hanc⟩ := hsub u1 d' h1
        rw [hf] at hd0; cases hd0
        simp only [h1]
        congr 1
        cases hc : d.ancestors.contains x with
        | true =>
          have : x ∈ d'.ancestors := h3 x hx (by simpa using hc)
          simpa using this
        | false =>
          cases hc' : d'.ancestors.contains x with
          | false => rfl
          | true =>
            have : x ∈ d.ancestors := hanc x (by simpa using hc')
            have : d.ancestors.contains x = true := by simpa using this
            rw [hc] at this; cases this
  | .union a b, hp, hcov => by
    simp only [PathsCov] at hcov
    rcases hp with hp | hp
    · exact inE_sliced hsub hctx ancT u1 x hx a hp hcov.1
    · exact inE_sliced hsub hctx ancT u1 x hx b hp hcov.2
  | .empty, hp, _ => by simp [PCover, Scalar] at hp
  | .record kvs, hp, _ => by simp [PCover] at hp
  | .set el, hp, _ => by simp [PCover] at hp

theorem asEntityList_mem : ∀ (vs : List Value) (us : List EntityUID), asEntityList vs = .ok us → ∀ x, x ∈ us → x ∈ entityElems vs
  | [], us, h, x, hx => by
    simp only [asEntityList, Except.ok.injEq] at h
    subst h; simp at hx
  | v :: vs, us, h, x, hx => by
    simp only [asEntityList, bind, Except.bind] at h
    cases hv : v.asEntity with
    | error e => simp [hv] at h
    | ok u =>
      simp only [hv] at h
      cases hr : asEntityList vs with
      | error e => simp [hr] at h
      | ok us' =>
        simp only [hr, Except.ok.injEq] at h
        subst h
        obtain rfl := asEntity_ok hv
        simp only [List.mem_cons] at hx
        simp only [entityElems, List.mem_cons]
        exact hx.imp id (asEntityList_mem vs us' hr x)

theorem any_congr_mem {α} (f g : α → Bool) : ∀ (l : List α), (∀ x, x ∈ l → f x = g x) → l.any f = l.any g
  | [], _ => rfl
  | a :: l, h => by
    simp only [List.any_cons, h a (by simp), any_congr_mem f g l (fun x hx => h x (by simp [hx]))]

theorem applyMem_sliced (es es' : Entities) (v1 v2 : Value)
    (h : ∀ u1 x, v1 = .prim (.entityUID u1) → x ∈ memTargets v2 → inE es' u1 x = inE es u1 x) :
    applyBinary es' .mem v1 v2 = applyBinary es .mem v1 v2 := by
  simp only [applyBinary]
  cases hv : v1.asEntity with
  | error e => rfl
  | ok u1 =>
    have e1 := asEntity_ok hv
    simp only [bind, Except.bind]
    cases v2 with
    | prim p =>
      cases p with
      | entityUID u2 =>
        simp only
        rw [h u1 u2 e1 (by simp [memTargets])]
      | bool b => rfl
      | int n => rfl
      | string s => rfl
    | set vs =>
      simp only
      cases hr : asEntityList vs with
      | error e => rfl
      | ok us =>
        simp only
        rw [any_congr_mem (fun x => inE es' u1 x) (fun x => inE es u1 x) us
          (fun x hx => h u1 x e1 (by simpa [memTargets] using asEntityList_mem vs us hr x hx))]
    | record kvs => rfl
    | ext y => rfl

end Cedar.Manifest
