import CedarVerif.Cedar.NoPanic.Unescape
/-
What a safe slice is, for every slicing site of the C20 mirrors: the end of a char-prefix is in bounds and on a char boundary,
so a range cut out by a decomposition `pre ++ mid ++ post` yields `mid` (`GoodRange`); conversely a char boundary is the byte
length of a char-prefix, and two prefixes of one string are comparable.  Also the `find` of `contains_at_least_two`.
-/
namespace Cedar
namespace NoPanic
open Cedar.Ext.IPAddr (utf8Len)

theorem ite_of {α : Sort _} {P : α → Prop} {p : Prop} [Decidable p] {a b : α} (ha : P a) (hb : P b) :
    P (if p then a else b) := by
  split <;> assumption

theorem utf8Len_pos (c : Char) : 0 < utf8Len c := by
  unfold utf8Len
  exact ite_of Nat.one_pos (ite_of (by decide) (ite_of (by decide) (by decide)))

theorem bytes_append : ∀ (a b : List Char), bytes (a ++ b) = bytes a + bytes b
  | [], b => (Nat.zero_add _).symm
  | x :: a, b => by rw [List.cons_append, bytes, bytes, bytes_append a b, Nat.add_assoc]

theorem sliceFrom_zero (s : List Char) : sliceFrom s 0 = some s := by
  cases s <;> rfl

theorem sliceFrom_cons_add (x : Char) (xs : List Char) (n : Nat) :
    sliceFrom (x :: xs) (utf8Len x + n) = sliceFrom xs n := by
  obtain ⟨k, hk⟩ := Nat.exists_eq_add_one_of_ne_zero (Nat.ne_of_gt (utf8Len_pos x))
  have e : utf8Len x + n = (k + n) + 1 := by rw [hk, Nat.add_right_comm]
  rw [e, sliceFrom, if_neg (by rw [hk]; exact Nat.not_lt.mpr (Nat.succ_le_succ (Nat.le_add_right k n))), ← e,
    Nat.add_sub_cancel_left]

/-- `&(p ++ r)[bytes p ..] = r`: the end of a char-prefix is a char boundary -/
theorem sliceFrom_prefix : ∀ (p r : List Char), sliceFrom (p ++ r) (bytes p) = some r
  | [], r => sliceFrom_zero r
  | x :: p, r => by rw [List.cons_append, bytes, sliceFrom_cons_add]; exact sliceFrom_prefix p r

theorem find_some : ∀ (s : List Char) (c : Char) (i : Nat), find c s = some i →
    ∃ p r, s = p ++ c :: r ∧ i = bytes p ∧ c ∉ p
  | [], c, i, h => by simp [find] at h
  | x :: xs, c, i, h => by
    unfold find at h
    by_cases hx : (x == c) = true
    · rw [if_pos hx] at h
      have : x = c := by simpa using hx
      subst this
      refine ⟨[], xs, rfl, ?_, by simp⟩
      simpa [bytes] using (Option.some.inj h).symm
    · rw [if_neg hx] at h
      cases hf : find c xs with
      | none => rw [hf] at h; simp at h
      | some j =>
        rw [hf] at h
        obtain ⟨p, r, hs, hj, hp⟩ := find_some xs c j hf
        refine ⟨x :: p, r, by rw [hs]; rfl, ?_, ?_⟩
        · simp only [Option.map_some, Option.some.injEq] at h
          simp only [bytes]; omega
        · intro hmem
          rcases List.mem_cons.mp hmem with h1 | h1
          · exact hx (by simp [h1])
          · exact hp h1

theorem find_isSome_iff (c : Char) : ∀ (s : List Char), (find c s).isSome = s.contains c
  | [] => by simp [find]
  | x :: xs => by
    unfold find
    by_cases hx : (x == c) = true
    · have : x = c := by simpa using hx
      subst this
      simp
    · rw [if_neg hx]
      have hne : ¬ (x = c) := by simpa using hx
      simp [find_isSome_iff c xs]
      intro h; exact absurd h.symm hne

theorem find_isSome_count (c : Char) (s : List Char) : (find c s).isSome = decide (0 < s.count c) := by
  rw [find_isSome_iff, Bool.eq_iff_iff, List.contains_iff_mem, decide_eq_true_eq, List.count_pos_iff]

/-- the slice in `contains_at_least_two` is always `Some`: in bounds and on a char boundary -/
theorem slice_after_find (s : List Char) (c : Char) (i : Nat) (h : find c s = some i) :
    ∃ p r, s = p ++ c :: r ∧ c ∉ p ∧ sliceFrom s (i + utf8Len c) = some r := by
  obtain ⟨p, r, rfl, rfl, hp⟩ := find_some s c i h
  refine ⟨p, r, rfl, hp, ?_⟩
  have := sliceFrom_prefix (p ++ [c]) r
  rwa [bytes_append, List.append_assoc] at this

theorem sliceTo_cons_add (x : Char) (xs : List Char) (n : Nat) :
    sliceTo (x :: xs) (utf8Len x + n) = (sliceTo xs n).map (x :: ·) := by
  obtain ⟨k, hk⟩ := Nat.exists_eq_add_one_of_ne_zero (Nat.ne_of_gt (utf8Len_pos x))
  have e : utf8Len x + n = (k + n) + 1 := by rw [hk, Nat.add_right_comm]
  rw [e, sliceTo, if_neg (by rw [hk]; exact Nat.not_lt.mpr (Nat.succ_le_succ (Nat.le_add_right k n))), ← e,
    Nat.add_sub_cancel_left]

theorem sliceTo_prefix : ∀ (m r : List Char), sliceTo (m ++ r) (bytes m) = some m
  | [], r => by cases r <;> rfl
  | x :: m, r => by rw [List.cons_append, bytes, sliceTo_cons_add, sliceTo_prefix m r]; rfl

theorem sliceRange_decomp (pre mid post : List Char) :
    sliceRange (pre ++ mid ++ post) (bytes pre) (bytes pre + bytes mid) = some mid := by
  rw [sliceRange, if_pos (Nat.le_add_right _ _), List.append_assoc, sliceFrom_prefix, Option.bind_some,
    Nat.add_sub_cancel_left, sliceTo_prefix]

/-- a range cut out by a decomposition of the string -/
def GoodRange (src : List Char) (a b : Nat) : Prop :=
  ∃ pre mid post, src = pre ++ mid ++ post ∧ a = bytes pre ∧ b = bytes pre + bytes mid

theorem GoodRange.slice {src : List Char} {a b : Nat} (h : GoodRange src a b) :
    ∃ mid, sliceRange src a b = some mid ∧ byteRangeOk src a b = true := by
  obtain ⟨pre, mid, post, rfl, rfl, rfl⟩ := h
  exact ⟨mid, sliceRange_decomp pre mid post, by simp [byteRangeOk, bytes_append]⟩

theorem suffix_bytes {a b : List Char} (h : a <:+ b) : bytes a ≤ bytes b := by
  obtain ⟨t, rfl⟩ := h
  rw [bytes_append]; omega

theorem takeWhile_slice (p : Char → Bool) (l : List Char) :
    sliceFrom l (bytes (l.takeWhile p)) = some (l.dropWhile p) := by
  have := sliceFrom_prefix (l.takeWhile p) (l.dropWhile p)
  rwa [List.takeWhile_append_dropWhile] at this

theorem bytes_eq_zero : ∀ (s : List Char), bytes s = 0 → s = []
  | [], _ => rfl
  | x :: xs, h => by have := utf8Len_pos x; simp only [bytes] at h; omega

theorem boundary_decomp : ∀ (s : List Char) (a : Nat) (r : List Char), sliceFrom s a = some r →
    ∃ pre, s = pre ++ r ∧ a = bytes pre
  | s, 0, r, h => by
    rw [sliceFrom_zero] at h
    exact ⟨[], by simpa using (Option.some.inj h), rfl⟩
  | [], k + 1, r, h => by simp [sliceFrom] at h
  | x :: xs, k + 1, r, h => by
    simp only [sliceFrom] at h
    by_cases hlt : k + 1 < utf8Len x
    · rw [if_pos hlt] at h; cases h
    · rw [if_neg hlt] at h
      obtain ⟨pre, hs, hb⟩ := boundary_decomp xs _ r h
      exact ⟨x :: pre, by rw [hs]; rfl, by simp only [bytes]; omega⟩

theorem prefix_of_le : ∀ (p r p' r' : List Char), p ++ r = p' ++ r' → bytes p ≤ bytes p' → ∃ mid, p' = p ++ mid
  | [], _, p', _, _, _ => ⟨p', rfl⟩
  | x :: p, r, [], r', _, hb => by have := utf8Len_pos x; simp only [bytes] at hb; omega
  | x :: p, r, y :: p', r', he, hb => by
    simp only [List.cons_append, List.cons.injEq] at he
    obtain ⟨rfl, he⟩ := he
    simp only [bytes] at hb
    obtain ⟨mid, hm⟩ := prefix_of_le p r p' r' he (by omega)
    exact ⟨mid, by rw [hm]; rfl⟩

end NoPanic
end Cedar
