import CedarVerif.Lemmas.PolicySetHist
/-
What a call of the core policy set does, at the level of lookups: a successful call changes `templates.get?` and
`links.get?` at ONE key (`CoreOp.key`), from what `CoreOp.ok` says it found there to what `CoreOp.stores` says it leaves
there (`applyOp_editAt`, `applyOp_ok_iff`). Every invariant that speaks of the two lookups key by key is therefore kept
as soon as it holds of what is stored (`applyOp_pointwise`); only `WF`, which also speaks of `t2l`, needs more.
-/
namespace Cedar
open LHM

structure PolicySet.EditAt (ps ps' : PolicySet) (id : String) (T : Option Template) (L : Option TPolicy) : Prop where
  templates : ∀ k, ps'.templates.get? k = if k = id then T else ps.templates.get? k
  links : ∀ k, ps'.links.get? k = if k = id then L else ps.links.get? k

def CoreOp.key : CoreOp → String
  | .addStatic b => b.id
  | .addTemplate t => t.id
  | .link _ newId _ => newId
  | .unlink id => id
  | .removeStatic id => id
  | .removeTemplate id => id

def CoreOp.stores (ps : PolicySet) : CoreOp → Option Template × Option TPolicy
  | .addStatic b => (some (linkStaticPolicy b).1, some (linkStaticPolicy b).2)
  | .addTemplate t => (some t, none)
  | .link tid newId vals =>
    (none, (ps.templates.get? tid).map fun t => { template := t, link := some newId, values := vals })
  | _ => (none, none)

def CoreOp.ok (ps : PolicySet) : CoreOp → Prop
  | .addStatic b => ps.templates.get? b.id = none ∧ ps.links.get? b.id = none
  | .addTemplate t => ps.templates.get? t.id = none ∧ ps.links.get? t.id = none
  | .link tid newId vals => ps.templates.get? newId = none ∧ ps.links.get? newId = none ∧
      ∃ t, ps.templates.get? tid = some t ∧ t.checkBinding vals = true
  | .unlink id => ps.templates.get? id = none ∧ (ps.links.get? id).isSome = true
  | .removeStatic id => (ps.templates.get? id).isSome = true ∧ (ps.links.get? id).isSome = true
  | .removeTemplate id => (ps.templates.get? id).isSome = true ∧ ps.links.get? id = none ∧ ps.t2l.get? id = some []

theorem PolicySet.applyOp_editAt (ps : PolicySet) (op : CoreOp) (h : (ps.applyOp op).err = none) :
    op.ok ps ∧ ps.EditAt (ps.applyOp op).ps op.key (op.stores ps).1 (op.stores ps).2 := by
  cases op with
  | addStatic b =>
    obtain ⟨ht, hl, heq⟩ := PolicySet.addStatic_ok ps b h
    exact ⟨⟨ht, hl⟩, heq ▸ ⟨get?_snoc_absent _ _ _ ht, get?_snoc_absent _ _ _ hl⟩⟩
  | addTemplate t =>
    obtain ⟨ht, hl, heq⟩ := PolicySet.addTemplate_ok ps t h
    exact ⟨⟨ht, hl⟩, heq ▸ ⟨get?_snoc_absent _ _ _ ht, get?_eq_ite_self _ _ hl⟩⟩
  | link tid newId vals =>
    obtain ⟨t, ht, hb, hl, hnt, heq⟩ := PolicySet.link_ok ps tid newId vals h
    refine ⟨⟨hnt, hl, t, ht, hb⟩, heq ▸ ⟨get?_eq_ite_self _ _ hnt, ?_⟩⟩
    show ∀ k, LHM.get? (ps.links ++ _) k = if k = newId then (ps.templates.get? tid).map _ else _
    rw [ht]
    exact get?_snoc_absent _ _ _ hl
  | unlink id =>
    obtain ⟨hnt, p, hp, heq⟩ := PolicySet.unlink_ok ps id h
    exact ⟨⟨hnt, by rw [hp]; rfl⟩, heq ▸ ⟨get?_eq_ite_self _ _ hnt, get?_erase _ _⟩⟩
  | removeStatic id =>
    obtain ⟨ht, p, hp, heq⟩ := PolicySet.removeStatic_ok ps id h
    exact ⟨⟨ht, by rw [hp]; rfl⟩, heq ▸ ⟨get?_erase _ _, get?_erase _ _⟩⟩
  | removeTemplate id =>
    obtain ⟨hl, hs, ht, heq⟩ := PolicySet.removeTemplate_ok ps id h
    exact ⟨⟨ht, hl, hs⟩, heq ▸ ⟨get?_erase _ _, get?_eq_ite_self _ _ hl⟩⟩

theorem PolicySet.addStatic_err_none {ps : PolicySet} {b : TemplateBody} (ok : (CoreOp.addStatic b).ok ps) :
    (ps.addStatic b).err = none := by
  simp only [PolicySet.addStatic, linkStaticPolicy, Template.id, (contains_false _ _).mpr ok.1, (contains_false _ _).mpr ok.2,
    Bool.false_eq_true, if_false]

/-- `WF` is needed for `unlink` only: the link it removes has a link set -/
theorem PolicySet.applyOp_ok_iff (ps : PolicySet) (op : CoreOp) (wf : ps.WF) :
    (ps.applyOp op).err = none ↔ op.ok ps := by
  refine ⟨fun h => (PolicySet.applyOp_editAt ps op h).1, fun ok => ?_⟩
  have c : ∀ {α} {m : LHM α} {k}, m.get? k = none → m.contains k = false := fun h => (contains_false _ _).mpr h
  cases op with
  | addStatic b => exact PolicySet.addStatic_err_none ok
  | addTemplate t =>
    show (ps.addTemplate t).err = none
    simp only [PolicySet.addTemplate, c ok.1, c ok.2, Bool.false_eq_true, if_false]
  | link tid newId vals =>
    obtain ⟨hnt, hl, t, ht, hb⟩ := ok
    show (ps.link tid newId vals).err = none
    simp only [PolicySet.link, Template.link, ht, hb, c hnt, c hl, if_true, Bool.false_eq_true, if_false]
  | unlink id =>
    obtain ⟨hnt, hl⟩ := ok
    obtain ⟨p, hp⟩ := Option.isSome_iff_exists.mp hl
    have hm : ps.t2l.contains p.template.id = true := by
      rw [contains_eq, wf.mKeys, wf.lTemplate id p hp]; rfl
    show (ps.unlink id).err = none
    simp only [PolicySet.unlink, c hnt, hp, hm, Bool.false_eq_true, if_false, if_true]
  | removeStatic id =>
    obtain ⟨t, ht⟩ := Option.isSome_iff_exists.mp ok.1
    obtain ⟨p, hp⟩ := Option.isSome_iff_exists.mp ok.2
    show (ps.removeStatic id).err = none
    simp only [PolicySet.removeStatic, hp, ht]
  | removeTemplate id =>
    obtain ⟨ht, hl, hs⟩ := ok
    obtain ⟨t, ht⟩ := Option.isSome_iff_exists.mp ht
    show (ps.removeTemplate id).err = none
    simp only [PolicySet.removeTemplate, c hl, hs, ht, Bool.false_eq_true, if_false, List.isEmpty_nil, Bool.not_true]

theorem PolicySet.applyOp_pointwise (ps : PolicySet) (op : CoreOp) (wf : ps.WF)
    (P : Option Template → Option TPolicy → Prop) (h : ∀ k, P (ps.templates.get? k) (ps.links.get? k))
    (hid : op.ok ps → P (op.stores ps).1 (op.stores ps).2) (k : String) :
    P ((ps.applyOp op).ps.templates.get? k) ((ps.applyOp op).ps.links.get? k) := by
  cases herr : (ps.applyOp op).err with
  | some e =>
    obtain ⟨h1, _, h3, _⟩ := core_fail_frame ps op wf e herr
    rw [h1, h3]; exact h k
  | none =>
    obtain ⟨ok, e⟩ := PolicySet.applyOp_editAt ps op herr
    rw [e.templates, e.links]
    by_cases hk : k = op.key
    · rw [if_pos hk, if_pos hk]; exact hid ok
    · rw [if_neg hk, if_neg hk]; exact h k

end Cedar
