import CedarVerif.Lemmas.EstTrees
import CedarVerif.Lemmas.EstPolicy
import CedarVerif.Lemmas.Assoc
/-
Round trips through the PST and protobuf tree models of Lemmas/EstTreesPolicyDefs.lean, policy level (templates, static /
linked policies, link records, policy sets).
-/
namespace Cedar.Pst
open Cedar Cedar.Est

theorem toRef_ofRef (slot : SlotId) (r : EntityRef) : toRef slot (ofRef slot r) = .ok r := by
  cases r <;> simp [ofRef, toRef]

theorem toScope_ofScope (slot : SlotId) (c : ScopeC) : toScope slot (ofScope slot c) = .ok c := by
  cases c <;> simp [ofScope, toScope, toRef_ofRef, Except.map]

theorem toAction_ofAction (a : ActionC) (h : WFAction a) : toAction (ofAction a) = .ok a := by
  cases a <;> exact checkActions_ok _ h

theorem toAnnotations_ok (anns : List (String × String)) (hk : ∀ kv ∈ anns, validAnyId kv.1 = true)
    (hs : SortedKeys anns) : toAnnotations anns = .ok anns := by
  simp [toAnnotations, List.all_eq_true.mpr hk, sortKVs_sorted anns hs]

/-- the template `ofTemplate` writes where it succeeds: the total translation, the condition as one `when` clause -/
def ofTemplateT (t : Template) : PTemplate :=
  { effect := t.effect, principal := ofScope .principal t.principal, action := ofAction t.action,
    resource := ofScope .resource t.resource, annotations := t.annotations
    clauses := match t.cond with
      | none => []
      | some e => [.when (ofAstT e)] }

theorem ofTemplate_ok_iff (t : Template) (m : PTemplate) :
    ofTemplate t = .ok m ↔ ofTemplateT t = m ∧ ∀ e, t.cond = some e →
      (ofAstT e).hasBad = false ∧ (ofAstT e).hasSlot = false ∧ (ofAstT e).hasUnknown = false := by
  obtain ⟨eff, p, a, r, anns, c⟩ := t
  cases c with
  | none => simp [ofTemplate, ofCond, validateClauses, ofTemplateT, bind, Except.bind]
  | some e =>
    cases hb : (ofAstT e).hasBad <;> cases hs : (ofAstT e).hasSlot <;> cases hu : (ofAstT e).hasUnknown <;>
      simp [ofTemplate, ofCond, ofAst, validateClauses, validateClause, Clause.body, ofTemplateT, hb, hs, hu, bind,
        Except.bind]

theorem toTemplate_ofTemplateT (t : Template) (h : WFT t) : toTemplate (ofTemplateT t) = .ok t := by
  have hc : foldConds ((ofTemplateT t).clauses.map clauseExpr) = t.cond := by
    cases hc : t.cond with
    | none => simp [ofTemplateT, hc, foldConds]
    | some e => simp [ofTemplateT, hc, clauseExpr, foldConds, toAst_ofAstT e (h.cond e hc).1]
  rw [toTemplate, hc]
  simp [ofTemplateT, toAnnotations_ok t.annotations h.annKeys h.annSorted, toScope_ofScope,
    toAction_ofAction t.action h.action, bind, Except.bind]

theorem toTemplate_cond (m : PTemplate) (t : Template) (h : toTemplate m = .ok t) :
    t.cond = foldConds (m.clauses.map clauseExpr) := by
  simp only [toTemplate, bind, Except.bind] at h
  split at h <;> try cases h
  split at h <;> try cases h
  split at h <;> try cases h
  split at h <;> cases h
  rfl

theorem hasSlot_ofScope (slot : SlotId) (c : ScopeC) : (ofScope slot c).hasSlot = c.hasSlot := by
  rcases c with _ | r | r | _ | ⟨_, r⟩ <;> first | rfl | (cases r <;> rfl)

theorem isStatic_ofTemplateT (t : Template) : (ofTemplateT t).isStatic = (t.slots == []) := by
  simp only [PTemplate.isStatic, ofTemplateT, hasSlot_ofScope, Template.slots]
  cases t.principal.hasSlot <;> cases t.resource.hasSlot <;> rfl

/-- the `ast::Policy` invariant the round trip needs: a static policy has no link id and no slot values -/
def StaticInv (p : AstPolicy) : Prop := p.template.slots = [] → p.link = none ∧ p.env = []

theorem toLink_ofLink (l : Linked) : toLink (ofLink l) = l := rfl

/-- a source clause: `true` = `when`, `false` = `unless`, and its body -/
abbrev SrcClause := Bool × Expr

def SrcClause.denote : SrcClause → Expr
  | (true, e) => e
  | (false, e) => .unaryApp .not e

/-- the member of the JSON `conditions` array (`est::Clause`, `Serialize`) -/
def SrcClause.json : SrcClause → Json
  | (w, e) => .obj [("kind", .str (if w then "when" else "unless")), ("body", ofExpr e)]

def SrcClause.pst : SrcClause → Clause
  | (true, e) => .when (ofAstT e)
  | (false, e) => .unless (ofAstT e)

theorem readClauses_srcJson : (cs : List SrcClause) → (∀ c ∈ cs, WF c.2 ∧ exprHasSlot c.2 = false) →
    readClauses (cs.map SrcClause.json) = .ok (cs.map SrcClause.denote)
  | [], _ => rfl
  | (w, e) :: rest, h => by
    have he := h _ (.head _)
    have ih := readClauses_srcJson rest fun c hc => h c (.tail _ hc)
    simp only [List.map_cons, readClauses, SrcClause.json, readClause_clauseJson w e he.1 he.2, ih, bind, Except.bind]
    cases w <;> rfl

theorem clauseExpr_srcPst (cs : List SrcClause) (h : ∀ c ∈ cs, WF c.2) :
    (cs.map SrcClause.pst).map clauseExpr = cs.map SrcClause.denote := by
  rw [List.map_map]
  refine List.map_congr_left fun c hc => ?_
  obtain ⟨w, e⟩ := c
  cases w <;> simp [SrcClause.pst, SrcClause.denote, clauseExpr, toAst_ofAstT e (h _ hc)]

end Cedar.Pst

namespace Cedar.Proto
open Cedar Cedar.Est

theorem toUid_ok (u : EntityUID) (h : validName u.ty = true) : toUid u = .ok u := by
  simp [toUid, uidOf, h]

theorem toRef_ofRef (r : EntityRef) (h : WFRef r) : toRef (ofRef r) = .ok r := by
  cases r with
  | euid u => simp [ofRef, toRef, toUid_ok u h, Except.map]
  | slot => rfl

theorem toScope_ofScope (c : ScopeC) (h : WFScope c) : toScope (ofScope c) = .ok c := by
  cases c with
  | any => rfl
  | eq r | mem r => simp [ofScope, toScope, toRef_ofRef r h, Except.map]
  | is ty => simp [ofScope, toScope, toType, show validName ty = true from h, Except.map]
  | isIn ty r =>
    simp [ofScope, toScope, toType, h.1, toRef_ofRef r h.2, bind, Except.bind]

theorem toUids_ok (us : List EntityUID) (h : ∀ u ∈ us, validName u.ty = true) : toUids us = .ok us := by
  induction us with
  | nil => rfl
  | cons u rest ih =>
    simp [toUids, toUid_ok u (h u (.head _)), ih fun v hv => h v (.tail _ hv), bind, Except.bind]

theorem toAction_ofAction (a : ActionC) (h : WFAction a) : toAction (ofAction a) = .ok a := by
  cases a with
  | any => rfl
  | eq u => simp [ofAction, toAction, toUid_ok u (show WFUid u from h).1, Except.map]
  | mem us =>
    simp [ofAction, toAction, toUids_ok us (fun u hu => ((show ∀ u ∈ us, WFUid u from h) u hu).1), Except.map]

theorem toAnnotations_ok (anns : List (String × String)) (hk : ∀ kv ∈ anns, validAnyId kv.1 = true)
    (hs : SortedKeys anns) : toAnnotations anns = .ok anns :=
  -- `Proto.toAnnotations` and `Pst.toAnnotations` are two definitions with the same body
  Pst.toAnnotations_ok anns hk hs

theorem toTemplate_ofTemplate (t : Template) (h : WFT t) :
    ∃ m, ofTemplate t = some m ∧ toTemplate m = .ok t := by
  obtain ⟨eff, p, a, r, anns, c⟩ := t
  have hann := toAnnotations_ok anns h.annKeys h.annSorted
  have hp := toScope_ofScope p h.principal
  have hr := toScope_ofScope r h.resource
  have ha := toAction_ofAction a h.action
  cases c with
  | none => exact ⟨_, rfl, by simp [toTemplate, hann, hp, hr, ha, bind, Except.bind]⟩
  | some e =>
    have hwf := (h.cond e rfl).1
    refine ⟨_, by simp [ofTemplate, ofAst_eq_some e hwf]; rfl, ?_⟩
    simp [toTemplate, hann, hp, hr, ha, toAst_ofAstT e hwf, bind, Except.bind, Except.map]

theorem envGet_eq_assoc (s : SlotId) : ∀ env : SlotEnv, envGet env s = assoc? env s
  | [] => rfl
  | (s', u) :: rest => by rw [envGet, assoc?_cons, envGet_eq_assoc s rest]

theorem tlookup_eq_assoc (k : String) : ∀ ts : List (String × Template), tlookup ts k = assoc? ts k
  | [] => rfl
  | (k', t) :: rest => by rw [tlookup, assoc?_cons, tlookup_eq_assoc k rest]

theorem hasKey_eq_assoc {α} (k : String) : ∀ kvs : List (String × α), hasKey kvs k = (assoc? kvs k).isSome
  | [] => rfl
  | (k', v) :: rest => by
    rw [hasKey, assoc?_cons, hasKey_eq_assoc k rest]
    cases k' == k <;> rfl

theorem envGet_mem (env : SlotEnv) (s : SlotId) (u : EntityUID) (h : envGet env s = some u) : (s, u) ∈ env :=
  mem_of_assoc? (envGet_eq_assoc s env ▸ h)

theorem envGet_canonEnv (env : SlotEnv) (s : SlotId) : envGet (canonEnv env) s = envGet env s := by
  cases s <;> cases hp : envGet env .principal <;> cases hr : envGet env .resource <;>
    simp [canonEnv, hp, hr, envGet]

theorem slotValues_ofPolicy (p : PolicyRef) (h : ∀ b ∈ p.env, validName b.2.ty = true) :
    slotValues (ofPolicy p) = .ok (canonEnv p.env) := by
  have hv : ∀ s u, envGet p.env s = some u → toUid u = .ok u :=
    fun s u hu => toUid_ok u (h (s, u) (envGet_mem p.env s u hu))
  cases hp : envGet p.env .principal <;> cases hr : envGet p.env .resource <;>
    simp [slotValues, ofPolicy, canonEnv, hp, hr, hv .principal, hv .resource, bind, Except.bind, Except.map]

/-- invariants of an `ast::Policy` stored in a policy set with templates `ts`, relative to the ids `seen` so far -/
structure WFPolicyRef (ts : List (String × Template)) (seen : List String) (p : PolicyRef) : Prop where
  /-- `EntityUID`s hold parsed names -/
  names : ∀ b ∈ p.env, validName b.2.ty = true
  /-- the association list representing the `HashMap` lists `?principal` before `?resource`, each at most once -/
  canon : canonEnv p.env = p.env
  /-- the template exists and `check_binding` holds (`Template::link` / `try_as_policy` succeeded) -/
  binding : ∃ t, tlookup ts p.templateId = some t ∧ checkBinding t p.env = true
  staticEnv : p.link = none → p.env = []
  fresh : seen.contains p.id = false
  linkId : ∀ id, p.link = some id → tlookup ts id = none

theorem any_eq_envGet_isSome (env : SlotEnv) (s : SlotId) : env.any (fun b => b.1 == s) = (envGet env s).isSome := by
  rw [envGet_eq_assoc, Bool.eq_iff_iff, assoc?_isSome_iff, List.any_eq_true, List.mem_map]
  exact ⟨fun ⟨b, hb, e⟩ => ⟨b, hb, eq_of_beq e⟩, fun ⟨b, hb, e⟩ => ⟨b, hb, beq_iff_eq.2 e⟩⟩

theorem mem_canonEnv (env : SlotEnv) (b : SlotId × EntityUID) (hb : b ∈ canonEnv env) : envGet env b.1 = some b.2 := by
  cases hp : envGet env .principal <;> cases hr : envGet env .resource <;>
    simp [canonEnv, hp, hr] at hb
  · subst hb; exact hr
  · subst hb; exact hp
  · rcases hb with rfl | rfl
    · exact hp
    · exact hr

theorem checkBinding_canonEnv (t : Template) (env : SlotEnv) (h : checkBinding t env = true) :
    checkBinding t (canonEnv env) = true := by
  simp only [checkBinding, Bool.and_eq_true, List.all_eq_true, beq_iff_eq] at h ⊢
  obtain ⟨⟨hA, hB⟩, _⟩ := h
  refine ⟨⟨?_, ?_⟩, ?_⟩
  · intro s hs
    have := hA s hs
    rw [any_eq_envGet_isSome] at this ⊢
    rwa [envGet_canonEnv]
  · exact fun b hb => hB _ (envGet_mem env b.1 b.2 (mem_canonEnv env b hb))
  · cases hp : envGet env .principal <;> cases hr : envGet env .resource <;>
      simp [canonEnv, hp, hr] <;> decide

theorem toPolicy_ofPolicy_canon (ts : List (String × Template)) (seen : List String) (p : PolicyRef)
    (hn : ∀ b ∈ p.env, validName b.2.ty = true)
    (hb : ∃ t, tlookup ts p.templateId = some t ∧ checkBinding t p.env = true)
    (hs : p.link = none → p.env = [])
    (hf : seen.contains p.id = false)
    (hl : ∀ id, p.link = some id → tlookup ts id = none) :
    toPolicy ts seen (ofPolicy p) = .ok { p with env := canonEnv p.env } := by
  obtain ⟨tid, link, env⟩ := p
  obtain ⟨t, ht, hbt⟩ := hb
  cases link with
  | none =>
    obtain rfl : env = [] := hs rfl
    have hf : seen.contains tid = false := hf
    simp only [toPolicy, ofPolicy, Option.isSome, hf, ht, hbt]
    simp [canonEnv, envGet]
  | some id =>
    have hf : seen.contains id = false := hf
    simp only [toPolicy, Option.isSome, slotValues_ofPolicy _ hn, bind, Except.bind]
    simp only [ofPolicy, hf, hl id rfl, Option.isSome]
    simp [ht, checkBinding_canonEnv t env hbt]

theorem toPolicy_ofPolicy (ts : List (String × Template)) (seen : List String) (p : PolicyRef)
    (h : WFPolicyRef ts seen p) : toPolicy ts seen (ofPolicy p) = .ok p := by
  rw [toPolicy_ofPolicy_canon ts seen p h.names h.binding h.staticEnv h.fresh h.linkId, h.canon]

theorem toTemplates_ofTemplates : (ts acc : List (String × Template)) → (∀ kt ∈ ts, WFT kt.2) →
    noDupKeys ts = true → (∀ kt ∈ ts, tlookup acc kt.1 = none) →
    ∃ ms, ofTemplates ts = some ms ∧ toTemplates acc ms = .ok (acc ++ ts)
  | [], acc, _, _, _ => ⟨[], rfl, by simp [toTemplates]⟩
  | (id, t) :: rest, acc, hwf, hd, hdis => by
    obtain ⟨m, hm, hrt⟩ := toTemplate_ofTemplate t (hwf _ (.head _))
    simp only [noDupKeys, Bool.and_eq_true, Bool.not_eq_true'] at hd
    obtain ⟨ms, hms, hrest⟩ := toTemplates_ofTemplates rest (acc ++ [(id, t)])
      (fun kt hkt => hwf kt (.tail _ hkt)) hd.2 (fun kt hkt => by
        have hid := hd.1
        rw [hasKey_eq_assoc, ← Bool.not_eq_true, assoc?_isSome_iff] at hid
        have hne : ¬ id = kt.1 := fun e => hid (e ▸ List.mem_map_of_mem (f := (·.1)) hkt)
        have := hdis kt (.tail _ hkt)
        rw [tlookup_eq_assoc] at this ⊢
        simp [assoc?_append, this, assoc?_cons, assoc?_nil, hne])
    exact ⟨(id, m) :: ms, by simp [ofTemplates, hm, hms],
      by simp [toTemplates, hrt, hdis _ (.head _), hrest, bind, Except.bind]⟩

def WFLinks (ts : List (String × Template)) : List String → List PolicyRef → Prop
  | _, [] => True
  | seen, p :: rest => WFPolicyRef ts seen p ∧ WFLinks ts (p.id :: seen) rest

theorem toLinks_ofPolicies (ts : List (String × Template)) : (ls : List PolicyRef) → (seen : List String) →
    (acc : List PolicyRef) → WFLinks ts seen ls → toLinks ts seen acc (ls.map ofPolicy) = .ok (acc ++ ls)
  | [], _, _, _ => by simp [toLinks]
  | p :: rest, seen, acc, h => by
    simp [toLinks, toPolicy_ofPolicy ts seen p h.1, toLinks_ofPolicies ts rest (p.id :: seen) (acc ++ [p]) h.2, bind,
      Except.bind]

/-- invariants of an `ast::PolicySet` -/
structure WFSet (s : AstSet) : Prop where
  templates : ∀ kt ∈ s.templates, WFT kt.2
  distinct : noDupKeys s.templates = true
  links : WFLinks s.templates [] s.links

end Cedar.Proto
