import CedarVerif.Cedar.SetRepr
import CedarVerif.Lemmas.Beq
/- Under the `FastRepr` invariant every fast path of `Set` equals the authoritative (slow) path; `allLits?` succeeds exactly on
   lists of literals. -/
namespace Cedar

theorem allLits?_some {vs : List Value} {ps : List Prim} (h : allLits? vs = some ps) :
    vs = ps.map Value.prim := by
  induction vs generalizing ps with
  | nil => simp [allLits?] at h; subst h; rfl
  | cons v vs ih =>
    cases v with
    | prim p =>
      simp only [allLits?, Value.asLit?] at h
      cases hr : allLits? vs with
      | none => simp [hr] at h
      | some qs =>
        simp [hr] at h; subst h
        simp [ih hr]
    | set _ => simp [allLits?, Value.asLit?] at h
    | record _ => simp [allLits?, Value.asLit?] at h
    | ext _ => simp [allLits?, Value.asLit?] at h

theorem allLits_map_prim : ∀ (ps : List Prim), allLits? (ps.map Value.prim) = some ps
  | [] => rfl
  | p :: ps => by simp [allLits?, Value.asLit?, allLits_map_prim ps]

theorem allLits?_none {vs : List Value} (h : allLits? vs = none) : ∃ v, v ∈ vs ∧ ∀ p, v ≠ .prim p := by
  induction vs with
  | nil => simp [allLits?] at h
  | cons v vs ih =>
    cases v with
    | prim p =>
      simp only [allLits?, Value.asLit?] at h
      cases hr : allLits? vs with
      | none => obtain ⟨w, hw, hp⟩ := ih hr; exact ⟨w, List.mem_cons_of_mem _ hw, hp⟩
      | some qs => simp [hr] at h
    | set s => exact ⟨.set s, List.mem_cons_self, by intro p h; cases h⟩
    | record r => exact ⟨.record r, List.mem_cons_self, by intro p h; cases h⟩
    | ext x => exact ⟨.ext x, List.mem_cons_self, by intro p h; cases h⟩

theorem elem_prims (p : Prim) (ps : List Prim) : Value.elem (.prim p) (ps.map Value.prim) = ps.contains p := by
  induction ps with
  | nil => simp [Value.elem]
  | cons q qs ih =>
    simp [Value.elem, Value.beq_prim, ih]
    cases hpq : decide (p = q) <;> simp_all

theorem elem_nonprim_prims (v : Value) (h : ∀ q, v ≠ .prim q) (ps : List Prim) :
    Value.elem v (ps.map Value.prim) = false := by
  induction ps with
  | nil => simp [Value.elem]
  | cons q qs ih =>
    have : Value.beq v (.prim q) = false := Value.beq_prim_nonprim q v h
    simp [Value.elem, this, ih]

theorem subset_prims (l1 l2 : List Prim) :
    Value.subset (l1.map Value.prim) (l2.map Value.prim) = l1.all (fun p => l2.contains p) := by
  induction l1 with
  | nil => simp [Value.subset]
  | cons p ps ih => simp [Value.subset, elem_prims, ih]

theorem contains_fast_slow (s : SetRepr) (h : s.FastRepr) (v : Value) :
    s.contains v = Value.elem v s.authoritative := by
  unfold SetRepr.FastRepr at h
  unfold SetRepr.contains
  cases hf : s.fast with
  | none => simp
  | some ls =>
    have ha := allLits?_some (h ▸ hf)
    cases v with
    | prim p => simp [ha, elem_prims]
    | set x => simp only; rw [ha, elem_nonprim_prims]; intro q hq; cases hq
    | record x => simp only; rw [ha, elem_nonprim_prims]; intro q hq; cases hq
    | ext x => simp only; rw [ha, elem_nonprim_prims]; intro q hq; cases hq

theorem isSubset_fast_slow (s o : SetRepr) (hs : s.FastRepr) (ho : o.FastRepr) :
    s.isSubset o = Value.subset s.authoritative o.authoritative := by
  unfold SetRepr.FastRepr at hs ho
  unfold SetRepr.isSubset
  cases hf : s.fast with
  | some l1 =>
    cases hg : o.fast with
    | some l2 =>
      have h1 := allLits?_some (hs ▸ hf); have h2 := allLits?_some (ho ▸ hg)
      simp only [h1, h2, subset_prims]
    | none => simp
  | none =>
    cases hg : o.fast with
    | none => simp
    | some l2 =>
      -- s has a non-literal element, o is all literals: the subset test is false
      have h2 := allLits?_some (ho ▸ hg)
      obtain ⟨v, hv, hnp⟩ := allLits?_none (hs ▸ hf)
      simp only
      symm
      cases hsub : Value.subset s.authoritative o.authoritative with
      | false => rfl
      | true =>
        have := (Value.subset_iff _ _).mp hsub v hv
        rw [h2, elem_nonprim_prims v hnp] at this
        cases this

theorem isDisjoint_fast_slow (s o : SetRepr) (hs : s.FastRepr) (ho : o.FastRepr) :
    s.isDisjoint o = !(s.authoritative.any (fun v => Value.elem v o.authoritative)) := by
  unfold SetRepr.FastRepr at hs ho
  unfold SetRepr.isDisjoint
  cases hf : s.fast with
  | some l1 =>
    cases hg : o.fast with
    | some l2 =>
      have h1 := allLits?_some (hs ▸ hf); have h2 := allLits?_some (ho ▸ hg)
      simp only [h1, h2, List.any_map, Function.comp_def, elem_prims]
    | none => simp
  | none => simp

theorem eq_fast_slow (s o : SetRepr) (hs : s.FastRepr) (ho : o.FastRepr) :
    s.eq o = Value.beq (.set s.authoritative) (.set o.authoritative) := by
  have h1 := isSubset_fast_slow s o hs ho
  have h2 := isSubset_fast_slow o s ho hs
  rw [Value.beq, ← h1, ← h2]
  unfold SetRepr.eq SetRepr.isSubset
  cases hf : s.fast <;> cases hg : o.fast <;> simp

theorem make_fastRepr (vs : List Value) : (SetRepr.make vs).FastRepr := rfl

end Cedar
