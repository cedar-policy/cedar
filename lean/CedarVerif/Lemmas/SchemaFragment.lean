import CedarVerif.Lemmas.SchemaActionDecl
/-
From declarations to whole fragments (`Cedar/SchemaDecl2.lean`): a printed declaration of any kind is read back whatever follows
(`GoodDecl`); the two loops over declarations and over items, namespaces, and the items a printed fragment denotes (`itemsOf`).
-/
namespace Cedar.SchemaSyntax

theorem parseCommon_print (name : String) (t : TyJson) (hn : validId name = true) (hr : name ≠ "__cedar")
    (hk : reservedCommonNames.contains name = false) (hw : WFJ t) (fuel : Nat) (hf : (printCommonJ name t).length ≤ fuel) (rest : List Tok) :
    parseCommon fuel (printCommonJ name t ++ rest) = some ((name, toCedar t), rest) := by
  have hf' : sizeC (toCedar t) ≤ fuel := by
    have := sizeC_le_length (toCedar t)
    simp only [printCommonJ, printTy_eq_printC, List.length_append, List.length_cons] at hf
    omega
  have := parseC_print (toCedar t) (wfc_toCedar t hw) fuel (tSemi :: rest) hf' trivial
  simp only [tSemi] at this
  simp only [printCommonJ, List.cons_append, List.append_assoc, List.nil_append, parseCommon, tEq, tSemi, printTy_eq_printC, this]
  have hk' : ¬ name ∈ reservedCommonNames := by simpa using hk
  simp [hn, hr, hk']

def GoodDecl (P : List Tok) (D : DeclC) : Prop :=
  ∀ rest, isDeclStart (P ++ rest) = true ∧ parseDecl (P ++ rest) = some (D, rest)

theorem GoodDecl.length_pos {P : List Tok} {D : DeclC} (h : GoodDecl P D) : 1 ≤ P.length := by
  have := (h []).1
  cases P with
  | nil => cases this
  | cons a b => exact Nat.succ_le_succ (Nat.zero_le _)

theorem goodDecl_action (name : String) (a : ActionJ) (hw : WFAct a) :
    GoodDecl (printActionJ name a) (.action (a.toDecl name)) := by
  intro rest
  have h := parseAction_print name a hw ((printActionJ name a ++ rest).length + 1)
    (by simp only [List.length_append]; omega) rest
  simp only [printActionJ, List.cons_append] at h ⊢
  simp only [isDeclStart, parseDecl, h, and_self]

theorem goodDecl_common (name : String) (t : TyJson) (hn : validId name = true) (hr : name ≠ "__cedar")
    (hk : reservedCommonNames.contains name = false) (hw : WFJ t) :
    GoodDecl (printCommonJ name t) (.common name (toCedar t)) := by
  intro rest
  have h := parseCommon_print name t hn hr hk hw ((printCommonJ name t ++ rest).length + 1)
    (by simp only [List.length_append]; omega) rest
  simp only [printCommonJ, List.cons_append] at h ⊢
  simp only [isDeclStart, parseDecl, h, and_self]

def WFEntJ (name : String) : EntityKindJ → Prop
  | .standard e => validId name = true ∧ name ≠ "__cedar" ∧ (∀ q ∈ e.memberOf, ∀ c ∈ q.comps, validId c = true) ∧
      WFJ (.record e.shape) ∧ (∀ t, e.tags = some t → WFJ t)
  | .enum cs => validId name = true ∧ name ≠ "__cedar" ∧ cs ≠ []

def entDeclOf (name : String) : EntityKindJ → EntDeclC
  | .standard e => .standard (e.toDecl name)
  | .enum cs => .enum [name] cs

theorem wfd_toDecl (name : String) (e : EntityTypeJ) (h : WFEntJ name (.standard e)) : WFD (e.toDecl name) := by
  obtain ⟨hn, hr, hm, hws, hwt⟩ := h
  refine ⟨by simp [EntityTypeJ.toDecl], ?_, hm, ?_, ?_⟩
  · intro n hn'; simp [EntityTypeJ.toDecl] at hn'; subst hn'; exact ⟨hn, hr⟩
  · have := wfc_toCedar (.record e.shape) hws
    simpa [toCedar, WFC, EntityTypeJ.toDecl] using this
  · intro t ht
    simp only [EntityTypeJ.toDecl, Option.map_eq_some_iff] at ht
    obtain ⟨tj, htj, rfl⟩ := ht
    exact wfc_toCedar tj (hwt tj htj)

theorem goodDecl_entity (name : String) (k : EntityKindJ) (hw : WFEntJ name k) :
    GoodDecl (printEntityKindJ name k) (.ent (entDeclOf name k)) := by
  intro rest
  cases k with
  | standard e =>
    have h := parseEntityAny_standard (e.toDecl name) (wfd_toDecl name e hw) ((printEntity (e.toDecl name) ++ rest).length + 1)
      (by have := declFuel_le_length (e.toDecl name); simp only [List.length_append]; omega) rest
    simp only [printEntityKindJ, printEntity, List.cons_append] at h ⊢
    simp only [isDeclStart, parseDecl, h, entDeclOf, and_self]
  | enum cs =>
    have h := parseEntityAny_enum name cs ((printEnumJ name cs ++ rest).length + 1) rest hw.1 hw.2.1 hw.2.2
    simp only [printEntityKindJ, printEnumJ, List.cons_append] at h ⊢
    simp only [isDeclStart, parseDecl, h, entDeclOf, and_self]

/-- declarations as (printed tokens, denoted declaration): what the loops over declarations read -/
def printPairs : List (List Tok × DeclC) → List Tok
  | [] => []
  | (P, _) :: l => P ++ printPairs l

theorem printPairs_append (a b : List (List Tok × DeclC)) : printPairs (a ++ b) = printPairs a ++ printPairs b := by
  induction a with
  | nil => simp [printPairs]
  | cons x a ih => obtain ⟨P, D⟩ := x; simp [printPairs, ih]

theorem parseDeclList_pairs (L : List (List Tok × DeclC)) (fuel : Nat) (rest : List Tok)
    (hg : ∀ x ∈ L, GoodDecl x.1 x.2) (hr : isDeclStart rest = false) (hf : L.length < fuel) :
    parseDeclList fuel (printPairs L ++ rest) = some (L.map (·.2), rest) := by
  induction L generalizing fuel with
  | nil =>
    cases fuel with
    | zero => exact absurd hf (Nat.lt_irrefl 0)
    | succ f => simp [printPairs, parseDeclList, hr]
  | cons x L ih =>
    cases fuel with
    | zero => exact absurd hf (Nat.not_lt_zero _)
    | succ f =>
      obtain ⟨hs, hp⟩ := hg x (List.mem_cons_self ..) (printPairs L ++ rest)
      have ih' := ih f (fun y hy => hg y (List.mem_cons_of_mem _ hy)) (Nat.lt_of_succ_lt_succ hf)
      simp only [printPairs, List.append_assoc]
      simp only [parseDeclList, hs, if_true, hp, ih', List.map_cons]

theorem isDeclStart_id (toks : List Tok) (h : isDeclStart toks = true) : ∃ k tl, toks = .id k :: tl ∧ k ≠ "namespace" := by
  unfold isDeclStart at h
  split at h
  · exact ⟨_, _, rfl, by decide⟩
  · exact ⟨_, _, rfl, by decide⟩
  · exact ⟨_, _, rfl, by decide⟩
  · cases h

theorem parseItems_declStart (f : Nat) (toks : List Tok) (h : isDeclStart toks = true) :
    parseItems (f + 1) toks = (match parseDecl toks with
      | some (d, r) =>
        (match parseItems f r with
          | some its => some (.decl d :: its)
          | none => none)
      | none => none) := by
  obtain ⟨k, tl, rfl, hk⟩ := isDeclStart_id toks h
  rw [parseItems]
  · rfl
  · intro heq; simp at heq
  · intro s r heq
    simp only [List.cons.injEq, Tok.id.injEq] at heq
    exact hk heq.1

theorem parseItems_pairs (L : List (List Tok × DeclC)) (fuel : Nat) (rest : List Tok) (its : List ItemC)
    (hg : ∀ x ∈ L, GoodDecl x.1 x.2) (h : ∀ f', fuel ≤ f' → parseItems f' rest = some its) (f' : Nat)
    (hf' : fuel + L.length ≤ f') :
    parseItems f' (printPairs L ++ rest) = some (L.map (fun x => .decl x.2) ++ its) := by
  induction L generalizing f' with
  | nil => exact h f' hf'
  | cons x L ih =>
    cases f' with
    | zero => exact absurd hf' (Nat.not_succ_le_zero _)
    | succ g =>
      obtain ⟨hs, hp⟩ := hg x (List.mem_cons_self ..) (printPairs L ++ rest)
      have ih' := ih (fun y hy => hg y (List.mem_cons_of_mem _ hy)) g (Nat.le_of_succ_le_succ hf')
      simp only [printPairs, List.append_assoc]
      rw [parseItems_declStart _ _ hs, hp]
      simp only [ih', List.map_cons, List.cons_append]

def pairsOfCommons (l : List (String × TyJson)) : List (List Tok × DeclC) :=
  l.map fun x => (printCommonJ x.1 x.2, .common x.1 (toCedar x.2))
def pairsOfEntities (l : List (String × EntityKindJ)) : List (List Tok × DeclC) :=
  l.map fun x => (printEntityKindJ x.1 x.2, .ent (entDeclOf x.1 x.2))
def pairsOfActions (l : List (String × ActionJ)) : List (List Tok × DeclC) :=
  l.map fun x => (printActionJ x.1 x.2, .action (x.2.toDecl x.1))
def pairsOfNs (d : NamespaceJ) : List (List Tok × DeclC) :=
  pairsOfCommons d.commons ++ (pairsOfEntities d.entities ++ pairsOfActions d.actions)

/-- the Cedar declarations the printed namespace body denotes -/
def declsOfNs (d : NamespaceJ) : List DeclC := (pairsOfNs d).map (·.2)

/-- a printer that concatenates the printed entries is `printPairs` of the entries -/
theorem printPairs_map {α : Type} (f : α → List Tok × DeclC) (pr : List α → List Tok) (h0 : pr [] = [])
    (hc : ∀ x l, pr (x :: l) = (f x).1 ++ pr l) (l : List α) : printPairs (l.map f) = pr l := by
  induction l with
  | nil => exact h0.symm
  | cons x l ih => rw [List.map_cons, hc, ← ih]; rfl

theorem printPairs_ns (d : NamespaceJ) : printPairs (pairsOfNs d) = printNsJ d := by
  simp only [pairsOfNs, printPairs_append, printNsJ, pairsOfCommons, pairsOfEntities, pairsOfActions]
  rw [printPairs_map _ printCommonsJ rfl (fun _ _ => rfl), printPairs_map _ printEntitiesJ rfl (fun _ _ => rfl),
    printPairs_map _ printActionsJ rfl (fun _ _ => rfl)]

/-- JSON-level well-formedness of a namespace: declared names are identifiers the grammar accepts (not `__cedar`, common-type names
not reserved), every path component too, enum choice lists non-empty, contexts are records or names -/
def WFNs (d : NamespaceJ) : Prop :=
  (∀ x ∈ d.commons, validId x.1 = true ∧ x.1 ≠ "__cedar" ∧ reservedCommonNames.contains x.1 = false ∧ WFJ x.2) ∧
  (∀ x ∈ d.entities, WFEntJ x.1 x.2) ∧ (∀ x ∈ d.actions, WFAct x.2)

theorem good_pairsOfNs (d : NamespaceJ) (h : WFNs d) : ∀ x ∈ pairsOfNs d, GoodDecl x.1 x.2 := by
  intro x hx
  simp only [pairsOfNs, List.mem_append, pairsOfCommons, pairsOfEntities, pairsOfActions, List.mem_map] at hx
  rcases hx with ⟨y, hy, rfl⟩ | ⟨y, hy, rfl⟩ | ⟨y, hy, rfl⟩
  · obtain ⟨a, b, c, e⟩ := h.1 y hy
    exact goodDecl_common _ _ a b c e
  · exact goodDecl_entity _ _ (h.2.1 y hy)
  · exact goodDecl_action _ _ (h.2.2 y hy)

def nsCount (d : NamespaceJ) : Nat := d.commons.length + d.entities.length + d.actions.length

theorem pairsOfNs_length (d : NamespaceJ) : (pairsOfNs d).length = nsCount d := by
  simp [pairsOfNs, nsCount, pairsOfCommons, pairsOfEntities, pairsOfActions]; omega

def WFNamed (l : List (QName × NamespaceJ)) : Prop :=
  ∀ x ∈ l, (∀ c ∈ x.1.comps, validId c = true) ∧ x.1.isReserved = false ∧ WFNs x.2

theorem printPairs_length (L : List (List Tok × DeclC)) (hg : ∀ x ∈ L, 1 ≤ x.1.length) : L.length ≤ (printPairs L).length := by
  induction L with
  | nil => exact Nat.zero_le _
  | cons x L ih =>
    have ih := ih (fun y hy => hg y (List.mem_cons_of_mem _ hy))
    obtain ⟨P, D⟩ := x
    have hp : 1 ≤ P.length := hg (P, D) (List.mem_cons_self ..)
    simp only [printPairs, List.length_cons, List.length_append]
    omega

theorem parseItems_named (l : List (QName × NamespaceJ)) (hw : WFNamed l) (f' : Nat) (hf : (printNamedJ l).length < f') :
    parseItems f' (printNamedJ l) = some (l.map fun x => .ns x.1 (declsOfNs x.2)) := by
  induction l generalizing f' with
  | nil =>
    cases f' with
    | zero => exact absurd hf (Nat.not_succ_le_zero _)
    | succ g => simp [printNamedJ, parseItems]
  | cons x l ih =>
    obtain ⟨q, d⟩ := x
    cases f' with
    | zero => exact absurd hf (Nat.not_lt_zero _)
    | succ g =>
      obtain ⟨hq, hres, hd⟩ := hw (q, d) (List.mem_cons_self ..)
      -- one unit of fuel per declaration of the block and per block: all bounded by the tokens printed
      have hb := printPairs_length (pairsOfNs d) (fun x hx => (good_pairsOfNs d hd x hx).length_pos)
      have hn := printName_length q
      rw [printPairs_ns] at hb
      simp only [printNamedJ, List.length_cons, List.length_append] at hf
      have ih' := ih (fun x hx => hw x (List.mem_cons_of_mem _ hx)) g (by omega)
      have hdl := parseDeclList_pairs (pairsOfNs d) g (.rb :: printNamedJ l) (good_pairsOfNs d hd) rfl (by omega)
      rw [printPairs_ns] at hdl
      obtain ⟨s, tl, h1, h2⟩ := parsePath_print q (.lb :: (printNsJ d ++ .rb :: printNamedJ l)) hq trivial
      simp only [printNamedJ]
      rw [h1]
      simp only [parseItems, h2, hdl, hres, ih', declsOfNs, List.map_cons]
      simp

/-- the items the printed fragment denotes -/
def itemsOf (f : FragmentJ) : List ItemC :=
  (match f.empty with
    | some d => (pairsOfNs d).map (fun x => .decl x.2)
    | none => []) ++ f.named.map fun x => .ns x.1 (declsOfNs x.2)

def WFFrag (f : FragmentJ) : Prop := (∀ d, f.empty = some d → WFNs d) ∧ WFNamed f.named

theorem parseItems_fragment (f : FragmentJ) (hw : WFFrag f) :
    parseItems ((printFragmentJ f).length + 1) (printFragmentJ f) = some (itemsOf f) := by
  obtain ⟨e, named⟩ := f
  obtain ⟨hwe, hwn⟩ := hw
  simp only at hwe hwn
  have hn := parseItems_named named hwn
  cases e with
  | none =>
    simp only [printFragmentJ, itemsOf, List.nil_append]
    exact hn _ (Nat.lt_succ_self _)
  | some d =>
    have hg := good_pairsOfNs d (hwe d rfl)
    have h := parseItems_pairs (pairsOfNs d) ((printNamedJ named).length + 1) (printNamedJ named) _ hg hn
    have hl := printPairs_length (pairsOfNs d) (fun x hx => (hg x hx).length_pos)
    rw [printPairs_ns] at h hl
    simp only [printFragmentJ, itemsOf]
    exact h _ (by simp only [List.length_append]; omega)

end Cedar.SchemaSyntax
