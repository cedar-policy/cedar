import CedarVerif.Cedar.Pattern
/-
Both mirrors of `Pattern::wildcard_match`'s loop compute the declarative matcher `M`, for all patterns and texts: the
suffix form `wm` (`wm_correct`), and the index form `wmIdx`, which moreover never indexes out of bounds (`wmIdx_eq_M'`).
-/
namespace Cedar

theorem M_star_nil (ps : Pattern) : M (.star :: ps) [] = M ps [] := by simp [M]
theorem M_star_cons (ps : Pattern) (c : Char) (cs : List Char) :
    M (.star :: ps) (c :: cs) = (M ps (c :: cs) || M (.star :: ps) cs) := by simp [M]
theorem M_char_cons (p c : Char) (ps : Pattern) (cs : List Char) :
    M (.char p :: ps) (c :: cs) = (p == c && M ps cs) := by simp [M]
theorem M_nil_cons (c : Char) (cs : List Char) : M [] (c :: cs) = false := by simp [M]
theorem M_char_nil (p : Char) (ps : Pattern) : M (.char p :: ps) [] = false := by simp [M]

theorem M_star_weaken (ps : Pattern) (cs : List Char) : M ps cs = true → M (.star :: ps) cs = true := by
  intro h
  cases cs with
  | nil => simpa [M_star_nil] using h
  | cons c cs => simp [M_star_cons, h]

theorem M_star_left (ps : Pattern) (xs cs : List Char) :
    M (.star :: ps) cs = true → M (.star :: ps) (xs ++ cs) = true := by
  intro h
  induction xs with
  | nil => simpa using h
  | cons x xs ih => simp [M_star_cons, ih]

theorem M_empty_text (pj : Pattern) : M pj [] = (skipStars pj).isEmpty := by
  induction pj with
  | nil => simp [M, skipStars]
  | cons e ps ih =>
    cases e with
    | star => simp [M_star_nil, skipStars, ih]
    | char p => simp [M_char_nil, skipStars]

theorem M_lits (cs : List Char) (pj : Pattern) (ti : List Char) :
    M (cs.map PatElem.char ++ pj) (cs ++ ti) = M pj ti := by
  induction cs with
  | nil => simp
  | cons c cs ih => simp [M_char_cons, ih]

theorem M_star_split : ∀ (q : Pattern) (u : List Char), M (.star :: q) u = true →
    ∃ pre w, u = pre ++ w ∧ M q w = true := by
  intro q u
  induction u with
  | nil => intro h; exact ⟨[], [], rfl, by simpa [M_star_nil] using h⟩
  | cons c cs ih =>
    intro h
    rw [M_star_cons] at h
    simp only [Bool.or_eq_true] at h
    cases h with
    | inl h => exact ⟨[], c :: cs, rfl, h⟩
    | inr h =>
      obtain ⟨pre, w, hu, hw⟩ := ih h
      exact ⟨c :: pre, w, by simp [hu], hw⟩

theorem M_lits_split : ∀ (cs : List Char) (r : Pattern) (w : List Char),
    M (cs.map PatElem.char ++ r) w = true → ∃ w', w = cs ++ w' ∧ M r w' = true := by
  intro cs
  induction cs with
  | nil => intro r w h; exact ⟨w, rfl, by simpa using h⟩
  | cons c cs ih =>
    intro r w h
    cases w with
    | nil => simp [M_char_nil] at h
    | cons d w =>
      simp only [List.map_cons, List.cons_append, M_char_cons, Bool.and_eq_true, beq_iff_eq] at h
      obtain ⟨w', hw, hm⟩ := ih r w h.2
      exact ⟨w', by simp [h.1, hw], hm⟩

/-- greedy commit: once the literal segment after a `*` has matched somewhere and the next `*` is reached, the earlier `*`
    need never be revisited (why the loop keeps a single backtracking point) -/
theorem M_star_commit (cs : List Char) (pj' : Pattern) (ti : List Char) :
    M (.star :: (cs.map PatElem.char ++ .star :: pj')) (cs ++ ti) = M (.star :: pj') ti := by
  apply Bool.eq_iff_iff.mpr
  constructor
  · intro h
    obtain ⟨pre, w, hu, hw⟩ := M_star_split _ _ h
    obtain ⟨w', hw', hm⟩ := M_lits_split _ _ _ hw
    subst hw'
    have : (pre ++ cs) ++ w' = cs ++ ti := by simp [hu]
    rcases List.append_eq_append_iff.mp this with ⟨a', h1, h2⟩ | ⟨c', _, h2⟩
    · have hl := congrArg List.length h1
      simp at hl
      have : a' = [] := by
        apply List.eq_nil_of_length_eq_zero; omega
      subst this
      simp at h2; subst h2; exact hm
    · subst h2; exact M_star_left _ _ _ hm
  · intro h
    apply M_star_weaken
    rw [M_lits]; exact h

/-- at the end of the text: the `*` has nothing left to give, since the literals it is followed by need all of `cs` -/
theorem M_star_exhaust (cs : List Char) (pj : Pattern) : M (.star :: (cs.map PatElem.char ++ pj)) cs = M pj [] := by
  apply Bool.eq_iff_iff.mpr
  constructor
  · intro h
    obtain ⟨pre, w, hu, hw⟩ := M_star_split _ _ h
    obtain ⟨w', rfl, hm⟩ := M_lits_split _ _ _ hw
    have hl := congrArg List.length hu
    simp only [List.length_append] at hl
    obtain rfl : w' = [] := List.eq_nil_of_length_eq_zero (by omega)
    exact hm
  · intro h
    apply M_star_weaken
    have := M_lits cs pj []
    rw [List.append_nil] at this
    rw [this]; exact h

/-- loop invariant. `some (ps, tt)` is the backtracking point (pattern after the last `*`, text where that `*` began to match);
    since then the loop has consumed the same literals `cs` from text and pattern. -/
def LInv (P : Pattern) (T : List Char) (ti : List Char) (pj : Pattern) : Option (Pattern × List Char) → Prop
  | none => M P T = M pj ti
  | some (ps, tt) => M P T = M (.star :: ps) tt ∧ ∃ cs : List Char, tt = cs ++ ti ∧ ps = cs.map PatElem.char ++ pj

/-- drops at every iteration of `loopS`; initially below `wm`'s fuel `(|T|+1)(|P|+1)+1`.
    Text still open to the last `*` (`tt`; all of `ti` before any `*`) times one more than the pattern after that `*`, plus the
    pattern left in this attempt: a matched literal shortens `pj`; backtracking gives `tt` one character less, which pays
    `|ps| + 1` for resetting `pj` to `ps`; a new `*` starts on a smaller text and pattern (`pot_star_some`). -/
def pot (ti : List Char) (pj : Pattern) : Option (Pattern × List Char) → Nat
  | none => ti.length * (pj.length + 1) + pj.length
  | some (ps, tt) => tt.length * (ps.length + 1) + pj.length

theorem exit_nil (P : Pattern) (T : List Char) (pj : Pattern) (st : Option (Pattern × List Char))
    (hinv : LInv P T [] pj st) : M P T = (skipStars pj).isEmpty := by
  cases st with
  | none => simp only [LInv] at hinv; rw [hinv, M_empty_text]
  | some s =>
    obtain ⟨ps, tt⟩ := s
    obtain ⟨hM, cs, htt, hps⟩ := hinv
    simp only [List.append_nil] at htt
    subst htt; subst hps
    rw [hM, M_star_exhaust, M_empty_text]

theorem M_star_only (u : List Char) : M [.star] u = true := by
  induction u with
  | nil => simp [M]
  | cons c cs ih => simp [M_star_cons, ih]

theorem pot_star_some (a b x y : Nat) (h1 : a ≤ b) (h2 : x + 1 ≤ y) :
    a * (x + 1) + x < b * (y + 1) + x + 1 := by
  have : a * (x + 1) ≤ b * (y + 1) := Nat.mul_le_mul h1 (by omega)
  omega

abbrev SufSt := List Char × Pattern × Option (Pattern × List Char)

/-- the `*` last seen ends the pattern -/
def lastStar : Option (Pattern × List Char) → Bool
  | some ([], _) => true
  | _ => false

/-- fall back to the most recent `*`, letting it take one more char -/
def backS : Option (Pattern × List Char) → Except (Option Pattern) SufSt
  | some (ps, _ :: tt') => .ok (tt', ps, some (ps, tt'))
  | _ => .error none

def nextS : SufSt → Except (Option Pattern) SufSt
  | ([], pj, _) => .error (some pj)
  | (c :: ti', pj, st) =>
    if lastStar st then .error (some pj) else
    match pj with
    | .star :: pj' => .ok (c :: ti', pj', some (pj', c :: ti'))
    | .char p :: pj' => if p == c then .ok (ti', pj', st) else backS st
    | [] => backS st

theorem loopS_succ (f : Nat) (ti : List Char) (pj : Pattern) (st : Option (Pattern × List Char)) :
    loopS (f + 1) ti pj st =
      match nextS (ti, pj, st) with
      | .error r => r
      | .ok (ti', pj', st') => loopS f ti' pj' st' := by
  cases ti with
  | nil => rfl
  | cons c ti' =>
    rcases st with _ | ⟨_ | ⟨e, ps⟩, tt⟩
    · rcases pj with _ | ⟨p | _, pj'⟩
      · rfl
      · simp only [loopS, nextS, lastStar, Bool.false_eq_true, if_false]; split <;> rfl
      · rfl
    · rfl
    · rcases pj with _ | ⟨p | _, pj'⟩
      · cases tt <;> rfl
      · simp only [loopS, nextS, lastStar, Bool.false_eq_true, if_false]; split
        · rfl
        · cases tt <;> rfl
      · rfl

/-- what one iteration does to the invariant and the potential, and what an exit means -/
def WmStep (P : Pattern) (T : List Char) (n : Nat) : Except (Option Pattern) SufSt → Prop
  | .error none => M P T = false
  | .error (some pj') => M P T = (skipStars pj').isEmpty
  | .ok (ti', pj', st') => LInv P T ti' pj' st' ∧ pot ti' pj' st' < n

theorem backS_spec (P : Pattern) (T : List Char) (c : Char) (ti' : List Char) (pj : Pattern)
    (st : Option (Pattern × List Char)) (hinv : LInv P T (c :: ti') pj st) (hfail : M pj (c :: ti') = false) :
    WmStep P T (pot (c :: ti') pj st) (backS st) := by
  rcases st with _ | ⟨ps, tt⟩
  · simp only [LInv] at hinv
    exact hinv.trans hfail
  · obtain ⟨hM, cs, htt, hps⟩ := hinv
    cases tt with
    | nil => simp at htt
    | cons d tt' =>
      -- the `*` did not match with `d :: tt'` left to it, so it takes `d` too
      have hno : M ps (d :: tt') = false := by rw [htt, hps, M_lits]; exact hfail
      refine ⟨⟨by rw [hM, M_star_cons, hno]; rfl, [], by simp, by simp⟩, ?_⟩
      have hlen : pj.length ≤ ps.length := by rw [hps]; simp
      simp only [pot, List.length_cons]
      have := Nat.add_one_mul tt'.length (ps.length + 1)
      omega

theorem nextS_spec (P : Pattern) (T : List Char) (ti : List Char) (pj : Pattern) (st : Option (Pattern × List Char))
    (hinv : LInv P T ti pj st) : WmStep P T (pot ti pj st) (nextS (ti, pj, st)) := by
  cases ti with
  | nil => exact exit_nil P T pj st hinv
  | cons c ti' =>
    simp only [nextS]
    by_cases hl : lastStar st = true
    · -- a `*` at the very end of the pattern has been seen: the loop stops
      rw [if_pos hl]
      obtain ⟨tt, rfl⟩ : ∃ tt, st = some ([], tt) := by
        rcases st with _ | ⟨_ | _, tt⟩
        · cases hl
        · exact ⟨tt, rfl⟩
        · cases hl
      obtain ⟨hM, cs, _, hps⟩ := hinv
      obtain rfl : pj = [] :=
        List.eq_nil_of_length_eq_zero (by have := congrArg List.length hps; simp at this; omega)
      show M P T = (skipStars []).isEmpty
      rw [hM]; simp [M_star_only, skipStars]
    · rw [if_neg hl]
      cases pj with
      | nil => exact backS_spec P T c ti' [] st hinv (by simp [M])
      | cons e pj' =>
        cases e with
        | star =>
          -- it becomes the backtracking point; the earlier one is never needed again (`M_star_commit`)
          rcases st with _ | ⟨ps, tt⟩
          · simp only [LInv] at hinv
            refine ⟨⟨hinv, [], by simp, by simp⟩, ?_⟩
            simp only [pot, List.length_cons]
            have := Nat.mul_add_one (ti'.length + 1) (pj'.length + 1)
            omega
          · obtain ⟨hM, cs, htt, hps⟩ := hinv
            refine ⟨⟨by rw [hM, htt, hps, M_star_commit], [], by simp, by simp⟩, ?_⟩
            simp only [pot, List.length_cons]
            have h1 : ti'.length + 1 ≤ tt.length := by rw [htt]; simp
            have h2 : pj'.length + 1 ≤ ps.length := by rw [hps]; simp
            have := pot_star_some _ _ _ _ h1 h2
            omega
        | char p =>
          by_cases hpc : (p == c) = true
          · simp only [hpc, if_true]
            have hpc' : p = c := by simpa using hpc
            rcases st with _ | ⟨ps, tt⟩
            · simp only [LInv] at hinv
              refine ⟨by simp only [LInv]; rw [hinv, M_char_cons, hpc]; simp, ?_⟩
              simp only [pot, List.length_cons]
              have h1 := Nat.add_one_mul ti'.length (pj'.length + 1 + 1)
              have h2 := Nat.mul_add_one ti'.length (pj'.length + 1)
              omega
            · obtain ⟨hM, cs, htt, hps⟩ := hinv
              refine ⟨⟨hM, cs ++ [c], by simp [htt], by simp [hps, hpc']⟩, ?_⟩
              simp only [pot, List.length_cons]
              omega
          · simp only [hpc]
            exact backS_spec P T c ti' _ st hinv (by rw [M_char_cons]; simp [hpc])

theorem loopS_correct (P : Pattern) (T : List Char) :
    ∀ (f : Nat) (ti : List Char) (pj : Pattern) (st : Option (Pattern × List Char)),
      LInv P T ti pj st → pot ti pj st < f →
      match loopS f ti pj st with
      | none => M P T = false
      | some pj' => M P T = (skipStars pj').isEmpty
  | 0, _, _, _, _, hf => absurd hf (Nat.not_lt_zero _)
  | f + 1, ti, pj, st, hinv, hf => by
    have h := nextS_spec P T ti pj st hinv
    rw [loopS_succ]
    rcases hn : nextS (ti, pj, st) with (_ | pj') | ⟨ti', pj', st'⟩ <;> rw [hn] at h
    · exact h
    · exact h
    · exact loopS_correct P T f ti' pj' st' h.1 (by have := h.2; omega)

theorem wm_correct (P : Pattern) (T : List Char) : wm P T = M P T := by
  unfold wm
  have h := loopS_correct P T ((T.length + 1) * (P.length + 1) + 1) T P none (by simp [LInv])
    (by simp only [pot]
        have := Nat.add_one_mul T.length (P.length + 1)
        omega)
  cases hl : loopS ((T.length + 1) * (P.length + 1) + 1) T P none with
  | none => rw [hl] at h; simp [h]
  | some pj => rw [hl] at h; simp [h]

#print axioms wm_correct

/- The index loop runs in lockstep with the suffix form `loopS`, whose invariant and potential (`nextS_spec`) it inherits, so it
never reaches `pattern[j]` / `text[i]` out of bounds, never runs out of fuel, and `wmIdx p t = .result (M p t)`. -/

/-- the backtracking state of the suffix form that an index state stands for -/
def relSt (P : Pattern) (T : List Char) (s : WmSt) : Option (Pattern × List Char) :=
  if s.hasStar then some (P.drop (s.starIdx + 1), T.drop s.tmpIdx) else none

/-- `j` is in range, and so is the most recent `*`, whose text position is not ahead of `i`
(this is what makes the backtracking step `i = tmp_idx + 1` a step forward in the text) -/
def SimInv (P : Pattern) (s : WmSt) : Prop :=
  s.j ≤ P.length ∧ (s.hasStar = true → s.starIdx < P.length ∧ s.tmpIdx ≤ s.i)

/-- the index loop against the suffix loop on the same fuel: same exit, and no panic, no exhausted fuel -/
def simSpec (P : Pattern) : Except IdxOutcome WmSt → Option Pattern → Prop
  | .ok s', l => s'.j ≤ P.length ∧ l = some (P.drop s'.j)
  | .error (.result b), l => b = false ∧ l = none
  | .error _, _ => False

theorem lastStar_relSt (P : Pattern) (T : List Char) (s : WmSt) (hinv : SimInv P s)
    (hst : s.hasStar = false ∨ ¬ s.starIdx = P.length - 1) : lastStar (relSt P T s) = false := by
  unfold relSt
  by_cases hs : s.hasStar = true
  · rw [if_pos hs]
    have h1 := (hinv.2 hs).1
    have h2 : ¬ s.starIdx = P.length - 1 := hst.resolve_left (by rw [hs]; exact fun h => nomatch h)
    have hP : P.drop (s.starIdx + 1) = P[s.starIdx + 1] :: P.drop (s.starIdx + 1 + 1) :=
      List.drop_eq_getElem_cons (by omega)
    rw [hP]; rfl
  · rw [if_neg hs]; rfl

theorem wmIdxLoop_sim (P : Pattern) (T : List Char) :
    ∀ (fuel : Nat) (s : WmSt), SimInv P s → LInv P T (T.drop s.i) (P.drop s.j) (relSt P T s) →
      pot (T.drop s.i) (P.drop s.j) (relSt P T s) < fuel →
      simSpec P (wmIdxLoop P.toArray T.toArray fuel s) (loopS fuel (T.drop s.i) (P.drop s.j) (relSt P T s)) := by
  intro fuel
  induction fuel with
  | zero => intro s _ _ h; exact absurd h (Nat.not_lt_zero _)
  | succ fuel ih =>
    intro s hinv hL hpot
    have hpot := Nat.le_of_lt_succ hpot
    have hstep := nextS_spec P T _ _ _ hL
    generalize pot (T.drop s.i) (P.drop s.j) (relSt P T s) = n at hstep hpot
    unfold wmIdxLoop
    simp only [List.size_toArray]
    by_cases hc : (decide (s.i < T.length) && (!s.hasStar || s.starIdx != P.length - 1)) = true
    · rw [if_pos hc]
      simp only [Bool.and_eq_true, decide_eq_true_eq, Bool.or_eq_true, Bool.not_eq_true', bne_iff_ne, ne_eq] at hc
      obtain ⟨hi, hst⟩ := hc
      have hT : T.drop s.i = T[s.i] :: T.drop (s.i + 1) := List.drop_eq_getElem_cons hi
      have hnot := lastStar_relSt P T s hinv hst
      rw [loopS_succ]
      rw [hT] at hstep ⊢
      simp only [nextS, hnot, Bool.false_eq_true, if_false] at hstep ⊢
      -- every continuing branch: the step lemma gives invariant and potential of the next state
      have next : ∀ s' : WmSt, SimInv P s' →
          WmStep P T n (.ok (T.drop s'.i, P.drop s'.j, relSt P T s')) →
          simSpec P (wmIdxLoop P.toArray T.toArray fuel s') (loopS fuel (T.drop s'.i) (P.drop s'.j) (relSt P T s')) :=
        fun s' h' hs' => ih s' h' hs'.1 (Nat.lt_of_lt_of_le hs'.2 hpot)
      have back : s.hasStar = true → WmStep P T n (backS (relSt P T s)) →
          simSpec P (wmIdxLoop P.toArray T.toArray fuel { s with j := s.starIdx + 1, i := s.tmpIdx + 1, tmpIdx := s.tmpIdx + 1 })
            (match backS (relSt P T s) with
              | .error r => r
              | .ok (ti', pj', st') => loopS fuel ti' pj' st') := by
        intro hs hb
        obtain ⟨h1, h2⟩ := hinv.2 hs
        have hlt : s.tmpIdx < T.length := Nat.lt_of_le_of_lt h2 hi
        have hT2 : T.drop s.tmpIdx = T[s.tmpIdx] :: T.drop (s.tmpIdx + 1) := List.drop_eq_getElem_cons hlt
        have := next { s with j := s.starIdx + 1, i := s.tmpIdx + 1, tmpIdx := s.tmpIdx + 1 }
          ⟨h1, fun _ => ⟨h1, Nat.le_refl _⟩⟩
        simp only [relSt, hs, if_true, hT2, backS] at this hb ⊢
        exact this hb
      by_cases hj : s.j < P.length
      · rw [if_pos hj]
        have hP : P.drop s.j = P[s.j] :: P.drop (s.j + 1) := List.drop_eq_getElem_cons hj
        rw [hP] at hstep ⊢
        have e1 : P.toArray[s.j]? = some P[s.j] := by
          rw [List.getElem?_toArray]; exact List.getElem?_eq_getElem hj
        have e2 : T.toArray[s.i]? = some T[s.i] := by
          rw [List.getElem?_toArray]; exact List.getElem?_eq_getElem hi
        rw [e1, e2]
        simp only
        cases hpe : P[s.j] with
        | star =>
          rw [hpe] at hstep
          simp only at hstep
          simp only [PatElem.isStar, if_true]
          have := next { s with hasStar := true, starIdx := s.j, tmpIdx := s.i, j := s.j + 1 }
            ⟨hj, fun _ => ⟨hj, Nat.le_refl _⟩⟩
          simp only [relSt, if_true, hT] at this
          exact this hstep
        | char p =>
          rw [hpe] at hstep
          simp only [PatElem.isStar, Bool.false_eq_true, if_false, PatElem.matchChar] at hstep ⊢
          by_cases hm : (p == T[s.i]) = true
          · simp only [hm, if_true] at hstep ⊢
            have := next { s with i := s.i + 1, j := s.j + 1 }
              ⟨hj, fun hs => ⟨(hinv.2 hs).1, Nat.le_succ_of_le (hinv.2 hs).2⟩⟩
            simp only [relSt] at this hstep ⊢
            exact this hstep
          · have hm' : (p == T[s.i]) = false := by simpa using hm
            simp only [hm', Bool.false_eq_true, if_false] at hstep ⊢
            by_cases hs : s.hasStar = true
            · rw [if_pos hs]; exact back hs hstep
            · rw [if_neg hs]
              simp only [relSt, hs, Bool.false_eq_true, if_false, simSpec, backS, and_self]
      · rw [if_neg hj]
        have hP : P.drop s.j = [] := by rw [List.drop_eq_nil_iff]; omega
        rw [hP] at hstep ⊢
        simp only at hstep ⊢
        by_cases hs : s.hasStar = true
        · rw [if_pos hs]; exact back hs hstep
        · rw [if_neg hs]
          simp only [relSt, hs, Bool.false_eq_true, if_false, simSpec, backS, and_self]
    · rw [if_neg hc]
      simp only [simSpec]
      simp only [Bool.and_eq_true, decide_eq_true_eq, Bool.or_eq_true, Bool.not_eq_true', bne_iff_ne, ne_eq, not_and, not_or,
        Bool.not_eq_false, Decidable.not_not] at hc
      by_cases hi : s.i < T.length
      · obtain ⟨hs, hidx⟩ := hc hi
        have hT : T.drop s.i = T[s.i] :: T.drop (s.i + 1) := List.drop_eq_getElem_cons hi
        have h1 := (hinv.2 hs).1
        have : List.drop (s.starIdx + 1) P = [] := by rw [List.drop_eq_nil_iff]; omega
        rw [hT]
        simp only [relSt, hs, if_true, this, loopS]
        exact ⟨hinv.1, trivial⟩
      · have hT : T.drop s.i = [] := by rw [List.drop_eq_nil_iff]; omega
        rw [hT]
        simp only [loopS]
        exact ⟨hinv.1, trivial⟩

theorem wmIdxSkip_spec (P : Pattern) :
    ∀ (fuel j : Nat), P.length - j < fuel → j ≤ P.length →
      ∃ j', wmIdxSkip P.toArray fuel j = .ok j' ∧ ((j' == P.length) = (skipStars (P.drop j)).isEmpty) := by
  intro fuel
  induction fuel with
  | zero => intro j h; omega
  | succ fuel ih =>
    intro j h hle
    unfold wmIdxSkip
    simp only [List.size_toArray]
    by_cases hj : j < P.length
    · rw [if_pos hj]
      have e1 : P.toArray[j]? = some P[j] := by
        rw [List.getElem?_toArray]; exact List.getElem?_eq_getElem hj
      have hP : P.drop j = P[j] :: P.drop (j + 1) := List.drop_eq_getElem_cons hj
      rw [e1, hP]
      simp only
      cases hpe : P[j] with
      | star =>
        simp only [PatElem.isStar, if_true, skipStars]
        exact ih (j + 1) (by omega) (by omega)
      | char c =>
        simp only [PatElem.isStar, Bool.false_eq_true, if_false, skipStars]
        refine ⟨j, rfl, ?_⟩
        simp only [List.isEmpty_cons, beq_eq_false_iff_ne, ne_eq]
        omega
    · rw [if_neg hj]
      have hP : P.drop j = [] := by rw [List.drop_eq_nil_iff]; omega
      refine ⟨j, rfl, ?_⟩
      rw [hP]
      simp only [skipStars, List.isEmpty_nil, beq_iff_eq]
      omega

theorem wmIdx_eq_M' (P : Pattern) (T : List Char) : wmIdx P T = .result (M P T) := by
  rw [← wm_correct]
  unfold wmIdx
  by_cases he : P.isEmpty = true
  · rw [if_pos he]
    obtain rfl : P = [] := List.isEmpty_iff.mp he
    rw [wm_correct]
    cases T <;> simp [M]
  · rw [if_neg he]
    simp only [List.size_toArray]
    have hsim := wmIdxLoop_sim P T ((T.length + 1) * (P.length + 1) + 1) ⟨0, 0, 0, 0, false⟩
      ⟨Nat.zero_le _, fun h => nomatch h⟩ (by simp [LInv, relSt])
      (by simp only [relSt, pot, Bool.false_eq_true, if_false, List.drop_zero]
          have := Nat.add_one_mul T.length (P.length + 1)
          omega)
    simp only [List.drop_zero, relSt, Bool.false_eq_true, if_false] at hsim
    unfold wm
    cases hl : wmIdxLoop P.toArray T.toArray ((T.length + 1) * (P.length + 1) + 1) ⟨0, 0, 0, 0, false⟩ with
    | error o =>
      rw [hl] at hsim
      cases o with
      | result b =>
        simp only [simSpec] at hsim
        rw [hsim.2, hsim.1]
      | panic s => exact hsim.elim
      | fuel => exact hsim.elim
    | ok st =>
      rw [hl] at hsim
      simp only [simSpec] at hsim
      obtain ⟨hle, hloop⟩ := hsim
      rw [hloop]
      simp only
      obtain ⟨j', hj', hspec⟩ := wmIdxSkip_spec P (P.length + 1) st.j (by omega) hle
      rw [hj']
      simp only [hspec]

end Cedar
